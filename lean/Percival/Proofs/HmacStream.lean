import Percival.Model.Hmac
import Percival.Spec.Hmac
import Percival.Proofs.MDFinal
/-! `Model.Hmac` over a streaming hash that refines `Spec.MD.hash p` computes RFC 2104. -/
namespace Percival.Proofs.HmacStream
open Percival.Spec Percival.Model Percival.Model.Hash Percival.Proofs.MDStream
open Percival.Model.Hmac (HashFns)

structure HashOK (h : HashFns) (p : MD.Params) where
  rf : Refines h.alg p
  final : ∀ c msg, Inv rf c msg → h.final c = MD.hash p msg
  hlen : ∀ m, (MD.hash p m).length = h.hlen
  hlen_le : h.hlen ≤ 64

variable {h : HashFns} {p : MD.Params}

/-- `K₀` of RFC 2104 before zero-padding -/
def K0 (p : MD.Params) (K : Bytes) : Bytes := if K.length > Spec.Hmac.B then MD.hash p K else K

theorem K0_len (ok : HashOK h p) (K : Bytes) : (K0 p K).length ≤ 64 := by
  unfold K0 Spec.Hmac.B
  split
  · rw [ok.hlen]; exact ok.hlen_le
  · omega

/-- the C's `memset(pad, c, 64); for (i < Klen) pad[i] ^= K[i]` is `K₀ ⊕ c…c` -/
theorem xorKey_eq (K : Bytes) (c : UInt8) (hK : K.length ≤ 64) :
    Hmac.xorKey (List.replicate 64 c) K K.length = some (Spec.Hmac.xorPad K c) := by
  unfold Hmac.xorKey Spec.Hmac.xorPad Spec.Hmac.B
  simp only [List.length_replicate, hK, Nat.le_refl, and_self, if_true, List.take_length,
    List.take_replicate, List.drop_replicate, List.map_append, List.map_replicate]
  congr 2
  · rw [Nat.min_eq_left hK]
    apply List.ext_getElem
    · simp
    · intro i h1 h2
      simp only [List.getElem_zipWith, List.getElem_replicate, List.getElem_map]
      exact UInt8.xor_comm _ _
  · simp

structure HInv (ok : HashOK h p) (c : Hmac.Ctx h) (K m : Bytes) : Prop where
  inner : Inv ok.rf c.ictx (Spec.Hmac.xorPad (K0 p K) 0x36 ++ m)
  outer : Inv ok.rf c.octx (Spec.Hmac.xorPad (K0 p K) 0x5c)

theorem init_hinv (ok : HashOK h p) (K : Bytes) : ∃ c, Hmac.init h K = some c ∧ HInv ok c K [] := by
  unfold Hmac.init
  have hkey : (if K.length > 64 then (h.final (Hash.update h.alg (Hash.init h.alg) K), h.hlen) else (K, K.length))
      = (K0 p K, (K0 p K).length) := by
    unfold K0 Spec.Hmac.B
    split
    · have i := update_inv ok.rf (Hash.init h.alg) [] K (init_inv ok.rf)
      rw [ok.final _ _ i]; simp [ok.hlen]
    · rfl
  rw [hkey]
  simp only [xorKey_eq _ _ (K0_len ok K), Option.bind_eq_bind, Option.bind_some, Option.pure_def]
  refine ⟨_, rfl, ?_, ?_⟩
  · have := update_inv ok.rf (Hash.init h.alg) [] (Spec.Hmac.xorPad (K0 p K) 0x36) (init_inv ok.rf)
    simpa using this
  · have := update_inv ok.rf (Hash.init h.alg) [] (Spec.Hmac.xorPad (K0 p K) 0x5c) (init_inv ok.rf)
    simpa using this

theorem update_hinv (ok : HashOK h p) (c : Hmac.Ctx h) (K m s : Bytes) (hi : HInv ok c K m) :
    HInv ok (Hmac.update h c s) K (m ++ s) := by
  refine ⟨?_, hi.outer⟩
  have := update_inv ok.rf c.ictx _ s hi.inner
  rw [List.append_assoc] at this
  exact this

theorem foldl_hinv (ok : HashOK h p) (c : Hmac.Ctx h) (K m : Bytes) (chunks : List Bytes) (hi : HInv ok c K m) :
    HInv ok (chunks.foldl (Hmac.update h) c) K (m ++ chunks.flatten) := by
  induction chunks generalizing c m with
  | nil => simpa using hi
  | cons x xs ih =>
    simp only [List.foldl_cons, List.flatten_cons, ← List.append_assoc]
    exact ih _ _ (update_hinv ok c K m x hi)

theorem final_hinv (ok : HashOK h p) (c : Hmac.Ctx h) (K m : Bytes) (hi : HInv ok c K m) :
    Hmac.final h c = some (Spec.Hmac.hmac (MD.hash p) K m) := by
  unfold Hmac.final Spec.Hmac.hmac
  rw [ok.final _ _ hi.inner]
  simp only [ok.hlen, if_true]
  have := update_inv ok.rf c.octx _ (MD.hash p (Spec.Hmac.xorPad (K0 p K) 0x36 ++ m)) hi.outer
  rw [ok.final _ _ this]
  rfl

theorem hmac_stream_eq_spec (ok : HashOK h p) (K : Bytes) (chunks : List Bytes) :
    ∃ c, Hmac.init h K = some c ∧
      Hmac.final h (chunks.foldl (Hmac.update h) c) = some (Spec.Hmac.hmac (MD.hash p) K chunks.flatten) := by
  obtain ⟨c, hc, hi⟩ := init_hinv ok K
  refine ⟨c, hc, ?_⟩
  have := foldl_hinv ok c K [] chunks hi
  exact final_hinv ok _ _ _ (by simpa using this)

/-- `HMAC_*_Buf`: always `some` of the RFC's value -/
theorem hmac_buf_eq_spec (ok : HashOK h p) (K m : Bytes) :
    Hmac.buf h K m = some (Spec.Hmac.hmac (MD.hash p) K m) := by
  obtain ⟨c, hc, hf⟩ := hmac_stream_eq_spec ok K [m]
  simpa [Hmac.buf, hc] using hf

end Percival.Proofs.HmacStream
