import Percival.Model.NetIO
/-! Lemmas for C06: the request loops `runRead` / `runWrite` / `runAccept`.

Each loop is analysed through one lemma about a single system call (`runRead_cons`, `runWrite_cons`): the
callback runs with the right value, or the loop goes on from a state that satisfies the invariant again and
has a lighter queue.  Safety (`_spec`) and termination (`_fuel`) are inductions over that lemma. -/
namespace Percival.Proofs.NetIO
open Percival.Model.NetIO

theorem weight_lt_cons (a : Ans) (q : List Ans) : weight q < weight (a :: q) := by
  cases a <;> exact Nat.lt_add_of_pos_left (Nat.succ_pos _)

/-- what a pending read request satisfies: it still needs data, and it has room for it -/
structure ReadInv (s : ReadSt) : Prop where
  room : s.got.length < s.buflen
  need : s.got.length < s.minlen ∨ s.got = []
  minle : s.minlen ≤ s.buflen

theorem readInit_inv (bl ml : Nat) (h0 : 0 < bl) (hm : ml ≤ bl) : ReadInv (readInit bl ml) :=
  ⟨h0, Or.inr rfl, hm⟩

theorem ReadInv.setCalls {s : ReadSt} (h : ReadInv s) (c : List (Nat × Int)) : ReadInv { s with calls := c } :=
  ⟨h.room, h.need, h.minle⟩

/-- a callback value `n` with buffer `data`, the bytes `rest` staying queued, is right for a request with buffer
size `bl` and threshold `ml` whose bytes received so far, followed by those queued, were `str` -/
def ReadDone (bl ml : Nat) (str : List UInt8) (n : Int) (data rest : List UInt8) : Prop :=
  n = -1 ∨ n = 0 ∨
    (n = data.length ∧ ml ≤ data.length ∧ 1 ≤ data.length ∧ data.length ≤ bl ∧ data ++ rest = str)

/-- `spinRead` reports the buffer only for `n > 0` -/
theorem ReadDone.ite {bl ml : Nat} {str data rest : List UInt8} {n : Int} (h : ReadDone bl ml str n data rest) :
    ReadDone bl ml str n (if n > 0 then data else []) rest := by
  rcases h with h | h | h
  · exact .inl h
  · exact .inr (.inl h)
  · rw [if_pos (by omega)]; exact .inr (.inr h)

def ReadPost (bl ml : Nat) (str : List UInt8) : Out ReadSt → Prop
  | .done n s' q' => ReadDone bl ml str n s'.got (streamOf q')
  | .pending s' q' => q' = [] ∧ s'.buflen = bl ∧ s'.minlen = ml ∧ ReadInv s' ∧ s'.got = str
  | .fuel => True

theorem requeue (seg : List UInt8) (q q' : List Ans) (oplen k : Nat) (hk : min seg.length oplen = k)
    (hq : q' = if seg.length ≤ oplen then q else
      match seg.drop k with
      | [] => q
      | c :: cs => .data c cs :: q) :
    seg.take k ++ streamOf q' = seg ++ streamOf q ∧ weight q' + k ≤ seg.length + 1 + weight q := by
  have key : streamOf q' = seg.drop k ++ streamOf q ∧ weight q' ≤ (seg.drop k).length + 1 + weight q := by
    subst hq
    split
    · rw [List.drop_eq_nil_of_le (by omega)]
      exact ⟨rfl, Nat.le_add_left _ _⟩
    · split
      · next h => rw [h]; exact ⟨rfl, Nat.le_add_left _ _⟩
      · next c cs h => rw [h]; exact ⟨rfl, Nat.le_refl _⟩
  rw [key.1, ← List.append_assoc, List.take_append_drop]
  have := key.2
  rw [List.length_drop] at this
  exact ⟨rfl, by omega⟩

theorem runRead_cons (f : Nat) (s : ReadSt) (a : Ans) (q : List Ans) (hinv : ReadInv s) :
    (∃ n s' q', runRead (f + 1) s (a :: q) = .done n s' q' ∧
      ReadDone s.buflen s.minlen (s.got ++ streamOf (a :: q)) n s'.got (streamOf q')) ∨
    ∃ s' q', runRead (f + 1) s (a :: q) = runRead f s' q' ∧ ReadInv s' ∧ s'.buflen = s.buflen ∧
      s'.minlen = s.minlen ∧ s'.got ++ streamOf q' = s.got ++ streamOf (a :: q) ∧ weight q' < weight (a :: q) := by
  cases a with
  | data b bs =>
    obtain ⟨hroom, _, hmin⟩ := hinv
    generalize hk : min (b :: bs).length (s.buflen - s.got.length) = k
    have hk1 : 1 ≤ k := hk ▸ Nat.le_min.mpr ⟨Nat.succ_pos _, Nat.sub_pos_of_lt hroom⟩
    have hk2 : k ≤ (b :: bs).length := hk ▸ Nat.min_le_left ..
    have hk3 : s.got.length + k ≤ s.buflen := Nat.add_le_of_le_sub' (Nat.le_of_lt hroom) (hk ▸ Nat.min_le_right ..)
    have hlen : (s.got ++ (b :: bs).take k).length = s.got.length + k := by
      rw [List.length_append, List.length_take_of_le hk2]
    rw [runRead]
    simp only [hk]
    generalize hq1 : (if (b :: bs).length ≤ s.buflen - s.got.length then q else _) = q1
    obtain ⟨hstr, hw⟩ := requeue (b :: bs) q q1 _ k hk hq1.symm
    have hstr' : s.got ++ (b :: bs).take k ++ streamOf q1 = s.got ++ streamOf (.data b bs :: q) :=
      (List.append_assoc ..).trans (congrArg (s.got ++ ·) hstr)
    by_cases hlt : (s.got ++ (b :: bs).take k).length < s.minlen
    · rw [if_pos hlt]
      exact .inr ⟨_, q1, rfl, ⟨Nat.lt_of_lt_of_le hlt hmin, .inl hlt, hmin⟩, rfl, rfl, hstr',
        Nat.lt_of_lt_of_le (Nat.lt_add_of_pos_right hk1) hw⟩
    · rw [if_neg hlt]
      refine .inl ⟨_, _, q1, rfl, .inr (.inr ⟨rfl, Nat.le_of_not_lt hlt, ?_, ?_, hstr'⟩)⟩
      · rw [hlen]; exact Nat.le_trans hk1 (Nat.le_add_left ..)
      · rw [hlen]; exact hk3
  | again => exact .inr ⟨_, q, rfl, hinv.setCalls _, rfl, rfl, rfl, weight_lt_cons _ q⟩
  | room n => exact .inr ⟨_, q, rfl, hinv.setCalls _, rfl, rfl, rfl, weight_lt_cons _ q⟩
  | eof => exact .inl ⟨0, _, q, rfl, .inr (.inl rfl)⟩
  | err => exact .inl ⟨-1, _, q, rfl, .inl rfl⟩

theorem runRead_spec (f : Nat) (s : ReadSt) (q : List Ans) (hinv : ReadInv s) :
    ReadPost s.buflen s.minlen (s.got ++ streamOf q) (runRead f s q) := by
  induction f generalizing s q with
  | zero => trivial
  | succ f ih =>
    cases q with
    | nil => exact ⟨rfl, rfl, rfl, hinv, (List.append_nil _).symm⟩
    | cons a q =>
      rcases runRead_cons f s a q hinv with ⟨n, s', q', e, h⟩ | ⟨s', q', e, hinv', hb, hm, hs, _⟩
      · rw [e]; exact h
      · rw [e, ← hb, ← hm, ← hs]; exact ih s' q' hinv'

theorem runRead_fuel (f : Nat) (s : ReadSt) (q : List Ans) (hinv : ReadInv s) (hf : weight q < f) :
    runRead f s q ≠ .fuel := by
  induction f generalizing s q with
  | zero => omega
  | succ f ih =>
    cases q with
    | nil => nofun
    | cons a q =>
      rcases runRead_cons f s a q hinv with ⟨n, s', q', e, _⟩ | ⟨s', q', e, hinv', _, _, _, hw⟩
      · rw [e]; nofun
      · rw [e]; exact ih s' q' hinv' (by omega)

structure WriteInv (s : WriteSt) : Prop where
  pos : s.pos < s.buf.length
  sent : s.sent = s.buf.take s.pos
  need : s.pos < s.minlen ∨ s.pos = 0
  minle : s.minlen ≤ s.buf.length

theorem writeInit_inv (buf : List UInt8) (ml : Nat) (h0 : 0 < buf.length) (hm : ml ≤ buf.length) :
    WriteInv (writeInit buf ml) :=
  ⟨h0, rfl, Or.inr rfl, hm⟩

theorem WriteInv.setCalls {s : WriteSt} (h : WriteInv s) (c : List (Nat × Int)) : WriteInv { s with calls := c } :=
  ⟨h.pos, h.sent, h.need, h.minle⟩

/-- a callback value `n` is right for a write request with buffer `buf` and threshold `ml` when `sent`, the
first `pos` bytes of the buffer, went to the kernel -/
def WriteDone (buf : List UInt8) (ml : Nat) (n : Int) (sent : List UInt8) (pos : Nat) : Prop :=
  sent = buf.take pos ∧ pos ≤ buf.length ∧ (n = -1 ∨ (n = pos ∧ ml ≤ pos ∧ 1 ≤ pos))

def WritePost (buf : List UInt8) (ml : Nat) : Out WriteSt → Prop
  | .done n s' _ => WriteDone buf ml n s'.sent s'.pos
  | .pending s' q' => q' = [] ∧ s'.buf = buf ∧ s'.minlen = ml ∧ WriteInv s'
  | .fuel => True

theorem runWrite_cons (f : Nat) (s : WriteSt) (a : Ans) (q : List Ans) (hinv : WriteInv s) :
    (∃ n s', runWrite (f + 1) s (a :: q) = .done n s' q ∧ WriteDone s.buf s.minlen n s'.sent s'.pos) ∨
    ∃ s', runWrite (f + 1) s (a :: q) = runWrite f s' q ∧ WriteInv s' ∧ s'.buf = s.buf ∧
      s'.minlen = s.minlen := by
  cases a with
  | room n =>
    obtain ⟨hpos, hsent, _, hmin⟩ := hinv
    generalize hk : min (n + 1) (s.buf.length - s.pos) = k
    have hk1 : 1 ≤ k := hk ▸ Nat.le_min.mpr ⟨Nat.succ_pos n, Nat.sub_pos_of_lt hpos⟩
    have hk2 : s.pos + k ≤ s.buf.length := Nat.add_le_of_le_sub' (Nat.le_of_lt hpos) (hk ▸ Nat.min_le_right ..)
    have hsent' : s.sent ++ (s.buf.drop s.pos).take k = s.buf.take (s.pos + k) := by
      rw [hsent, List.take_add]
    rw [runWrite]
    simp only [hk]
    by_cases hlt : s.pos + k < s.minlen
    · rw [if_pos hlt]
      exact .inr ⟨_, rfl, ⟨Nat.lt_of_lt_of_le hlt hmin, hsent', .inl hlt, hmin⟩, rfl, rfl⟩
    · rw [if_neg hlt]
      exact .inl ⟨_, _, rfl, hsent', hk2, .inr ⟨rfl, Nat.le_of_not_lt hlt, Nat.le_trans hk1 (Nat.le_add_left ..)⟩⟩
  | again => exact .inr ⟨_, rfl, hinv.setCalls _, rfl, rfl⟩
  | data b bs => exact .inr ⟨_, rfl, hinv.setCalls _, rfl, rfl⟩
  | eof => exact .inr ⟨_, rfl, hinv.setCalls _, rfl, rfl⟩
  | err => exact .inl ⟨-1, _, rfl, hinv.sent, Nat.le_of_lt hinv.pos, .inl rfl⟩

theorem runWrite_spec (f : Nat) (s : WriteSt) (q : List Ans) (hinv : WriteInv s) :
    WritePost s.buf s.minlen (runWrite f s q) := by
  induction f generalizing s q with
  | zero => trivial
  | succ f ih =>
    cases q with
    | nil => exact ⟨rfl, rfl, rfl, hinv⟩
    | cons a q =>
      rcases runWrite_cons f s a q hinv with ⟨n, s', e, h⟩ | ⟨s', e, hinv', hb, hm⟩
      · rw [e]; exact h
      · rw [e, ← hb, ← hm]; exact ih s' q hinv'

theorem runWrite_fuel (f : Nat) (s : WriteSt) (q : List Ans) (hinv : WriteInv s) (hf : weight q < f) :
    runWrite f s q ≠ .fuel := by
  induction f generalizing s q with
  | zero => omega
  | succ f ih =>
    cases q with
    | nil => nofun
    | cons a q =>
      have := weight_lt_cons a q
      rcases runWrite_cons f s a q hinv with ⟨n, s', e, _⟩ | ⟨s', e, hinv', _⟩
      · rw [e]; nofun
      · rw [e]; exact ih s' q hinv' (by omega)

theorem runAccept_retry (n : Nat) (q : List AccAns) :
    runAccept (List.replicate n .retry ++ q) = runAccept q := by
  induction n with
  | zero => rfl
  | succ n ih => rw [List.replicate_succ, List.cons_append, runAccept, ih]

end Percival.Proofs.NetIO
