import Percival.Proofs.AfMonReg
import Percival.Proofs.AfMonAbs
/-!
# C14, monitor soundness: `events_run()` against `Spec.Reg.runOk`

One walk of `EvReg.run`, carrying what ran, the invariants and the oracle's block counter.  Under `ImmInv` (32 queues,
every queue below `minq` empty) `runImm` runs all of `heads.flatten` in that order.  Under `TmRel e m D` (the model's
timers against the monitor's list `D` of (id, deadline)) `runTimers` releases exactly the due timers in non-decreasing
order of deadline (`Good`).  Each half of `events_run` is then a contract on the ideal registry (`run_imm_call`,
`runTmW_call`): what ran leaves the registry `r`, which describes the event layer again, and the counter moves with
`evBlocks`; `run_call` puts them together and evaluates `runOk r`; `run_line` is the line of the protocol, and `ev_line`
collects all lines of the event layer.
-/
namespace Percival.Proofs.AfMonRun
open Percival.Model Percival.Model.EvReg Percival.Model.TimerQueue Percival.Model.AfStep Percival.Proofs.AfMonRel
open Percival.Proofs.EvRegTimer (freerec_eq regImm regTimers)
open Percival.Proofs.TQ (key_of_lookup)
open Percival.Spec.AfMon (Op Ans MState monStep)
open Percival.Spec.Reg (Reg runOk timersOrderOk)
open Percival.Proofs.AfMonAbs
open Percival.Proofs.EvRegQuiet (Outside quiet_freerec)
open Percival.Proofs.MemCalls (Calls calls_free calls_malloc)
open Percival.Proofs.AllocCalls (mpFree_calls)
open Percival.Proofs.EvRegAcct (evBlocks evBlocks_raw bb tqBlocks AcctInv acctInv_congr)

/-- floor division: the `(tv_sec, tv_usec)` of a deadline in µs orders like the deadline, for every integer -/
theorem tvKey_mono (a b : Int) :
    tvKey (secOf a) (usecOf a) ≤ tvKey (secOf b) (usecOf b) ↔ a ≤ b := by
  unfold tvKey secOf usecOf
  omega

theorem advance_spec (heads : List (List ImmEnt)) (hl : heads.length = 32) :
    ∀ fuel q, q ≤ 32 → 33 ≤ fuel + q →
      q ≤ advance heads fuel q ∧ advance heads fuel q ≤ 32 ∧
      (∀ j, q ≤ j → j < advance heads fuel q → heads[j]? = some []) ∧
      (advance heads fuel q < 32 → heads[advance heads fuel q]? ≠ some []) := by
  intro fuel
  induction fuel with
  | zero => intro q h1 h2; omega
  | succ fuel ih =>
    intro q h1 h2
    unfold advance
    split
    · rename_i hq
      by_cases h32 : q < 32
      · simp only [h32, if_true]
        obtain ⟨a, b, c, d⟩ := ih (q+1) (by omega) (by omega)
        refine ⟨by omega, b, ?_, d⟩
        intro j hj1 hj2
        by_cases hjq : j = q
        · subst hjq; exact hq
        · exact c j (by omega) hj2
      · have : q = 32 := by omega
        subst this
        simp [hl] at hq
    · rename_i hq
      exact ⟨Nat.le_refl _, h1, fun j a b => by omega, fun _ h => hq h⟩

theorem flat_skip {α : Type} (x : α) (rest : List α) : ∀ (heads : List (List α)) (r : Nat),
    (∀ j, j < r → heads[j]? = some []) → heads[r]? = some (x :: rest) →
    heads.flatten = x :: (heads.set r rest).flatten
  | [], r, _, h => by simp at h
  | h :: tl, 0, _, h0 => by
    simp only [List.getElem?_cons_zero, Option.some.injEq] at h0
    subst h0
    simp
  | h :: tl, r+1, hb, hr => by
    have h0 := hb 0 (by omega)
    simp only [List.getElem?_cons_zero, Option.some.injEq] at h0
    subst h0
    simp only [List.getElem?_cons_succ] at hr
    have ih := flat_skip x rest tl r (fun j hj => by simpa using hb (j+1) (by omega)) hr
    simp [ih]

theorem flat_nil {α : Type} (heads : List (List α)) (h : ∀ j, j < heads.length → heads[j]? = some []) :
    heads.flatten = [] := by
  rw [List.flatten_eq_nil_iff]
  intro l hl
  obtain ⟨j, hj, rfl⟩ := List.getElem_of_mem hl
  have := h j hj
  rw [List.getElem?_eq_getElem hj] at this
  exact Option.some.inj this

/-- `events_immediate_get()` and `doevent`: nothing if all queues are empty; else the first event of the first non-empty
queue is taken (its queue node goes back to the pool) and run (its record is released) -/
theorem immGet_spec (e : Ev) (m : Mem) (hi : ImmInv e) :
    (e.heads.flatten = [] ∧ immGet e m = (none, { e with minq := 32 }, m)) ∨
    (∃ ent rest e1 m1, e.heads.flatten = ent :: rest ∧ immGet e m = (some ent, e1, m1) ∧
      (freerec e1 ent.rid m1).1.heads.flatten = rest ∧ ImmInv (freerec e1 ent.rid m1).1 ∧
      Outside .imm e (freerec e1 ent.rid m1).1 ∧
      Calls m (freerec e1 ent.rid m1).2 (evBlocks (freerec e1 ent.rid m1).1 - evBlocks e)) := by
  obtain ⟨a, b, c, d⟩ := advance_spec e.heads hi.len 33 e.minq hi.minq (by omega)
  have hbelow : ∀ j, j < advance e.heads 33 e.minq → e.heads[j]? = some [] := by
    intro j hj
    by_cases h : j < e.minq
    · exact hi.below j h
    · exact c j (by omega) hj
  unfold immGet
  generalize advance e.heads 33 e.minq = q at a b c d hbelow
  by_cases hq : q < 32
  · have hne := d hq
    cases hh : e.heads[q]? with
    | none =>
      have := List.getElem?_eq_none_iff.mp hh
      have := hi.len
      omega
    | some l =>
      cases l with
      | nil => exact absurd hh hne
      | cons ent rest =>
        right
        simp only [hq, if_true]
        have hfl := flat_skip ent rest e.heads q hbelow hh
        have hi1 : ImmInv { e with minq := q, heads := e.heads.set q rest, qPool := (MPool.free e.qPool ent.qid m).1 } := by
          refine ⟨by simp [hi.len], Nat.le_of_lt hq, fun j hj => ?_⟩
          have hj' : j < q := hj
          show (e.heads.set q rest)[j]? = some []
          rw [List.getElem?_set_ne (by omega)]
          exact hbelow j hj
        -- the queue node goes back to its pool, then the event's record
        have c1 := mpFree_calls e.qPool ent.qid m
        have q2 := quiet_freerec .imm
          { e with minq := q, heads := e.heads.set q rest, qPool := (MPool.free e.qPool ent.qid m).1 } ent.rid
          (MPool.free e.qPool ent.qid m).2
        have o1 : Outside .imm e
            { e with minq := q, heads := e.heads.set q rest, qPool := (MPool.free e.qPool ent.qid m).1 } :=
          ⟨nofun, fun _ => ⟨rfl, rfl⟩, fun _ => ⟨rfl, rfl, rfl, rfl⟩⟩
        refine ⟨ent, (e.heads.set q rest).flatten, _, _, hfl, by rw [hh], by rw [q2.same.1],
          immInv_congr hi1 q2.same.1 q2.same.2.1, o1.trans q2.out, (c1.trans ⟨q2.step, q2.live nofun⟩).cast ?_⟩
        simp only [evBlocks_raw, hfl, List.length_cons]
        omega
  · have hq32 : q = 32 := by omega
    subst hq32
    left
    have hfl : e.heads.flatten = [] := flat_nil e.heads (fun j hj => hbelow j (by rw [← hi.len]; exact hj))
    have hnone : e.heads[32]? = none := List.getElem?_eq_none_iff.mpr (by rw [hi.len]; exact Nat.le_refl _)
    simp [hfl, hnone]

theorem immInv_empty {e : Ev} (hi : ImmInv e) (hfl : e.heads.flatten = []) : ImmInv { e with minq := 32 } := by
  refine ⟨hi.len, Nat.le_refl _, ?_⟩
  intro j hj
  have hj' : j < e.heads.length := by rw [hi.len]; exact hj
  show e.heads[j]? = some []
  rw [List.getElem?_eq_getElem hj']
  rw [List.flatten_eq_nil_iff] at hfl
  rw [hfl _ (List.getElem_mem hj')]

theorem runImm_spec : ∀ (fuel : Nat) (e : Ev) (m : Mem) (ran : List Nat), ImmInv e → e.heads.flatten.length < fuel →
    ∃ e' m', runImm fuel e m ran = (ran ++ e.heads.flatten.map (·.id), e', m') ∧ e'.heads.flatten = [] ∧
      ImmInv e' ∧ Outside .imm e e' ∧ Calls m m' (evBlocks e' - evBlocks e)
  | 0, _, _, _, _, hf => by omega
  | fuel+1, e, m, ran, hi, hf => by
    unfold runImm
    rcases immGet_spec e m hi with ⟨hfl, hg⟩ | ⟨ent, rest, e1, m1, hfl, hg, hrest, hi2, hfr, hc⟩
    · rw [hg]
      exact ⟨{ e with minq := 32 }, m, by simp [hfl], hfl, immInv_empty hi hfl,
        ⟨nofun, fun _ => ⟨rfl, rfl⟩, fun _ => ⟨rfl, rfl, rfl, rfl⟩⟩,
        (Calls.refl m).cast (by simp only [evBlocks_raw]; omega)⟩
    · rw [hg]
      dsimp only
      rcases hf2 : freerec e1 ent.rid m1 with ⟨e2, m2⟩
      rw [hf2] at hrest hi2 hfr hc
      dsimp only at hrest hi2 hfr hc ⊢
      obtain ⟨e', m', hrun, h1, h2, h3, h4⟩ := runImm_spec fuel e2 m2 (ran ++ [ent.id]) hi2
        (by rw [hrest]; rw [hfl] at hf; simp only [List.length_cons] at hf; omega)
      refine ⟨e', m', ?_, h1, h2, hfr.trans h3, (hc.trans h4).cast (by omega)⟩
      rw [hrun, hfl, hrest]
      simp

/-- `events_timer_min` allocates a `struct timeval` iff a timer exists -/
def wantTv (e1 : Ev) : Bool :=
  match e1.tq with
  | some t => (Heap.getmin t.q.h).isSome
  | none => false

/-- the second half of `events_run()` (no immediate event was found), `w = wantTv e1` -/
def runTmW (w : Bool) (e1 : Ev) (now : Int) (m1 : Mem) : Bool × List Nat × Ev × Mem :=
  match (if w then m1.malloc tvSize else (true, m1)) with
  | (false, m2) => (false, [], e1, m2)
  | (true, m2) =>
    match netInit e1 m2 with
    | (false, e2, m3) => (false, [], e2, if w then m3.free false else m3)
    | (true, e2, m3) =>
      match runTimers now (e2.timers.length + 1) e2 (if w then m3.free false else m3) [] with
      | (ran, e3, m5) => (true, ran, e3, m5)

def runTm (e1 : Ev) (now : Int) (m1 : Mem) : Bool × List Nat × Ev × Mem := runTmW (wantTv e1) e1 now m1

theorem run_noimm (e : Ev) (now : Int) (m : Mem) (hi : ImmInv e) (hfl : e.heads.flatten = []) :
    run e now m = runTm { e with minq := 32 } now m := by
  rcases immGet_spec e m hi with ⟨_, hg⟩ | ⟨ent, rest, _, _, hfl', _⟩
  · unfold run
    rw [hg]
    rfl
  · rw [hfl] at hfl'; cases hfl'

theorem TmRel.nodupD {e : Ev} {m : Mem} {D : List (Nat × Int)} (h : TmRel e m D) : (D.map (·.1)).Nodup := by
  rw [h.ids]; exact h.inv.nodup

theorem TmRel.entry_of_mem {e : Ev} {m : Mem} {D : List (Nat × Int)} (h : TmRel e m D) {p : Nat × Int} (hp : p ∈ D) :
    ∃ x ∈ e.timers, x.id = p.1 ∧ dl D x.id = some p.2 := by
  have : p.1 ∈ e.timers.map (·.id) := by rw [← h.ids]; exact List.mem_map.mpr ⟨p, hp, rfl⟩
  obtain ⟨x, hx, hxi⟩ := List.mem_map.mp this
  exact ⟨x, hx, hxi, by rw [hxi]; exact dl_of_mem D p.1 p.2 h.nodupD hp⟩

theorem filter_key_eq {α : Type} (f g : α → Nat) (l : List α) (a : α) (ha : a ∈ l) (hf : (l.map f).Nodup)
    (hg : (l.map g).Nodup) : l.filter (fun y => f y != f a) = l.filter (fun y => g y != g a) := by
  apply List.filter_congr
  intro y hy
  by_cases h : f y = f a
  · have := Keys.inj hf hy ha h
    subst this; simp
  · have h' : g y ≠ g a := fun hh => h (by rw [Keys.inj hg hy ha hh])
    show (f y != f a) = (g y != g a)
    rw [bne_iff_ne.mpr h, bne_iff_ne.mpr h']

theorem timer_step (e : Ev) (m : Mem) (D : List (Nat × Int)) (t : HeapAlloc.TQA) (now : Int) (h : TmRel e m D)
    (ht : e.tq = some t) :
    (HeapAlloc.tqGetptr t (secOf now) (usecOf now) m = (t, none, m) ∧ ∀ p ∈ D, now < p.2) ∨
    (∃ t' m1 ent d, HeapAlloc.tqGetptr t (secOf now) (usecOf now) m = (t', some ent.tid, m1) ∧ ent ∈ e.timers ∧
      e.timers.find? (fun y => y.tid == ent.tid) = some ent ∧ dl D ent.id = some d ∧ d ≤ now ∧ (∀ p ∈ D, d ≤ p.2) ∧
      Calls m m1 (bb t'.alloc - bb t.alloc - 1) ∧
      ∀ (e2 : Ev) (m2 : Mem), e2.tq = some t' → e2.timers = e.timers.filter (fun y => y.tid != ent.tid) →
        m1.n ≤ m2.n → TmRel e2 m2 (D.filter (fun p => p.1 != ent.id))) := by
  obtain ⟨hq, hperm, hh⟩ := h.inv.tq t ht
  -- the key of a timer's record is the key of its deadline
  have hkey : ∀ y ∈ e.timers, ∀ d, dl D y.id = some d → y.tqr ∈ t.q.h.a.toList ∧
      key t.q.recs y.tqr = tvKey (secOf d) (usecOf d) := by
    intro y hy d hd
    obtain ⟨rc, d', hlk, _, hd', hs, hu⟩ := h.recs t ht y hy
    rw [hd] at hd'; cases hd'
    exact ⟨hperm.mem_iff.mpr (List.mem_map.mpr ⟨y, hy, rfl⟩), by rw [key_of_lookup _ _ _ hlk, hs, hu]⟩
  rcases Percival.Proofs.AllocFail.tq_getptr_spec t (secOf now) (usecOf now) m hq hh with
    ⟨hg, hall⟩ | ⟨t', m1, r, x, hg, hl, hdue, hx, hq', hperm', hrecs, hh', hst⟩
  · left
    refine ⟨hg, ?_⟩
    intro p hp
    obtain ⟨y, hy, _, hyd⟩ := h.entry_of_mem hp
    obtain ⟨hmem, hk⟩ := hkey y hy p.2 hyd
    have := hall y.tqr hmem
    rw [hk] at this
    by_cases hle : p.2 ≤ now
    · have := (tvKey_mono p.2 now).mpr hle
      omega
    · omega
  · right
    obtain ⟨ent, hent, hentr⟩ := List.mem_map.mp (hperm.mem_iff.mp hl.1)
    obtain ⟨rc, d, hlk, hptr, hd, hs, hu⟩ := h.recs t ht ent hent
    rw [hentr, hx] at hlk
    cases hlk
    have hkr : key t.q.recs r = tvKey (secOf d) (usecOf d) := by rw [← hentr]; exact (hkey ent hent d hd).2
    have hidtid : e.timers.filter (fun y => y.tid != ent.tid) = e.timers.filter (fun y => y.id != ent.id) :=
      filter_key_eq (·.tid) (·.id) e.timers ent hent h.tidNd h.inv.nodup
    refine ⟨t', m1, ent, d, by rw [hg, hptr], hent, Keys.find h.tidNd hent, hd, ?_, ?_, hst, ?_⟩
    · rw [hkr] at hdue
      exact (tvKey_mono d now).mp hdue
    · intro p hp
      obtain ⟨y, hy, _, hyd⟩ := h.entry_of_mem hp
      obtain ⟨hmem, hk⟩ := hkey y hy p.2 hyd
      have := hl.2 y.tqr hmem
      rw [hkr, hk] at this
      exact (tvKey_mono d p.2).mp this
    · intro e2 m2 h2q h2t hn
      have hsub : ∀ y ∈ e2.timers, y ∈ e.timers ∧ y.id ≠ ent.id := by
        intro y hy
        rw [h2t, hidtid] at hy
        have := List.mem_filter.mp hy
        exact ⟨this.1, by simpa using this.2⟩
      have hn' : m.n ≤ m2.n := Nat.le_trans hst.step.n hn
      refine h.drop ent.id ⟨?_, ?_, ?_, ?_⟩ (by rw [h2t, hidtid]) fun t0 t1 a b => by
        rw [ht] at a; rw [h2q] at b; cases a; cases b; exact hrecs
      · intro hnone; rw [h2q] at hnone; cases hnone
      · intro t'' ht''
        rw [h2q] at ht''; cases ht''
        refine ⟨hq', ?_, hh'⟩
        have pf := Keys.perm_filter h.tidNd hent
        have p1 := hperm'.symm.trans (hperm.trans (pf.map (·.tqr)))
        simp only [List.map_cons, hentr] at p1
        rw [h2t]
        exact p1.cons_inv
      · intro y hy
        exact Nat.lt_of_lt_of_le (h.inv.lt y (hsub y hy).1) hn'
      · rw [h2t]; exact (List.filter_sublist.map _).nodup h.inv.nodup

structure Good (D : List (Nat × Int)) (now : Int) (ids : List Nat) : Prop where
  nd : ids.Nodup
  due : ∀ i ∈ ids, ∃ d, dl D i = some d ∧ d ≤ now
  ord : ids.Pairwise (fun i j => ∀ di dj, dl D i = some di → dl D j = some dj → di ≤ dj)
  rest : ∀ p ∈ D, p.1 ∉ ids → now < p.2

theorem Good.nil {D : List (Nat × Int)} {now : Int} (h : ∀ p ∈ D, now < p.2) : Good D now [] :=
  ⟨List.nodup_nil, fun _ hi => (by cases hi), List.Pairwise.nil, fun p hp _ => h p hp⟩

/-- the timer `i`, due and with a least deadline, first; then a good list for the rest -/
theorem Good.cons {D : List (Nat × Int)} {now d : Int} {i : Nat} {ids : List Nat} (hd : dl D i = some d) (hnow : d ≤ now)
    (hmin : ∀ p ∈ D, d ≤ p.2) (g : Good (D.filter (fun p => p.1 != i)) now ids) : Good D now (i :: ids) := by
  have hids : ∀ j ∈ ids, j ≠ i ∧ dl (D.filter (fun p => p.1 != i)) j = dl D j := by
    intro j hj
    obtain ⟨d', hd', _⟩ := g.due j hj
    have hne : j ≠ i := by simpa using (List.mem_filter.mp (dl_mem _ _ _ hd')).2
    exact ⟨hne, dl_filter _ _ D (fun p _ hp => by simp [hp, hne])⟩
  refine ⟨List.nodup_cons.mpr ⟨fun hmem => (hids _ hmem).1 rfl, g.nd⟩, fun j hj => ?_,
    List.pairwise_cons.mpr ⟨fun j _ di dj hdi hdj => ?_, ?_⟩, fun p hp hnot => ?_⟩
  · rcases List.mem_cons.mp hj with hj | hj
    · subst hj; exact ⟨d, hd, hnow⟩
    · obtain ⟨d', hd', hle⟩ := g.due j hj
      exact ⟨d', by rw [← (hids j hj).2]; exact hd', hle⟩
  · rw [hd] at hdi; cases hdi
    exact hmin _ (dl_mem _ _ _ hdj)
  · refine List.Pairwise.imp_of_mem ?_ g.ord
    intro a b ha hb hab di dj hdi hdj
    exact hab di dj (by rw [(hids a ha).2]; exact hdi) (by rw [(hids b hb).2]; exact hdj)
  · have h1 : p.1 ≠ i := fun hh => hnot (by rw [hh]; exact List.mem_cons_self)
    exact g.rest p (List.mem_filter.mpr ⟨hp, by simpa using h1⟩) fun hh => hnot (List.mem_cons_of_mem _ hh)

theorem filter_filter_contains (D : List (Nat × Int)) (i : Nat) (ids : List Nat) :
    (D.filter (fun p => p.1 != i)).filter (fun p => !ids.contains p.1) =
      D.filter (fun p => !(i :: ids).contains p.1) := by
  rw [List.filter_filter]
  apply List.filter_congr
  intro p _
  rw [List.contains_cons]
  cases h1 : ids.contains p.1 <;> cases h2 : (p.1 == i) <;> simp [h2, bne]

theorem runTimers_spec (now : Int) : ∀ (fuel : Nat) (e : Ev) (m : Mem) (ran : List Nat) (D : List (Nat × Int)),
    TmRel e m D → e.timers.length < fuel →
    ∃ ids e' m', runTimers now fuel e m ran = (ran ++ ids, e', m') ∧ Good D now ids ∧
      TmRel e' m' (D.filter (fun p => !ids.contains p.1)) ∧ Outside .tm e e' ∧ Calls m m' (evBlocks e' - evBlocks e)
  | 0, _, _, _, _, _, hf => by omega
  | fuel+1, e, m, ran, D, h, hf => by
    unfold runTimers
    cases ht : e.tq with
    | none =>
      have hnil := h.inv.noq ht
      have hD : D = [] := by
        have := h.ids
        rw [hnil] at this
        simpa using this
      subst hD
      exact ⟨[], e, m, by simp, Good.nil nofun, h, Outside.refl _ _, (Calls.refl m).cast (by omega)⟩
    | some t =>
      dsimp only
      rcases timer_step e m D t now h ht with ⟨hg, hall⟩ |
        ⟨t', m1, ent, d, hg, hent, hfind, hd, hdnow, hmin, hst, hrel⟩
      · rw [hg]
        refine ⟨[], e, m, by simp, Good.nil hall, ?_, Outside.refl _ _, (Calls.refl m).cast (by omega)⟩
        rw [show D.filter (fun p => !([] : List Nat).contains p.1) = D from List.filter_eq_self.mpr fun _ _ => rfl]; exact h
      · rw [hg]
        dsimp only
        rw [hfind]
        dsimp only
        simp only [freerec_eq]
        have hst2 := (calls_free m1 false).trans (mpFree_calls e.recPool ent.rid (m1.free false))
        have hrel2 := hrel
          ({ e with tq := some t', timers := e.timers.filter (fun y => y.tid != ent.tid),
                    recPool := (MPool.free e.recPool ent.rid (m1.free false)).1 } : Ev)
          (MPool.free e.recPool ent.rid (m1.free false)).2 rfl rfl hst2.step.n
        have hlen := (Keys.perm_filter h.tidNd hent).length_eq
        simp only [List.length_cons] at hlen
        obtain ⟨ids', e', m', hrun, good', rel', fr', st'⟩ := runTimers_spec now fuel _ _ (ran ++ [ent.id]) _ hrel2
          (by show (e.timers.filter (fun y => y.tid != ent.tid)).length < fuel; omega)
        refine ⟨ent.id :: ids', e', m', ?_, Good.cons hd hdnow hmin good', ?_, ?_, (hst.trans (hst2.trans st')).cast ?_⟩
        · rw [hrun]; simp
        · rw [← filter_filter_contains]; exact rel'
        · refine Outside.trans ?_ fr'
          exact ⟨fun _ => ⟨rfl, rfl, rfl⟩, nofun, fun _ => ⟨rfl, rfl, rfl, rfl⟩⟩
        · -- the queue's record, the `struct timerrec` and the event record go; the queue's buffer may shrink
          simp only [evBlocks_raw, ht, tqBlocks, Bool.false_eq_true, if_false]
          omega

theorem tv_stage (w : Bool) (m1 : Mem) :
    Calls m1 (if w then m1.malloc tvSize else (true, m1)).2
      (if w && (if w then m1.malloc tvSize else (true, m1)).1 then 1 else 0) ∧
    ((if w then m1.malloc tvSize else (true, m1)).1 = false →
      m1.refusals < (if w then m1.malloc tvSize else (true, m1)).2.refusals) := by
  cases w
  · exact ⟨Calls.refl m1, fun h => (by cases h)⟩
  · show Calls m1 (m1.malloc tvSize).2 (if (true && (m1.malloc tvSize).1) = true then 1 else 0) ∧
      ((m1.malloc tvSize).1 = false → m1.refusals < (m1.malloc tvSize).2.refusals)
    refine ⟨(calls_malloc m1 tvSize).cast (by rw [Bool.true_and]), fun h => ?_⟩
    have := (Percival.Proofs.EArray.malloc_fail (m := m1) (sz := tvSize) h).1
    omega

theorem free_stage (w : Bool) (m3 : Mem) :
    Calls m3 (if w then m3.free false else m3) (if w then -1 else 0) ∧
    (if w then m3.free false else m3).refusals = m3.refusals := by
  cases w
  · exact ⟨Calls.refl m3, rfl⟩
  · exact ⟨calls_free m3 false, (Percival.Proofs.EArray.free_facts m3 false).1⟩

open Percival.Proofs.EvRegNet (quiet_netInit netInv_congr) in
/-- the timer half of `events_run()` on the ideal registry (no immediate event is registered): it fails only with a
refused request and then nothing ran; otherwise exactly the due timers ran, in non-decreasing order of deadline; what
ran leaves the registry, and the counter follows -/
theorem runTmW_call (w : Bool) {e1 : Ev} {m1 : Mem} {r : Reg} (h : EvAbs e1 m1 r) (hfl : r.imm.flatten = [])
    (now : Int) :
    ∃ ok ran e' m', runTmW w e1 now m1 = (ok, ran, e', m') ∧ EvAbs e' m' (r.remove ran) ∧
      Calls m1 m' (evBlocks e' - evBlocks e1) ∧
      ((ok = false ∧ ran = [] ∧ m1.refusals < m'.refusals) ∨ (ok = true ∧ Good r.timers now ran)) := by
  have hn := h.net.inv
  have ha := h.net.acct
  -- a failed pass: nothing ran, the event state is as it was
  have failed : ∀ m', m1.n ≤ m'.n → EvAbs e1 m' (r.remove []) := fun m' hle => by
    rw [AfMonReg.remove_eq_self r [] nofun nofun]; exact h.mono hle
  obtain ⟨s1, f1⟩ := tv_stage w m1
  unfold runTmW
  rcases h1 : (if w then m1.malloc tvSize else (true, m1)) with ⟨b, m2⟩
  rw [h1] at s1 f1
  dsimp only at s1 f1 ⊢
  cases b with
  | false =>
    exact ⟨false, [], e1, m2, rfl, failed m2 s1.step.n, s1.cast (by simp), Or.inl ⟨rfl, rfl, f1 rfl⟩⟩
  | true =>
    dsimp only
    obtain ⟨s3, r3⟩ := free_stage w (netInit e1 m2).2.2
    rcases hni : netInit e1 m2 with ⟨ok0, e2, m3⟩
    rw [hni] at s3 r3
    dsimp only at s3 r3 ⊢
    obtain ⟨q0, _, _, hfail, _, hinv, _⟩ := quiet_netInit e1 m2 ok0 e2 m3 hni
    have ha2 : AcctInv e2 := q0.call.pre ha
    have sall : Calls m1 (if w then m3.free false else m3) (evBlocks e2 - evBlocks e1) :=
      (s1.trans ((Calls.mk q0.step (q0.live fun _ => ha)).trans s3)).cast (by cases w <;> simp <;> omega)
    cases ok0 with
    | false =>
      dsimp only
      obtain ⟨he, hr⟩ := hfail rfl
      have := s1.step.r
      subst he
      exact ⟨false, [], e2, _, rfl, failed _ sall.step.n, sall, Or.inl ⟨rfl, rfl, by omega⟩⟩
    | true =>
      dsimp only
      have rel2 : TmRel e2 (if w then m3.free false else m3) r.timers :=
        tmRel_congr h.tm.rel (q0.out.tm nofun).1 (q0.out.tm nofun).2 sall.step.n
      obtain ⟨ids, e', m', hrun, good, rel', fr, st⟩ :=
        runTimers_spec now (e2.timers.length + 1) e2 _ [] r.timers rel2 (Nat.lt_succ_self _)
      rw [hrun]
      obtain ⟨f3, f4, f5, f6⟩ := fr.net nofun
      have hheads : e'.heads = e1.heads := (fr.imm nofun).1.trans (q0.out.imm nofun).1
      have hflat : (regImm e').flatten = [] := by rw [EvRegTimer.regImm_of_heads hheads, ← h.imm.imm]; exact hfl
      refine ⟨true, ids, e', m', by simp, ⟨h.imm.congr hheads ((fr.imm nofun).2.1.trans (q0.out.imm nofun).2.1)
          (AfMonReg.remove_imm_eq r ids fun i _ hi => by rw [hfl] at hi; cases hi), ⟨rel', fun i hi => ?_⟩,
          ⟨fun fd w id => ?_, netInv_congr e2 e' (hinv hn) f3 f4 f5 f6, acctInv_congr ha2 f3 f4 f6⟩,
          fun i hi => by rw [hflat] at hi; cases hi⟩,
        (sall.trans st).cast (by omega), Or.inr ⟨rfl, good⟩⟩
      · have hi' : i ∈ e'.timers.map (·.id) := hi
        rw [← rel'.ids] at hi'
        obtain ⟨p, hp, rfl⟩ := List.mem_map.mp hi'
        apply h.tm.small
        show p.1 ∈ e1.timers.map (·.id)
        rw [← h.tm.rel.ids]
        exact List.mem_map.mpr ⟨p, (List.mem_filter.mp hp).1, rfl⟩
      · show (fd, w, id) ∈ r.net ↔ (fd, w, id) ∈ (registry e').net
        rw [show (registry e').net = (registry e1).net by
          rw [← q0.reg fun _ hs => (hn.uninit hs).1]; simp only [registry, f4]]
        exact h.net.net fd w id

theorem tok_of (r : Reg) (now : Int) : ∀ (ids : List Nat) (prev : Option Int), ids.Nodup →
    (∀ i ∈ ids, ∃ d, dl r.timers i = some d ∧ d ≤ now ∧ ∀ p, prev = some p → p ≤ d) →
    ids.Pairwise (fun i j => ∀ di dj, dl r.timers i = some di → dl r.timers j = some dj → di ≤ dj) →
    timersOrderOk r now ids prev = true
  | [], _, _, _, _ => rfl
  | i :: rest, prev, hnd, hdue, hord => by
    obtain ⟨d, hd, hle, hprev⟩ := hdue i List.mem_cons_self
    obtain ⟨hni, hnd'⟩ := List.nodup_cons.mp hnd
    obtain ⟨hhead, hord'⟩ := List.pairwise_cons.mp hord
    unfold timersOrderOk
    rw [show Spec.Reg.deadlineOf r i = some d from hd]
    have ih := tok_of r now rest (some d) hnd' (fun j hj => by
      obtain ⟨dj, hdj, hlej, _⟩ := hdue j (List.mem_cons_of_mem _ hj)
      exact ⟨dj, hdj, hlej, fun p hp => by cases hp; exact hhead j hj d dj hd hdj⟩) hord'
    simp only [ih, hle, decide_true, Bool.true_and, Bool.and_true]
    simp only [Bool.and_eq_true, Bool.not_eq_true', List.contains_eq_mem, decide_eq_false_iff_not]
    refine ⟨?_, hni⟩
    cases prev with
    | none => rfl
    | some p => simpa using hprev p rfl

theorem good_tok {r : Reg} {now : Int} {ids : List Nat} (g : Good r.timers now ids) :
    timersOrderOk r now ids none = true :=
  tok_of r now ids none g.nd (fun i hi => by
    obtain ⟨d, hd, hle⟩ := g.due i hi
    exact ⟨d, hd, hle, fun p hp => by cases hp⟩) g.ord

theorem good_length {D : List (Nat × Int)} {now : Int} {ids : List Nat} (g : Good D now ids)
    (hnd : (D.map (·.1)).Nodup) : ids.length = (D.filter (fun p => decide (p.2 ≤ now))).length := by
  have h1 : D.filter (fun p => decide (p.2 ≤ now)) = D.filter (fun p => ids.contains p.1) := by
    apply List.filter_congr
    intro p hp
    by_cases hin : p.1 ∈ ids
    · obtain ⟨d, hd, hle⟩ := g.due p.1 hin
      rw [dl_of_mem D p.1 p.2 hnd hp] at hd
      cases hd
      simp [hin, hle]
    · have := g.rest p hp hin
      have h2 : ¬ p.2 ≤ now := by omega
      simp [hin, h2]
  have h2 : (D.filter (fun p => ids.contains p.1)).length = ((D.map (·.1)).filter (fun i => ids.contains i)).length := by
    rw [List.filter_map, List.length_map]; rfl
  rw [h1, h2]
  apply List.Perm.length_eq
  apply (List.perm_ext_iff_of_nodup g.nd (hnd.filter _)).mpr
  intro a
  simp only [List.mem_filter, List.contains_iff_mem, List.mem_map]
  constructor
  · intro ha
    obtain ⟨d, hd, _⟩ := g.due a ha
    exact ⟨⟨(a, d), dl_mem _ _ _ hd, rfl⟩, ha⟩
  · intro ha; exact ha.2

theorem all_nil {α : Type} (L : List (List α)) (n : Nat) (hl : L.length = n) (h : ∀ l ∈ L, l = []) :
    L = List.replicate n [] :=
  List.eq_replicate_iff.mpr ⟨hl, h⟩

theorem immOrder_eq {e : Ev} {m : Mem} {r : Reg} (h : EvAbs e m r) : r.immOrder = e.heads.flatten.map (·.id) := by
  unfold Reg.immOrder
  rw [h.imm.imm]
  simp only [regImm, registry, List.map_flatten]

/-- the immediate half of `events_run()` on the ideal registry: every immediate event runs, in the registry's order, and
leaves the registry -/
theorem run_imm_call {e : Ev} {m : Mem} {r : Reg} (h : EvAbs e m r) (now : Int) (hne : e.heads.flatten ≠ []) :
    ∃ e' m', run e now m = (true, r.immOrder, e', m') ∧ EvAbs e' m' (r.remove r.immOrder) ∧
      Calls m m' (evBlocks e' - evBlocks e) := by
  -- `run` has the first pass of `runImm` written out
  obtain ⟨e', m', hrun, hfl', hi', hfr, hst⟩ : ∃ e' m', run e now m = (true, e.heads.flatten.map (·.id), e', m') ∧
      e'.heads.flatten = [] ∧ ImmInv e' ∧ Outside .imm e e' ∧ Calls m m' (evBlocks e' - evBlocks e) := by
    rcases immGet_spec e m h.imm.inv with ⟨hfl, _⟩ | ⟨ent, rest, e1, m1, hfl, hg, hrest, _⟩
    · exact absurd hfl hne
    · obtain ⟨e', m', hrun, h'⟩ := runImm_spec ((freerec e1 ent.rid m1).1.heads.flatten.length + 1 + 1) e m []
        h.imm.inv (by rw [hrest, hfl]; exact Nat.lt_succ_self _)
      refine ⟨e', m', ?_, h'⟩
      rw [runImm, hg] at hrun
      rw [run, hg]
      exact congrArg (fun r => (true, r)) hrun
  rw [← immOrder_eq h] at hrun
  have hregI : regImm e' = List.replicate 32 [] := by
    apply all_nil _ _ (by simp [regImm, registry, hi'.len])
    intro l hl
    simp only [regImm, registry, List.mem_map] at hl
    obtain ⟨l0, hl0, rfl⟩ := hl
    rw [List.flatten_eq_nil_iff.mp hfl' l0 hl0]; rfl
  refine ⟨e', m', hrun, h.immMoved hfr hst.step.n ⟨?_, hi', by rw [hregI]; simp⟩ ?_ rfl
    (fun i hi => by rw [hregI] at hi; simp at hi), hst⟩
  · show (r.remove _).imm = regImm e'
    rw [hregI]
    apply all_nil
    · simp only [Reg.remove, List.length_map]
      rw [h.imm.imm]; simp [regImm, registry, h.imm.inv.len]
    · intro l hl
      simp only [Reg.remove, List.mem_map] at hl
      obtain ⟨l0, hl0, rfl⟩ := hl
      apply List.filter_eq_nil_iff.mpr
      intro a ha
      have hc := List.contains_iff_mem.mpr (show a ∈ r.immOrder from List.mem_flatten.mpr ⟨l0, hl0, ha⟩)
      show ¬ ((!r.immOrder.contains a) = true)
      rw [hc]; decide
  · exact AfMonReg.remove_timers_eq r _ fun i hi ht => by
      rw [show r.immOrder = (regImm e).flatten by rw [← h.imm.imm]; rfl] at hi
      exact h.disj i hi (by rw [← show r.timers.map (·.1) = regTimers e from h.tm.rel.ids]; exact ht)

/-- `events_run()`: what ran is what the ideal registry allows (`runOk`), it is removed from the registry, and the
counter follows -/
theorem run_call {e : Ev} {m : Mem} {r : Reg} (h : EvAbs e m r) (now : Int) :
    ∀ ok ran e' m', run e now m = (ok, ran, e', m') →
      runOk r now ok (decide (0 < m'.refusals - m.refusals)) ran = true ∧ EvAbs e' m' (r.remove ran) ∧
      m'.live - m.live = evBlocks e' - evBlocks e := by
  intro ok ran e' m' hrun
  have hio := immOrder_eq h
  by_cases hfl : e.heads.flatten = []
  · -- no immediate event: the timers that are due
    have hio' : r.immOrder = [] := by rw [hio, hfl]; rfl
    have h1 : EvAbs { e with minq := 32 } m r :=
      h.immMoved ⟨nofun, fun _ => ⟨rfl, rfl⟩, fun _ => ⟨rfl, rfl, rfl, rfl⟩⟩ (Nat.le_refl _)
        ⟨h.imm.imm, immInv_empty h.imm.inv hfl, h.imm.nd⟩ rfl rfl h.disj
    obtain ⟨ok', ran', e'', m'', hr, habs, hst, hcase⟩ := runTmW_call (wantTv { e with minq := 32 }) h1 hio' now
    rw [run_noimm e now m h.imm.inv hfl, show runTm { e with minq := 32 } now m = (ok', ran', e'', m'') from hr] at hrun
    cases hrun
    refine ⟨?_, habs, ?_⟩
    · unfold runOk
      rw [hio']
      rcases hcase with ⟨rfl, rfl, href⟩ | ⟨rfl, good⟩
      · have : 0 < m'.refusals - m.refusals := by omega
        simp [timersOrderOk, this]
      · simp [good_tok (r := r) good, good_length good h.tm.rel.nodupD]
    · have : evBlocks ({ e with minq := 32 } : Ev) = evBlocks e := by simp only [evBlocks_raw]
      have := hst.live
      omega
  · -- immediate events: all of them, in order
    obtain ⟨e'', m'', hrun', habs, hst⟩ := run_imm_call h now hfl
    rw [hrun'] at hrun
    cases hrun
    refine ⟨?_, habs, by have := hst.live; omega⟩
    unfold runOk
    have : r.immOrder.isEmpty = false := by
      rw [hio]
      cases hc : e.heads.flatten with
      | nil => exact absurd hc hfl
      | cons a l => rfl
    simp [this]

theorem run_line {s : S} {ms : MState} (hnow : ms.now = s.now) (h : EvAbs s.ev s.m ms.reg) : EvLine s ms .run := by
  rcases hrun : run s.ev s.now s.m with ⟨ok, ran, e', m'⟩
  obtain ⟨hok, habs, hlv⟩ := run_call h s.now ok ran e' m' hrun
  rw [← hnow] at hok
  refine EvLine.of_call (st := boolRes ok) (ran := some ran) (by simp only [AfStep.evCall, hrun]) ?_ habs (fun _ => hlv)
    (fun hc => hc)
  have hfo : (Spec.AfMon.Head.fail == Spec.AfMon.Head.ok) = false := by decide
  cases ok
  · simp only [Out.ans, headOf, boolRes, monStep, Ans.rfn, DsStep.rf]
    simp [hok, hfo]
  · simp only [Out.ans, headOf, boolRes, monStep, Ans.rfn, DsStep.rf]
    simp [hok]

theorem ev_line {s : S} {ms : MState} (hnow : ms.now = s.now) (h : EvAbs s.ev s.m ms.reg) (op : Op)
    (hh : AfMonReg.isHeapOp op = false) (h1 : op ≠ .end_) (h2 : ¬ ∃ us, op = .clock us) : EvLine s ms op := by
  by_cases hr : op = .run
  · subst hr; exact run_line hnow h
  · rcases AfMonReg.reg_or_heap op ⟨h1, hr⟩ with hreg | hhp
    · rcases AfMonReg.reg_line hnow h op hreg with hc | hl
      · exact absurd hc h2
      · exact hl
    · rw [hh] at hhp; cases hhp

theorem regRel_init : RegRel {} {} := (regDl_of rfl (evAbs_init _)).1

theorem dlRel_init : DlRel {} {} := (regDl_of rfl (evAbs_init _)).2

/-- two timers and two immediate events: the first `run` answers the immediate events by priority, the second (after
the clock passed both deadlines) the timers by deadline, the third nothing -/
def demoOps : List Op := [.regTm 1 500, .regTm 2 100, .regImm 5 3, .regImm 7 1, .run, .clock 1000, .run, .run]

example : (runOps {} demoOps).map (·.2.ans.ran) =
    [none, none, none, none, some (some [7, 5]), none, some (some [2, 1]), some (some [])] := by decide +kernel

example : Spec.AfMon.acceptsRun {} (demoOps.zip ((runOps {} demoOps).map (·.2.ans))) = true := by decide +kernel

/-- the `timeval` of `events_timer_min` is refused: `run` fails with one refused request, nothing ran -/
def demoFail : List Op := [.regTm 1 500, .clock 1000, .failat 1, .run, .run]

example : (runOps {} demoFail).map (fun r => (r.2.ans.head, r.2.ans.rf, r.2.ans.ran)) =
    [(.ok, some 0, none), (.ok, none, none), (.ok, none, none), (.fail, some 1, some (some [])),
     (.ok, some 0, some (some [1]))] := by decide +kernel

example : Spec.AfMon.acceptsRun {} (demoFail.zip ((runOps {} demoFail).map (·.2.ans))) = true := by decide +kernel

end Percival.Proofs.AfMonRun
