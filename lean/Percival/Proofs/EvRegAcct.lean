import Percival.Proofs.EvRegNet
import Percival.Proofs.EvRegTimer
import Percival.Proofs.MPool
/-!
# C14: the event layer's own storage is accounted for exactly

`evBlocks e` counts the heap blocks the event layer (`events_immediate.c`, `events_timer.c`,
`events_network.c` on the model `EvReg`) holds in state `e`: what its two pools cache (and their grown stack
arrays), the records and queue nodes held by registrations, the timer queue's and the socket list's
structures and buffers, the pollfd array.  Every operation moves the oracle's ghost counter `Mem.live` by
exactly the change of `evBlocks` — for every oracle, on success and on every error path (`call_immReg` …
`call_netCancel` in `Proofs/EvRegTimer.lean`, `Proofs/EvRegNet.lean`).  Here: what a caller that holds the invariants of
all three parts gets from each operation (`Kept`), and that once nothing is registered the exit handlers (`shutdown`)
release all of it.
-/
namespace Percival.Proofs.EvRegAcct
open Percival.Model Percival.Model.EvReg
open Percival.Proofs.EvRegTimer Percival.Proofs.EvRegNet
open Percival.Proofs.AllocCalls Percival.Proofs.MemCalls Percival.Proofs.EvRegQuiet

/-- what a call of the event layer leaves behind when `NetInv`, `TmInv` held before it and the immediate queues existed:
the same again, the oracle only advanced and, when `AcctInv` held too, the count of live blocks moved with `evBlocks` -/
structure Kept (e : Ev) (m : Mem) (e' : Ev) (m' : Mem) : Prop where
  net : NetInv e'
  tm : TmInv e' m'
  heads : 0 < (regImm e').length
  step : Step m m'
  acct : AcctInv e → AcctInv e' ∧ m'.live - m.live = evBlocks e' - evBlocks e

/-- a whole call on part `P` keeps the invariants of the other parts; that of part `P` is the caller's to show -/
theorem _root_.Percival.Proofs.EvRegQuiet.Call.kept {P : Part} {e e' : Ev} {m m' : Mem} (c : Call P 0 e m e' m')
    (hn : NetInv e) (ht : TmInv e m) (hh : 0 < (regImm e).length) (hn' : P = .net → NetInv e')
    (ht' : P = .tm → TmInv e' m') (hh' : P = .imm → 0 < (regImm e').length) : Kept e m e' m' := by
  refine ⟨?_, ?_, ?_, c.step, fun ha => ⟨c.pre ha, by rw [c.live fun _ => ha]; omega⟩⟩
  · by_cases hP : P = .net
    · exact hn' hP
    · obtain ⟨o1, o2, o3, o4⟩ := c.out.net hP
      exact netInv_congr _ _ hn o1 o2 o3 o4
  · by_cases hP : P = .tm
    · exact ht' hP
    · exact tmInv_congr _ _ m m' ht (c.out.tm hP).1 (c.out.tm hP).2 c.step.n
  · by_cases hP : P = .imm
    · exact hh' hP
    · rw [regImm_of_heads (c.out.imm hP).1]
      exact hh

theorem immReg_kept {e e' : Ev} {m m' : Mem} {id prio : Nat} {ok : Bool} (hn : NetInv e) (ht : TmInv e m)
    (hp : prio < (regImm e).length) (h : immReg e id prio m = (ok, e', m')) :
    Kept e m e' m' ∧ regTimers e' = regTimers e ∧ regNet e' = regNet e ∧
    (ok = true → (regImm e').flatten.Perm (id :: (regImm e).flatten) ∧ m'.refusals = m.refusals) ∧
    (ok = false → registry e' = registry e ∧ m.refusals < m'.refusals) := by
  have c := call_immReg (by simpa [regImm, registry] using hp) h
  have hT := regTimers_of_timers (c.out.tm nofun).2
  have hN := regNet_of_socks (c.out.net nofun).2.1
  obtain ⟨hf, hok⟩ := immReg_contract e id prio m ok e' m' h
  cases ok
  · obtain ⟨q, hrf⟩ := hf rfl
    exact ⟨c.kept hn ht (by omega) nofun nofun fun _ => by rw [regImm_of_heads q.same.1]; omega, hT, hN, nofun,
      fun _ => ⟨q.reg nofun, hrf⟩⟩
  · obtain ⟨e1, qid, rid, q, hrf, rfl⟩ := hok rfl
    have hI : regImm (immPut e1 prio ⟨qid, rid, id⟩) = (regImm e).modify prio (· ++ [id]) := by
      rw [regImm_immPut, regImm_of_heads q.same.1]
    exact ⟨c.kept hn ht (by omega) nofun nofun fun _ => by rw [hI, List.length_modify]; omega, hT, hN,
      fun _ => ⟨by rw [hI]; exact flatten_modify_perm id _ _ hp, hrf⟩, nofun⟩

theorem immCancel_kept {e : Ev} {m : Mem} {id : Nat} (hn : NetInv e) (ht : TmInv e m)
    (hh : 0 < (regImm e).length) (hreg : id ∈ (regImm e).flatten) (hnd : (regImm e).flatten.Nodup) :
    ∃ e' m', immCancel e id m = some (e', m') ∧ Kept e m e' m' ∧
      regImm e' = (regImm e).map (·.filter (· != id)) ∧ regTimers e' = regTimers e ∧ regNet e' = regNet e := by
  rcases immCancel_contract e id m with ⟨h, _⟩ | ⟨e', m', hc, _, q, _⟩
  · exact absurd hreg h
  · have c := call_immCancel hnd hc
    have hI : regImm e' = (regImm e).map (·.filter (· != id)) := by rw [regImm_of_heads q.same.1, regImm_immDrop]
    exact ⟨e', m', hc, c.kept hn ht hh nofun nofun fun _ => by rw [hI, List.length_map]; exact hh, hI,
      regTimers_of_timers (c.out.tm nofun).2, regNet_of_socks (c.out.net nofun).2.1⟩

theorem tmReg_kept {e e' : Ev} {m m' : Mem} {id : Nat} {usec now : Int} {ok : Bool} (hn : NetInv e) (ht : TmInv e m)
    (hh : 0 < (regImm e).length) (hid : id ∉ regTimers e) (h : tmReg e id usec now m = (ok, e', m')) :
    Kept e m e' m' ∧ regImm e' = regImm e ∧ regNet e' = regNet e ∧
    (ok = true → regTimers e' = id :: regTimers e ∧ m'.refusals = m.refusals) ∧
    (ok = false → registry e' = registry e ∧ (e.timers.length < 2^32 → m.refusals < m'.refusals)) := by
  have c := call_tmReg h
  obtain ⟨hinv, hf, hok⟩ := tmReg_contract e id usec now m ok e' m' h
  refine ⟨c.kept hn ht hh nofun (fun _ => hinv ht hid) nofun, regImm_of_heads (c.out.imm nofun).1,
    regNet_of_socks (c.out.net nofun).2.1, fun hr => ?_, fun hr => ⟨(hf hr).1.reg nofun, (hf hr).2.1 ht⟩⟩
  obtain ⟨e1, ent, _, _, q, hrf, rfl, rfl, _⟩ := hok hr
  exact ⟨by rw [regTimers_tmPut, regTimers_of_timers q.same.2.2], hrf⟩

theorem tmCancel_kept {e : Ev} {m : Mem} {id : Nat} (hn : NetInv e) (ht : TmInv e m)
    (hh : 0 < (regImm e).length) (hreg : id ∈ regTimers e) :
    ∃ e' m', tmCancel e id m = some (e', m') ∧ Kept e m e' m' ∧
      regTimers e' = (regTimers e).filter (· != id) ∧ regImm e' = regImm e ∧ regNet e' = regNet e := by
  obtain ⟨e', m', hc, hti, hrt, c⟩ := tmCancel_ok e id m ht hreg
  exact ⟨e', m', hc, c.kept hn ht hh nofun (fun _ => hti) nofun, hrt, regImm_of_heads (c.out.imm nofun).1,
    regNet_of_socks (c.out.net nofun).2.1⟩

theorem netReg_kept {e e' : Ev} {m m' : Mem} {id s : Nat} {w : Bool} {res : NetRes} (hn : NetInv e) (ht : TmInv e m)
    (hh : 0 < (regImm e).length) (h : netReg e id s w m = (res, e', m')) :
    Kept e m e' m' ∧ regImm e' = regImm e ∧ regTimers e' = regTimers e ∧
    (res = .ok → (regNet e').Perm ((s, w, id) :: regNet e) ∧ m'.refusals = m.refusals) ∧
    (res ≠ .ok → registry e' = registry e ∧
      (¬ netRegistered e s w → 24 * (s + 1) ≤ EArray.SIZE_MAX → m.refusals < m'.refusals)) := by
  have c := call_netReg h
  obtain ⟨_, c2, _, c4, _, c6⟩ := netReg_contract e id s w m res e' m' h
  exact ⟨c.kept hn ht hh (fun _ => (c6 hn).1) nofun nofun, regImm_of_heads (c.out.imm nofun).1,
    regTimers_of_timers (c.out.tm nofun).2, fun hr => ⟨netReg_perm hn (hr ▸ h), c2 (by rw [hr]; nofun)⟩,
    fun hr => ⟨(c4 hr).reg fun _ hs => (hn.uninit hs).1, netReg_fail_refused hn h hr⟩⟩

theorem netCancel_kept {e e' : Ev} {m m' : Mem} {id s : Nat} {w : Bool} {res : NetRes} (hn : NetInv e) (ht : TmInv e m)
    (hh : 0 < (regImm e).length) (hreg : (s, w, id) ∈ regNet e)
    (h : netCancel e s w m = (res, e', m')) :
    res = .ok ∧ Kept e m e' m' ∧ (regNet e).Perm ((s, w, id) :: regNet e') ∧ regTimers e' = regTimers e ∧
    regImm e' = regImm e ∧ (e.recPool.stacklen < e.recPool.allocsize → m'.n = m.n) := by
  have c := call_netCancel h
  have hok := netCancel_registered e s id w m hn hreg
  rw [h] at hok
  exact ⟨hok.1, c.kept hn ht hh (fun _ => hok.2.1) nofun nofun, hok.2.2.1, regTimers_of_timers (c.out.tm nofun).2,
    regImm_of_heads (c.out.imm nofun).1, hok.2.2.2⟩

/-- with no network registration the pollfd array is empty: an entry belongs to a descriptor with a reader
or a writer -/
theorem fds_nil_of_no_reg {e : Ev} (hn : NetInv e) (h1 : regNet e = []) : e.fds = [] := by
  cases hf : e.fds with
  | nil => rfl
  | cons p rest =>
    exfalso
    obtain ⟨fd, bits⟩ := p
    obtain ⟨rec, hs, hp⟩ := hn.back 0 fd bits (by rw [hf]; rfl)
    have hb := (hn.polled fd rec 0 hs hp).2
    have hc := (Percival.Proofs.EvRegNet.evBits_cases rec).2.2.2
    have hmem : ∀ w id, (fd, w, id) ∉ regNet e := by intro w id; rw [h1]; simp
    cases hr : rec.reader with
    | some x => exact hmem false x.2 ((Percival.Proofs.EvRegNet.mem_regNet e fd false x.2).2 ⟨rec, x.1, hs, by simp [slot, hr]⟩)
    | none =>
      cases hw : rec.writer with
      | some x => exact hmem true x.2 ((Percival.Proofs.EvRegNet.mem_regNet e fd true x.2).2 ⟨rec, x.1, hs, by simp [slot, hw]⟩)
      | none => exact hb (hc.2 ⟨hr, hw⟩)

/-- `events_timer_shutdown` -/
def sdTq (e : Ev) (m : Mem) : Ev × Mem :=
  match e.tq with
  | some t => if (Heap.getmin t.q.h).isNone then ({ e with tq := none }, HeapAlloc.tqFree t m) else (e, m)
  | none => (e, m)

/-- `events_network_shutdown` -/
def sdNet (e1 : Ev) (m1 : Mem) : Ev × Mem :=
  match e1.sAlloc with
  | some sal =>
    if e1.fds.isEmpty then
      ({ e1 with sAlloc := none, socks := [], fdsAlloc := 0 },
       EArray.free (sShape e1.socks.length sal) (m1.free (e1.fdsAlloc == 0)))
    else (e1, m1)
  | none => (e1, m1)

theorem shutdown_snd (e : Ev) (m : Mem) :
    (shutdown e m).2 =
      (MPool.atexit (sdNet (sdTq e m).1 (sdTq e m).2).1.qPool
        (MPool.atexit (sdNet (sdTq e m).1 (sdTq e m).2).1.recPool (sdNet (sdTq e m).1 (sdTq e m).2).2).2).2 := rfl

theorem shutdown_acct (e : Ev) (m : Mem) (hn : NetInv e) (ht : TmInv e m) (ha : AcctInv e)
    (h1 : regNet e = []) (h2 : regTimers e = []) (h3 : (regImm e).flatten = []) :
    (shutdown e m).2.live = m.live - evBlocks e := by
  have hfds := fds_nil_of_no_reg hn h1
  have htm : e.timers = [] := by simpa [regTimers, registry] using h2
  rw [shutdown_snd]
  -- the timer queue, if it exists, is empty and is freed; nothing else changes
  obtain ⟨m1, hA, lA⟩ : ∃ m1, sdTq e m = ({ e with tq := none }, m1) ∧ m1.live = m.live - tqBlocks e.tq := by
    unfold sdTq
    cases htq : e.tq with
    | none => exact ⟨m, by show (e, m) = ({ e with tq := none }, m); rw [← htq], by simp [tqBlocks]⟩
    | some t =>
      have hsz : t.q.h.a.size = 0 := by rw [ht.size htq, htm]; rfl
      have hmin : (Heap.getmin t.q.h).isNone = true := by
        simp only [Heap.getmin]
        rw [Array.getElem?_eq_none (by omega)]; rfl
      simp only [hmin, if_true]
      exact ⟨_, rfl, tqFree_live t m⟩
  rw [hA]
  dsimp only
  -- the socket list and the pollfd array, if they exist, are freed; the pools are not touched
  obtain ⟨e2, m2, hB, b1, b2, lB⟩ : ∃ e2 m2, sdNet { e with tq := none } m1 = (e2, m2) ∧ e2.recPool = e.recPool ∧
      e2.qPool = e.qPool ∧ m2.live = m1.live - sBlocks e.sAlloc - bb e.fdsAlloc := by
    unfold sdNet
    dsimp only
    cases hsa : e.sAlloc with
    | none => exact ⟨_, _, rfl, rfl, rfl, by rw [(ha hsa).2]; simp [sBlocks, bb]⟩
    | some sal =>
      have he : e.fds.isEmpty = true := by rw [hfds]; rfl
      simp only [he, if_true]
      refine ⟨_, _, rfl, rfl, rfl, ?_⟩
      have hsh : (sShape e.socks.length sal).alloc = sal := rfl
      rw [(Percival.Proofs.EArray.free_calls _ _).live, bufBlocks_eq, hsh, free_live]
      simp only [sBlocks, bb]
      by_cases h0 : e.fdsAlloc = 0 <;> simp [h0] <;> omega
  rw [hB]
  dsimp only
  rw [(Percival.Proofs.MPool.atexit_calls _ _).live, (Percival.Proofs.MPool.atexit_calls _ _).live, cached_eq, cached_eq, b1, b2, lB, lA]
  simp only [evBlocks, h1, h2, h3, List.length_nil]
  omega

end Percival.Proofs.EvRegAcct
