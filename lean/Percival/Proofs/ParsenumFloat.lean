import Percival.Model.ParsenumFloat
import Percival.Proofs.FloatNumeral
import Percival.Proofs.IeeeStrtod
import Percival.Proofs.Parsenum
/-! Helper lemmas for C16: `parsenum_float` and the macros for floating-point targets, over the `strtod` model. -/
namespace Percival.Proofs.ParsenumFloat
open Percival.Spec.Numeral Percival.Spec.FloatNumeral Percival.Model.Strto Percival.Model.Strtod Percival.Model.ParsenumFloat
open Percival.Proofs.FloatNumeral
open Percival.Model.Parsenum (malformed)
open Percival.Proofs.Parsenum (malformed_pos not_malformed_iff)
open Percival.Spec.Ieee Percival.Proofs.Ieee

/-- `((*x = 1, *x /= 2) > 0)` holds for `float` and `double` -/
theorem probeFloat_true (t : FTy) : probeFloat t = true := by
  cases t <;> decide +kernel

theorem ex6_float (t : FTy) (s : List UInt8) (min max : Fl) (tr : Bool) :
    parsenumEx6 t s min max 0 tr = .done (fstore t (strtod s).val)
      (if malformed (strtod s).endOff s.length tr = true then .einval
       else if Fl.lt (strtod s).val min = true ∨ Fl.lt max (strtod s).val = true then .erange
       else (strtod s).errno) := by
  simp only [parsenumEx6, probeFloat_true, if_true, parsenumFloat]
  split
  · rfl
  · split <;> rfl

theorem ex6_float_abort (t : FTy) (s : List UInt8) (min max : Fl) (base : Nat) (tr : Bool) (hb : base ≠ 0) :
    parsenumEx6 t s min max base tr = .abort := by
  simp [parsenumEx6, probeFloat_true, hb]

theorem nan_not_lt (x : Fl) : Fl.lt .nan x = false ∧ Fl.lt x .nan = false := by
  cases x <;> simp [Fl.lt]

theorem toDouble_errno (neg : Bool) (sub : Subject) : (toDouble neg sub).2 ≠ .einval := by
  unfold toDouble
  split
  · simp
  · simp
  · simp only
    split <;> simp

theorem strtod_errno (s : List UInt8) : (strtod s).errno ≠ .einval := by
  unfold strtod
  split
  · simp
  · exact toDouble_errno _ _

theorem strtod_of_scanF {s : List UInt8} {neg : Bool} {sub : Subject} {e : Nat} (h : scanF s = some (neg, sub, e)) :
    strtod s = { val := (toDouble neg sub).1, endOff := e, errno := (toDouble neg sub).2 } := by
  simp [strtod, h]

theorem strtod_of_none {s : List UInt8} (h : scanF s = none) :
    strtod s = { val := .fin false 0, endOff := 0, errno := .ok } := by
  simp [strtod, h]

theorem faccepts_unique {tr : Bool} {s : List UInt8} {neg neg' : Bool} {sub sub' : Subject}
    (h1 : FAccepts tr s neg sub) (h2 : FAccepts tr s neg' sub') : neg = neg' ∧ sub = sub' := by
  obtain ⟨e, hs, _⟩ := (faccepts_iff_scan tr s neg sub).mp h1
  obtain ⟨e', hs', _⟩ := (faccepts_iff_scan tr s neg' sub').mp h2
  rw [hs] at hs'; injection hs' with h; simp only [Prod.mk.injEq] at h; exact ⟨h.1, h.2.1⟩

theorem fanswers : Answers FAnswer.ok .einval .erange := ⟨fun _ _ h => FAnswer.ok.inj h, nofun, nofun, nofun⟩

/-- what a string is accepted as: sign, what the numeral denotes, and the `double` that converts to -/
def FAcc (tr : Bool) (s : List UInt8) (x : Bool × Subject × Fl) : Prop :=
  FAccepts tr s x.1 x.2.1 ∧ Converts x.1 x.2.1 x.2.2

theorem facc_iff {tr : Bool} {s : List UInt8} {neg : Bool} {sub : Subject} (h : FAccepts tr s neg sub)
    (y : Bool × Subject × Fl) : FAcc tr s y ↔ y = (neg, sub, (toDouble neg sub).1) := by
  have hn := faccepts_nonneg h
  constructor
  · obtain ⟨n, su, d⟩ := y
    rintro ⟨h1, h2⟩
    obtain ⟨rfl, rfl⟩ := faccepts_unique h1 h
    exact congrArg (fun d => (_, _, d)) (converts_unique h2 (toDouble_converts _ _ hn))
  · rintro rfl; exact ⟨h, toDouble_converts _ _ hn⟩

/-- The macro's answer for a floating-point target, against the specification alone: what is accepted is a numeral
    of the grammar with its correctly rounded `double`; acceptable is "no range error and not outside the bounds";
    delivered is that `double` stored into the target. -/
theorem float_governed (t : FTy) (s : List UInt8) (min max : Fl) (tr : Bool) :
    Governed FAnswer.ok .einval .erange (FAcc tr s)
      (fun x => ¬ ConvRangeError x.1 x.2.1 ∧ Fl.lt x.2.2 min = false ∧ Fl.lt max x.2.2 = false)
      (fun x => fstore t x.2.2) (parsenumEx6 t s min max 0 tr).answer := by
  rw [ex6_float]
  cases hs : scanF s with
  | none =>
    refine Or.inl ⟨fun ⟨x, h, _⟩ => ?_, by rw [strtod_of_none hs]; rfl⟩
    obtain ⟨e, he, -⟩ := (faccepts_iff_scan tr s _ _).mp h
    rw [hs] at he; cases he
  | some r =>
    obtain ⟨neg, sub, e⟩ := r
    have hpos := scanF_endOff_pos hs
    rw [strtod_of_scanF hs]
    by_cases hm : tr = true ∨ e = s.length
    · have hacc : FAccepts tr s neg sub := (faccepts_iff_scan tr s neg sub).mpr ⟨e, hs, hm⟩
      have hn := faccepts_nonneg hacc
      refine Or.inr ⟨_, facc_iff hacc, ?_⟩
      have hmal : ¬ malformed e s.length tr = true :=
        fun h => (not_malformed_iff tr _ _).mpr hm ((malformed_pos hpos _ tr).mp h)
      rw [if_neg hmal]
      simp only [← toDouble_ok_iff neg sub hn]
      by_cases hb : Fl.lt (toDouble neg sub).1 min = true ∨ Fl.lt max (toDouble neg sub).1 = true
      · rw [if_pos hb]
        exact Or.inr ⟨fun h => by rcases hb with hb | hb <;> simp [h.2.1, h.2.2] at hb, rfl⟩
      · rw [if_neg hb]
        have hb' : Fl.lt (toDouble neg sub).1 min = false ∧ Fl.lt max (toDouble neg sub).1 = false := by simpa using hb
        cases he2 : (toDouble neg sub).2 with
        | ok => exact Or.inl ⟨⟨rfl, hb'.1, hb'.2⟩, rfl⟩
        | einval => exact absurd he2 (toDouble_errno neg sub)
        | erange => exact Or.inr ⟨fun h => (nomatch h.1), rfl⟩
    · refine Or.inl ⟨fun ⟨x, h, _⟩ => ?_, ?_⟩
      · obtain ⟨e', he, htr⟩ := (faccepts_iff_scan tr s _ _).mp h
        rw [hs] at he; cases he
        exact hm htr
      · have hmal : malformed e s.length tr = true :=
          (malformed_pos hpos _ tr).mpr (Classical.not_not.mp fun h => hm ((not_malformed_iff tr _ _).mp h))
        rw [if_pos hmal]
        rfl

/-- storing the `double` into the target, said without the model's rounding function -/
theorem fstore_iff {neg : Bool} {sub : Subject} {d : Fl} (hc : Converts neg sub d) (t : FTy) (v : Fl) :
    v = fstore t d ↔ (t = .f64 → v = d) ∧ (t = .f32 → Narrows d v) := by
  have hn := toBinary32_narrows d (converts_nonneg hc)
  cases t
  · exact ⟨fun h => ⟨nofun, fun _ => h ▸ hn⟩, fun h => narrows_unique (h.2 rfl) hn⟩
  · exact ⟨fun h => ⟨fun _ => h, nofun⟩, fun h => h.1 rfl⟩

end Percival.Proofs.ParsenumFloat
