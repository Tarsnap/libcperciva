import Percival.Model.NetbufStep
/-!
# C07 helper lemmas: the monitor's stream functions as functions of a token stream

The monitor (`Spec/NetbufMon.lean`) keeps the scripted stream as a list of items (`data d`, `eof`, `err`) with the
chunking of the script; the model (`Model/NetbufStep.lean`) keeps part of it in the reader's buffer and the rest
in the kernel queue, chunked by what `recv` could take.  Both denote the same *token stream* (bytes with
end-of-stream / error marks in between); `dataBefore`, `takeData`, `firstMark`, `dropMark`, `dropData` are
functions of that token stream.
-/
namespace Percival.Proofs.NetbufMonTok
open Percival.Spec.ByteStream Percival.Spec.NetbufMon Percival.Model.NetbufStep

inductive Tok where
  | byte (b : UInt8)
  | eof
  | err
  deriving DecidableEq

def toks : List RItem → List Tok
  | [] => []
  | .data d :: rest => d.map .byte ++ toks rest
  | .eof :: rest => .eof :: toks rest
  | .err :: rest => .err :: toks rest

/-- the token stream of the scripted kernel answers (`EAGAIN` answers carry nothing) -/
def qtoks : List KAns → List Tok
  | [] => []
  | .data d :: rest => d.map .byte ++ qtoks rest
  | .eagain :: rest => qtoks rest
  | .eof :: rest => .eof :: qtoks rest
  | .err :: rest => .err :: qtoks rest

/-- the bytes before the first mark -/
def lead : List Tok → Bytes
  | .byte b :: t => b :: lead t
  | _ => []

def markOf : List Tok → Option Int
  | .byte _ :: t => markOf t
  | .eof :: _ => some 1
  | .err :: _ => some (-1)
  | [] => none

def dropMarkT : List Tok → List Tok
  | .byte b :: t => .byte b :: dropMarkT t
  | .eof :: t => t
  | .err :: t => t
  | [] => []

theorem lead_bytes (v : Bytes) (t : List Tok) : lead (v.map .byte ++ t) = v ++ lead t := by
  induction v with
  | nil => rfl
  | cons b v ih => simp [lead, ih]

theorem markOf_bytes (v : Bytes) (t : List Tok) : markOf (v.map .byte ++ t) = markOf t := by
  induction v with
  | nil => rfl
  | cons b v ih => simp [markOf, ih]

theorem dropMarkT_bytes (v : Bytes) (t : List Tok) : dropMarkT (v.map .byte ++ t) = v.map .byte ++ dropMarkT t := by
  induction v with
  | nil => rfl
  | cons b v ih => simp [dropMarkT, ih]

theorem drop_bytes (v : Bytes) (t : List Tok) (n : Nat) (h : n ≤ v.length) :
    (v.map Tok.byte ++ t).drop n = (v.drop n).map .byte ++ t := by
  rw [List.drop_append_of_le_length (by simpa using h), List.map_drop]

theorem toks_append (l1 l2 : List RItem) : toks (l1 ++ l2) = toks l1 ++ toks l2 := by
  induction l1 with
  | nil => rfl
  | cons x l ih => cases x <;> simp [toks, ih]

theorem qtoks_append (l1 l2 : List KAns) : qtoks (l1 ++ l2) = qtoks l1 ++ qtoks l2 := by
  induction l1 with
  | nil => rfl
  | cons x l ih => cases x <;> simp [qtoks, ih]

theorem dataBefore_eq (l : List RItem) : dataBefore l = (lead (toks l)).length := by
  induction l with
  | nil => rfl
  | cons x l ih =>
    cases x with
    | data d => simp [dataBefore, toks, lead_bytes, ih]
    | eof => simp [dataBefore, toks, lead]
    | err => simp [dataBefore, toks, lead]

theorem takeData_eq (l : List RItem) : ∀ n, takeData n l = (lead (toks l)).take n := by
  induction l with
  | nil => intro n; simp [takeData, toks, lead]
  | cons x l ih =>
    intro n
    cases x with
    | data d =>
      simp only [takeData, toks, lead_bytes]
      split
      · rename_i h
        rw [List.take_append_of_le_length h]
      · rename_i h
        rw [List.take_append, ih]
        have : List.take n d = d := List.take_of_length_le (by omega)
        rw [this]
    | eof => simp [takeData, toks, lead]
    | err => simp [takeData, toks, lead]

theorem firstMark_eq (l : List RItem) : firstMark l = markOf (toks l) := by
  induction l with
  | nil => rfl
  | cons x l ih =>
    cases x with
    | data d => simp [firstMark, toks, markOf_bytes, ih]
    | eof => simp [firstMark, toks, markOf]
    | err => simp [firstMark, toks, markOf]

theorem toks_dropMark (l : List RItem) : toks (dropMark l) = dropMarkT (toks l) := by
  induction l with
  | nil => rfl
  | cons x l ih =>
    cases x with
    | data d => simp [dropMark, toks, dropMarkT_bytes, ih]
    | eof => simp [dropMark, toks, dropMarkT]
    | err => simp [dropMark, toks, dropMarkT]

theorem toks_dropData (l : List RItem) : ∀ n, n ≤ dataBefore l → toks (dropData n l) = (toks l).drop n := by
  induction l with
  | nil => intro n h; simp [dataBefore] at h; subst h; simp [dropData, toks]
  | cons x l ih =>
    intro n h
    cases x with
    | data d =>
      simp only [dataBefore] at h
      simp only [dropData, toks]
      split
      · rename_i hn
        simp only [toks]
        rw [drop_bytes _ _ _ (by omega)]
      · rename_i hn
        rw [ih _ (by omega), List.drop_append]
        simp only [List.length_map]
        have : List.drop n (List.map Tok.byte d) = [] := List.drop_eq_nil_of_le (by simp; omega)
        rw [this, List.nil_append]
    | eof => simp [dataBefore] at h; subst h; simp [dropData]
    | err => simp [dataBefore] at h; subst h; simp [dropData]

end Percival.Proofs.NetbufMonTok
