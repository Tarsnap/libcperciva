import Percival.Spec.SigV4
/-!
# Byte strings given as string literals

A string literal is `String.ofList` of its characters, and `String.toList_ofList` gives the
characters back.  Evaluating `"…".toList` instead makes the kernel run the UTF-8 decoder on the
encoded literal, at a cost that grows with the square of its length.  `ascii_ofList` is stated for
`String.ofList l`, which `rw` unifies with a literal (`simp` does not); `ascii_append` first takes a
concatenation of literals apart.
-/
namespace Percival
open Percival.Spec

theorem Spec.SigV4.ascii_ofList (l : List Char) :
    SigV4.ascii (String.ofList l) = l.map fun c => UInt8.ofNat c.toNat := by
  rw [SigV4.ascii, String.toList_ofList]

theorem Spec.SigV4.ascii_append (s t : String) : SigV4.ascii (s ++ t) = SigV4.ascii s ++ SigV4.ascii t := by
  rw [SigV4.ascii, String.toList_append, List.map_append]; rfl

end Percival
