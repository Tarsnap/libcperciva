import Percival.Model.EArray
import Percival.Proofs.MemCalls
/-!
# The elastic-array model: invariant, `resize`, abstraction (C12, C14)

The invariant `Inv`, the arithmetic of `wantAlloc`, reading and writing inside a block, the three functions of the
allocation oracle; `Acct`, the oracle's side of an array function, which needs no invariant (`resize_acct`,
`resizeRec_acct`: blocks, refusal count, size after success, "a failure leaves the array alone"), and the data side
under `Inv` (`resize_spec`, `resizeRec_spec`); the abstraction `abs`, and what an answer admitted by the ideal array
implies.  The operations built on `resize` are in `Proofs/EArrayStep.lean`.
-/
namespace Percival.Proofs.EArray
open Percival.Model Percival.Model.EArray Percival.Spec.DS
open Percival.Proofs.MemCalls (Calls calls_malloc calls_realloc calls_free)

/-- closes goals that are `True` or a reflexive equation, whichever `simp only` left behind -/
macro "triv" : tactic => `(tactic| first | trivial | rfl)

/-- the representation invariant of `struct elasticarray` -/
structure Inv (a : EA) : Prop where
  le : a.size ≤ a.alloc
  len : a.buf.length = a.alloc
  lt : a.alloc < SZ

/-- "within a factor 4": a quarter of the allocation does not exceed the contents -/
def Tight (a : EA) : Prop := a.alloc / 4 ≤ a.size

theorem SZ_eq : SZ = 18446744073709551616 := by decide
theorem SIZE_MAX_eq : EArray.SIZE_MAX = 18446744073709551615 := by decide
theorem SPEC_SIZE_MAX_eq : Percival.Spec.DS.SIZE_MAX = 18446744073709551615 := by decide

/-- the allocation `resize` settles on holds the new size, is a `size_t` and is within a factor 4 of the size -/
theorem wantAlloc_spec (al n : Nat) (hal : al < SZ) :
    n ≤ wantAlloc al n ∧ (n < SZ → wantAlloc al n < SZ ∧ wantAlloc al n / 4 ≤ n) := by
  unfold wantAlloc; simp only [SZ_eq] at *; split <;> (try split) <;> omega

/-- `assert(nsize == 0)` in `resize` cannot fire -/
theorem wantAlloc_zero (al n : Nat) (hal : al < SZ) (h : wantAlloc al n = 0) : n = 0 := by
  have := (wantAlloc_spec al n hal).1; omega

/-- a shrinking `realloc` is requested only when the array is below a quarter of its allocation -/
theorem wantAlloc_shrinks (al n : Nat) (hn : n ≤ al) (h : wantAlloc al n ≠ al) : al / 4 > n := by
  unfold wantAlloc at h; split at h
  · omega
  · split at h <;> omega

theorem fit_length (l : List UInt8) (n : Nat) : (fit l n).length = n := by
  simp [fit, List.length_take]; omega

theorem fit_take (l : List UInt8) (n k : Nat) (hk : k ≤ n) (hl : k ≤ l.length) : (fit l n).take k = l.take k := by
  simp only [fit]
  rw [List.take_append_of_le_length (by simp [List.length_take]; omega), List.take_take]
  congr 1; omega

theorem writeAt_length {b : List UInt8} {off : Nat} {src b' : List UInt8} (h : writeAt b off src = some b') :
    b'.length = b.length := by
  unfold writeAt at h; split at h
  · cases h; simp [List.length_take, List.length_drop]; omega
  · cases h

theorem writeAt_some {b : List UInt8} {off : Nat} {src : List UInt8} (h : off + src.length ≤ b.length) :
    writeAt b off src = some (b.take off ++ src ++ b.drop (off + src.length)) := by
  simp [writeAt, h]

theorem writeAt_drop {b : List UInt8} {off : Nat} {src b' : List UInt8} (h : writeAt b off src = some b') :
    b'.drop (off + src.length) = b.drop (off + src.length) := by
  unfold writeAt at h; split at h
  · cases h
    rw [List.drop_append_of_le_length (by simp [List.length_take]; omega)]
    rw [List.drop_of_length_le (by simp [List.length_take]; omega)]
    simp
  · cases h

theorem pair_eta {α β : Type} (p : α × β) {x : α} (h : p.1 = x) : p = (x, p.2) := by
  cases p; simp_all

theorem malloc_ok {m : Mem} {sz : Nat} (h : (m.malloc sz).1 = true) :
    (m.malloc sz).2.refusals = m.refusals ∧ (m.malloc sz).2.live = m.live + 1 ∧
    (m.malloc sz).2.f = m.f ∧ (m.malloc sz).2.n = m.n + 1 := by
  simp only [Mem.malloc] at *; simp [h]

theorem malloc_fail {m : Mem} {sz : Nat} (h : (m.malloc sz).1 = false) :
    (m.malloc sz).2.refusals = m.refusals + 1 ∧ (m.malloc sz).2.live = m.live ∧
    (m.malloc sz).2.f = m.f ∧ (m.malloc sz).2.n = m.n + 1 := by
  simp only [Mem.malloc] at *; simp [h]

theorem realloc_ok {m : Mem} {w : Bool} {sz : Nat} (h : (m.realloc w sz).1 = true) :
    (m.realloc w sz).2.refusals = m.refusals ∧ (m.realloc w sz).2.live = m.live + (if w then 1 else 0) ∧
    (m.realloc w sz).2.f = m.f ∧ (m.realloc w sz).2.n = m.n + 1 := by
  simp only [Mem.realloc] at *; cases w <;> simp [h]

theorem realloc_fail {m : Mem} {w : Bool} {sz : Nat} (h : (m.realloc w sz).1 = false) :
    (m.realloc w sz).2.refusals = m.refusals + 1 ∧ (m.realloc w sz).2.live = m.live ∧
    (m.realloc w sz).2.f = m.f ∧ (m.realloc w sz).2.n = m.n + 1 := by
  simp only [Mem.realloc] at *; simp [h]

theorem free_facts (m : Mem) (isNull : Bool) :
    (m.free isNull).refusals = m.refusals ∧ (m.free isNull).live = m.live - (if isNull then 0 else 1) ∧
    (m.free isNull).f = m.f ∧ (m.free isNull).n = m.n := by
  cases isNull <;> simp [Mem.free]

/-- number of heap blocks hanging off the structure (its buffer, if any) -/
def bufBlocks (a : EA) : Int := if a.alloc = 0 then 0 else 1

/-- the oracle's side of a function that takes the array `a` under `m` to `a'` under `m'`: the blocks its requests and
releases leave allocated follow the array's buffer, and a buffer that grew was granted (so it is below any bound the
oracle keeps).  No invariant is needed for it. -/
structure Acct (a : EA) (m : Mem) (a' : EA) (m' : Mem) : Prop where
  calls : Calls m m' (bufBlocks a' - bufBlocks a)
  bound : ∀ c, (∀ i sz, m.f i sz = true → sz ≤ c) → a.alloc ≤ c → a'.alloc ≤ c

namespace Acct
variable {a a' a'' : EA} {m m' m'' : Mem}

theorem refl (a : EA) (m : Mem) : Acct a m a m := ⟨(Calls.refl m).cast (by omega), fun _ _ h => h⟩

theorem trans (h1 : Acct a m a' m') (h2 : Acct a' m' a'' m'') : Acct a m a'' m'' :=
  ⟨(h1.calls.trans h2.calls).cast (by omega),
   fun c hc h => h2.bound c (fun i sz => h1.calls.step.f ▸ hc i sz) (h1.bound c hc h)⟩

/-- the array's data changed, its buffer did not move -/
theorem data (h : Acct a m a' m') (he : a''.alloc = a'.alloc) : Acct a m a'' m' :=
  ⟨h.calls.cast (by simp only [bufBlocks, he]), fun c hc hh => he ▸ h.bound c hc hh⟩

theorem live (h : Acct a m a' m') : m'.live + bufBlocks a = m.live + bufBlocks a' := by
  have := h.calls.live; omega

theorem release (m : Mem) (h : a'.alloc = 0) : Acct a m a' (m.free (a.alloc == 0)) :=
  ⟨(calls_free m _).cast (by by_cases ha : a.alloc = 0 <;> simp [bufBlocks, ha, h]), fun _ _ _ => h ▸ Nat.zero_le _⟩

theorem granted (hr : (m.realloc (a.alloc == 0) a'.alloc).1 = true) (h : a'.alloc ≠ 0) :
    Acct a m a' (m.realloc (a.alloc == 0) a'.alloc).2 :=
  ⟨(calls_realloc m _ _).cast (by rw [hr]; by_cases ha : a.alloc = 0 <;> simp [bufBlocks, ha, h]), fun _ hc _ => hc _ _ hr⟩

theorem refused {w : Bool} {sz : Nat} (hr : (m.realloc w sz).1 = false) : Acct a m a (m.realloc w sz).2 :=
  ⟨(calls_realloc m w sz).cast (by simp [hr]), fun _ _ h => h⟩

end Acct

/-- the oracle's side of `resize`; a refused request is counted and leaves the array alone -/
theorem resize_acct (a : EA) (n : Nat) (m : Mem) :
    Acct a m (resize a n m).2.1 (resize a n m).2.2 ∧
    (resize a n m).2.2.refusals = m.refusals + (if (resize a n m).1 then 0 else 1) ∧
    ((resize a n m).1 = true → (resize a n m).2.1.size = n) ∧
    ((resize a n m).1 = false → (resize a n m).2.1 = a) := by
  unfold resize
  simp only
  by_cases h0 : wantAlloc a.alloc n = 0
  · rw [if_pos h0]; exact ⟨.release m rfl, (free_facts _ _).1, fun _ => rfl, nofun⟩
  · by_cases h1 : wantAlloc a.alloc n ≠ a.alloc
    · rw [if_neg h0, if_pos h1]
      cases hr : (m.realloc (a.alloc == 0) (wantAlloc a.alloc n)).1
      · rw [pair_eta _ hr]; exact ⟨.refused hr, (realloc_fail hr).1, nofun, fun _ => rfl⟩
      · rw [pair_eta _ hr]
        exact ⟨.granted (a' := ⟨n, _, _⟩) hr h0, (realloc_ok hr).1, fun _ => rfl, nofun⟩
    · rw [if_neg h0, if_neg h1]; exact ⟨(Acct.refl a m).data rfl, rfl, fun _ => rfl, nofun⟩

/-- the data side of `resize` (the oracle's side is `resize_acct`) -/
theorem resize_spec (a : EA) (n : Nat) (m : Mem) (h : Inv a) (hn : n < SZ) :
    Inv (resize a n m).2.1 ∧
    ((resize a n m).1 = true → Tight (resize a n m).2.1 ∧
      (resize a n m).2.1.buf.take (min a.size n) = a.buf.take (min a.size n)) ∧
    ((resize a n m).1 = false → n ≤ a.alloc → a.alloc / 4 > n) := by
  obtain ⟨hle, hlen, hlt⟩ := h
  obtain ⟨hge, hw⟩ := wantAlloc_spec a.alloc n hlt
  obtain ⟨hlt', htight⟩ := hw hn
  unfold resize
  by_cases h0 : wantAlloc a.alloc n = 0
  · have hn0 : n = 0 := by omega
    simp only [h0, if_true]
    exact ⟨⟨by simp [hn0], by simp, by simp [SZ_eq]⟩, fun _ => ⟨by simp [Tight], by simp [hn0]⟩, nofun⟩
  · simp only [h0, if_false]
    by_cases hne : wantAlloc a.alloc n = a.alloc
    · simp only [hne, ne_eq, not_true_eq_false, if_false]
      exact ⟨⟨by simp; omega, hlen, hlt⟩, fun _ => ⟨by simp only [Tight]; omega, by simp⟩, nofun⟩
    · simp only [ne_eq, hne, not_false_eq_true, if_true]
      cases hr : (m.realloc (a.alloc == 0) (wantAlloc a.alloc n)).1
      · rw [pair_eta _ hr]
        exact ⟨⟨hle, hlen, hlt⟩, nofun, fun _ hna => wantAlloc_shrinks a.alloc n hna hne⟩
      · rw [pair_eta _ hr]
        exact ⟨⟨hge, fit_length _ _, hlt'⟩, fun _ => ⟨htight, fit_take _ _ _ (by omega) (by omega)⟩, nofun⟩

theorem abs_length {a : EA} (h : Inv a) : (abs a).bytes.length = a.size := by
  simp [abs, List.length_take, h.len]; exact Nat.min_eq_left h.le

theorem shape_abs {a : EA} (h : Inv a) (st : St) (m m' : Mem) (out : Option (List UInt8 × Nat)) :
    eaCheck (abs a) (ans st a m m' out) = some (abs a) := by
  have hl := abs_length h
  have := h.le
  simp only [eaCheck, eaShape, ans, hl, tight]
  by_cases ht : a.alloc / 4 ≤ a.size <;> simp [abs, ht, this] <;> omega

theorem abs_tight {a : EA} (ht : Tight a) : (abs a).loose = false := by
  simp only [abs, Tight] at *; simp; omega

/-- `nrec > SIZE_MAX / reclen` is exactly "the product does not fit `size_t`" -/
theorem guard_iff (n : Nat) (r : RecLen) : n > EArray.SIZE_MAX / r.val ↔ n * r.val > EArray.SIZE_MAX := by
  have := r.property
  constructor
  · intro h; exact (Nat.div_lt_iff_lt_mul this).1 h
  · intro h; exact (Nat.div_lt_iff_lt_mul this).2 h

theorem SIZE_MAX_succ : EArray.SIZE_MAX + 1 = SZ := by decide

theorem guard_mod {n : Nat} {r : RecLen} (hg : ¬ n > EArray.SIZE_MAX / r.val) :
    n * r.val ≤ EArray.SIZE_MAX ∧ n * r.val % SZ = n * r.val := by
  have hle : n * r.val ≤ EArray.SIZE_MAX := Nat.le_of_not_gt fun h' => hg ((guard_iff n r).2 h')
  exact ⟨hle, Nat.mod_eq_of_lt (by have := SIZE_MAX_succ; omega)⟩

theorem resizeRec_acct (a : EA) (n : Nat) (r : RecLen) (m : Mem) :
    Acct a m (resizeRec a n r m).2.1 (resizeRec a n r m).2.2 ∧
    ((resizeRec a n r m).1 = true →
      (resizeRec a n r m).2.2.refusals = m.refusals ∧ (resizeRec a n r m).2.1.size = n * r.val) ∧
    ((resizeRec a n r m).1 = false → (resizeRec a n r m).2.1 = a ∧
      (m.refusals < (resizeRec a n r m).2.2.refusals ∨ n > EArray.SIZE_MAX / r.val)) := by
  unfold resizeRec
  split
  · rename_i hg; exact ⟨.refl _ _, nofun, fun _ => ⟨rfl, .inr hg⟩⟩
  · rename_i hg
    obtain ⟨ac, hrf, hsz, hfail⟩ := resize_acct a ((n * r.val) % SZ) m
    exact ⟨ac, fun hok => ⟨by rw [hrf, hok]; rfl, by rw [hsz hok, (guard_mod hg).2]⟩,
      fun hf => ⟨hfail hf, .inl (by rw [hrf, hf]; exact Nat.lt_succ_self _)⟩⟩

theorem resizeRec_spec (a : EA) (n : Nat) (r : RecLen) (m : Mem) (h : Inv a) :
    Inv (resizeRec a n r m).2.1 ∧
    ((resizeRec a n r m).1 = true →
      n * r.val ≤ EArray.SIZE_MAX ∧
      (resizeRec a n r m).2.1.size = n * r.val ∧ Tight (resizeRec a n r m).2.1 ∧
      (resizeRec a n r m).2.1.buf.take (min a.size (n * r.val)) = a.buf.take (min a.size (n * r.val))) := by
  unfold resizeRec
  by_cases hg : n > EArray.SIZE_MAX / r.val
  · simp only [hg, if_true]
    exact ⟨h, nofun⟩
  · simp only [hg, if_false]
    obtain ⟨hle, hmod⟩ := guard_mod hg
    rw [hmod]
    have hs := resize_spec a (n * r.val) m h (by have := SIZE_MAX_succ; omega)
    exact ⟨hs.1, fun hok => ⟨hle, (resize_acct a _ m).2.2.1 hok, hs.2.1 hok⟩⟩

theorem eaCheck_some {i i' : EaIdeal} {a : EaAns} (h : eaCheck i a = some i') : i' = i ∧ eaShape i a = true := by
  unfold eaCheck at h
  split at h
  · cases h; exact ⟨rfl, by assumption⟩
  · cases h

theorem eaAdmit_not_oob {i i' : EaIdeal} {op : EaOp} {a : EaAns} (h : eaAdmit i op a = some i') : a.st ≠ .oob := by
  intro hst
  cases op <;> simp [eaAdmit, hst] at h

/-- after an admitted operation the sizes agree with the ideal array, `size ≤ alloc`, and the array is
within the factor-4 bound unless the documented exception is in force -/
theorem eaAdmit_shape {i i' : EaIdeal} {op : EaOp} {a : EaAns} (h : eaAdmit i op a = some i') :
    a.size = i'.bytes.length ∧ a.size ≤ a.alloc ∧ (i'.loose = false → a.alloc / 4 ≤ a.size) := by
  have key : ∀ j, eaCheck j a = some i' → a.size = i'.bytes.length ∧ a.size ≤ a.alloc ∧ (i'.loose = false → a.alloc / 4 ≤ a.size) := by
    intro j hj
    obtain ⟨rfl, hs⟩ := eaCheck_some hj
    simp only [eaShape, tight, Bool.and_eq_true, beq_iff_eq, decide_eq_true_eq, Bool.or_eq_true] at hs
    refine ⟨hs.1.1, hs.1.2, fun hl => ?_⟩
    rcases hs.2 with h1 | h1
    · rw [hl] at h1; cases h1
    · exact h1
  cases op <;> simp only [eaAdmit] at h <;> (repeat' split at h) <;> first | exact key _ h | cases h

theorem eaAdmit_loose {i i' : EaIdeal} {op : EaOp} {a : EaAns} (h : eaAdmit i op a = some i') :
    (match op with
     | .resize _ _ _ | .append _ _ _ | .truncate => a.st = .ok → i'.loose = false
     | .shrink _ _ => a.refused = false → i'.loose = false
     | _ => True) := by
  cases op with
  | resize _ _ _ | append _ _ _ | truncate =>
    intro hh
    simp only [eaAdmit, hh] at h
    split at h
    · exact (eaCheck_some h).1 ▸ rfl
    · cases h
  | shrink _ _ =>
    intro hh
    simp only [eaAdmit] at h
    split at h
    · exact (eaCheck_some h).1 ▸ hh
    · cases h
  | _ => trivial

end Percival.Proofs.EArray
