import Percival.Proofs.AFUCalc
import Percival.Proofs.AFUConn
import Percival.Proofs.AFUDefs
/-!
# C14, upper layers: the set-up ladders of `http_request` / `https_request` (both through `http_request2`) and
`http_request_cancel` while connecting

`https_request` duplicates the host name and hands the copy to `http_request2`, which stores the pointer in its cookie.
Who frees it?  On success the cookie, hence `http_request_cancel`; on failure the ladder of `http_request2` frees what
it allocated itself, the header and the cookie **only**, and the copy is still the caller's (`https.c`,
`err1: free(sslhost)`).  So `httpRequest2_spec`, the theorem about the ladder, is stated for a caller inside a call of
its own (`At w0 w …`) that holds a host-name block which no table entry owns yet (`{ keys := hostKey ho }`): on
success the new record has taken the block over, on failure the caller holds it as before.  `httpRequest_spec` is the case
without a host name; `httpsRequest_spec` wraps the `strdup` and that `free` around it.

In the model the new record is in the table while `network_connect` runs, so the ladder installs it (it then holds
cookie, header and host name), calls `networkConnect_spec` on the invariant so obtained, and on failure takes the
record out again.  `free(H->req_head); free(H);` and the record's leaving the table (`httpDrop`) end both the
ladder's `err2` and `http_request_cancel`, and are followed once (`At.httpDrop`).
-/
namespace Percival.Proofs.AllocFailUpper
open Percival.Model Percival.Model.EvReg Percival.Model.AllocFail
open Percival.Proofs.EvRegNet (regNet netRegistered NetInv)
open Percival.Proofs.EvRegTimer (regImm regTimers TmInv Step Granted)
open Percival.Proofs.EArray (free_facts)

/-- the caller's host name, if any -/
def hostKey : Option Nat → List (Nat × Site)
  | some sh => [(sh, .httpsHost)]
  | none => []

theorem hostKey_none_append (G : Foot) : ({ keys := hostKey none } : Foot) ++ G = G := rfl

/-- what a record holds, in the order in which the ladder allocated it -/
theorem footHttp_split (x : Http) (R : Foot) :
    (Foot.key (x.head, .httpHead) ++ (Foot.key (x.cookie, .httpCookie) ++ ({ keys := hostKeys x } ++ R))).Equiv
      (footHttp x ++ R) :=
  ⟨.swap _ _ _, .refl _, .refl _, .refl _⟩

/-! ## `free(H->req_head); free(H);` and the table entry goes -/

/-- err2 / err1 of `http_request2`, and the end of `http_request_cancel` -/
def httpDrop (w : World) (c hd : Nat) : World :=
  { release (release w hd) c with https := (release (release w hd) c).https.filter (·.cookie != c) }

theorem At.httpDrop {w0 w : World} {c hd : Nat} {G : Foot}
    (h : At w0 w (Foot.key (hd, .httpHead) ++ (Foot.key (c, .httpCookie) ++ G))) :
    At w0 (httpDrop w c hd) G ∧
    httpDrop w c hd = { w with m := (w.m.free false).free false, live := eraseId (eraseId w.live hd) c,
                               https := w.https.filter (·.cookie != c) } := by
  obtain ⟨hrel1, h1⟩ := h.free
  rw [hrel1] at h1
  obtain ⟨hrel2, h2⟩ := h1.free
  rw [hrel2] at h2
  have e : AllocFailUpper.httpDrop w c hd =
      { w with m := (w.m.free false).free false, live := eraseId (eraseId w.live hd) c,
               https := w.https.filter (·.cookie != c) } := by
    unfold AllocFailUpper.httpDrop; rw [hrel1, hrel2]
  exact ⟨e ▸ h2.retable rfl, e⟩

/-! ## `http_request2` -/

/-- what `http_request2`, begun in `w` inside a call begun in `w0`, achieves for a caller holding the blocks `hostKey ho`:
a failure leaves everything as it was, those blocks included (still allocated, still the caller's); a success makes them
the new record's -/
structure Http2Out (w0 w : World) (addrs : List Connect.AddrOutcome) (headlen s : Nat) (ho : Option Nat)
    (R : Option Nat × World) : Prop where
  fail : R.1 = none → At w0 R.2 ({ keys := hostKey ho } ++ foot (tables R.2)) ∧ Same w R.2 ∧
    (connReady w addrs s → w.m.refusals < R.2.m.refusals)
  ok : ∀ x, R.1 = some x → At w0 R.2 (foot (tables R.2)) ∧ ∃ hd c,
    R.2.live = ⟨c, .connCookie, connCookieSize⟩ :: ⟨hd, .httpHead, headlen + 1⟩ :: ⟨x, .httpCookie, httpCookieSize⟩ :: w.live ∧
    tables R.2 = { tables w with https := ⟨x, hd, some c, ho⟩ :: w.https, conns := connEntry c addrs none s :: w.conns } ∧
    R.2.m.refusals = w.m.refusals
  refused : R.2.m.refusals ≠ w.m.refusals → R.1 = none

theorem httpRequest2_spec (w0 w : World) (addrs : List Connect.AddrOutcome) (headlen s : Nat) (ho : Option Nat)
    (h : At w0 w ({ keys := hostKey ho } ++ foot (tables w))) :
    Http2Out w0 w addrs headlen s ho (httpRequest2 w addrs headlen s ho) := by
  unfold httpRequest2
  rcases ha1 : alloc w .httpCookie httpCookieSize with ⟨_ | x, w1⟩
  · -- "Bake a cookie.": `goto err0`
    obtain ⟨h1, hr1, hsame⟩ := h.refused ha1
    obtain ⟨rfl, -⟩ := alloc_none ha1
    exact ⟨fun _ => ⟨h1, hsame, fun _ => Nat.lt_of_lt_of_eq (Nat.lt_succ_self _) hr1.symm⟩, nofun, fun _ => rfl⟩
  · obtain ⟨h1, hr1⟩ := h.malloc ha1
    simp only
    rcases ha2 : alloc w1 .httpHead (headlen + 1) with ⟨_ | hd, w2⟩
    · -- "Allocate space for header plus NUL byte (so we can use stpcpy)." refused: `goto err1`; `err1: free(H);`
      obtain ⟨h3, hs, hlt, -⟩ := h.allocRefusedFree ha1 ha2
      rw [← hs.tables] at h3
      exact ⟨fun _ => ⟨h3, hs, fun _ => hlt⟩, nofun, fun _ => rfl⟩
    · obtain ⟨h2, hr2⟩ := h1.malloc ha2
      have ht2 : tables w2 = tables w := (alloc_tables ha2).trans (alloc_tables ha1)
      simp only
      -- the record enters the table holding the cookie, the header and the caller's host name
      rw [← ht2] at h2
      have h3 := h2.install Tab.https ⟨x, hd, none, ho⟩ (footHttp_split ⟨x, hd, none, ho⟩ _)
      have hnd : ((⟨x, hd, none, ho⟩ :: w2.https : List Http).map (·.cookie)).Nodup := Tab.https.nodup _ h3.owns.nodupE
      -- "Connect to the target host."
      have hp := networkConnect_spec { w2 with https := ⟨x, hd, none, ho⟩ :: w2.https } addrs none s h3.inv0
      rcases hnc : networkConnect { w2 with https := ⟨x, hd, none, ho⟩ :: w2.https } addrs none s with ⟨_ | c, w3⟩
      · -- `goto err2`; `err2: free(H->req_head); err1: free(H);`: the record goes, the host name is the caller's again
        show Http2Out w0 w addrs headlen s ho (none, httpDrop w3 x hd)
        rw [hnc] at hp
        have sm := hp.same rfl
        have hht : w3.https = ⟨x, hd, none, ho⟩ :: w2.https := congrArg Tables.https sm.tables
        obtain ⟨h5, hW⟩ := ((h3.andThen hp.arr).equiv
          ((Tab.https.foot_head hht).trans (footHttp_split ⟨x, hd, none, ho⟩ _).symm)).httpDrop
        rw [hW, hht, filter_head_of_nodup Http.cookie hnd] at h5 ⊢
        have htW := (congrArg (fun t : Tables => ({ t with https := w2.https } : Tables)) sm.tables).trans ht2
        obtain ⟨rfl, rfl, -⟩ := alloc_some ha2
        obtain ⟨rfl, rfl, -⟩ := alloc_some ha1
        refine ⟨fun _ => ⟨h5, ⟨?_, htW, sm.registry, sm.bad⟩, fun hr => ?_⟩, nofun, fun _ => rfl⟩
        · show eraseId (eraseId w3.live _) _ = w.live
          rw [sm.live]
          exact (congrArg (eraseId · _) (eraseId_head _ _)).trans (eraseId_head _ _)
        · show _ < ((Mem.free _ false).free false).refusals
          rw [(free_facts _ _).1, (free_facts _ _).1, ← hr1, ← hr2]
          exact hp.cause rfl hr
      · show Http2Out w0 w addrs headlen s ho
          (some x, { w3 with https := w3.https.map (fun y => if y.cookie == x then { y with conn := some c } else y) })
        rw [hnc] at hp
        obtain ⟨l3, t3, r3⟩ := hp.ok c rfl
        have hht : w3.https = ⟨x, hd, none, ho⟩ :: w2.https := congrArg Tables.https t3
        rw [hht, map_head_of_nodup Http.cookie (fun y => { y with conn := some c }) hnd]
        -- `H->connect_cookie` is set: the record holds what it held
        have h4 := (h3.andThen hp.arr).put Tab.https (⟨x, hd, some c, ho⟩ :: w2.https)
          ((Tab.https.foot_head (a := ⟨x, hd, none, ho⟩) hht).trans (Tab.https.cons _ ⟨x, hd, some c, ho⟩ _).symm)
        have hr : w3.m.refusals = w.m.refusals := r3.trans (hr2.trans hr1)
        have htab := congrArg (fun t : Tables => ({ t with https := ⟨x, hd, some c, ho⟩ :: w2.https } : Tables)) t3
        obtain ⟨rfl, rfl, -⟩ := alloc_some ha2
        obtain ⟨rfl, rfl, -⟩ := alloc_some ha1
        exact ⟨nofun, fun x' hx' => by cases hx'; exact ⟨h4, _, c, l3, htab, hr⟩, fun hne => absurd hr hne⟩

/-! ## `http_request` -/

/-- `http_request` while connecting: whether it succeeds or fails, under every oracle -/
theorem httpRequest_spec (w : World) (addrs : List Connect.AddrOutcome) (headlen s : Nat) (h : Inv0 w) :
    NewPost w (httpRequest w addrs headlen s)
      (fun x W => ∃ hd c,
        W.live = ⟨c, .connCookie, connCookieSize⟩ :: ⟨hd, .httpHead, headlen + 1⟩ :: ⟨x, .httpCookie, httpCookieSize⟩ :: w.live ∧
        tables W = { tables w with https := ⟨x, hd, some c, none⟩ :: w.https, conns := connEntry c addrs none s :: w.conns } ∧
        W.m.refusals = w.m.refusals)
      (connReady w addrs s) := by
  obtain ⟨p1, p2, p3⟩ := httpRequest2_spec w w addrs headlen s none ((hostKey_none_append _).symm ▸ h.at)
  rw [hostKey_none_append] at p1
  refine ⟨?_, fun hn => (p1 hn).2.1, fun x hx => (p2 x hx).2, p3, fun hn => (p1 hn).2.2⟩
  cases ho : (httpRequest w addrs headlen s).1 with
  | none => exact (p1 ho).1
  | some x => exact (p2 x ho).1

/-! ## `https_request` -/

/-- the world after `https_request`'s `strdup(hostname)` was granted: the copy is allocated, and (so far) owned by
the caller only -/
def httpsW1 (w : World) (hostlen : Nat) : World :=
  { w with m := (w.m.malloc (hostlen + 1)).2, live := ⟨w.m.n, .httpsHost, hostlen + 1⟩ :: w.live }

/-- `https_request` while connecting: whether it succeeds or fails, under every oracle -/
theorem httpsRequest_spec (w : World) (addrs : List Connect.AddrOutcome) (headlen s hostlen : Nat) (h : Inv0 w) :
    NewPost w (httpsRequest w addrs headlen s hostlen)
      (fun x W => ∃ sh hd c,
        W.live = ⟨c, .connCookie, connCookieSize⟩ :: ⟨hd, .httpHead, headlen + 1⟩ :: ⟨x, .httpCookie, httpCookieSize⟩ ::
          ⟨sh, .httpsHost, hostlen + 1⟩ :: w.live ∧
        tables W = { tables w with https := ⟨x, hd, some c, some sh⟩ :: w.https, conns := connEntry c addrs none s :: w.conns } ∧
        W.m.refusals = w.m.refusals)
      (connReady w addrs s) := by
  unfold httpsRequest
  rcases ha : alloc w .httpsHost (hostlen + 1) with ⟨_ | sh, w1⟩
  · -- "Duplicate the hostname.": `goto err0`
    exact .of_refused h ha
  · -- "Create an HTTP state.", holding the copy
    obtain ⟨h1, hr1⟩ := h.at.malloc ha
    obtain ⟨rfl, rfl, -⟩ := alloc_some ha
    have hp := httpRequest2_spec w _ addrs headlen s (some w.m.n) h1
    simp only
    generalize httpRequest2 _ addrs headlen s (some w.m.n) = R at hp ⊢
    rcases R with ⟨_ | x, w2⟩
    · -- `goto err1`; `err1: free(sslhost);`, which `http_request2` has left alone
      obtain ⟨q1, q2, q3⟩ := hp.fail rfl
      rw [q2.tables] at q1
      obtain ⟨a, sm, hr⟩ := At.giveBack h.bad0 q1 q2.live q2.tables q2.registry
      exact ⟨a, fun _ => sm, nofun, fun _ => rfl, fun _ hr' => Nat.lt_of_lt_of_eq (hr1 ▸ q3 hr') hr.symm⟩
    · obtain ⟨a, hd, c, l, t, r⟩ := hp.ok x rfl
      exact ⟨a, nofun, fun x' hx' => by cases hx'; exact ⟨_, hd, c, l, t, r.trans hr1⟩,
        fun hne => absurd (r.trans hr1) hne, nofun⟩

/-- **the ownership rule**: when `http_request2` fails, the caller's host name is still allocated — none of the
ladder's rungs has freed it — so `https_request`'s `free(sslhost)` is the one and only release of that block -/
theorem httpRequest2_failure_keeps_host (w : World) (addrs : List Connect.AddrOutcome) (headlen s hostlen : Nat)
    (h : Inv0 w) (hm : (w.m.malloc (hostlen + 1)).1 = true)
    (hf : (httpRequest2 (httpsW1 w hostlen) addrs headlen s (some w.m.n)).1 = none) :
    findId (httpRequest2 (httpsW1 w hostlen) addrs headlen s (some w.m.n)).2.live w.m.n ≠ none ∧
    (httpRequest2 (httpsW1 w hostlen) addrs headlen s (some w.m.n)).2.bad = w.bad := by
  rcases ha : alloc w .httpsHost (hostlen + 1) with ⟨_ | sh, w1⟩
  · exact absurd ((alloc_none ha).2.symm.trans hm) nofun
  · obtain ⟨h1, -⟩ := h.at.malloc ha
    obtain ⟨rfl, rfl, -⟩ := alloc_some ha
    obtain ⟨-, q2, -⟩ := (httpRequest2_spec w (httpsW1 w hostlen) addrs headlen s (some w.m.n) h1).fail hf
    refine ⟨?_, q2.bad⟩
    rw [q2.live]
    simp only [findId, httpsW1, List.find?_cons, beq_self_eq_true]
    nofun

/-! ## `http_request_cancel` -/

/-- the three (two, for plain HTTP) frees of `http_request_cancel` and the table entry goes -/
def httpCancelDrop (w1 : World) (x : Http) : World :=
  httpDrop (match x.host with | some sh => release w1 sh | none => w1) x.cookie x.head

theorem httpCancelDrop_spec {w0 w : World} {x : Http} (h : Arrives w0 w) (hx : x ∈ w.https) :
    Arrives w0 (httpCancelDrop w x) ∧
    tables (httpCancelDrop w x) = { tables w with https := w.https.filter (fun y => y.cookie != x.cookie) } := by
  -- the record leaves its table; "Free duplicated SSL target hostname if we have one." comes first
  have h0 := (h.take Tab.https hx).equiv ((footHttp_split x _).symm.trans
    (((Foot.Equiv.refl _).append (Foot.Equiv.rotate _ _ _)).trans (Foot.Equiv.rotate _ _ _)))
  unfold httpCancelDrop
  cases hs : x.host with
  | none =>
    rw [show hostKeys x = [] by simp only [hostKeys, hs]] at h0
    obtain ⟨h2, hW⟩ := h0.httpDrop
    simp only [hW] at h2 ⊢
    exact ⟨h2, rfl⟩
  | some sh =>
    rw [show hostKeys x = [(sh, .httpsHost)] by simp only [hostKeys, hs]] at h0
    obtain ⟨hrel, h1⟩ := At.free (c := sh) (s := .httpsHost) h0
    simp only [hrel] at h1 ⊢
    obtain ⟨h2, hW⟩ := h1.httpDrop
    simp only [hW] at h2 ⊢
    exact ⟨h2, rfl⟩

/-- `http_request_cancel` of a request that is still connecting: cannot fail, under every oracle -/
theorem httpRequestCancel_spec (w : World) (x : Http) (h : Inv0 w) (hx : x ∈ w.https)
    (href : ∀ c, x.conn = some c → ∃ k ∈ w.conns, k.cookie = c) :
    ∃ w', httpRequestCancel w x.cookie = some w' ∧ Arrives w w' ∧
      tables w' = { tables w with
        https := w.https.filter (fun y => y.cookie != x.cookie),
        conns := match x.conn with
          | some c => w.conns.filter (fun y => y.cookie != c)
          | none => w.conns } := by
  have hfind := Keys.find (f := (·.cookie)) (h.ids Tab.https) hx
  cases hc : x.conn with
  | none =>
    obtain ⟨d1, d2⟩ := httpCancelDrop_spec h.at hx
    exact ⟨_, by simp only [httpRequestCancel, hfind, hc]; rfl, d1, d2⟩
  | some c =>
    -- "Stop connecting if we're in the process of doing so."
    obtain ⟨k, hk, rfl⟩ := href c hc
    obtain ⟨w1, e1, a1, -, -, t1⟩ := networkConnectCancel_spec w k h hk
    have hht : w1.https = w.https := congrArg Tables.https t1
    obtain ⟨d1, d2⟩ := httpCancelDrop_spec a1 (hht ▸ hx)
    refine ⟨_, by simp only [httpRequestCancel, hfind, hc, e1]; rfl, d1, ?_⟩
    rw [d2, t1, hht]

end Percival.Proofs.AllocFailUpper
