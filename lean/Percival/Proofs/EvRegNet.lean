import Percival.Proofs.EvRegSocks
/-!
# The network part of event registration (`events_network.c` on the model `EvReg`): the contracts

`netReg_contract`, `netCancel_contract`: a call that does not succeed is one quiet stretch (`Proofs/EvRegQuiet.lean`); a
successful registration is a quiet stretch holding the event record, followed by `netPut`; a successful cancellation is
`events_freerec` followed by `netDrop` (`Proofs/EvRegSocks.lean`); as a whole either is a `Call .net 0` (`call_netReg`,
`call_netCancel`).  `netReg` and `netCancel` keep `NetInv` for every allocation oracle, and their effect on the abstract
registry is a `Perm`.
-/
namespace Percival.Proofs.EvRegNet
open Percival.Model Percival.Model.EvReg
open Percival.Proofs.EvRegTimer (Step mkrec_eq freerec_eq)
open Percival.Proofs.EArray (realloc_ok realloc_fail pair_eta)
open Percival.Proofs.AllocCalls Percival.Proofs.MemCalls Percival.Proofs.EvRegQuiet
open Percival.Proofs.EvRegAcct (evBlocks evBlocks_raw AcctInv acctInv_of_some sBlocks bb)

/-! ### `netReg` as a composition of named steps -/

/-- "grow the socket list if necessary" -/
def growS (e0 : Ev) (sal s : Nat) (m0 : Mem) : Bool × Ev × Mem :=
  if s ≥ e0.socks.length then
    match EArray.resizeRec (sShape e0.socks.length sal) (s + 1) sockLen m0 with
    | (true, a', m1) =>
      (true, { e0 with sAlloc := some a'.alloc
                       socks := e0.socks ++ List.replicate (s + 1 - e0.socks.length) SockRec.empty }, m1)
    | (false, _, m1) => (false, e0, m1)
  else (true, e0, m0)

/-- `growpollfd` if the descriptor is not in the pollfd array yet -/
def growPoll (e2 : Ev) (pollpos : Option Nat) (s : Nat) (m2 : Mem) : Option Nat × Ev × Mem :=
  match pollpos with
  | some pp => (some pp, e2, m2)
  | none =>
    if e2.fdsAlloc = e2.fds.length then
      let nalloc := if e2.fdsAlloc = 0 then 16 else e2.fdsAlloc * 2
      match m2.realloc (e2.fdsAlloc == 0) (nalloc * pollfdSize) with
      | (true, m3) => (some e2.fds.length, { e2 with fdsAlloc := nalloc, fds := e2.fds ++ [(s, 0)] }, m3)
      | (false, m3) => (none, e2, m3)
    else (some e2.fds.length, { e2 with fds := e2.fds ++ [(s, 0)] }, m2)

/-- the registration proper, once `S` is long enough -/
def regAt (e1 : Ev) (id s : Nat) (isWrite : Bool) (m1 : Mem) : NetRes × Ev × Mem :=
  match e1.socks[s]? with
  | none => (.broken, e1, m1)
  | some rec =>
    if (slot rec isWrite).isSome then (.exists_, e1, m1) else
    match mkrec e1 m1 with
    | (none, e2, m2) => (.fail, e2, m2)
    | (some rid, e2, m2) =>
      match growPoll e2 rec.pollpos s m2 with
      | (none, e3, m3) =>
        match freerec e3 rid m3 with
        | (e4, m4) => (.fail, e4, m4)
      | (some pp, e3, m3) =>
        (.ok, { e3 with socks := e3.socks.set s (setSlot { rec with pollpos := some pp } isWrite (some (rid, id)))
                        fds := e3.fds.modify pp (fun p => (p.1, p.2 ||| bitOf isWrite)) }, m3)

theorem netReg_eq (e : Ev) (id s : Nat) (w : Bool) (m : Mem) :
    netReg e id s w m =
      match netInit e m with
      | (false, e0, m0) => (.fail, e0, m0)
      | (true, e0, m0) =>
        match e0.sAlloc with
        | none => (.broken, e0, m0)
        | some sal =>
          match growS e0 sal s m0 with
          | (false, e1, m1) => (.fail, e1, m1)
          | (true, e1, m1) => regAt e1 id s w m1 := by
  -- with the four definitions opened first the two sides are compared branch by branch, which is much faster
  unfold netReg growS regAt growPoll bitOf
  rfl


/-- `init()` of events_network.c is quiet (given that nothing was there before it ran) and leaves the record pool
alone; success: `S` exists and nothing was refused; failure: the state is unchanged and a request was refused; with `S`
existing the call does nothing; `NetInv` is kept; a socket list it creates is empty -/
theorem quiet_netInit (e : Ev) (m : Mem) : ∀ ok e0 m0, netInit e m = (ok, e0, m0) →
    Quiet .net 0 e m e0 m0 ∧ e0.recPool = e.recPool ∧
    (ok = true → e0.sAlloc ≠ none ∧ m0.refusals = m.refusals) ∧
    (ok = false → e0 = e ∧ m.refusals < m0.refusals) ∧
    (e.sAlloc ≠ none → (ok, e0, m0) = (true, e, m)) ∧
    (NetInv e → NetInv e0) ∧
    (e.sAlloc = none → ok = true → e0.socks = []) := by
  intro ok e0 m0 h
  unfold netInit at h
  cases hsa : e.sAlloc with
  | some a =>
    rw [hsa] at h; cases h
    exact ⟨Quiet.refl _ _ _, rfl, fun _ => ⟨by simp [hsa], rfl⟩, nofun, fun _ => rfl, id, nofun⟩
  | none =>
    rw [hsa] at h
    dsimp only at h
    have c := Percival.Proofs.EArray.init_calls 0 sockLen m
    split at c <;> rename_i heq <;> rw [heq] at h <;> cases h
    · refine ⟨⟨⟨outside_net rfl rfl rfl rfl rfl, c.1.step, fun ha => ?_, fun _ => nofun⟩, ⟨rfl, rfl, rfl⟩, fun hn => ?_,
        fun _ => nofun⟩, rfl, fun _ => ⟨by simp, c.2.1⟩, nofun, fun h => absurd rfl h, fun _ => ?_,
        fun _ _ => rfl⟩
      · have hu := ha rfl hsa
        rw [c.1.live]
        simp only [evBlocks_raw, hsa, hu.1, hu.2, sBlocks, netOf, List.length_nil, bb, Percival.Proofs.EArray.bufBlocks]
        omega
      · simp [registry, hn rfl hsa]
      · constructor <;> simp
    · exact ⟨quiet_mem _ _ c.1, rfl, nofun, fun _ => ⟨rfl, c.2.resolve_right (by simp)⟩, fun h => absurd rfl h, id,
        fun _ => nofun⟩

/-- "grow the socket list if necessary" is quiet; success: `S` has a record for `s` and nothing was refused; failure:
the state is unchanged, and a request was refused unless `S` cannot be that long -/
theorem quiet_growS (e0 : Ev) (sal s : Nat) (m0 : Mem) (hs : e0.sAlloc = some sal) :
    ∀ ok e1 m1, growS e0 sal s m0 = (ok, e1, m1) →
    Quiet .net 0 e0 m0 e1 m1 ∧ e1.sAlloc ≠ none ∧
    (ok = true → s < e1.socks.length ∧ m1.refusals = m0.refusals) ∧
    (ok = false → e1 = e0 ∧ (m0.refusals < m1.refusals ∨ EArray.SIZE_MAX < 24 * (s + 1))) ∧
    (NetInv e0 → NetInv e1) := by
  intro ok e1 m1 h
  unfold growS at h
  split at h
  · obtain ⟨⟨c, _⟩, hok, hf⟩ := Percival.Proofs.EArray.resizeRec_acct (sShape e0.socks.length sal) (s + 1) sockLen m0
    simp only [bufBlocks_eq] at c
    generalize EArray.resizeRec (sShape e0.socks.length sal) (s + 1) sockLen m0 = R at h c hok hf
    obtain ⟨_ | _, a', m1'⟩ := R <;> cases h
    · obtain ⟨ha, hrf⟩ := hf rfl
      refine ⟨Quiet.mk' (Outside.refl _ _) ⟨rfl, rfl, rfl⟩ ⟨rfl, rfl, rfl⟩ rfl (c.cast (by rw [ha]; simp)),
        by simp [hs], nofun, fun _ => ⟨rfl, ?_⟩, id⟩
      rcases hrf with h1 | h1
      · exact Or.inl h1
      · right
        have : sockLen.val = 24 := rfl
        rw [this, Percival.Proofs.EArray.SIZE_MAX_eq] at h1
        rw [Percival.Proofs.EArray.SIZE_MAX_eq]
        omega
    · refine ⟨⟨⟨outside_net rfl rfl rfl rfl rfl, c.step,
          fun _ => by rw [c.live]; simp only [evBlocks_raw, netOf_append_empty, hs, sBlocks, sShape]; omega,
          fun _ => nofun⟩, ⟨rfl, rfl, rfl⟩, fun _ => by simp [registry, netOf_append_empty], fun _ => nofun⟩,
          by simp, fun _ => ⟨?_, (hok rfl).1⟩, nofun, fun hv => ?_⟩
      · simp only [List.length_append, List.length_replicate]; omega
      · rw [netInv_iff] at hv ⊢
        exact ⟨by simp, sf_grow hv.2 _⟩
  · rename_i hlt
    cases h
    exact ⟨Quiet.refl _ _ _, by simp [hs], fun _ => ⟨Nat.lt_of_not_le hlt, rfl⟩, nofun, id⟩

/-- `growpollfd` is quiet and touches the pollfd array only; success: nothing was refused, and the descriptor keeps its
entry or gets the next one; failure: the state is unchanged and a request was refused -/
theorem quiet_growPoll (e2 : Ev) (pollpos : Option Nat) (s : Nat) (m2 : Mem) (hs : e2.sAlloc ≠ none) :
    ∀ o e3 m3, growPoll e2 pollpos s m2 = (o, e3, m3) →
    Quiet .net 0 e2 m2 e3 m3 ∧ e3.sAlloc = e2.sAlloc ∧ e3.socks = e2.socks ∧
    (∀ pp, o = some pp → m3.refusals = m2.refusals ∧
      ((pollpos = some pp ∧ e3.fds = e2.fds) ∨
       (pollpos = none ∧ pp = e2.fds.length ∧ e3.fds = e2.fds ++ [(s, 0)]))) ∧
    (o = none → e3 = e2 ∧ m2.refusals < m3.refusals) := by
  -- a step that changes the pollfd array and its allocation only
  have mk : ∀ {fds : List (Nat × Nat)} {al : Nat} {m' : Mem}, Calls m2 m' (bb al - bb e2.fdsAlloc) →
      Quiet .net 0 e2 m2 { e2 with fdsAlloc := al, fds := fds } m' := by
    intro fds al m' c
    refine ⟨⟨outside_net rfl rfl rfl rfl rfl, c.step, fun _ => ?_, fun _ => acctInv_of_some hs⟩, ⟨rfl, rfl, rfl⟩,
      fun _ => rfl, id⟩
    rw [c.live]
    simp only [evBlocks_raw]
    omega
  intro o e3 m3 h
  unfold growPoll at h
  cases pollpos with
  | some pp => cases h; exact ⟨Quiet.refl _ _ _, rfl, rfl, fun pp' h => ⟨rfl, Or.inl ⟨by simpa using h, rfl⟩⟩, nofun⟩
  | none =>
    dsimp only at h
    split at h
    · have c := calls_realloc m2 (e2.fdsAlloc == 0) ((if e2.fdsAlloc = 0 then 16 else e2.fdsAlloc * 2) * pollfdSize)
      cases hr : (m2.realloc (e2.fdsAlloc == 0) ((if e2.fdsAlloc = 0 then 16 else e2.fdsAlloc * 2) * pollfdSize)).1 <;>
        rw [hr] at c <;> rw [pair_eta _ hr] at h <;> cases h
      · exact ⟨quiet_mem _ _ (c.cast (by simp)), rfl, rfl, nofun,
          fun _ => ⟨rfl, by rw [(realloc_fail hr).1]; exact Nat.lt_succ_self _⟩⟩
      · refine ⟨mk (c.cast ?_), rfl, rfl,
          fun pp hpp => ⟨(realloc_ok hr).1, Or.inr ⟨rfl, by simpa using hpp.symm, rfl⟩⟩, nofun⟩
        by_cases h0 : e2.fdsAlloc = 0
        · simp [bb, h0]
        · have : e2.fdsAlloc * 2 ≠ 0 := by omega
          simp [bb, h0, this]
    · cases h
      exact ⟨mk ((Calls.refl m2).cast (by simp)), rfl, rfl,
        fun pp hpp => ⟨rfl, Or.inr ⟨rfl, by simpa using hpp.symm, rfl⟩⟩, nofun⟩

/-- the registration proper, once `S` exists and is long enough.  Every outcome but `.ok` is a quiet stretch that leaves
the two arrays alone; `.fail` has a refused request, the others none; `.ok` is a quiet stretch holding the event record,
in which the descriptor keeps its pollfd entry or gets the next one, and then `netPut`. -/
theorem regAt_contract (e1 : Ev) (id s : Nat) (w : Bool) (m1 : Mem) (hs1 : e1.sAlloc ≠ none) :
    ∀ res e' m', regAt e1 id s w m1 = (res, e', m') →
    res ≠ .noent ∧ (res ≠ .fail → m'.refusals = m1.refusals) ∧ (res = .fail → m1.refusals < m'.refusals) ∧
    (res ≠ .ok → Quiet .net 0 e1 m1 e' m' ∧ e'.sAlloc = e1.sAlloc ∧ e'.socks = e1.socks ∧ e'.fds = e1.fds) ∧
    (res = .broken → e1.socks[s]? = none) ∧
    (res = .exists_ → ∃ rec, e1.socks[s]? = some rec ∧ (slot rec w).isSome) ∧
    (res = .ok → ∃ e3 rec rid pp, Quiet .net 1 e1 m1 e3 m' ∧ e1.socks[s]? = some rec ∧ slot rec w = none ∧
      e3.sAlloc = e1.sAlloc ∧ e3.socks = e1.socks ∧
      ((rec.pollpos = some pp ∧ e3.fds = e1.fds) ∨
       (rec.pollpos = none ∧ pp = e1.fds.length ∧ e3.fds = e1.fds ++ [(s, 0)])) ∧
      e' = netPut e3 s pp w rec (rid, id)) := by
  intro res e' m' h
  unfold regAt at h
  cases hs : e1.socks[s]? with
  | none =>
    rw [hs] at h; cases h
    exact ⟨nofun, fun _ => rfl, nofun, fun _ => ⟨Quiet.refl _ _ _, rfl, rfl, rfl⟩, fun _ => rfl, nofun, nofun⟩
  | some rec =>
    rw [hs] at h
    dsimp only at h
    split at h
    · rename_i hsl
      cases h
      exact ⟨nofun, fun _ => rfl, nofun, fun _ => ⟨Quiet.refl _ _ _, rfl, rfl, rfl⟩, nofun, fun _ => ⟨rec, rfl, hsl⟩,
        nofun⟩
    · rename_i hsl
      have hsl : slot rec w = none := by simpa using hsl
      have q1 := quiet_mkrec .net e1 m1
      have r1 := mkrec_refusals e1 m1
      rw [mkrec_eq] at h q1 r1
      dsimp only at h q1 r1
      generalize MPool.malloc e1.recPool recSize m1 = R at h q1 r1
      obtain ⟨_ | rid, p, m2⟩ := R
      · dsimp only at h
        have r1 : m2.refusals = m1.refusals + 1 := r1
        cases h
        exact ⟨nofun, fun h => absurd rfl h, fun _ => by omega, fun _ => ⟨q1.cast (by simp), rfl, rfl, rfl⟩,
          nofun, nofun, nofun⟩
      · dsimp only at h q1 r1
        simp only [Option.isSome_some, if_true, Nat.add_zero] at q1 r1
        rcases hg : growPoll { e1 with recPool := p } rec.pollpos s m2 with ⟨_ | pp, e3, m3⟩ <;> rw [hg] at h <;>
          obtain ⟨q2, g1, g2, gok, gno⟩ := quiet_growPoll { e1 with recPool := p } rec.pollpos s m2 hs1 _ e3 m3 hg
        · -- err1: events_freerec(*r); *r = NULL
          dsimp only at h
          obtain ⟨rfl, hlt⟩ := gno rfl
          have q3 := quiet_freerec .net { e1 with recPool := p } rid m3
          rw [freerec_eq] at h q3
          cases h
          refine ⟨nofun, fun h => absurd rfl h, fun _ => ?_, fun _ => ⟨((q1.trans q2).trans q3).cast (by decide), rfl,
            rfl, rfl⟩, nofun, nofun, nofun⟩
          have := q3.step.r
          omega
        · dsimp only at h
          obtain ⟨hrf, hcase⟩ := gok pp rfl
          cases h
          exact ⟨nofun, fun _ => by omega, nofun, fun h => absurd rfl h, nofun, nofun,
            fun _ => ⟨e3, rec, rid, pp, (q1.trans q2).cast (by decide), rfl, hsl, g1, g2, hcase, rfl⟩⟩

/-- `events_network_register`.  `.noent` never; a refusal only with `.fail`, and `.fail` only with a refusal or a socket
list that cannot be that long; every outcome but `.ok` is one quiet stretch; `.ok` is a quiet stretch holding the event
record and then `netPut`.  Under `NetInv`: it is kept, `.broken` never, `.exists_` only for a taken slot, `.ok` only
for a free one, and then exactly the new registration is added. -/
theorem netReg_contract (e : Ev) (id s : Nat) (w : Bool) (m : Mem) :
    ∀ res e' m', netReg e id s w m = (res, e', m') →
    res ≠ .noent ∧ (res ≠ .fail → m'.refusals = m.refusals) ∧
    (res = .fail → m.refusals < m'.refusals ∨ EArray.SIZE_MAX < 24 * (s + 1)) ∧
    (res ≠ .ok → Quiet .net 0 e m e' m') ∧
    (res = .ok → ∃ e3 rec rid pp, Quiet .net 1 e m e3 m' ∧ e3.socks[s]? = some rec ∧ slot rec w = none ∧
      e' = netPut e3 s pp w rec (rid, id)) ∧
    (NetInv e → NetInv e' ∧ res ≠ .broken ∧ (res = .exists_ → netRegistered e s w) ∧
      (res = .ok → ¬ netRegistered e s w ∧ ∀ x, x ∈ regNet e' ↔ x = (s, w, id) ∨ x ∈ regNet e)) := by
  intro res e' m' h
  rw [netReg_eq] at h
  rcases hi : netInit e m with ⟨_ | _, e0, m0⟩ <;> rw [hi] at h <;>
    obtain ⟨q0, _, i1, i2, _, i4, _⟩ := quiet_netInit e m _ e0 m0 hi <;> dsimp only at h
  · cases h
    exact ⟨nofun, fun h => absurd rfl h, fun _ => Or.inl (i2 rfl).2, fun _ => q0, nofun,
      fun hv => ⟨i4 hv, nofun, nofun, nofun⟩⟩
  · obtain ⟨hsa0, hrf0⟩ := i1 rfl
    cases hsa : e0.sAlloc with
    | none => exact absurd hsa hsa0
    | some sal =>
      rw [hsa] at h
      dsimp only at h
      rcases hg : growS e0 sal s m0 with ⟨_ | _, e1, m1⟩ <;> rw [hg] at h <;>
        obtain ⟨qg, g0, g1, g2, g3⟩ := quiet_growS e0 sal s m0 hsa _ e1 m1 hg <;> dsimp only at h
      · cases h
        refine ⟨nofun, fun h => absurd rfl h, fun _ => ?_, fun _ => (q0.trans qg).cast rfl, nofun,
          fun hv => ⟨g3 (i4 hv), nofun, nofun, nofun⟩⟩
        rcases (g2 rfl).2 with h1 | h1
        · exact Or.inl (by omega)
        · exact Or.inr h1
      · obtain ⟨hlen, hrf1⟩ := g1 rfl
        obtain ⟨c1, c2, c3, c4, c5, c6, c7⟩ := regAt_contract e1 id s w m1 g0 res e' m' h
        have q01 := (q0.trans qg).cast (Int.add_zero 0)
        refine ⟨c1, fun hr => by rw [c2 hr]; omega, fun hr => Or.inl (by have := c3 hr; omega),
          fun hr => (q01.trans (c4 hr).1).cast rfl, fun hr => ?_, fun hv => ?_⟩
        · obtain ⟨e3, rec, rid, pp, q, a1, a2, _, a4, _, a6⟩ := c7 hr
          exact ⟨e3, rec, rid, pp, (q01.trans q).cast rfl, a4 ▸ a1, a2, a6⟩
        · have hv1 : NetInv e1 := g3 (i4 hv)
          have hr1 : registry e1 = registry e := q01.reg (fun _ hn => (hv.uninit hn).1)
          have hn1 : regNet e1 = regNet e := by simp only [regNet, hr1]
          have hreg : netRegistered e1 s w ↔ netRegistered e s w := by simp only [netRegistered, hn1]
          refine ⟨?_, fun hb => ?_, fun hx => ?_, fun hr => ?_⟩
          · by_cases hr : res = .ok
            · obtain ⟨e3, rec, rid, pp, q, a1, a2, a3, a4, a5, rfl⟩ := c7 hr
              exact netInv_netPut _ hv1 a1 a2 a3 a4 a5
            · obtain ⟨_, b1, b2, b3⟩ := c4 hr
              rw [netInv_iff] at hv1 ⊢
              rw [b1, b2, b3]
              exact hv1
          · have := List.getElem?_eq_none_iff.1 (c5 hb)
            omega
          · obtain ⟨rec, hs', hsl⟩ := c6 hx
            exact hreg.1 ((netRegistered_iff e1 s w).2 ⟨rec, hs', hsl⟩)
          · obtain ⟨e3, rec, rid, pp, q, a1, a2, a3, a4, a5, rfl⟩ := c7 hr
            refine ⟨fun hnr => ?_, fun x => ?_⟩
            · obtain ⟨rec', h1, h2⟩ := (netRegistered_iff e1 s w).1 (hreg.2 hnr)
              rw [a1] at h1
              cases h1
              simp [a2] at h2
            · rw [mem_regNet_netPut (a4 ▸ a1) a2 x, regNet_of_socks a4, hn1]

/-- a registration that does not succeed leaves what is registered as it was (`NetInv` is not needed) -/
theorem _root_.Percival.Proofs.AllocFail.net_fail_unchanged (e : Ev) (id s : Nat) (w : Bool) (m : Mem)
    (hS : e.sAlloc = none → e.socks = []) (hf : (netReg e id s w m).1 ≠ .ok) :
    registry (netReg e id s w m).2.1 = registry e := by
  rcases hr : netReg e id s w m with ⟨res, e', m'⟩
  rw [hr] at hf
  exact ((netReg_contract e id s w m res e' m' hr).2.2.2.1 hf).reg fun _ => hS

theorem call_netReg {e e' : Ev} {m m' : Mem} {id s : Nat} {w : Bool} {res : NetRes}
    (h : netReg e id s w m = (res, e', m')) : Call .net 0 e m e' m' := by
  obtain ⟨_, _, _, c4, c5, _⟩ := netReg_contract e id s w m res e' m' h
  by_cases hok : res = .ok
  · obtain ⟨e3, rec, rid, pp, q, h1, h2, rfl⟩ := c5 hok
    exact (q.call.trans (call_netPut m' _ h1 h2)).cast (by decide)
  · exact (c4 hok).call

theorem netReg_perm {e e' : Ev} {m m' : Mem} {id s : Nat} {w : Bool} (h : NetInv e)
    (hr : netReg e id s w m = (.ok, e', m')) : (regNet e').Perm ((s, w, id) :: regNet e) := by
  obtain ⟨e3, rec, rid, pp, q, h1, h2, rfl⟩ := (netReg_contract e id s w m _ e' m' hr).2.2.2.2.1 rfl
  have hreg : regNet e3 = regNet e := by simp only [regNet, q.reg fun _ hn => (h.uninit hn).1]
  rw [← hreg]
  exact regNet_netPut h1 h2

theorem netReg_not_broken (e : Ev) (id s : Nat) (w : Bool) (m : Mem) (h : NetInv e) :
    (netReg e id s w m).1 ≠ .broken ∧ (netReg e id s w m).1 ≠ .noent := by
  rcases hr : netReg e id s w m with ⟨res, e', m'⟩
  obtain ⟨c1, _, _, _, _, c6⟩ := netReg_contract e id s w m res e' m' hr
  exact ⟨(c6 h).2.1, c1⟩

/-- (holds without the invariant as well) -/
theorem netReg_refused (e : Ev) (id s : Nat) (w : Bool) (m : Mem) (_h : NetInv e)
    (hr : (netReg e id s w m).2.2.refusals ≠ m.refusals) : (netReg e id s w m).1 = .fail := by
  rcases hq : netReg e id s w m with ⟨res, e', m'⟩
  rw [hq] at hr
  by_cases hf : res = .fail
  · exact hf
  · exact absurd ((netReg_contract e id s w m res e' m' hq).2.1 hf) hr

theorem netReg_exists (e : Ev) (id s : Nat) (w : Bool) (m : Mem) (h : NetInv e)
    (hx : (netReg e id s w m).1 = .exists_) : netRegistered e s w := by
  rcases hr : netReg e id s w m with ⟨res, e', m'⟩
  rw [hr] at hx
  exact ((netReg_contract e id s w m res e' m' hr).2.2.2.2.2 h).2.2.1 hx

theorem netReg_fail_refused {e e' : Ev} {m m' : Mem} {id s : Nat} {w : Bool} {res : NetRes} (h : NetInv e)
    (hr : netReg e id s w m = (res, e', m')) (hne : res ≠ .ok) (hfree : ¬ netRegistered e s w)
    (hs : 24 * (s + 1) ≤ EArray.SIZE_MAX) : m.refusals < m'.refusals := by
  obtain ⟨c1, _, c3, _, _, c6⟩ := netReg_contract e id s w m res e' m' hr
  obtain ⟨_, hb, hx, _⟩ := c6 h
  cases res
  · exact absurd rfl hne
  · exact (c3 rfl).resolve_right (by omega)
  · exact absurd (hx rfl) hfree
  · exact absurd rfl c1
  · exact absurd rfl hb

theorem netReg_granted (e : Ev) (id s : Nat) (w : Bool) (m : Mem) (h : NetInv e) (hg : Granted m)
    (hfree : ¬ netRegistered e s w) (hs : 24 * (s + 1) ≤ EArray.SIZE_MAX) : (netReg e id s w m).1 = .ok := by
  rcases hr : netReg e id s w m with ⟨res, e', m'⟩
  refine Decidable.by_contra fun hne => ?_
  have := netReg_fail_refused h hr hne hfree hs
  have := (call_netReg hr).step.g hg
  omega

/-- `events_network_cancel`.  Every outcome but `.ok` is one quiet stretch that keeps `NetInv`; `.fail` has a refused
request (`init()`); `.broken` means a registered event without a pollfd entry.  `.ok`: `S` existed, the event was
registered with a pollfd entry, its record is released and then `netDrop`; for an event that is registered in an existing
`S` there is no other outcome than these two. -/
theorem netCancel_contract (e : Ev) (s : Nat) (w : Bool) (m : Mem) :
    ∀ res e' m', netCancel e s w m = (res, e', m') →
    res ≠ .exists_ ∧
    (∀ rec, e.sAlloc ≠ none → e.socks[s]? = some rec → (slot rec w).isSome → res = .ok ∨ res = .broken) ∧
    (res ≠ .ok → Quiet .net 0 e m e' m' ∧ (NetInv e → NetInv e') ∧ (res = .fail → m.refusals < m'.refusals)) ∧
    (res = .broken → ∃ rec, e.socks[s]? = some rec ∧ (slot rec w).isSome ∧ rec.pollpos = none) ∧
    (res = .ok → ∃ rec rid x pp, e.sAlloc ≠ none ∧ e.socks[s]? = some rec ∧ slot rec w = some (rid, x) ∧
      rec.pollpos = some pp ∧ e' = netDrop (freerec e rid m).1 s pp w rec ∧ m' = (freerec e rid m).2) := by
  intro res e' m' h
  unfold netCancel at h
  rcases hR : netInit e m with ⟨ok, e0, m0⟩
  rw [hR] at h
  obtain ⟨q0, _, _, i2, i3, i4, i5⟩ := quiet_netInit e m ok e0 m0 hR
  -- a record in `S` after `init()` means that `S` existed, and then `init()` did nothing
  have hsome : ∀ rec, ok = true → e0.socks[s]? = some rec → e.sAlloc ≠ none := by
    intro rec ht hs hn
    rw [i5 hn ht] at hs
    simp at hs
  cases ok <;> dsimp only at h
  · cases h
    exact ⟨nofun, (fun _ hsa _ _ => by cases i3 hsa), fun _ => ⟨q0, i4, fun _ => (i2 rfl).2⟩, nofun, nofun⟩
  · cases hs : e0.socks[s]? with
    | none =>
      rw [hs] at h; cases h
      refine ⟨nofun, fun rec hsa hs' => ?_, fun _ => ⟨q0, i4, nofun⟩, nofun, nofun⟩
      cases i3 hsa
      rw [hs] at hs'
      cases hs'
    | some rec =>
      cases i3 (hsome rec rfl hs)
      rw [hs] at h
      dsimp only at h
      cases hsl : slot rec w with
      | none =>
        rw [hsl] at h; cases h
        refine ⟨nofun, fun rec' _ hs' hsl' => ?_, fun _ => ⟨q0, i4, nofun⟩, nofun, nofun⟩
        rw [hs] at hs'
        cases hs'
        simp [hsl] at hsl'
      | some p =>
        obtain ⟨rid, x⟩ := p
        rw [hsl] at h
        dsimp only at h
        cases hpp : rec.pollpos with
        | none =>
          rw [hpp] at h; cases h
          exact ⟨nofun, fun _ _ _ _ => Or.inr rfl, fun _ => ⟨q0, i4, nofun⟩, fun _ => ⟨rec, hs, by simp [hsl], hpp⟩, nofun⟩
        | some pp =>
          rw [hpp] at h
          cases h
          exact ⟨nofun, fun _ _ _ _ => Or.inl rfl, fun h => absurd rfl h, nofun,
            fun _ => ⟨rec, rid, x, pp, hsome rec rfl hs, hs, hsl, hpp, rfl, rfl⟩⟩

theorem call_netCancel {e e' : Ev} {m m' : Mem} {s : Nat} {w : Bool} {res : NetRes}
    (h : netCancel e s w m = (res, e', m')) : Call .net 0 e m e' m' := by
  obtain ⟨_, _, c1, _, c3⟩ := netCancel_contract e s w m res e' m' h
  by_cases hok : res = .ok
  · obtain ⟨rec, rid, x, pp, _, h1, h2, _, rfl, rfl⟩ := c3 hok
    exact ((quiet_freerec .net e rid m).call.trans (call_netDrop _ h1 h2)).cast (by decide)
  · exact (c1 hok).1.call

/-- "cancel cannot fail", and with room in the record pool it asks for nothing -/
theorem netCancel_registered (e : Ev) (s id : Nat) (w : Bool) (m : Mem) (h : NetInv e) (hreg : (s, w, id) ∈ regNet e) :
    (netCancel e s w m).1 = .ok ∧ NetInv (netCancel e s w m).2.1 ∧
    (regNet e).Perm ((s, w, id) :: regNet (netCancel e s w m).2.1) ∧
    (e.recPool.stacklen < e.recPool.allocsize → (netCancel e s w m).2.2.n = m.n) := by
  obtain ⟨rec, rid, hs, hsl⟩ := (mem_regNet e s w id).1 hreg
  have hsa : e.sAlloc ≠ none := fun hn => by rw [(h.uninit hn).1] at hs; simp at hs
  rcases hr : netCancel e s w m with ⟨res, e', m'⟩
  obtain ⟨_, c0, _, c2, c3⟩ := netCancel_contract e s w m res e' m' hr
  have hok : res = .ok := (c0 rec hsa hs (by simp [hsl])).resolve_right fun hb => by
    obtain ⟨rec', h1, _, h3⟩ := c2 hb
    rw [hs] at h1
    cases h1
    have := h.idle s rec hs h3
    cases w <;> simp [slot, this] at hsl
  obtain ⟨rec', rid', x, pp, _, h1, h2, h3, rfl, rfl⟩ := c3 hok
  rw [hs] at h1
  cases h1
  rw [hsl] at h2
  cases h2
  have hd := netDrop_spec (e := (freerec e rid m).1) (netInv_congr _ _ h rfl rfl rfl rfl) hs hsl h3
  exact ⟨hok, hd.1, hd.2, fun hroom => by dsimp only; rw [freerec_eq, Percival.Proofs.MPool.free_fast _ _ _ hroom]⟩

/-- `events_network_cancel` of something that is not registered: `ENOENT`, or `init()` was refused -/
theorem netCancel_nothing (e : Ev) (s : Nat) (w : Bool) (m : Mem) (h : NetInv e) (hn : ¬ netRegistered e s w) :
    NetInv (netCancel e s w m).2.1 ∧ registry (netCancel e s w m).2.1 = registry e ∧
    ((netCancel e s w m).1 = .noent ∨
      ((netCancel e s w m).1 = .fail ∧ m.refusals < (netCancel e s w m).2.2.refusals)) := by
  rcases hr : netCancel e s w m with ⟨res, e', m'⟩
  obtain ⟨c0, _, c1, c2, c3⟩ := netCancel_contract e s w m res e' m' hr
  have hno : ∀ rec, e.socks[s]? = some rec → (slot rec w).isSome → False :=
    fun rec h1 h2 => hn ((netRegistered_iff e s w).2 ⟨rec, h1, h2⟩)
  have hq := fun hne => (c1 hne).1.reg fun _ hn => (h.uninit hn).1
  cases res
  · obtain ⟨rec, _, _, _, _, h1, h2, _⟩ := c3 rfl
    exact (hno rec h1 (by simp [h2])).elim
  · exact ⟨(c1 nofun).2.1 h, hq nofun, Or.inr ⟨rfl, (c1 nofun).2.2 rfl⟩⟩
  · exact absurd rfl c0
  · exact ⟨(c1 nofun).2.1 h, hq nofun, Or.inl rfl⟩
  · obtain ⟨rec, h1, h2, _⟩ := c2 rfl
    exact (hno rec h1 h2).elim

end Percival.Proofs.EvRegNet
