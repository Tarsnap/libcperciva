import Percival.Proofs.HeapStepModel
import Percival.Proofs.TimerQueueRun
import Percival.Spec.PQMonStep
/-!
# C13: the two executables together

The hash-map monitors (`Spec.PQMonStep`) are `monStep` / `tmonStep` on the state they stand for: `monStepF_abs`, `tmonStepF_abs`,
`tmonStepIF_abs`.  With `Proofs/HeapStepModel.lean` (the model executable's step is the model's) and `step_ok` / `tstep_ok` (the
monitor accepts the model's answers): along every run within `OpsOk` the monitor executable accepts what the model executable
prints, and the states stay in correspondence with a reachable model state (`HRel`, `TRel`, `XRel`; `runOps_rel`).
-/
namespace Percival.Proofs.HeapStep
open Percival.Model Percival.Model.Heap Percival.Model.HeapStep Percival.Spec.PQ
open Percival.Model.HeapRun (step tstep tqDrain)
open Percival.Proofs.Heap Percival.Proofs.TQ

theorem monStepF_abs (s : FMSt) (op : Op) (a : Ans) :
    (monStepF s op a).1.abs = (monStep s.abs op a).1 ∧ (monStepF s op a).2 = (monStep s.abs op a).2 := by
  have hk : ∀ e k live, FMSt.abs { keys := s.keys.insert e k, live } = ⟨upd s.key e k, live⟩ :=
    fun e k live => congrArg (MSt.mk · live) (keyFn_insert s.keys e k)
  let R (r : FMSt × Bool) (r' : MSt × Bool) : Prop := r.1.abs = r'.1 ∧ r.2 = r'.2
  cases op with
  | create ps =>
    exact rel_ite R (fun _ => ⟨congrArg (MSt.mk · _) (keyFn_setKeys ps s.keys), rfl⟩) fun _ => ⟨rfl, rfl⟩
  | add e k => exact rel_ite R (fun _ => ⟨rfl, rfl⟩) fun _ => ⟨hk _ _ _, rfl⟩
  | getmin => cases a <;> exact ⟨rfl, rfl⟩
  | delmin => cases a <;> exact ⟨rfl, rfl⟩
  | del e => exact rel_ite R (fun _ => ⟨rfl, rfl⟩) fun _ => ⟨rfl, rfl⟩
  | inc e k => exact rel_ite R (fun _ => ⟨rfl, rfl⟩) fun _ => ⟨hk _ _ _, rfl⟩
  | dec e k => exact rel_ite R (fun _ => ⟨rfl, rfl⟩) fun _ => ⟨hk _ _ _, rfl⟩
  | incmin k => cases a <;> first | exact ⟨rfl, rfl⟩ | exact ⟨hk _ _ _, rfl⟩
  | drain => cases a <;> exact ⟨rfl, rfl⟩

theorem fabs_insert (s : FTMSt) (r : Nat) (sec usec : Int) (p : Nat) (live : List Nat) :
    FTMSt.abs { recs := s.recs.insert r (sec, usec, p), live } =
      ⟨upd s.time r (timeKey sec usec), updN s.ptr r p, live⟩ := by
  have hx : ∀ x, (s.recs.insert r (sec, usec, p))[x]? = if x = r then some (sec, usec, p) else s.recs[x]? := by
    intro x
    rw [Std.HashMap.getElem?_insert]
    by_cases h : x = r
    · simp [h]
    · simp [h, Ne.symm h]
  simp only [FTMSt.abs, TMSt.mk.injEq, and_true]
  constructor <;> funext x
  · simp only [FTMSt.time, upd, hx]; by_cases h : x = r <;> simp [h]
  · simp only [FTMSt.ptr, updN, hx]; by_cases h : x = r <;> simp [h]

theorem fabs_init : FTMSt.abs {} = TMSt.init := by
  simp only [FTMSt.abs, TMSt.init, TMSt.mk.injEq, and_true]
  constructor <;> funext r
  · simp [FTMSt.time]
  · simp [FTMSt.ptr]

theorem tmonStepF_abs (s : FTMSt) (op : TOp) (a : TAns) :
    (tmonStepF s op a).1.abs = (tmonStep s.abs op a).1 ∧ (tmonStepF s op a).2 = (tmonStep s.abs op a).2 := by
  let R (r : FTMSt × Bool) (r' : TMSt × Bool) : Prop := r.1.abs = r'.1 ∧ r.2 = r'.2
  cases op with
  | add r sec usec p => exact rel_ite R (fun _ => ⟨rfl, rfl⟩) fun _ => ⟨fabs_insert s r sec usec p _, rfl⟩
  | del r => exact rel_ite R (fun _ => ⟨rfl, rfl⟩) fun _ => ⟨rfl, rfl⟩
  | inc r sec usec =>
    exact rel_ite R (fun _ => ⟨rfl, rfl⟩) fun _ => ⟨(fabs_insert s r sec usec _ _).trans (by rw [updN_same]; rfl), rfl⟩
  | getmin =>
    cases a with
    | tmin x => cases x with
      | none => exact ⟨rfl, rfl⟩
      | some su => obtain ⟨a, b⟩ := su; exact ⟨rfl, rfl⟩
    | _ => exact ⟨rfl, rfl⟩
  | get sec usec =>
    cases a with
    | rel x => cases x with
      | none => exact ⟨rfl, rfl⟩
      | some rp => obtain ⟨a, b⟩ := rp; exact ⟨rfl, rfl⟩
    | _ => exact ⟨rfl, rfl⟩

theorem tmonStepIF_abs (s : FTMSt) (op : TOpI) (a : TAnsI) :
    (tmonStepIF s op a).1.abs = (tmonStepI s.abs op a).1 ∧ (tmonStepIF s op a).2 = (tmonStepI s.abs op a).2 := by
  cases op with
  | op o =>
    simp only [tmonStepIF, tmonStepI]
    cases toTAns s.abs a with
    | none => exact ⟨rfl, rfl⟩
    | some a' => exact tmonStepF_abs s o a'
  | drain =>
    cases a with
    | drained ps => exact ⟨fabs_init, rfl⟩
    | _ => exact ⟨rfl, rfl⟩

def HRel (f : HSt) (m : FMSt) : Prop :=
  ∃ L, PosOk f L ∧ Reach (mk f L) ∧ m.abs = ⟨keyFn f.keys, f.live⟩

theorem hrel_init : HRel {} {} :=
  ⟨[], posOk_nil, ⟨inv_empty _, by simp [mk, under, HSt.heap]⟩, rfl⟩

theorem hstep_rel (f : HSt) (m : FMSt) (h : HRel f m) (op : Op) :
    HRel (hstep f op).1 (monStepF m op (hstep f op).2.ans).1 ∧
    (monStepF m op (hstep f op).2.ans).2 = true := by
  obtain ⟨L, hp, hr, hm⟩ := h
  obtain ⟨L', h1, h2, h3, _⟩ := hstep_mk f L hp op
  obtain ⟨hr', hmon⟩ := step_ok (mk f L) op hr
  have hmon' : monStep ⟨keyFn f.keys, f.live⟩ op (step (mk f L) op).2 = _ := hmon
  obtain ⟨ha1, ha2⟩ := monStepF_abs m op (hstep f op).2.ans
  rw [hm, h3, hmon'] at ha1 ha2
  rw [h3]
  exact ⟨⟨L', h2, h1 ▸ hr', ha1.trans (by rw [h1]; rfl)⟩, ha2⟩

def PtrDistinct (m : TMSt) : Prop := ∀ r1 ∈ m.live, ∀ r2 ∈ m.live, m.ptr r1 = m.ptr r2 → r1 = r2

def FreshPtr (m : TMSt) : TOp → Prop
  | .add _ _ _ p => ∀ r ∈ m.live, m.ptr r ≠ p
  | _ => True

theorem ptrDistinct_step (m : TMSt) (o : TOp) (a : TAns) (hd : PtrDistinct m) (hf : FreshPtr m o) :
    PtrDistinct (tmonStep m o a).1 := by
  have herase : ∀ r, PtrDistinct { m with live := m.live.erase r } := by
    intro r r1 h1 r2 h2 he
    exact hd r1 (List.mem_of_mem_erase h1) r2 (List.mem_of_mem_erase h2) he
  cases o with
  | add r sec usec p =>
    simp only [tmonStep]
    split
    · exact hd
    · -- the new record's pointer is fresh, the other records keep theirs
      intro r1 h1 r2 h2 he
      simp only [updN] at he
      have hlive : ∀ x, x ∈ r :: m.live → x ≠ r → x ∈ m.live :=
        fun x hx hne => (List.mem_cons.mp hx).resolve_left hne
      by_cases e1 : r1 = r <;> by_cases e2 : r2 = r
      · rw [e1, e2]
      · rw [if_pos e1, if_neg e2] at he
        exact absurd he.symm (hf r2 (hlive r2 h2 e2))
      · rw [if_neg e1, if_pos e2] at he
        exact absurd he (hf r1 (hlive r1 h1 e1))
      · rw [if_neg e1, if_neg e2] at he
        exact hd r1 (hlive r1 h1 e1) r2 (hlive r2 h2 e2) he
  | del r =>
    simp only [tmonStep]
    split
    · exact hd
    · exact herase r
  | inc r sec usec =>
    simp only [tmonStep]
    split <;> exact hd
  | getmin =>
    cases a with
    | tmin x => cases x <;> exact hd
    | _ => exact hd
  | get sec usec =>
    cases a with
    | rel x => cases x with
      | none => exact hd
      | some rp => exact herase rp.1
    | _ => exact hd

theorem resolve_eq (m : TMSt) (hd : PtrDistinct m) (r : Nat) (hr : r ∈ m.live) :
    resolve m (m.ptr r) = some r := by
  unfold resolve
  cases h : m.live.find? (fun x => m.ptr x == m.ptr r) with
  | none => exact absurd (beq_self_eq_true _) (List.find?_eq_none.mp h r hr)
  | some x =>
    have hpx : (m.ptr x == m.ptr r) = true :=
      List.find?_some (p := fun x => m.ptr x == m.ptr r) h
    rw [hd x (List.mem_of_find?_eq_some h) r hr (beq_iff_eq.mp hpx)]

theorem toTAns_l1 (m : TMSt) (hd : PtrDistinct m) (o : TOp) (a : TAns) (hv : (tmonStep m o a).2 = true) :
    toTAns m (tl1 (.ans a)) = some a := by
  cases a with
  | ok => rfl
  | skip => rfl
  | precondition => rfl
  | tmin x => rfl
  | rel x =>
    cases x with
    | none => rfl
    | some rp =>
      obtain ⟨r, p⟩ := rp
      cases o with
      | add r' sec usec p' => simp only [tmonStep] at hv; split at hv <;> simp at hv
      | del r' => simp only [tmonStep] at hv; split at hv <;> simp at hv
      | inc r' sec usec => simp only [tmonStep] at hv; split at hv <;> simp at hv
      | getmin => simp [tmonStep] at hv
      | get sec usec =>
        simp only [tmonStep, getptrOk, isLeast, Bool.and_eq_true, beq_iff_eq] at hv
        obtain ⟨⟨⟨hc, _⟩, _⟩, hp⟩ := hv
        have hr : r ∈ m.live := by simpa using hc
        simp only [tl1, toTAns, hp, resolve_eq m hd r hr, Option.map_some]

def TRel (f : TSt) (m : FTMSt) : Prop :=
  ∃ L, TPosOk f L ∧ TReach (mkT f L) ∧ m.abs = mOf (mkT f L) ∧ PtrDistinct m.abs

theorem trel_init : TRel {} {} :=
  ⟨[], posOk_nil, ⟨tq_inv_empty, by simp [mkT, underQ, TSt.q, under]⟩, fabs_init.trans mOf_init.symm,
    fun r1 h1 => by cases h1⟩

theorem tstep_rel (f : TSt) (m : FTMSt) (h : TRel f m) (o : TOp) (hf : FreshPtr m.abs o) :
    TRel (tstepX f (.op o)).1 (tmonStepIF m (.op o) (tl1 (tstepX f (.op o)).2.ans)).1 ∧
    (tmonStepIF m (.op o) (tl1 (tstepX f (.op o)).2.ans)).2 = true := by
  obtain ⟨L, hp, hr, hm, hd⟩ := h
  obtain ⟨L', h1, h2, h3, _⟩ := tstep_mk f L hp o
  obtain ⟨hr', hmon⟩ := tstep_ok (mkT f L) o hr
  have hmon' : tmonStep m.abs o (tstep (mkT f L) o).2 = (mOf (tstep (mkT f L) o).1, true) := by
    rw [hm]; exact hmon
  obtain ⟨ha1, ha2⟩ := tmonStepIF_abs m (.op o) (tl1 (tstepX f (.op o)).2.ans)
  have hto : toTAns m.abs (tl1 (tstepX f (.op o)).2.ans) = some (tstep (mkT f L) o).2 := by
    rw [h3]; exact toTAns_l1 m.abs hd o _ (by rw [hmon'])
  have hI : tmonStepI m.abs (.op o) (tl1 (tstepX f (.op o)).2.ans) = (mOf (tstep (mkT f L) o).1, true) := by
    simp only [tmonStepI, hto, hmon']
  rw [hI] at ha1 ha2
  refine ⟨⟨L', h2, by rw [← h1]; exact hr', by rw [ha1, h1], ?_⟩, ha2⟩
  rw [ha1]
  have := ptrDistinct_step m.abs o (tstep (mkT f L) o).2 hd hf
  rw [hmon'] at this; exact this

theorem tqDrain_eq_drainList (sec usec : Int) : ∀ (fuel : Nat) (q : TimerQueue.TQ), TQInv q →
    (∀ r ∈ q.h.a.toList, TimerQueue.key q.recs r ≤ TimerQueue.tvKey sec usec) →
    (tqDrain sec usec fuel q).map (·.1) = HeapRun.drainList (TimerQueue.key q.recs) fuel q.h := by
  intro fuel
  induction fuel with
  | zero => intro q _ _; rfl
  | succ fuel ih =>
    intro q hi hall
    simp only [tqDrain, HeapRun.drainList, TimerQueue.getptr]
    cases hg : getmin q.h with
    | none => rfl
    | some r =>
      have hl := getmin_isLeast _ q.h r hi.inv hg
      obtain ⟨x, hx⟩ := hi.bound r hl.1
      have hdue := hall r hl.1
      rw [key_of_lookup _ _ _ hx] at hdue
      obtain ⟨h', hdel, hi', hperm⟩ := delete_at (TimerQueue.key q.recs) q.h 0 r hi.inv hg
      have hdm : deletemin (TimerQueue.key q.recs) q.h = some h' := hdel
      have hsub : ∀ y ∈ h'.a.toList, y ∈ q.h.a.toList := fun y hy => hperm.mem_iff.mpr (List.mem_cons_of_mem _ hy)
      simp only [hx, if_neg (Int.not_lt.mpr hdue), hdm, List.map_cons]
      exact congrArg (r :: ·) (ih ⟨h', q.recs⟩ (hi.leave hi' hperm) fun y hy => hall y (hsub y hy))

theorem filterMap_resolve (m : TMSt) (hd : PtrDistinct m) : ∀ rps : List (Nat × Nat),
    (∀ rp ∈ rps, rp.1 ∈ m.live ∧ rp.2 = m.ptr rp.1) →
    (rps.map (·.2)).filterMap (resolve m) = rps.map (·.1) := by
  intro rps
  induction rps with
  | nil => intro _; rfl
  | cons rp rps ih =>
    intro h
    obtain ⟨h1, h2⟩ := h rp List.mem_cons_self
    simp only [List.map_cons, List.filterMap_cons, h2, resolve_eq m hd rp.1 h1]
    rw [ih (fun x hx => h x (List.mem_cons_of_mem _ hx))]

theorem tdrain_rel (f : TSt) (m : FTMSt) (h : TRel f m) (sec usec : Int)
    (hall : ∀ r ∈ f.live, TimerQueue.key f.recs r ≤ TimerQueue.tvKey sec usec) :
    TRel (tstepX f (.drain sec usec)).1 (tmonStepIF m .drain (tl1 (tstepX f (.drain sec usec)).2.ans)).1 ∧
    (tmonStepIF m .drain (tl1 (tstepX f (.drain sec usec)).2.ans)).2 = true := by
  obtain ⟨L, hp, hr, hm, hd⟩ := h
  refine ⟨trel_init, ?_⟩
  -- everything is due, so the drain is the heap's, which releases every live record, least first
  have h1 := drainList_ok (TimerQueue.key (underQ f.q L).recs) f.a.size (underQ f.q L).h f.live hr.inv.inv hr.perm rfl
  rw [← tqDrain_eq_drainList sec usec _ (underQ f.q L) hr.inv fun r hr' => hall r (hr.perm.mem_iff.mp hr')] at h1
  have h2 := (tq_drain sec usec f.a.size (underQ f.q L) hr.inv).2
  rw [tqDrain_under] at h1 h2
  have htime : m.time = TimerQueue.key f.recs := congrArg TMSt.time hm
  have hlive : m.live = f.live := congrArg TMSt.live hm
  have hptr : m.abs.ptr = ptrOf f.recs := congrArg TMSt.ptr hm
  have hres := filterMap_resolve m.abs hd (tqDrain sec usec f.a.size f.q) (by
    intro rp hrp
    obtain ⟨-, hmem, x, hx, hpx⟩ := h2 rp hrp
    refine ⟨(show m.abs.live = f.live from hlive) ▸ hr.perm.mem_iff.mp hmem, ?_⟩
    rw [hptr, hpx]
    simp only [ptrOf, show TimerQueue.lookup f.recs rp.1 = some x from hx])
  simp only [tstepX, tl1, tmonStepIF, hres, List.length_map, beq_self_eq_true, Bool.true_and, htime, hlive]
  exact h1

def XRel (s : St) (m : XMSt) : Prop := HRel s.h m.h ∧ TRel s.t m.t

theorem xrel_init : XRel {} {} := ⟨hrel_init, trel_init⟩

/-- what is assumed of an operation in the state `s` of the executable: a timer is added with a pointer no
live timer stores (else the implementation's `getptr` answer does not say which record it released), and
the final drain is made at a time not earlier than any live timer (else it does not release everything) -/
def OpOk (s : St) : XOp → Prop
  | .h _ => True
  | .t (.op o) => FreshPtr ⟨TimerQueue.key s.t.recs, ptrOf s.t.recs, s.t.live⟩ o
  | .t (.drain sec usec) => ∀ r ∈ s.t.live, TimerQueue.key s.t.recs r ≤ TimerQueue.tvKey sec usec

def OpsOk : St → List XOp → Prop
  | _, [] => True
  | s, op :: ops => OpOk s op ∧ OpsOk (stepOp s op).1 ops

theorem stepOp_rel (s : St) (m : XMSt) (h : XRel s m) (op : XOp) (hok : OpOk s op) :
    XRel (stepOp s op).1 (monStepX m op.toI (stepOp s op).2.l1).1 ∧
    (monStepX m op.toI (stepOp s op).2.l1).2 = true := by
  obtain ⟨hh, ht⟩ := h
  cases op with
  | h o =>
    obtain ⟨h1, h2⟩ := hstep_rel s.h m.h hh o
    exact ⟨⟨h1, ht⟩, h2⟩
  | t o =>
    cases o with
    | op o =>
      have hf : FreshPtr m.t.abs o := by
        obtain ⟨L, _, _, hm, _⟩ := ht
        rw [hm]; exact hok
      obtain ⟨h1, h2⟩ := tstep_rel s.t m.t ht o hf
      exact ⟨⟨hh, h1⟩, h2⟩
    | drain sec usec =>
      obtain ⟨h1, h2⟩ := tdrain_rel s.t m.t ht sec usec hok
      exact ⟨⟨hh, h1⟩, h2⟩

theorem runOps_rel (ops : List XOp) : ∀ (s : St) (m : XMSt), XRel s m → OpsOk s ops →
    acceptsX m ((ops.map XOp.toI).zip ((runOps s ops).2.map XOut.l1)) = true ∧
    ∃ m', XRel (runOps s ops).1 m' := by
  induction ops with
  | nil => intro s m h _; exact ⟨rfl, m, h⟩
  | cons op ops ih =>
    intro s m h hok
    obtain ⟨h1, h2⟩ := stepOp_rel s m h op hok.1
    obtain ⟨ih1, ih2⟩ := ih _ _ h1 hok.2
    refine ⟨?_, ih2⟩
    simp only [runOps, List.map_cons, List.zip_cons_cons, acceptsX, h2, Bool.true_and]
    exact ih1

end Percival.Proofs.HeapStep
