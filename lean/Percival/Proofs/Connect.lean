import Percival.Model.Connect
/-! Lemmas for C06 (connect): the stepwise model equals a one-pass reference, which is
    then characterised by the specification `firstSuccess`. -/
namespace Percival.Proofs.Connect
open Percival.Model.Connect

/-- the attempt gives up on an address — closes its socket and goes on to the next — if it fails, at once or
later, or hangs while a timeout is set; `success` and a hang without timeout end the attempt -/
def givesUp (timeo : Bool) : AddrOutcome → Bool
  | .failNow | .asyncFail => true
  | .hang => timeo
  | .success => false

/-- one-pass reference: everything the attempt does, start to end -/
def runAll (timeo : Bool) : List AddrOutcome → (idx fd : Nat) → List Ev
  | [], _, _ => [.cb (-1)]
  | a :: rest, idx, fd =>
    if givesUp timeo a then .sock fd idx :: .close fd :: runAll timeo rest (idx + 1) (fd + 1)
    else .sock fd idx :: (if a = .success then [.cb fd] else [])

theorem stepwise_eq_runAll (timeo : Bool) (addrs : List AddrOutcome) (idx fd fuel : Nat)
    (hf : addrs.length + 1 ≤ fuel) :
    (tryconnect addrs idx fd).1 ++ (spin timeo fuel (tryconnect addrs idx fd).2.1 (tryconnect addrs idx fd).2.2).1
      = runAll timeo addrs idx fd := by
  induction addrs generalizing idx fd fuel with
  | nil => obtain ⟨f, rfl⟩ := Nat.exists_eq_succ_of_ne_zero (Nat.ne_of_gt hf); rfl
  | cons a rest ih =>
    obtain ⟨f, rfl⟩ := Nat.exists_eq_succ_of_ne_zero (Nat.ne_of_gt (Nat.lt_of_lt_of_le (Nat.succ_pos _) hf))
    have hf' : rest.length + 1 ≤ f := Nat.le_of_succ_le_succ hf
    -- an address given up after its socket was made: close it, then go on with the rest
    have hnext : .sock fd idx :: (.close fd :: (tryconnect rest (idx + 1) (fd + 1)).1 ++
        (spin timeo f (tryconnect rest (idx + 1) (fd + 1)).2.1 (tryconnect rest (idx + 1) (fd + 1)).2.2).1) =
        .sock fd idx :: .close fd :: runAll timeo rest (idx + 1) (fd + 1) := by
      rw [List.cons_append, ih (idx + 1) (fd + 1) f hf']
    cases a with
    | failNow => exact congrArg (.sock fd idx :: .close fd :: ·) (ih (idx + 1) (fd + 1) (f + 1) (Nat.le_succ_of_le hf'))
    | success => rfl
    | asyncFail => exact hnext
    | hang =>
      cases timeo with
      | true => exact hnext
      | false => rfl

theorem run_eq_runAll (timeo : Bool) (addrs : List AddrOutcome) (fd : Nat) :
    (run timeo addrs fd).1 = runAll timeo addrs 0 fd :=
  stepwise_eq_runAll timeo addrs 0 fd (addrs.length + 1) (Nat.le_refl _)

def cbs : List Ev → List Int
  | [] => []
  | .cb v :: r => v :: cbs r
  | _ :: r => cbs r

/-- descriptors still open after a trace (opened and not closed), oldest first -/
def stillOpen : List Ev → List Nat → List Nat
  | [], acc => acc
  | .sock fd _ :: r, acc => stillOpen r (acc ++ [fd])
  | .close fd :: r, acc => stillOpen r (acc.erase fd)
  | .cb _ :: r, acc => stillOpen r acc

/-- the (descriptor, address index) pairs in the order the sockets were created -/
def socks : List Ev → List (Nat × Nat)
  | [] => []
  | .sock fd idx :: r => (fd, idx) :: socks r
  | _ :: r => socks r

theorem firstSuccess_cons (timeo : Bool) (a : AddrOutcome) (rest : List AddrOutcome) (j : Nat) :
    firstSuccess timeo (a :: rest) j =
      if givesUp timeo a then firstSuccess timeo rest (j + 1)
      else if a = .success then some (some j) else none := by
  cases a <;> cases timeo <;> rfl

theorem firstSuccess_succ (timeo : Bool) (l : List AddrOutcome) (j : Nat) :
    firstSuccess timeo l (j + 1) = (firstSuccess timeo l j).map (Option.map (· + 1)) := by
  induction l generalizing j with
  | nil => rfl
  | cons a l ih =>
    rw [firstSuccess_cons, firstSuccess_cons, ih]
    split
    · rfl
    · split <;> rfl

theorem firstSuccess_timeo_ne_none (l : List AddrOutcome) (j : Nat) : firstSuccess true l j ≠ none := by
  induction l generalizing j with
  | nil => nofun
  | cons a l ih =>
    rw [firstSuccess_cons]
    cases a with
    | success => nofun
    | failNow | asyncFail | hang => exact ih (j + 1)

theorem cbs_runAll (timeo : Bool) (addrs : List AddrOutcome) (idx fd : Nat) :
    cbs (runAll timeo addrs idx fd) =
      match firstSuccess timeo addrs 0 with
      | some (some i) => [((fd + i : Nat) : Int)]
      | some none => [-1]
      | none => [] := by
  induction addrs generalizing idx fd with
  | nil => rfl
  | cons a rest ih =>
    rw [runAll, firstSuccess_cons]
    split
    · -- an address that is given up costs one descriptor and one index
      show cbs (runAll timeo rest (idx + 1) (fd + 1)) = _
      rw [ih, firstSuccess_succ]
      cases firstSuccess timeo rest 0 with
      | none => rfl
      | some o =>
        cases o with
        | none => rfl
        | some i =>
          show [((fd + 1 + i : Nat) : Int)] = [((fd + (i + 1) : Nat) : Int)]
          rw [Nat.add_right_comm, Nat.add_assoc]
    · split <;> rfl

theorem socks_runAll (timeo : Bool) (addrs : List AddrOutcome) (idx fd : Nat) :
    ∃ n, n ≤ addrs.length ∧ socks (runAll timeo addrs idx fd) = (List.range n).map (fun j => (fd + j, idx + j)) := by
  induction addrs generalizing idx fd with
  | nil => exact ⟨0, Nat.le_refl _, rfl⟩
  | cons a rest ih =>
    rw [runAll]
    split
    · obtain ⟨n, hn, hs⟩ := ih (idx + 1) (fd + 1)
      refine ⟨n + 1, Nat.succ_le_succ hn, ?_⟩
      show (fd, idx) :: socks (runAll timeo rest (idx + 1) (fd + 1)) = _
      rw [hs, List.range_succ_eq_map, List.map_cons, List.map_map]
      refine congrArg ((fd, idx) :: ·) (List.map_congr_left fun j _ => ?_)
      show (fd + 1 + j, idx + 1 + j) = (fd + (j + 1), idx + (j + 1))
      rw [Nat.add_right_comm fd, Nat.add_right_comm idx, Nat.add_assoc fd, Nat.add_assoc idx]
    · exact ⟨1, Nat.succ_le_succ (Nat.zero_le _), by split <;> rfl⟩

theorem stillOpen_runAll (timeo : Bool) (addrs : List AddrOutcome) (idx fd : Nat) (acc : List Nat)
    (hacc : ∀ x ∈ acc, x < fd) :
    stillOpen (runAll timeo addrs idx fd) acc =
      match firstSuccess timeo addrs 0 with
      | some (some i) => acc ++ [fd + i]
      | some none => acc
      | none => acc ++ [fd + (addrs.takeWhile (· ≠ .hang)).length] := by
  induction addrs generalizing idx fd with
  | nil => rfl
  | cons a rest ih =>
    rw [runAll, firstSuccess_cons]
    split
    · rename_i hg
      -- the socket of an address given up is closed again; the next address gets the next descriptor
      have herase : (acc ++ [fd]).erase fd = acc := by
        rw [List.erase_append_right _ fun h => Nat.lt_irrefl _ (hacc fd h), List.erase_cons_head, List.append_nil]
      show stillOpen (runAll timeo rest (idx + 1) (fd + 1)) ((acc ++ [fd]).erase fd) = _
      rw [herase, ih (idx + 1) (fd + 1) fun x hx => Nat.lt_succ_of_lt (hacc x hx), firstSuccess_succ]
      cases hfs : firstSuccess timeo rest 0 with
      | none =>
        -- the attempt hangs further on: no timeout, so the address given up here did not hang
        have hne : a ≠ .hang := by
          rintro rfl
          obtain rfl : timeo = true := hg
          exact firstSuccess_timeo_ne_none rest 0 hfs
        show acc ++ [fd + 1 + _] = acc ++ [fd + ((a :: rest).takeWhile (· ≠ .hang)).length]
        rw [List.takeWhile_cons_of_pos (by simpa using hne), List.length_cons, Nat.add_right_comm, Nat.add_assoc]
      | some o =>
        cases o with
        | none => rfl
        | some i =>
          show acc ++ [fd + 1 + i] = acc ++ [fd + (i + 1)]
          rw [Nat.add_right_comm, Nat.add_assoc]
    · rename_i hg
      -- the attempt ends here: with the callback, or waiting for good on a hang without timeout
      cases a with
      | success => rfl
      | hang =>
        cases timeo with
        | false => rfl
        | true => exact absurd rfl hg
      | failNow | asyncFail => exact absurd rfl hg

theorem cbs_append (a b : List Ev) : cbs (a ++ b) = cbs a ++ cbs b := by
  induction a with
  | nil => rfl
  | cons e a ih =>
    cases e with
    | cb v => exact congrArg (v :: ·) ih
    | sock _ _ => exact ih
    | close _ => exact ih

theorem cbs_tryconnect (addrs : List AddrOutcome) (idx fd : Nat) : cbs (tryconnect addrs idx fd).1 = [] := by
  induction addrs generalizing idx fd with
  | nil => rfl
  | cons a rest ih =>
    cases a with
    | failNow => exact ih (idx + 1) (fd + 1)
    | success => rfl
    | asyncFail => rfl
    | hang => rfl

theorem spin_once (timeo : Bool) (fuel : Nat) (st : St) (fd : Nat) :
    cbs (spin timeo fuel st fd).1 = [] ∨
    ∃ v, cbs (spin timeo fuel st fd).1 = [v] ∧ (spin timeo fuel st fd).2.1 = .finished := by
  induction fuel generalizing st fd with
  | zero => exact .inl rfl
  | succ f ih =>
    cases st with
    | finished => exact .inl rfl
    | immediate => exact .inr ⟨-1, rfl, rfl⟩
    | waiting s idx cur rest =>
      -- giving up on the current address makes no callback; the rest is a shorter run
      have hnext : cbs (.close s :: (tryconnect rest (idx + 1) fd).1 ++
          (spin timeo f (tryconnect rest (idx + 1) fd).2.1 (tryconnect rest (idx + 1) fd).2.2).1) =
          cbs (spin timeo f (tryconnect rest (idx + 1) fd).2.1 (tryconnect rest (idx + 1) fd).2.2).1 := by
        rw [List.cons_append]
        show cbs (_ ++ _) = _
        rw [cbs_append, cbs_tryconnect, List.nil_append]
      cases cur with
      | success => exact .inr ⟨s, rfl, rfl⟩
      | hang =>
        cases timeo with
        | false => exact .inl rfl
        | true => exact hnext ▸ ih _ _
      | failNow => exact hnext ▸ ih _ _
      | asyncFail => exact hnext ▸ ih _ _

end Percival.Proofs.Connect
