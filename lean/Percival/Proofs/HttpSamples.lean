import Percival.Spec.HttpResp
/-! Concrete data for the non-vacuity examples in `Properties/C08.lean` and `Properties/C09.lean`. -/
namespace Percival.Proofs.HttpSamples
open Percival.Spec.HttpResp

/-- "HTTP/1.1 200 OK", `Transfer-Encoding: chunked`, one chunk "hi", last chunk -/
def sampleStream : List UInt8 :=
  [72, 84, 84, 80, 47, 49, 46, 49, 32, 50, 48, 48, 32, 79, 75, 13, 10, 84, 114, 97, 110, 115, 102, 101, 114, 45, 69, 110, 99, 111, 100, 105, 110, 103, 58, 32, 99, 104, 117, 110, 107, 101, 100, 13, 10, 13, 10, 50, 13, 10, 104, 105, 13, 10, 48, 13, 10, 13, 10]

/-- a well-formed value: one interim `HTTP/1.1 100 C`, then `HTTP/1.1 200 OK`, `A: b` (with OWS),
    `Transfer-Encoding: chunked`, two chunks "hi" and "!" (the second with an extension) -/
def sample : Resp :=
  { interim := [{ minor := 1, status := 100, reason := [32, 67], headers := [] }],
    final := { minor := 1, status := 200, reason := [32, 79, 75],
               headers := [{ name := [65], value := [98], pre := [32], post := [9] },
                           { name := sTransferEncoding, value := sChunked, pre := [32] }] },
    framing := .chunked [([104, 105], []), ([33], [59, 120])] [] [13, 10] }

end Percival.Proofs.HttpSamples
