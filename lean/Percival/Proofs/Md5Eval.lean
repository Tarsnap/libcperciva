import Percival.Spec.Hmac
import Percival.Proofs.MDEval
/-! MD5 on natural numbers (`MDEval`): `hash_eq : Spec.Md5.hash = hash`. -/
namespace Percival.Proofs.Md5Eval
open Percival.Spec
open Percival.Proofs.MDEval (add32 not32 rotl Parity fld pack)
open Percival.Proofs.Words (encLE)

def F (x y z : Nat) : Nat := Nat.lor (Nat.land x y) (Nat.land (not32 x) z)
def G (x y z : Nat) : Nat := Nat.lor (Nat.land x z) (Nat.land y (not32 z))
def I (x y z : Nat) : Nat := Nat.xor y (Nat.lor x (not32 z))

def aux (i x y z : Nat) : Nat :=
  if i < 16 then F x y z else if i < 32 then G x y z else if i < 48 then Parity x y z else I x y z

/-- `Md5.Regs` with the words as natural numbers below `2^32` -/
structure Regs where
  a : Nat
  b : Nat
  c : Nat
  d : Nat

def toRegs (r : Md5.Regs) : Regs := ⟨r.a.toNat, r.b.toNat, r.c.toNat, r.d.toNat⟩

def op (r : Regs) (i xk s t : Nat) : Regs :=
  { a := r.d, c := r.b, d := r.c,
    b := add32 r.b (rotl (add32 (Nat.add (Nat.add r.a (aux i r.b r.c r.d)) xk) t) s) }

def addRegs (s r : Regs) : Regs :=
  ⟨add32 s.a r.a, add32 s.b r.b, add32 s.c r.c, add32 s.d r.d⟩

/-- the operations `[abcd k s i]` from number `i` on, on the block `X` (sixteen words as one number); the rows are
    given by the columns `k`, `s`, `T[i]` of RFC 1321's table -/
def ops (X : Nat) : List Nat → List UInt32 → List UInt32 → Nat → Regs → Regs
  | k :: ks, s :: ss, t :: ts, i, r => ops X ks ss ts (Nat.add i 1) (op r i (fld X k) s.toNat t.toNat)
  | _, _, _, _, r => r

def compress (s : Regs) (blk : Nat) : Regs := addRegs s (ops blk Md5.kTable Md5.sTable Md5.T 0 s)

def out (r : Regs) : Bytes := encLE r.a ++ encLE r.b ++ encLE r.c ++ encLE r.d

attribute [local simp] MDEval.mod_def MDEval.shiftLeft_def MDEval.shiftRight_def add32 not32 rotl F G Parity I
  Md5.rotl Md5.F Md5.G Md5.H Md5.I

theorem toRegs_op (r : Md5.Regs) (i : Nat) (xk s t : UInt32) (h0 : 0 < s.toNat) (hs : s.toNat < 32) :
    toRegs (Md5.op r i xk s t) = op (toRegs r) i xk.toNat s.toNat t.toNat := by
  have e : (32 - s).toNat = 32 - s.toNat := by
    rw [UInt32.toNat_sub_of_le _ _ (UInt32.le_iff_toNat_le.mpr (by simp; omega))]; rfl
  simp [Md5.op, op, toRegs, aux, Md5.aux, apply_ite UInt32.toNat, e, Nat.mod_eq_of_lt hs,
    Nat.mod_eq_of_lt (show 32 - s.toNat < 32 by omega)]

theorem toRegs_addRegs (s r : Md5.Regs) : toRegs (Md5.addRegs s r) = addRegs (toRegs s) (toRegs r) := by
  simp [Md5.addRegs, addRegs, toRegs]

theorem toRegs_ops (X : List UInt32) (hX : X.length = 16) : ∀ (ks : List Nat) (ss ts : List UInt32) (i : Nat) (r : Md5.Regs),
    (∀ k ∈ ks, k < 16) → (∀ s ∈ ss, 0 < s.toNat ∧ s.toNat < 32) →
    toRegs (((ks.zip (ss.zip ts)).zipIdx i).foldl (fun r e => match X[e.1.1]? with
      | some xk => Md5.op r e.2 xk e.1.2.1 e.1.2.2
      | none => r) r) = ops (pack (X.map UInt32.toNat)) ks ss ts i (toRegs r)
  | [], _, _, _, _, _, _ => by simp [ops]
  | _ :: _, [], _, _, _, _, _ => by simp [ops]
  | _ :: _, _ :: _, [], _, _, _, _ => by simp [ops]
  | k :: ks, s :: ss, t :: ts, i, r, hk, hs => by
    have hk0 : k < X.length := hX ▸ hk k List.mem_cons_self
    have hs0 := hs s List.mem_cons_self
    rw [ops, List.zip_cons_cons, List.zip_cons_cons, List.zipIdx_cons, List.foldl_cons,
      toRegs_ops X hX ks ss ts _ _ (fun k h => hk k (List.mem_cons_of_mem _ h)) (fun s h => hs s (List.mem_cons_of_mem _ h))]
    simp only [List.getElem?_eq_getElem hk0, toRegs_op _ _ _ _ _ hs0.1 hs0.2, MDEval.fld_toNat,
      List.getD_eq_getElem?_getD, Option.getD_some]

theorem compress_eq (s : Md5.Regs) (X : List UInt32) (h : X.length = 16) :
    toRegs (Md5.addRegs s (Md5.rounds s X)) = compress (toRegs s) (pack (X.map UInt32.toNat)) := by
  rw [toRegs_addRegs, Md5.rounds]
  exact congrArg _ (toRegs_ops X h _ _ _ 0 s (by decide) (by decide))

def eval : MDEval.Eval Md5.params where
  ρ := Regs
  toN := toRegs
  word := MDEval.wordLE
  f := compress
  out := out
  compress := fun s b hb => MDEval.toNat_wordsLE b ▸ compress_eq s _ (by rw [Words.wordsLE_length, hb])
  out_eq := fun s => by simp [show Md5.params.out = Md5.out from rfl, Md5.out, out, toRegs, Words.le32enc_eq]

def hash : Bytes → Bytes := eval.hash

theorem hash_eq : Md5.hash = hash := eval.hash_eq

theorem hmacMd5_eq : Hmac.hmacMd5 = Hmac.hmac hash := by
  funext k m; rw [Hmac.hmacMd5, hash_eq]

end Percival.Proofs.Md5Eval
