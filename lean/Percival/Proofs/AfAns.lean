import Percival.Proofs.DsAns
import Percival.Proofs.AfMonReg
import Percival.Driver.Af
import Percival.Driver.Afmon
import Percival.Driver.Upmodel
import Percival.Driver.Upmon
/-!
# `Out.ans` is read ∘ print (C14): what `pmodel afmon` / `pmodel upmon` read of a line `pmodel af` / `pmodel upmodel` prints

`Driver/Af.render o` (`Driver/Upmodel.render o`) is the tokens `l1Toks o` joined by single spaces, followed by ` | ` and
the L2 part; `Driver/Afmon.parseAns` (`Driver/Upmon.parseAns`) reads a list of tokens.  `af_parseAns_l1Toks`,
`up_parseAns_l1Toks`: **for every typed output `o`, `parseAns (l1Toks o) = o.ans`** — `Out.ans` (`Model/AfStep.lean`,
`Model/UpStep.lean`) being the typed answer the soundness theorems `C14.monitor_accepts_model`,
`C14.up_monitor_accepts_model` feed to the monitors.  Number printing / reading, the `key=value` reading (`kvOf`: prefix
of the character list), the `,`-separated id list of `ran=` (`String.split` with a character pattern), `id=none` and
`-` included.  `up_parseKind`: `pmodel upmon` reduces an operation line to the `Kind` of the operation `pmodel upmodel`
reads.  `af_verdicts_ok`, `up_verdicts_ok`: the monitor executables' whole step functions (`Afmon.step`, `Upmon.step`)
along a case, on the L1 tokens the model prints.  Not covered: the cut of the printed line at ` | ` and at the spaces
(`Driver/Loop.loopMon`, `tools/vlib.py`); no token contains a space (`af_l1Toks_line`, `up_l1Toks_line`).
Number / splitting lemmas from `Proofs/TokText.lean`.
-/
namespace Percival.Proofs.AfAns
open Percival Percival.Model Percival.Driver
open Percival.Driver.Ds (kv showWord)
open Percival.Driver.Afmon (kvOf field natField numOf parseIds)
open Percival.Proofs.TokText

theorem kvOf_kv (k v : String) : kvOf (kv k v) k = some v := kvRead_kv k v

theorem kvOf_atom {t : String} (h : Atom t) (key : String) : kvOf t key = none := kvRead_free (h.free rfl) key

theorem kvOf_ne {k k' : String} (v : String) (hk : Atom k) (hk' : Atom k') (hne : k' ≠ k) : kvOf (kv k v) k' = none :=
  kvRead_ne v (hk.free rfl) (hk'.free rfl) hne

theorem vocab : Atom "id" ∧ Atom "ran" ∧ Atom "BAD" ∧ Atom "model-contract" := by decide +kernel

theorem atom_okfail (ok : Bool) : Atom (if ok then "ok" else "fail") := by cases ok <;> decide +kernel

theorem parseIds_showList (ids : List Nat) : parseIds (Af.showList (ids.map toString)) = some ids :=
  readDashList_nats ids

theorem showList_nats_sp (ids : List Nat) : ' ' ∉ (Af.showList (ids.map toString)).toList := dashList_nats_sp ids

section af
open Percival.Model.AfStep

theorem atom_showRes (st : EvReg.NetRes) : Atom (Af.showRes st) := by cases st <;> decide +kernel

theorem parseHead_showRes (st : EvReg.NetRes) : Afmon.parseHead (Af.showRes st) = headOf st := by
  cases st <;> rfl
theorem parseHead_okfail (ok : Bool) :
    Afmon.parseHead (if ok then "ok" else "fail") = if ok then .ok else .fail := by cases ok <;> rfl

theorem parseId_nat (e : Nat) : Afmon.parseId (some (toString e)) = .val e := by
  unfold Afmon.parseId
  split
  · rename_i h; cases h
  · rename_i h; exact absurd (Option.some.inj h) (nat_ne_none e)
  · rename_i x _ h
    cases h
    rw [nat_rt]

/-- **what `pmodel afmon` reads of the L1 tokens `pmodel af` prints is `Out.ans`**, for every typed output: the
tokens are written out, and each field the parser looks for is found at its token and nowhere else -/
theorem af_parseAns_l1Toks (o : Out) : Afmon.parseAns (Af.l1Toks o) = o.ans := by
  rcases o with w | ⟨live, n⟩ | ⟨ok, rfn, _ | _ | e, l2⟩ | ⟨st, rfn, _ | ids, l2⟩
  · cases w <;> decide
  all_goals
    simp only [Af.l1Toks, Af.idToks, Af.ranToks, List.append_nil, List.cons_append, List.nil_append, Afmon.parseAns,
      natField, field, numOf, List.findSome?_cons, List.findSome?_nil, kvOf_atom, kvOf_ne, kvOf_kv, vocab,
      DsAns.vocab, words, atom_okfail, atom_showRes, ne_eq, String.reduceEq, not_false_eq_true, List.length,
      List.getElem?_cons_succ, List.getElem?_cons_zero, List.getElem?_nil, Option.bind_some, Option.bind_none,
      Option.map_none, Option.map_some, nat_rt, int_toNat, zero_rt, parseHead_okfail, parseHead_showRes, parseId_nat,
      parseIds_showList, Out.ans]
    rfl

theorem af_l1Toks_line (o : Out) : Line (Af.l1Toks o) := by
  rcases o with w | ⟨live, n⟩ | ⟨ok, rfn, _ | _ | e, l2⟩ | ⟨st, rfn, _ | ids, l2⟩
  all_goals
    simp only [Af.l1Toks, Af.idToks, Af.ranToks, List.append_nil, List.cons_append, List.nil_append, line_one,
      line_more, DsAns.kv_sp, Atom.sp, vocab, DsAns.vocab, words, atom_okfail, atom_showRes, atom_nat, atom_int,
      DsAns.atom_showWord, showList_nats_sp, not_false_eq_true, and_self]

theorem af_split_l1 (o : Out) : Dsmon.splitCh ' ' (" ".intercalate (Af.l1Toks o)) = Af.l1Toks o :=
  (af_l1Toks_line o).cut

theorem af_render_eq (o : Out) :
    Af.render o = " ".intercalate (Af.l1Toks o) ++ (match Af.l2Str o with | some s => " | " ++ s | none => "") := rfl

/-- the verdict lines `pmodel afmon` prints on a case: `Afmon.step` along the (operation line, answer line) pairs -/
def afVerdicts (m : Spec.AfMon.MState) : List (List String × List String) → List String
  | [] => []
  | (op, ans) :: rest => (Afmon.step m op ans).2 :: afVerdicts (Afmon.step m op ans).1 rest

/-- the lines `pmodel af` prints on a case: `Af.step` along the operation lines -/
def afPrinted (s : S) : List (List String) → List String
  | [] => []
  | l :: rest => (Af.step s l).2 :: afPrinted (Af.step s l).1 rest

theorem af_step_l1Toks (s : S) (m : Spec.AfMon.MState) (line : List String) (op : Spec.AfMon.Op)
    (hp : Af.parseOp line = some op) :
    Afmon.step m line (Af.l1Toks (stepOp s op).2) =
      ((Spec.AfMon.monStep m op (stepOp s op).2.ans).1,
       match (Spec.AfMon.monStep m op (stepOp s op).2.ans).2 with | none => "ok" | some why => "bad " ++ why) := by
  simp only [Afmon.step, hp, af_parseAns_l1Toks]
  rfl

theorem af_verdicts_ok : ∀ (lines : List (List String)) (ops : List Spec.AfMon.Op) (s : S) (m : Spec.AfMon.MState),
    lines.mapM Af.parseOp = some ops →
    Spec.AfMon.acceptsRun m (AfMonReg.answered s ops) = true →
    afVerdicts m (lines.zip ((runOps s ops).map fun r => Af.l1Toks r.2)) = List.replicate lines.length "ok"
  | [], _, _, _, _, _ => rfl
  | line :: lines, ops, s, m, hp, hacc => by
    obtain ⟨op, ops', h1, h2, rfl⟩ := mapM_cons_some hp
    simp only [AfMonReg.answered, AfMonRel.ansOf, Spec.AfMon.acceptsRun] at hacc
    cases hm : (Spec.AfMon.monStep m op (stepOp s op).2.ans).2 with
    | some why =>
      rw [show Spec.AfMon.monStep m op (stepOp s op).2.ans =
        ((Spec.AfMon.monStep m op (stepOp s op).2.ans).1, some why) from by rw [← hm]] at hacc
      cases hacc
    | none =>
      rw [show Spec.AfMon.monStep m op (stepOp s op).2.ans =
        ((Spec.AfMon.monStep m op (stepOp s op).2.ans).1, none) from by rw [← hm]] at hacc
      simp only [runOps, List.map_cons, List.zip_cons_cons, afVerdicts, af_step_l1Toks s m line op h1, hm,
        List.length_cons, List.replicate_succ]
      rw [af_verdicts_ok lines ops' _ _ h2 hacc]

theorem af_printed_eq : ∀ (lines : List (List String)) (ops : List Spec.AfMon.Op) (s : S),
    lines.mapM Af.parseOp = some ops → afPrinted s lines = (runOps s ops).map fun r => Af.render r.2
  | [], _, _, hp => by cases hp; rfl
  | line :: lines, ops, s, hp => by
    obtain ⟨op, ops', h1, h2, rfl⟩ := mapM_cons_some hp
    simp only [afPrinted, Af.step, h1, runOps, List.map_cons, af_printed_eq lines ops' _ h2]

end af

section up
open Percival.Model.UpStep

theorem upParseHead_okfail (ok : Bool) :
    Upmon.parseHead (if ok then "ok" else "fail") = if ok then .ok else .fail := by cases ok <;> rfl

/-- **what `pmodel upmon` reads of the L1 tokens `pmodel upmodel` prints is `Out.ans`**, for every typed output -/
theorem up_parseAns_l1Toks (o : Out) : Upmon.parseAns (Upmodel.l1Toks o) = o.ans := by
  rcases o with w | ⟨live, n, left⟩ | ⟨ok, rfn, l2⟩
  · cases w <;> decide
  all_goals
    simp only [Upmodel.l1Toks, Upmon.parseAns, natField, field, numOf, List.findSome?_cons, List.findSome?_nil,
      List.find?_cons, List.find?_nil, kvOf_atom, kvOf_ne, kvOf_kv, vocab, DsAns.vocab, words, atom_okfail, ne_eq,
      String.reduceEq, not_false_eq_true, List.length, List.getElem?_cons_succ, List.getElem?_cons_zero,
      List.getElem?_nil, Option.bind_some, Option.bind_none, Option.isSome_none, nat_rt, int_toNat, zero_rt,
      upParseHead_okfail, Out.ans]
    try rfl

theorem up_l1Toks_line (o : Out) : Line (Upmodel.l1Toks o) := by
  rcases o with (_ | _ | _) | ⟨live, n, left⟩ | ⟨ok, rfn, l2⟩
  all_goals
    simp only [Upmodel.l1Toks, line_one, line_more, DsAns.kv_sp, Atom.sp, vocab, DsAns.vocab, words, atom_okfail,
      atom_nat, atom_int, not_false_eq_true, and_self]

theorem up_split_l1 (o : Out) : Dsmon.splitCh ' ' (" ".intercalate (Upmodel.l1Toks o)) = Upmodel.l1Toks o :=
  (up_l1Toks_line o).cut

theorem up_render_eq (o : Out) :
    Upmodel.render o =
      " ".intercalate (Upmodel.l1Toks o) ++ (match Upmodel.l2Str o with | some s => " | " ++ s | none => "") := rfl

theorem parseKind_call {w : String} (args : List String)
    (hw : w ≠ "failat" ∧ w ≠ "failfrom" ∧ w ≠ "failoff" ∧ w ≠ "end") : Upmon.parseKind (w :: args) = .call := by
  rw [Upmon.parseKind]
  all_goals (intros; rename_i h; cases h; simp at hw)

/-- **`pmodel upmon` reduces an operation line to the kind of the operation `pmodel upmodel` reads** -/
theorem up_parseKind_map (toks : List String) :
    (Upmodel.parseOp toks).map kindOf = (Upmodel.parseOp toks).map fun _ => Upmon.parseKind toks := by
  unfold Upmodel.parseOp
  split <;> (try split)
  case h_1 | h_2 | h_3 | h_4 =>
    rw [Upmon.parseKind]
    simp only [Option.map_bind, Function.comp_def, kindOf, Option.map_some, Option.pure_def, Option.bind_eq_bind]
  case h_25 => rfl
  all_goals
    rw [parseKind_call _ (by simp)]
    simp only [Option.map_bind, Function.comp_def, kindOf, Option.map_some, Option.pure_def, Option.bind_eq_bind]

theorem up_parseKind (toks : List String) (op : Op) (h : Upmodel.parseOp toks = some op) :
    Upmon.parseKind toks = kindOf op := by
  have := up_parseKind_map toks
  rw [h] at this
  exact (Option.some.inj this).symm

def upVerdicts (m : Spec.UpMon.MState) : List (List String × List String) → List String
  | [] => []
  | (op, ans) :: rest => (Upmon.step m op ans).2 :: upVerdicts (Upmon.step m op ans).1 rest

def upPrinted (s : S) : List (List String) → List String
  | [] => []
  | l :: rest => (Upmodel.step s l).2 :: upPrinted (Upmodel.step s l).1 rest

theorem up_step_l1Toks (s : S) (m : Spec.UpMon.MState) (line : List String) (op : Op)
    (hp : Upmodel.parseOp line = some op) :
    Upmon.step m line (Upmodel.l1Toks (stepOp s op).2) =
      ((Spec.UpMon.monStep m (kindOf op) (stepOp s op).2.ans).1,
       match (Spec.UpMon.monStep m (kindOf op) (stepOp s op).2.ans).2 with | none => "ok" | some why => "bad " ++ why) := by
  simp only [Upmon.step, up_parseKind line op hp, up_parseAns_l1Toks]
  rfl

theorem up_verdicts_ok : ∀ (lines : List (List String)) (ops : List Op) (s : S),
    lines.mapM Upmodel.parseOp = some ops →
    (∀ p ∈ (runOps s ops).zip ops, (Spec.UpMon.monStep () (kindOf p.2) p.1.2.ans).2 = none) →
    upVerdicts () (lines.zip ((runOps s ops).map fun r => Upmodel.l1Toks r.2)) = List.replicate lines.length "ok"
  | [], _, _, _, _ => rfl
  | line :: lines, ops, s, hp, hacc => by
    obtain ⟨op, ops', h1, h2, rfl⟩ := mapM_cons_some hp
    have hm : (Spec.UpMon.monStep () (kindOf op) (stepOp s op).2.ans).2 = none :=
      hacc (stepOp s op, op) (by simp [runOps])
    simp only [runOps, List.map_cons, List.zip_cons_cons, upVerdicts, up_step_l1Toks s () line op h1, hm,
      List.length_cons, List.replicate_succ]
    rw [up_verdicts_ok lines ops' _ h2 (fun p hp => hacc p (by
      simp only [runOps, List.zip_cons_cons, List.mem_cons]; exact Or.inr hp))]

theorem up_printed_eq : ∀ (lines : List (List String)) (ops : List Op) (s : S),
    lines.mapM Upmodel.parseOp = some ops → upPrinted s lines = (runOps s ops).map fun r => Upmodel.render r.2
  | [], _, _, hp => by cases hp; rfl
  | line :: lines, ops, s, hp => by
    obtain ⟨op, ops', h1, h2, rfl⟩ := mapM_cons_some hp
    simp only [upPrinted, Upmodel.step, h1, runOps, List.map_cons, up_printed_eq lines ops' _ h2]

end up

/-! ## the cut `Driver.loopMon` makes (not proved: stated as a hypothesis) -/

/-- textual copy of the local function `toks` of `Driver.loopMon` (`Driver/Loop.lean`) -/
def loopToks (line : String) : List String := (line.trimAscii.toString.splitOn " ").filter (· ≠ "")

/-- the line the framework hands to `pmodel afmon` for the output `o` of `pmodel af` -/
def afMonLine (o : AfStep.Out) : String := "> " ++ " ".intercalate (Af.l1Toks o) ++ "\n"

/-- the hypothesis of `C14.af_monitor_reads_loop_line_partial`, as a test (`KAT/AfAns.lean` evaluates it on an output of
every shape and on the outputs of a run) -/
def afLoopCutOk (o : AfStep.Out) : Bool :=
  loopToks (afMonLine o) == ">" :: Dsmon.splitCh ' ' (" ".intercalate (Af.l1Toks o))

theorem af_reads_loop_line (o : AfStep.Out) (hcut : afLoopCutOk o = true) :
    ∃ ans, loopToks (afMonLine o) = ">" :: ans ∧ Afmon.parseAns ans = o.ans :=
  ⟨Af.l1Toks o, by rw [eq_of_beq hcut, af_split_l1], af_parseAns_l1Toks o⟩

/-- the line the framework hands to `pmodel upmon` for the output `o` of `pmodel upmodel` -/
def upMonLine (o : UpStep.Out) : String := "> " ++ " ".intercalate (Upmodel.l1Toks o) ++ "\n"

def upLoopCutOk (o : UpStep.Out) : Bool :=
  loopToks (upMonLine o) == ">" :: Dsmon.splitCh ' ' (" ".intercalate (Upmodel.l1Toks o))

theorem up_reads_loop_line (o : UpStep.Out) (hcut : upLoopCutOk o = true) :
    ∃ ans, loopToks (upMonLine o) = ">" :: ans ∧ Upmon.parseAns ans = o.ans :=
  ⟨Upmodel.l1Toks o, by rw [eq_of_beq hcut, up_split_l1], up_parseAns_l1Toks o⟩

end Percival.Proofs.AfAns
