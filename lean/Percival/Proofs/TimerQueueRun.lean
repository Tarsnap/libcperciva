import Percival.Proofs.TimerQueue
/-!
# C13: every reachable timer-queue state; traces accepted by the monitor
-/
namespace Percival.Proofs.TQ
open Percival.Model Percival.Model.TimerQueue Percival.Model.HeapRun Percival.Proofs.Heap
open Percival.Spec Percival.Spec.PQ

def ptrOf (recs : List (Nat × Rec)) (r : Nat) : Nat :=
  match lookup recs r with
  | some x => x.ptr
  | none => 0

def mOf (s : TSt) : TMSt := ⟨key s.q.recs, ptrOf s.q.recs, s.live⟩

structure TReach (s : TSt) : Prop where
  inv : TQInv s.q
  perm : s.q.h.a.toList.Perm s.live

theorem ptrOf_cons (recs : List (Nat × Rec)) (r : Nat) (x : Rec) :
    ptrOf ((r, x) :: recs) = updN (ptrOf recs) r x.ptr := by
  funext y
  unfold ptrOf updN; rw [lookup_cons]
  by_cases h : y = r
  · simp [h]
  · simp [h]

theorem updN_same (f : Nat → Nat) (r : Nat) : updN f r (f r) = f := by
  funext y; unfold updN; by_cases h : y = r <;> simp [h]

theorem tstep_ok (s : TSt) (op : TOp) (hr : TReach s) :
    TReach (tstep s op).1 ∧
    tmonStep ⟨key s.q.recs, ptrOf s.q.recs, s.live⟩ op (tstep s op).2 =
      (⟨key (tstep s op).1.q.recs, ptrOf (tstep s op).1.q.recs, (tstep s op).1.live⟩, true) := by
  obtain ⟨hi, hp⟩ := hr
  cases op with
  | add r sec usec p =>
    simp only [tstep, tmonStep]
    split
    · exact ⟨⟨hi, hp⟩, by simp⟩
    · rename_i hc
      have hc' : r ∉ s.live := by simpa using hc
      have hf : r ∉ s.q.h.a.toList := fun h => hc' (hp.mem_iff.mp h)
      obtain ⟨h1, h2, h3⟩ := tq_add s.q r sec usec p hi hf
      refine ⟨⟨h1, h2.trans ((List.perm_cons r).mpr hp)⟩, ?_⟩
      simp only [h3, key_cons, ptrOf_cons, decide_true]
  | del r =>
    simp only [tstep, tmonStep]
    by_cases hc : s.live.contains r = true
    · have hc' : r ∈ s.live := by simpa using hc
      obtain ⟨q', h1, h2, h3, h4⟩ := tq_delete s.q r hi (hp.mem_iff.mpr hc')
      simp only [hc, Bool.not_true, Bool.false_eq_true, if_false, h1, h4]
      exact ⟨⟨h2, perm_live_erase hp h3⟩, by simp⟩
    · simp only [hc, Bool.not_false, if_true]
      exact ⟨⟨hi, hp⟩, by simp⟩
  | inc r sec usec =>
    simp only [tstep, tmonStep]
    by_cases hcond : (!s.live.contains r || decide (timeKey sec usec < key s.q.recs r)) = true
    · simp only [hcond, if_true]
      exact ⟨⟨hi, hp⟩, by simp⟩
    · simp only [hcond, Bool.false_eq_true, if_false]
      simp only [Bool.or_eq_true, Bool.not_eq_true', decide_eq_true_eq, not_or, Bool.not_eq_false,
        Int.not_lt] at hcond
      obtain ⟨hc, hk⟩ := hcond
      have hc' : r ∈ s.live := by simpa using hc
      have hr' := hp.mem_iff.mpr hc'
      obtain ⟨old, hold⟩ := hi.bound r hr'
      rw [key_of_lookup _ _ _ hold, ← tvKey_eq] at hk
      obtain ⟨q', h1, h2, h3, h4⟩ := tq_increase s.q r sec usec old hi hr' hold hk
      have hptr : ptrOf s.q.recs r = old.ptr := by unfold ptrOf; rw [hold]
      simp only [h1, h4, key_cons, ptrOf_cons, ← hptr, updN_same]
      exact ⟨⟨h2, h3.trans hp⟩, by simp⟩
  | getmin =>
    simp only [tstep, tmonStep]
    refine ⟨⟨hi, hp⟩, ?_⟩
    have hg := tq_getmin s.q hi
    cases hm : TimerQueue.getmin s.q with
    | none =>
      rw [hm] at hg
      simp only at hg
      rw [hg] at hp
      have : s.live = [] := by simpa using hp
      simp [this]
    | some su =>
      obtain ⟨sec, usec⟩ := su
      rw [hm] at hg
      obtain ⟨r, x, hl, hx, h1, h2⟩ := hg
      subst h1; subst h2
      have hl' := isLeast_perm hp hl
      have hk := key_of_lookup _ _ _ hx
      simp only [Prod.mk.injEq, true_and, Bool.and_eq_true, List.any_eq_true, List.all_eq_true,
        beq_iff_eq]
      refine ⟨⟨r, hl'.1, by rw [hk, tvKey_eq]⟩, ?_⟩
      intro y hy
      have := hl'.2 y hy
      rw [hk, tvKey_eq] at this; exact decide_eq_true this
  | get sec usec =>
    have hg := tq_getptr s.q sec usec hi
    simp only [tstep]
    generalize getptr s.q sec usec = res at hg
    obtain ⟨q', o⟩ := res
    cases o with
    | none =>
      simp only at hg
      obtain ⟨_, hall⟩ := hg
      refine ⟨⟨hi, hp⟩, ?_⟩
      simp only [tmonStep, getptrOk, Prod.mk.injEq, true_and, List.all_eq_true]
      intro y hy
      have := hall y (hp.mem_iff.mpr hy)
      rw [tvKey_eq] at this; exact decide_eq_true this
    | some rp =>
      obtain ⟨r, p⟩ := rp
      simp only at hg
      obtain ⟨hl, hdue, ⟨x, hx, hpx⟩, hi', hperm, hrecs⟩ := hg
      refine ⟨⟨hi', perm_live_erase hp hperm⟩, ?_⟩
      have hl' := isLeast_perm hp hl
      have hptr : ptrOf s.q.recs r = p := by unfold ptrOf; rw [hx, hpx]
      simp only [tmonStep, getptrOk, hrecs, (isLeast_iff _ _ _).mpr hl', hptr, Bool.true_and, beq_self_eq_true,
        Bool.and_true, Prod.mk.injEq, true_and]
      rw [tvKey_eq] at hdue; exact decide_eq_true hdue

theorem treach_init : TReach TSt.init :=
  ⟨tq_inv_empty, by simp [TSt.init, TimerQueue.empty, Heap.empty]⟩

theorem mOf_init : mOf TSt.init = TMSt.init := by
  simp only [mOf, TSt.init, TMSt.init, TimerQueue.empty]
  congr

theorem treach_run (s : TSt) (ops : List TOp) (hr : TReach s) : TReach (trun s ops) := by
  induction ops generalizing s with
  | nil => exact hr
  | cons op ops ih => exact ih _ (tstep_ok s op hr).1

theorem taccepts_trace (s : TSt) (ops : List TOp) (hr : TReach s) :
    taccepts (mOf s) (ttrace s ops) = true := by
  induction ops generalizing s with
  | nil => rfl
  | cons op ops ih =>
    have := tstep_ok s op hr
    simp only [ttrace, taccepts, mOf, this.2, Bool.true_and]
    exact ih _ this.1

end Percival.Proofs.TQ
