import Percival.Proofs.EventsNet
/-!
# `events_network_cancel` / `events_network_get` keep the invariants (C04/C05 helper lemmas)
-/
namespace Percival.Proofs.EventsNet
open Percival.Spec.Events Percival.Model.Events

theorem dropDir_inv (n : Net) (fd : Nat) (s : Sock) (pp : Nat) (d : Dir) (h : Inv n)
    (hs : n.S[fd]? = some s) (hpp : s.pollpos = some pp) :
    ∃ n', dropDir n fd s pp d = some n' ∧ Inv n' ∧ n'.scan = n.scan := by
  obtain ⟨_, n', _, heq, hinv, hsc, _⟩ := dropDir_upd n fd s pp d h hs hpp
  exact ⟨n', heq, hinv, hsc⟩

/-- `events_network_cancel` never faults under the invariants and keeps them; ENOENT exactly when the slot is
    empty, otherwise exactly that slot is emptied and its direction dropped from the descriptor's pollfd -/
theorem netCancel_upd (n : Net) (fd : Nat) (d : Dir) (h : Inv n) :
    (slot n fd d = none ∧ netCancel n fd d = some (n, .enoent)) ∨
    (∃ id e n', slot n fd d = some id ∧ entry n fd = some e ∧ netCancel n fd d = some (n', .ok) ∧ Inv n' ∧ n'.scan = n.scan ∧
      Drops n n' fd d e) := by
  unfold netCancel slot
  cases hS : n.S[fd]? with
  | none => left; simp
  | some s =>
    simp only [Option.bind_some]
    cases hg : s.get d with
    | none => left; simp
    | some id =>
      right
      have hsome : s.pollpos.isSome = true := h.inv0.i2 fd s hS (by cases d <;> simp_all [Sock.get])
      obtain ⟨pp, hpp⟩ := Option.isSome_iff_exists.mp hsome
      obtain ⟨e, n', he, heq, hinv, hsc, hd⟩ := dropDir_upd n fd s pp d h hS hpp
      refine ⟨id, e, n', rfl, he, ?_, hinv, hsc, hd⟩
      unfold dropDir at heq
      simp [hpp, heq]

theorem expand_idem (e : PollFd) : expandErrHup (expandErrHup e) = expandErrHup e := by
  unfold expandErrHup
  split <;> simp_all

/-- `n1` is `n` with the ERR/HUP expansion applied to some entries (and any `fdscanpos`) -/
structure Scanned (n n1 : Net) : Prop where
  S : n1.S = n.S
  fds : ∀ j : Nat, n1.fds[j]? = n.fds[j]? ∨ n1.fds[j]? = (n.fds[j]?).map expandErrHup

theorem Scanned.refl (n : Net) (sc : Option Nat) : Scanned n { n with scan := sc } := ⟨rfl, fun _ => Or.inl rfl⟩

theorem Scanned.trans {a b c : Net} (h1 : Scanned a b) (h2 : Scanned b c) : Scanned a c := by
  refine ⟨h2.S.trans h1.S, fun j => ?_⟩
  rcases h2.fds j with h | h <;> rcases h1.fds j with h' | h' <;> rw [h, h']
  · exact Or.inl rfl
  · exact Or.inr rfl
  · exact Or.inr rfl
  · refine Or.inr ?_
    cases a.fds[j]? with
    | none => rfl
    | some e => exact congrArg some (expand_idem e)

theorem Scanned.entry {n n1 : Net} (hx : Scanned n n1) (i : Nat) :
    entry n1 i = entry n i ∨ entry n1 i = (entry n i).map expandErrHup := by
  rcases entry_cases n i with h | ⟨p, h⟩
  · exact .inl (by rw [h n1 hx.S, h n rfl])
  · rw [h n1 hx.S, h n rfl]; exact hx.fds p

theorem Scanned.of_get {n n1 : Net} (hx : Scanned n n1) {j : Nat} {e1 : PollFd} (hj : n1.fds[j]? = some e1) :
    ∃ e : PollFd, n.fds[j]? = some e ∧ (e1 = e ∨ e1 = expandErrHup e) := by
  rcases hx.fds j with h | h <;> rw [h] at hj
  · exact ⟨e1, hj, Or.inl rfl⟩
  · obtain ⟨e, he, rfl⟩ := Option.map_eq_some_iff.mp hj
    exact ⟨e, he, Or.inr rfl⟩

theorem expand_fields (e : PollFd) :
    (expandErrHup e).fd = e.fd ∧ (expandErrHup e).ev = e.ev ∧
    ((expandErrHup e).rev.r = true → e.rev.r = true ∨ ((e.rev.e = true ∨ e.rev.h = true) ∧ e.ev.r = true)) ∧
    ((expandErrHup e).rev.w = true → e.rev.w = true ∨ ((e.rev.e = true ∨ e.rev.h = true) ∧ e.ev.w = true)) ∧
    ((expandErrHup e).rev.e = true → e.rev.e = true) ∧ ((expandErrHup e).rev.h = true → e.rev.h = true) ∧
    ((expandErrHup e).rev.any = true → e.rev.any = true) := by
  unfold expandErrHup Bits.any
  split <;> simp_all <;> grind

theorem Scanned.inv0 {n n1 : Net} (hx : Scanned n n1) (h : Inv0 n) : Inv0 n1 := by
  refine h.of_entries hx.S fun j => ?_
  rcases hx.fds j with h' | h'
  · exact ⟨id, by rw [h', Option.map_id_fun, id], fun e => ⟨rfl, rfl, id⟩⟩
  · refine ⟨_, h', fun e => ?_⟩
    have hf := expand_fields e
    exact ⟨hf.1, hf.2.1, fun h5 => ⟨fun hr => (hf.2.2.1 hr).elim h5.1 (·.2), fun hw => (hf.2.2.2.1 hw).elim h5.2 (·.2)⟩⟩

theorem Scanned.below {n n1 : Net} (hx : Scanned n n1) {p : Nat} (hb : Below n p) : Below n1 p := by
  intro j e1 hj hany
  obtain ⟨e, he, hc⟩ := hx.of_get hj
  rcases hc with rfl | rfl
  · exact hb j _ he hany
  · exact hb j _ he ((expand_fields e).2.2.2.2.2.2 hany)

/-- one step of the scan: entry `p` replaced by its expansion, `fdscanpos = p` -/
theorem scanned_step (n : Net) (p : Nat) (e : PollFd) (he : n.fds[p]? = some e) :
    Scanned n { n with fds := n.fds.setIfInBounds p (expandErrHup e), scan := some p } := by
  refine ⟨rfl, fun j => ?_⟩
  show (n.fds.setIfInBounds p _)[j]? = _ ∨ (n.fds.setIfInBounds p _)[j]? = _
  rw [get_set (lt_of_get he)]
  split
  · next hj => exact Or.inr (by rw [hj, he]; rfl)
  · exact Or.inl rfl

theorem expand_cold (e : PollFd) (hr : ¬ (expandErrHup e).rev.r = true) (hw : ¬ (expandErrHup e).rev.w = true) :
    (expandErrHup e).rev.any = false := by
  revert hr hw
  unfold expandErrHup Bits.any
  split <;> simp_all

/-- what `events_network_get` does when it returns event `id`: after some expansions (`n1`) the pollfd `e` of `fd`
    reports direction `d`; the record in that slot is returned and the registration dropped -/
structure Took (n n1 n' : Net) (fd : Nat) (d : Dir) (e : PollFd) (id : Nat) : Prop where
  scanned : Scanned n n1
  inv1 : Inv n1
  entry : entry n1 fd = some e
  rev : e.rev.dir d = true
  slot : slot n1 fd d = some id
  inv : Inv n'
  drops : Drops n1 n' fd d e

theorem netGetFrom_upd : ∀ (p : Nat) (n : Net), Inv0 n → Below n p →
    (∃ n', netGetFrom p n = some (n', none) ∧ Inv n' ∧ Scanned n n' ∧
      (p < n.fds.size → ∀ (j : Nat) (e : PollFd), n'.fds[j]? = some e → e.rev.any = false)) ∨
    (∃ id n1 n' fd d e, netGetFrom p n = some (n', some id) ∧ Took n n1 n' fd d e id) := by
  intro p
  induction p using Nat.strongRecOn with | _ p ih =>
  intro n h0 hb
  unfold netGetFrom
  cases he : n.fds[p]? with
  | none =>
    refine Or.inl ⟨_, rfl, ⟨(Scanned.refl n (some p)).inv0 h0, ?_⟩, Scanned.refl n (some p), ?_⟩
    · intro j e hj hany; exact ⟨p, rfl, hb j e hj hany⟩
    · intro hlt; have := Array.getElem?_eq_none_iff.mp he; omega
  | some e =>
    simp only
    have hx := scanned_step n p e he
    have h1 := hx.inv0 h0
    have hb1 := hx.below hb
    have he1 : ({ n with fds := n.fds.setIfInBounds p (expandErrHup e), scan := some p } : Net).fds[p]? = some (expandErrHup e) :=
      Array.getElem?_setIfInBounds_self_of_lt (lt_of_get he)
    -- the entry at the scan position reports direction `d`: its slot is filled, and is dropped
    have take : ∀ d, (expandErrHup e).rev.dir d = true →
        ∃ id n1 n' fd d1 e1, takeDir { n with fds := n.fds.setIfInBounds p (expandErrHup e), scan := some p } p (expandErrHup e) d
            = some (n', some id) ∧ Took n n1 n' fd d1 e1 id := by
      intro d hr
      obtain ⟨s, hs, hpp⟩ := h1.i1b p _ he1
      have hinv1 : Inv _ := ⟨h1, fun j e' hj hany => ⟨p, rfl, hb1 j e' hj hany⟩⟩
      obtain ⟨e0, n', he0, heq, hinv, _, hd⟩ := dropDir_upd _ _ s p d hinv1 hs hpp
      rw [h1.entry_of_get he1] at he0; cases he0
      have hent := h1.entry_of_get he1
      obtain ⟨id, hid⟩ := Option.isSome_iff_exists.mp ((h1.slot_ev hent d).trans (h1.rev_ev hent d hr))
      refine ⟨id, _, n', _, d, _, ?_, hx, hinv1, hent, hr, hid, hinv, hd⟩
      have hget : s.get d = some id := by simpa [slot, hs] using hid
      unfold takeDir
      unfold dropDir at heq
      simp [hs, heq, hget]
    by_cases hr : (expandErrHup e).rev.r = true
    · simp only [hr, if_true]
      exact Or.inr (take .rd hr)
    · by_cases hw : (expandErrHup e).rev.w = true
      · simp only [hr, hw, if_true, if_false, Bool.false_eq_true]
        exact Or.inr (take .wr hw)
      · simp only [hr, hw, if_false, Bool.false_eq_true]
        -- the entry at `p` reports nothing now: whatever does is strictly below
        have hlt : ∀ (j : Nat) (e' : PollFd), (n.fds.setIfInBounds p (expandErrHup e))[j]? = some e' →
            e'.rev.any = true → j < p := by
          intro j e' hj hany
          refine Nat.lt_of_le_of_ne (hb1 j e' hj hany) ?_
          rintro rfl
          rw [he1] at hj; cases hj
          rw [expand_cold e hr hw] at hany; cases hany
        cases p with
        | zero =>
          have hnone : ∀ (j : Nat) (e' : PollFd), (n.fds.setIfInBounds 0 (expandErrHup e))[j]? = some e' →
              e'.rev.any = false := by
            intro j e' hj
            cases hany : e'.rev.any with
            | false => rfl
            | true => exact absurd (hlt j e' hj hany) (Nat.not_lt_zero _)
          refine Or.inl ⟨_, rfl, ⟨h1.scan none, ?_⟩, ⟨hx.S, hx.fds⟩, fun _ => hnone⟩
          intro j e' hj hany
          rw [hnone j e' hj] at hany; cases hany
        | succ q =>
          rcases ih q (Nat.lt_succ_self q) _ h1 (fun j e' hj hany => Nat.le_of_lt_succ (hlt j e' hj hany)) with
            ⟨n', heq, hinv, hx2, hall⟩ | ⟨id, n1, n', fd, d, e2, heq, ht⟩
          · exact Or.inl ⟨n', heq, hinv, hx.trans hx2, fun _ => hall (by simp; omega)⟩
          · exact Or.inr ⟨id, n1, n', fd, d, e2, heq, { ht with scanned := hx.trans ht.scanned }⟩

/-- `events_network_get()`: never faults under the invariants and keeps them.  Nothing found: only ERR/HUP
    expansions happened, and after a scan that started inside the array no `revents` is left.  Otherwise, after
    some expansions (`n1`), the entry of a descriptor reports a direction; the record in that slot is returned
    and the registration dropped as by a cancel. -/
theorem netGet_upd (n : Net) (h : Inv n) :
    (∃ n', netGet n = some (n', none) ∧ Inv n' ∧ Scanned n n' ∧
      (∀ p, n.scan = some p → p < n.fds.size → ∀ (i : Nat) (e : PollFd), entry n' i = some e → e.rev.any = false)) ∨
    (∃ id n1 n' fd d e, netGet n = some (n', some id) ∧ Took n n1 n' fd d e id) := by
  unfold netGet
  cases hsc : n.scan with
  | none => exact Or.inl ⟨n, rfl, h, Scanned.refl n n.scan, by simp⟩
  | some p =>
    have hb : Below n p := by
      intro j e hj hany
      obtain ⟨p', hp', hle⟩ := h.i6 j e hj hany
      rw [hsc] at hp'; cases hp'; exact hle
    rcases netGetFrom_upd p n h.inv0 hb with ⟨n', heq, hinv, hx, hall⟩ | hfound
    · refine Or.inl ⟨n', heq, hinv, hx, fun p' hp' hlt i e he => ?_⟩
      cases hp'
      obtain ⟨_, j, hj⟩ := hinv.inv0.get_of_entry he
      exact hall hlt j e hj
    · exact Or.inr hfound

end Percival.Proofs.EventsNet
