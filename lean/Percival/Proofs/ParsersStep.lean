import Percival.Model.ParsersStep
import Percival.Proofs.HexEndian
import Percival.Proofs.SockLines
import Percival.Proofs.Inet4
/-! Helper lemmas for the `exec_*` theorems of C15 / C17 (`Model.ParsersStep.stepOp`, the function `pmodel parsers`
runs). -/
namespace Percival.Proofs.ParsersStep
open Percival.Model Percival.Model.ParsersStep Percival.Spec Percival.Proofs.Inet4

theorem cbytes_ne0 (l : List UInt8) : ∀ c ∈ cbytes l, c ≠ 0 := by
  intro c hc h0
  have := Proofs.Lines.mem_takeWhile (· != 0) l c hc
  simp [h0] at this

theorem cbytes_id (l : List UInt8) (h : ∀ c ∈ l, c ≠ 0) : cbytes l = l := by
  have := List.takeWhile_append_of_pos (p := (· != 0)) (l₂ := []) fun c hc => bne_iff_ne.mpr (h c hc)
  simpa [cbytes] using this

theorem leVal_take_lt (l : List UInt8) (n : Nat) : Spec.Endian.leVal (l.take n) < 256 ^ n :=
  Nat.lt_of_lt_of_le (Proofs.Endian.leVal_lt _) (Nat.pow_le_pow_right (by decide) (List.length_take_le n l))

theorem beVal_take_lt (l : List UInt8) (n : Nat) : Spec.Endian.beVal (l.take n) < 256 ^ n :=
  Nat.lt_of_lt_of_le (Proofs.Endian.beVal_lt _) (Nat.pow_le_pow_right (by decide) (List.length_take_le n l))

theorem enc_list {r : Res Buf} {l : List UInt8} (h : ∃ b', r = .ok b' ∧ b'.toList = l) :
    mapRes r (·.toList) = .ok l := by
  obtain ⟨b', rfl, rfl⟩ := h
  rfl

theorem endianOp_eq (be : Bool) (w : Width) (off x : Nat) (buf : List UInt8) (h : off + w.bytes ≤ buf.length) :
    endianOp be w off x buf =
      .endian w
        (buf.take off ++ (if be then Spec.Endian.beBytes w.bytes x else Spec.Endian.leBytes w.bytes x) ++ buf.drop (off + w.bytes))
        (if be then Spec.Endian.beVal ((buf.drop off).take w.bytes) else Spec.Endian.leVal ((buf.drop off).take w.bytes))
        (.ok (buf.take off ++ (if be then Spec.Endian.beBytes w.bytes x else Spec.Endian.leBytes w.bytes x) ++ buf.drop (off + w.bytes)))
        (.ok (if be then Spec.Endian.beVal ((buf.drop off).take w.bytes) else Spec.Endian.leVal ((buf.drop off).take w.bytes))) := by
  cases be <;> cases w <;> simp only [Width.bytes] at h
  · simp only [endianOp, endianEnc, endianDec, Width.bytes, Bool.false_eq_true, if_false,
      enc_list (Proofs.Endian.le16enc_spec buf.toArray off _ (by simpa using h)),
      Proofs.Endian.le16dec_spec buf.toArray off (by simpa using h)]
    simp only [mapRes, UInt16.toNat_ofNat']
    rw [show 2 ^ 16 = 256 ^ 2 from rfl, Proofs.Endian.leBytes_mod, Nat.mod_eq_of_lt (leVal_take_lt _ 2)]
  · simp only [endianOp, endianEnc, endianDec, Width.bytes, Bool.false_eq_true, if_false,
      enc_list (Proofs.Endian.le32enc_spec buf.toArray off _ (by simpa using h)),
      Proofs.Endian.le32dec_spec buf.toArray off (by simpa using h)]
    simp only [mapRes, UInt32.toNat_ofNat']
    rw [show 2 ^ 32 = 256 ^ 4 from rfl, Proofs.Endian.leBytes_mod, Nat.mod_eq_of_lt (leVal_take_lt _ 4)]
  · simp only [endianOp, endianEnc, endianDec, Width.bytes, Bool.false_eq_true, if_false,
      enc_list (Proofs.Endian.le64enc_spec buf.toArray off _ (by simpa using h)),
      Proofs.Endian.le64dec_spec buf.toArray off (by simpa using h)]
    simp only [mapRes, UInt64.toNat_ofNat']
    rw [show 2 ^ 64 = 256 ^ 8 from rfl, Proofs.Endian.leBytes_mod, Nat.mod_eq_of_lt (leVal_take_lt _ 8)]
  · simp only [endianOp, endianEnc, endianDec, Width.bytes, if_true,
      enc_list (Proofs.Endian.be16enc_spec buf.toArray off _ (by simpa using h)),
      Proofs.Endian.be16dec_spec buf.toArray off (by simpa using h)]
    simp only [mapRes, UInt16.toNat_ofNat']
    rw [show 2 ^ 16 = 256 ^ 2 from rfl, Proofs.Endian.beBytes_mod, Nat.mod_eq_of_lt (beVal_take_lt _ 2)]
  · simp only [endianOp, endianEnc, endianDec, Width.bytes, if_true,
      enc_list (Proofs.Endian.be32enc_spec buf.toArray off _ (by simpa using h)),
      Proofs.Endian.be32dec_spec buf.toArray off (by simpa using h)]
    simp only [mapRes, UInt32.toNat_ofNat']
    rw [show 2 ^ 32 = 256 ^ 4 from rfl, Proofs.Endian.beBytes_mod, Nat.mod_eq_of_lt (beVal_take_lt _ 4)]
  · simp only [endianOp, endianEnc, endianDec, Width.bytes, if_true,
      enc_list (Proofs.Endian.be64enc_spec buf.toArray off _ (by simpa using h)),
      Proofs.Endian.be64dec_spec buf.toArray off (by simpa using h)]
    simp only [mapRes, UInt64.toNat_ofNat']
    rw [show 2 ^ 64 = 256 ^ 8 from rfl, Proofs.Endian.beBytes_mod, Nat.mod_eq_of_lt (beVal_take_lt _ 8)]

open Percival.Model.SockAddr Percival.Proofs.SockAddr

theorem port_tail (neg : Bool) (s2 : List UInt8) (p : Nat)
    (h : (if (s2 == [] || !s2.all isDigit) = true then none
          else if (neg || decide (digitsVal s2 < 1) || decide (digitsVal s2 > 65535)) = true then none
          else some (digitsVal s2)) = some p) : 1 ≤ p ∧ p ≤ 65535 := by
  split at h
  · cases h
  · split at h
    · cases h
    · rename_i hr
      injection h with h
      subst h
      simp only [Bool.or_eq_true, decide_eq_true_eq, not_or] at hr
      omega

theorem parsePort_range (s : List UInt8) (p : Nat) (h : parsePort s = some p) : 1 ≤ p ∧ p ≤ 65535 := by
  unfold parsePort at h
  simp only [] at h
  split at h <;> exact port_tail _ _ _ h

/-- what `sock_resolve` can return for an address -/
def Shape (pton4 pton6 : List UInt8 → Option (List UInt8)) (addr : List UInt8) : Resolved → Prop
  | .addr x => (addr.head? = some 0x2f ∧ addr.length < sunPathSize ∧ x = mkUn addr) ∨
      (∃ t a p, pton4 t = some a ∧ 1 ≤ p ∧ p ≤ 65535 ∧ x = mkIn a p) ∨
      (∃ t a p, pton6 t = some a ∧ 1 ≤ p ∧ p ≤ 65535 ∧ x = mkIn6 a p)
  | _ => True

theorem literal_shape (pton4 pton6 : List UInt8 → Option (List UInt8)) (addr ips ports : List UInt8) :
    Shape pton4 pton6 addr (literal pton4 pton6 ips ports) := by
  unfold literal
  split
  · trivial
  · next p hp =>
    have hr := parsePort_range _ p hp
    split <;> split
    · next a h6 => exact .inr (.inr ⟨_, a, p, h6, hr.1, hr.2, rfl⟩)
    · trivial
    · next a h4 => exact .inr (.inl ⟨_, a, p, h4, hr.1, hr.2, rfl⟩)
    · trivial

theorem resolve_shape (pton4 pton6 : List UInt8 → Option (List UInt8)) (addr : List UInt8) (h0 : ∀ c ∈ addr, c ≠ 0) :
    ∃ r, resolve pton4 pton6 (cstr addr) = .ok r ∧ Shape pton4 pton6 addr r := by
  refine ⟨_, resolve_eq pton4 pton6 addr h0, ?_⟩
  unfold resolveL
  split
  · next hs =>
    split
    · trivial
    · exact .inl ⟨hs, by omega, rfl⟩
  · split
    · trivial
    · simp only []
      split
      · trivial
      · split
        · trivial
        · exact literal_shape ..


theorem parse6_length (s a : List UInt8) (h : Inet.parse6 s = some a) : a.length = 16 := by
  unfold Inet.parse6 at h
  split at h
  · split at h
    · split at h
      · injection h with h; subst h; assumption
      · cases h
    · cases h
  · simp only [] at h
    split at h
    · cases h
    · split at h
      · split at h
        · injection h with h; subst h
          simp only [List.length_append, List.length_replicate]
          omega
        · cases h
      · cases h

theorem ntop4_eq (a : List UInt8) (h : a.length = 4) : ntop4 a = some (Inet.print4 a) := by simp [ntop4, h]
theorem ntop6_eq (a : List UInt8) (h : a.length = 16) : ntop6 a = some (Inet.print6 a) := by simp [ntop6, h]

/-- `sres` on any C string: resolving stays inside the string, and an address that comes out can be printed
    (`sock_addr_prettyprint` reads only inside the name block and does not return NULL) -/
theorem sres_safe (addr : List UInt8) (h0 : ∀ c ∈ addr, c ≠ 0) :
    sres addr = .err ∨ sres addr = .host ∨ ∃ a text again, sres addr = .addr a text again := by
  obtain ⟨r, hr, hs⟩ := resolve_shape Inet.parse4 Inet.parse6 addr h0
  unfold sres
  rw [hr]
  cases r with
  | err => exact Or.inl rfl
  | host _ _ => exact Or.inr (Or.inl rfl)
  | addr x =>
    refine Or.inr (Or.inr ?_)
    rcases hs with ⟨_, hl, rfl⟩ | ⟨t, a, p, ht, _, h2, rfl⟩ | ⟨t, a, p, ht, _, h2, rfl⟩
    · simp only [prettyprint_un ntop4 ntop6 addr h0 hl]
      exact ⟨_, _, _, rfl⟩
    · simp only [prettyprint_in ntop4 ntop6 a _ p (parse4_length t a ht) (ntop4_eq a (parse4_length t a ht)) h2]
      exact ⟨_, _, _, rfl⟩
    · simp only [prettyprint_in6 ntop4 ntop6 a _ p (parse6_length t a ht) (ntop6_eq a (parse6_length t a ht)) h2]
      exact ⟨_, _, _, rfl⟩

theorem sres_unix (path : List UInt8) (hs : path.head? = some 0x2f) (h0 : ∀ c ∈ path, c ≠ 0) (hl : path.length < sunPathSize) :
    sres path = .addr (mkUn path) path true := by
  unfold sres
  simp only [resolve_unix Inet.parse4 Inet.parse6 path hs h0 hl, prettyprint_un ntop4 ntop6 path h0 hl, beq_self_eq_true]

/-- a bracketed IPv4 literal with a port: the address it denotes; its text is `inet_ntop`'s text with the port, and
    it resolves back to the same address provided `inet_pton` undoes `inet_ntop` on these four bytes -/
theorem sres_v4 (t a : List UInt8) (p : Nat) (h0 : ∀ c ∈ t, c ≠ 0) (hc : ∀ c ∈ t, c ≠ 0x3a) (ht : Inet.parse4 t = some a)
    (h1 : 1 ≤ p) (h2 : p ≤ 65535) (h0' : ∀ c ∈ Inet.print4 a, c ≠ 0) (hc' : ∀ c ∈ Inet.print4 a, c ≠ 0x3a)
    (ht' : Inet.parse4 (Inet.print4 a) = some a) :
    sres ([0x5b] ++ t ++ [0x5d, 0x3a] ++ decimal p) =
      .addr (mkIn a p) ([0x5b] ++ Inet.print4 a ++ [0x5d, 0x3a] ++ decimal p) true := by
  have ha := parse4_length t a ht
  unfold sres
  simp only [resolve_v4 Inet.parse4 Inet.parse6 t a p ht hc h0 h1 h2,
    prettyprint_in ntop4 ntop6 a _ p ha (ntop4_eq a ha) h2,
    resolve_v4 Inet.parse4 Inet.parse6 (Inet.print4 a) a p ht' hc' h0' h1 h2, beq_self_eq_true]

theorem sres_v6 (t a : List UInt8) (p : Nat) (h0 : ∀ c ∈ t, c ≠ 0) (hc : 0x3a ∈ t) (ht : Inet.parse6 t = some a)
    (h1 : 1 ≤ p) (h2 : p ≤ 65535) (h0' : ∀ c ∈ Inet.print6 a, c ≠ 0) (hc' : 0x3a ∈ Inet.print6 a)
    (ht' : Inet.parse6 (Inet.print6 a) = some a) :
    sres ([0x5b] ++ t ++ [0x5d, 0x3a] ++ decimal p) =
      .addr (mkIn6 a p) ([0x5b] ++ Inet.print6 a ++ [0x5d, 0x3a] ++ decimal p) true := by
  have ha := parse6_length t a ht
  unfold sres
  simp only [resolve_v6 Inet.parse4 Inet.parse6 t a p ht hc h0 h1 h2,
    prettyprint_in6 ntop4 ntop6 a _ p ha (ntop6_eq a ha) h2,
    resolve_v6 Inet.parse4 Inet.parse6 (Inet.print6 a) a p ht' hc' h0' h1 h2, beq_self_eq_true]

end Percival.Proofs.ParsersStep
