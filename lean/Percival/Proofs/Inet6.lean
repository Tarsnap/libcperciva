import Percival.Proofs.Inet4
/-! `inet_pton(AF_INET6) ∘ inet_ntop(AF_INET6) = id` for `Spec.Inet` (helper lemmas for `C17.inet6_pton_ntop`).

Parts: (1) `hexOf w` (built from `Nat.toDigits` / `String`) is the list of the hex digits of `w` (`digs 16 w`), and
`hexGroup` reads it back; (2) the loop of `bestRun` is a fold (`brStep`) whose invariant says that the run it returns
lies inside the list and consists of zeros (`bestRun_run`; that it is the *longest* run is not needed for the round
trip); (3) `findDouble` / `splitOn` / `groups` on a `':'`-join of non-empty colon-free groups (through `joinWith_cons`,
`splitOn_join` of `Proofs/Inet4.lean`), and `parse6` on any text with one `::` between two such joins (`parse6_dc`);
(4) `print6` writes either eight groups or `dcText L R T`: `L::R` where `R` is followed by `quad T`, nothing or the dotted
quad of the last two groups (`print6_form`), and `parse6` reads `dcText` back (`parse6_dcText`); (5) the text contains a
`':'` and no NUL (`print6_chars`). -/
namespace Percival.Proofs.Inet6
open Percival.Spec Percival.Spec.Inet Percival.Proofs Percival.Proofs.Inet4

theorem toList_toByteArray (l : List UInt8) : l.toByteArray.toList = l := by
  unfold ByteArray.toList
  rw [Ascii.toList_loop]
  simp [List.data_toByteArray]

theorem hexVal_digitByte : ∀ d, d < 16 → hexVal (digitByte d) = some d := by decide
theorem digitByte_chars : ∀ d, d < 16 → digitByte d ≠ 0 ∧ digitByte d ≠ 0x3a ∧ digitByte d ≠ 0x2e := by decide

theorem hexOf_eq (n : Nat) : hexOf n = (digs 16 n).map digitByte := by
  unfold hexOf
  rw [String.toUTF8, String.toByteArray_ofList, List.utf8Encode, toList_toByteArray, toDigits_utf8 (by decide) (by decide)]

theorem mapM_hexVal (l : List Nat) (h : ∀ d ∈ l, d < 16) : (l.map digitByte).mapM hexVal = some l := by
  induction l with
  | nil => rfl
  | cons d l ih =>
    simp only [List.map, List.mapM_cons, hexVal_digitByte d (h d (by simp)), ih (fun x hx => h x (by simp [hx]))]
    rfl

theorem hexGroup_hexOf (n : Nat) (h : n < 65536) :
    hexGroup (hexOf n) = some [UInt8.ofNat (n / 256), UInt8.ofNat (n % 256)] := by
  have hl := digs_length (B := 16) (by decide) 3 n h
  have h0 : (digs 16 n).length ≠ 0 := fun e => digs_ne_nil 16 n (List.length_eq_zero_iff.mp e)
  rw [hexOf_eq, hexGroup, List.length_map, if_neg (by omega), mapM_hexVal _ (digs_lt (by decide) n)]
  simp only [digs_val (B := 16) (by decide)]

abbrev BR := (Nat × Nat) × (Nat × Nat) × Nat
/-- one iteration of the loop of `bestRun`: state = (best, cur, i) -/
def brStep (w : Nat) (s : BR)  : BR :=
  if w = 0 then
    let cur := if s.2.1.2 = 0 then (s.2.2, 1) else (s.2.1.1, s.2.1.2 + 1)
    (if cur.2 > s.1.2 then cur else s.1, cur, s.2.2 + 1)
  else (s.1, (0, 0), s.2.2 + 1)

def Run (l : List Nat) (b n : Nat) : Prop := b + n ≤ l.length ∧ ∀ j, b ≤ j → j < b + n → l[j]? = some 0

theorem Run.mono {l : List Nat} {b n : Nat} (h : Run l b n) (x : List Nat) : Run (l ++ x) b n := by
  refine ⟨by have := h.1; simp only [List.length_append]; omega, fun j h1 h2 => ?_⟩
  rw [List.getElem?_append_left (by have := h.1; omega)]
  exact h.2 j h1 h2

theorem Run.snoc {l : List Nat} {b n : Nat} (h : Run l b n) (hl : b + n = l.length) : Run (l ++ [0]) b (n + 1) := by
  refine ⟨by simp only [List.length_append, List.length_cons, List.length_nil]; omega, fun j h1 h2 => ?_⟩
  by_cases hj : j < l.length
  · rw [List.getElem?_append_left hj]; exact h.2 j h1 (by omega)
  · have : j = l.length := by omega
    subst this
    simp

theorem Run.zero (l : List Nat) (b : Nat) (h : b ≤ l.length) : Run l b 0 := ⟨h, fun j h1 h2 => by omega⟩

/-- loop invariant of `bestRun` after the prefix `pre` -/
def Inv (pre : List Nat) (s : BR) : Prop :=
  s.2.2 = pre.length ∧ Run pre s.1.1 s.1.2 ∧ (s.2.1.2 = 0 ∨ (s.2.1.1 + s.2.1.2 = pre.length ∧ Run pre s.2.1.1 s.2.1.2))

theorem inv_step (pre : List Nat) (s : BR) (w : Nat) (h : Inv pre s) : Inv (pre ++ [w]) (brStep w s) := by
  obtain ⟨⟨b1, b2⟩, ⟨c1, c2⟩, i⟩ := s
  obtain ⟨hi, hb, hc⟩ := h
  simp only at hi hb hc
  subst hi
  unfold brStep
  by_cases hw : w = 0
  · subst hw
    simp only [if_true]
    have hcur : (if c2 = 0 then (pre.length, 1) else (c1, c2 + 1)).1 + (if c2 = 0 then (pre.length, 1) else (c1, c2 + 1)).2
          = (pre ++ [0]).length ∧
        Run (pre ++ [0]) (if c2 = 0 then (pre.length, 1) else (c1, c2 + 1)).1 (if c2 = 0 then (pre.length, 1) else (c1, c2 + 1)).2 := by
      by_cases h0 : c2 = 0
      · simp only [h0, if_true, List.length_append, List.length_cons, List.length_nil, true_and]
        have := (Run.zero pre pre.length (Nat.le_refl _)).snoc rfl
        simpa using this
      · simp only [h0, if_false, List.length_append, List.length_cons, List.length_nil]
        rcases hc with hc | ⟨hc1, hc2⟩
        · exact absurd hc h0
        · exact ⟨by omega, hc2.snoc hc1⟩
    generalize (if c2 = 0 then (pre.length, 1) else (c1, c2 + 1)) = cur at hcur ⊢
    refine ⟨by simp, ?_, Or.inr hcur⟩
    simp only
    split
    · exact hcur.2
    · exact hb.mono _
  · simp only [hw, if_false]
    exact ⟨by simp, hb.mono _, Or.inl rfl⟩

theorem inv_foldl (rest : List Nat) : ∀ (pre : List Nat) (s : BR), Inv pre s →
    Inv (pre ++ rest) (rest.foldl (fun s w => brStep w s) s) := by
  induction rest with
  | nil => intro pre s h; simpa using h
  | cons w rest ih =>
    intro pre s h
    have := ih (pre ++ [w]) _ (inv_step pre s w h)
    simpa using this

theorem bestRun_eq (ws : List Nat) : bestRun ws = (ws.foldl (fun s w => brStep w s) ((0, 0), (0, 0), 0)).1 := by
  have key : ∀ (f g : Nat → BR → Id (ForInStep BR)), (∀ w s, f w s = g w s) → ∀ init, forIn ws init f = forIn ws init g := by
    intro f g h init
    have : f = g := funext fun w => funext (h w)
    rw [this]
  unfold bestRun
  simp only [Id.run]
  rw [key _ (fun w s => pure (ForInStep.yield (brStep w s))) ?_]
  · rw [List.forIn_pure_yield_eq_foldl]; rfl
  · intro w s
    unfold brStep
    by_cases hw : w = 0
    · subst hw
      by_cases h1 : s.2.1.2 = 0 <;> by_cases h2 : s.1.2 = 0 <;> simp [h1, h2]
      split <;> rfl
    · simp [hw]

theorem findDouble_cc (r : Bytes) : findDouble (0x3a :: 0x3a :: r) = some 0 := by simp [findDouble]
theorem findDouble_ne (c : UInt8) (cs : Bytes) (h : c ≠ 0x3a) : findDouble (c :: cs) = (findDouble cs).map (· + 1) := by
  rw [findDouble.eq_2]
  intro r e _; exact h e
theorem findDouble_c_ne (c : UInt8) (cs : Bytes) (h : c ≠ 0x3a) :
    findDouble (0x3a :: c :: cs) = (findDouble (c :: cs)).map (· + 1) := by
  rw [findDouble.eq_2]
  intro r _ e; injection e with e3 _; exact h e3
theorem findDouble_c : findDouble [0x3a] = none := by
  rw [findDouble.eq_2]
  · rfl
  · intro r _ e; cases e

def NC (g : Bytes) : Prop := g ≠ [] ∧ (0x3a : UInt8) ∉ g

theorem findDouble_append (g rest : Bytes) (h : (0x3a : UInt8) ∉ g) :
    findDouble (g ++ rest) = (findDouble rest).map (· + g.length) := by
  induction g with
  | nil => simp
  | cons c g ih =>
    rw [List.cons_append, findDouble_ne c _ (fun e => h (by simp [e])), ih (fun hm => h (List.mem_cons_of_mem _ hm))]
    cases findDouble rest <;> simp [Nat.add_assoc]

/-- a `':'` before a group is not the start of a `"::"` -/
theorem findDouble_colon (g rest : Bytes) (h : NC g) :
    findDouble (0x3a :: (g ++ rest)) = (findDouble (g ++ rest)).map (· + 1) := by
  cases g with
  | nil => exact absurd rfl h.1
  | cons c g => exact findDouble_c_ne c _ fun e => h.2 (by simp [e])

theorem findDouble_tail (gs : List Bytes) (h : ∀ g ∈ gs, NC g) (rest : Bytes) :
    findDouble (gs.flatMap (0x3a :: ·) ++ rest) = (findDouble rest).map (· + (gs.flatMap (0x3a :: ·)).length) := by
  induction gs with
  | nil => simp
  | cons g gs ih =>
    rw [List.flatMap_cons, List.append_assoc, List.cons_append, findDouble_colon g _ (h g (by simp)),
      findDouble_append g _ (h g (by simp)).2, ih fun x hx => h x (by simp [hx])]
    cases findDouble rest with
    | none => rfl
    | some k => simp only [Option.map_some, List.length_append, List.length_cons]; congr 1; omega

theorem join_ne_nil (gs : List Bytes) (h : ∀ g ∈ gs, NC g) (hn : gs ≠ []) : joinWith 0x3a gs ≠ [] := by
  cases gs with
  | nil => exact absurd rfl hn
  | cons g gs => rw [joinWith_cons]; exact fun e => (h g (by simp)).1 (List.append_eq_nil_iff.mp e).1

theorem join_head (gs : List Bytes) (h : ∀ g ∈ gs, NC g) : (joinWith 0x3a gs).head? ≠ some 0x3a := by
  cases gs with
  | nil => simp [joinWith]
  | cons g gs =>
    rw [joinWith_cons]
    cases g with
    | nil => exact absurd rfl (h [] (by simp)).1
    | cons c g => exact fun e => (h (c :: g) (by simp)).2 (by simp at e; simp [e])

theorem findDouble_join (gs : List Bytes) (h : ∀ g ∈ gs, NC g) : findDouble (joinWith 0x3a gs) = none := by
  cases gs with
  | nil => rfl
  | cons g gs =>
    have := findDouble_tail gs (fun x hx => h x (by simp [hx])) []
    rw [List.append_nil] at this
    rw [joinWith_cons, findDouble_append g _ (h g (by simp)).2, this]; rfl

theorem findDouble_join_cc (gs : List Bytes) (h : ∀ g ∈ gs, NC g) (rest : Bytes) :
    findDouble (joinWith 0x3a gs ++ 0x3a :: 0x3a :: rest) = some (joinWith 0x3a gs).length := by
  cases gs with
  | nil => exact findDouble_cc rest
  | cons g gs =>
    rw [joinWith_cons, List.append_assoc, findDouble_append g _ (h g (by simp)).2,
      findDouble_tail gs (fun x hx => h x (by simp [hx])), findDouble_cc]
    simp [Nat.add_comm]

theorem bestRun_run (ws : List Nat) : Run ws (bestRun ws).1 (bestRun ws).2 := by
  rw [bestRun_eq]
  have := inv_foldl ws [] ((0, 0), (0, 0), 0) ⟨rfl, Run.zero [] 0 (Nat.le_refl _), Or.inl rfl⟩
  simpa using this.2.1

theorem hexOf_chars (n : Nat) : ∀ c ∈ hexOf n, c ≠ 0 ∧ c ≠ 0x3a ∧ c ≠ 0x2e := by
  rw [hexOf_eq n]
  intro c hc
  obtain ⟨d, hd, rfl⟩ := List.mem_map.mp hc
  exact digitByte_chars d (digs_lt (by decide) n d hd)

theorem hexOf_ne_nil (n : Nat) : hexOf n ≠ [] := by
  rw [hexOf_eq n]
  exact fun e => digs_ne_nil 16 n (List.map_eq_nil_iff.mp e)

theorem hexOf_NC (n : Nat) : NC (hexOf n) :=
  ⟨hexOf_ne_nil n, fun hm => (hexOf_chars n _ hm).2.1 rfl⟩

def bytesOf (ws : List Nat) : Bytes := ws.flatMap fun w => [UInt8.ofNat (w / 256), UInt8.ofNat (w % 256)]

theorem bytesOf_length (ws : List Nat) : (bytesOf ws).length = 2 * ws.length := by
  induction ws with
  | nil => rfl
  | cons w ws ih => simp only [bytesOf, List.flatMap_cons, List.length_append, List.length_cons, List.length_nil] at ih ⊢; omega

theorem bytesOf_append (a b : List Nat) : bytesOf (a ++ b) = bytesOf a ++ bytesOf b := by
  simp [bytesOf]

theorem bytesOf_zeros (n : Nat) : bytesOf (List.replicate n 0) = List.replicate (2 * n) 0 := by
  induction n with
  | zero => rfl
  | succ n ih =>
    rw [List.replicate_succ, show 2 * (n + 1) = (2 * n + 1) + 1 by omega, List.replicate_succ, List.replicate_succ]
    simp only [bytesOf, List.flatMap_cons] at ih ⊢
    rw [ih]; rfl

theorem print4_NC (t : Bytes) (h : t.length = 4) : NC (print4 t) ∧ (0x2e : UInt8) ∈ print4 t := by
  have hd : (0x2e : UInt8) ∈ print4 t := by
    obtain ⟨a0, a1, a2, a3, rfl⟩ := len4 t h
    simp [print4, joinWith]
  exact ⟨⟨List.ne_nil_of_mem hd, fun hm => (print4_chars t _ hm).2 rfl⟩, hd⟩

theorem groups_of_join (last : Bool) (gs : List Bytes) (h : ∀ g ∈ gs, NC g) :
    (if (joinWith 0x3a gs).isEmpty then some [] else groups last (splitOn 0x3a (joinWith 0x3a gs))) = groups last gs := by
  cases gs with
  | nil => rfl
  | cons g gs =>
    have hne : g :: gs ≠ [] := by simp
    rw [splitOn_join _ _ (fun g hg => (h g hg).2) hne, if_neg (by simpa using join_ne_nil _ h hne)]

theorem parse6_dc (L R : List Bytes) (hL : ∀ g ∈ L, NC g) (hR : ∀ g ∈ R, NC g) :
    parse6 (joinWith 0x3a L ++ 0x3a :: 0x3a :: joinWith 0x3a R) =
      match groups false L, groups true R with
      | some a, some b =>
        if a.length + b.length ≤ 14 then some (a ++ List.replicate (16 - a.length - b.length) 0 ++ b) else none
      | _, _ => none := by
  have hh := join_head R hR
  have e2 : (joinWith 0x3a L ++ 0x3a :: 0x3a :: joinWith 0x3a R).drop ((joinWith 0x3a L).length + 2) = joinWith 0x3a R := by
    rw [← List.drop_drop, List.drop_left' rfl]; rfl
  unfold parse6
  rw [findDouble_join_cc _ hL]
  simp only [List.take_left', e2, findDouble_join _ hR, groups_of_join _ _ hL, groups_of_join _ _ hR, Option.isSome_none,
    Bool.false_eq_true, false_or, hh, if_false]
  cases groups false L <;> cases groups true R <;> rfl

/-- how the last groups `T` are written after the hex groups: not at all, or two of them as one dotted quad -/
def quad : List Nat → List Bytes
  | [] => []
  | T => [print4 (bytesOf T)]

theorem quad_two {T : List Nat} (h : T.length = 2) : quad T = [print4 (bytesOf T)] := by
  match T, h with
  | [_, _], _ => rfl

theorem groups_hex (last : Bool) (ws T : List Nat) (h : ∀ w ∈ ws, w < 65536)
    (ht : T = [] ∨ last = true ∧ T.length = 2) :
    groups last (ws.map hexOf ++ quad T) = some (bytesOf (ws ++ T)) := by
  induction ws with
  | nil =>
    rcases ht with rfl | ⟨rfl, hT⟩
    · rfl
    · have h4 : (bytesOf T).length = 4 := by rw [bytesOf_length, hT]
      simp [quad_two hT, groups, (print4_NC _ h4).2, parse4_print4 _ h4]
  | cons w ws ih =>
    have hd : (0x2e : UInt8) ∉ hexOf w := fun hc => (hexOf_chars w _ hc).2.2 rfl
    have ih := ih (fun x hx => h x (List.mem_cons_of_mem _ hx))
    rw [List.map_cons, List.cons_append]
    cases hr : ws.map hexOf ++ quad T with
    | nil =>
      obtain ⟨h1, h2⟩ := List.append_eq_nil_iff.mp hr
      have hT : T = [] := by
        rcases ht with e | ⟨_, hT⟩
        · exact e
        · rw [quad_two hT] at h2; cases h2
      simp [List.map_eq_nil_iff.mp h1, hT, groups, hd, hexGroup_hexOf w (h w (by simp)), bytesOf]
    | cons g gs =>
      rw [groups.eq_3 _ _ _ (by simp), ← hr, ih, hexGroup_hexOf w (h w (by simp))]
      simp [bytesOf]

theorem groups_hexOf (last : Bool) (ws : List Nat) (h : ∀ w ∈ ws, w < 65536) :
    groups last (ws.map hexOf) = some (bytesOf ws) := by
  simpa [quad] using groups_hex last ws [] h (.inl rfl)

theorem map_NC (ws : List Nat) : ∀ g ∈ ws.map hexOf, NC g := by
  intro g hg; obtain ⟨w, hw, rfl⟩ := List.mem_map.mp hg; exact hexOf_NC w

theorem parse6_plain (ws : List Nat) (h : ∀ w ∈ ws, w < 65536) (h8 : ws.length = 8) :
    parse6 (joinWith 0x3a (ws.map hexOf)) = some (bytesOf ws) := by
  have hne : ws ≠ [] := by intro e; rw [e] at h8; cases h8
  have hne' : ws.map hexOf ≠ [] := by simpa using hne
  unfold parse6
  rw [findDouble_join _ (map_NC ws)]
  simp only [splitOn_join _ _ (fun g hg => (map_NC ws g hg).2) hne', groups_hexOf true ws h, bytesOf_length, h8, if_true]

theorem byte_hi (hi lo : UInt8) : UInt8.ofNat ((hi.toNat * 256 + lo.toNat) / 256) = hi := by
  have : (hi.toNat * 256 + lo.toNat) / 256 = hi.toNat := by have := lo.toNat_lt; omega
  rw [this, UInt8.ofNat_toNat]
theorem byte_lo (hi lo : UInt8) : UInt8.ofNat ((hi.toNat * 256 + lo.toNat) % 256) = lo := by
  have : (hi.toNat * 256 + lo.toNat) % 256 = lo.toNat := by have := lo.toNat_lt; omega
  rw [this, UInt8.ofNat_toNat]

theorem words_lt : ∀ (a : Bytes), ∀ w ∈ words a, w < 65536
  | hi :: lo :: r, w, hw => by
    rcases List.mem_cons.mp hw with rfl | hw
    · have := hi.toNat_lt; have := lo.toNat_lt; omega
    · exact words_lt r w hw
  | [], _, hw | [_], _, hw => by cases hw

theorem words_props (a : Bytes) (h : a.length = 16) :
    (words a).length = 8 ∧ (∀ w ∈ words a, w < 65536) ∧ bytesOf (words a) = a ∧
      a.drop 12 = bytesOf ((words a).drop 6) ∧ (a.drop 12).length = 4 := by
  match a, h with
  | [b0, b1, b2, b3, b4, b5, b6, b7, b8, b9, b10, b11, b12, b13, b14, b15], _ =>
    exact ⟨rfl, words_lt _, by simp [words, bytesOf, byte_hi], by simp [words, bytesOf, byte_hi], rfl⟩

/-- the dotted-quad test of `print6` -/
def v4t (ws : List Nat) (bs bl : Nat) : Bool :=
  bs == 0 && bl > 0 && (bl == 6 || (bl == 5 && ws[5]? == some 0xffff))

/-- the text `print6` builds once the run and the dotted-quad decision are fixed -/
def core6 (a : Bytes) (ws : List Nat) (bs bl : Nat) (v4tail : Bool) : Bytes :=
  let nw := if v4tail then 6 else 8
  let left := ((ws.take nw).take bs).map hexOf
  let right := ((ws.take nw).drop (bs + bl)).map hexOf
  let core :=
    if bl == 0 then joinWith 0x3a ((ws.take nw).map hexOf)
    else joinWith 0x3a left ++ [0x3a, 0x3a] ++ joinWith 0x3a right
  if v4tail then
    core ++ (if core.getLast? == some 0x3a then [] else [0x3a]) ++ print4 (a.drop 12)
  else core

theorem print6_eq (a : Bytes) (bs bl : Nat)
    (h : (if (bestRun (words a)).2 < 2 then (0, 0) else bestRun (words a)) = (bs, bl)) :
    print6 a = core6 a (words a) bs bl (v4t (words a) bs bl) := by
  obtain ⟨rfl, rfl⟩ : bs = _ ∧ bl = _ := ⟨congrArg Prod.fst h.symm, congrArg Prod.snd h.symm⟩
  rfl

theorem print6_plain (a : Bytes) (h : a.length = 16) (hb : (bestRun (words a)).2 < 2) :
    print6 a = joinWith 0x3a ((words a).map hexOf) := by
  rw [print6_eq a 0 0 (if_pos hb)]
  have h8 := (words_props a h).1
  simp [core6, v4t, List.take_of_length_le (Nat.le_of_eq h8)]

theorem run_split (l : List Nat) (b n : Nat) (h : Run l b n) :
    l = l.take b ++ List.replicate n 0 ++ l.drop (b + n) := by
  obtain ⟨hl, hz⟩ := h
  apply List.ext_getElem?
  intro j
  by_cases h1 : j < b
  · rw [List.append_assoc, List.getElem?_append_left (by simp only [List.length_take]; omega), List.getElem?_take_of_lt h1]
  · by_cases h2 : j < b + n
    · rw [hz j (by omega) h2, List.append_assoc, List.getElem?_append_right (by simp only [List.length_take]; omega),
        List.getElem?_append_left (by simp only [List.length_take, List.length_replicate]; omega),
        List.getElem?_replicate]
      simp only [List.length_take]
      rw [if_pos (by omega)]
    · rw [List.getElem?_append_right (by simp only [List.length_append, List.length_take, List.length_replicate]; omega),
        List.getElem?_drop]
      simp only [List.length_append, List.length_take, List.length_replicate]
      congr 1; omega

theorem hexOf_ffff : hexOf 0xffff = [0x66, 0x66, 0x66, 0x66] := by decide +kernel

theorem v4t_true (ws : List Nat) (bs bl : Nat) (h : v4t ws bs bl = true) :
    bs = 0 ∧ (bl = 6 ∨ (bl = 5 ∧ ws[5]? = some 0xffff)) := by
  simp only [v4t, Bool.and_eq_true, Bool.or_eq_true, beq_iff_eq, decide_eq_true_eq] at h
  exact ⟨h.1.1, h.2⟩

theorem drop_of_getElem? {α} (l : List α) (i : Nat) (x : α) (h : l[i]? = some x) : l.drop i = x :: l.drop (i + 1) := by
  obtain ⟨hi, hx⟩ := List.getElem?_eq_some_iff.mp h
  rw [List.drop_eq_getElem_cons hi, hx]

def dcText (L R T : List Nat) : Bytes :=
  joinWith 0x3a (L.map hexOf) ++ 0x3a :: 0x3a :: joinWith 0x3a (R.map hexOf ++ quad T)

theorem tail_NC (T : List Nat) (ht : T = [] ∨ T.length = 2) (R : List Nat) :
    ∀ g ∈ R.map hexOf ++ quad T, NC g ∧ ∀ c ∈ g, c ≠ 0 := by
  intro g hg
  rcases List.mem_append.mp hg with hg | hg
  · obtain ⟨w, _, rfl⟩ := List.mem_map.mp hg
    exact ⟨hexOf_NC w, fun c hc => (hexOf_chars w c hc).1⟩
  · rcases ht with rfl | hT
    · cases hg
    · have h4 : (bytesOf T).length = 4 := by rw [bytesOf_length, hT]
      rw [quad_two hT] at hg
      rw [List.mem_singleton.mp hg]
      exact ⟨(print4_NC _ h4).1, fun c hc => (print4_chars _ c hc).1⟩

theorem parse6_dcText (ws L R T : List Nat) (n : Nat) (hws : ws = L ++ List.replicate n 0 ++ R ++ T)
    (h : ∀ w ∈ ws, w < 65536) (h8 : ws.length = 8) (h1 : 1 ≤ n) (ht : T = [] ∨ T.length = 2) :
    parse6 (dcText L R T) = some (bytesOf ws) := by
  subst hws
  rw [dcText, parse6_dc _ _ (map_NC L) (fun g hg => (tail_NC T ht R g hg).1),
    groups_hexOf false L (fun w hw => h w (by simp [hw])),
    groups_hex true R T (fun w hw => h w (by simp [hw])) (ht.imp id fun e => ⟨rfl, e⟩)]
  simp only [List.length_append, List.length_replicate] at h8
  simp only [bytesOf_length, List.length_append]
  rw [if_pos (by omega), show 16 - 2 * L.length - 2 * (R.length + T.length) = 2 * n by omega, ← bytesOf_zeros]
  simp only [bytesOf_append, List.append_assoc]

theorem print6_form (a : Bytes) (h : a.length = 16) (hb : ¬ (bestRun (words a)).2 < 2) :
    ∃ L R T n, print6 a = dcText L R T ∧ words a = L ++ List.replicate n 0 ++ R ++ T ∧ 1 ≤ n ∧ (T = [] ∨ T.length = 2) := by
  obtain ⟨h8, _, _, hd, _⟩ := words_props a h
  have hs := run_split _ _ _ (bestRun_run (words a))
  have hp := print6_eq a (bestRun (words a)).1 (bestRun (words a)).2 (if_neg hb)
  generalize (bestRun (words a)).1 = bs, (bestRun (words a)).2 = bl at hb hs hp
  have h6 : ((words a).take 8) = words a := List.take_of_length_le (Nat.le_of_eq h8)
  cases hv : v4t (words a) bs bl with
  | false =>
    refine ⟨_, _, [], bl, ?_, by simpa using hs, by omega, .inl rfl⟩
    rw [hp, hv]
    simp [core6, dcText, quad, h6, show bl ≠ 0 by omega]
  | true =>
    have hT : ((words a).drop 6).length = 2 := by rw [List.length_drop, h8]
    rw [hv] at hp
    obtain ⟨rfl, rfl | ⟨rfl, h3⟩⟩ := v4t_true _ _ _ hv
    · exact ⟨[], [], (words a).drop 6, 6, by rw [hp, dcText, quad_two hT, ← hd]; simp [core6, joinWith], hs, by omega, .inr hT⟩
    · have e : ((words a).take 6).drop 5 = [0xffff] := by
        rw [List.drop_take, drop_of_getElem? _ _ _ h3]; rfl
      rw [Nat.zero_add, drop_of_getElem? _ _ _ h3] at hs
      exact ⟨[], [0xffff], (words a).drop 6, 5, by rw [hp, dcText, quad_two hT, ← hd]; simp [core6, joinWith, e, hexOf_ffff],
        hs, by omega, .inr hT⟩

theorem parse6_print6 (a : Bytes) (h : a.length = 16) : parse6 (print6 a) = some a := by
  obtain ⟨h8, hw, hby, _, _⟩ := words_props a h
  by_cases hb : (bestRun (words a)).2 < 2
  · rw [print6_plain a h hb, parse6_plain _ hw h8, hby]
  · obtain ⟨L, R, T, n, hp, hws, hn, ht⟩ := print6_form a h hb
    rw [hp, parse6_dcText _ L R T n hws hw h8 hn ht, hby]

theorem join_ne0 (gs : List Bytes) (h : ∀ g ∈ gs, ∀ c ∈ g, c ≠ 0) : ∀ c ∈ joinWith 0x3a gs, c ≠ 0 := by
  intro c hc
  rcases join_chars _ _ c hc with rfl | ⟨g, hg, hcg⟩
  · decide
  · exact h g hg c hcg

theorem print6_chars (a : Bytes) (h : a.length = 16) : (0x3a : UInt8) ∈ print6 a ∧ ∀ c ∈ print6 a, c ≠ 0 := by
  have hex : ∀ ws : List Nat, ∀ g ∈ ws.map hexOf, ∀ c ∈ g, c ≠ 0 := fun ws g hg =>
    (tail_NC [] (.inl rfl) ws g (by simpa [quad] using hg)).2
  by_cases hb : (bestRun (words a)).2 < 2
  · rw [print6_plain a h hb]
    refine ⟨?_, join_ne0 _ (hex _)⟩
    match hws : words a, (words_props a h).1 with
    | w0 :: w1 :: ws, _ => simp [joinWith]
  · obtain ⟨L, R, T, n, hp, _, _, ht⟩ := print6_form a h hb
    rw [hp, dcText]
    refine ⟨by simp, fun c hc => ?_⟩
    simp only [List.mem_append, List.mem_cons] at hc
    rcases hc with hc | rfl | rfl | hc
    · exact join_ne0 _ (hex L) c hc
    · decide
    · decide
    · exact join_ne0 _ (fun g hg => (tail_NC T ht R g hg).2) c hc

end Percival.Proofs.Inet6
