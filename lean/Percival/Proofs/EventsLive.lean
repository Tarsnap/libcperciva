import Percival.Spec.EventsMonitor
import Percival.Proofs.Keys
namespace Percival.Proofs.EventsLive
open Percival.Spec.Events Percival.Spec.Events.C04

/-! ## the C04 monitor's table of live registrations as a finite map -/

def KeysNodup (l : List (Nat × Reg)) : Prop := (l.map (·.1)).Nodup

variable (l : List (Nat × Reg))

theorem keys_filter (f : Nat × Reg → Bool) (h : KeysNodup l) : KeysNodup (l.filter f) :=
  Keys.filter f h

theorem keys_remove (id : Nat) (h : KeysNodup l) : KeysNodup (remove l id) :=
  keys_filter l _ h

theorem not_mem_remove (id : Nat) : id ∉ (remove l id).map (·.1) := by
  unfold remove
  simp only [List.mem_map, List.mem_filter, not_exists, not_and, and_imp]
  intro x _ hx hh
  simp [hh] at hx

theorem keys_cons_remove (id : Nat) (r : Reg) (h : KeysNodup l) :
    KeysNodup ((id, r) :: remove l id) := by
  unfold KeysNodup
  simp only [List.map_cons, List.nodup_cons]
  exact ⟨not_mem_remove l id, keys_remove l id h⟩

theorem keys_map (g : Nat × Reg → Nat × Reg) (hg : ∀ x, (g x).1 = x.1) (h : KeysNodup l) :
    KeysNodup (l.map g) := by
  unfold KeysNodup at *
  rw [List.map_map]
  have : ((fun x : Nat × Reg => x.1) ∘ g) = (fun x => x.1) := by funext x; exact hg x
  rw [this]; exact h

/-! Under distinct keys `lookup` is membership, so what `remove`, a replaced entry and `map` do to the table is read
off `List.mem_filter`, `List.mem_cons`, `List.mem_map`. -/

variable {l}

theorem lookup_iff_mem (hk : KeysNodup l) {id : Nat} {reg : Reg} : lookup l id = some reg ↔ (id, reg) ∈ l :=
  Keys.lookup_iff hk

theorem lookup_remove_iff (hk : KeysNodup l) (id id' : Nat) (reg : Reg) :
    lookup (remove l id) id' = some reg ↔ id' ≠ id ∧ lookup l id' = some reg := by
  rw [lookup_iff_mem (keys_remove _ _ hk), lookup_iff_mem hk, remove, List.mem_filter, bne_iff_ne, and_comm]

theorem lookup_replace (hk : KeysNodup l) (id : Nat) (r : Reg) (id' : Nat) (reg : Reg) :
    lookup ((id, r) :: remove l id) id' = some reg ↔ (id' = id ∧ reg = r) ∨ (id' ≠ id ∧ lookup l id' = some reg) := by
  rw [lookup_iff_mem (keys_cons_remove _ _ _ hk), lookup_iff_mem hk, remove, List.mem_cons, List.mem_filter, bne_iff_ne,
    Prod.mk.injEq, and_comm (b := id' ≠ id)]

theorem lookup_map_iff (hk : KeysNodup l) (g : Nat × Reg → Nat × Reg) (hg : ∀ x, (g x).1 = x.1) (id : Nat) (reg : Reg) :
    lookup (l.map g) id = some reg ↔ ∃ r0, lookup l id = some r0 ∧ (g (id, r0)).2 = reg := by
  rw [lookup_iff_mem (keys_map _ _ hg hk), List.mem_map]
  constructor
  · rintro ⟨⟨k, r0⟩, hm, he⟩
    have := hg (k, r0); rw [he] at this; cases this
    exact ⟨r0, (lookup_iff_mem hk).mpr hm, by rw [he]⟩
  · rintro ⟨r0, h, rfl⟩
    exact ⟨(id, r0), (lookup_iff_mem hk).mp h, Prod.ext (hg _) rfl⟩

theorem markReady_key (fds : List PollEntry) (x : Nat × Reg) : (markReady fds x).1 = x.1 := by
  obtain ⟨id, r⟩ := x
  cases r <;> rfl

end Percival.Proofs.EventsLive
