import Percival.Model.AfStep
import Percival.Proofs.AllocFail
/-!
# C14: what `Model.AfStep.stepOp` (the function `pmodel af` runs) does to the proved models' states

`heapCall` / `evCall` name, for a protocol op in a state, the call of `Model/HeapAlloc.lean` / `Model/EvReg.lean`
that the harness makes (`none`: it makes none — the op is skipped, or it is not such an op).  `stepOp_eq`: `stepOp`
stores exactly that call's result, with the harness' own bookkeeping (`keysAfter`, `liveAfter`, `netAfter`), and prints
exactly its outcome; without a call it is `noCall` (schedule, clock, `end`, or the line is skipped).  The lemmas after it
are its readings for a given call.
-/
namespace Percival.Proofs.AfMonReg

def isHeapOp : Percival.Spec.AfMon.Op → Bool
  | .hInit | .hAdd _ _ | .hMin | .hDelmin | .hFree | .hCreate _ => true
  | _ => false

end Percival.Proofs.AfMonReg

namespace Percival.Proofs.AfStep
open Percival.Model Percival.Model.EvReg Percival.Model.HeapAlloc Percival.Model.AfStep
open Percival.Model.DsStep (rf sched)
open Percival.Spec.AfMon (Op keyFn MAXID MAXFD createSkip)

/-- the event-layer call behind an op: its status, the callbacks it ran (`run` only), the new event state, the
new allocator state -/
def evCall (s : S) : Op → Option (NetRes × Option (List Nat) × Ev × Mem)
  | .regImm i prio =>
    if i ≥ MAXID || registeredImm s.ev i || registeredTm s.ev i then none else
    let r := immReg s.ev i prio s.m; some (boolRes r.1, none, r.2.1, r.2.2)
  | .cancelImm i => (immCancel s.ev i s.m).map fun r => (.ok, none, r.1, r.2)
  | .regTm i usec =>
    if i ≥ MAXID || registeredImm s.ev i || registeredTm s.ev i then none else
    let r := tmReg s.ev i usec s.now s.m; some (boolRes r.1, none, r.2.1, r.2.2)
  | .cancelTm i => (tmCancel s.ev i s.m).map fun r => (.ok, none, r.1, r.2)
  | .regNet i sfd isW =>
    if i ≥ MAXID || sfd ≥ MAXFD then none else
    let r := netReg s.ev i sfd isW s.m; some (r.1, none, r.2.1, r.2.2)
  | .cancelNet sfd isW =>
    if sfd ≥ MAXFD then none else
    let r := netCancel s.ev sfd isW s.m; some (r.1, none, r.2.1, r.2.2)
  | .run => let r := run s.ev s.now s.m; some (boolRes r.1, some r.2.1, r.2.2.1, r.2.2.2)
  | _ => none

/-- the heap call behind an op: success, the `id=` field, the new heap, the allocator before and after the call
(`h_init` / `h_create` on an existing heap free it first) -/
def heapCall (s : S) : Op → Option (Bool × Option (Option Nat) × Option HeapA × Mem × Mem)
  | .hInit =>
    let r := HeapAlloc.init (initMem s); some (r.1.isSome, none, r.1, initMem s, r.2)
  | .hAdd e k =>
    match s.h with
    | none => none
    | some ha =>
      if e ≥ MAXID || s.hlive.contains e then none else
      let r := HeapAlloc.add (keyFn ((e, k) :: s.keys)) ha e s.m; some (r.1, none, some r.2.1, s.m, r.2.2)
  | .hMin => s.h.map fun ha => (true, some (Heap.getmin ha.h), some ha, s.m, s.m)
  | .hDelmin =>
    match s.h with
    | none => none
    | some ha =>
      match Heap.getmin ha.h, HeapAlloc.delete (keyFn s.keys) ha 0 s.m with
      | some e, some r => some (true, some (some e), some r.1, s.m, r.2)
      | _, _ => none
  | .hFree => s.h.map fun ha => (true, none, none, s.m, HeapAlloc.free ha s.m)
  | .hCreate els =>
    if createSkip els then none else
    let r := HeapAlloc.create (keyFn (els ++ s.keys)) (els.map (·.1)) (initMem s)
    some (r.1.isSome, none, r.1, initMem s, r.2)
  | _ => none

def isEvOp : Op → Bool
  | .regImm _ _ | .cancelImm _ | .regTm _ _ | .cancelTm _ | .regNet _ _ _ | .cancelNet _ _ | .run => true
  | _ => false

/-- the harness' list of descriptor registrations after a call of the event layer with status `st` -/
def netAfter (s : S) : Op → NetRes → List (Nat × Bool)
  | .regNet _ sfd isW, st => if st = .ok then (sfd, isW) :: s.net else s.net
  | .cancelNet sfd isW, st => if st = .ok then s.net.erase (sfd, isW) else s.net
  | _, _ => s.net

/-- the caller's keys after a heap line that is carried out -/
def keysAfter (s : S) : Op → List (Nat × Int)
  | .hAdd e k => (e, k) :: s.keys
  | .hCreate els => els ++ s.keys
  | _ => s.keys

/-- the harness' list of live elements after a heap call with outcome `ok` and `id=` field `id` -/
def liveAfter (s : S) : Op → Bool → Option (Option Nat) → List Nat
  | .hInit, _, _ | .hFree, _, _ => []
  | .hAdd e _, ok, _ => if ok then e :: s.hlive else s.hlive
  | .hDelmin, _, some (some e) => s.hlive.erase e
  | .hCreate els, ok, _ => if ok then els.map (·.1) else []
  | _, _, _ => s.hlive

theorem heapCall_hAdd {s : S} {ha : HeapA} (e : Nat) (k : Int) (hh : s.h = some ha)
    (hnew : (decide (e ≥ MAXID) || s.hlive.contains e) = false) :
    heapCall s (.hAdd e k) = some ((HeapAlloc.add (keyFn ((e, k) :: s.keys)) ha e s.m).1, none,
      some (HeapAlloc.add (keyFn ((e, k) :: s.keys)) ha e s.m).2.1, s.m,
      (HeapAlloc.add (keyFn ((e, k) :: s.keys)) ha e s.m).2.2) := by
  simp only [heapCall, hh, hnew]
  rfl

theorem heapCall_hCreate (s : S) {els : List (Nat × Int)} (hc : createSkip els = false) :
    heapCall s (.hCreate els) = some ((HeapAlloc.create (keyFn (els ++ s.keys)) (els.map (·.1)) (initMem s)).1.isSome, none,
      (HeapAlloc.create (keyFn (els ++ s.keys)) (els.map (·.1)) (initMem s)).1, initMem s,
      (HeapAlloc.create (keyFn (els ++ s.keys)) (els.map (·.1)) (initMem s)).2) := by
  simp only [heapCall, hc]
  rfl

theorem heapCall_evOp (s : S) {op : Op} (hop : isEvOp op = true) : heapCall s op = none := by
  cases op <;> first | rfl | cases hop

theorem evCall_heapOp (s : S) {op : Op} (hop : AfMonReg.isHeapOp op = true) : evCall s op = none := by
  cases op <;> first | rfl | cases hop

theorem free_refusals (ha : HeapA) (m : Mem) : (HeapAlloc.free ha m).refusals = m.refusals := by
  simp only [HeapAlloc.free, EArray.free, Mem.free]
  split <;> split <;> rfl

/-- a line on which the harness calls neither model: it sets the failure schedule or the clock, releases everything
(`end`), or skips the line -/
def noCall (s : S) : Op → S × Out
  | .failat k => ({ s with m := { s.m with f := sched 1 k s.m.n } }, .word .ok)
  | .failfrom k => ({ s with m := { s.m with f := sched 2 k s.m.n } }, .word .ok)
  | .failoff => ({ s with m := { s.m with f := sched 0 0 0 } }, .word .ok)
  | .clock us => ({ s with now := s.now + us }, .word .ok)
  | .end_ => (releaseAll s, .end_ (releaseAll s).m.live (releaseAll s).m.n)
  | _ => (s, .word .skip)

theorem stepOp_eq (s : S) (op : Op) : stepOp s op =
    match evCall s op, heapCall s op with
    | some (st, ran, e', m'), _ =>
      ({ s with m := m', ev := e', net := netAfter s op st }, .ev st (rf s.m m') ran (evView e' s.m m'))
    | none, some (ok, id, h', m0, m') =>
      ({ s with m := m', h := h', keys := keysAfter s op, hlive := liveAfter s op ok id },
       .heap ok (rf m0 m') id (hView h' m0 m'))
    | none, none => noCall s op := by
  cases op with
  | failat k | failfrom k | failoff | clock us | end_ | run => rfl
  | hInit =>
    simp only [stepOp, evCall, heapCall]
    rcases HeapAlloc.init (initMem s) with ⟨_ | ha, m'⟩ <;> rfl
  | hAdd e k =>
    simp only [stepOp, evCall, heapCall]
    cases s.h with
    | none => rfl
    | some ha =>
      dsimp only
      split
      · rfl
      · rcases HeapAlloc.add (keyFn ((e, k) :: s.keys)) ha e s.m with ⟨_ | _, ha', m'⟩ <;> rfl
  | hMin =>
    simp only [stepOp, evCall, heapCall]
    cases hh : s.h with
    | none => rfl
    | some ha => simp only [Option.map_some, rf, Nat.sub_self]; rw [← hh]; rfl
  | hDelmin =>
    simp only [stepOp, evCall, heapCall]
    cases s.h with
    | none => rfl
    | some ha =>
      dsimp only
      generalize Heap.getmin ha.h = g
      generalize HeapAlloc.delete _ _ _ _ = d
      rcases g with _ | e <;> rcases d with _ | ⟨ha', m'⟩ <;> rfl
  | hFree =>
    simp only [stepOp, evCall, heapCall]
    cases s.h with
    | none => rfl
    | some ha => simp only [Option.map_some, rf, free_refusals, Nat.sub_self]; rfl
  | hCreate els =>
    simp only [stepOp, evCall, heapCall]
    split
    · rfl
    · generalize HeapAlloc.create _ _ _ = r
      rcases r with ⟨_ | ha, m'⟩ <;> rfl
  | regImm i prio | regTm i us | regNet i sfd isW | cancelNet sfd isW =>
    simp only [stepOp, evCall, heapCall]
    split <;> rfl
  | cancelImm i =>
    simp only [stepOp, evCall, heapCall]
    cases immCancel s.ev i s.m <;> rfl
  | cancelTm i =>
    simp only [stepOp, evCall, heapCall]
    cases tmCancel s.ev i s.m <;> rfl

theorem stepOp_evCall_eq (s : S) (op : Op) (st : NetRes) (ran : Option (List Nat)) (e' : Ev) (m' : Mem)
    (h : evCall s op = some (st, ran, e', m')) :
    stepOp s op = ({ s with m := m', ev := e', net := netAfter s op st }, .ev st (rf s.m m') ran (evView e' s.m m')) := by
  rw [stepOp_eq, h]

theorem stepOp_evCall (s : S) (op : Op) (st : NetRes) (ran : Option (List Nat)) (e' : Ev) (m' : Mem)
    (h : evCall s op = some (st, ran, e', m')) :
    (stepOp s op).1.ev = e' ∧ (stepOp s op).1.m = m' ∧ (stepOp s op).2 = .ev st (rf s.m m') ran (evView e' s.m m') ∧
    (stepOp s op).1.h = s.h ∧ (stepOp s op).1.keys = s.keys ∧ (stepOp s op).1.hlive = s.hlive ∧ (stepOp s op).1.now = s.now := by
  rw [stepOp_evCall_eq s op st ran e' m' h]
  exact ⟨rfl, rfl, rfl, rfl, rfl, rfl, rfl⟩

theorem stepOp_heapCall_eq (s : S) (op : Op) (ok : Bool) (id : Option (Option Nat)) (h' : Option HeapA) (m0 m' : Mem)
    (h : heapCall s op = some (ok, id, h', m0, m')) :
    stepOp s op = ({ s with m := m', h := h', keys := keysAfter s op, hlive := liveAfter s op ok id },
      .heap ok (rf m0 m') id (hView h' m0 m')) := by
  have : evCall s op = none := by cases op <;> first | rfl | cases h
  rw [stepOp_eq, this, h]

theorem stepOp_heapCall (s : S) (op : Op) (ok : Bool) (id : Option (Option Nat)) (h' : Option HeapA) (m0 m' : Mem)
    (h : heapCall s op = some (ok, id, h', m0, m')) :
    (stepOp s op).1.h = h' ∧ (stepOp s op).1.m = m' ∧ (stepOp s op).2 = .heap ok (rf m0 m') id (hView h' m0 m') ∧
    (stepOp s op).1.ev = s.ev ∧ (stepOp s op).1.now = s.now ∧ (stepOp s op).1.net = s.net := by
  rw [stepOp_heapCall_eq s op ok id h' m0 m' h]
  exact ⟨rfl, rfl, rfl, rfl, rfl, rfl⟩

theorem stepOp_heap_nocall (s : S) (op : Op) (hop : AfMonReg.isHeapOp op = true) (h2 : heapCall s op = none) :
    stepOp s op = (s, .word .skip) := by
  rw [stepOp_eq, evCall_heapOp s hop, h2]
  cases op <;> first | rfl | cases hop

theorem stepOp_ev_nocall (s : S) (op : Op) (hop : isEvOp op = true) (h1 : evCall s op = none) :
    stepOp s op = (s, .word .skip) := by
  rw [stepOp_eq, h1, heapCall_evOp s hop]
  cases op <;> first | rfl | cases hop

theorem stepOp_nocall_eq (s : S) (op : Op) (h1 : evCall s op = none) (h2 : heapCall s op = none) :
    stepOp s op = noCall s op := by
  rw [stepOp_eq, h1, h2]

theorem stepOp_nocall (s : S) (op : Op) (h1 : evCall s op = none) (h2 : heapCall s op = none) (he : op ≠ .end_) :
    (stepOp s op).1.h = s.h ∧ (stepOp s op).1.ev = s.ev ∧ (stepOp s op).1.m.n = s.m.n ∧
    (stepOp s op).1.m.live = s.m.live ∧ (stepOp s op).1.m.refusals = s.m.refusals ∧
    ((stepOp s op).2 = .word .ok ∨ (stepOp s op).2 = .word .skip) := by
  rw [stepOp_nocall_eq s op h1 h2]
  cases op with
  | failat k | failfrom k | failoff | clock us => exact ⟨rfl, rfl, rfl, rfl, rfl, Or.inl rfl⟩
  | end_ => exact absurd rfl he
  | _ => exact ⟨rfl, rfl, rfl, rfl, rfl, Or.inr rfl⟩

theorem heap_line_not_ok {s : S} {op : Op} {ok : Bool} {id : Option (Option Nat)} {h' : Option HeapA} {m0 m' : Mem}
    (hc : heapCall s op = some (ok, id, h', m0, m')) (hf : ∀ rfn id l2, (stepOp s op).2 ≠ .heap true rfn id l2) :
    ok = false := by
  cases ok with
  | false => rfl
  | true => exact absurd (stepOp_heapCall s op _ _ _ _ _ hc).2.2.1 (hf _ _ _)

theorem ev_line_not_ok {s : S} {op : Op} {st : NetRes} {ran : Option (List Nat)} {e' : Ev} {m' : Mem}
    (hc : evCall s op = some (st, ran, e', m')) (hf : ∀ rfn ran l2, (stepOp s op).2 ≠ .ev .ok rfn ran l2) : st ≠ .ok :=
  fun h => hf _ _ _ (h ▸ (stepOp_evCall s op st ran e' m' hc).2.2.1)

end Percival.Proofs.AfStep
