import Percival.Spec.Ctr
import Percival.Proofs.Endian
import Percival.Model.AesCtr
/-! The AES-CTR stream object (`Model.AesCtr`) computes SP 800-38A's keystream (C02).

* the keystream by byte position: `xorAt` (a `mapIdx` over the total function `ksB`), to which `zipWith_ks` brings every
  slice of the keystream the Spec xors with; `streamAt_append`, `stream_append`, `streamAt_in_block`;
* `Inv`: the representation invariant of `struct crypto_aesctr`; `generate_spec` (the one-byte counter increment and
  its wrap), `Step` (progress of one phase of a call), `Run` (a call in progress: what every phase needs and leaves),
  `use_spec`, `gen_use_step`, `pre_spec`, `post_spec`;
* `WholeBlocks`: what the whole-block phase does, proved for the portable loop (`wholeLoop_spec`) and for the bulk
  routine (`bulkLoop_spec`, `wholeblocksBulk_spec`); `phases_spec` puts the three phases together, `stream_call_spec`
  is one call with either routing;
* call sequences: `init2_spec`, `streamCalls_spec`, and from a fresh object `init_of_raw`, `init_streamCalls_spec`,
  `ctrBuf_of_raw`. -/
namespace Percival.Proofs.AesCtr
open Percival.Spec.Ctr Percival.Model.AesCtr

theorem be64_length (n : Nat) : (be64 n).length = 8 := rfl

theorem be64_eq_beBytes (n : Nat) : be64 n = Spec.Endian.beBytes 8 n := (Endian.beBytes8 n).symm

theorem be64enc_eq (x : UInt64) : be64enc x = be64 x.toNat := (Endian.shifts64 x).trans (Endian.beBytes8 _)

theorem be64_succ (k : Nat) (hk : k % 256 ≠ 255) :
    be64 (k + 1) = (be64 k).take 7 ++ [UInt8.ofNat k + 1] := by
  rw [be64_eq_beBytes, be64_eq_beBytes, Endian.beBytes_succ, Endian.beBytes_succ 7 k, show (k + 1) / 256 = k / 256 by omega,
    List.take_left' (Endian.beBytes_length 7 _), UInt8.ofNat_add]
  rfl

theorem be64_getLast (n : Nat) : (be64 n)[7]? = some (UInt8.ofNat n) := rfl

def ksB (E : List UInt8 → List UInt8) (nonce : UInt64) (i : Nat) : UInt8 :=
  (keystreamBlock E nonce (i / 16)).getD (i % 16) 0

def xorAt (E : List UInt8 → List UInt8) (nonce : UInt64) (p : Nat) (d : List UInt8) : List UInt8 :=
  d.mapIdx fun i x => x ^^^ ksB E nonce (p + i)

theorem flatMap_range'_getD (f : Nat → List UInt8) (hf : ∀ i, (f i).length = 16) :
    ∀ m s i, i < 16 * m → ((List.range' s m).flatMap f)[i]? = some ((f (s + i / 16)).getD (i % 16) 0)
  | 0, _, _, h => by omega
  | m+1, s, i, h => by
    rw [List.range'_succ, List.flatMap_cons, List.getElem?_append, hf]
    by_cases hi : i < 16
    · rw [if_pos hi, show i / 16 = 0 by omega, show i % 16 = i by omega, Nat.add_zero, List.getD_eq_getElem?_getD,
        List.getElem?_eq_getElem (by rw [hf]; exact hi)]; rfl
    · rw [if_neg hi, flatMap_range'_getD f hf m (s + 1) (i - 16) (by omega),
        show s + 1 + (i - 16) / 16 = s + i / 16 by omega, show (i - 16) % 16 = i % 16 by omega]

theorem zipWith_ks {E : List UInt8 → List UInt8} {nonce : UInt64} (p : Nat) (d ks : List UInt8)
    (h : ∀ j, j < d.length → ks[j]? = some (ksB E nonce (p + j))) :
    List.zipWith (· ^^^ ·) d ks = xorAt E nonce p d := by
  apply List.ext_getElem?
  intro i
  rw [List.getElem?_zipWith, xorAt, List.getElem?_mapIdx]
  by_cases hi : i < d.length
  · rw [h i hi, List.getElem?_eq_getElem hi]; rfl
  · rw [List.getElem?_eq_none (by omega)]; rfl

section ks
variable {E : List UInt8 → List UInt8} {nonce : UInt64}
variable (hE : ∀ b, b.length = 16 → (E b).length = 16)
include hE

theorem keystreamBlock_length (i : Nat) : (keystreamBlock E nonce i).length = 16 := hE _ (by simp [counterBlock, be64_length])

theorem streamAt_eq (p : Nat) (d : List UInt8) : streamAt E nonce p d = xorAt E nonce p d := by
  refine zipWith_ks p d _ fun j hj => ?_
  rw [keystreamFrom, List.getElem?_take, if_pos hj, List.getElem?_drop,
    flatMap_range'_getD _ (keystreamBlock_length hE) _ _ _ (by omega), ksB,
    show p / 16 + (p % 16 + j) / 16 = (p + j) / 16 by omega, show (p % 16 + j) % 16 = (p + j) % 16 by omega]

variable (E nonce) in
theorem stream_eq_streamAt (d : List UInt8) : Spec.Ctr.stream E nonce d = streamAt E nonce 0 d := by
  rw [streamAt_eq hE]
  refine zipWith_ks 0 d _ fun j hj => ?_
  rw [keystream, List.range_eq_range', flatMap_range'_getD _ (keystreamBlock_length hE) _ _ _ (by omega), ksB]
  simp

theorem streamAt_length (p : Nat) (d : List UInt8) : (streamAt E nonce p d).length = d.length := by
  rw [streamAt_eq hE, xorAt, List.length_mapIdx]

theorem streamAt_append (p : Nat) (a b : List UInt8) :
    streamAt E nonce p (a ++ b) = streamAt E nonce p a ++ streamAt E nonce (p + a.length) b := by
  simp only [streamAt_eq hE, xorAt, List.mapIdx_append, Nat.add_assoc, Nat.add_comm a.length]

variable (E nonce) in
theorem stream_append (a b : List UInt8) :
    Spec.Ctr.stream E nonce (a ++ b) = Spec.Ctr.stream E nonce a ++ streamAt E nonce a.length b := by
  rw [stream_eq_streamAt E nonce hE, stream_eq_streamAt E nonce hE, streamAt_append hE]; simp

omit hE in
theorem streamAt_nil (p : Nat) : streamAt E nonce p [] = [] := by
  unfold streamAt; simp

theorem streamAt_in_block (p : Nat) (d : List UInt8) (h : p % 16 + d.length ≤ 16) :
    streamAt E nonce p d =
      List.zipWith (· ^^^ ·) d (((keystreamBlock E nonce (p / 16)).drop (p % 16)).take d.length) := by
  rw [streamAt_eq hE]
  refine (zipWith_ks p d _ fun j hj => ?_).symm
  have hl := keystreamBlock_length (nonce := nonce) hE (p / 16)
  rw [List.getElem?_take, if_pos hj, List.getElem?_drop, ksB, show (p + j) / 16 = p / 16 by omega,
    show (p + j) % 16 = p % 16 + j by omega, List.getD_eq_getElem?_getD, List.getElem?_eq_getElem (by omega)]; rfl
end ks

theorem u64_mod16_ne (x : UInt64) : (x % 16 ≠ 0) ↔ x.toNat % 16 ≠ 0 := by
  rw [Ne, ← UInt64.toNat_inj]; simp [UInt64.toNat_mod]

theorem u64_mod16_toNat (x : UInt64) : (x % 16).toNat = x.toNat % 16 := by
  simp [UInt64.toNat_mod]

theorem u64_div16_toNat (x : UInt64) : (x / 16).toNat = x.toNat / 16 := by
  simp [UInt64.toNat_div]

theorem u64_add_toNat (x : UInt64) (n : Nat) (h : x.toNat + n < 2^64) :
    (x + n.toUInt64).toNat = x.toNat + n := by
  rw [UInt64.toNat_add]
  simp
  omega

section model
variable {κ : Type} (enc : κ → List UInt8 → List UInt8)

structure Inv (key : κ) (nonce : UInt64) (s : Stream κ) : Prop where
  keyOk : s.key = key
  len : s.pblk.length = 16
  nonceOk : s.pblk.take 8 = be64 nonce.toNat
  ctr : if s.bytectr.toNat = 0 then s.pblk[15]? = some 0xff
        else s.pblk.drop 8 = be64 ((s.bytectr.toNat - 1) / 16)
  buf : s.bytectr.toNat % 16 ≠ 0 → s.buf = keystreamBlock (enc key) nonce (s.bytectr.toNat / 16)

end model

section steps
variable {κ : Type} {enc : κ → List UInt8 → List UInt8} {key : κ} {nonce : UInt64}

/-- away from position 0 the counter block is that of the block the last byte consumed lies in -/
theorem Inv.pblk_eq {s : Stream κ} (h : Inv enc key nonce s) (h0 : s.bytectr.toNat ≠ 0) :
    s.pblk = counterBlock nonce ((s.bytectr.toNat - 1) / 16) := by
  have hc := h.ctr
  rw [if_neg h0] at hc
  rw [← List.take_append_drop 8 s.pblk, h.nonceOk, hc]; rfl

/-- writing the eight counter bytes (`be64enc(pblk + 8, m)`, `memcpy(pblk + 8, …, 8)`) into sixteen bytes that start
    with the nonce -/
theorem writeAt_counter (l : List UInt8) (hl : l.length = 16) (hn : l.take 8 = be64 nonce.toNat) (m : Nat) :
    writeAt l 8 (be64 m) = some (counterBlock nonce m) := by
  unfold writeAt
  rw [be64_length, if_pos (by rw [hl]; decide), hn, List.drop_of_length_le (by rw [hl]; decide), List.append_nil]
  rfl

theorem Inv.writeCounter {s : Stream κ} (h : Inv enc key nonce s) (m : Nat) :
    writeAt s.pblk 8 (be64 m) = some (counterBlock nonce m) :=
  writeAt_counter s.pblk h.len h.nonceOk m

/-- `cipherblock_generate` at a block boundary: the counter block becomes `nonce ‖ be64(bytectr/16)`
    (by the one-byte increment, or by the full re-encode when that byte wraps), `buf` its encryption. -/
theorem generate_spec (s : Stream κ) (h : Inv enc key nonce s)
    (hz : s.bytectr.toNat % 16 = 0) :
    generate enc s = some { s with pblk := counterBlock nonce (s.bytectr.toNat / 16),
                                   buf := keystreamBlock (enc key) nonce (s.bytectr.toNat / 16) } := by
  have hnz : ¬ (s.bytectr % 16 ≠ 0) := by rw [u64_mod16_ne]; omega
  have hlt : 15 < s.pblk.length := by rw [h.len]; decide
  unfold generate
  rw [if_neg hnz, List.getElem?_eq_getElem hlt]
  simp only [setByte, hlt, if_true]
  have hfinal : (if s.pblk[15] + 1 = 0 then writeAt (s.pblk.set 15 (s.pblk[15] + 1)) 8 (be64enc (s.bytectr / 16))
      else some (s.pblk.set 15 (s.pblk[15] + 1))) = some (counterBlock nonce (s.bytectr.toNat / 16)) := by
    by_cases hb : s.pblk[15] + 1 = 0
    · -- wrap: all eight counter bytes are written again
      rw [if_pos hb, be64enc_eq, u64_div16_toNat]
      exact writeAt_counter _ (by rw [List.length_set, h.len]) (by rw [List.take_set_of_le (by decide)]; exact h.nonceOk) _
    · -- no wrap: not at position 0 (there byte 15 is 0xff), and the one-byte increment is `be64_succ`
      rw [if_neg hb]
      have h0 : s.bytectr.toNat ≠ 0 := by
        intro h0
        have hc := h.ctr
        rw [if_pos h0, List.getElem?_eq_getElem hlt] at hc
        exact hb (by rw [Option.some.inj hc]; rfl)
      have hp := h.pblk_eq h0
      have h15 : s.pblk[15] = UInt8.ofNat ((s.bytectr.toNat - 1) / 16) := by
        have : s.pblk[15]? = some (UInt8.ofNat ((s.bytectr.toNat - 1) / 16)) := by rw [hp]; rfl
        rw [List.getElem?_eq_getElem hlt] at this
        exact Option.some.inj this
      have hs := be64_succ ((s.bytectr.toNat - 1) / 16) fun hw => hb (by
        rw [h15]; apply UInt8.toNat_inj.mp
        simp [UInt8.toNat_add, UInt8.toNat_ofNat']; omega)
      rw [show (s.bytectr.toNat - 1) / 16 + 1 = s.bytectr.toNat / 16 by omega] at hs
      rw [counterBlock, hs, h15]
      conv => lhs; rw [hp]
      rfl
  rw [hfinal]
  simp only [h.keyOk, keystreamBlock]

variable (enc key nonce) in
structure Step (n : Nat) (s : Stream κ) (b : Bufs) (s' : Stream κ) (b' : Bufs) : Prop where
  le : n ≤ b.inp.length
  inp : b'.inp = b.inp.drop n
  buflen : b'.buflen = b.buflen - n
  out : b'.out.toList = b.out.toList ++ streamAt (enc key) nonce s.bytectr.toNat (b.inp.take n)
  ctr : s'.bytectr.toNat = s.bytectr.toNat + n
  inv : Inv enc key nonce s'

variable (hE : ∀ b, b.length = 16 → (enc key b).length = 16)

theorem Step.refl (s : Stream κ) (b : Bufs) (h : Inv enc key nonce s) : Step enc key nonce 0 s b s b :=
  ⟨by omega, by simp, by simp, by simp [streamAt_nil], by simp, h⟩

include hE in
theorem Step.trans {n1 n2 : Nat} {s s1 s2 : Stream κ} {b b1 b2 : Bufs}
    (h1 : Step enc key nonce n1 s b s1 b1) (h2 : Step enc key nonce n2 s1 b1 s2 b2) :
    Step enc key nonce (n1 + n2) s b s2 b2 := by
  have hl2 := h2.le
  rw [h1.inp, List.length_drop] at hl2
  have hl1 := h1.le
  refine ⟨by omega, ?_, ?_, ?_, ?_, h2.inv⟩
  · rw [h2.inp, h1.inp, List.drop_drop]
  · rw [h2.buflen, h1.buflen]; omega
  · rw [h2.out, h1.out, h1.ctr, h1.inp, List.take_add, streamAt_append hE, List.append_assoc,
      List.length_take, Nat.min_eq_left hl1]
  · rw [h2.ctr, h1.ctr]; omega

variable (enc key nonce) in
structure Run (s : Stream κ) (b : Bufs) : Prop where
  inv : Inv enc key nonce s
  buflen : b.buflen = b.inp.length
  lim : s.bytectr.toNat + b.buflen < 2^64

theorem Step.run {n : Nat} {s s' : Stream κ} {b b' : Bufs} (hst : Step enc key nonce n s b s' b')
    (h : Run enc key nonce s b) : Run enc key nonce s' b' := by
  have := hst.le
  have := h.buflen
  exact ⟨hst.inv, by rw [hst.buflen, hst.inp, List.length_drop, h.buflen], by rw [hst.ctr, hst.buflen]; have := h.lim; omega⟩

include hE in
theorem use_spec (s : Stream κ) (b : Bufs) (n : Nat)
    (hbuf : s.buf = keystreamBlock (enc key) nonce (s.bytectr.toNat / 16))
    (hr : s.bytectr.toNat % 16 + n ≤ 16) (hn : n ≤ b.inp.length) (hbl : b.buflen = b.inp.length) :
    use s b n (s.bytectr.toNat % 16) =
      some ({ s with bytectr := s.bytectr + n.toUInt64 },
            { inp := b.inp.drop n,
              out := b.out.appendList (streamAt (enc key) nonce s.bytectr.toNat (b.inp.take n)),
              buflen := b.buflen - n }) := by
  unfold use
  have h1 : (b.inp.take n).length = n := by rw [List.length_take]; omega
  have h2 : ((s.buf.drop (s.bytectr.toNat % 16)).take n).length = n := by
    rw [List.length_take, List.length_drop, hbuf, keystreamBlock_length hE]; omega
  simp only [h1, h2, true_and]
  rw [if_pos (by omega)]
  rw [streamAt_in_block hE _ _ (by rw [h1]; exact hr), h1, hbuf]

theorem inv_counterBlock {s : Stream κ} (m : Nat) (hkey : s.key = key) (hp : s.pblk = counterBlock nonce m)
    (hm : (s.bytectr.toNat - 1) / 16 = m) (h0 : s.bytectr.toNat ≠ 0)
    (hbuf : s.bytectr.toNat % 16 ≠ 0 → s.buf = keystreamBlock (enc key) nonce (s.bytectr.toNat / 16)) :
    Inv enc key nonce s := by
  refine ⟨hkey, by rw [hp]; rfl, by rw [hp]; rfl, ?_, hbuf⟩
  rw [if_neg h0, hp, hm]; rfl

/-- at a block boundary `buf` is dead: any contents keep the invariant -/
theorem inv_setBuf (s : Stream κ) (b : List UInt8) (h : Inv enc key nonce s) (hz : s.bytectr.toNat % 16 = 0) :
    Inv enc key nonce { s with buf := b } :=
  ⟨h.keyOk, h.len, h.nonceOk, h.ctr, fun hne => absurd hz hne⟩

theorem inv_use (s : Stream κ) (n : Nat) (h : Inv enc key nonce s)
    (hr0 : s.bytectr.toNat % 16 ≠ 0) (hr : s.bytectr.toNat % 16 + n ≤ 16)
    (hlim : s.bytectr.toNat + n < 2^64) :
    Inv enc key nonce { s with bytectr := s.bytectr + n.toUInt64 } := by
  have hp := u64_add_toNat s.bytectr n hlim
  refine inv_counterBlock _ h.keyOk (h.pblk_eq (by omega)) ?_ ?_ ?_ <;> simp only [hp]
  · omega
  · omega
  · intro _; rw [h.buf hr0]; congr 1; omega

theorem inv_gen_use (s : Stream κ) (n : Nat) (h : Inv enc key nonce s)
    (hz : s.bytectr.toNat % 16 = 0) (hn1 : 1 ≤ n) (hn16 : n ≤ 16) (hlim : s.bytectr.toNat + n < 2^64) :
    Inv enc key nonce { s with pblk := counterBlock nonce (s.bytectr.toNat / 16),
                               buf := keystreamBlock (enc key) nonce (s.bytectr.toNat / 16),
                               bytectr := s.bytectr + n.toUInt64 } := by
  have hp := u64_add_toNat s.bytectr n hlim
  refine inv_counterBlock _ h.keyOk rfl ?_ ?_ ?_ <;> simp only [hp]
  · omega
  · omega
  · intro _; congr 1; omega

include hE in
theorem gen_use_step (s : Stream κ) (b : Bufs) (n : Nat) (h : Run enc key nonce s b)
    (hz : s.bytectr.toNat % 16 = 0) (hn1 : 1 ≤ n) (hn16 : n ≤ 16) (hn : n ≤ b.buflen) :
    ∃ sg s' b', generate enc s = some sg ∧ use sg b n 0 = some (s', b') ∧ Step enc key nonce n s b s' b' := by
  have hlim : s.bytectr.toNat + n < 2^64 := by have := h.lim; omega
  have hg := generate_spec s h.inv hz
  have hu := use_spec hE
      { s with pblk := counterBlock nonce (s.bytectr.toNat / 16),
               buf := keystreamBlock (enc key) nonce (s.bytectr.toNat / 16) } b n rfl
      (by simp only [hz]; omega) (h.buflen ▸ hn) h.buflen
  simp only [hz] at hu
  exact ⟨_, _, _, hg, hu,
    ⟨h.buflen ▸ hn, rfl, rfl, by simp, u64_add_toNat _ _ hlim, inv_gen_use s n h.inv hz hn1 hn16 hlim⟩⟩

include hE in
theorem pre_spec (s : Stream κ) (b : Bufs) (h : Run enc key nonce s b) :
    ∃ s' b' done n, preWholeblock s b = some (s', b', done) ∧ Step enc key nonce n s b s' b' ∧
      (done = true → n = b.inp.length) ∧ (done = false → s'.bytectr.toNat % 16 = 0) := by
  have hbl := h.buflen
  have hlim := h.lim
  unfold preWholeblock
  simp only [u64_mod16_toNat]
  by_cases hr0 : s.bytectr.toNat % 16 = 0
  · rw [if_neg (by omega)]
    exact ⟨s, b, false, 0, rfl, Step.refl s b h.inv, by simp, fun _ => hr0⟩
  · rw [if_pos hr0]
    have hbuf := h.inv.buf hr0
    by_cases hfit : s.bytectr.toNat % 16 + b.buflen ≤ 16
    · rw [if_pos hfit, use_spec hE s b b.buflen hbuf hfit (by omega) hbl]
      refine ⟨_, _, true, b.buflen, rfl, ⟨by omega, rfl, rfl, by simp, u64_add_toNat _ _ hlim, ?_⟩, fun _ => hbl, by simp⟩
      exact inv_use s b.buflen h.inv hr0 hfit hlim
    · rw [if_neg hfit, use_spec hE s b (16 - s.bytectr.toNat % 16) hbuf (by omega) (by omega) hbl]
      have hl : s.bytectr.toNat + (16 - s.bytectr.toNat % 16) < 2^64 := by omega
      refine ⟨_, _, false, 16 - s.bytectr.toNat % 16, rfl,
        ⟨by omega, rfl, rfl, by simp, u64_add_toNat _ _ hl, ?_⟩, by simp, fun _ => ?_⟩
      · exact inv_use s _ h.inv hr0 (by omega) hl
      · show (s.bytectr + (16 - s.bytectr.toNat % 16).toUInt64).toNat % 16 = 0
        rw [u64_add_toNat _ _ hl]; omega
end steps

section loops
variable {κ : Type} {enc : κ → List UInt8 → List UInt8} {key : κ} {nonce : UInt64}
variable (hE : ∀ b, b.length = 16 → (enc key b).length = 16)
include hE

variable (enc key nonce) in
omit hE in
def WholeBlocks (mid : Stream κ → Bufs → Option (Stream κ × Bufs)) : Prop :=
  ∀ s b, Run enc key nonce s b → s.bytectr.toNat % 16 = 0 → ∃ s' b', mid s b = some (s', b') ∧
    Step enc key nonce (16 * (b.buflen / 16)) s b s' b' ∧ s'.bytectr.toNat % 16 = 0

/-- the `while (buflen >= 16)` loop of `crypto_aesctr_stream` -/
theorem wholeLoop_spec : ∀ (fuel : Nat) (s : Stream κ) (b : Bufs), Run enc key nonce s b →
    s.bytectr.toNat % 16 = 0 → b.buflen / 16 ≤ fuel →
    ∃ s' b', wholeLoop enc fuel s b = some (s', b') ∧
      Step enc key nonce (16 * (b.buflen / 16)) s b s' b' ∧ s'.bytectr.toNat % 16 = 0 := by
  intro fuel
  induction fuel with
  | zero =>
    intro s b h hz hf
    have h0 : b.buflen / 16 = 0 := by omega
    unfold wholeLoop
    rw [if_neg (by omega), h0]
    exact ⟨s, b, rfl, Step.refl s b h.inv, hz⟩
  | succ fuel ih =>
    intro s b h hz hf
    unfold wholeLoop
    by_cases hge : b.buflen ≥ 16
    · rw [if_pos hge]
      obtain ⟨sg, s1, b1, hg, hu, hstep⟩ := gen_use_step hE s b 16 h hz (by omega) (by omega) hge
      rw [hg]; simp only []; rw [hu]; simp only []
      have hb1 : b1.buflen = b.buflen - 16 := hstep.buflen
      obtain ⟨s2, b2, hw, hstep2, hz2⟩ := ih s1 b1 (hstep.run h) (by rw [hstep.ctr]; omega) (by omega)
      refine ⟨s2, b2, hw, ?_, hz2⟩
      have := Step.trans hE hstep hstep2
      rwa [show 16 + 16 * (b1.buflen / 16) = 16 * (b.buflen / 16) by omega] at this
    · have h0 : b.buflen / 16 = 0 := by omega
      rw [if_neg hge, h0]
      exact ⟨s, b, rfl, Step.refl s b h.inv, hz⟩

theorem post_spec (s : Stream κ) (b : Bufs) (h : Run enc key nonce s b)
    (hz : s.bytectr.toNat % 16 = 0) (hlt : b.buflen < 16) :
    ∃ s' b', postWholeblock enc s b = some (s', b') ∧ Step enc key nonce b.buflen s b s' b' := by
  unfold postWholeblock
  by_cases hpos : b.buflen > 0
  · rw [if_pos hpos]
    obtain ⟨sg, s1, b1, hg, hu, hstep⟩ := gen_use_step hE s b b.buflen h hz (by omega) (by omega) (Nat.le_refl _)
    rw [hg]; simp only []
    exact ⟨s1, b1, hu, hstep⟩
  · rw [if_neg hpos]
    have : b.buflen = 0 := by omega
    rw [this]
    exact ⟨s, b, rfl, Step.refl s b h.inv⟩

end loops

theorem u64_succ_toNat (x : UInt64) (h : x.toNat + 1 < 2^64) : (x + 1).toNat = x.toNat + 1 := by
  have := u64_add_toNat x 1 h
  simpa using this

section bulk
variable {κ : Type} {enc : κ → List UInt8 → List UInt8} {key : κ} {nonce : UInt64}
variable (hE : ∀ b, b.length = 16 → (enc key b).length = 16)
include hE

/-- one whole block on the bulk path: counter block built from `nonce_be` and `be64enc(block_counter)` -/
theorem bulk_block (bc : UInt64) (chunk : List UInt8) (h1 : chunk.length = 16) :
    List.zipWith (· ^^^ ·) chunk (enc key (be64 nonce.toNat ++ be64enc bc)) =
      streamAt (enc key) nonce (16 * bc.toNat) chunk := by
  rw [streamAt_in_block hE _ _ (by rw [h1]; omega), h1]
  have hd : 16 * bc.toNat / 16 = bc.toNat := by omega
  have hm : 16 * bc.toNat % 16 = 0 := by omega
  rw [hd, hm, List.drop_zero, be64enc_eq]
  have : (keystreamBlock (enc key) nonce bc.toNat).length = 16 := keystreamBlock_length hE _
  rw [List.take_of_length_le (by omega)]
  rfl

/-- the AES-NI `do … while` loop: `i+1` whole blocks starting at block `bc` -/
theorem bulkLoop_spec : ∀ (i : Nat) (bc : UInt64) (b : Bufs),
    bc.toNat + (i + 1) < 2^64 → 16 * (i + 1) ≤ b.inp.length →
    ∃ b', bulkLoop enc key (be64 nonce.toNat) (i + 1) bc b = some (be64 (bc.toNat + i), b') ∧
      b'.inp = b.inp.drop (16 * (i + 1)) ∧ b'.buflen = b.buflen ∧
      b'.out.toList = b.out.toList ++ streamAt (enc key) nonce (16 * bc.toNat) (b.inp.take (16 * (i + 1))) := by
  intro i
  induction i with
  | zero =>
    intro bc b hlim hlen
    unfold bulkLoop
    have h1 : (b.inp.take 16).length = 16 := by rw [List.length_take]; omega
    have h2 : (enc key (be64 nonce.toNat ++ be64enc bc)).length = 16 :=
      hE _ (by simp [be64_length, be64enc_eq])
    simp only [h1, h2, and_self, if_true]
    refine ⟨{ inp := b.inp.drop 16,
              out := b.out.appendList (List.zipWith (· ^^^ ·) (b.inp.take 16) (enc key (be64 nonce.toNat ++ be64enc bc))),
              buflen := b.buflen }, ?_, rfl, rfl, ?_⟩
    · rw [be64enc_eq]; rfl
    · simp only [Array.appendList_eq_append, Array.toList_appendList]
      rw [bulk_block hE bc _ h1]
  | succ j ih =>
    intro bc b hlim hlen
    unfold bulkLoop
    have h1 : (b.inp.take 16).length = 16 := by rw [List.length_take]; omega
    have h2 : (enc key (be64 nonce.toNat ++ be64enc bc)).length = 16 :=
      hE _ (by simp [be64_length, be64enc_eq])
    simp only [h1, h2, and_self, if_true]
    have hbc : (bc + 1).toNat = bc.toNat + 1 := u64_succ_toNat bc (by omega)
    obtain ⟨b2, hl, hinp, hbuf, hout⟩ := ih (bc + 1)
      { inp := b.inp.drop 16,
        out := b.out.appendList (List.zipWith (· ^^^ ·) (b.inp.take 16) (enc key (be64 nonce.toNat ++ be64enc bc))),
        buflen := b.buflen } (by omega) (by simp only [List.length_drop]; omega)
    refine ⟨b2, ?_, ?_, hbuf, ?_⟩
    · rw [hl, hbc]
      have : bc.toNat + 1 + j = bc.toNat + (j + 1) := by omega
      rw [this]
    · rw [hinp]; simp only [List.drop_drop]; congr 1; omega
    · rw [hout]
      simp only [Array.appendList_eq_append, Array.toList_appendList, List.append_assoc]
      congr 1
      have hsplit : 16 * (j + 1 + 1) = 16 + 16 * (j + 1) := by omega
      rw [hsplit, List.take_add, streamAt_append hE, h1, hbc,
        bulk_block hE bc _ h1]
      congr 2 <;> omega

end bulk

section calls
variable {κ : Type} {enc : κ → List UInt8 → List UInt8} {key : κ} {nonce : UInt64}
variable (hE : ∀ b, b.length = 16 → (enc key b).length = 16)
include hE

/-- `crypto_aesctr_aesni_stream_wholeblocks` under its `if (buflen >= 16)`: the last per-block counter is written
    back so that the invariant holds again -/
theorem wholeblocksBulk_spec :
    WholeBlocks enc key nonce fun s b => if b.buflen ≥ 16 then wholeblocksBulk enc s b else some (s, b) := by
  intro s b ⟨h, hbl, hlim⟩ hz
  simp only []
  by_cases hge : b.buflen ≥ 16
  case neg =>
    rw [if_neg hge, show b.buflen / 16 = 0 by omega]
    exact ⟨s, b, rfl, Step.refl s b h, hz⟩
  rw [if_pos hge]
  unfold wholeblocksBulk
  have hn8 : ¬ ((s.pblk.take 8).length ≠ 8) := by rw [List.length_take, h.len]; omega
  simp only [hn8, if_false]
  obtain ⟨i, hi⟩ : ∃ i, b.buflen / 16 = i + 1 := ⟨b.buflen / 16 - 1, by omega⟩
  have hbcn : (s.bytectr / 16).toNat = s.bytectr.toNat / 16 := u64_div16_toNat _
  obtain ⟨b1, hl, hinp, hbuflen, hout⟩ := bulkLoop_spec hE i (s.bytectr / 16) b
    (by rw [hbcn]; omega) (by omega)
  rw [h.nonceOk, hi, h.keyOk, hl]
  simp only []
  rw [h.writeCounter]
  simp only []
  have hp16 : 16 * (s.bytectr / 16).toNat = s.bytectr.toNat := by rw [hbcn]; omega
  have hadd : (s.bytectr + (16 * (i + 1)).toUInt64).toNat = s.bytectr.toNat + 16 * (i + 1) :=
    u64_add_toNat _ _ (by omega)
  refine ⟨_, _, rfl, ⟨by omega, hinp, ?_, ?_, hadd, inv_counterBlock ((s.bytectr / 16).toNat + i) rfl rfl ?_ ?_ ?_⟩, ?_⟩
  -- `Step.buflen`, `Step.out`
  · simp only [hbuflen]
  · simp only [hout, hp16]
  all_goals simp only [hadd]
  -- the invariant: the counter written back is that of the last block, `bytectr/16 + i`; the position is not 0;
  -- it is a block boundary, so nothing is asked of `buf`
  · rw [hbcn]; omega
  · omega
  · intro hne; omega
  -- the position after the call is a block boundary
  · omega

omit hE in
theorem finish_call (s s' : Stream κ) (inp : List UInt8) (b' : Bufs) (N : Nat)
    (hst : Step enc key nonce N s { inp := inp, out := #[], buflen := inp.length } s' b')
    (hN : N = inp.length) :
    b'.out.toList = streamAt (enc key) nonce s.bytectr.toNat inp ∧ Inv enc key nonce s' ∧
      s'.bytectr.toNat = s.bytectr.toNat + inp.length := by
  refine ⟨?_, hst.inv, by rw [hst.ctr, hN]⟩
  rw [hst.out, hN]; simp

variable (enc) in
/-- the three phases `crypto_aesctr_stream` and `crypto_aesctr_aesni_stream` share; `mid` does the whole blocks -/
def phases (mid : Stream κ → Bufs → Option (Stream κ × Bufs)) (s : Stream κ) (inp : List UInt8) :
    Option (Stream κ × List UInt8) :=
  match preWholeblock s { inp := inp, out := #[], buflen := inp.length } with
  | none => none
  | some (s, b, true) => some (s, b.out.toList)
  | some (s, b, false) =>
    match mid s b with
    | none => none
    | some (s, b) =>
      match postWholeblock enc s b with
      | none => none
      | some (s, b) => some (s, b.out.toList)

theorem phases_spec (mid : Stream κ → Bufs → Option (Stream κ × Bufs)) (hmid : WholeBlocks enc key nonce mid)
    (s : Stream κ) (inp : List UInt8) (h : Inv enc key nonce s) (hlim : s.bytectr.toNat + inp.length < 2^64) :
    ∃ s', phases enc mid s inp = some (s', streamAt (enc key) nonce s.bytectr.toNat inp) ∧
      Inv enc key nonce s' ∧ s'.bytectr.toNat = s.bytectr.toNat + inp.length := by
  have h0 : Run enc key nonce s { inp := inp, out := #[], buflen := inp.length } := ⟨h, rfl, hlim⟩
  unfold phases
  obtain ⟨s1, b1, done, n1, hpre, hst1, hdone, hndone⟩ := pre_spec hE s _ h0
  rw [hpre]
  cases done with
  | true =>
    simp only []
    obtain ⟨ho, hi, hc⟩ := finish_call s s1 inp b1 n1 hst1 (hdone rfl)
    exact ⟨s1, by rw [ho], hi, hc⟩
  | false =>
    simp only []
    have h1 := hst1.run h0
    obtain ⟨s2, b2, hloop, hst2, hz2⟩ := hmid s1 b1 h1 (hndone rfl)
    rw [hloop]; simp only []
    have hb2 : b2.buflen = b1.buflen - 16 * (b1.buflen / 16) := hst2.buflen
    obtain ⟨s3, b3, hpost, hst3⟩ := post_spec hE s2 b2 (hst2.run h1) hz2 (by omega)
    rw [hpost]; simp only []
    have hall := Step.trans hE (Step.trans hE hst1 hst2) hst3
    have hle1 : n1 ≤ inp.length := hst1.le
    have hb1 : b1.buflen = inp.length - n1 := hst1.buflen
    obtain ⟨ho, hi, hc⟩ := finish_call s s3 inp b3 _ hall (by omega)
    exact ⟨s3, by rw [ho], hi, hc⟩

theorem stream_call_spec (hw : Bool) (s : Stream κ) (inp : List UInt8) (h : Inv enc key nonce s)
    (hlim : s.bytectr.toNat + inp.length < 2^64) :
    ∃ s', Model.AesCtr.stream enc hw s inp = some (s', streamAt (enc key) nonce s.bytectr.toNat inp) ∧
      Inv enc key nonce s' ∧ s'.bytectr.toNat = s.bytectr.toNat + inp.length := by
  unfold Model.AesCtr.stream
  split
  · exact phases_spec hE _ (wholeblocksBulk_spec hE) s inp h hlim
  · exact phases_spec hE (fun s b => wholeLoop enc (b.buflen / 16) s b)
      (fun s1 b1 h1 hz1 => wholeLoop_spec hE _ s1 b1 h1 hz1 (Nat.le_refl _)) s inp h hlim

end calls

section seqs
variable {κ : Type} (enc : κ → List UInt8 → List UInt8)

def inputs (calls : List Call) : List UInt8 := (calls.map (·.data)).flatten

theorem inputs_cons (c : Call) (cs : List Call) : inputs (c :: cs) = c.data ++ inputs cs := by
  simp [inputs]

/-- `crypto_aesctr_init2` establishes the invariant at position 0, whatever the counter bytes 8..14 and
    `buf` held before -/
theorem init2_spec (s : Stream κ) (k : Option κ) (nonce : UInt64) (hlen : s.pblk.length = 16) :
    ∃ s', init2 s k nonce = some s' ∧
      Inv enc (pickKey k s.key) nonce s' ∧ s'.bytectr = 0 := by
  have hl : (be64 nonce.toNat ++ s.pblk.drop 8).length = 16 := by
    rw [List.length_append, be64_length, List.length_drop, hlen]
  unfold init2
  rw [show writeAt s.pblk 0 (be64enc nonce) = some (be64 nonce.toNat ++ s.pblk.drop 8) by
    unfold writeAt
    rw [be64enc_eq, be64_length, if_pos (by omega), List.take_zero]; rfl]
  simp only [setByte, hl, show 15 < 16 by decide, if_true]
  refine ⟨_, rfl, ⟨rfl, by rw [List.length_set, hl], ?_, ?_, fun h => absurd rfl h⟩, rfl⟩
  · rw [List.take_set_of_le (by decide), List.take_left' (be64_length _)]
  · exact List.getElem?_set_self (by rw [hl]; decide)

variable (key : κ) (nonce : UInt64) (hE : ∀ b, b.length = 16 → (enc key b).length = 16)
include hE

theorem streamCalls_spec : ∀ (calls : List Call) (s : Stream κ), Inv enc key nonce s →
    s.bytectr.toNat + (inputs calls).length < 2^64 →
    ∃ s' outs, streamCalls enc s calls = some (s', outs) ∧
      outs.flatten = streamAt (enc key) nonce s.bytectr.toNat (inputs calls) ∧
      outs.map List.length = calls.map (·.data.length) ∧
      Inv enc key nonce s' ∧ s'.bytectr.toNat = s.bytectr.toNat + (inputs calls).length := by
  intro calls
  induction calls with
  | nil =>
    intro s h _
    exact ⟨s, [], rfl, by simp [inputs, streamAt_nil], rfl, h, by simp [inputs]⟩
  | cons c cs ih =>
    intro s h hlim
    rw [inputs_cons, List.length_append] at hlim
    obtain ⟨s1, hcall, hinv1, hctr1⟩ := stream_call_spec hE c.hw s c.data h (by omega)
    obtain ⟨s2, outs, hrest, hflat, hlens, hinv2, hctr2⟩ := ih s1 hinv1 (by rw [hctr1]; omega)
    unfold streamCalls
    rw [hcall]; simp only []; rw [hrest]; simp only []
    refine ⟨s2, _, rfl, ?_, ?_, hinv2, ?_⟩
    · rw [List.flatten_cons, hflat, hctr1, inputs_cons, streamAt_append hE]
    · simp [hlens, streamAt_length hE]
    · rw [hctr2, hctr1, inputs_cons, List.length_append]; omega

omit key nonce hE in
theorem init_of_raw (raw : Raw) (hraw : raw.pblk.length = 16) (key : κ) (nonce : UInt64) :
    ∃ s0, init raw key nonce = some s0 ∧ Inv enc key nonce s0 ∧ s0.bytectr.toNat = 0 := by
  obtain ⟨s0, h0, hinv, hz⟩ := init2_spec enc
    { key := key, bytectr := raw.bytectr, buf := raw.buf, pblk := raw.pblk } (some key) nonce hraw
  exact ⟨s0, h0, hinv, by rw [hz]; rfl⟩

theorem init_streamCalls_spec (raw : Raw) (hraw : raw.pblk.length = 16) (calls : List Call)
    (hlim : (inputs calls).length < 2^64) :
    ∃ s0 s outs, init raw key nonce = some s0 ∧ streamCalls enc s0 calls = some (s, outs) ∧
      outs.flatten = Spec.Ctr.stream (enc key) nonce (inputs calls) ∧
      outs.map List.length = calls.map (·.data.length) ∧
      Inv enc key nonce s ∧ s.bytectr.toNat = (inputs calls).length := by
  obtain ⟨s0, h0, hinv, hz⟩ := init_of_raw enc raw hraw key nonce
  obtain ⟨s, outs, hrun, hflat, hlens, hinvs, hpos⟩ :=
    streamCalls_spec enc key nonce hE calls s0 hinv (by rw [hz]; omega)
  rw [hz] at hflat hpos
  exact ⟨s0, s, outs, h0, hrun, by rw [hflat, stream_eq_streamAt _ _ hE], hlens, hinvs, by omega⟩

theorem ctrBuf_of_raw (raw : Raw) (hraw : raw.pblk.length = 16) (hw : Bool) (data : List UInt8)
    (hlim : data.length < 2^64) :
    ctrBuf enc hw raw key nonce data = some (Spec.Ctr.stream (enc key) nonce data) := by
  obtain ⟨s0, h0, hinv, hz⟩ := init_of_raw enc raw hraw key nonce
  obtain ⟨s', hcall, _, _⟩ := stream_call_spec hE hw s0 data hinv (by rw [hz]; omega)
  unfold ctrBuf
  rw [h0]; simp only []
  rw [hcall, hz, stream_eq_streamAt _ _ hE]; rfl

end seqs

theorem stream_length (E : List UInt8 → List UInt8) (nonce : UInt64)
    (hE : ∀ b, b.length = 16 → (E b).length = 16) (d : List UInt8) :
    (Spec.Ctr.stream E nonce d).length = d.length := by
  rw [stream_eq_streamAt E nonce hE, streamAt_length hE]

theorem stream_involutive (E : List UInt8 → List UInt8) (nonce : UInt64)
    (hE : ∀ b, b.length = 16 → (E b).length = 16) (d : List UInt8) :
    Spec.Ctr.stream E nonce (Spec.Ctr.stream E nonce d) = d := by
  simp only [stream_eq_streamAt E nonce hE, streamAt_eq hE, xorAt, List.mapIdx_mapIdx]
  apply List.ext_getElem?
  intro i
  rw [List.getElem?_mapIdx]
  cases d[i]? <;> simp [UInt8.xor_assoc]

/-- the CTR stream only ever applies the block function to 16-byte counter blocks -/
theorem stream_congr (E E' : List UInt8 → List UInt8) (nonce : UInt64)
    (h : ∀ b, b.length = 16 → E b = E' b) (d : List UInt8) :
    Spec.Ctr.stream E nonce d = Spec.Ctr.stream E' nonce d := by
  unfold Spec.Ctr.stream keystream
  congr 2
  funext i
  exact h _ (by simp [counterBlock, be64_length])

section
open Percival.Spec

/-- the stream theorem for a block function given by another name: `enc` agrees on 16-byte blocks with `f`, whose
outputs are blocks -/
theorem calls_eq_spec_of_agree {κ : Type} (enc f : κ → List UInt8 → List UInt8)
    (hag : ∀ k b, b.length = 16 → enc k b = f k b) (hf : ∀ k b, b.length = 16 → (f k b).length = 16)
    (raw : Raw) (hraw : raw.pblk.length = 16) (key : κ) (nonce : UInt64) (calls : List Call)
    (hlim : (inputs calls).length < 2^64) :
    ∃ s0 s outs, init raw key nonce = some s0 ∧ streamCalls enc s0 calls = some (s, outs) ∧
      outs.flatten = Ctr.stream (f key) nonce (inputs calls) := by
  obtain ⟨s0, s, outs, h0, h1, h2, _⟩ := init_streamCalls_spec enc key nonce
    (fun b hb => by rw [hag key b hb]; exact hf key b hb) raw hraw calls hlim
  exact ⟨s0, s, outs, h0, h1, by rw [h2]; exact stream_congr _ _ nonce (hag key) _⟩

end

end Percival.Proofs.AesCtr
