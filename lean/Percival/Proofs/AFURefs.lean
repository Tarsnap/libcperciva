import Percival.Proofs.AFUOps
/-!
# C14, upper layers: what the table change of one call (`TabStep`) does to the references between objects, to the
teardown measure, and to the object a release call names

`Refs` is three instances of one relation between a table of owners and the table of what they refer to (`Run.Link`), with
one lemma per shape of table change; `refs_tabStep`, `mu_tabStep`, `gone_tabStep` go by cases on `TabStep`, with the lemma
for that shape.
-/
namespace Percival.Proofs.AllocFailUpper
open Percival.Model Percival.Model.EvReg Percival.Model.AllocFail

/-! ## references between two tables, generically

`A` is a table of owners (readers / writers / HTTP requests), `B` the table of the objects they refer to
(reads / writes / connection attempts); `own a` is the cookie `a` holds, `ok a c b` says that `b` is what
the cookie `c` held by `a` must resolve to. -/
namespace Run

structure Link {α β : Type} (own : α → Option Nat) (ok : α → Nat → β → Prop) (A : List α) (B : List β) : Prop where
  ref : ∀ a ∈ A, ∀ c, own a = some c → ∃ b ∈ B, ok a c b
  nodup : (A.filterMap own).Nodup

section
variable {α β : Type} {own : α → Option Nat} {ok : α → Nat → β → Prop} {A A' : List α} {B B' : List β}

theorem Link.perm (h : Link own ok A B) (hp : A.Perm A') : Link own ok A' B :=
  ⟨fun a ha => h.ref a (hp.mem_iff.2 ha), (hp.filterMap own).nodup_iff.1 h.nodup⟩

theorem Link.monoB (h : Link own ok A B) (hB : ∀ b ∈ B, b ∈ B') : Link own ok A B' :=
  ⟨fun a ha c hc => by obtain ⟨b, hb, hk⟩ := h.ref a ha c hc; exact ⟨b, hB b hb, hk⟩, h.nodup⟩

theorem Link.consNone {a : α} (h : Link own ok A B) (ha : own a = none) : Link own ok (a :: A) B := by
  refine ⟨fun x hx c hc => ?_, by rw [List.filterMap_cons, ha]; exact h.nodup⟩
  rcases List.mem_cons.1 hx with rfl | hx
  · rw [ha] at hc; cases hc
  · exact h.ref x hx c hc

theorem Link.tail {a : α} (h : Link own ok (a :: A) B) : Link own ok A B := by
  refine ⟨fun x hx => h.ref x (List.mem_cons_of_mem _ hx), ?_⟩
  have := h.nodup
  rw [List.filterMap_cons] at this
  cases ho : own a with
  | none => rw [ho] at this; exact this
  | some c => rw [ho] at this; exact (List.nodup_cons.1 this).2

/-- no other owner holds the head's cookie -/
theorem Link.head_unique {a : α} {c : Nat} (h : Link own ok (a :: A) B) (ha : own a = some c) :
    ∀ x ∈ A, own x ≠ some c := by
  intro x hx hc
  have := h.nodup
  rw [List.filterMap_cons, ha] at this
  exact (List.nodup_cons.1 this).1 (List.mem_filterMap.2 ⟨x, hx, hc⟩)

variable (kb : β → Nat) (hok : ∀ a c b, ok a c b → kb b = c)
include hok

theorem Link.consSome {a : α} {c : Nat} {b0 : β} (h : Link own ok A B) (ha : own a = some c)
    (hc : c ∉ B.map kb) (hb0 : ok a c b0) : Link own ok (a :: A) (b0 :: B) := by
  refine ⟨fun x hx c' hc' => ?_, ?_⟩
  · rcases List.mem_cons.1 hx with rfl | hx
    · rw [ha] at hc'; cases hc'; exact ⟨b0, List.mem_cons_self, hb0⟩
    · obtain ⟨b, hb, hk⟩ := h.ref x hx c' hc'
      exact ⟨b, List.mem_cons_of_mem _ hb, hk⟩
  · rw [List.filterMap_cons, ha]
    refine List.nodup_cons.2 ⟨fun hm => ?_, h.nodup⟩
    obtain ⟨x, hx, hxc⟩ := List.mem_filterMap.1 hm
    obtain ⟨b, hb, hk⟩ := h.ref x hx c hxc
    exact hc (List.mem_map.2 ⟨b, hb, hok _ _ _ hk⟩)

theorem Link.filterUnowned {c : Nat} (h : Link own ok A B) (hun : ∀ a ∈ A, own a ≠ some c) :
    Link own ok A (B.filter (fun b => kb b != c)) := by
  refine ⟨fun a ha c' hc' => ?_, h.nodup⟩
  obtain ⟨b, hb, hk⟩ := h.ref a ha c' hc'
  refine ⟨b, List.mem_filter.2 ⟨hb, ?_⟩, hk⟩
  have : kb b ≠ c := by
    rw [hok _ _ _ hk]; intro hcc; subst hcc; exact hun a ha hc'
  simpa using this

theorem Link.tailFilter {a : α} {c : Nat} (h : Link own ok (a :: A) B) (ha : own a = some c) :
    Link own ok A (B.filter (fun b => kb b != c)) :=
  Link.filterUnowned kb hok h.tail (h.head_unique ha)

end

section
variable {α β : Type} {own : α → Option Nat} {ok : α → Nat → β → Prop} {A : List α} {B : List β}
variable (ka : α → Nat)

/-- the entry is replaced by one holding the same cookie -/
theorem Link.updSame {a a' : α} (h : Link own ok A B) (hnd : (A.map ka).Nodup) (ha : a ∈ A) (hid : ka a' = ka a)
    (ho : own a' = own a) (hk : ∀ c b, ok a c b → ok a' c b) : Link own ok (upd ka A a') B := by
  have h1 := h.perm (Keys.perm_filter hnd ha)
  refine Link.perm ?_ (upd_perm ka A a a' hnd ha hid).symm
  refine ⟨fun x hx c hc => ?_, ?_⟩
  · rcases List.mem_cons.1 hx with rfl | hx
    · obtain ⟨b, hb, hkb⟩ := h1.ref a List.mem_cons_self c (by rw [← ho]; exact hc)
      exact ⟨b, hb, hk c b hkb⟩
    · exact h1.ref x (List.mem_cons_of_mem _ hx) c hc
  · have := h1.nodup
    rw [List.filterMap_cons] at this ⊢
    rw [ho]; exact this

/-- the entry is removed -/
theorem Link.remove {a : α} (h : Link own ok A B) (hnd : (A.map ka).Nodup) (ha : a ∈ A) :
    Link own ok (A.filter (fun x => ka x != ka a)) B :=
  (h.perm (Keys.perm_filter hnd ha)).tail

variable (kb : β → Nat) (hok : ∀ a c b, ok a c b → kb b = c)
include hok

/-- the entry held nothing; its replacement holds a new cookie, resolved by a new `B` entry -/
theorem Link.updSome {a a' : α} {c : Nat} {b0 : β} (h : Link own ok A B) (hnd : (A.map ka).Nodup) (ha : a ∈ A)
    (hid : ka a' = ka a) (ho' : own a' = some c) (hc : c ∉ B.map kb) (hb0 : ok a' c b0) :
    Link own ok (upd ka A a') (b0 :: B) :=
  Link.perm (Link.consSome kb hok (h.remove ka hnd ha) ho' hc hb0) (upd_perm ka A a a' hnd ha hid).symm

/-- the entry held `c`; its replacement holds nothing and the `B` entry of `c` is removed -/
theorem Link.updNone {a a' : α} {c : Nat} (h : Link own ok A B) (hnd : (A.map ka).Nodup) (ha : a ∈ A)
    (hid : ka a' = ka a) (ho : own a = some c) (ho' : own a' = none) :
    Link own ok (upd ka A a') (B.filter (fun b => kb b != c)) :=
  Link.perm (Link.consNone (Link.tailFilter kb hok (h.perm (Keys.perm_filter hnd ha)) ho) ho')
    (upd_perm ka A a a' hnd ha hid).symm

/-- the entry, which held `c`, is removed together with the `B` entry of `c` -/
theorem Link.removeBoth {a : α} {c : Nat} (h : Link own ok A B) (hnd : (A.map ka).Nodup) (ha : a ∈ A)
    (ho : own a = some c) : Link own ok (A.filter (fun x => ka x != ka a)) (B.filter (fun b => kb b != c)) :=
  Link.tailFilter kb hok (h.perm (Keys.perm_filter hnd ha)) ho

end

end Run

/-! ## `Refs` as three links -/
namespace Run

def okR (r : Reader) (c : Nat) (b : NetReq) : Prop := b = ⟨c, r.fd⟩
def ownW (x : Writer) : Option Nat := x.curr.map (·.2)
def okW (x : Writer) (c : Nat) (b : NetReq) : Prop := b = ⟨c, x.fd⟩
def okH (_ : Http) (c : Nat) (k : Conn) : Prop := k.cookie = c

abbrev LinkR := Link (fun r : Reader => r.readCookie) okR
abbrev LinkW := Link ownW okW
abbrev LinkH := Link (fun h : Http => h.conn) okH

theorem okR_key : ∀ (a : Reader) (c : Nat) (b : NetReq), okR a c b → (fun b : NetReq => b.cookie) b = c := by
  intro a c b h; rw [h]
theorem okW_key : ∀ (a : Writer) (c : Nat) (b : NetReq), okW a c b → (fun b : NetReq => b.cookie) b = c := by
  intro a c b h; rw [h]
theorem okH_key : ∀ (a : Http) (c : Nat) (b : Conn), okH a c b → (fun b : Conn => b.cookie) b = c := by
  intro a c b h; exact h

theorem ownW_some {x : Writer} {c : Nat} : ownW x = some c ↔ ∃ wb, x.curr = some (wb, c) := by
  unfold ownW
  cases hx : x.curr with
  | none => simp
  | some p => obtain ⟨wb, c'⟩ := p; simp

theorem refs_iff {t : Tables} : Refs t ↔ LinkR t.readers t.reads ∧ LinkW t.writers t.writes ∧ LinkH t.https t.conns := by
  constructor
  · intro h
    refine ⟨⟨fun r hr c hc => ⟨_, h.rdRef r hr c hc, rfl⟩, h.rdOwn⟩, ⟨fun x hx c hc => ?_, h.wrOwn⟩,
      ⟨fun x hx c hc => h.htRef x hx c hc, h.htOwn⟩⟩
    obtain ⟨wb, hwb⟩ := ownW_some.1 hc
    exact ⟨_, h.wrRef x hx wb c hwb, rfl⟩
  · intro ⟨h1, h2, h3⟩
    refine ⟨fun r hr c hc => ?_, fun x hx wb c hc => ?_, fun x hx c hc => h3.ref x hx c hc, h1.nodup, h2.nodup, h3.nodup⟩
    · obtain ⟨b, hb, hk⟩ := h1.ref r hr c hc
      rw [← hk]; exact hb
    · obtain ⟨b, hb, hk⟩ := h2.ref x hx c (ownW_some.2 ⟨wb, hc⟩)
      rw [← hk]; exact hb

end Run

/-! ## the teardown measure -/
namespace Run

/-- release calls a reader still needs: cancel the wait if there is one, then free -/
def wt (r : Reader) : Nat := if r.readCookie.isSome || r.immediate then 2 else 1

/-- the number of release calls still needed -/
def mu (t : Tables) : Nat :=
  t.https.length + t.conns.length + t.accepts.length + (t.readers.map wt).sum + t.writers.length +
  t.reads.length + t.writes.length

def noTables : Tables := ⟨[], [], [], [], [], [], []⟩

theorem wt_bounds (l : List Reader) : l.length ≤ (l.map wt).sum ∧ (l.map wt).sum ≤ 2 * l.length := by
  induction l with
  | nil => simp
  | cons a rest ih =>
    have : 1 ≤ wt a ∧ wt a ≤ 2 := by unfold wt; split <;> omega
    simp only [List.map_cons, List.sum_cons, List.length_cons]
    omega

theorem mu_zero {t : Tables} (h : mu t = 0) : t = noTables := by
  have := (wt_bounds t.readers).1
  obtain ⟨a, b, c, d, e, f, g⟩ := t
  simp only [mu] at h this
  obtain ⟨ha, hb, hc, hd, he, hf, hg⟩ : a.length = 0 ∧ b.length = 0 ∧ c.length = 0 ∧ d.length = 0 ∧ e.length = 0 ∧
      f.length = 0 ∧ g.length = 0 := by omega
  rw [List.length_eq_zero_iff] at ha hb hc hd he hf hg
  subst ha hb hc hd he hf hg
  rfl

end Run

theorem ne_of_mem_filter_ne {α : Type} (k : α → Nat) {l l' : List α} {c : Nat}
    (he : l' = l.filter (fun x => k x != c)) : ∀ b ∈ l', k b ≠ c := by
  subst he
  exact fun b hb => by simpa using (List.mem_filter.1 hb).2

theorem not_mem_keys {β : Type} (key : β → Nat) {m : List β} {c : Nat} (hf : ∀ a ∈ m, key a ≠ c) : c ∉ m.map key :=
  fun h => let ⟨a, ha, e⟩ := List.mem_map.1 h; hf a ha e

/-- **a call that is carried out keeps the references between objects**: each shape of table change with the lemma
about `Run.Link` for that shape; `h1`, `h2`, `h3` are the links readers–reads, writers–writes, HTTP requests–connects -/
theorem refs_tabStep {t t' : Tables} {op : Op} {rc : Rc} {o : Option Nat} (hs : TabStep t op rc o t')
    (hnd : ((expLive t).map (·.1)).Nodup) (h : Refs t) : Refs t' := by
  obtain ⟨_, _, _, _, ndR, ndW, ndH⟩ := tables_nodup hnd
  obtain ⟨h1, h2, h3⟩ := Run.refs_iff.1 h
  have grow : ∀ {α : Type} {a : α} {l : List α}, ∀ b ∈ l, b ∈ a :: l := fun b hb => List.mem_cons_of_mem _ hb
  open Run in
  cases hs with
  | same => exact h
  | read fd c => exact refs_iff.2 ⟨h1.monoB grow, h2, h3⟩
  | write fd c => exact refs_iff.2 ⟨h1, h2.monoB grow, h3⟩
  | accept fd c => exact refs_iff.2 ⟨h1, h2, h3⟩
  | connect a tm s c k => exact refs_iff.2 ⟨h1, h2, h3.monoB grow⟩
  | nbrInit fd c r hid hfd hc => exact refs_iff.2 ⟨h1.consNone hc, h2, h3⟩
  | nbwInit fd c x hid hfd hc => exact refs_iff.2 ⟨h1, h2.consNone (by unfold ownW; rw [hc]; rfl), h3⟩
  | http c0 a l s x hd c ho k hc0 hk hfc =>
    exact refs_iff.2 ⟨h1, h2, Link.consSome _ okH_key h3 rfl (not_mem_keys Conn.cookie hfc) hk⟩
  | readCancel c hun => exact refs_iff.2 ⟨Link.filterUnowned _ okR_key h1 hun, h2, h3⟩
  | writeCancel c hun => exact refs_iff.2 ⟨h1, Link.filterUnowned _ okW_key h2 hun, h3⟩
  | acceptCancel c => exact refs_iff.2 ⟨h1, h2, h3⟩
  | connectCancel c hun => exact refs_iff.2 ⟨h1, h2, Link.filterUnowned _ okH_key h3 hun⟩
  | nbrUpd len rc r r' hr hc hid hfd hc' =>
    exact refs_iff.2 ⟨Link.updSame Reader.id h1 ndR hr hid (hc'.trans hc.symm)
      (fun c b hb => by unfold okR at hb ⊢; rw [hfd]; exact hb), h2, h3⟩
  | nbrRead len r r' c hr hc hid hfd hc' hf =>
    exact refs_iff.2 ⟨Link.updSome Reader.id _ okR_key h1 ndR hr hid hc' (not_mem_keys NetReq.cookie hf)
      (by unfold okR; rw [hfd]), h2, h3⟩
  | nbrCancel r hr =>
    cases hcur : r.readCookie with
    | none => exact refs_iff.2 ⟨Link.updSame Reader.id h1 ndR hr rfl hcur.symm (fun c b hb => hb), h2, h3⟩
    | some c => exact refs_iff.2 ⟨Link.updNone Reader.id _ okR_key h1 ndR hr rfl hcur rfl, h2, h3⟩
  | nbrFree r hr => exact refs_iff.2 ⟨Link.remove Reader.id h1 ndR hr, h2, h3⟩
  | nbwReserve len x q hx => exact refs_iff.2 ⟨h1, Link.updSame Writer.id h2 ndW hx rfl rfl (fun c b hb => hb), h3⟩
  | nbwUpd c0 rc len x x' hc0 hx hid hfd hres hc =>
    exact refs_iff.2 ⟨h1, Link.updSame Writer.id h2 ndW hx hid (by unfold ownW; rw [hc])
      (fun c b hb => by unfold okW at hb ⊢; rw [hfd]; exact hb), h3⟩
  | nbwStart c0 len x x' wb c hc0 hx hid hfd hres hc hc' hf =>
    exact refs_iff.2 ⟨h1, Link.updSome Writer.id _ okW_key h2 ndW hx hid (ownW_some.2 ⟨wb, hc'⟩)
      (not_mem_keys NetReq.cookie hf) (by unfold okW; rw [hfd]), h3⟩
  | nbwFree x hx =>
    cases hcur : x.curr with
    | none => exact refs_iff.2 ⟨h1, Link.remove Writer.id h2 ndW hx, h3⟩
    | some p => exact refs_iff.2 ⟨h1, Link.removeBoth Writer.id _ okW_key h2 ndW hx (ownW_some.2 ⟨p.1, hcur⟩), h3⟩
  | httpCancel x hx =>
    cases hcur : x.conn with
    | none => exact refs_iff.2 ⟨h1, h2, Link.remove Http.cookie h3 ndH hx⟩
    | some c => exact refs_iff.2 ⟨h1, h2, Link.removeBoth Http.cookie _ okH_key h3 ndH hx hcur⟩

/-- what a release call needs of the tables to bring the end of a teardown nearer: the cookie it names is in its table
(`TabStep` says so itself for the buffered readers / writers and the HTTP requests), and a wait that is cancelled is there -/
def Due (t : Tables) : Op → Prop
  | .readCancel c => ∃ a ∈ t.reads, a.cookie = c
  | .writeCancel c => ∃ a ∈ t.writes, a.cookie = c
  | .acceptCancel c => ∃ a ∈ t.accepts, a.cookie = c
  | .connectCancel c => ∃ a ∈ t.conns, a.cookie = c
  | .nbrCancel r => ∀ rd ∈ t.readers, rd.id = r → (rd.readCookie.isSome || rd.immediate) = true
  | _ => True

theorem filter_key_lt {α : Type} (k : α → Nat) {l : List α} {c : Nat} (h : ∃ a ∈ l, k a = c) :
    (l.filter (fun y => k y != c)).length < l.length :=
  let ⟨a, ha, e⟩ := h
  List.length_filter_lt_length_iff_exists.2 ⟨a, ha, by simp [e]⟩

/-- **a release call that is due brings the end of a teardown nearer** -/
theorem mu_tabStep {t t' : Tables} {op : Op} {o : Option Nat} (hs : TabStep t op .ok o t') (hr : isRelease op = true)
    (hnd : ((expLive t).map (·.1)).Nodup) (hd : Due t op) : Run.mu t' < Run.mu t := by
  have hndr := Tab.readers.nodup t hnd
  have sub : ∀ {α : Type} (p : α → Bool) (l : List α), (l.filter p).length ≤ l.length := fun p l => List.length_filter_le p l
  cases hs with
  | readCancel c => have := filter_key_lt NetReq.cookie hd; simp only [Run.mu]; omega
  | writeCancel c => have := filter_key_lt NetReq.cookie hd; simp only [Run.mu]; omega
  | acceptCancel c => have := filter_key_lt NetReq.cookie hd; simp only [Run.mu]; omega
  | connectCancel c => have := filter_key_lt Conn.cookie hd; simp only [Run.mu]; omega
  | nbrCancel r hx =>
    have hp := ((Keys.perm_filter hndr hx).map Run.wt).sum_nat
    have hp' := ((Run.upd_perm (fun r : Reader => r.id) t.readers r { r with readCookie := none, immediate := false }
      hndr hx rfl).map Run.wt).sum_nat
    have hwt : Run.wt r = 2 := by unfold Run.wt; rw [hd r hx rfl]; rfl
    have hwt' : Run.wt { r with readCookie := none, immediate := false } = 1 := rfl
    simp only [List.map_cons, List.sum_cons, hwt, hwt'] at hp hp'
    have hupd : updReader t.readers { r with readCookie := none, immediate := false } =
        Run.upd (fun r : Reader => r.id) t.readers { r with readCookie := none, immediate := false } := rfl
    have := sub (fun y : NetReq => y.cookie != (r.readCookie.getD 0)) t.reads
    cases hcn : r.readCookie with
    | none => simp only [Run.mu, hupd]; omega
    | some c => rw [hcn] at this; simp only [Run.mu, hupd, Option.getD_some] at this ⊢; omega
  | nbrFree r hx =>
    have hp := ((Keys.perm_filter hndr hx).map Run.wt).sum_nat
    have hwt : 1 ≤ Run.wt r := by unfold Run.wt; split <;> omega
    simp only [List.map_cons, List.sum_cons] at hp
    simp only [Run.mu]
    omega
  | nbwFree x hx =>
    have h1 := filter_key_lt Writer.id ⟨x, hx, rfl⟩
    cases hcn : x.curr with
    | none => simp only [Run.mu]; omega
    | some p => have := sub (fun y : NetReq => y.cookie != p.2) t.writes; simp only [Run.mu]; omega
  | httpCancel x hx =>
    have h1 := filter_key_lt Http.cookie ⟨x, hx, rfl⟩
    cases hcn : x.conn with
    | none => simp only [Run.mu]; omega
    | some c => have := sub (fun y : Conn => y.cookie != c) t.conns; simp only [Run.mu]; omega
  | same c0 rc hrel => rw [hr] at hrel; cases hrel
  | nbwUpd c0 rc len x x' hc0 => rcases hc0 with rfl | rfl <;> cases hr
  | nbwStart c0 len x x' wb c hc0 => rcases hc0 with rfl | rfl <;> cases hr
  | http c0 a l s x hd c ho k hc0 => rcases hc0 with rfl | ⟨hl, rfl⟩ <;> cases hr
  | _ => cases hr

/-- an entry of the updated table with the replacement's id is the replacement -/
theorem eq_of_mem_updReader {l : List Reader} {r' y : Reader} (hy : y ∈ updReader l r') (hid : y.id = r'.id) : y = r' := by
  obtain ⟨x, _, hx⟩ := List.mem_map.1 hy
  by_cases hxi : x.id = r'.id
  · simp [hxi] at hx; exact hx.symm
  · simp [hxi] at hx; subst hx; exact absurd hid hxi

/-- **after a release call the object it names is gone from its table** (after `nbrCancel`: the reader is idle) -/
theorem gone_tabStep {t t' : Tables} {op : Op} {o : Option Nat} (hs : TabStep t op .ok o t') (hr : isRelease op = true)
    (w : World) {w' : World} (ht' : tables w' = t') : gone w w' op := by
  cases hs with
  | readCancel c => exact ne_of_mem_filter_ne NetReq.cookie (congrArg Tables.reads ht')
  | writeCancel c => exact ne_of_mem_filter_ne NetReq.cookie (congrArg Tables.writes ht')
  | acceptCancel c => exact ne_of_mem_filter_ne NetReq.cookie (congrArg Tables.accepts ht')
  | connectCancel c => exact ne_of_mem_filter_ne Conn.cookie (congrArg Tables.conns ht')
  | nbrCancel r hx =>
    intro y hy hid
    rw [show w'.readers = _ from congrArg Tables.readers ht'] at hy
    cases eq_of_mem_updReader hy hid
    exact ⟨rfl, rfl⟩
  | nbrFree r hx => exact ne_of_mem_filter_ne Reader.id (congrArg Tables.readers ht')
  | nbwFree x hx => exact ne_of_mem_filter_ne Writer.id (congrArg Tables.writers ht')
  | httpCancel x hx => exact ne_of_mem_filter_ne Http.cookie (congrArg Tables.https ht')
  | same c0 rc hrel => rw [hr] at hrel; cases hrel
  | nbwUpd c0 rc len x x' hc0 => rcases hc0 with rfl | rfl <;> cases hr
  | nbwStart c0 len x x' wb c hc0 => rcases hc0 with rfl | rfl <;> cases hr
  | http c0 a l s x hd c ho k hc0 => rcases hc0 with rfl | ⟨hl, rfl⟩ <;> cases hr
  | _ => cases hr

end Percival.Proofs.AllocFailUpper
