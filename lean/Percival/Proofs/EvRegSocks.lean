import Percival.Proofs.EvRegQuiet
import Percival.Proofs.PairedArrays
/-!
# The socket list and the pollfd array of `events_network.c` (on the model `EvReg`)

`NetInv` is the consistency invariant between the socket list `S` and the `pollfd` array (`SF` on the two arrays alone,
an instance of `PairedArrays.Ptr`); `regNet e`, what is registered, is read off the socket list (`mem_netOf`,
`nodup_netOf`).  The two updates of a registration that allocate nothing: `netPut` (the event goes into its slot and the
pollfd entry asks for its direction) and `netDrop` (= `clearbit` after the slot was cleared, with the compaction of the
pollfd array): each restores `NetInv`, adds resp. removes exactly that entry of `regNet`, and takes the event record from
the call resp. hands it back (`call_netPut`, `call_netDrop`).
-/
namespace Percival.Proofs.EvRegNet
open Percival.Model Percival.Model.EvReg
open Percival.Proofs.EvRegQuiet
open Percival.Proofs.EvRegAcct (evBlocks)

def netRegistered (e : Ev) (s : Nat) (w : Bool) : Prop := ∃ id, (s, w, id) ∈ regNet e

def Granted (m : Mem) : Prop := ∀ n sz, m.n ≤ n → m.f n sz = true

/-- the `events` word a socket record stands for: `POLLIN` (1) iff a reader, `POLLOUT` (4) iff a writer -/
def evBits (r : SockRec) : Nat := (if r.reader.isSome then 1 else 0) + (if r.writer.isSome then 4 else 0)

structure NetInv (e : Ev) : Prop where
  /-- before `init()` there is nothing -/
  uninit : e.sAlloc = none → e.socks = [] ∧ e.fds = []
  /-- a descriptor without a pollfd entry has no registration -/
  idle : ∀ (s : Nat) (rec : SockRec), e.socks[s]? = some rec → rec.pollpos = none → rec.reader = none ∧ rec.writer = none
  /-- a descriptor with a pollfd entry: the entry is its own, and asks for exactly the registered directions
  (so the word is 1, 4 or 5: `evBits_cases`) -/
  polled : ∀ (s : Nat) (rec : SockRec) (pp : Nat), e.socks[s]? = some rec → rec.pollpos = some pp →
    e.fds[pp]? = some (s, evBits rec) ∧ evBits rec ≠ 0
  /-- every pollfd entry belongs to the descriptor that points at it -/
  back : ∀ (pp fd bits : Nat), e.fds[pp]? = some (fd, bits) → ∃ rec : SockRec, e.socks[fd]? = some rec ∧ rec.pollpos = some pp

theorem evBits_cases (r : SockRec) :
    (evBits r = 0 ∨ evBits r = 1 ∨ evBits r = 4 ∨ evBits r = 5) ∧
    (evBits r &&& 1 ≠ 0 ↔ r.reader.isSome) ∧ (evBits r &&& 4 ≠ 0 ↔ r.writer.isSome) ∧
    (evBits r = 0 ↔ r.reader = none ∧ r.writer = none) := by
  unfold evBits
  cases r.reader <;> cases r.writer <;> simp

/-- the pollfd entry of a polled descriptor, in the words of the C: `events ∈ {1,4,5}`, `POLLIN` iff a
reader, `POLLOUT` iff a writer -/
theorem NetInv.polled_bits {e : Ev} (h : NetInv e) {s pp : Nat} {rec : SockRec} (hs : e.socks[s]? = some rec)
    (hp : rec.pollpos = some pp) :
    ∃ bits, e.fds[pp]? = some (s, bits) ∧ (bits = 1 ∨ bits = 4 ∨ bits = 5) ∧
      (bits &&& POLLIN ≠ 0 ↔ rec.reader.isSome) ∧ (bits &&& POLLOUT ≠ 0 ↔ rec.writer.isSome) := by
  obtain ⟨h1, h2⟩ := h.polled s rec pp hs hp
  have hc := evBits_cases rec
  refine ⟨_, h1, ?_, hc.2.1, hc.2.2.1⟩
  rcases hc.1 with h0 | h0
  · exact absurd h0 h2
  · exact h0

theorem netInv_init : NetInv ({} : Ev) := by
  constructor <;> simp

theorem netInv_congr (e e' : Ev) (h : NetInv e) (h1 : e'.sAlloc = e.sAlloc) (h2 : e'.socks = e.socks)
    (h3 : e'.fds = e.fds) (_h4 : e'.fdsAlloc = e.fdsAlloc) : NetInv e' := by
  obtain ⟨a, b, c, d⟩ := h
  constructor
  · rw [h1, h2, h3]; exact a
  · rw [h2]; exact b
  · rw [h2, h3]; exact c
  · rw [h2, h3]; exact d

theorem netOf_cons (r : SockRec) (rest : List SockRec) (fd : Nat) :
    netOf fd (r :: rest) = netOf fd [r] ++ netOf (fd + 1) rest := by simp [netOf]

theorem mem_netOf_one (r : SockRec) (fd s : Nat) (w : Bool) (id : Nat) :
    (s, w, id) ∈ netOf fd [r] ↔ s = fd ∧ ∃ rid, slot r w = some (rid, id) := by
  rcases hr : r.reader with _ | ⟨a, b⟩ <;> rcases hw : r.writer with _ | ⟨c, d⟩ <;> cases w <;>
    simp [netOf, slot, hr, hw, eq_comm]

theorem mem_netOf : ∀ (l : List SockRec) (fd s : Nat) (w : Bool) (id : Nat),
    (s, w, id) ∈ netOf fd l ↔ fd ≤ s ∧ ∃ rec rid, l[s - fd]? = some rec ∧ slot rec w = some (rid, id)
  | [], fd, s, w, id => by simp [netOf]
  | r :: rest, fd, s, w, id => by
    rw [netOf_cons, List.mem_append, mem_netOf_one, mem_netOf rest (fd + 1) s w id]
    constructor
    · rintro (⟨rfl, rid, h⟩ | ⟨hle, rec, rid, h1, h2⟩)
      · exact ⟨Nat.le_refl _, r, rid, by rw [Nat.sub_self]; rfl, h⟩
      · exact ⟨by omega, rec, rid, by rw [show s - fd = (s - (fd + 1)) + 1 by omega]; exact h1, h2⟩
    · rintro ⟨hle, rec, rid, h1, h2⟩
      by_cases hs : s = fd
      · subst hs
        rw [Nat.sub_self] at h1
        cases h1
        exact Or.inl ⟨rfl, rid, h2⟩
      · rw [show s - fd = (s - (fd + 1)) + 1 by omega] at h1
        exact Or.inr ⟨by omega, rec, rid, h1, h2⟩

theorem nodup_netOf : ∀ (l : List SockRec) (fd : Nat), (netOf fd l).Nodup
  | [], fd => by simp [netOf]
  | r :: rest, fd => by
    rw [netOf_cons, List.nodup_append]
    refine ⟨?_, nodup_netOf rest (fd + 1), ?_⟩
    · cases hr : r.reader <;> cases hw : r.writer <;> simp [netOf, hr, hw]
    · rintro ⟨s, w, id⟩ ha b hb rfl
      have := ((mem_netOf_one r fd s w id).1 ha).1
      have := ((mem_netOf rest (fd + 1) s w id).1 hb).1
      omega
theorem mem_regNet (e : Ev) (s : Nat) (w : Bool) (id : Nat) :
    (s, w, id) ∈ regNet e ↔ ∃ rec rid, e.socks[s]? = some rec ∧ slot rec w = some (rid, id) := by
  simp [regNet, registry, mem_netOf]

theorem netRegistered_iff (e : Ev) (s : Nat) (w : Bool) :
    netRegistered e s w ↔ ∃ rec, e.socks[s]? = some rec ∧ (slot rec w).isSome := by
  unfold netRegistered
  simp only [mem_regNet]
  constructor
  · rintro ⟨id, rec, rid, h1, h2⟩
    exact ⟨rec, h1, by simp [h2]⟩
  · rintro ⟨rec, h1, h2⟩
    cases hsl : slot rec w with
    | none => simp [hsl] at h2
    | some p => exact ⟨p.2, rec, p.1, h1, hsl⟩

theorem regNet_unique (e : Ev) (s : Nat) (w : Bool) (i j : Nat) :
    (s, w, i) ∈ regNet e → (s, w, j) ∈ regNet e → i = j := by
  simp only [mem_regNet]
  rintro ⟨rec, rid, h1, h2⟩ ⟨rec', rid', h1', h2'⟩
  rw [h1] at h1'
  cases h1'
  rw [h2] at h2'
  cases h2'
  rfl

theorem regNet_nodup (e : Ev) : (regNet e).Nodup := nodup_netOf _ _

theorem mem_netOf_set {l : List SockRec} {s : Nat} {rec rec' : SockRec} {w : Bool} {rid id : Nat}
    (hs : l[s]? = some rec) (hsl : slot rec w = none) (hw : slot rec' w = some (rid, id))
    (ho : ∀ w', w' ≠ w → slot rec' w' = slot rec w') (y : Nat × Bool × Nat) :
    y ∈ netOf 0 (l.set s rec') ↔ y = (s, w, id) ∨ y ∈ netOf 0 l := by
  have hlen : s < l.length := (List.getElem?_eq_some_iff.1 hs).1
  obtain ⟨s', w', id'⟩ := y
  rw [mem_netOf, mem_netOf]
  simp only [Nat.zero_le, true_and, Nat.sub_zero, Prod.mk.injEq]
  by_cases hs' : s' = s
  · subst hs'
    rw [List.getElem?_set_self hlen, hs]
    simp only [Option.some.injEq, true_and]
    by_cases hww : w' = w
    · subst hww
      constructor
      · rintro ⟨_, rid', rfl, h2⟩
        rw [hw] at h2
        cases h2
        exact Or.inl ⟨rfl, rfl⟩
      · rintro (⟨_, rfl⟩ | ⟨_, rid', rfl, h2⟩)
        · exact ⟨_, rid, rfl, hw⟩
        · rw [hsl] at h2; cases h2
    · constructor
      · rintro ⟨_, rid', rfl, h2⟩
        exact Or.inr ⟨_, rid', rfl, ho w' hww ▸ h2⟩
      · rintro (⟨h, _⟩ | ⟨_, rid', rfl, h2⟩)
        · exact absurd h hww
        · exact ⟨_, rid', rfl, (ho w' hww).symm ▸ h2⟩
  · rw [List.getElem?_set_ne (fun h => hs' h.symm)]
    simp [hs']

/-! ### the invariant on the two arrays alone, and the primitive updates that keep it

`SF` says that the two lists point at each other (`Proofs/PairedArrays`: `Ptr`) and, record by record, that a
record and its entry agree (`CR`; `sf_iff`).  The four updates are `Ptr.put` (`set_polled`, `attach`) and `Ptr.erase`
(`detach_last`, `detach_swap`); what is left to each is the lookups of the updated lists. -/

structure SF (socks : List SockRec) (fds : List (Nat × Nat)) : Prop where
  idle : ∀ (s : Nat) (rec : SockRec), socks[s]? = some rec → rec.pollpos = none → rec.reader = none ∧ rec.writer = none
  polled : ∀ (s : Nat) (rec : SockRec) (pp : Nat), socks[s]? = some rec → rec.pollpos = some pp →
    fds[pp]? = some (s, evBits rec) ∧ evBits rec ≠ 0
  back : ∀ (pp fd bits : Nat), fds[pp]? = some (fd, bits) → ∃ rec : SockRec, socks[fd]? = some rec ∧ rec.pollpos = some pp

def bitOf (w : Bool) : Nat := if w then POLLOUT else POLLIN

theorem evBits_set (rec : SockRec) (w : Bool) (p : Option Nat) (x : Nat × Nat) (h : slot rec w = none) :
    evBits (setSlot { rec with pollpos := p } w (some x)) = evBits rec ||| bitOf w := by
  cases w <;> simp [slot] at h <;> simp [setSlot, evBits, h, bitOf, POLLIN, POLLOUT] <;> cases rec.writer <;> cases rec.reader <;> simp

theorem evBits_clear (rec : SockRec) (w : Bool) :
    evBits (setSlot rec w none) = evBits rec &&& (bitOf w ^^^ 7) := by
  cases w <;> simp [setSlot, evBits, bitOf, POLLIN, POLLOUT] <;> cases rec.writer <;> cases rec.reader <;> simp

theorem setSlot_pollpos (r : SockRec) (w : Bool) (v : Option (Nat × Nat)) : (setSlot r w v).pollpos = r.pollpos := by
  cases w <;> rfl

theorem evBits_setSlot_some (r : SockRec) (w : Bool) (x : Nat × Nat) : evBits (setSlot r w (some x)) ≠ 0 := by
  cases w <;> simp [setSlot, evBits]

theorem modify_set_self {α} (f : α → α) : ∀ (l : List α) (i : Nat) (a : α), (l.set i a).modify i f = l.set i (f a)
  | [], _, _ => by simp
  | _ :: _, 0, _ => rfl
  | x :: l, i + 1, a => by
    rw [List.set_cons_succ, List.modify_succ_cons, modify_set_self f l i a, List.set_cons_succ]

def CR (rec : SockRec) (ob : Option (Nat × Nat)) : Prop :=
  (ob = none → rec.reader = none ∧ rec.writer = none) ∧ ∀ b, ob = some b → b.2 = evBits rec ∧ evBits rec ≠ 0

theorem sf_iff {socks : List SockRec} {fds : List (Nat × Nat)} :
    SF socks fds ↔ Paired.Ptr SockRec.pollpos Prod.fst (fun i => socks[i]?) (fun j => fds[j]?) ∧
      ∀ s rec, socks[s]? = some rec → CR rec (Paired.entry SockRec.pollpos (fun i => socks[i]?) (fun j => fds[j]?) s) := by
  constructor
  · intro h
    refine ⟨⟨fun s rec pp hs hp => ⟨_, (h.polled s rec pp hs hp).1, rfl⟩, fun pp b hb => h.back pp b.1 b.2 hb⟩, fun s rec hs => ?_⟩
    cases hp : rec.pollpos with
    | none => rw [Paired.entry_none hs hp]; exact ⟨fun _ => h.idle s rec hs hp, nofun⟩
    | some pp =>
      rw [Paired.entry_eq hs hp, (h.polled s rec pp hs hp).1]
      exact ⟨nofun, fun b hb => by cases hb; exact ⟨rfl, (h.polled s rec pp hs hp).2⟩⟩
  · rintro ⟨hP, hC⟩
    refine ⟨fun s rec hs hp => ?_, fun s rec pp hs hp => ?_, fun pp fd bits hb => hP.back pp (fd, bits) hb⟩
    · have := hC s rec hs
      rw [Paired.entry_none hs hp] at this
      exact this.1 rfl
    · obtain ⟨b, hb, hk⟩ := hP.fwd s rec pp hs hp
      have := (hC s rec hs).2 b (by rw [Paired.entry_eq hs hp]; exact hb)
      obtain ⟨fd, bits⟩ := b
      cases hk; cases this.1
      exact ⟨hb, this.2⟩

theorem getElem?_set_eq {α} (l : List α) {i : Nat} (hi : i < l.length) (a : α) (j : Nat) :
    (l.set i a)[j]? = if j = i then some a else l[j]? := by
  rw [List.getElem?_set]
  by_cases h : i = j
  · subst h; simp [hi]
  · simp [h, Ne.symm h]

theorem getElem?_modify_eq {α} (l : List α) (f : α → α) (i j : Nat) :
    (l.modify i f)[j]? = if j = i then (l[j]?).map f else l[j]? := by
  rw [List.getElem?_modify]
  by_cases h : i = j
  · subst h; simp
  · simp [h, Ne.symm h]

/-- `SF` after record `s` and the entry it points at (an old or a fresh place `pp`) are written together -/
theorem SF.put {socks fds fds'} (h : SF socks fds) {s pp : Nat} {rec rec' : SockRec}
    (hs : socks[s]? = some rec) (hpos : rec.pollpos.getD fds.length = pp) (hp' : rec'.pollpos = some pp)
    (hne : evBits rec' ≠ 0) (hFp : fds'[pp]? = some (s, evBits rec')) (hF : ∀ j, j ≠ pp → fds'[j]? = fds[j]?) :
    SF (socks.set s rec') fds' := by
  obtain ⟨hP, hC⟩ := sf_iff.mp h
  have hslt := (List.getElem?_eq_some_iff.1 hs).1
  obtain ⟨hP', hE⟩ := hP.put (A' := fun i => (socks.set s rec')[i]?) (B' := fun j => fds'[j]?) hs
    (fun q hq => by rw [hq] at hpos; exact hpos)
    (fun hq => by rw [hq] at hpos; exact List.getElem?_eq_none (by rw [← hpos]; exact Nat.le_refl _))
    hp' rfl (getElem?_set_eq _ hslt _) hFp hF
  refine sf_iff.mpr ⟨hP', fun i t ht => ?_⟩
  rw [hE]
  rw [getElem?_set_eq _ hslt] at ht
  split at ht
  · next hi => cases ht; rw [if_pos hi]; exact ⟨nofun, fun b hb => by cases hb; exact ⟨rfl, hne⟩⟩
  · next hi => rw [if_neg hi]; exact hC i t ht

theorem SF.set_polled {socks fds} (h : SF socks fds) {s pp : Nat} {rec rec' : SockRec}
    (hs : socks[s]? = some rec) (hp : rec.pollpos = some pp) (hp' : rec'.pollpos = some pp)
    (hne : evBits rec' ≠ 0) : SF (socks.set s rec') (fds.set pp (s, evBits rec')) := by
  have hpl := (List.getElem?_eq_some_iff.1 (h.polled s rec pp hs hp).1).1
  exact h.put hs (by rw [hp]; rfl) hp' hne (by rw [getElem?_set_eq _ hpl, if_pos rfl])
    (fun j hj => by rw [getElem?_set_eq _ hpl, if_neg hj])

theorem SF.attach {socks fds} (h : SF socks fds) {s : Nat} {rec rec' : SockRec}
    (hs : socks[s]? = some rec) (hp : rec.pollpos = none) (hp' : rec'.pollpos = some fds.length)
    (hne : evBits rec' ≠ 0) : SF (socks.set s rec') (fds ++ [(s, evBits rec')]) :=
  h.put hs (by rw [hp]; rfl) hp' hne (by simp) (fun j hj => by
    by_cases hlt : j < fds.length
    · rw [List.getElem?_append_left hlt]
    · rw [List.getElem?_eq_none (by simp; omega), List.getElem?_eq_none (by omega)])

theorem SF.detach_last {socks fds} (h : SF socks fds) {s : Nat} {rec rec' : SockRec}
    (hs : socks[s]? = some rec) (hp : rec.pollpos = some (fds.length - 1)) (hp' : rec'.pollpos = none)
    (h0 : rec'.reader = none ∧ rec'.writer = none) : SF (socks.set s rec') fds.dropLast := by
  obtain ⟨hP, hC⟩ := sf_iff.mp h
  have hslt := (List.getElem?_eq_some_iff.1 hs).1
  obtain ⟨b0, hb0, hk0⟩ := hP.fwd s rec _ hs hp
  obtain ⟨hP', hE⟩ := hP.erase (m := fds.length) (bl := b0) (mv := fun r => { r with pollpos := some (fds.length - 1) })
    (A' := fun i => (socks.set s rec')[i]?) (B' := fun j => fds.dropLast[j]?)
    hs hp (fun j b hj => (List.getElem?_eq_some_iff.1 hj).1) hb0 hp' (fun _ => rfl)
    (fun i => by
      show (socks.set s rec')[i]? = _
      rw [getElem?_set_eq _ hslt]
      split
      · rfl
      · next hi => rw [if_neg (fun hh => hi (hh.trans hk0))])
    (fun j => by
      show fds.dropLast[j]? = _
      rw [List.getElem?_dropLast]
      split
      · next hlt => rw [if_neg (Nat.ne_of_lt hlt)]
      · rfl)
  refine sf_iff.mpr ⟨hP', fun i t ht => ?_⟩
  rw [hE]
  rw [getElem?_set_eq _ hslt] at ht
  split at ht
  · next hi => cases ht; rw [if_pos hi]; exact ⟨fun _ => h0, nofun⟩
  · next hi => rw [if_neg hi]; exact hC i t ht

/-- the descriptor at `pp` gives up its pollfd entry and the last entry moves there -/
theorem SF.detach_swap {socks fds} (h : SF socks fds) {s pp lfd lev : Nat} {rec rec' : SockRec}
    (hs : socks[s]? = some rec) (hp : rec.pollpos = some pp) (hp' : rec'.pollpos = none)
    (h0 : rec'.reader = none ∧ rec'.writer = none) (hl : pp ≠ fds.length - 1)
    (hlast : fds[fds.length - 1]? = some (lfd, lev)) :
    SF ((socks.set s rec').modify lfd (fun r => { r with pollpos := some pp })) (fds.set pp (lfd, lev)).dropLast := by
  obtain ⟨hP, hC⟩ := sf_iff.mp h
  have hslt := (List.getElem?_eq_some_iff.1 hs).1
  obtain ⟨b0, hb0, _⟩ := hP.fwd s rec pp hs hp
  have hpl := (List.getElem?_eq_some_iff.1 hb0).1
  have hne : lfd ≠ s := fun hh => hl (hP.unique hs hp hlast hh).symm
  have hA : ∀ i, ((socks.set s rec').modify lfd (fun r => { r with pollpos := some pp }))[i]? =
      if i = s then some rec' else if i = lfd then (socks[i]?).map (fun r => { r with pollpos := some pp }) else socks[i]? := by
    intro i
    rw [getElem?_modify_eq, getElem?_set_eq _ hslt]
    by_cases hi : i = s
    · rw [if_pos hi, if_pos hi, if_neg (fun hh => hne (hh.symm.trans hi))]
    · rw [if_neg hi, if_neg hi]
  obtain ⟨hP', hE⟩ := hP.erase (m := fds.length) (bl := (lfd, lev)) (mv := fun r => { r with pollpos := some pp })
    (A' := fun i => ((socks.set s rec').modify lfd (fun r => { r with pollpos := some pp }))[i]?)
    (B' := fun j => (fds.set pp (lfd, lev)).dropLast[j]?)
    hs hp (fun j b hj => (List.getElem?_eq_some_iff.1 hj).1) hlast hp' (fun _ => rfl) hA
    (fun j => by
      show (fds.set pp (lfd, lev)).dropLast[j]? = _
      rw [List.getElem?_dropLast, List.length_set, getElem?_set_eq _ hpl])
  refine sf_iff.mpr ⟨hP', fun i t ht => ?_⟩
  rw [hE]
  rw [hA] at ht
  split at ht
  · next hi => cases ht; rw [if_pos hi]; exact ⟨fun _ => h0, nofun⟩
  · next hi =>
    rw [if_neg hi]
    split at ht
    · obtain ⟨t0, ht0, rfl⟩ := Option.map_eq_some_iff.mp ht
      exact hC i t0 ht0
    · exact hC i t ht

/-- the two updates of a registration in the model's words: on a descriptor that has a pollfd entry … -/
theorem sf_reg_some {socks fds} (h : SF socks fds) (s : Nat) (rec : SockRec) (w : Bool) (pp : Nat) (x : Nat × Nat)
    (hs : socks[s]? = some rec) (hsl : slot rec w = none) (hp : rec.pollpos = some pp) :
    SF (socks.set s (setSlot { rec with pollpos := some pp } w (some x)))
       (fds.modify pp (fun p => (p.1, p.2 ||| bitOf w))) := by
  rw [List.modify_eq_set, (h.polled s rec pp hs hp).1, Option.getD_some, ← evBits_set rec w (some pp) x hsl]
  exact h.set_polled hs hp (setSlot_pollpos _ _ _) (evBits_setSlot_some _ _ _)

/-- … and on one that has none and gets the entry `growpollfd` appended -/
theorem sf_reg_none {socks fds} (h : SF socks fds) (s : Nat) (rec : SockRec) (w : Bool) (x : Nat × Nat)
    (hs : socks[s]? = some rec) (hsl : slot rec w = none) (hp : rec.pollpos = none) :
    SF (socks.set s (setSlot { rec with pollpos := some fds.length } w (some x)))
       ((fds ++ [(s, 0)]).modify fds.length (fun p => (p.1, p.2 ||| bitOf w))) := by
  have h0 : evBits rec = 0 := (evBits_cases rec).2.2.2.2 (h.idle s rec hs hp)
  have hb := evBits_set rec w (some fds.length) x hsl
  rw [h0] at hb
  rw [List.modify_eq_set, List.getElem?_concat_length, Option.getD_some, List.set_append_right _ _ (Nat.le_refl _),
    Nat.sub_self, List.set_cons_zero, ← hb]
  exact h.attach hs hp (setSlot_pollpos _ _ _) (evBits_setSlot_some _ _ _)

theorem sf_grow {socks fds} (h : SF socks fds) (k : Nat) : SF (socks ++ List.replicate k SockRec.empty) fds := by
  have hold : ∀ (s : Nat) (r : SockRec), (socks ++ List.replicate k SockRec.empty)[s]? = some r → socks[s]? = some r ∨ r = SockRec.empty := by
    intro s r hr
    rw [List.getElem?_append] at hr
    split at hr
    · exact Or.inl hr
    · exact Or.inr (List.eq_of_mem_replicate (List.mem_of_getElem? hr))
  constructor
  · intro s r hr hp0
    rcases hold s r hr with hr' | rfl
    · exact h.idle s r hr' hp0
    · exact ⟨rfl, rfl⟩
  · intro s r pp hr hq
    rcases hold s r hr with hr' | rfl
    · exact h.polled s r pp hr' hq
    · cases hq
  · intro pp fd bits hf
    obtain ⟨r, h1, h2⟩ := h.back pp fd bits hf
    exact ⟨r, by rw [List.getElem?_append_left (List.getElem?_eq_some_iff.1 h1).1]; exact h1, h2⟩

theorem netInv_iff (e : Ev) : NetInv e ↔ (e.sAlloc = none → e.socks = [] ∧ e.fds = []) ∧ SF e.socks e.fds :=
  ⟨fun ⟨a, b, c, d⟩ => ⟨a, b, c, d⟩, fun ⟨a, b, c, d⟩ => ⟨a, b, c, d⟩⟩

theorem slot_setSlot (r : SockRec) (w w' : Bool) (v : Option (Nat × Nat)) :
    slot (setSlot r w v) w' = if w' = w then v else slot r w' := by
  cases w <;> cases w' <;> simp [slot, setSlot]

theorem slot_pollpos (r : SockRec) (p : Option Nat) (w : Bool) : slot { r with pollpos := p } w = slot r w := by
  cases w <;> rfl

theorem set_self {α} {l : List α} {s : Nat} {a : α} (h : l[s]? = some a) : l.set s a = l := by
  apply List.ext_getElem?
  intro i
  by_cases hi : s = i
  · subst hi; rw [List.getElem?_set_self (List.getElem?_eq_some_iff.1 h).1, h]
  · rw [List.getElem?_set_ne hi]

/-- the state after a successful registration: descriptor `s`, whose record was `rec`, has the event `x` in direction
`w` and the pollfd entry `pp` asks for that direction too -/
def netPut (e : Ev) (s pp : Nat) (w : Bool) (rec : SockRec) (x : Nat × Nat) : Ev :=
  { e with socks := e.socks.set s (setSlot { rec with pollpos := some pp } w (some x))
           fds := e.fds.modify pp (fun p => (p.1, p.2 ||| bitOf w)) }

theorem netInv_netPut {e1 e3 : Ev} {s pp : Nat} {w : Bool} {rec : SockRec} (x : Nat × Nat) (h : NetInv e1)
    (hs : e1.socks[s]? = some rec) (hsl : slot rec w = none) (hsa : e3.sAlloc = e1.sAlloc) (hss : e3.socks = e1.socks)
    (hcase : (rec.pollpos = some pp ∧ e3.fds = e1.fds) ∨
      (rec.pollpos = none ∧ pp = e1.fds.length ∧ e3.fds = e1.fds ++ [(s, 0)])) :
    NetInv (netPut e3 s pp w rec x) := by
  rw [netInv_iff] at h ⊢
  refine ⟨fun hn => ?_, ?_⟩
  · have hn' : e1.sAlloc = none := hsa ▸ hn
    rw [(h.1 hn').1] at hs
    simp at hs
  · show SF (e3.socks.set s _) (e3.fds.modify pp _)
    rw [hss]
    rcases hcase with ⟨hp, hf⟩ | ⟨hp, rfl, hf⟩ <;> rw [hf]
    · exact sf_reg_some h.2 s rec w pp x hs hsl hp
    · exact sf_reg_none h.2 s rec w x hs hsl hp

theorem mem_regNet_netPut {e : Ev} {s pp : Nat} {w : Bool} {rec : SockRec} {rid id : Nat}
    (hs : e.socks[s]? = some rec) (hsl : slot rec w = none) (y : Nat × Bool × Nat) :
    y ∈ regNet (netPut e s pp w rec (rid, id)) ↔ y = (s, w, id) ∨ y ∈ regNet e := by
  simp only [regNet, registry, netPut]
  exact mem_netOf_set (rid := rid) hs hsl (by rw [slot_setSlot, if_pos rfl])
    (fun w' h => by rw [slot_setSlot, slot_pollpos, if_neg h]) y

theorem regNet_netPut {e : Ev} {s pp : Nat} {w : Bool} {rec : SockRec} {rid id : Nat}
    (hs : e.socks[s]? = some rec) (hsl : slot rec w = none) :
    (regNet (netPut e s pp w rec (rid, id))).Perm ((s, w, id) :: regNet e) := by
  rw [List.perm_ext_iff_of_nodup (regNet_nodup _)]
  · intro y; rw [mem_regNet_netPut hs hsl y]; simp
  · refine List.nodup_cons.2 ⟨fun hm => ?_, regNet_nodup e⟩
    obtain ⟨rec', _, h1, h2⟩ := (mem_regNet e s w id).1 hm
    rw [hs] at h1
    cases h1
    rw [hsl] at h2
    cases h2

/-- `netPut` takes the event record from the call -/
theorem call_netPut {e : Ev} (m : Mem) {s pp : Nat} {w : Bool} {rec : SockRec} (x : Nat × Nat)
    (hs : e.socks[s]? = some rec) (hsl : slot rec w = none) : Call .net (-1) e m (netPut e s pp w rec x) m := by
  obtain ⟨rid, id⟩ := x
  refine Call.pure m (outside_net rfl rfl rfl rfl rfl) (fun ha hn => ?_) ?_
  · rw [(ha hn).1] at hs
    simp at hs
  · have := (regNet_netPut (pp := pp) (rid := rid) (id := id) hs hsl).length_eq
    simp only [evBlocks, EvRegTimer.regImm, EvRegTimer.regTimers, registry, regNet, netPut, List.length_cons] at this ⊢
    omega

theorem netOf_modify_pollpos (p : Option Nat) : ∀ (l : List SockRec) (i fd : Nat),
    netOf fd (l.modify i (fun r => { r with pollpos := p })) = netOf fd l
  | [], i, fd => by simp
  | r :: rest, 0, fd => by simp [netOf]
  | r :: rest, i + 1, fd => by simp [netOf, netOf_modify_pollpos p rest i (fd + 1)]

theorem clearbit_other (e : Ev) (pp bit : Nat) :
    Outside .net e (clearbit e pp bit) ∧ (clearbit e pp bit).sAlloc = e.sAlloc ∧ (clearbit e pp bit).recPool = e.recPool ∧
    (clearbit e pp bit).fdsAlloc = e.fdsAlloc ∧ registry (clearbit e pp bit) = registry e := by
  unfold clearbit
  split
  · exact ⟨outside_net rfl rfl rfl rfl rfl, rfl, rfl, rfl, rfl⟩
  · simp only
    split
    · exact ⟨outside_net rfl rfl rfl rfl rfl, rfl, rfl, rfl, rfl⟩
    · split
      · split
        · exact ⟨outside_net rfl rfl rfl rfl rfl, rfl, rfl, rfl, by simp [registry, netOf_modify_pollpos]⟩
        · exact ⟨outside_net rfl rfl rfl rfl rfl, rfl, rfl, rfl, rfl⟩
      · exact ⟨outside_net rfl rfl rfl rfl rfl, rfl, rfl, rfl, by simp [registry, netOf_modify_pollpos]⟩

theorem clearbit_sf (e2 : Ev) (socks : List SockRec) (fds : List (Nat × Nat)) (s : Nat) (rec : SockRec) (w : Bool)
    (pp : Nat) (hSF : SF socks fds) (hs : socks[s]? = some rec) (hp : rec.pollpos = some pp)
    (hsocks : e2.socks = socks.set s (setSlot rec w none)) (hfds : e2.fds = fds) :
    SF (clearbit e2 pp (bitOf w)).socks (clearbit e2 pp (bitOf w)).fds := by
  have hpp := (hSF.polled s rec pp hs hp).1
  have hq : (setSlot rec w none).pollpos = some pp := (setSlot_pollpos rec w none).trans hp
  unfold clearbit
  rw [hfds, hpp]
  simp only
  rw [← evBits_clear, hsocks]
  split
  · rename_i hne
    exact hSF.set_polled hs hp hq hne
  · rename_i h0
    have h0 := (evBits_cases (setSlot rec w none)).2.2.2.1 (Decidable.not_not.1 h0)
    rw [modify_set_self]
    split
    · rename_i hl
      have hlt : fds.length - 1 < fds.length := by
        have := (List.getElem?_eq_some_iff.1 hpp).1
        omega
      rw [List.getElem?_eq_getElem hlt]
      exact hSF.detach_swap hs hp rfl h0 hl (List.getElem?_eq_getElem hlt)
    · rename_i hl
      rw [Decidable.not_not.1 hl] at hp
      exact hSF.detach_last hs hp rfl h0

/-- the state after a successful cancellation of direction `w` of descriptor `s`, whose record was `rec` -/
def netDrop (e : Ev) (s pp : Nat) (w : Bool) (rec : SockRec) : Ev :=
  clearbit { e with socks := e.socks.set s (setSlot rec w none) } pp (bitOf w)

/-- after `netDrop` exactly that registration is gone: putting it back gives the socket list as it was -/
theorem regNet_netDrop {e : Ev} {s pp rid id : Nat} {w : Bool} {rec : SockRec} (hs : e.socks[s]? = some rec)
    (hsl : slot rec w = some (rid, id)) : (regNet e).Perm ((s, w, id) :: regNet (netDrop e s pp w rec)) := by
  have hlen : s < e.socks.length := (List.getElem?_eq_some_iff.1 hs).1
  have hrn : regNet (netDrop e s pp w rec) = netOf 0 (e.socks.set s (setSlot rec w none)) := by
    simp only [regNet, netDrop, (clearbit_other _ pp (bitOf w)).2.2.2.2]
    simp only [registry]
  have hm := mem_netOf_set (l := e.socks.set s (setSlot rec w none)) (rec' := rec) (List.getElem?_set_self hlen)
    (by rw [slot_setSlot]; simp) hsl (fun w' h => by rw [slot_setSlot]; simp [h])
  rw [List.set_set, set_self hs] at hm
  rw [hrn, List.perm_ext_iff_of_nodup (regNet_nodup e)]
  · exact fun x => (hm x).trans List.mem_cons.symm
  · refine List.nodup_cons.2 ⟨fun hin => ?_, nodup_netOf _ _⟩
    obtain ⟨_, _, _, h1, h3⟩ := (mem_netOf _ 0 s w id).1 hin
    rw [Nat.sub_zero, List.getElem?_set_self hlen] at h1
    cases h1
    rw [slot_setSlot] at h3
    simp at h3

theorem netDrop_spec {e : Ev} {s pp rid id : Nat} {w : Bool} {rec : SockRec} (h : NetInv e)
    (hs : e.socks[s]? = some rec) (hsl : slot rec w = some (rid, id)) (hpp : rec.pollpos = some pp) :
    NetInv (netDrop e s pp w rec) ∧ (regNet e).Perm ((s, w, id) :: regNet (netDrop e s pp w rec)) := by
  refine ⟨?_, regNet_netDrop hs hsl⟩
  rw [netInv_iff]
  refine ⟨fun hn => ?_, ?_⟩
  · rw [show (netDrop e s pp w rec).sAlloc = e.sAlloc from (clearbit_other _ pp (bitOf w)).2.1] at hn
    rw [(h.uninit hn).1] at hs
    simp at hs
  · exact clearbit_sf _ e.socks e.fds s rec w pp ((netInv_iff e).1 h).2 hs hpp rfl rfl

/-- `netDrop` hands the event record of the registration to the call -/
theorem call_netDrop {e : Ev} (m : Mem) {s pp : Nat} {w : Bool} {rec : SockRec} {x : Nat × Nat}
    (hs : e.socks[s]? = some rec) (hsl : slot rec w = some x) : Call .net 1 e m (netDrop e s pp w rec) m := by
  obtain ⟨rid, id⟩ := x
  have hco := clearbit_other { e with socks := e.socks.set s (setSlot rec w none) } pp (bitOf w)
  have o : Outside .net e { e with socks := e.socks.set s (setSlot rec w none) } := outside_net rfl rfl rfl rfl rfl
  refine Call.pure m (o.trans hco.1) (fun ha hn => ?_) ?_
  · rw [show (netDrop e s pp w rec).sAlloc = e.sAlloc from hco.2.1] at hn
    rw [(ha hn).1] at hs
    simp at hs
  · have hp := (regNet_netDrop (pp := pp) hs hsl).length_eq
    have hI : EvRegTimer.regImm (netDrop e s pp w rec) = EvRegTimer.regImm e := by
      simp only [EvRegTimer.regImm, netDrop, hco.2.2.2.2]; rfl
    have hT : EvRegTimer.regTimers (netDrop e s pp w rec) = EvRegTimer.regTimers e := by
      simp only [EvRegTimer.regTimers, netDrop, hco.2.2.2.2]; rfl
    have := Percival.Proofs.EvRegAcct.evBlocks_congr (e' := netDrop e s pp w rec) (e := e) hco.2.2.1 (hco.1.imm nofun).2.2
      hI hT (hco.1.tm nofun).1 hco.2.1 hco.2.2.2.1
    simp only [List.length_cons] at hp
    omega

end Percival.Proofs.EvRegNet
