import Percival.Model.Json
import Percival.Spec.JVal
import Percival.Proofs.ByteDecide
import Percival.Proofs.JsonSafe
/-! C17 for json.c: on the text of a `JDoc` the skipping functions consume exactly that text, and `json_find`
returns what `Spec.JVal.expectedFind` says. -/
namespace Percival.Proofs.JsonSpec
open Percival.Model Percival.Model.Json Percival.Spec.JVal Percival.Proofs

def Rest (b : Buf) (i : Nat) (t : List UInt8) : Prop := i ≤ b.size ∧ b.toList.drop i = t

theorem Rest.size {b : Buf} {i : Nat} {t : List UInt8} (h : Rest b i t) : b.size = i + t.length := by
  obtain ⟨h1, h2⟩ := h
  have := congrArg List.length h2
  simp at this
  omega

theorem Rest.lt {b : Buf} {i : Nat} {x : UInt8} {t : List UInt8} (h : Rest b i (x :: t)) : i < b.size := by
  have := h.size; simp at this; omega

theorem Rest.tail {b : Buf} {i : Nat} {x : UInt8} {t : List UInt8} (h : Rest b i (x :: t)) : Rest b (i+1) t := by
  have e := h.2
  rw [List.drop_eq_getElem_cons (by simpa using h.lt)] at e
  exact ⟨h.lt, (List.cons.inj e).2⟩

theorem Rest.head {b : Buf} {i : Nat} {x : UInt8} {t : List UInt8} (h : Rest b i (x :: t)) : rdR b i = .ok x :=
  At.head (l := []) ⟨t, h.2⟩

theorem Rest.append {b : Buf} {i : Nat} {l t : List UInt8} (h : Rest b i (l ++ t)) : Rest b (i + l.length) t := by
  have hs := h.size
  simp at hs
  obtain ⟨h1, h2⟩ := h
  refine ⟨by omega, ?_⟩
  have := congrArg (List.drop l.length) h2
  simpa [List.drop_drop, Nat.add_comm] using this

theorem Rest.ne_end {b : Buf} {i : Nat} {x : UInt8} {t : List UInt8} (h : Rest b i (x :: t)) : (i == b.size) = false := by
  have := h.lt
  simp; omega

/-- the table regenerated from json.c holds the four RFC 8259 characters -/
theorem isWs_eq (c : UInt8) : isWs c = isWsCh c := by
  simp only [isWs, Gen.CodecTables.jsonWs, isWsCh, List.contains_cons, List.contains_nil,
    Bool.or_comm, Bool.or_left_comm, Bool.false_or]

def NoWsHead (t : List UInt8) : Prop := ∀ c, t.head? = some c → isWsCh c = false

theorem rd_of_rdR {b : Buf} {i : Nat} {x : UInt8} (h : rdR b i = .ok x) : rd b i = some x := by
  simp only [rdR] at h
  split at h <;> simp_all

theorem Rest.rd {b : Buf} {i : Nat} {x : UInt8} {t : List UInt8} (h : Rest b i (x :: t)) : rd b i = some x :=
  rd_of_rdR h.head

/-- a loop `while (buf < end) { if (!p(buf[0])) break; buf++; }` on a text whose first `w` bytes satisfy `p` and
    whose next byte, if any, does not: it stops after `w` -/
theorem while_spec {F : Nat → Nat → Res Nat} {p : UInt8 → Bool} (b : Buf)
    (hF : ∀ f i, F (f+1) i =
      if i < b.size then (match rd b i with | none => .oob | some c => if p c then F f (i+1) else .ok i) else .ok i)
    (w : List UInt8) (f i : Nat) (t : List UInt8) (h : Rest b i (w ++ t)) (hw : ∀ c ∈ w, p c = true)
    (ht : ∀ c, t.head? = some c → p c = false) (hf : b.size - i < f) : F f i = .ok (i + w.length) := by
  have ht' : t.takeWhile p = [] := by
    cases t with
    | nil => rfl
    | cons c t => rw [List.takeWhile_cons, ht c rfl]; rfl
  rw [JsonSafe.while_eq b hF f i hf, h.2, List.takeWhile_append_of_pos hw, ht', List.append_nil]

/-! ### Pointers to suffixes

The skipping functions are followed through the text by what the buffer reads at the pointer they return, not by
its value: no position arithmetic until `Lands.pos`. -/

def Lands (b : Buf) (t : List UInt8) (r : Res Nat) : Prop := ∃ j, r = .ok j ∧ Rest b j t

theorem Rest.lands {b : Buf} {j : Nat} {t : List UInt8} (h : Rest b j t) : Lands b t (.ok j) := ⟨j, rfl, h⟩

theorem Lands.bind {α : Type} {P : Res α → Prop} {b : Buf} {t : List UInt8} {r : Res Nat} {g : Nat → Res α}
    (h : Lands b t r) (hg : ∀ j, Rest b j t → P (g j)) : P (r >>= g) := by
  obtain ⟨j, rfl, hj⟩ := h
  exact hg j hj

theorem Lands.pos {b : Buf} {t w : List UInt8} {r : Res Nat} {i : Nat} (h : Lands b t r) (hr : Rest b i (w ++ t)) :
    r = .ok (i + w.length) := by
  obtain ⟨j, rfl, hj⟩ := h
  have h1 := hr.size
  have h2 := hj.size
  simp at h1
  rw [show j = i + w.length by omega]

theorem Lands.pos_cons {b : Buf} {t w : List UInt8} {x : UInt8} {r : Res Nat} {i : Nat} (h : Lands b t r)
    (hr : Rest b i (w ++ x :: t)) : r = .ok (i + w.length + 1) := by
  simpa [Nat.add_assoc] using h.pos (w := w ++ [x]) (by simpa using hr)

/-- `if (buf == end) …` where the buffer reads on -/
theorem Rest.not_end {α : Type} {P : Res α → Prop} {b : Buf} {j : Nat} {c : UInt8} {t : List UInt8} {e x : Res α}
    (h : Rest b j (c :: t)) (hx : P x) : P (if j == b.size then e else x) := by
  rw [h.ne_end]
  exact hx

/-- `if (buf == end) …; else switch (*buf) …` where the buffer reads `c :: t` -/
theorem Rest.read {α : Type} {P : Res α → Prop} {b : Buf} {j : Nat} {c : UInt8} {t : List UInt8} {e : Res α}
    {g : UInt8 → Res α} (h : Rest b j (c :: t)) (hg : P (g c)) : P (if j == b.size then e else rdR b j >>= g) :=
  h.not_end (by rw [h.head]; exact hg)

theorem skipWs_lands {b : Buf} {w t : List UInt8} {i : Nat} (h : Rest b i (w ++ t)) (hw : WsWF w) (ht : NoWsHead t) :
    Lands b t (skipWs b i) :=
  ⟨_, while_spec (F := skipWsF b) (p := isWs) b (fun _ _ => rfl) w _ i t h (fun c hc => (isWs_eq c).trans (hw c hc))
    (fun c hc => (isWs_eq c).trans (ht c hc)) (Nat.lt_succ_self _), h.append⟩

def NoNumHead (t : List UInt8) : Prop := ∀ c, t.head? = some c → isNumCh c = false

/-- json.c's `numchars` are the characters of a number token (and `strchr` also finds the NUL) -/
theorem isNumCh_iff : ∀ c : UInt8, isNumCh c = (c == 0 || isNumTokCh c) := by decide +kernel

theorem numTok_isNumCh (c : UInt8) (h : isNumTokCh c = true) : isNumCh c = true := by
  rw [isNumCh_iff, h, Bool.or_true]

theorem skipNumber_lands {b : Buf} {w t : List UInt8} {i : Nat} (h : Rest b i (w ++ t))
    (hw : ∀ c ∈ w, isNumTokCh c = true) (ht : NoNumHead t) : Lands b t (skipNumber b i) :=
  ⟨_, while_spec (F := skipNumberF b) (p := isNumCh) b (fun _ _ => rfl) w _ i t h
    (fun c hc => numTok_isNumCh c (hw c hc)) ht (Nat.lt_succ_self _), h.append⟩

theorem memEq_eq (b : Buf) (lit : List UInt8) (i : Nat) (t : List UInt8) (h : Rest b i t) (hl : lit.length ≤ t.length) :
    memEq b i lit = .ok (lit.isPrefixOf t) := by
  induction lit generalizing i t with
  | nil => rfl
  | cons x xs ih =>
    cases t with
    | nil => simp at hl
    | cons c t =>
      rw [memEq, h.rd, ih (i+1) t h.tail (by simpa using hl), List.isPrefixOf, BEq.comm]

theorem litAt_eq (b : Buf) (lit : List UInt8) (i : Nat) (t : List UInt8) (h : Rest b i t) :
    litAt b i lit = .ok (lit.isPrefixOf t) := by
  have hs := h.size
  unfold litAt
  split
  · exact memEq_eq b lit i t h (by omega)
  · have : lit.isPrefixOf t = false :=
      Bool.eq_false_iff.mpr fun hp => by have := (List.isPrefixOf_iff_prefix.mp hp).length_le; omega
    rw [this]

theorem skipLiteral_lands {b : Buf} {i : Nat} {lit t : List UInt8} (h : Rest b i (lit ++ t))
    (hl : lit = Spec.JVal.litFalse ∨ lit = Spec.JVal.litNull ∨ lit = Spec.JVal.litTrue) : Lands b t (skipLiteral b i) := by
  refine ⟨_, ?_, h.append⟩
  rcases hl with rfl | rfl | rfl <;>
    simp [skipLiteral, litAt_eq b _ i _ h, Spec.JVal.litFalse, Spec.JVal.litNull, Spec.JVal.litTrue, Json.litFalse,
      Json.litNull, Json.litTrue, List.isPrefixOf]

theorem escDecode_ne_u (e : UInt8) (h : (escDecode e).isSome = true) : e ≠ 0x75 := by
  rintro rfl
  exact absurd h (by decide)

theorem serItems_length_pos (x : SItem) : 1 ≤ x.ser.length := by
  cases x <;> simp [SItem.ser]

theorem skipStringF_lands (b : Buf) (s : JStr) (f i : Nat) (t : List UInt8)
    (h : Rest b i (serItems s ++ 0x22 :: t)) (hs : s.WF) (hf : (serItems s).length < f) :
    Lands b t (skipStringF b f i) := by
  induction s generalizing f i with
  | nil =>
    obtain ⟨f', rfl⟩ : ∃ f', f = f' + 1 := ⟨f - 1, by omega⟩
    simp only [serItems, List.nil_append] at h
    simpa [skipStringF, h.lt, h.rd] using h.tail.lands
  | cons x xs ih =>
    obtain ⟨f', rfl⟩ : ∃ f', f = f' + 1 := ⟨f - 1, by omega⟩
    have hxs : JStr.WF xs := fun y hy => hs y (by simp [hy])
    have hx := hs x (by simp)
    cases x with
    | raw c =>
      simp only [serItems, SItem.ser, List.cons_append, List.nil_append] at h hf
      obtain ⟨h1, h2, _⟩ := hx
      have e1 : (c == 0x22) = false := by simpa using h1
      have e2 : (c == 0x5c) = false := by simpa using h2
      simp only [skipStringF, h.lt, if_true, h.rd, e1, e2]
      exact ih f' (i+1) h.tail hxs (by simp at hf; omega)
    | esc e =>
      simp only [serItems, SItem.ser, List.cons_append, List.nil_append] at h hf
      have e3 : (e == 0x75) = false := by simpa using escDecode_ne_u e hx
      have h' := h.tail
      have hne : (i + 1 == b.size) = false := h'.ne_end
      simp only [skipStringF, h.lt, if_true, h.rd, h'.rd, hne, e3]
      exact ih f' (i+2) h'.tail hxs (by simp at hf; omega)
    | uni a b' c d =>
      simp only [serItems, SItem.ser, List.cons_append, List.nil_append] at h hf
      have h' := h.tail
      have hne : (i + 1 == b.size) = false := h'.ne_end
      have h6 : Rest b (i+6) (serItems xs ++ 0x22 :: t) := h'.tail.tail.tail.tail.tail
      have hsz := h6.size
      have h4 : ¬ (b.size - (i + 2) < 4) := by omega
      simp only [skipStringF, h.lt, if_true, h.rd, h'.rd, hne, h4, if_false]
      exact ih f' (i+6) h6 hxs (by simp at hf; omega)

theorem skipString_lands {b : Buf} {s : JStr} {i : Nat} {t : List UInt8} (h : Rest b i (s.ser ++ t)) (hs : s.WF) :
    Lands b t (skipString b i) := by
  simp only [JStr.ser, List.cons_append, List.append_assoc] at h
  have h1 := h.tail
  have hsz := h1.size
  simp at hsz
  exact skipStringF_lands b s _ (i+1) t (by simpa using h1) hs (by omega)


def elemsWb : JElems → Ws
  | .one wb _ _ => wb
  | .more wb _ _ _ => wb

/-- the text of a list of elements after its first whitespace -/
def elemsBody : JElems → Bytes
  | .one _ v wa => v.ser ++ wa
  | .more _ v wa rest => v.ser ++ (wa ++ 0x2c :: rest.ser)

theorem elems_ser (es : JElems) : es.ser = elemsWb es ++ elemsBody es := by
  cases es <;> simp [JElems.ser, elemsWb, elemsBody]

def membersWb : JMembers → Ws
  | .one wb _ _ _ _ _ => wb
  | .more wb _ _ _ _ _ _ => wb

def membersBody : JMembers → Bytes
  | .one _ k wk wv v wa => k.ser ++ (wk ++ 0x3a :: (wv ++ (v.ser ++ wa)))
  | .more _ k wk wv v wa rest => k.ser ++ (wk ++ 0x3a :: (wv ++ (v.ser ++ (wa ++ 0x2c :: rest.ser))))

theorem members_ser (ms : JMembers) : ms.ser = membersWb ms ++ membersBody ms := by
  cases ms <;> simp [JMembers.ser, membersWb, membersBody]

/-- what may follow a value: after a number token, not another number character -/
def Follow : JDoc → List UInt8 → Prop
  | .num _, t => NoNumHead t
  | _, _ => True

theorem numTok_props : ∀ c : UInt8, isNumTokCh c = true →
    isWsCh c = false ∧ c ≠ 0x5d ∧ c ≠ 0x7d ∧ (c == 0x66 || c == 0x6e || c == 0x74) = false ∧ (c == 0x22) = false ∧
    (c == 0x5b) = false ∧ (c == 0x7b) = false := by decide +kernel

theorem ws_not_num : ∀ c : UInt8, isWsCh c = true → isNumCh c = false := by decide +kernel

theorem ser_head (d : JDoc) (h : d.WF) : ∃ c r, d.ser = c :: r ∧ isWsCh c = false ∧ c ≠ 0x5d ∧ c ≠ 0x7d := by
  cases d with
  | num tok =>
    obtain ⟨hne, hall⟩ := h
    cases tok with
    | nil => exact absurd rfl hne
    | cons c r =>
      have := numTok_props c (hall c (by simp))
      exact ⟨c, r, rfl, this.1, this.2.1, this.2.2.1⟩
  | bool v => cases v <;> exact ⟨_, _, rfl, by decide, by decide, by decide⟩
  | _ => exact ⟨_, _, rfl, by decide, by decide, by decide⟩

theorem noWsHead_cons {c : UInt8} {t : List UInt8} (h : isWsCh c = false) : NoWsHead (c :: t) := by
  intro c' hc; simp at hc; subst hc; exact h

theorem noWsHead_ser (d : JDoc) (h : d.WF) (t : List UInt8) : NoWsHead (d.ser ++ t) := by
  obtain ⟨c, r, hc, h1, _, _⟩ := ser_head d h
  rw [hc]; exact noWsHead_cons h1

theorem noNumHead_ws_cons {w : List UInt8} {x : UInt8} {t : List UInt8} (hw : WsWF w) (hx : isNumCh x = false) :
    NoNumHead (w ++ x :: t) := by
  intro c hc
  cases w with
  | nil => simp at hc; subst hc; exact hx
  | cons y w' => simp at hc; subst hc; exact ws_not_num _ (hw _ (by simp))

theorem follow_ws_cons (d : JDoc) {w : List UInt8} {x : UInt8} {t : List UInt8} (hw : WsWF w) (hx : isNumCh x = false) :
    Follow d (w ++ x :: t) := by
  cases d <;> simp only [Follow] <;> first | trivial | exact noNumHead_ws_cons hw hx

theorem JStr.ser_cons (s : JStr) : s.ser = 0x22 :: (serItems s ++ [0x22]) := rfl


/-- whitespace and then a character that is not whitespace: the test for the end fails and that character is read
    (the shape of `SCAN`, of the heads of `skip_array` / `skip_object` and of the tails of their loops) -/
theorem ws_read {α : Type} {P : Res α → Prop} {b : Buf} {i : Nat} {w : Ws} {c : UInt8} {t : List UInt8} {e : Res α}
    {g : Nat → UInt8 → Res α} (h : Rest b i (w ++ c :: t)) (hw : WsWF w) (hc : isWsCh c = false)
    (hg : ∀ j, Rest b j (c :: t) → P (g j c)) :
    P (skipWs b i >>= fun j => if j == b.size then e else rdR b j >>= g j) :=
  (skipWs_lands h hw (noWsHead_cons hc)).bind fun j hj => hj.read (hg j hj)

/-- the part of one round of `skip_object`'s loop before the value: name, whitespace, `:`, whitespace -/
theorem member_head {P : Res Nat → Prop} {b : Buf} {i : Nat} {w' : Ws} {k : JStr} {wk wv t : List UInt8}
    {g : Nat → Res Nat} (h : Rest b i (w' ++ (k.ser ++ (wk ++ 0x3a :: (wv ++ t))))) (hw' : WsWF w') (hk : k.WF)
    (hwk : WsWF wk) (hwv : WsWF wv) (ht : NoWsHead t) (hg : ∀ j, Rest b j t → P (g j)) :
    P (skipWs b i >>= fun j0 =>
      if j0 == b.size then Res.ok b.size else
      skipString b j0 >>= fun j1 =>
      skipWs b j1 >>= fun j2 =>
        if j2 == b.size then Res.ok b.size else
        rdR b j2 >>= fun c =>
          if c != 0x3a then Res.ok b.size
          else skipWs b (j2+1) >>= g) :=
  (skipWs_lands h hw' (by rw [JStr.ser_cons]; exact noWsHead_cons (by decide))).bind fun _ h0 =>
    Rest.not_end (c := 0x22) h0 <| (skipString_lands h0 hk).bind fun _ h1 => ws_read h1 hwk (by decide) fun _ h2 =>
      (skipWs_lands h2.tail hwv ht).bind hg


theorem elemsBody_one (wb : Ws) (v : JDoc) (wa : Ws) : elemsBody (.one wb v wa) = v.ser ++ wa := rfl
theorem elemsBody_more (wb : Ws) (v : JDoc) (wa : Ws) (rest : JElems) :
    elemsBody (.more wb v wa rest) = v.ser ++ (wa ++ 0x2c :: rest.ser) := rfl
theorem membersBody_one (wb : Ws) (k : JStr) (wk wv : Ws) (v : JDoc) (wa : Ws) :
    membersBody (.one wb k wk wv v wa) = k.ser ++ (wk ++ 0x3a :: (wv ++ (v.ser ++ wa))) := rfl
theorem membersBody_more (wb : Ws) (k : JStr) (wk wv : Ws) (v : JDoc) (wa : Ws) (rest : JMembers) :
    membersBody (.more wb k wk wv v wa rest) =
      k.ser ++ (wk ++ 0x3a :: (wv ++ (v.ser ++ (wa ++ 0x2c :: rest.ser)))) := rfl

theorem elems_ser_length (es : JElems) : es.ser.length = (elemsWb es).length + (elemsBody es).length := by
  rw [elems_ser]; simp

theorem members_ser_length (ms : JMembers) : ms.ser.length = (membersWb ms).length + (membersBody ms).length := by
  rw [members_ser]; simp

theorem elemsWb_wf (es : JElems) (h : es.WF) : WsWF (elemsWb es) := by cases es <;> exact h.1
theorem membersWb_wf (ms : JMembers) (h : ms.WF) : WsWF (membersWb ms) := by cases ms <;> exact h.1

theorem elemsBody_head (es : JElems) (h : es.WF) : ∃ c r, elemsBody es = c :: r ∧ isWsCh c = false ∧ c ≠ 0x5d := by
  cases es with
  | one wb v wa =>
    obtain ⟨c, r, hc, p1, p2, _⟩ := ser_head v h.2.1
    exact ⟨c, r ++ wa, by rw [elemsBody_one, hc]; rfl, p1, p2⟩
  | more wb v wa rest =>
    obtain ⟨c, r, hc, p1, p2, _⟩ := ser_head v h.2.1
    exact ⟨c, r ++ (wa ++ 0x2c :: rest.ser), by rw [elemsBody_more, hc]; rfl, p1, p2⟩

theorem not_num_5d : isNumCh 0x5d = false := by decide
theorem not_num_7d : isNumCh 0x7d = false := by decide
theorem not_num_2c : isNumCh 0x2c = false := by decide

mutual
theorem value_lands (b : Buf) : ∀ (d : JDoc) (f i : Nat) (t : List UInt8), d.WF → Rest b i (d.ser ++ t) → Follow d t →
    3 * d.ser.length + 1 ≤ f → Lands b t (skipValueF b f i)
  | .null, f + 1, i, t, _, hr, _, _ => by
    rw [skipValueF]
    exact Rest.read (c := 0x6e) hr (skipLiteral_lands hr (.inr (.inl rfl)))
  | .bool true, f + 1, i, t, _, hr, _, _ => by
    rw [skipValueF]
    exact Rest.read (c := 0x74) hr (skipLiteral_lands hr (.inr (.inr rfl)))
  | .bool false, f + 1, i, t, _, hr, _, _ => by
    rw [skipValueF]
    exact Rest.read (c := 0x66) hr (skipLiteral_lands hr (.inl rfl))
  | .num (c :: r), f + 1, i, t, hwf, hr, hfo, _ => by
    have hp := numTok_props c (hwf.2 c (by simp))
    rw [skipValueF]
    refine Rest.read (c := c) hr ?_
    simp only [hp.2.2.2.1, hp.2.2.2.2.1, hp.2.2.2.2.2.1, hp.2.2.2.2.2.2, numTok_isNumCh c (hwf.2 c (by simp)),
      Bool.false_eq_true, if_false, if_true]
    exact skipNumber_lands hr hwf.2 hfo
  | .str s, f + 1, i, t, hwf, hr, _, _ => by
    rw [skipValueF]
    exact Rest.read (c := 0x22) hr (skipString_lands hr hwf)
  | .arr0 w, f + 2, i, t, hwf, hr, _, _ => by
    simp only [JDoc.ser, List.cons_append, List.append_assoc] at hr
    rw [skipValueF]
    refine hr.read ?_
    show Lands b t (skipArrayF b (f + 1) i)
    rw [skipArrayF]
    exact ws_read hr.tail hwf (by decide) fun j hj => hj.tail.lands
  | .arr es, f + 2, i, t, hwf, hr, _, hf => by
    have hl := elems_ser_length es
    obtain ⟨c, r, hc, p1, p2⟩ := elemsBody_head es hwf
    simp only [JDoc.ser, elems_ser es, hc, List.cons_append, List.append_assoc, List.length_cons, List.length_append] at hr hf
    rw [skipValueF]
    refine hr.read ?_
    show Lands b t (skipArrayF b (f + 1) i)
    rw [skipArrayF]
    refine ws_read hr.tail (elemsWb_wf es hwf) p1 fun j hj => ?_
    rw [if_neg (show ¬(c == 0x5d) = true by simp [p2])]
    exact elems_lands b es f j [] t hwf (fun _ h => nomatch h) (by simpa [hc] using hj) (by simp [hc]; omega)
  | .obj0 w, f + 2, i, t, hwf, hr, _, _ => by
    simp only [JDoc.ser, List.cons_append, List.append_assoc] at hr
    rw [skipValueF]
    refine hr.read ?_
    show Lands b t (skipObjectF b (f + 1) i)
    rw [skipObjectF]
    exact ws_read hr.tail hwf (by decide) fun j hj => hj.tail.lands
  | .obj ms, f + 2, i, t, hwf, hr, _, hf => by
    have hl := members_ser_length ms
    obtain ⟨r, hc⟩ : ∃ r, membersBody ms = 0x22 :: r := by cases ms <;> exact ⟨_, rfl⟩
    simp only [JDoc.ser, members_ser ms, hc, List.cons_append, List.append_assoc, List.length_cons, List.length_append] at hr hf
    rw [skipValueF]
    refine hr.read ?_
    show Lands b t (skipObjectF b (f + 1) i)
    rw [skipObjectF]
    refine ws_read hr.tail (membersWb_wf ms hwf) (by decide) fun j hj => ?_
    exact members_lands b ms f j [] t hwf (fun _ h => nomatch h) (by simpa [hc] using hj) (by simp [hc]; omega)

/-- the loop of `skip_array`, entered before (some whitespace and) an element -/
theorem elems_lands (b : Buf) : ∀ (es : JElems) (f i : Nat) (w' t : List UInt8), es.WF → WsWF w' →
    Rest b i (w' ++ (elemsBody es ++ 0x5d :: t)) → 3 * (w' ++ elemsBody es).length + 2 ≤ f → Lands b t (arrLoopF b f i)
  | .one wb v wa, f + 1, i, w', t, ⟨_, hv, hwa⟩, hw', hr, hf => by
    simp only [elemsBody_one, List.length_append, List.append_assoc] at hr hf
    rw [arrLoopF]
    exact (skipWs_lands hr hw' (noWsHead_ser v hv _)).bind fun j1 h1 =>
      (value_lands b v f j1 _ hv h1 (follow_ws_cons v hwa not_num_5d) (by omega)).bind fun j2 h2 =>
      ws_read h2 hwa (by decide) fun j h => h.tail.lands
  | .more wb v wa rest, f + 1, i, w', t, ⟨_, hv, hwa, hrest⟩, hw', hr, hf => by
    have hl := elems_ser_length rest
    simp only [elemsBody_more, elems_ser rest, List.length_append, List.length_cons, List.append_assoc,
      List.cons_append] at hr hf
    rw [arrLoopF]
    exact (skipWs_lands hr hw' (noWsHead_ser v hv _)).bind fun j1 h1 =>
      (value_lands b v f j1 _ hv h1 (follow_ws_cons v hwa not_num_2c) (by omega)).bind fun j2 h2 =>
      ws_read h2 hwa (by decide) fun j h =>
        elems_lands b rest f (j+1) (elemsWb rest) t hrest (elemsWb_wf rest hrest) h.tail
          (by rw [List.length_append]; omega)

/-- the loop of `skip_object`, entered before (some whitespace and) a member -/
theorem members_lands (b : Buf) : ∀ (ms : JMembers) (f i : Nat) (w' t : List UInt8), ms.WF → WsWF w' →
    Rest b i (w' ++ (membersBody ms ++ 0x7d :: t)) → 3 * (w' ++ membersBody ms).length + 2 ≤ f →
    Lands b t (objLoopF b f i)
  | .one wb k wk wv v wa, f + 1, i, w', t, ⟨_, hk, hwk, hwv, hv, hwa⟩, hw', hr, hf => by
    simp only [membersBody_one, List.length_append, List.length_cons, List.append_assoc, List.cons_append] at hr hf
    rw [objLoopF]
    exact member_head hr hw' hk hwk hwv (noWsHead_ser v hv _) fun j3 h3 =>
      (value_lands b v f j3 _ hv h3 (follow_ws_cons v hwa not_num_7d) (by omega)).bind fun j4 h4 =>
      ws_read h4 hwa (by decide) fun j h => h.tail.lands
  | .more wb k wk wv v wa rest, f + 1, i, w', t, ⟨_, hk, hwk, hwv, hv, hwa, hrest⟩, hw', hr, hf => by
    have hl := members_ser_length rest
    simp only [membersBody_more, members_ser rest, List.length_append, List.length_cons, List.append_assoc,
      List.cons_append] at hr hf
    rw [objLoopF]
    exact member_head hr hw' hk hwk hwv (noWsHead_ser v hv _) fun j3 h3 =>
      (value_lands b v f j3 _ hv h3 (follow_ws_cons v hwa not_num_2c) (by omega)).bind fun j4 h4 =>
      ws_read h4 hwa (by decide) fun j h =>
        members_lands b rest f (j+1) (membersWb rest) t hrest (membersWb_wf rest hrest) h.tail
          (by rw [List.length_append]; omega)
end

theorem elems_spec (b : Buf) : ∀ (es : JElems) (f i : Nat) (w' t : List UInt8), es.WF → WsWF w' →
    Rest b i (w' ++ (elemsBody es ++ 0x5d :: t)) → 3 * (w' ++ elemsBody es).length + 2 ≤ f →
    arrLoopF b f i = .ok (i + (w' ++ elemsBody es).length + 1) := fun es f i w' t hwf hw' hr hf => by
  exact (elems_lands b es f i w' t hwf hw' hr hf).pos_cons (by rw [List.append_assoc]; exact hr)

theorem members_spec (b : Buf) : ∀ (ms : JMembers) (f i : Nat) (w' t : List UInt8), ms.WF → WsWF w' →
    Rest b i (w' ++ (membersBody ms ++ 0x7d :: t)) → 3 * (w' ++ membersBody ms).length + 2 ≤ f →
    objLoopF b f i = .ok (i + (w' ++ membersBody ms).length + 1) := fun ms f i w' t hwf hw' hr hf => by
  exact (members_lands b ms f i w' t hwf hw' hr hf).pos_cons (by rw [List.append_assoc]; exact hr)

theorem skipValue_lands {b : Buf} {d : JDoc} {i : Nat} {t : List UInt8} (hwf : d.WF) (hr : Rest b i (d.ser ++ t))
    (hfo : Follow d t) : Lands b t (skipValue b i) := by
  have hs := hr.size
  simp at hs
  exact value_lands b d _ i t hwf hr hfo (by simp only [valueFuel]; omega)

theorem skipValue_spec (b : Buf) (d : JDoc) (i : Nat) (t : List UInt8) (hwf : d.WF) (hr : Rest b i (d.ser ++ t))
    (hfo : Follow d t) : skipValue b i = .ok (i + d.ser.length) :=
  (skipValue_lands hwf hr hfo).pos hr


/-- the escape switch of `match_str` is the RFC's table -/
theorem escChar_eq (e : UInt8) : escChar e = escDecode e := by
  simp only [escChar, escDecode, beq_iff_eq]

theorem escDecode_ne_some_zero : ∀ e : UInt8, escDecode e ≠ some 0 := by decide +kernel
theorem escDecode_ne_zero (e c : UInt8) (h : escDecode e = some c) : c ≠ 0 := by
  rintro rfl
  exact escDecode_ne_some_zero e h

theorem key_at (kp kr : List UInt8) :
    rdR (cstr (kp ++ kr)) kp.length = .ok (match kr with | [] => 0 | k0 :: _ => k0) := by
  have hlt : kp.length < (cstr (kp ++ kr)).size := by simp [cstr] <;> omega
  rw [rdR_ok _ _ hlt]
  cases kr <;> simp [cstr]

/-- one comparison at the split point `kp | kr` of the key: against the head of `kr`, or the terminator, and the
    pointer moves on only past a character of the key (`if (*s) s++`) -/
theorem matchStep_at (kp kr : List UInt8) (hk : ∀ c ∈ kr, c ≠ 0) (ch : UInt8) (found : Bool) :
    matchStep (cstr (kp ++ kr)) kp.length ch found = .ok ((kp ++ kr.take 1).length, found && ch == kr.headD 0) := by
  simp only [matchStep, key_at, Res.ok_bind]
  cases kr with
  | nil => simp
  | cons k0 kr => simp [hk k0 (List.mem_cons_self ..)]

theorem decide_map_cons (c k0 : UInt8) (o : Option (List UInt8)) (kr : List UInt8) :
    decide (o.map (c :: ·) = some (k0 :: kr)) = (c == k0 && decide (o = some kr)) := by
  cases o with
  | none => simp
  | some r =>
    by_cases h1 : c = k0 <;> by_cases h2 : r = kr <;> simp [h1, h2]

theorem decide_map_nil (c : UInt8) (o : Option (List UInt8)) : decide (o.map (c :: ·) = some []) = false := by
  cases o <;> simp

/-- a decoded name that starts with the (non-NUL) character `c` equals the rest `kr` of the key iff `c` is the
    character `match_str` compares with and the tails agree -/
theorem decide_map_eq (c : UInt8) (hc : c ≠ 0) (o : Option (List UInt8)) (kr : List UInt8) :
    decide (o.map (c :: ·) = some kr) = (c == kr.headD 0 && decide (o = some (kr.drop 1))) := by
  cases kr with
  | nil => rw [decide_map_nil]; simp [hc]
  | cons k0 kr => exact decide_map_cons c k0 o kr

theorem decode_esc {e c : UInt8} (h : escDecode e = some c) (xs : JStr) :
    JStr.decode (.esc e :: xs) = (JStr.decode xs).map (c :: ·) := by
  cases hd : JStr.decode xs <;> simp [JStr.decode, h, hd]

/-- the loop of `match_str` on the items of a name, with `kp` of the key already compared and `kr` to come: it
    stops after the closing quote and reports whether the rest of the decoded name is `kr` -/
theorem matchStrF_lands (b : Buf) (s : JStr) : ∀ (f i : Nat) (found : Bool) (kp kr : List UInt8) (t : List UInt8),
    (∀ c ∈ kp ++ kr, c ≠ 0) → Rest b i (serItems s ++ 0x22 :: t) → s.WF → (serItems s).length < f →
    ∃ j, matchStrF b (cstr (kp ++ kr)) f i kp.length found = .ok (j, found && decide (JStr.decode s = some kr)) ∧
      Rest b j t := by
  induction s with
  | nil =>
    intro f i found kp kr t hk h _ hf
    obtain ⟨f', rfl⟩ : ∃ f', f = f' + 1 := ⟨f - 1, by omega⟩
    simp only [serItems, List.nil_append] at h
    refine ⟨i + 1, ?_, h.tail⟩
    simp only [matchStrF, h.ne_end, Bool.false_eq_true, if_false, h.head, Res.ok_bind, key_at]
    cases kr with
    | nil => simp [JStr.decode]
    | cons k0 kr' =>
      have : k0 ≠ 0 := hk k0 (by simp)
      simp [JStr.decode, this]
  | cons x xs ih =>
    intro f i found kp kr t hk h hwf hf
    obtain ⟨f', rfl⟩ : ∃ f', f = f' + 1 := ⟨f - 1, by omega⟩
    have hkr : ∀ c ∈ kr, c ≠ 0 := fun c hc => hk c (List.mem_append_right _ hc)
    -- the rest of the loop, entered at `i'` after the comparison of `ch` with the key
    have next : ∀ (ch : UInt8) (fd : Bool) (i' : Nat), Rest b i' (serItems xs ++ 0x22 :: t) → (serItems xs).length < f' →
        ∃ j, (matchStep (cstr (kp ++ kr)) kp.length ch fd >>= fun r => matchStrF b (cstr (kp ++ kr)) f' i' r.1 r.2) =
          .ok (j, (fd && ch == kr.headD 0) && decide (JStr.decode xs = some (kr.drop 1))) ∧ Rest b j t := by
      intro ch fd i' h' hf'
      have e : kp ++ kr = (kp ++ kr.take 1) ++ kr.drop 1 := by rw [List.append_assoc, List.take_append_drop]
      rw [matchStep_at kp kr hkr, Res.ok_bind, e]
      exact ih f' i' _ (kp ++ kr.take 1) (kr.drop 1) t (e ▸ hk) h' (fun y hy => hwf y (List.mem_cons_of_mem _ hy)) hf'
    have hx := hwf x (List.mem_cons_self ..)
    cases x with
    | raw c =>
      obtain ⟨h1, h2, h3⟩ := hx
      simp only [serItems, SItem.ser, List.cons_append, List.nil_append, List.length_cons] at h hf
      have e1 : (c == 0x22) = false := by simpa using h1
      have e2 : (c == 0x5c) = false := by simpa using h2
      obtain ⟨j, hj, hr⟩ := next c found (i+1) h.tail (by omega)
      refine ⟨j, ?_, hr⟩
      simp only [matchStrF, h.ne_end, Bool.false_eq_true, if_false, h.head, Res.ok_bind, e1, e2]
      rw [hj, JStr.decode, decide_map_eq c h3, Bool.and_assoc]
    | esc e =>
      simp only [serItems, SItem.ser, List.cons_append, List.nil_append, List.length_cons] at h hf
      have hx' : (escDecode e).isSome = true := hx
      have e3 : (e == 0x75) = false := by simpa using escDecode_ne_u e hx'
      obtain ⟨ch', hch⟩ := Option.isSome_iff_exists.mp hx'
      have h' := h.tail
      obtain ⟨j, hj, hr⟩ := next ch' found (i+2) h'.tail (by omega)
      refine ⟨j, ?_, hr⟩
      simp only [matchStrF, h.ne_end, Bool.false_eq_true, if_false, h.head, Res.ok_bind,
        show ((0x5c : UInt8) == 0x22) = false by decide, show ((0x5c : UInt8) == 0x5c) = true by decide, if_true,
        h'.ne_end, h'.head, e3, escChar_eq, hch]
      rw [hj, decode_esc hch, decide_map_eq ch' (escDecode_ne_zero e ch' hch), Bool.and_assoc]
    | uni a b' c d =>
      simp only [serItems, SItem.ser, List.cons_append, List.nil_append, List.length_cons] at h hf
      have h' := h.tail
      have h6 : Rest b (i+6) (serItems xs ++ 0x22 :: t) := h'.tail.tail.tail.tail.tail
      have hsz := h6.size
      have h4 : ¬ (b.size - (i + 2) < 4) := by omega
      obtain ⟨j, hj, hr⟩ := next 0x5c false (i+6) h6 (by omega)
      refine ⟨j, ?_, hr⟩
      simp only [matchStrF, h.ne_end, Bool.false_eq_true, if_false, h.head, Res.ok_bind,
        show ((0x5c : UInt8) == 0x22) = false by decide, show ((0x5c : UInt8) == 0x5c) = true by decide, if_true,
        h'.ne_end, h'.head, show ((0x75 : UInt8) == 0x75) = true by decide, h4]
      rw [hj]
      simp only [JStr.decode, Bool.false_and, reduceCtorEq, decide_false, Bool.and_false]

theorem matchStr_lands {b : Buf} {s : JStr} {i : Nat} {key t : List UInt8} (hk : ∀ c ∈ key, c ≠ 0)
    (h : Rest b i (serItems s ++ 0x22 :: t)) (hwf : s.WF) :
    ∃ j, matchStr b (cstr key) i = .ok (j, decide (JStr.decode s = some key)) ∧ Rest b j t := by
  have hs := h.size
  simp at hs
  simpa [matchStr] using matchStrF_lands b s (b.size - i + 1) i true [] key t (by simpa using hk) h hwf (by omega)

theorem scan_hit {α : Type} {P : Res α → Prop} {b : Buf} {i : Nat} {w : Ws} {ch : UInt8} {t : List UInt8}
    {g : Option Nat → Res α} (h : Rest b i (w ++ ch :: t)) (hw : WsWF w) (hch : isWsCh ch = false)
    (hg : ∀ j, Rest b j t → P (g (some j))) : P (scan b i ch >>= g) := by
  rw [scan]
  exact ws_read (P := fun r => P (r >>= g)) h hw hch fun j hj => by simpa using hg _ hj.tail

theorem scan_miss {α : Type} {P : Res α → Prop} {b : Buf} {i : Nat} {w : Ws} {c ch : UInt8} {t : List UInt8}
    {g : Option Nat → Res α} (h : Rest b i (w ++ c :: t)) (hw : WsWF w) (hc : isWsCh c = false) (hne : c ≠ ch)
    (hg : P (g none)) : P (scan b i ch >>= g) := by
  rw [scan]
  exact ws_read (P := fun r => P (r >>= g)) h hw hc fun j _ => by simpa [hne] using hg

def membersCount : JMembers → Nat
  | .one .. => 1
  | .more _ _ _ _ _ _ rest => membersCount rest + 1

theorem membersCount_le : ∀ ms : JMembers, membersCount ms ≤ ms.ser.length
  | .one wb k wk wv v wa => by simp [membersCount, JMembers.ser, JStr.ser]; omega
  | .more wb k wk wv v wa rest => by
    have := membersCount_le rest
    simp [membersCount, JMembers.ser, JStr.ser]; omega

/-- the text `ms.ser ++ t` from the value of the first member named `key` on, if there is such a member -/
def findRest (key : Bytes) : JMembers → Bytes → Option Bytes
  | .one _ k _ _ v wa, t => if k.decode = some key then some (v.ser ++ (wa ++ t)) else none
  | .more _ k _ _ v wa rest, t =>
    if k.decode = some key then some (v.ser ++ (wa ++ 0x2c :: (rest.ser ++ t))) else findRest key rest t

def PointsTo (b : Buf) (o : Option Bytes) (r : Res Nat) : Prop :=
  match o with
  | some suf => Lands b suf r
  | none => r = .ok b.size

/-- `findRest` starts where `Spec.JVal` says the value of the selected member starts -/
theorem findRest_pos (key : Bytes) : ∀ (ms : JMembers) (t : Bytes),
    match findMember key ms.erase, findRest key ms t with
    | some m, some suf => ∃ p, ms.valuePos m = some p ∧ p + suf.length = (ms.ser ++ t).length
    | none, none => True
    | _, _ => False
  | .one wb k wk wv v wa, t => by
    by_cases hd : JStr.decode k = some key
    · simp [JMembers.erase, findMember, findRest, hd, JMembers.valuePos, JMembers.ser]; omega
    · simp [JMembers.erase, findMember, findRest, hd]
  | .more wb k wk wv v wa rest, t => by
    by_cases hd : JStr.decode k = some key
    · simp [JMembers.erase, findMember, findRest, hd, JMembers.valuePos, JMembers.ser]; omega
    · have ih := findRest_pos key rest t
      simp only [JMembers.erase, findMember, findRest, hd, if_false]
      cases hm : findMember key rest.erase <;> cases hf : findRest key rest t <;> simp only [hm, hf] at ih ⊢
      · exact ih
      · obtain ⟨p, hp, hl⟩ := ih
        exact ⟨_, by rw [JMembers.valuePos, hp]; rfl, by simp [JMembers.ser] at hl ⊢; omega⟩

/-- one round of the loop of `json_find` up to the value: `"` name `"` ws `:` ws -/
theorem find_head {P : Res Nat → Prop} {b : Buf} {key : List UInt8} (hk : ∀ c ∈ key, c ≠ 0) {f i : Nat} {wb : Ws}
    {k : JStr} {wk wv t : List UInt8} (h : Rest b i (wb ++ (k.ser ++ (wk ++ 0x3a :: (wv ++ t))))) (hwb : WsWF wb)
    (hkw : k.WF) (hwk : WsWF wk) (hwv : WsWF wv) (ht : NoWsHead t)
    (hg : ∀ j, Rest b j t → P (if decide (JStr.decode k = some key) then Res.ok j else
      skipValue b j >>= fun j5 =>
      scan b j5 0x2c >>= fun r6 =>
      match r6 with
      | none => .ok b.size
      | some j6 => findLoopF b (cstr key) f j6)) :
    P (findLoopF b (cstr key) (f + 1) i) := by
  simp only [JStr.ser, List.cons_append, List.append_assoc] at h
  rw [findLoopF]
  refine scan_hit h hwb (by decide) fun j1 h1 => ?_
  obtain ⟨j2, hm, h2⟩ := matchStr_lands hk h1 hkw
  simp only [hm, Res.ok_bind]
  refine scan_hit h2 hwk (by decide) fun j3 h3 => ?_
  exact (skipWs_lands h3 hwv ht).bind fun j4 h4 => hg j4 h4

/-- the loop of `json_find` at the beginning of a member list returns a pointer to the value of the member named `key` -/
theorem find_members (b : Buf) (key : List UInt8) (hk : ∀ c ∈ key, c ≠ 0) :
    ∀ (ms : JMembers) (f i : Nat) (t : List UInt8), ms.WF → Rest b i (ms.ser ++ 0x7d :: t) → membersCount ms < f →
      PointsTo b (findRest key ms (0x7d :: t)) (findLoopF b (cstr key) f i)
  | .one wb k wk wv v wa, f + 1, i, t, ⟨hwb, hkw, hwk, hwv, hv, hwa⟩, hr, _ => by
    simp only [JMembers.ser, List.append_assoc, List.cons_append] at hr
    refine find_head hk hr hwb hkw hwk hwv (noWsHead_ser v hv _) fun j4 h4 => ?_
    by_cases hd : JStr.decode k = some key
    · simpa only [findRest, hd, if_true, decide_true, PointsTo] using h4.lands
    · simp only [findRest, hd, if_false, decide_false, Bool.false_eq_true]
      exact (skipValue_lands hv h4 (follow_ws_cons v hwa not_num_7d)).bind fun j5 h5 =>
        scan_miss h5 hwa (by decide) (by decide) rfl
  | .more wb k wk wv v wa rest, f + 1, i, t, ⟨hwb, hkw, hwk, hwv, hv, hwa, hrest⟩, hr, hf => by
    simp only [JMembers.ser, List.append_assoc, List.cons_append] at hr
    refine find_head hk hr hwb hkw hwk hwv (noWsHead_ser v hv _) fun j4 h4 => ?_
    by_cases hd : JStr.decode k = some key
    · simpa only [findRest, hd, if_true, decide_true, PointsTo] using h4.lands
    · simp only [findRest, hd, if_false, decide_false, Bool.false_eq_true]
      exact (skipValue_lands hv h4 (follow_ws_cons v hwa not_num_2c)).bind fun j5 h5 =>
        scan_hit h5 hwa (by decide) fun j6 h6 =>
          find_members b key hk rest f j6 t hrest h6 (by simp [membersCount] at hf; omega)

/-- C17, JSON: on `lead ++ text of d ++ trail` (any value `d` with any layout, any whitespace `lead`, anything
    after it) `json_find` returns exactly `Spec.JVal.expectedFind`. -/
theorem jsonFind_spec (lead : Ws) (d : JDoc) (trail key : List UInt8) (hl : WsWF lead) (hd : d.WF)
    (hk : ∀ c ∈ key, c ≠ 0) :
    jsonFind (lead ++ d.ser ++ trail).toArray (cstr key) = .ok (expectedFind lead d trail key) := by
  let b : Buf := (lead ++ d.ser ++ trail).toArray
  have hr : Rest b 0 (lead ++ (d.ser ++ trail)) := ⟨Nat.zero_le _, by simp [b]⟩
  have hsz : b.size = lead.length + d.ser.length + trail.length := by simp [b]; omega
  show jsonFind b (cstr key) = _
  obtain ⟨c, r, hc, hws, _, _⟩ := ser_head d hd
  rw [jsonFind]
  by_cases hobj : c = 0x7b
  · -- an object (only objects start with '{')
    subst hobj
    cases d with
    | obj0 w =>
      simp only [JDoc.ser, List.cons_append, List.append_assoc] at hr
      refine scan_hit (P := (· = _)) hr hl (by decide) fun j h1 => ?_
      show findLoopF b (cstr key) (b.size + 1) j = _
      rw [findLoopF]
      exact scan_miss (P := (· = _)) h1 hd (by decide) (by decide) (by simp [expectedFind, hsz])
    | obj ms =>
      simp only [JDoc.ser, List.cons_append, List.append_assoc] at hr
      refine scan_hit (P := (· = _)) hr hl (by decide) fun j h1 => ?_
      have hcnt := membersCount_le ms
      have hf := find_members b key hk ms (b.size + 1) j trail hd h1 (by simp [JDoc.ser] at hsz; omega)
      have hp := findRest_pos key ms (0x7d :: trail)
      simp only [expectedFind, JDoc.erase, find]
      cases hm : findMember key ms.erase <;> cases hfr : findRest key ms (0x7d :: trail) <;>
        simp only [hm, hfr, PointsTo] at hp hf ⊢
      · simpa [hsz] using hf
      · obtain ⟨p, hpv, hlen⟩ := hp
        obtain ⟨j', hj', hrest⟩ := hf
        have h1s := hrest.size
        simp [JDoc.ser] at hlen hsz
        rw [hj', hpv]
        simp; omega
    | bool v => cases v <;> simp [JDoc.ser, Spec.JVal.litTrue, Spec.JVal.litFalse] at hc
    | num tok => simp only [JDoc.ser] at hc; subst hc; exact absurd (hd.2 0x7b (by simp)) (by decide)
    | _ => simp [JDoc.ser, JStr.ser, Spec.JVal.litNull] at hc
  · have hr' : Rest b 0 (lead ++ c :: (r ++ trail)) := by simpa [hc] using hr
    refine scan_miss (P := (· = _)) hr' hl hws hobj ?_
    cases d with
    | obj0 w => simp [JDoc.ser] at hc; exact absurd hc.1.symm hobj
    | obj ms => simp [JDoc.ser] at hc; exact absurd hc.1.symm hobj
    | _ => simp [expectedFind, hsz]


/-! ### statements in list form, for `Properties/C17.lean` -/

theorem follow_of_followOK (d : JDoc) (t : List UInt8) (h : followOK d t) : Follow d t := by
  cases d <;> simp only [Follow] <;> try trivial
  intro c hc
  obtain ⟨h1, h2⟩ := h c hc
  rw [isNumCh_iff]
  simp [h1, h2]

theorem skipValue_exact (pre : List UInt8) (d : JDoc) (post : List UInt8) (hd : d.WF) (hf : followOK d post) :
    skipValue (pre ++ d.ser ++ post).toArray pre.length = .ok (pre.length + d.ser.length) := by
  apply skipValue_spec _ d pre.length post hd _ (follow_of_followOK d post hf)
  refine ⟨by simp <;> omega, ?_⟩
  simp

/-- a selected member has a value position (the inner fall-back of `expectedFind` is never used) -/
theorem valuePos_of_findMember (key : List UInt8) (ms : JMembers) (m : Nat) (h : findMember key ms.erase = some m) :
    ∃ p, ms.valuePos m = some p := by
  have hp := findRest_pos key ms []
  rw [h] at hp
  cases hfr : findRest key ms [] <;> simp only [hfr] at hp
  exact hp.imp fun _ h => h.1

end Percival.Proofs.JsonSpec
