import Percival.Proofs.AFUDefs
import Percival.Proofs.AFUCache
import Percival.Proofs.EvRegAcct
/-!
# C14, upper layers: the invariant along a call

`At w0 w G`: the call that started in `w0` has reached `w`, and the blocks and registrations of `w` (`has w`) are exactly
the footprint `G` — what the tables' objects hold plus (or minus) what the call itself holds at this point.  `Inv0 w` is
`At w w (foot (tables w))`.  Every primitive step of the model has one rule that says how it moves `w` and `G`
together; a table update moves neither (`At` does not read the tables), so a call is followed step by step and the
tables come in at its end only, through the footprint lemmas of `Proofs/AFUFoot.lean`.
-/
namespace Percival.Proofs.AllocFailUpper
open Percival.Model Percival.Model.EvReg Percival.Model.AllocFail
open Percival.Proofs.EvRegNet (regNet netRegistered NetInv)
open Percival.Proofs.EvRegTimer (regImm regTimers TmInv Step Granted)
open Percival.Proofs.EArray (malloc_ok malloc_fail free_facts)
open Percival.Proofs.EvRegAcct

/-- the ghost counter is the event layer's block count (and the structural fact the count needs) -/
def EvAcct (w : World) : Prop := w.evLive = evBlocks w.ev ∧ AcctInv w.ev

theorem evAcct_init (m : Mem) : EvAcct ({ m := m } : World) := ⟨evBlocks_init.symm, acctInv_init⟩

/-- what a world has: its live blocks, by key, and the registrations of the event layer -/
def has (w : World) : Foot := ⟨w.live.map key, regNet w.ev, regTimers w.ev, (regImm w.ev).flatten⟩

structure At (w0 w : World) (G : Foot) : Prop where
  ev : EvOk w.ev w.m
  bad0 : w.bad = 0
  blk : Blk w
  /-- the live blocks and the registrations of the three kinds are exactly those of `G` -/
  eq : (has w).Equiv G
  cache : CacheOk w.rdPool w.wrPool w.cache
  /-- since the call began the oracle has only moved forward -/
  step : Step w0.m w.m
  /-- … and the ghost counter has stayed the event layer's block count, if it was -/
  acct : EvAcct w0 → EvAcct w

theorem Inv0.at {w : World} (h : Inv0 w) : At w w (foot (tables w)) :=
  ⟨h.ev, h.bad0, h.blk, ⟨h.owns.perm_keys h.blk.live_nodup, h.regNet, h.regTm, h.regImm⟩,
   ⟨h.cacheSites, h.rd.rep h.blk.cache_nodup, h.wr.rep h.blk.cache_nodup⟩, Step.refl _, id⟩

namespace At
variable {w0 w w' : World} {G G' : Foot}

theorem owns (h : At w0 w G) : Owns w.live G.keys := owns_of_perm h.eq.keys h.blk.live_nodup
theorem net (h : At w0 w G) : (regNet w.ev).Perm G.net := h.eq.net
theorem tm (h : At w0 w G) : (regTimers w.ev).Perm G.tm := h.eq.tm
theorem imm (h : At w0 w G) : (regImm w.ev).flatten.Perm G.imm := h.eq.imm

theorem inv0 (h : At w0 w (foot (tables w))) : Inv0 w :=
  inv0_mk h.ev h.bad0 h.blk h.owns h.cache.sites (h.cache.rd.ok h.blk.cache_nodup) (h.cache.wr.ok h.blk.cache_nodup) h.net h.tm
    h.imm

theorem equiv (h : At w0 w G) (he : G.Equiv G') : At w0 w G' := { h with eq := h.eq.trans he }

/-- a table update: `At` does not read the tables -/
theorem retable (h : At w0 w G) (hw : blank w' = blank w) : At w0 w' G := by
  -- every field of `At` reads a field that `blank` keeps
  have hb : At w0 (blank w) G := ⟨h.ev, h.bad0, ⟨h.blk.fresh, h.blk.nodup, h.blk.acct⟩, h.eq, h.cache, h.step, h.acct⟩
  rw [← hw] at hb
  exact ⟨hb.ev, hb.bad0, ⟨hb.blk.fresh, hb.blk.nodup, hb.blk.acct⟩, hb.eq, hb.cache, hb.step, hb.acct⟩

/-- table `T` becomes `l`, whose entries hold what the call held -/
theorem put {α : Type} (T : Tab α) (l : List α) (h : At w0 w G) (he : G.Equiv (foot (T.set (tables w) l))) :
    At w0 (T.wset w l) (foot (tables (T.wset w l))) := by
  rw [T.tables_wset]
  exact (h.retable (T.blank_wset w l)).equiv he

/-- a new entry of table `T` takes over what the call held -/
theorem install {α : Type} (T : Tab α) (a : α) (h : At w0 w G) (he : G.Equiv (T.holds a ++ foot (tables w))) :
    At w0 (T.wset w (a :: T.get (tables w))) (foot (tables (T.wset w (a :: T.get (tables w))))) := by
  refine h.put T _ (he.trans ?_)
  have := (T.cons (tables w) a (T.get (tables w))).symm
  rw [T.set_get] at this
  exact this

/-- an entry is taken out of its table: the call holds what the entry held -/
theorem take {α : Type} (T : Tab α) {a : α} (h : At w0 w (foot (tables w))) (ha : a ∈ T.get (tables w)) :
    At w0 w (T.holds a ++ foot (T.set (tables w) ((T.get (tables w)).filter (fun x => T.id x != T.id a)))) :=
  h.equiv (T.foot_drop ha (T.nodup _ h.owns.nodupE))

/-- … and put back, changed -/
theorem give {α : Type} (T : Tab α) {a a' : α}
    (h : At w0 w (T.holds a' ++ foot (T.set (tables w) ((T.get (tables w)).filter (fun x => T.id x != T.id a)))))
    (ha : a ∈ T.get (tables w)) (hnd : ((T.get (tables w)).map T.id).Nodup) (hid : T.id a' = T.id a) :
    At w0 (T.wset w (Run.upd T.id (T.get (tables w)) a'))
      (foot (tables (T.wset w (Run.upd T.id (T.get (tables w)) a')))) :=
  h.put T _ (T.foot_upd ha hnd hid).symm

/-- an entry of table `T` is replaced by one that holds what the old entry and the call held -/
theorem absorb {α : Type} (T : Tab α) {a a' : α} (F : Foot) (h : At w0 w (F ++ foot (tables w)))
    (ha : a ∈ T.get (tables w)) (hnd : ((T.get (tables w)).map T.id).Nodup) (hid : T.id a' = T.id a)
    (he : (F ++ T.holds a).Equiv (T.holds a')) :
    At w0 (T.wset w (Run.upd T.id (T.get (tables w)) a')) (foot (tables (T.wset w (Run.upd T.id (T.get (tables w)) a')))) :=
  h.put T _ ((((Foot.Equiv.refl F).append (T.foot_drop ha hnd)).trans (Foot.Equiv.assoc _ _ _).symm).trans
    ((he.append (.refl _)).trans (T.foot_upd ha hnd hid).symm))

/-- an entry of table `T` is replaced by one that holds the same: `absorb` with nothing held by the call -/
theorem sameHolds {α : Type} (T : Tab α) {a a' : α} (h : At w0 w (foot (tables w))) (ha : a ∈ T.get (tables w))
    (hid : T.id a' = T.id a) (he : (T.holds a).Equiv (T.holds a')) :
    At w0 (T.wset w (Run.upd T.id (T.get (tables w)) a')) (foot (tables (T.wset w (Run.upd T.id (T.get (tables w)) a')))) :=
  absorb T {} h ha (T.nodup _ h.owns.nodupE) hid he

/-- a granted `malloc`: the call holds the new block -/
theorem malloc {site : Site} {sz c : Nat} (h : At w0 w G) (ha : alloc w site sz = (some c, w')) :
    At w0 w' (Foot.key (c, site) ++ G) ∧ w'.m.refusals = w.m.refusals := by
  obtain ⟨hb, hs, _, hr⟩ := h.blk.alloc ha
  obtain ⟨rfl, rfl, -⟩ := alloc_some ha
  exact ⟨⟨evOk_step h.ev hs.n, h.bad0, hb, ⟨h.eq.keys.cons _, h.net, h.tm, h.imm⟩, h.cache, h.step.trans hs, h.acct⟩, hr⟩

/-- a refused `malloc`: only the oracle moves -/
theorem refused {site : Site} {sz : Nat} (h : At w0 w G) (ha : alloc w site sz = (none, w')) :
    At w0 w' G ∧ w'.m.refusals = w.m.refusals + 1 ∧ Same w w' := by
  obtain ⟨rfl, hm⟩ := alloc_none ha
  have hs := EvRegTimer.step_malloc w.m sz
  exact ⟨⟨evOk_step h.ev hs.n, h.bad0, h.blk.refused hm, h.eq, h.cache, h.step.trans hs, h.acct⟩, (malloc_fail hm).1,
    ⟨rfl, rfl, rfl, rfl⟩⟩

/-- `free` of a block the call holds -/
theorem free {c : Nat} {s : Site} (h : At w0 w (Foot.key (c, s) ++ G)) :
    release w c = { w with m := w.m.free false, live := eraseId w.live c } ∧ At w0 (release w c) G := by
  obtain ⟨b, hb, hkb⟩ := List.mem_map.1 (h.eq.keys.mem_iff.2 List.mem_cons_self)
  obtain ⟨rfl, rfl⟩ : b.id = c ∧ b.site = s := Prod.mk.inj hkb
  obtain ⟨hrel, hb'⟩ := h.blk.release hb
  refine ⟨hrel, ?_⟩
  rw [hrel]
  exact ⟨evOk_step h.ev (Nat.le_of_eq (free_facts w.m false).2.2.2.symm), h.bad0, hb',
    ⟨perm_erase_key h.eq.keys h.blk.live_nodup hb, h.net, h.tm, h.imm⟩, h.cache, h.step.trans (EvRegTimer.step_free w.m false), h.acct⟩

theorem evAcct_setEv {e' : Ev} {m' : Mem} (h : EvAcct w) (hl : m'.live - w.m.live = evBlocks e' - evBlocks w.ev)
    (ha : AcctInv e') : EvAcct (setEv w e' m') := by
  refine ⟨?_, ha⟩
  show w.evLive + (m'.live - w.m.live) = evBlocks e'
  rw [h.1, hl]; omega

/-- a call into the event layer — one of its six operations, each of which leaves `Kept` (`Proofs/EvRegAcct.lean`) —:
the registrations become those of `G'` -/
theorem kept {e' : Ev} {m' : Mem} (h : At w0 w G) (K : Kept w.ev w.m e' m') (hk : G'.keys = G.keys)
    (r1 : (regNet e').Perm G'.net) (r2 : (regTimers e').Perm G'.tm) (r3 : (regImm e').flatten.Perm G'.imm) :
    At w0 (setEv w e' m') G' :=
  ⟨⟨K.net, K.tm, K.heads⟩, h.bad0, h.blk.setEv e' m' K.step.n, ⟨hk ▸ h.eq.keys, r1, r2, r3⟩, h.cache, h.step.trans K.step,
   fun a => evAcct_setEv (h.acct a) (K.acct (h.acct a).2).2 (K.acct (h.acct a).2).1⟩

/-- … that has left the registry as it was -/
theorem keptSame {e' : Ev} {m' : Mem} (h : At w0 w G) (K : Kept w.ev w.m e' m') (hreg : registry e' = registry w.ev) :
    At w0 (setEv w e' m') G := by
  refine h.kept K rfl ?_ ?_ ?_
  · show (registry e').net.Perm _; rw [hreg]; exact h.net
  · show (registry e').timers.Perm _; rw [hreg]; exact h.tm
  · show (registry e').imm.flatten.Perm _; rw [hreg]; exact h.imm

/-- `events_network_register`: on success the call holds the registration and nothing was refused; otherwise the
registry is as it was, and a request was refused if the descriptor could be waited for (`fdOk`) -/
theorem netReg {id s : Nat} {wr : Bool} {res : NetRes} {e' : Ev} {m' : Mem} (h : At w0 w G)
    (hnr : EvReg.netReg w.ev id s wr w.m = (res, e', m')) :
    (res = .ok → At w0 (setEv w e' m') ({ net := [(s, wr, id)] } ++ G) ∧ m'.refusals = w.m.refusals) ∧
    (res ≠ .ok → At w0 (setEv w e' m') G ∧ registry e' = registry w.ev ∧
      (fdOk w s wr → w.m.refusals < m'.refusals)) := by
  obtain ⟨K, hri, hrt, hok, hno⟩ := netReg_kept h.ev.net h.ev.tm h.ev.heads hnr
  exact ⟨fun hr => ⟨h.kept K rfl ((hok hr).1.trans (h.net.cons _)) (hrt ▸ h.tm) (hri ▸ h.imm), (hok hr).2⟩,
    fun hr => ⟨h.keptSame K (hno hr).1, (hno hr).1, fun hf => (hno hr).2 hf.1 hf.2⟩⟩

/-- `events_network_cancel` of a registration the call holds: cannot fail; requests nothing while the record pool
has room -/
theorem netCancel {id s : Nat} {wr : Bool} {res : NetRes} {e' : Ev} {m' : Mem}
    (h : At w0 w ({ net := [(s, wr, id)] } ++ G)) (hnc : EvReg.netCancel w.ev s wr w.m = (res, e', m')) :
    res = .ok ∧ At w0 (setEv w e' m') G ∧ (w.ev.recPool.stacklen < w.ev.recPool.allocsize → m'.n = w.m.n) := by
  obtain ⟨hres, K, hperm, hrt, hri, hna⟩ :=
    netCancel_kept h.ev.net h.ev.tm h.ev.heads (h.net.mem_iff.2 List.mem_cons_self) hnc
  exact ⟨hres, h.kept K rfl (hperm.symm.trans h.net).cons_inv (hrt ▸ h.tm) (hri ▸ h.imm), hna⟩

/-- `events_immediate_register` at priority 0 -/
theorem immReg {id : Nat} {ok : Bool} {e' : Ev} {m' : Mem} (h : At w0 w G)
    (hir : EvReg.immReg w.ev id 0 w.m = (ok, e', m')) :
    (ok = true → At w0 (setEv w e' m') ({ imm := [id] } ++ G) ∧ m'.refusals = w.m.refusals) ∧
    (ok = false → At w0 (setEv w e' m') G ∧ registry e' = registry w.ev ∧ w.m.refusals < m'.refusals) := by
  obtain ⟨K, hrt, hrn, hok, hno⟩ := immReg_kept h.ev.net h.ev.tm h.ev.heads hir
  exact ⟨fun hk => ⟨h.kept K rfl (hrn ▸ h.net) (hrt ▸ h.tm) ((hok hk).1.trans (h.imm.cons _)), (hok hk).2⟩,
    fun hk => ⟨h.keptSame K (hno hk).1, hno hk⟩⟩

/-- `events_immediate_cancel` of an event the call holds (and that nothing else holds) -/
theorem immediateCancel {c : Nat} (h : At w0 w ({ imm := [c] } ++ G)) (hc : c ∉ G.imm) (hnd : G.imm.Nodup) :
    ∃ e2 m2, AllocFail.immediateCancel w c = setEv w e2 m2 ∧ At w0 (setEv w e2 m2) G ∧
      regImm e2 = (regImm w.ev).map (·.filter (· != c)) ∧ regTimers e2 = regTimers w.ev ∧ regNet e2 = regNet w.ev := by
  have hnd' : (regImm w.ev).flatten.Nodup := h.imm.nodup_iff.2 (List.nodup_cons.2 ⟨hc, hnd⟩)
  obtain ⟨e2, m2, hcan, K, hri, hrt, hrn⟩ :=
    immCancel_kept h.ev.net h.ev.tm h.ev.heads (h.imm.mem_iff.2 List.mem_cons_self) hnd'
  refine ⟨e2, m2, by simp only [AllocFail.immediateCancel, hcan], h.kept K rfl (hrn ▸ h.net) (hrt ▸ h.tm) ?_, hri, hrt, hrn⟩
  rw [hri, ← List.filter_flatten]
  exact perm_filter_ne hnd' h.imm

/-- `events_timer_register` of an id that has no timer yet -/
theorem tmReg {id : Nat} {usec : Int} {ok : Bool} {e' : Ev} {m' : Mem} (h : At w0 w G) (hid : id ∉ G.tm)
    (htr : EvReg.tmReg w.ev id usec w.now w.m = (ok, e', m')) :
    (ok = true → At w0 (setEv w e' m') ({ tm := [id] } ++ G) ∧ regTimers e' = id :: regTimers w.ev ∧
      regImm e' = regImm w.ev ∧ regNet e' = regNet w.ev ∧ m'.refusals = w.m.refusals) ∧
    (ok = false → At w0 (setEv w e' m') G ∧ registry e' = registry w.ev ∧
      (w.ev.timers.length < 2^32 → w.m.refusals < m'.refusals)) := by
  obtain ⟨K, hri, hrn, hok, hno⟩ :=
    tmReg_kept h.ev.net h.ev.tm h.ev.heads (fun hx => hid (h.tm.mem_iff.1 hx)) htr
  exact ⟨fun hk => ⟨h.kept K rfl (hrn ▸ h.net) ((List.Perm.of_eq (hok hk).1).trans (h.tm.cons _)) (hri ▸ h.imm),
      (hok hk).1, hri, hrn, (hok hk).2⟩,
    fun hk => ⟨h.keptSame K (hno hk).1, hno hk⟩⟩

/-- `events_timer_cancel` of a timer the call holds -/
theorem timerCancel {c : Nat} (h : At w0 w ({ tm := [c] } ++ G)) :
    ∃ e2 m2, AllocFail.timerCancel w c = setEv w e2 m2 ∧ At w0 (setEv w e2 m2) G ∧
      regTimers e2 = (regTimers w.ev).filter (· != c) ∧ regImm e2 = regImm w.ev ∧ regNet e2 = regNet w.ev := by
  obtain ⟨e2, m2, hcan, K, hrt, hri, hrn⟩ :=
    tmCancel_kept h.ev.net h.ev.tm h.ev.heads (h.tm.mem_iff.2 List.mem_cons_self)
  refine ⟨e2, m2, by simp only [AllocFail.timerCancel, hcan], h.kept K rfl (hrn ▸ h.net) ?_ (hri ▸ h.imm), hrt, hri, hrn⟩
  rw [hrt]
  exact perm_filter_ne h.ev.tm.nodup h.tm

/-- a call made inside the call -/
theorem andThen {w1 : World} (h : At w0 w G) (h' : At w w1 G') : At w0 w1 G' :=
  { h' with step := h.step.trans h'.step, acct := fun a => h'.acct (h.acct a) }

end At

/-- the call that began in `w` has come to rest in `w'`: the invariant holds again -/
abbrev Arrives (w w' : World) : Prop := At w w' (foot (tables w'))

/-- a failed call's last step: it frees the one block it holds, with the registry as it was -/
theorem At.giveBack {w wb : World} {c sz : Nat} {s : Site} (hb : w.bad = 0)
    (h : At w wb (Foot.key (c, s) ++ foot (tables w))) (hl : wb.live = ⟨c, s, sz⟩ :: w.live) (ht : tables wb = tables w)
    (hreg : registry wb.ev = registry w.ev) :
    Arrives w (release wb c) ∧ Same w (release wb c) ∧ (release wb c).m.refusals = wb.m.refusals := by
  obtain ⟨hrel, h3⟩ := h.free
  rw [hrel] at h3 ⊢
  refine ⟨?_, ⟨?_, ht, hreg, h3.bad0.trans hb.symm⟩, (free_facts wb.m false).1⟩
  · rw [← ht] at h3; exact h3
  · show eraseId wb.live c = w.live
    rw [hl]; exact eraseId_head _ w.live

/-- a rung of a set-up ladder: the call has just allocated `c`, the next allocation is refused, and the ladder's `err1`
frees `c`: everything is as it was before `c` but the oracle, which has refused once -/
theorem At.allocRefusedFree {w0 w w1 w2 : World} {G : Foot} {s1 s2 : Site} {z1 z2 c : Nat} (h : At w0 w G)
    (ha1 : alloc w s1 z1 = (some c, w1)) (ha2 : alloc w1 s2 z2 = (none, w2)) :
    At w0 (release w2 c) G ∧ Same w (release w2 c) ∧ w.m.refusals < (release w2 c).m.refusals ∧ (release w2 c).ev = w.ev := by
  obtain ⟨h1, hr1⟩ := h.malloc ha1
  obtain ⟨h2, hr2, -⟩ := h1.refused ha2
  obtain ⟨hrel, h3⟩ := h2.free
  obtain ⟨rfl, -⟩ := alloc_none ha2
  obtain ⟨rfl, rfl, -⟩ := alloc_some ha1
  rw [hrel] at h3 ⊢
  exact ⟨h3, ⟨eraseId_head _ _, rfl, rfl, rfl⟩, by
    show _ < (Mem.free _ false).refusals
    rw [(free_facts _ _).1, hr2, hr1]; exact Nat.lt_succ_self _, rfl⟩

/-! ## the calls that make a new object -/

/-- What a call that makes a new object promises about its outcome `R` (`R.1 = none` is the NULL return): the
invariant is kept; a failure leaves alone what a failed call must leave alone; a success is described by `P c W` for
the new object `c` and the new world `W`; a refused request makes the call fail; and if the call was `ready`, a failure
comes from a refused request. -/
structure NewPost (w : World) (R : Option Nat × World) (P : Nat → World → Prop) (ready : Prop) : Prop where
  arr : Arrives w R.2
  same : R.1 = none → Same w R.2
  ok : ∀ c, R.1 = some c → P c R.2
  refused : R.2.m.refusals ≠ w.m.refusals → R.1 = none
  cause : R.1 = none → ready → w.m.refusals < R.2.m.refusals

theorem NewPost.inv {w : World} {R : Option Nat × World} {P : Nat → World → Prop} {r : Prop} (hp : NewPost w R P r) :
    Inv0 R.2 := hp.arr.inv0

/-- the first allocation of the call is refused -/
theorem NewPost.of_refused {w w' : World} {site : Site} {sz : Nat} {P : Nat → World → Prop} {r : Prop} (h : Inv0 w)
    (ha : alloc w site sz = (none, w')) : NewPost w (none, w') P r := by
  obtain ⟨h1, hr, hsame⟩ := h.at.refused ha
  obtain ⟨rfl, -⟩ := alloc_none ha
  exact ⟨h1, fun _ => hsame, nofun, fun _ => rfl, fun _ _ => by rw [hr]; exact Nat.lt_succ_self _⟩

/-! ## refusals and the outcome of a call -/

/-- What the outcome `R` of a call begun in `w` has to do with refused requests: success needs none, a refusal means
failure, and if the call was `ready` a failure comes from a refusal. -/
structure Refusals (w : World) (ready : Prop) (R : Rc × World) : Prop where
  ok : R.1 = .ok → R.2.m.refusals = w.m.refusals
  refused : R.2.m.refusals ≠ w.m.refusals → R.1 = .fail
  cause : R.1 = .fail → ready → w.m.refusals < R.2.m.refusals

namespace Refusals
variable {w w1 W : World} {ready ready1 : Prop} {rc : Rc} {R : Rc × World}

/-- no failure and no refusal -/
theorem quiet (hrc : rc ≠ .fail) (h : W.m.refusals = w.m.refusals) : Refusals w ready (rc, W) :=
  ⟨fun _ => h, fun hne => absurd h hne, fun hf => absurd hf hrc⟩

theorem fail_of (h : ready → w.m.refusals < W.m.refusals) : Refusals w ready (.fail, W) :=
  ⟨nofun, fun _ => rfl, fun _ => h⟩

/-- the call began in `w`, reached `w1` without a refusal, and what is said of `R` is said from there -/
theorem after (hp : Refusals w1 ready1 R) (href : w1.m.refusals = w.m.refusals) (hr : ready → ready1) :
    Refusals w ready R :=
  ⟨fun h => (hp.ok h).trans href, fun hne => hp.refused (href ▸ hne), fun hf hd => href ▸ hp.cause hf (hr hd)⟩

end Refusals

end Percival.Proofs.AllocFailUpper
