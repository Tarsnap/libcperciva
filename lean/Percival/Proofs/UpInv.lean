import Percival.Proofs.UpStep
import Percival.Proofs.UpVis
import Percival.Proofs.AFUAcct
/-!
# C14, component `upstart`: the invariant of the protocol state, kept by a call that is carried out and booked

`UInv s`: the proved invariants of the world (`Inv`, `EvAcct`); `HInv s`: the objects named in the handle table of kind
`k` are exactly the objects of that kind the harness may release (`Vis`), no handle and no object occurs twice, handles
are `< 32`; `FdB`: buffered readers / writers sit on slot descriptors; `ResvOk s`: for every writer handle, if the writer
is `reserved` then its last buffer has at least `resvOf s h` bytes free — what `netbuf_write_consume` asserts
(`consumeOk`) when the harness' own check `len ≤ resvOf s h` passes.  `CInv t n` (at most `n` connects outstanding, writes
and writers on descriptors ≥ 64) is kept beside it.  `uinv_call`: `book` does to the handle tables what the call does
to the world (`delta`, `fds_ev`, `conns_ev`, `reserved_ev`).
-/
namespace Percival.Proofs.UpMonSound
open Percival.Model Percival.Model.EvReg Percival.Model.AllocFail Percival.Model.UpStep
open Percival.Proofs.AllocFailUpper
open Percival.Model.Connect (AddrOutcome)

def tab (s : S) : K → List (Nat × Nat)
  | .rd => s.rd | .wr => s.wr | .acc => s.acc | .conn => s.conn | .nbr => s.nbr | .nbw => s.nbw | .http => s.http

theorem look_none {t : List (Nat × Nat)} {h : Nat} (hl : look t h = none) : h ∉ t.map (·.1) := by
  unfold look at hl
  simp only [Option.map_eq_none_iff, List.find?_eq_none] at hl
  intro hm
  obtain ⟨p, hp, rfl⟩ := List.mem_map.1 hm
  exact hl p hp (by simp)

theorem look_some {t : List (Nat × Nat)} {h c : Nat} (hl : look t h = some c) : (h, c) ∈ t := by
  unfold look at hl
  simp only [Option.map_eq_some_iff] at hl
  obtain ⟨p, hp, rfl⟩ := hl
  have h1 := List.mem_of_find?_eq_some hp
  have h2 := List.find?_some hp
  simp only [beq_iff_eq] at h2
  rw [← h2]; exact h1

theorem obj_some {t : List (Nat × Nat)} {h c : Nat} (ho : obj t h = some c) : h < MAXOBJ ∧ look t h = some c := by
  unfold obj at ho
  split at ho
  · exact ⟨‹_›, ho⟩
  · cases ho

structure TabGood (t : List (Nat × Nat)) : Prop where
  hnd : (t.map (·.1)).Nodup
  ond : (t.map (·.2)).Nodup
  hlt : ∀ p ∈ t, p.1 < MAXOBJ

theorem TabGood.cons {t : List (Nat × Nat)} (g : TabGood t) {h c : Nat} (hl : look t h = none)
    (hc : c ∉ t.map (·.2)) (hlt : h < MAXOBJ) : TabGood ((h, c) :: t) :=
  ⟨by simp only [List.map_cons, List.nodup_cons]; exact ⟨look_none hl, g.hnd⟩,
   by simp only [List.map_cons, List.nodup_cons]; exact ⟨hc, g.ond⟩,
   fun p hp => by rcases List.mem_cons.1 hp with rfl | hp; exact hlt; exact g.hlt p hp⟩

theorem TabGood.drop {t : List (Nat × Nat)} (g : TabGood t) (h : Nat) : TabGood (drop t h) :=
  ⟨(List.filter_sublist.map _).nodup g.hnd, (List.filter_sublist.map _).nodup g.ond,
   fun p hp => g.hlt p (List.mem_filter.1 hp).1⟩

theorem mem_drop_objs {t : List (Nat × Nat)} (g : TabGood t) {h c : Nat} (hl : look t h = some c) (c' : Nat) :
    c' ∈ (drop t h).map (·.2) ↔ (c' ∈ t.map (·.2) ∧ c' ≠ c) := by
  have hm := look_some hl
  unfold UpStep.drop
  simp only [List.mem_map, List.mem_filter, bne_iff_ne, ne_eq]
  constructor
  · rintro ⟨p, ⟨hp, hne⟩, rfl⟩
    refine ⟨⟨p, hp, rfl⟩, fun he => hne ?_⟩
    have := Keys.inj g.ond hp hm he
    rw [this]
  · rintro ⟨⟨p, hp, rfl⟩, hne⟩
    refine ⟨p, ⟨hp, fun he => hne ?_⟩, rfl⟩
    have := Keys.inj g.hnd hp hm he
    rw [this]

structure HInv (s : S) : Prop where
  vis : ∀ k c, c ∈ (tab s k).map (·.2) ↔ Vis (tables s.w) k c
  good : ∀ k, TabGood (tab s k)

/-! In `hinv_same`, `hinv_add`, `hinv_del` the last argument says what `book` did to the handle tables; it holds by
computation for each kind. -/

theorem hinv_same {s s' : S} (H : HInv s) (hd : Delta (tables s.w) (tables s'.w) none none)
    (htab : ∀ k, tab s' k = tab s k := by intro k; cases k <;> rfl) : HInv s' :=
  ⟨fun k c => by rw [htab, delta_same.1 hd, H.vis], fun k => by rw [htab]; exact H.good k⟩

theorem hinv_add {s s' : S} (H : HInv s) (k0 : K) (h c : Nat)
    (hd : Delta (tables s.w) (tables s'.w) (some (k0, c)) none)
    (hl : look (tab s k0) h = none) (hlt : h < MAXOBJ) (hf : ¬ Vis (tables s.w) k0 c)
    (htab : ∀ k, tab s' k = if k = k0 then (h, c) :: tab s k0 else tab s k := by intro k; cases k <;> rfl) :
    HInv s' := by
  refine ⟨fun k c' => ?_, fun k => ?_⟩ <;> rw [htab] <;> by_cases hk : k = k0
  · subst hk
    rw [if_pos rfl, delta_add.1 hd, ← H.vis]
    exact add_iff
  · rw [if_neg hk, delta_add.1 hd, H.vis]
    exact frame_add hk
  · subst hk
    rw [if_pos rfl]
    exact (H.good k).cons hl (fun hm => hf ((H.vis k c).1 hm)) hlt
  · rw [if_neg hk]; exact H.good k

theorem hinv_del {s s' : S} (H : HInv s) (k0 : K) (h c : Nat)
    (hd : Delta (tables s.w) (tables s'.w) none (some (k0, c))) (hl : look (tab s k0) h = some c)
    (htab : ∀ k, tab s' k = if k = k0 then drop (tab s k0) h else tab s k := by intro k; cases k <;> rfl) :
    HInv s' := by
  refine ⟨fun k c' => ?_, fun k => ?_⟩ <;> rw [htab] <;> by_cases hk : k = k0
  · subst hk
    rw [if_pos rfl, delta_del.1 hd, mem_drop_objs (H.good k) hl, H.vis]
    exact and_congr_right' ⟨fun h e => h e.2, fun h e => h ⟨rfl, e⟩⟩
  · rw [if_neg hk, delta_del.1 hd, H.vis]
    exact frame_del hk
  · subst hk
    rw [if_pos rfl]
    exact (H.good k).drop h
  · rw [if_neg hk]; exact H.good k

theorem hinv_book (s : S) (op : UOp) (c0 : LOp) (ok : Bool) (H : HInv s) (hI : Inv s.w)
    (hc : callOf s op = some c0) (hnc : (stepR s.w c0).1 ≠ .contract) :
    HInv { book s op (call s.w c0).2.1 ok with w := (stepR s.w c0).2 } := by
  have hev := tabStep_stepR s.w c0 hI hnc
  have hd := delta hev hI.owns.nodupE hI.refs
  have hfr := add_fresh hev
  generalize (call s.w c0).2.1 = o at hev hd hfr ⊢
  cases stands_of_callOf hc with
  | start k h sl hlt _ hl =>
    cases k <;> cases o
    · exact hinv_same H hd
    · exact hinv_add H .rd h _ hd hl hlt (hfr _ _ rfl)
    · exact hinv_same H hd
    · exact hinv_add H .wr h _ hd hl hlt (hfr _ _ rfl)
    · exact hinv_same H hd
    · exact hinv_add H .acc h _ hd hl hlt (hfr _ _ rfl)
  | nbrInit h sl hlt _ hl =>
    cases o
    · exact hinv_same H hd
    · exact hinv_add H .nbr h _ hd hl hlt (hfr _ _ rfl)
  | nbwInit h sl hlt _ hl =>
    cases o
    · exact hinv_same H hd
    · exact hinv_add H .nbw h _ hd hl hlt (hfr _ _ rfl)
  | ncStart h a tm hlt hl =>
    cases o
    · exact hinv_same H hd
    · exact hinv_add H .conn h _ hd hl hlt (hfr _ _ rfl)
  | hqStart h a pl hlt hl =>
    cases o
    · exact hinv_same H hd
    · exact hinv_add H .http h _ hd hl hlt (hfr _ _ rfl)
  | hqsStart h a pl hn hlt hl =>
    cases o
    · exact hinv_same H hd
    · exact hinv_add H .http h _ hd hl hlt (hfr _ _ rfl)
  | nbrWait | nbwConsume | nbwWrite => exact hinv_same H hd
  | nbwReserve => exact hinv_same H hd (fun k => by cases ok <;> cases k <;> rfl)
  | rel k h c ho =>
    have hl := (obj_some ho).2
    cases k
    · exact hinv_del H .rd h c hd hl
    · exact hinv_del H .wr h c hd hl
    · exact hinv_del H .acc h c hd hl
    · exact hinv_del H .conn h c hd hl
    · exact hinv_del H .http h c hd hl
    · exact hinv_del H .nbw h c hd hl
    · exact hinv_same H hd
    · exact hinv_del H .nbr h c hd hl

def ResvOk (s : S) : Prop :=
  ∀ p ∈ s.nbw, ∀ x ∈ s.w.writers, x.id = p.2 → x.reserved = true →
    ∃ wb, x.queue.getLast? = some wb ∧ resvOf s p.1 ≤ wb.buflen - wb.datalen

theorem look_drop_ne (t : List (Nat × Nat)) {h h' : Nat} (hne : h' ≠ h) : look (UpStep.drop t h) h' = look t h' := by
  unfold look UpStep.drop
  congr 1
  induction t with
  | nil => rfl
  | cons p rest ih =>
    simp only [List.filter_cons]
    cases hb : (p.1 != h) with
    | false =>
      have hp : p.1 = h := by simpa using hb
      have hq : (p.1 == h') = false := by
        rw [hp]; simp only [beq_eq_false_iff_ne, ne_eq]; exact fun e => hne e.symm
      simp only [Bool.false_eq_true, if_false, List.find?_cons, hq, ih]
    | true =>
      simp only [if_true, List.find?_cons, ih]

theorem look_cons_self (t : List (Nat × Nat)) (h v : Nat) : look ((h, v) :: t) h = some v := by
  simp [look]

theorem look_cons_ne (t : List (Nat × Nat)) {h h' : Nat} (v : Nat) (hne : h' ≠ h) : look ((h, v) :: t) h' = look t h' := by
  have : ¬ h = h' := fun e => hne e.symm
  simp [look, this]

theorem callOf_is_reserve {s : S} {op : UOp} {wid len : Nat} (hc : callOf s op = some (.nbwReserve wid len)) :
    ∃ h x, op = .nbwReserve h len ∧ obj s.nbw h = some wid ∧ s.w.writers.find? (·.id == wid) = some x ∧
      x.reserved = false := by
  generalize he : AllocFail.Op.nbwReserve wid len = c0 at hc
  cases stands_of_callOf hc with
  | nbwReserve h l wid' x ho hf hres => cases he; exact ⟨h, x, rfl, ho, hf, hres⟩
  | start k => cases k <;> cases he
  | rel k => cases k <;> cases he
  | _ => cases he

theorem resv_book (s : S) (op : UOp) (c0 : LOp) (H : HInv s) (hI : Inv s.w) (R : ResvOk s)
    (hc : callOf s op = some c0) (hnc : (stepR s.w c0).1 ≠ .contract) :
    ResvOk { book s op (call s.w c0).2.1 ((stepR s.w c0).1 == .ok) with w := (stepR s.w c0).2 } := by
  have hev := tabStep_stepR s.w c0 hI hnc
  have hfr := add_fresh hev
  have hre := reserved_ev hev
  have hndw : (s.w.writers.map (·.id)).Nodup := hI.toInv0.ids Tab.writers
  generalize (call s.w c0).2.1 = o at hev hfr hre ⊢
  generalize hok : ((stepR s.w c0).1 == .ok) = ok at ⊢
  intro p hp y hy hid hres
  change p ∈ (book s op o ok).nbw at hp
  change y ∈ (stepR s.w c0).2.writers at hy
  show ∃ wb, y.queue.getLast? = some wb ∧
    (match look (book s op o ok).nbwResv p.1 with | some n => n | none => 0) ≤ wb.buflen - wb.datalen
  have hold : ∀ q ∈ s.nbw, ∀ x ∈ s.w.writers, x.id = q.2 → x.reserved = true →
      ∃ wb, x.queue.getLast? = some wb ∧ (match look s.nbwResv q.1 with | some n => n | none => 0) ≤ wb.buflen - wb.datalen := R
  rcases hre y hy hres with hyold | ⟨x, len, rfl, hrc, hx, hxres, hyid, wb, hq, hlen⟩
  · -- the writer was there (and reserved) before
    cases stands_of_callOf hc with
    | nbwInit h sl =>
      cases o with
      | none => exact hold p hp y hyold hid hres
      | some c =>
        rcases List.mem_cons.1 hp with rfl | hp
        · exact absurd (List.mem_map.2 ⟨y, hyold, hid⟩) (hfr .nbw c rfl)
        · exact hold p hp y hyold hid hres
    | nbwReserve h len wid x hobj hf hxres =>
      cases ok with
      | false => exact hold p hp y hyold hid hres
      | true =>
        obtain ⟨hxm, hxid⟩ := Run.find_key (fun x : Writer => x.id) hf
        by_cases hph : p.1 = h
        · exfalso
          have hpe : p = (h, wid) := Keys.inj (H.good .nbw).hnd hp (look_some (obj_some hobj).2) hph
          have : y = x := by
            have hs := (forall_split Writer.id hndw hxm (fun z => z.id = wid → z = x)).2
              ⟨fun z _ hne he => absurd (he.trans hxid.symm) hne, fun _ => rfl⟩
            exact hs y hyold (by rw [hid, hpe])
          rw [this, hxres] at hres; cases hres
        · show ∃ wb, _ ∧ (match look ((h, len) :: UpStep.drop s.nbwResv h) p.1 with | some n => n | none => 0) ≤ _
          rw [look_cons_ne _ _ hph, look_drop_ne _ hph]; exact hold p hp y hyold hid hres
    | rel k h c =>
      cases k
      case nbwFree =>
        have hp' := List.mem_filter.1 hp
        have hne : p.1 ≠ h := by simpa using hp'.2
        show ∃ wb, _ ∧ (match look (UpStep.drop s.nbwResv h) p.1 with | some n => n | none => 0) ≤ _
        rw [look_drop_ne _ hne]; exact hold p hp'.1 y hyold hid hres
      all_goals exact hold p hp y hyold hid hres
    | start k => cases k <;> cases o <;> exact hold p hp y hyold hid hres
    | nbrInit | ncStart | hqStart | hqsStart => cases o <;> exact hold p hp y hyold hid hres
    | nbrWait | nbwConsume | nbwWrite => exact hold p hp y hyold hid hres
  · -- the call is the `netbuf_write_reserve` that made room
    obtain ⟨h, x', rfl, hobj, hf, _⟩ := callOf_is_reserve hc
    have hokt : ok = true := by rw [← hok, hrc]; rfl
    subst hokt
    show ∃ wb, _ ∧ (match look ((h, len) :: UpStep.drop s.nbwResv h) p.1 with | some n => n | none => 0) ≤ _
    have hpe : p = (h, x.id) :=
      Keys.inj (H.good .nbw).ond hp (look_some (obj_some hobj).2) (by rw [← hid, hyid])
    rw [hpe, look_cons_self]
    exact ⟨wb, hq, hlen⟩

def FdB (t : Tables) : Prop := (∀ r ∈ t.readers, r.fd < 88) ∧ (∀ x ∈ t.writers, x.fd < 88)

/-- the harness names slot descriptors only -/
theorem callOf_fd {s : S} {op : UOp} {c0 : LOp} (hc : callOf s op = some c0) (fd : Nat) (h : fdOf c0 = some fd) :
    64 ≤ fd ∧ fd < 88 := by
  have slot : ∀ sl, sl < NSLOT → 64 ≤ FDBASE + sl ∧ FDBASE + sl < 88 := fun sl h => by
    simp only [FDBASE, NSLOT] at *; omega
  cases stands_of_callOf hc with
  | start k _ sl _ hsl => cases k <;> cases h <;> exact slot sl hsl
  | nbrInit _ sl _ hsl => cases h; exact slot sl hsl
  | nbwInit _ sl _ hsl => cases h; exact slot sl hsl
  | rel k => cases k <;> cases h
  | _ => cases h

theorem fdB_ev {t t' : Tables} {c0 : LOp} {rc : Rc} {o : Option Nat} (hev : TabStep t c0 rc o t') (hb : FdB t)
    (hnew : ∀ fd, fdOf c0 = some fd → fd < 88) : FdB t' :=
  ⟨(fds_ev hev hnew).1 hb.1, ((fds_ev hev hnew).2 hb.2).1⟩

structure CInv (t : Tables) (n : Nat) : Prop where
  conns : t.conns.length ≤ n
  writes : ∀ r ∈ t.writes, 64 ≤ r.fd
  writers : ∀ x ∈ t.writers, 64 ≤ x.fd

theorem cinv_mono {t : Tables} {n m : Nat} (h : CInv t n) (hnm : n ≤ m) : CInv t m :=
  ⟨Nat.le_trans h.conns hnm, h.writes, h.writers⟩

theorem cinv_ev {t t' : Tables} {c0 : LOp} {rc : Rc} {o : Option Nat} {n : Nat} (hev : TabStep t c0 rc o t') (hb : CInv t n)
    (hnew : ∀ fd, fdOf c0 = some fd → 64 ≤ fd) : CInv t' (n + connCost c0) :=
  ⟨Nat.le_trans (conns_ev hev) (Nat.add_le_add_right hb.conns _), ((fds_ev hev hnew).2 hb.writers).2 hb.writes,
    ((fds_ev hev hnew).2 hb.writers).1⟩

def isConn : UOp → Bool
  | .ncStart _ _ _ => true
  | .hqStart _ _ _ => true
  | .hqsStart _ _ _ _ => true
  | _ => false

theorem callOf_conn {s : S} {op : UOp} {c0 : LOp} (hc : callOf s op = some c0) (h0 : connCost c0 ≠ 0) :
    isConn op = true ∧ ∀ a tm l fd, (c0 = .connect a tm fd ∨ c0 = .http a l fd ∨ ∃ hl, c0 = .https a l fd hl) →
      fd = freshFd s.w := by
  cases stands_of_callOf hc with
  | ncStart | hqStart | hqsStart =>
    exact ⟨rfl, fun a tm l fd h => by rcases h with h | h | ⟨hl, h⟩ <;> cases h; rfl⟩
  | start k => cases k <;> exact absurd rfl h0
  | rel k => cases k <;> exact absurd rfl h0
  | _ => exact absurd rfl h0

/-- no field of `Inv` reads `Mem.f` -/
theorem inv_setF {w : World} (h : Inv w) (f : Nat → Nat → Bool) : Inv (setF w f) :=
  { ev := ⟨h.ev.net, EvRegTimer.tmInv_congr w.ev w.ev w.m _ h.ev.tm rfl rfl (Nat.le_refl _), h.ev.heads⟩
    bad0 := h.bad0, fresh := h.fresh, nodup := h.nodup, owns := h.owns, cacheSites := h.cacheSites
    rd := h.rd, wr := h.wr, regNet := h.regNet, regTm := h.regTm, regImm := h.regImm, acct := h.acct
    refs := h.refs }

theorem evAcct_setF {w : World} (h : EvAcct w) (f : Nat → Nat → Bool) : EvAcct (setF w f) := h

structure UInv (s : S) : Prop where
  inv : Inv s.w
  acct : EvAcct s.w
  tabs : HInv s
  fds : FdB (tables s.w)
  resv : ResvOk s

theorem delta_refl (t : Tables) : Delta t t none none := fun k c => by simp

theorem uinv_setF {s : S} (U : UInv s) (f : Nat → Nat → Bool) : UInv { s with w := setF s.w f } :=
  ⟨inv_setF U.inv f, evAcct_setF U.acct f, hinv_same U.tabs (delta_refl _), U.fds, U.resv⟩

theorem uinv_call {s : S} {op : UOp} {c : LOp} (U : UInv s) (hc : callOf s op = some c)
    (hnc : (stepR s.w c).1 ≠ .contract) :
    UInv { book s op (call s.w c).2.1 ((stepR s.w c).1 == .ok) with w := (stepR s.w c).2 } ∧
    ∀ n, CInv (tables s.w) n → CInv (tables (stepR s.w c).2) (n + connCost c) :=
  have hev := tabStep_stepR s.w c U.inv hnc
  ⟨⟨stepR_inv _ c U.inv, evAcct_stepR _ c U.inv U.acct, hinv_book s op c _ U.tabs U.inv hc hnc,
    fdB_ev hev U.fds fun fd h => (callOf_fd hc fd h).2, resv_book s op c U.tabs U.inv U.resv hc hnc⟩,
   fun _ C => cinv_ev hev C fun fd h => (callOf_fd hc fd h).1⟩

end Percival.Proofs.UpMonSound
