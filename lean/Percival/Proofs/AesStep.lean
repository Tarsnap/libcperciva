import Percival.Model.AesStep
import Percival.Proofs.Aes
import Percival.Proofs.AesCtr
import Percival.Proofs.AesNi
/-! Helper lemmas for the `exec_*` theorems of C02: the function `pmodel aes` runs (`Model.AesStep.stepOp`)
keeps "the Spec-side bookkeeping describes the model's stream object" and therefore never reports `model!=spec`. -/
namespace Percival.Proofs.AesStep
open Percival.Spec Percival.Model Percival.Model.AesCtr Percival.Model.AesStep Percival.Proofs.AesCtr

theorem enc_length (k : Key) (b : List UInt8) (hb : b.length = 16) : (enc k b).length = 16 :=
  Proofs.Aes.cipher_length k.1 b k.2.1 k.2.2 hb

/-- `expandKey` is FIPS-197 KeyExpansion for every 128/256-bit key: the shape test in it never fails -/
theorem expandKey_eq (k : List UInt8) (h : k.length = 16 ∨ k.length = 32) :
    ∃ hwf, expandKey k = some ⟨Aes.keyExpansion k, hwf⟩ := by
  have hs := Proofs.Aes.keyExpansion_spec k h
  have hwf : WfKeys (Aes.keyExpansion k) := ⟨by rw [hs.1]; omega, hs.2⟩
  exact ⟨hwf, by unfold expandKey; rw [if_pos h, dif_pos hwf]⟩

theorem expandKey_none (k : List UInt8) (h : ¬ (k.length = 16 ∨ k.length = 32)) : expandKey k = none := by
  unfold expandKey; rw [if_neg h]

structure LiveOk (l : Live) : Prop where
  inv : Inv enc l.skey l.nonce l.s
  pos : l.s.bytectr.toNat = l.pos

def ExecInv (st : St) : Prop := ∀ l, st.live = some l → LiveOk l

theorem raw_len : raw.pblk.length = 16 := rfl

theorem execInv_live {st : St} {l : Live} (hlive : st.live = some l) (hl : LiveOk l) : ExecInv st := by
  intro l' h'; rw [hlive] at h'; cases h'; exact hl

theorem doStream_spec (hw : Bool) (l : Live) (data : List UInt8) (h : LiveOk l)
    (hlim : l.pos + data.length < 2^64) :
    ∃ l', doStream hw l data = some (l', Ctr.streamAt (enc l.skey) l.nonce l.pos data, true) ∧ LiveOk l' ∧
      l'.skey = l.skey ∧ l'.nonce = l.nonce ∧ l'.pos = l.pos + data.length := by
  obtain ⟨s', hcall, hinv, hctr⟩ :=
    stream_call_spec (enc_length _) hw l.s data h.inv (by rw [h.pos]; exact hlim)
  unfold doStream
  rw [hcall, h.pos]
  simp only [beq_self_eq_true]
  exact ⟨_, rfl, ⟨hinv, by rw [hctr, h.pos]⟩, rfl, rfl, rfl⟩

theorem seekState_spec (key : Key) (nonce : UInt64) (s : Stream Key) (n : Nat) (h : Inv enc key nonce s)
    (hlim : 16 * (n + 1) < 2^64) :
    ∃ s', seekState s n = some s' ∧ s'.pblk = Ctr.counterBlock nonce n ∧ s'.key = s.key ∧ s'.buf = s.buf ∧
      s'.bytectr.toNat = 16 * (n + 1) ∧ Inv enc key nonce s' := by
  have hb : (UInt64.ofNat (16 * (n + 1))).toNat = 16 * (n + 1) := UInt64.toNat_ofNat_of_lt' hlim
  unfold seekState
  rw [be64enc_eq, UInt64.toNat_ofNat_of_lt' (show n < 2^64 by omega), h.writeCounter]
  refine ⟨_, rfl, rfl, rfl, rfl, hb, inv_counterBlock n h.keyOk rfl ?_ ?_ ?_⟩ <;> simp only [hb]
  · omega
  · omega
  · intro hne; omega

/-- the white-box jump writes down exactly the state a described stream has at byte position `16·(n+1)`,
    except for `buf` (dead at a block boundary: `inv_setBuf`), which it leaves as it was -/
theorem seekState_eq_streamed (key : Key) (nonce : UInt64) (s s' : Stream Key) (n : Nat)
    (h : Inv enc key nonce s) (h' : Inv enc key nonce s') (hp : s'.bytectr.toNat = 16 * (n + 1)) :
    seekState s n = some { s' with buf := s.buf } := by
  have hlim : 16 * (n + 1) < 2^64 := by rw [← hp]; exact UInt64.toNat_lt _
  obtain ⟨s1, h1, hpb, hk, hb, hc, _⟩ := seekState_spec key nonce s n h hlim
  rw [h1]
  have e1 : s1.pblk = s'.pblk := by rw [hpb, h'.pblk_eq (by omega), hp]; congr 1; omega
  have e2 : s1.key = s'.key := by rw [hk, h.keyOk, h'.keyOk]
  have e3 : s1.bytectr = s'.bytectr := UInt64.toNat_inj.mp (by rw [hc, hp])
  cases s1; cases s'
  simp only at e1 e2 e3 hb
  simp [e1, e2, e3, hb]

theorem init_spec (rks : Key) (nonce : UInt64) :
    ∃ s, AesCtr.init raw rks nonce = some s ∧ LiveOk { s := s, skey := rks, nonce := nonce, pos := 0 } := by
  obtain ⟨s0, h0, hinv, hz⟩ := init_of_raw enc raw raw_len rks nonce
  exact ⟨s0, h0, ⟨hinv, hz⟩⟩

theorem ctrBuf_spec (hw : Bool) (rks : Key) (nonce : UInt64) (data : List UInt8) (hlim : data.length < 2^64) :
    ctrBuf enc hw raw rks nonce data = some (Ctr.stream (enc rks) nonce data) :=
  ctrBuf_of_raw enc rks nonce (enc_length rks) raw raw_len hw data hlim

theorem bigStream_spec (st : St) (rks : Key) (nonce : UInt64) (n t : Nat) (again : Bool)
    (hn : 16 ≤ n) (hn' : n ≤ bigLimit) (ht : t ≤ bigTail) :
    ExecInv (bigStream st rks nonce n t again).1 ∧ (bigStream st rks nonce n t again).2.mismatch = false ∧
      (bigStream st rks nonce n t again).2 ≠ .modelOob := by
  obtain ⟨s0, h0, hl0⟩ := init_spec rks nonce
  have hnb : n / 16 - 1 + 1 = n / 16 := by omega
  have hbl : bigLimit = 2^32 + 2^20 := rfl
  have hbt : bigTail = 65536 := rfl
  obtain ⟨s1, h1, _, _, _, hb1, hinv1⟩ := seekState_spec rks nonce s0 (n / 16 - 1) hl0.inv (by omega)
  rw [hnb] at hb1
  have hl1 : LiveOk { s := { s1 with buf := if st.hw then s0.buf else enc rks s1.pblk },
                      skey := rks, nonce := nonce, pos := 16 * (n / 16) } :=
    ⟨inv_setBuf s1 _ hinv1 (by omega), hb1⟩
  obtain ⟨l2, hd2, hl2, hk2, hn2, hp2⟩ := doStream_spec st.hw _ (List.replicate (n % 16) 0) hl1
    (by simp only [List.length_replicate]; omega)
  simp only [List.length_replicate] at hp2
  obtain ⟨l3, hd3, hl3, _, _, _⟩ := doStream_spec st.hw l2 (List.replicate t 0) hl2
    (by simp only [List.length_replicate]; omega)
  unfold bigStream
  simp only [h0, h1, hd2, hd3]
  exact ⟨execInv_live rfl hl3, rfl, by simp⟩

theorem stepOp_inv (st : St) (h : ExecInv st) (op : Op) (hc : op.inContract st = true) :
    ExecInv (stepOp st op).1 ∧ (stepOp st op).2.mismatch = false ∧ (stepOp st op).2 ≠ .modelOob := by
  cases op with
  | malformed => exact ⟨h, rfl, by simp [stepOp]⟩
  | expand k =>
    simp only [stepOp]
    cases expandKey k <;> exact ⟨h, rfl, by simp⟩
  | block blk =>
    unfold stepOp
    cases st.key with
    | none => exact ⟨h, rfl, by simp⟩
    | some rks => simp only []; split <;> exact ⟨h, rfl, by simp⟩
  | init nonce =>
    unfold stepOp
    cases st.key with
    | none => exact ⟨h, rfl, by simp⟩
    | some rks =>
      obtain ⟨s, h0, hl⟩ := init_spec rks nonce
      simp only [h0]
      exact ⟨execInv_live rfl hl, rfl, by simp⟩
  | init2 nonce newkey =>
    unfold stepOp
    cases hlive : st.live with
    | none => exact ⟨h, rfl, by simp⟩
    | some l =>
      have hl := h l hlive
      simp only []
      cases newKeyArg newkey with
      | none => exact ⟨h, rfl, by simp⟩
      | some nk =>
        obtain ⟨s', h2, hinv, hz⟩ := init2_spec enc l.s nk nonce hl.inv.len
        rw [hl.inv.keyOk] at hinv
        simp only [h2]
        exact ⟨execInv_live rfl ⟨hinv, by rw [hz]; rfl⟩, rfl, by simp⟩
  | seek nb =>
    unfold stepOp
    cases hlive : st.live with
    | none => exact ⟨h, rfl, by simp⟩
    | some l =>
      cases nb with
      | zero => exact ⟨h, rfl, by simp⟩
      | succ n =>
        have hlim : 16 * (n + 1) < 2^64 := by simpa [Op.inContract] using hc
        obtain ⟨s', hs, _, _, _, hb, hinv⟩ := seekState_spec l.skey l.nonce l.s n (h l hlive).inv hlim
        simp only [hs]
        exact ⟨execInv_live rfl ⟨hinv, hb⟩, rfl, by simp⟩
  | stream data =>
    unfold stepOp
    cases hlive : st.live with
    | none => exact ⟨h, rfl, by simp⟩
    | some l =>
      have hlim : l.pos + data.length < 2^64 := by simpa [Op.inContract, hlive] using hc
      obtain ⟨l', hd, hl', _⟩ := doStream_spec st.hw l data (h l hlive) hlim
      simp only [hd]
      exact ⟨execInv_live rfl hl', rfl, by simp⟩
  | streamzero n =>
    unfold stepOp
    cases hlive : st.live with
    | none => exact ⟨h, rfl, by simp⟩
    | some l =>
      have hlim : l.pos + (List.replicate n (0 : UInt8)).length < 2^64 := by
        simpa [Op.inContract, hlive] using hc
      obtain ⟨l', hd, hl', _⟩ := doStream_spec st.hw l (List.replicate n 0) (h l hlive) hlim
      simp only [hd]
      exact ⟨execInv_live rfl hl', rfl, by simp⟩
  | bigstream nonce n t again =>
    unfold stepOp
    cases st.key with
    | none => exact ⟨h, rfl, by simp⟩
    | some rks =>
      simp only []
      split
      · exact ⟨h, rfl, by simp⟩
      · exact bigStream_spec st rks nonce n t again (by omega) (by omega) (by omega)
  | buf nonce data =>
    unfold stepOp
    cases st.key with
    | none => exact ⟨h, rfl, by simp⟩
    | some rks =>
      have hlim : data.length < 2^64 := by simpa [Op.inContract] using hc
      simp only [ctrBuf_spec st.hw rks nonce data hlim, beq_self_eq_true]
      exact ⟨h, rfl, by simp⟩
  | free =>
    unfold stepOp
    cases st.live with
    | none => exact ⟨h, rfl, by simp⟩
    | some l => exact ⟨(fun l' h' => nomatch h'), rfl, by simp⟩

theorem init_inv (hw : Bool) : ExecInv { hw := hw } := by intro l h; simp at h

theorem runOps_inv : ∀ (ops : List Op) (st : St), ExecInv st → allInContract st ops = true →
    ExecInv (runOps st ops).1 ∧ ∀ o ∈ (runOps st ops).2, o.mismatch = false ∧ o ≠ .modelOob
  | [], st, h, _ => ⟨h, fun o ho => by cases ho⟩
  | op :: ops, st, h, hc => by
    simp only [allInContract, Bool.and_eq_true] at hc
    obtain ⟨h1, h2, h3⟩ := stepOp_inv st h op hc.1
    obtain ⟨i1, i2⟩ := runOps_inv ops _ h1 hc.2
    refine ⟨i1, ?_⟩
    intro o ho
    simp only [runOps, List.mem_cons] at ho
    rcases ho with rfl | ho
    · exact ⟨h2, h3⟩
    · exact i2 o ho

theorem stepOp_stream (st : St) (l : Live) (data : List UInt8) (hlive : st.live = some l) (hl : LiveOk l)
    (hlim : l.pos + data.length < 2^64) :
    ∃ l', stepOp st (.stream data) = ({ st with live := some l' },
        .stream (Ctr.streamAt (enc l.skey) l.nonce l.pos data) true l'.s) ∧ LiveOk l' ∧
      l'.skey = l.skey ∧ l'.nonce = l.nonce ∧ l'.pos = l.pos + data.length := by
  obtain ⟨l', hd, hl', h1, h2, h3⟩ := doStream_spec st.hw l data hl hlim
  refine ⟨l', ?_, hl', h1, h2, h3⟩
  simp only [stepOp, hlive, hd]

theorem runStreams_spec : ∀ (ds : List (List UInt8)) (st : St) (l : Live), st.live = some l → LiveOk l →
    l.pos + ds.flatten.length < 2^64 →
    (runOps st (ds.map .stream)).2.length = ds.length ∧
    (∀ o ∈ (runOps st (ds.map .stream)).2, ∃ w s, o = .stream w true s) ∧
    ((runOps st (ds.map .stream)).2.map Out.want).flatten = Ctr.streamAt (enc l.skey) l.nonce l.pos ds.flatten
  | [], st, l, _, _, _ => by simp [runOps, streamAt_nil]
  | d :: ds, st, l, hlive, hl, hlim => by
    rw [List.flatten_cons, List.length_append] at hlim
    obtain ⟨l', hs, hl', hk, hn, hp⟩ := stepOp_stream st l d hlive hl (by omega)
    obtain ⟨i1, i2, i3⟩ := runStreams_spec ds { st with live := some l' } l' rfl hl' (by rw [hp]; omega)
    simp only [List.map_cons, runOps, hs]
    refine ⟨by simp [i1], ?_, ?_⟩
    · intro o ho
      rcases List.mem_cons.mp ho with rfl | ho
      · exact ⟨_, _, rfl⟩
      · exact i2 o ho
    · rw [List.flatten_cons, i3, hk, hn, hp, List.flatten_cons,
        streamAt_append (enc_length l.skey)]
      rfl

def KeyInv (st : St) : Prop :=
  ∀ rks, st.key = some rks → ∃ k, (k.length = 16 ∨ k.length = 32) ∧ rks.1 = Aes.keyExpansion k ∧
    st.nikey = AesNi.keyExpand k

/-- only `expand` touches the keys, and it sets both from the same bytes; so in hw mode the ciphertext of the
    instruction-level model in a `block` answer (L2) is the Spec's (L1), and the round keys in an `expand` answer are
    FIPS-197's -/
theorem stepOp_keys (st : St) (h : KeyInv st) (op : Op) :
    KeyInv (stepOp st op).1 ∧ (∀ ct ni, (stepOp st op).2 = .block ct (some ni) → ni = some ct) ∧
      (∀ rk, (stepOp st op).2 = .expanded (some rk) → ∃ k, rk = some (Aes.keyExpansion k).flatten) := by
  cases op with
  | expand k =>
    simp only [stepOp]
    by_cases hk : k.length = 16 ∨ k.length = 32
    · obtain ⟨hwf, he⟩ := expandKey_eq k hk
      rw [he, Proofs.AesNi.keyExpand_eq_fips k hk]
      refine ⟨fun rks' hr => ⟨k, hk, by rw [← Option.some.inj hr], (Proofs.AesNi.keyExpand_eq_fips k hk).symm⟩, by simp, ?_⟩
      intro rk ho
      by_cases hhw : st.hw = true
      · rw [if_pos hhw] at ho
        exact ⟨k, (Option.some.inj (Out.expanded.inj ho)).symm⟩
      · rw [if_neg hhw] at ho; cases ho
    · rw [expandKey_none k hk]; exact ⟨h, by simp, by simp⟩
  | block blk =>
    simp only [stepOp]
    cases hkey : st.key with
    | none => exact ⟨h, by simp, by simp⟩
    | some rks =>
      obtain ⟨k, hk, hr, hn⟩ := h rks hkey
      by_cases hb : blk.length = 16
      · simp only [if_pos hb]
        refine ⟨h, fun ct ni ho => ?_, by simp⟩
        obtain ⟨h1, h2⟩ := Out.block.inj ho
        by_cases hhw : st.hw = true
        · rw [if_pos hhw, hn, Proofs.AesNi.niKey_encrypt k blk hk hb, ← hr, h1] at h2
          exact (Option.some.inj h2).symm
        · rw [if_neg hhw] at h2; cases h2
      · simp only [if_neg hb]; exact ⟨h, by simp, by simp⟩
  | bigstream nonce n t again =>
    simp only [stepOp, bigStream]
    repeat' split
    all_goals exact ⟨h, by simp, by simp⟩
  | _ =>
    simp only [stepOp]
    repeat' split
    all_goals exact ⟨h, by simp, by simp⟩

theorem runOps_hw_l2 : ∀ (ops : List Op) (st : St), KeyInv st →
    ∀ o ∈ (runOps st ops).2, (∀ ct ni, o = .block ct (some ni) → ni = some ct) ∧
      (∀ rk, o = .expanded (some rk) → ∃ k, rk = some (Aes.keyExpansion k).flatten)
  | [], _, _ => fun o ho => by cases ho
  | op :: ops, st, h => by
    intro o ho
    simp only [runOps, List.mem_cons] at ho
    rcases ho with rfl | ho
    · exact (stepOp_keys st h op).2
    · exact runOps_hw_l2 ops _ (stepOp_keys st h op).1 o ho

theorem init_keyInv (hw : Bool) : KeyInv { hw := hw } := by intro rks h; simp at h

end Percival.Proofs.AesStep
