import Percival.Model.CStr
/-! What a buffer holds from an offset on.  `At b i l`: from offset `i` the buffer `b` holds the bytes `l` (and maybe more
after them); a model loop that walks over `l` reads each byte at its offset (`At.get`) and goes on over a suffix
(`At.drop`).  `StrAt b i s`: from offset `i` the buffer holds the NUL-free bytes `s` and then a NUL, a C string.  Everything
the models do to a string goes through four rules: reading it gives `s` (`StrAt.read`), a byte of `s ++ [0]` is read at
its offset (`StrAt.get`), a suffix is again a string (`StrAt.drop`), and a NUL stored inside it leaves two strings
(`StrAt.cut`). -/
namespace Percival.Proofs
open Percival.Model

theorem rdR_ok (b : Buf) (i : Nat) (h : i < b.size) : rdR b i = .ok b[i] := by
  simp [rdR, rd_lt h]

theorem wr_ok (b : Buf) (i : Nat) (v : UInt8) (h : i < b.size) : wr b i v = .ok (b.set i v) := by
  simp [wr, h]

theorem rdR_toList (b : Buf) (i : Nat) (c : UInt8) (h : b.toList[i]? = some c) : rdR b i = .ok c := by
  simp [rdR, rd_eq_toList, h]

theorem wr_toList (b : Buf) (i : Nat) (v : UInt8) (h : i < b.size) :
    ∃ b', wr b i v = .ok b' ∧ b'.toList = b.toList.set i v ∧ b'.size = b.size :=
  ⟨b.set i v, by simp [wr, h], by simp, by simp⟩

def At (b : Buf) (i : Nat) (l : List UInt8) : Prop := ∃ post, b.toList.drop i = l ++ post

namespace At
variable {b : Buf} {i : Nat} {l : List UInt8}

theorem whole (b : Buf) : At b 0 b.toList := ⟨[], by simp⟩

theorem of_list (l : List UInt8) : At l.toArray 0 l := whole l.toArray

theorem get (h : At b i l) {j : Nat} {c : UInt8} (hj : l[j]? = some c) : rdR b (i + j) = .ok c := by
  obtain ⟨post, hp⟩ := h
  apply rdR_toList
  rw [← List.getElem?_drop, hp, ← hj]
  exact List.getElem?_append_left (List.getElem?_eq_some_iff.mp hj).1

theorem take (h : At b i l) (k : Nat) : At b i (l.take k) := by
  obtain ⟨post, hp⟩ := h
  exact ⟨l.drop k ++ post, by rw [hp, ← List.append_assoc, List.take_append_drop]⟩

theorem head {c : UInt8} (h : At b i (c :: l)) : rdR b i = .ok c := h.get (j := 0) rfl

theorem drop (h : At b i l) (k : Nat) : At b (i + k) (l.drop k) := by
  obtain ⟨post, hp⟩ := h
  by_cases hk : k ≤ l.length
  · exact ⟨post, by rw [← List.drop_drop, hp, List.drop_append_of_le_length hk]⟩
  · exact ⟨b.toList.drop (i + k), by rw [List.drop_eq_nil_of_le (Nat.le_of_lt (Nat.lt_of_not_le hk))]; rfl⟩

end At

def StrAt (b : Buf) (i : Nat) (s : List UInt8) : Prop :=
  (∀ c ∈ s, c ≠ 0) ∧ ∃ post, b.toList.drop i = s ++ 0 :: post

namespace StrAt
variable {b : Buf} {i : Nat} {s : List UInt8}

theorem of_cstr (h0 : ∀ c ∈ s, c ≠ 0) : StrAt (cstr s) 0 s := ⟨h0, [], by simp [cstr]⟩

theorem of_nul (h : (0 : UInt8) ∈ b.toList.drop i) : ∃ s, StrAt b i s := by
  unfold StrAt
  generalize b.toList.drop i = L at h
  induction L with
  | nil => cases h
  | cons x xs ih =>
    by_cases hx : x = 0
    · exact ⟨[], by simp, xs, by simp [hx]⟩
    · obtain ⟨s, h0, post, e⟩ := ih ((List.mem_cons.mp h).resolve_left (Ne.symm hx))
      exact ⟨x :: s, List.forall_mem_cons.mpr ⟨hx, h0⟩, post, by simp [e]⟩

theorem lt (h : StrAt b i s) : i + s.length < b.size := by
  obtain ⟨_, post, hp⟩ := h
  have := congrArg List.length hp
  simp at this
  omega

theorem bytes (h : StrAt b i s) : At b i (s ++ [0]) := by
  obtain ⟨_, post, hp⟩ := h
  exact ⟨post, by rw [hp]; simp⟩

theorem get (h : StrAt b i s) {j : Nat} {c : UInt8} (hj : (s ++ [0])[j]? = some c) : rdR b (i + j) = .ok c :=
  h.bytes.get hj

theorem drop (h : StrAt b i s) (k : Nat) (hk : k ≤ s.length) : StrAt b (i + k) (s.drop k) := by
  obtain ⟨h0, post, hp⟩ := h
  refine ⟨fun c hc => h0 c (List.mem_of_mem_drop hc), post, ?_⟩
  rw [← List.drop_drop, hp, List.drop_append_of_le_length hk]

theorem read (h : StrAt b i s) : cstrAt b i = .ok s := by
  have fuel : ∀ (f : Nat) (i : Nat) (s : List UInt8), StrAt b i s → s.length < f → cstrAtF b f i = .ok s := by
    intro f
    induction f with
    | zero => intro i s _ hf; omega
    | succ f ih =>
      intro i s h hf
      cases s with
      | nil => simp [cstrAtF, show rdR b i = .ok 0 from h.get (j := 0) rfl]
      | cons c s =>
        have := ih (i + 1) s (h.drop 1 (by simp)) (by simpa using hf)
        simp [cstrAtF, show rdR b i = .ok c from h.get (j := 0) rfl, h.1 c, this]
  exact fuel _ i s h (by have := h.lt; omega)

/-- `p[k] = '\0'` inside the string at `i` (or on its terminator): what was before `k` is a string at `i`, what was
    after it a string at `i + k + 1` -/
theorem cut (h : StrAt b i s) (k : Nat) (hk : k ≤ s.length) :
    ∃ b', wr b (i + k) 0 = .ok b' ∧ b'.size = b.size ∧ StrAt b' i (s.take k) ∧
      (k < s.length → StrAt b' (i + k + 1) (s.drop (k + 1))) := by
  have hlt := h.lt
  obtain ⟨h0, post, hp⟩ := h
  obtain ⟨b', hw, hl, hs⟩ := wr_toList b (i + k) 0 (by omega)
  have hd : b'.toList.drop i = s.take k ++ 0 :: (s ++ 0 :: post).drop (k + 1) := by
    rw [hl, List.drop_set, if_neg (by omega), hp, Nat.add_sub_cancel_left, List.set_eq_take_append_cons_drop,
      if_pos (by simp; omega), List.take_append_of_le_length hk]
  refine ⟨b', hw, hs, ⟨fun c hc => h0 c (List.mem_of_mem_take hc), _, hd⟩, fun hk' => ?_⟩
  refine ⟨fun c hc => h0 c (List.mem_of_mem_drop hc), post, ?_⟩
  rw [Nat.add_assoc, ← List.drop_drop, hd, ← List.drop_drop, List.drop_left' (List.length_take_of_le hk),
    List.drop_succ_cons, List.drop_zero, List.drop_append_of_le_length hk']

end StrAt
end Percival.Proofs
