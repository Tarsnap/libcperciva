import Percival.Proofs.AFUCalc
import Percival.Proofs.AFUDefs
import Percival.Proofs.AFUNet
/-!
# C14, upper layers: `netbuf_read_init` / `netbuf_read_wait` / `netbuf_read_wait_cancel` / `netbuf_read_free`

A call on an existing reader takes the reader out of its table (`At.take Tab.readers`: the call holds its two blocks and its
immediate event, if any), does its steps, and puts the changed reader back (`At.give`).  `netbuf_read_wait` is followed in
the three parts its own comments name in `/repo/netbuf/netbuf_read.c` (quoted above each part): line 160 (`nbrImm`), line 169
(`nbrResize`: `netbuf_read_resize_buffer`, lines 107–139), lines 173 and 180 (`nbrStart`); `nbrCancelTail_spec` is line 299 of
`netbuf_read_wait_cancel`; the `err1: free(R)` of `netbuf_read_init2` is lines 86–87.  What the outcome of a part has to do with
refused requests is its last clause, `Refusals w ready R` (`Proofs/AFUCalc.lean`); `Refusals.after` carries it back to the
world in which `netbuf_read_wait` began.
-/
namespace Percival.Proofs.AllocFailUpper
open Percival.Model Percival.Model.EvReg Percival.Model.AllocFail
open Percival.Proofs.EvRegNet (regNet netRegistered NetInv)
open Percival.Proofs.EvRegTimer (regImm regTimers TmInv Step Granted)
open Percival.Proofs.EArray (malloc_ok malloc_fail free_facts)

theorem find_reader {w : World} (h : Inv0 w) {r : Reader} (hr : r ∈ w.readers) :
    w.readers.find? (·.id == r.id) = some r :=
  Keys.find (h.ids Tab.readers) hr

theorem tables_updReader_self {w : World} (h : Inv0 w) {r : Reader} (hr : r ∈ w.readers) :
    tables w = { tables w with readers := updReader w.readers r } := by
  rw [show updReader w.readers r = w.readers from Run.upd_self (fun x : Reader => x.id) (h.ids Tab.readers) hr]
  rfl

theorem tables_setReader (w : World) (r' : Reader) :
    tables (setReader w r') = { tables w with readers := updReader w.readers r' } := rfl

/-- "If we have enough data already, schedule a callback." -/
def nbrImm (w : World) (r : Reader) : Rc × World :=
  match immReg w.ev r.id 0 w.m with
  | (true, e', m') => (.ok, setReader (setEv w e' m') { r with immediate := true })
  | (false, e', m') => (.fail, setEv w e' m')

/-- "Resize the buffer if needed." -/
def nbrResize (w : World) (r : Reader) (len : Nat) : Option Reader × World :=
  if r.buflen < len then
    match alloc w .nbrBuf (NetbufRead.newBuflen r.buflen len) with
    | (none, w1) => (none, w1)
    | (some nb, w1) =>
      (some { r with buf := nb, buflen := NetbufRead.newBuflen r.buflen len, datalen := r.datalen - r.bufpos, bufpos := 0 },
       setReader (release w1 r.buf)
         { r with buf := nb, buflen := NetbufRead.newBuflen r.buflen len, datalen := r.datalen - r.bufpos, bufpos := 0 })
  else (some r, w)

/-- the reader as `network_read` is started: data moved to the start of the buffer if needed, `waitlen` set -/
def nbrR3 (r1 : Reader) (len : Nat) : Reader :=
  { (if r1.buflen - r1.bufpos < len then { r1 with datalen := r1.datalen - r1.bufpos, bufpos := 0 } else r1) with waitlen := len }

/-- "Move data to start of buffer if needed.  Read data into the buffer." -/
def nbrStart (w1 : World) (r1 : Reader) (len : Nat) : Rc × World :=
  match networkRead (setReader w1 (nbrR3 r1 len)) (nbrR3 r1 len).fd with
  | (some c, w3) => (.ok, setReader w3 { nbrR3 r1 len with readCookie := some c })
  | (none, w3) => (.fail, w3)

theorem netbufReadWait_eq {w : World} {r : Reader} (len : Nat) (hfind : w.readers.find? (·.id == r.id) = some r)
    (hidle : (r.readCookie.isSome || r.immediate) = false) :
    netbufReadWait w r.id len =
      if r.datalen - r.bufpos ≥ len then nbrImm w r else
        match nbrResize w r len with
        | (none, w1) => (.fail, w1)
        | (some r1, w1) => nbrStart w1 r1 len := by
  simp only [netbufReadWait, hfind, hidle, Bool.false_eq_true, if_false]
  by_cases hl : r.datalen - r.bufpos ≥ len
  · simp only [hl, if_true]; rfl
  · simp only [hl, if_false]
    unfold nbrResize
    by_cases hq : r.buflen < len
    · simp only [hq, if_true]
      rcases alloc w .nbrBuf (NetbufRead.newBuflen r.buflen len) with ⟨o, w1⟩
      cases o <;> rfl
    · simp only [hq, if_false]; rfl

theorem nbrR3_facts (r1 : Reader) (len : Nat) :
    (nbrR3 r1 len).id = r1.id ∧ (nbrR3 r1 len).buf = r1.buf ∧ (nbrR3 r1 len).fd = r1.fd ∧
    (nbrR3 r1 len).readCookie = r1.readCookie ∧ (nbrR3 r1 len).immediate = r1.immediate ∧
    (nbrR3 r1 len).datalen - (nbrR3 r1 len).bufpos = r1.datalen - r1.bufpos ∧
    (len ≤ r1.buflen → len ≤ (nbrR3 r1 len).buflen - (nbrR3 r1 len).bufpos) := by
  unfold nbrR3
  by_cases hq : r1.buflen - r1.bufpos < len
  · rw [if_pos hq]
    exact ⟨rfl, rfl, rfl, rfl, rfl, Nat.sub_zero _, fun hl => hl⟩
  · rw [if_neg hq]
    exact ⟨rfl, rfl, rfl, rfl, rfl, rfl, fun _ => Nat.le_of_not_lt hq⟩

theorem nbr_newBuflen_ge (b len : Nat) : len ≤ NetbufRead.newBuflen b len := by
  unfold NetbufRead.newBuflen
  generalize b * Gen.Netbuf.growFactor = x
  split <;> omega

theorem readers_setReader (w : World) (r' : Reader) : (setReader w r').readers = updReader w.readers r' := rfl

/-! ## `netbuf_read_init` -/

theorem netbufReadInit_spec (w : World) (fd : Nat) (h : Inv0 w) :
    NewPost w (netbufReadInit w fd)
      (fun x W => ∃ b, W.live = ⟨b, .nbrBuf, Gen.Netbuf.rbufInit⟩ :: ⟨x, .nbrStruct, nbrStructSize⟩ :: w.live ∧
        tables W = { tables w with readers := ⟨x, b, fd, Gen.Netbuf.rbufInit, 0, 0, 0, none, false⟩ :: w.readers } ∧
        W.m.refusals = w.m.refusals) True := by
  unfold netbufReadInit
  rcases ha : alloc w .nbrStruct nbrStructSize with ⟨_ | x, w1⟩
  · exact .of_refused h ha
  · obtain ⟨h1, hr1⟩ := h.at.malloc ha
    simp only
    rcases ha2 : alloc w1 .nbrBuf Gen.Netbuf.rbufInit with ⟨_ | b, w2⟩
    · -- err1: free(R)
      obtain ⟨h3, hs, hlt, -⟩ := h.at.allocRefusedFree ha ha2
      rw [← hs.tables] at h3
      exact ⟨h3, fun _ => hs, nofun, fun _ => rfl, fun _ _ => hlt⟩
    · obtain ⟨h2, hr2⟩ := h1.malloc ha2
      obtain ⟨rfl, rfl, -⟩ := alloc_some ha2
      obtain ⟨rfl, rfl, -⟩ := alloc_some ha
      have h3 := h2.install Tab.readers ⟨w.m.n, _, fd, Gen.Netbuf.rbufInit, 0, 0, 0, none, false⟩
        ⟨.swap _ _ _, .refl _, .refl _, .refl _⟩
      exact ⟨h3, nofun, fun x hx => by cases hx; exact ⟨_, rfl, rfl, hr2.trans hr1⟩, fun hne => absurd (hr2.trans hr1) hne, nofun⟩

/-! ## `netbuf_read_free` -/

theorem netbufReadFree_spec (w : World) (r : Reader) (h : Inv0 w) (hr : r ∈ w.readers) :
    (r.readCookie.isSome = true ∨ r.immediate = true → netbufReadFree w r.id = none) ∧
    (r.readCookie = none → r.immediate = false →
      ∃ w', netbufReadFree w r.id = some w' ∧ Arrives w w' ∧ w'.m.n = w.m.n ∧
        tables w' = { tables w with readers := w.readers.filter (fun x => x.id != r.id) }) := by
  have hnd : (w.readers.map (·.id)).Nodup := h.ids Tab.readers
  have hfind := find_reader h hr
  refine ⟨fun hb => ?_, fun h1 h2 => ?_⟩
  · have hbusy : (r.readCookie.isSome || r.immediate) = true := by rcases hb with hb | hb <;> simp [hb]
    simp only [netbufReadFree, hfind, hbusy, if_true]
  · have hidle : (r.readCookie.isSome || r.immediate) = false := by simp [h1, h2]
    -- the reader's two blocks are the call's, and go: the buffer first
    have h0 := h.at.take Tab.readers hr
    simp only [footReader, h2] at h0
    obtain ⟨hrel1, h1'⟩ := (h0.equiv ⟨.swap _ _ _, .refl _, .refl _, .refl _⟩ :
      At w w (Foot.key (r.buf, .nbrBuf) ++ (Foot.key (r.id, .nbrStruct) ++ _))).free
    obtain ⟨hrel2, h2'⟩ := h1'.free
    simp only [netbufReadFree, hfind, hidle, Bool.false_eq_true, if_false]
    rw [hrel1] at hrel2 h2' ⊢
    rw [hrel2] at h2' ⊢
    exact ⟨_, rfl, h2'.put Tab.readers _ (.refl _), (free_facts _ false).2.2.2.trans (free_facts _ false).2.2.2, rfl⟩

/-! ## `netbuf_read_wait_cancel` -/

/-- what a reader holds, the immediate event first -/
theorem footReader_split (r : Reader) (R : Foot) : (footReader r ++ R).Equiv
    ({ imm := if r.immediate then [r.id] else [] } ++ ({ keys := [(r.id, .nbrStruct), (r.buf, .nbrBuf)] } ++ R)) :=
  ⟨.refl _, .refl _, .refl _, .refl _⟩

/-- "If we have an immediate callback pending, cancel it.", and the reader is idle again -/
theorem nbrCancelTail_spec {w0 w : World} (r : Reader) (h : At w0 w (foot (tables w))) (hr : r ∈ w.readers) :
    Arrives w0 (setReader (if r.immediate then immediateCancel w r.id else w) { r with readCookie := none, immediate := false }) ∧
    tables (setReader (if r.immediate then immediateCancel w r.id else w) { r with readCookie := none, immediate := false }) =
      { tables w with readers := updReader w.readers { r with readCookie := none, immediate := false } } := by
  have hnd : (w.readers.map (·.id)).Nodup := Tab.readers.nodup _ h.owns.nodupE
  have h0 := (h.take Tab.readers hr).equiv (footReader_split r _)
  cases hi : r.immediate with
  | false =>
    rw [hi] at h0
    exact ⟨h0.give Tab.readers (a' := { r with readCookie := none, immediate := false }) hr hnd rfl, rfl⟩
  | true =>
    rw [hi] at h0
    -- the other objects hold no immediate event under this reader's id
    have hk : (r.id :: r.buf :: (foot { tables w with readers := w.readers.filter (fun x => x.id != r.id) }).keys.map (·.1)).Nodup :=
      h0.owns.nodupE
    obtain ⟨-, hc, hnd'⟩ := foot_fresh (hk.sublist ((List.sublist_cons_self _ _).cons_cons _))
    obtain ⟨e2, m2, htc, h2, -⟩ := h0.immediateCancel hc hnd'
    simp only [if_true, htc]
    exact ⟨h2.give Tab.readers (a' := { r with readCookie := none, immediate := false }) hr hnd rfl, rfl⟩

/-! ## `netbuf_read_wait`, in three parts -/

/-- what scheduling the callback promises, about its outcome `R` -/
structure Scheduled (w : World) (r : Reader) (R : Rc × World) : Prop where
  arr : Arrives w R.2
  made : R.1 ≠ .contract
  fail : R.1 = .fail → registry R.2.ev = registry w.ev ∧ tables R.2 = tables w
  ok : R.1 = .ok → tables R.2 = { tables w with readers := updReader w.readers { r with immediate := true } }
  refusals : Refusals w True R

theorem nbrImm_spec (w : World) (r : Reader) (h : Inv0 w) (hr : r ∈ w.readers) (hi : r.immediate = false) :
    Scheduled w r (nbrImm w r) := by
  unfold nbrImm
  rcases hir : immReg w.ev r.id 0 w.m with ⟨ok, e', m'⟩
  obtain ⟨hok, hno⟩ := h.at.immReg hir
  cases ok with
  | false =>
    obtain ⟨h2, hreg, hlt⟩ := hno rfl
    exact ⟨h2, nofun, fun _ => ⟨hreg, rfl⟩, nofun, .fail_of fun _ => hlt⟩
  | true =>
    obtain ⟨h2, href⟩ := hok rfl
    -- the reader takes over the immediate event
    have h3 := h2.absorb Tab.readers (a' := { r with immediate := true }) { imm := [r.id] } hr
      (h.ids Tab.readers) rfl (by
        show Foot.Equiv (_ ++ footReader r) (footReader { r with immediate := true })
        unfold footReader; rw [hi]; exact ⟨.refl _, .refl _, .refl _, .refl _⟩)
    exact ⟨h3, nofun, nofun, fun _ => rfl, .quiet nofun href⟩

/-- changing fields of a reader that neither the block accounting nor the registrations read -/
theorem At.setReader {w0 w : World} {r r' : Reader} (h : At w0 w (foot (tables w))) (hr : r ∈ w.readers) (hid : r'.id = r.id)
    (hbuf : r'.buf = r.buf) (himm : r'.immediate = r.immediate) :
    At w0 (AllocFail.setReader w r') (foot (tables (AllocFail.setReader w r'))) :=
  h.sameHolds Tab.readers hr hid (by
    show Foot.Equiv (footReader r) (footReader r')
    unfold footReader; rw [hid, hbuf, himm]; exact .refl _)

/-- what the resize step promises, about its outcome `R`: a refused request changes nothing but the oracle; otherwise the
old buffer block is replaced by the new one -/
structure Resized (w : World) (r : Reader) (len : Nat) (R : Option Reader × World) : Prop where
  arr : Arrives w R.2
  ev : R.2.ev = w.ev
  refused : R.1 = none → tables R.2 = tables w ∧ w.m.refusals < R.2.m.refusals
  ok : ∀ r1, R.1 = some r1 → r1.id = r.id ∧ r1.fd = r.fd ∧
    r1.datalen - r1.bufpos = r.datalen - r.bufpos ∧ r1.readCookie = r.readCookie ∧ r1.immediate = r.immediate ∧
    len ≤ r1.buflen ∧
    tables R.2 = { tables w with readers := updReader w.readers r1 } ∧
    R.2.m.refusals = w.m.refusals

theorem nbrResize_spec (w : World) (r : Reader) (len : Nat) (h : Inv0 w) (hr : r ∈ w.readers) :
    Resized w r len (nbrResize w r len) := by
  have hnd : (w.readers.map (·.id)).Nodup := h.ids Tab.readers
  unfold nbrResize
  by_cases hq : r.buflen < len
  · rw [if_pos hq]
    generalize hsz : NetbufRead.newBuflen r.buflen len = sz
    have hszge : len ≤ sz := hsz ▸ nbr_newBuflen_ge _ _
    rcases ha : alloc w .nbrBuf sz with ⟨_ | nb, w1⟩
    · obtain ⟨h1, hrf, -⟩ := h.at.refused ha
      obtain ⟨rfl, -⟩ := alloc_none ha
      exact ⟨h1, rfl, fun _ => ⟨rfl, by rw [hrf]; exact Nat.lt_succ_self _⟩, nofun⟩
    · -- "Free old buffer and use new buffer.": the reader takes the new block and gives up the old one, which is freed
      obtain ⟨h1, hr1⟩ := h.at.malloc ha
      obtain ⟨rfl, rfl, -⟩ := alloc_some ha
      have h2 := h1.equiv (Tab.readers.foot_exchange (t := tables w)
        (a' := { r with buf := w.m.n, buflen := sz, datalen := r.datalen - r.bufpos, bufpos := 0 })
        (Foot.key (w.m.n, .nbrBuf)) (Foot.key (r.buf, .nbrBuf)) hr hnd rfl
        ⟨(List.Perm.swap _ _ _).trans (((List.Perm.swap _ _ _).cons _).trans (List.Perm.swap _ _ _)), .refl _, .refl _, .refl _⟩)
      obtain ⟨hrel, h3⟩ := h2.free
      rw [hrel] at h3
      simp only [hrel]
      replace h3 := h3.put Tab.readers _ (.refl _)
      refine ⟨h3, rfl, nofun, fun r1 hr1' => ?_⟩
      obtain rfl := Option.some.inj hr1'
      exact ⟨rfl, rfl, Nat.sub_zero _, rfl, rfl, hszge, rfl, (free_facts _ false).1.trans hr1⟩
  · rw [if_neg hq]
    refine ⟨h.at, rfl, nofun, fun r1 h1 => ?_⟩
    obtain rfl := Option.some.inj h1
    exact ⟨rfl, rfl, rfl, rfl, rfl, Nat.le_of_not_lt hq, tables_updReader_self h hr, rfl⟩

/-- what starting the `network_read` promises, about its outcome `R` -/
structure Started (w1 : World) (r1 : Reader) (len : Nat) (R : Rc × World) : Prop where
  arr : Arrives w1 R.2
  made : R.1 ≠ .contract
  fail : R.1 = .fail → registry R.2.ev = registry w1.ev ∧
    tables R.2 = { tables w1 with readers := updReader w1.readers (nbrR3 r1 len) }
  ok : R.1 = .ok →
    ∃ c, tables R.2 = { tables w1 with
        readers := updReader w1.readers { nbrR3 r1 len with readCookie := some c },
        reads := ⟨c, r1.fd⟩ :: w1.reads }
  refusals : Refusals w1 (fdOk w1 r1.fd false) R

theorem nbrStart_spec (w1 : World) (r1 : Reader) (len : Nat) (h1 : Inv0 w1) (hr1 : r1 ∈ w1.readers) :
    Started w1 r1 len (nbrStart w1 r1 len) := by
  obtain ⟨f1, f2, f3, f4, f5, f6, f7⟩ := nbrR3_facts r1 len
  have h2 := h1.at.setReader (r' := nbrR3 r1 len) hr1 f1 f2 f5
  unfold nbrStart
  rw [f3]
  have hp := networkRead_spec (setReader w1 (nbrR3 r1 len)) r1.fd h2.inv0
  rcases hnr : networkRead (setReader w1 (nbrR3 r1 len)) r1.fd with ⟨o, w3⟩
  rw [hnr] at hp
  cases o with
  | none =>
    have sm := hp.same rfl
    exact ⟨h2.andThen hp.arr, nofun, fun _ => ⟨sm.registry, sm.tables⟩, nofun, .fail_of (hp.cause rfl)⟩
  | some c =>
    obtain ⟨_, t2, t3⟩ := hp.ok c rfl
    have hrd3 : w3.readers = updReader w1.readers (nbrR3 r1 len) := congrArg Tables.readers t2
    have hmem3 : nbrR3 r1 len ∈ w3.readers := by rw [hrd3]; exact Run.mem_upd (·.id) hr1 f1
    refine ⟨h2.andThen (hp.arr.setReader (r' := { nbrR3 r1 len with readCookie := some c }) hmem3 rfl rfl rfl), nofun, nofun,
      fun _ => ⟨c, ?_⟩, .quiet nofun t3⟩
    show tables (setReader w3 { nbrR3 r1 len with readCookie := some c }) = _
    rw [tables_setReader, t2, hrd3]
    show _ = { tables w1 with readers := Run.upd (·.id) w1.readers { nbrR3 r1 len with readCookie := some c },
                              reads := ⟨c, r1.fd⟩ :: w1.reads }
    rw [← Run.upd_upd (fun x : Reader => x.id) w1.readers (a1 := nbrR3 r1 len)
      (a2 := { nbrR3 r1 len with readCookie := some c }) rfl]
    rfl

theorem netbufReadWaitCancel_spec (w : World) (r : Reader) (h : Inv0 w) (hr : r ∈ w.readers)
    (href : ∀ c, r.readCookie = some c → ⟨c, r.fd⟩ ∈ w.reads) :
    ∃ w', netbufReadWaitCancel w r.id = some w' ∧ Arrives w w' ∧
      tables w' = { tables w with
        readers := updReader w.readers { r with readCookie := none, immediate := false },
        reads := match r.readCookie with
          | some c => w.reads.filter (fun x => x.cookie != c)
          | none => w.reads } := by
  have hfind := find_reader h hr
  cases hc : r.readCookie with
  | none =>
    obtain ⟨t1, t2⟩ := nbrCancelTail_spec r h.at hr
    exact ⟨_, by simp only [netbufReadWaitCancel, hfind, hc], t1, t2⟩
  | some c =>
    obtain ⟨w1, hcan, ha1, _, htab1, _⟩ := networkReadCancel_spec w ⟨c, r.fd⟩ h (href c hc)
    have hrd1 : w1.readers = w.readers := congrArg Tables.readers htab1
    obtain ⟨t1, t2⟩ := nbrCancelTail_spec r ha1 (by rw [hrd1]; exact hr)
    refine ⟨_, by simp only [netbufReadWaitCancel, hfind, hc, hcan], t1, ?_⟩
    rw [t2, htab1, hrd1]

/-! ## `netbuf_read_wait` -/

/-- what `netbuf_read_wait` promises, about an outcome `R` -/
structure WaitOut (w : World) (r : Reader) (len : Nat) (R : Rc × World) : Prop where
  arr : Arrives w R.2
  contractIff : R.1 = .contract ↔ (r.readCookie.isSome = true ∨ r.immediate = true)
  contract : R.1 = .contract → R.2 = w
  /-- failure: nothing registered, nothing lost; the buffer may have been replaced by a bigger one -/
  fail : R.1 = .fail →
    registry R.2.ev = registry w.ev ∧
    ∃ r', r'.id = r.id ∧ r'.fd = r.fd ∧ r'.datalen - r'.bufpos = r.datalen - r.bufpos ∧
      r'.readCookie = none ∧ r'.immediate = false ∧
      tables R.2 = { tables w with readers := updReader w.readers r' }
  /-- success: either the data is there (an immediate event) or a `network_read` was started -/
  ok : R.1 = .ok →
    ((len ≤ r.datalen - r.bufpos ∧
        tables R.2 = { tables w with readers := updReader w.readers { r with immediate := true } }) ∨
     (r.datalen - r.bufpos < len ∧ ∃ r' c, r'.id = r.id ∧ r'.fd = r.fd ∧ r'.datalen - r'.bufpos = r.datalen - r.bufpos ∧
        r'.readCookie = some c ∧ r'.immediate = false ∧ len ≤ r'.buflen - r'.bufpos ∧
        tables R.2 = { tables w with readers := updReader w.readers r', reads := ⟨c, r.fd⟩ :: w.reads }))
  /-- a failure comes from a refused request, if the descriptor is free when a `network_read` has to be started -/
  refusals : Refusals w (r.datalen - r.bufpos < len → fdOk w r.fd false) R

theorem netbufReadWait_spec (w : World) (r : Reader) (len : Nat) (h : Inv0 w) (hr : r ∈ w.readers) :
    WaitOut w r len (netbufReadWait w r.id len) := by
  have hnd : (w.readers.map (·.id)).Nodup := h.ids Tab.readers
  have hfind := find_reader h hr
  have hself := tables_updReader_self h hr
  by_cases hbusy : (r.readCookie.isSome || r.immediate) = true
  · have heq : netbufReadWait w r.id len = (.contract, w) := by simp only [netbufReadWait, hfind, hbusy, if_true]
    rw [heq]
    have hb' : r.readCookie.isSome = true ∨ r.immediate = true := by simpa using hbusy
    exact ⟨h.at, ⟨fun _ => hb', fun _ => rfl⟩, fun _ => rfl, nofun, nofun, .quiet nofun rfl⟩
  · have hidle : (r.readCookie.isSome || r.immediate) = false := by simpa using hbusy
    have hnb : ¬ (r.readCookie.isSome = true ∨ r.immediate = true) := fun hb => hbusy (by simpa using hb)
    have hi0 : r.immediate = false := by cases hx : r.immediate <;> simp [hx] at hidle ⊢
    have hc0 : r.readCookie = none := by cases hx : r.readCookie <;> simp [hx] at hidle ⊢
    rw [netbufReadWait_eq len hfind hidle]
    by_cases hlen : r.datalen - r.bufpos ≥ len
    · rw [if_pos hlen]
      have im := nbrImm_spec w r h hr hi0
      refine ⟨im.arr, ⟨fun hc => absurd hc im.made, fun hb => absurd hb hnb⟩, fun hc => absurd hc im.made, fun hf => ?_,
        fun hok => Or.inl ⟨hlen, im.ok hok⟩, im.refusals.after rfl fun _ => trivial⟩
      obtain ⟨hreg, htab⟩ := im.fail hf
      exact ⟨hreg, r, rfl, rfl, rfl, hc0, hi0, htab.trans hself⟩
    · rw [if_neg hlen]
      have hlt : r.datalen - r.bufpos < len := Nat.lt_of_not_ge hlen
      have rz := nbrResize_spec w r len h hr
      rcases hrz : nbrResize w r len with ⟨o, w1⟩
      rw [hrz] at rz
      cases o with
      | none =>
        obtain ⟨htab, hlt'⟩ := rz.refused rfl
        exact ⟨rz.arr, ⟨nofun, fun hb => absurd hb hnb⟩, nofun,
          fun _ => ⟨by rw [rz.ev], r, rfl, rfl, rfl, hc0, hi0, htab.trans hself⟩, nofun, .fail_of fun _ => hlt'⟩
      | some r1 =>
        obtain ⟨rid, rfd, ravail, rck, rimm, rroom, rtab, rref⟩ := rz.ok r1 rfl
        have e1 : w1.readers = updReader w.readers r1 := congrArg Tables.readers rtab
        have e2 : w1.reads = w.reads := congrArg Tables.reads rtab
        have hr1 : r1 ∈ w1.readers := by rw [e1]; exact Run.mem_upd (·.id) hr rid
        obtain ⟨fid, _, ffd, fck, fimm, favail, froom⟩ := nbrR3_facts r1 len
        have st := nbrStart_spec w1 r1 len rz.arr.inv0 hr1
        -- two replacements of the same reader are one
        have hupd : ∀ r2 : Reader, r2.id = r1.id → updReader (updReader w.readers r1) r2 = updReader w.readers r2 :=
          fun r2 hid => Run.upd_upd (fun x : Reader => x.id) w.readers hid
        refine ⟨rz.arr.andThen st.arr, ⟨fun hc => absurd hc st.made, fun hb => absurd hb hnb⟩, fun hc => absurd hc st.made,
          fun hf => ?_, fun hok => ?_,
          st.refusals.after rref fun hfd => by unfold fdOk; rw [rz.ev, rfd]; exact hfd hlt⟩
        · obtain ⟨hreg, htab⟩ := st.fail hf
          refine ⟨by rw [hreg, rz.ev], nbrR3 r1 len, fid.trans rid, ffd.trans rfd, favail.trans ravail, by rw [fck, rck, hc0],
            by rw [fimm, rimm, hi0], ?_⟩
          rw [htab, rtab, e1, hupd _ fid]
        · obtain ⟨c, htab⟩ := st.ok hok
          refine Or.inr ⟨hlt, { nbrR3 r1 len with readCookie := some c }, c, fid.trans rid, ffd.trans rfd,
            favail.trans ravail, rfl, by show (nbrR3 r1 len).immediate = false; rw [fimm, rimm, hi0], froom rroom, ?_⟩
          rw [htab, rtab, e1, e2, rfd, hupd { nbrR3 r1 len with readCookie := some c } fid]

end Percival.Proofs.AllocFailUpper
