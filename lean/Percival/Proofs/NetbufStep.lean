import Percival.Model.NetbufStep
import Percival.Proofs.NetbufWrite
/-!
# C07 helper lemmas: the function `pmodel netbuf` runs (`Model.NetbufStep.stepOp`)

`RHist r`: the reader `r` is the result of `NetbufRead.run NetbufRead.init` on some sequence of reader operations and
events; `WHist w`: the writer `w` is a result of `NetbufWrite.run NetbufWrite.init`.  Both are kept by every successful
step of the models, and the line protocol moves `R` and `W` by such steps only: `Hist` is part of the invariant
`Proofs.NetbufMonSound.Sound` of the executable's state.  So the statements of `Properties/C07.lean`, which are about
those runs, are about the states that are compared with the C code.
-/
namespace Percival.Proofs.NetbufStep
open Percival.Spec.ByteStream Percival.Spec.NetbufMon Percival.Model.Netbuf Percival.Model Percival.Model.NetbufStep

theorem rrun_snoc (r0 r r' : NetbufRead.R) (ops : List ROp) (outs : List ROut) (op : ROp) (o : ROut)
    (h : NetbufRead.run r0 ops = .ok (r, outs)) (hs : NetbufRead.step r op = .ok (r', o)) :
    NetbufRead.run r0 (ops ++ [op]) = .ok (r', outs ++ [o]) := by
  induction ops generalizing r0 outs with
  | nil =>
    simp only [NetbufRead.run, Res.pure_eq] at h
    cases h
    simp only [List.nil_append, NetbufRead.run, hs, Res.ok_bind, Res.pure_eq]
  | cons a ops ih =>
    simp only [NetbufRead.run] at h
    cases hst : NetbufRead.step r0 a with
    | ok p =>
      obtain ⟨r1, o1⟩ := p
      rw [hst, Res.ok_bind] at h
      cases hr : NetbufRead.run r1 ops with
      | ok q =>
        obtain ⟨r2, os⟩ := q
        rw [hr, Res.ok_bind, Res.pure_eq] at h
        cases h
        simp only [List.cons_append, NetbufRead.run, hst, Res.ok_bind, ih r1 os hr, Res.pure_eq]
      | oob | abort | contract => rw [hr] at h; cases h
    | oob | abort | contract => rw [hst] at h; cases h

theorem wrun_snoc (w0 w w' : NetbufWrite.W) (ops : List WOp) (outs : List WOut) (op : WOp) (o : WOut)
    (h : NetbufWrite.run w0 ops = .ok (w, outs)) (hs : NetbufWrite.step w op = .ok (w', o)) :
    NetbufWrite.run w0 (ops ++ [op]) = .ok (w', outs ++ [o]) := by
  rw [Proofs.NetbufWrite.run_append, h]
  simp only [Res.ok_bind, NetbufWrite.run, hs, Res.pure_eq]

def RHist (r : NetbufRead.R) : Prop := ∃ ops outs, NetbufRead.run NetbufRead.init ops = .ok (r, outs)
def WHist (w : NetbufWrite.W) : Prop := ∃ ops outs, NetbufWrite.run NetbufWrite.init ops = .ok (w, outs)

theorem rhist_init : RHist NetbufRead.init := ⟨[], [], rfl⟩
theorem whist_init : WHist NetbufWrite.init := ⟨[], [], rfl⟩

theorem RHist.step {r r' : NetbufRead.R} (h : RHist r) (op : ROp) (o : ROut)
    (hs : NetbufRead.step r op = .ok (r', o)) : RHist r' := by
  obtain ⟨ops, outs, hr⟩ := h
  exact ⟨ops ++ [op], outs ++ [o], rrun_snoc _ _ _ _ _ _ _ hr hs⟩

theorem WHist.step {w w' : NetbufWrite.W} (h : WHist w) (op : WOp) (o : WOut)
    (hs : NetbufWrite.step w op = .ok (w', o)) : WHist w' := by
  obtain ⟨ops, outs, hr⟩ := h
  exact ⟨ops ++ [op], outs ++ [o], wrun_snoc _ _ _ _ _ _ _ hr hs⟩

theorem RHist.wait {r r' : NetbufRead.R} (h : RHist r) (k : Nat) (hs : NetbufRead.wait r k = .ok r') : RHist r' :=
  h.step (.wait k) .none (Proofs.NetbufRead.step_wait hs)
theorem RHist.consume {r r' : NetbufRead.R} (h : RHist r) (j : Nat) (hs : NetbufRead.consume r j = .ok r') : RHist r' :=
  h.step (.consume j) .none (Proofs.NetbufRead.step_consume hs)
theorem RHist.cancel {r : NetbufRead.R} (h : RHist r) : RHist (NetbufRead.cancel r) :=
  h.step .cancel .none rfl
theorem RHist.fire {r r' : NetbufRead.R} {st : Int} (h : RHist r) (hs : NetbufRead.callbackSuccess r = .ok (r', st)) :
    RHist r' := h.step .fire (.cb st) (Proofs.NetbufRead.step_fire hs)
theorem RHist.net {r r' : NetbufRead.R} {st : Option Int} (h : RHist r) (ev : REv)
    (hs : NetbufRead.callbackRead r ev = .ok (r', st)) : RHist r' :=
  h.step (.net ev) (NetbufRead.outOfStatus st) (Proofs.NetbufRead.step_net hs)

def Hist (s : NetbufStep.St) : Prop := RHist s.r ∧ WHist s.w

theorem hist_init : Hist {} := ⟨rhist_init, whist_init⟩

/-- the record the harness' callback writes when it runs with `status` in state `s` -/
def cbRec (s : NetbufStep.St) (status : Int) : CbRec :=
  if status == 0 then
    .succ (avail s.r) (match NetbufRead.peek s.r with
      | .ok b => some (shownOf (b.take (min s.waitk (avail s.r))) (min s.waitk (avail s.r)))
      | _ => none)
  else .status status

theorem appCallback_recs (s : NetbufStep.St) (status : Int) (recs : List CbRec) :
    (appCallback s status recs).2 = recs ++ [cbRec s status] := by
  unfold appCallback cbRec
  split
  · cases NetbufRead.peek s.r <;> simp only <;> (repeat' split) <;> rfl
  · rfl

/-- the reader half of `spin` touches the records only through the callback: what holds of `recs` and is kept by
appending a callback record holds of the records `spinR` returns, from every state -/
theorem spinR_records {P : List CbRec → Prop} (hP : ∀ s st recs, P recs → P (recs ++ [cbRec s st])) (fuel : Nat) :
    ∀ (s : NetbufStep.St) (recs : List CbRec), P recs → P (spinR fuel s recs).2 := by
  induction fuel with
  | zero => intro s recs h; exact h
  | succ fuel ih =>
    intro s recs h
    unfold spinR
    (repeat' split) <;> first
      | exact h
      | exact ih _ _ h
      | (rename_i heq
         refine ih _ _ ?_
         have e := congrArg Prod.snd heq
         simp only [] at e
         rw [← e, appCallback_recs]
         exact hP _ _ _ h)

theorem stepOp_latched (s : NetbufStep.St) (b : Fail) (hb : s.bad = some b) (op : Op) :
    stepOp s op = (s, .failed b) := by
  unfold stepOp; rw [hb]

end Percival.Proofs.NetbufStep
