import Percival.Proofs.AFUDefs
/-!
# C14, upper layers: the operations

The classes of calls (`isRelease`, `isAtomic`, `isQuiet`, `isNew`), the usage contract (`Ready`: the call can only fail for want of
memory, and `Ready'`, which asks for the free descriptor only where the call registers; `Present`: the object a release
names exists and is the caller's), and `TabStep t c rc o t'`: the call `c` with
outcome `rc ≠ contract`, returning the object `o`, takes the object tables `t` to `t'` — one constructor per shape of change,
with the side facts (freshness of the new identifier, which object is updated, what the update keeps) that the per-call
specifications give.
-/
namespace Percival.Proofs.AllocFailUpper
open Percival.Model Percival.Model.EvReg Percival.Model.AllocFail
open Percival.Proofs.EvRegNet (regNet netRegistered NetInv)
open Percival.Proofs.EvRegTimer (regImm regTimers TmInv Step Granted)
open Percival.Model.Connect (AddrOutcome)

namespace Run

/-- the outcome of a call that returns a new object or NULL -/
def ofOpt : Option Nat × World → Rc × World
  | (some _, w') => (.ok, w')
  | (none, w') => (.fail, w')

theorem connEntry_cookie (c : Nat) (addrs : List AddrOutcome) (timeo : Option Int) (s : Nat) :
    (connEntry c addrs timeo s).cookie = c := by
  unfold connEntry; split <;> rfl

theorem find_key {α : Type} (k : α → Nat) {l : List α} {c : Nat} {a : α} (h : l.find? (fun x => k x == c) = some a) :
    a ∈ l ∧ k a = c :=
  ⟨List.mem_of_find?_eq_some h, by simpa using List.find?_some h⟩

end Run

/-- the calls documented as unable to fail: cancels and frees -/
def isRelease : Op → Bool
  | .readCancel _ | .writeCancel _ | .acceptCancel _ | .connectCancel _ | .nbrCancel _ | .nbrFree _
  | .nbwFree _ | .httpCancel _ => true
  | _ => false

/-- the calls whose failure leaves every object exactly as it was (`Same`); the other three that can fail
(`netbuf_read_wait`, `netbuf_write_consume`, `netbuf_write_write`) may have grown a buffer, consumed the
reservation or queued the data before the allocation that failed -/
def isAtomic : Op → Bool
  | .read _ | .write _ | .accept _ | .connect _ _ _ | .nbrInit _ | .nbwInit _ | .nbwReserve _ _ | .http _ _ _
  | .https _ _ _ _ => true
  | _ => false

/-- the release calls whose own code requests no memory while the pools' caches have room -/
def isQuiet : Op → Bool
  | .readCancel _ | .writeCancel _ | .acceptCancel _ | .nbrFree _ => true
  | _ => false

/-- the calls that make a new object (and return it, or NULL) -/
def isNew : Op → Bool
  | .read _ | .write _ | .accept _ | .connect _ _ _ | .nbrInit _ | .nbwInit _ | .http _ _ _ | .https _ _ _ _ => true
  | _ => false

/-- the call is within its contract and nothing but a refused allocation can make it fail: the descriptor's
slot is free (otherwise `events_network_register` answers EEXIST), the object named exists and is idle -/
def Ready (w : World) : Op → Prop
  | .read fd => fdOk w fd false
  | .write fd => fdOk w fd true
  | .accept fd => fdOk w fd false
  | .connect addrs _ s => (skipFailNow addrs ≠ [] → fdOk w s true) ∧ w.ev.timers.length < 2^32
  | .nbrInit _ => True
  | .nbrWait r _ => ∃ rd ∈ w.readers, rd.id = r ∧ rd.readCookie = none ∧ rd.immediate = false ∧ fdOk w rd.fd false
  | .nbwInit _ => True
  | .nbwReserve x _ => ∃ wr ∈ w.writers, wr.id = x ∧ wr.reserved = false
  | .nbwConsume x len => ∃ wr ∈ w.writers, wr.id = x ∧ consumeOk wr len ∧ fdOk w wr.fd true
  | .nbwWrite x _ => ∃ wr ∈ w.writers, wr.id = x ∧ wr.reserved = false ∧ fdOk w wr.fd true
  | .http addrs _ s => (skipFailNow addrs ≠ [] → fdOk w s true) ∧ w.ev.timers.length < 2^32
  | .https addrs _ s _ => (skipFailNow addrs ≠ [] → fdOk w s true) ∧ w.ev.timers.length < 2^32
  | _ => False

/-- `Ready` with the free descriptor asked for only where the call registers: `netbuf_read_wait` answers from the buffer
through an immediate event when the data is there, `netbuf_write_consume` / `netbuf_write_write` only queue while a write
is in progress -/
def Ready' (w : World) : Op → Prop
  | .nbrWait r len => ∃ rd ∈ w.readers, rd.id = r ∧ rd.readCookie = none ∧ rd.immediate = false ∧
      (rd.datalen - rd.bufpos < len → fdOk w rd.fd false)
  | .nbwConsume x len => ∃ wr ∈ w.writers, wr.id = x ∧ consumeOk wr len ∧ (wr.curr = none → fdOk w wr.fd true)
  | .nbwWrite x _ => ∃ wr ∈ w.writers, wr.id = x ∧ wr.reserved = false ∧ (wr.curr = none → fdOk w wr.fd true)
  | op => Ready w op

theorem ready_ready' {w : World} {op : Op} (h : Ready w op) : Ready' w op := by
  cases op with
  | nbrWait r len => obtain ⟨rd, h1, h2, h3, h4, h5⟩ := h; exact ⟨rd, h1, h2, h3, h4, fun _ => h5⟩
  | nbwConsume x len => obtain ⟨wr, h1, h2, h3, h4⟩ := h; exact ⟨wr, h1, h2, h3, fun _ => h4⟩
  | nbwWrite x len => obtain ⟨wr, h1, h2, h3, h4⟩ := h; exact ⟨wr, h1, h2, h3, fun _ => h4⟩
  | _ => exact h

/-- the object a release call names exists and may be released by its owner -/
def Present (w : World) : Op → Prop
  | .readCancel c => (∃ a ∈ w.reads, a.cookie = c) ∧ readOwned w c = false
  | .writeCancel c => (∃ a ∈ w.writes, a.cookie = c) ∧ writeOwned w c = false
  | .acceptCancel c => ∃ a ∈ w.accepts, a.cookie = c
  | .connectCancel c => (∃ k ∈ w.conns, k.cookie = c) ∧ connOwned w c = false
  | .nbrCancel r => ∃ rd ∈ w.readers, rd.id = r
  | .nbrFree r => ∃ rd ∈ w.readers, rd.id = r ∧ rd.readCookie = none ∧ rd.immediate = false
  | .nbwFree x => ∃ wr ∈ w.writers, wr.id = x
  | .httpCancel h => ∃ x ∈ w.https, x.cookie = h
  | _ => False

/-- after the release call: the object it names is gone from its table (after `nbrCancel`: the reader is idle) -/
def gone (_w w' : World) : Op → Prop
  | .readCancel c => ∀ a ∈ w'.reads, a.cookie ≠ c
  | .writeCancel c => ∀ a ∈ w'.writes, a.cookie ≠ c
  | .acceptCancel c => ∀ a ∈ w'.accepts, a.cookie ≠ c
  | .connectCancel c => ∀ k ∈ w'.conns, k.cookie ≠ c
  | .nbrCancel r => ∀ rd ∈ w'.readers, rd.id = r → rd.readCookie = none ∧ rd.immediate = false
  | .nbrFree r => ∀ rd ∈ w'.readers, rd.id ≠ r
  | .nbwFree x => ∀ wr ∈ w'.writers, wr.id ≠ x
  | .httpCancel h => ∀ x ∈ w'.https, x.cookie ≠ h
  | _ => True

/-! ### how the classes and the contracts go together -/

theorem not_present_of_new {w : World} {op : Op} (hn : isNew op = true) : ¬ Present w op := by
  cases op with
  | read _ | write _ | accept _ | connect _ _ _ | nbrInit _ | nbwInit _ | http _ _ _ | https _ _ _ _ => exact id
  | _ => cases hn

theorem atomic_of_new {op : Op} (hn : isNew op = true) : isAtomic op = true ∧ isRelease op = false := by
  cases op with
  | read _ | write _ | accept _ | connect _ _ _ | nbrInit _ | nbwInit _ | http _ _ _ | https _ _ _ _ => exact ⟨rfl, rfl⟩
  | _ => cases hn

theorem not_ready_of_release {w : World} {op : Op} (hr : isRelease op = true) : ¬ Ready' w op := by
  cases op with
  | readCancel _ | writeCancel _ | acceptCancel _ | connectCancel _ | nbrCancel _ | nbrFree _ | nbwFree _
  | httpCancel _ => exact id
  | _ => cases hr

theorem ready_of_new {w : World} {op : Op} (hn : isNew op = true) (h : Ready' w op) : Ready w op := by
  cases op with
  | read _ | write _ | accept _ | connect _ _ _ | nbrInit _ | nbwInit _ | http _ _ _ | https _ _ _ _ => exact h
  | _ => cases hn

theorem release_of_present {w : World} {op : Op} (hp : Present w op) : isRelease op = true := by
  cases op with
  | readCancel _ | writeCancel _ | acceptCancel _ | connectCancel _ | nbrCancel _ | nbrFree _ | nbwFree _
  | httpCancel _ => rfl
  | _ => exact hp.elim

namespace Top

theorem ofOpt_snd (R : Option Nat × World) : (Run.ofOpt R).2 = R.2 := by
  rcases R with ⟨_ | c, w'⟩ <;> rfl

theorem ofOpt_fail {R : Option Nat × World} : (Run.ofOpt R).1 = .fail ↔ R.1 = none := by
  rcases R with ⟨_ | c, w'⟩
  · exact ⟨fun _ => rfl, fun _ => rfl⟩
  · exact ⟨fun h => (by cases h), fun h => (by cases h)⟩

theorem ofOpt_ok {R : Option Nat × World} : (Run.ofOpt R).1 = .ok ↔ ∃ c, R.1 = some c := by
  rcases R with ⟨_ | c, w'⟩
  · exact ⟨fun h => (by cases h), fun ⟨c, h⟩ => (by cases h)⟩
  · exact ⟨fun _ => ⟨c, rfl⟩, fun _ => rfl⟩

theorem ofOpt_ne_contract (R : Option Nat × World) : (Run.ofOpt R).1 ≠ .contract := by
  rcases R with ⟨_ | c, w'⟩ <;> intro h <;> cases h

/-- the descriptor condition depends on the registry only -/
theorem fdOk_congr {w w' : World} (h : registry w'.ev = registry w.ev) (fd : Nat) (b : Bool) :
    fdOk w' fd b ↔ fdOk w fd b := by
  unfold fdOk netRegistered regNet
  rw [h]

theorem timers_length (e : Ev) : e.timers.length = (registry e).timers.length := by
  simp [registry]

theorem timers_congr {w w' : World} (h : registry w'.ev = registry w.ev) :
    w'.ev.timers.length = w.ev.timers.length := by
  rw [timers_length, timers_length, h]

theorem connReady_congr {w w' : World} (h : registry w'.ev = registry w.ev) (a : List AddrOutcome) (s : Nat) :
    connReady w' a s ↔ connReady w a s := by
  unfold connReady
  rw [timers_congr h, fdOk_congr h]

end Top

inductive TabStep (t : Tables) : Op → Rc → Option Nat → Tables → Prop
  /-- a failure (or `netbuf_write_write` on a writer that has failed) that leaves every table as it was -/
  | same (c0 : Op) (rc : Rc) (hrel : isRelease c0 = false) : TabStep t c0 rc none t
  | read (fd c : Nat) (hf : ∀ a ∈ t.reads, a.cookie ≠ c) :
      TabStep t (.read fd) .ok (some c) { t with reads := ⟨c, fd⟩ :: t.reads }
  | write (fd c : Nat) (hf : ∀ a ∈ t.writes, a.cookie ≠ c) :
      TabStep t (.write fd) .ok (some c) { t with writes := ⟨c, fd⟩ :: t.writes }
  | accept (fd c : Nat) (hf : ∀ a ∈ t.accepts, a.cookie ≠ c) :
      TabStep t (.accept fd) .ok (some c) { t with accepts := ⟨c, fd⟩ :: t.accepts }
  | connect (a : List AddrOutcome) (tm : Option Int) (s c : Nat) (k : Conn) (hk : k.cookie = c)
      (hf : ∀ a ∈ t.conns, a.cookie ≠ c) :
      TabStep t (.connect a tm s) .ok (some c) { t with conns := k :: t.conns }
  | nbrInit (fd c : Nat) (r : Reader) (hid : r.id = c) (hfd : r.fd = fd) (hc : r.readCookie = none)
      (hf : ∀ a ∈ t.readers, a.id ≠ c) :
      TabStep t (.nbrInit fd) .ok (some c) { t with readers := r :: t.readers }
  | nbwInit (fd c : Nat) (x : Writer) (hid : x.id = c) (hfd : x.fd = fd) (hc : x.curr = none) (hres : x.reserved = false)
      (hf : ∀ a ∈ t.writers, a.id ≠ c) :
      TabStep t (.nbwInit fd) .ok (some c) { t with writers := x :: t.writers }
  /-- `http_request` / `https_request` (`ho`: the duplicated host name of the latter) -/
  | http (c0 : Op) (a : List AddrOutcome) (l s x hd c : Nat) (ho : Option Nat) (k : Conn)
      (hc0 : c0 = .http a l s ∨ ∃ hl, c0 = .https a l s hl) (hk : k.cookie = c)
      (hfc : ∀ a ∈ t.conns, a.cookie ≠ c) (hfx : ∀ a ∈ t.https, a.cookie ≠ x) :
      TabStep t c0 .ok (some x) { t with https := ⟨x, hd, some c, ho⟩ :: t.https, conns := k :: t.conns }
  | readCancel (c : Nat) (hun : ∀ r ∈ t.readers, r.readCookie ≠ some c) :
      TabStep t (.readCancel c) .ok none { t with reads := t.reads.filter (fun x => x.cookie != c) }
  | writeCancel (c : Nat) (hun : ∀ x ∈ t.writers, x.curr.map (·.2) ≠ some c) :
      TabStep t (.writeCancel c) .ok none { t with writes := t.writes.filter (fun x => x.cookie != c) }
  | acceptCancel (c : Nat) :
      TabStep t (.acceptCancel c) .ok none { t with accepts := t.accepts.filter (fun x => x.cookie != c) }
  | connectCancel (c : Nat) (hun : ∀ x ∈ t.https, x.conn ≠ some c) :
      TabStep t (.connectCancel c) .ok none { t with conns := t.conns.filter (fun x => x.cookie != c) }
  /-- `netbuf_read_wait` that did not start a read: failed, or the data was there (immediate event) -/
  | nbrUpd (len : Nat) (rc : Rc) (r r' : Reader) (hr : r ∈ t.readers) (hc : r.readCookie = none)
      (hid : r'.id = r.id) (hfd : r'.fd = r.fd) (hc' : r'.readCookie = none) :
      TabStep t (.nbrWait r.id len) rc none { t with readers := updReader t.readers r' }
  | nbrRead (len : Nat) (r r' : Reader) (c : Nat) (hr : r ∈ t.readers) (hc : r.readCookie = none)
      (hid : r'.id = r.id) (hfd : r'.fd = r.fd) (hc' : r'.readCookie = some c) (hf : ∀ a ∈ t.reads, a.cookie ≠ c) :
      TabStep t (.nbrWait r.id len) .ok none { t with readers := updReader t.readers r', reads := ⟨c, r.fd⟩ :: t.reads }
  | nbrCancel (r : Reader) (hr : r ∈ t.readers) :
      TabStep t (.nbrCancel r.id) .ok none
        { t with readers := updReader t.readers { r with readCookie := none, immediate := false },
                 reads := match r.readCookie with
                   | some c => t.reads.filter (fun x => x.cookie != c)
                   | none => t.reads }
  | nbrFree (r : Reader) (hr : r ∈ t.readers) (hc : r.readCookie = none) :
      TabStep t (.nbrFree r.id) .ok none { t with readers := t.readers.filter (fun x => x.id != r.id) }
  | nbwReserve (len : Nat) (x : Writer) (q : List WBuf) (hx : x ∈ t.writers) (hres : x.reserved = false)
      (hq : ∃ wb, q.getLast? = some wb ∧ len ≤ wb.buflen - wb.datalen) :
      TabStep t (.nbwReserve x.id len) .ok none { t with writers := updWriter t.writers { x with reserved := true, queue := q } }
  /-- `netbuf_write_consume` / `netbuf_write_write` that did not start a write -/
  | nbwUpd (c0 : Op) (rc : Rc) (len : Nat) (x x' : Writer) (hc0 : c0 = .nbwConsume x.id len ∨ c0 = .nbwWrite x.id len)
      (hx : x ∈ t.writers) (hid : x'.id = x.id) (hfd : x'.fd = x.fd) (hres : x'.reserved = false) (hc : x'.curr = x.curr) :
      TabStep t c0 rc none { t with writers := updWriter t.writers x' }
  | nbwStart (c0 : Op) (len : Nat) (x x' : Writer) (wb : WBuf) (c : Nat)
      (hc0 : c0 = .nbwConsume x.id len ∨ c0 = .nbwWrite x.id len)
      (hx : x ∈ t.writers) (hid : x'.id = x.id) (hfd : x'.fd = x.fd) (hres : x'.reserved = false)
      (hc : x.curr = none) (hc' : x'.curr = some (wb, c)) (hf : ∀ a ∈ t.writes, a.cookie ≠ c) :
      TabStep t c0 .ok none { t with writers := updWriter t.writers x', writes := ⟨c, x.fd⟩ :: t.writes }
  | nbwFree (x : Writer) (hx : x ∈ t.writers) :
      TabStep t (.nbwFree x.id) .ok none
        { t with writers := t.writers.filter (fun y => y.id != x.id),
                 writes := match x.curr with
                   | some (_, c) => t.writes.filter (fun y => y.cookie != c)
                   | none => t.writes }
  | httpCancel (x : Http) (hx : x ∈ t.https) :
      TabStep t (.httpCancel x.cookie) .ok none
        { t with https := t.https.filter (fun y => y.cookie != x.cookie),
                 conns := match x.conn with
                   | some c => t.conns.filter (fun y => y.cookie != c)
                   | none => t.conns }

end Percival.Proofs.AllocFailUpper
