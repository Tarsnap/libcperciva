import Percival.Model.Strtod
/-! Helper lemmas for C16 (`Spec/Ieee.lean`): powers of two and absolute values in `Rat`, the nearest-integer
    division `divRound`, the fraction `scaled`. -/
namespace Percival.Proofs.IeeeArith
open Percival.Model.Strtod

theorem abs_cases (x : Rat) : (0 ≤ x ∧ x.abs = x) ∨ (x < 0 ∧ x.abs = -x) := by
  by_cases h : 0 ≤ x
  · exact Or.inl ⟨h, Rat.abs_of_nonneg h⟩
  · have h' : x < 0 := Rat.not_le.mp h
    exact Or.inr ⟨h', Rat.abs_of_nonpos (Rat.le_of_lt h')⟩

theorem two_ne : (2 : Rat) ≠ 0 := by decide

theorem p2_pos (e : Int) : (0 : Rat) < 2 ^ e := Rat.zpow_pos (by decide)

theorem p2_add (a b : Int) : (2 : Rat) ^ (a + b) = 2 ^ a * 2 ^ b := Rat.zpow_add two_ne a b

/-- powers of two multiply by adding exponents: the form every exponent rearrangement below is an instance of -/
theorem p2_mul {a b c : Int} (h : a + b = c) : (2 : Rat) ^ a * 2 ^ b = 2 ^ c := by rw [← p2_add, h]

theorem p2_mul_mul {a b c d : Int} (h : a + b = c + d) : (2 : Rat) ^ a * 2 ^ b = 2 ^ c * 2 ^ d := by
  rw [← p2_add, ← p2_add, h]

theorem p2_succ (a : Int) : (2 : Rat) ^ (a + 1) = 2 * 2 ^ a := by
  rw [p2_add, Rat.zpow_one, Rat.mul_comm]

theorem p2_nat (n : Nat) : (2 : Rat) ^ (n : Int) = ((2 ^ n : Nat) : Rat) := by
  rw [Rat.zpow_natCast, Rat.natCast_pow]; rfl

theorem p2_neg_mul (a : Int) : (2 : Rat) ^ (-a) * 2 ^ a = 1 := by
  rw [p2_mul (Int.add_left_neg a), Rat.zpow_zero]

theorem p2_sub (a b : Int) : (2 : Rat) ^ (a - b) * 2 ^ b = 2 ^ a := p2_mul (Int.sub_add_cancel a b)

theorem one_le_p2 (n : Nat) : (1 : Rat) ≤ 2 ^ (n : Int) := by
  rw [p2_nat]
  have : 1 ≤ 2 ^ n := Nat.one_le_two_pow
  have := (Rat.natCast_le_natCast (a := 1) (b := 2 ^ n)).mpr this
  simpa using this

theorem p2_le {a b : Int} (h : a ≤ b) : (2 : Rat) ^ a ≤ 2 ^ b := by
  obtain ⟨n, rfl⟩ := Int.le.dest h
  rw [p2_add]
  have h1 := one_le_p2 n
  have h2 := Rat.mul_le_mul_of_nonneg_left h1 (Rat.le_of_lt (p2_pos a))
  simpa using h2

theorem p2_lt {a b : Int} (h : a < b) : (2 : Rat) ^ a < 2 ^ b := by
  have h1 : (2 : Rat) ^ (a + 1) ≤ 2 ^ b := p2_le (by omega)
  rw [p2_succ] at h1
  have := p2_pos a
  grind

theorem lt_binade {x : Rat} {p k e : Int} (hx : x < 2 ^ p * 2 ^ k) (hk : k < e) : x < 2 ^ (p - 1) * 2 ^ e := by
  rw [p2_mul_mul (show p - 1 + e = p + (e - 1) by omega)]
  exact Std.lt_of_lt_of_le hx (Rat.mul_le_mul_of_nonneg_left (p2_le (by omega)) (Rat.le_of_lt (p2_pos p)))

theorem mul_p2_eq (c : Nat) {e k : Int} (h : e ≤ k) :
    (c : Rat) * 2 ^ k = ((c * 2 ^ (k - e).toNat : Nat) : Rat) * 2 ^ e := by
  rw [Rat.natCast_mul, ← p2_nat, Int.toNat_of_nonneg (by omega), Rat.mul_assoc, p2_sub]

theorem natCast_mul_lt {c p : Nat} (hc : c < 2 ^ p) (k : Int) : (c : Rat) * 2 ^ k < 2 ^ (p : Int) * 2 ^ k :=
  Rat.mul_lt_mul_of_pos_right (p2_nat p ▸ Rat.natCast_lt_natCast.mpr hc) (p2_pos k)

theorem pow2_eq (e : Int) : pow2 e = 2 ^ e := by
  unfold pow2
  split
  · next h =>
    obtain ⟨n, rfl⟩ := Int.eq_ofNat_of_zero_le h
    simp [p2_nat]
  · next h =>
    have h' : 0 ≤ -e := by omega
    obtain ⟨n, hn⟩ := Int.eq_ofNat_of_zero_le h'
    have he : e = -(n : Int) := by omega
    subst he
    rw [Rat.zpow_neg, p2_nat]
    simp [Rat.div_def]

theorem scaled_spec (n d : Nat) (hd : 0 < d) (e : Int) (q : Rat) (hq : q * d = n) :
    0 < (scaled n d e).2 ∧ ((scaled n d e).1 : Rat) * 2 ^ e = q * (scaled n d e).2 := by
  unfold scaled
  split
  · next h =>
    obtain ⟨k, rfl⟩ := Int.eq_ofNat_of_zero_le h
    simp only [Int.toNat_natCast]
    refine ⟨Nat.mul_pos hd (Nat.two_pow_pos k), ?_⟩
    rw [p2_nat, Rat.natCast_mul, ← hq]
    grind
  · next h =>
    have h' : 0 ≤ -e := by omega
    obtain ⟨k, hk⟩ := Int.eq_ofNat_of_zero_le h'
    have he : e = -(k : Int) := by omega
    subst he
    simp only [Int.neg_neg, Int.toNat_natCast]
    refine ⟨hd, ?_⟩
    rw [Rat.natCast_mul, ← p2_nat, hq.symm]
    have := p2_neg_mul (k : Int)
    grind

/-- `divRound` in `Nat`: within half of `D`, even on a tie, exactness flag -/
theorem divRound_nat (N D : Nat) (hD : 0 < D) :
    2 * N ≤ 2 * ((divRound N D).1 * D) + D ∧ 2 * ((divRound N D).1 * D) ≤ 2 * N + D ∧
    ((2 * N = 2 * ((divRound N D).1 * D) + D ∨ 2 * ((divRound N D).1 * D) = 2 * N + D) → (divRound N D).1 % 2 = 0) ∧
    ((divRound N D).2 = true ↔ N ≠ (divRound N D).1 * D) := by
  have h1 := Nat.div_add_mod N D
  have h2 := Nat.mod_lt N hD
  unfold divRound
  generalize N / D = q at *
  generalize N % D = r at *
  simp only
  rw [Nat.mul_comm D q] at h1
  split
  · next h =>
    rw [Nat.add_mul]
    simp only [Nat.one_mul, decide_eq_true_eq]
    omega
  · next h =>
    simp only [decide_eq_true_eq]
    omega

theorem natCast_le {a b : Nat} (h : a ≤ b) : (a : Rat) ≤ b := Rat.natCast_le_natCast.mpr h

theorem mul_le_mul_iff_pos {a b c : Rat} (hc : 0 < c) : a * c ≤ b * c ↔ a ≤ b :=
  ⟨fun h => Rat.le_of_mul_le_mul_right h hc, fun h => Rat.mul_le_mul_of_nonneg_right h (Rat.le_of_lt hc)⟩

theorem cmp_of_scaled {x y k u : Rat} {a b : Nat} (hk : 0 < k) (hu : 0 < u) (hx : x * k = a * u) (hy : y * k = b * u) :
    (x ≤ y ↔ a ≤ b) ∧ (x = y ↔ a = b) := by
  have hle (x y : Rat) (a b : Nat) (hx : x * k = a * u) (hy : y * k = b * u) : x ≤ y ↔ a ≤ b := by
    rw [← mul_le_mul_iff_pos hk, hx, hy, mul_le_mul_iff_pos hu, Rat.natCast_le_natCast]
  refine ⟨hle x y a b hx hy, ?_⟩
  have h1 := hle x y a b hx hy
  have h2 := hle y x b a hy hx
  constructor
  · intro h; subst h; exact Nat.le_antisymm (h1.mp (Rat.le_refl)) (h2.mp (Rat.le_refl))
  · intro h; subst h; exact Rat.le_antisymm (h1.mpr (Nat.le_refl _)) (h2.mpr (Nat.le_refl _))

theorem divRound_rat (q u : Rat) (hu : 0 < u) (N D : Nat) (hD : 0 < D) (h : (N : Rat) * u = q * D) :
    q ≤ (divRound N D).1 * u + u / 2 ∧ (divRound N D).1 * u - u / 2 ≤ q ∧
    ((q = (divRound N D).1 * u + u / 2 ∨ q = (divRound N D).1 * u - u / 2) → (divRound N D).1 % 2 = 0) ∧
    ((divRound N D).2 = true ↔ q ≠ (divRound N D).1 * u) := by
  obtain ⟨h1, h2, h3, h4⟩ := divRound_nat N D hD
  generalize (divRound N D).1 = m at *
  generalize (divRound N D).2 = ix at *
  have hk : (0 : Rat) < 2 * D := by have := Rat.natCast_pos.mpr hD; grind
  -- everything in units of `u / (2·D)`
  have e0 : q * (2 * D) = ((2 * N : Nat) : Rat) * u := by
    simp only [Rat.natCast_mul, Rat.natCast_ofNat]; grind
  have e1 : (m * u + u / 2) * (2 * D) = ((2 * (m * D) + D : Nat) : Rat) * u := by
    simp only [Rat.natCast_add, Rat.natCast_mul, Rat.natCast_ofNat]; grind
  have e2 : (q + u / 2) * (2 * D) = ((2 * N + D : Nat) : Rat) * u := by
    simp only [Rat.natCast_add, Rat.natCast_mul, Rat.natCast_ofNat]; grind
  have e3 : (m * u) * (2 * D) = ((2 * (m * D) : Nat) : Rat) * u := by
    simp only [Rat.natCast_mul, Rat.natCast_ofNat]; grind
  have lo : m * u - u / 2 ≤ q ↔ m * u ≤ q + u / 2 := by grind
  have lo' : q = m * u - u / 2 ↔ q + u / 2 = m * u := by grind
  refine ⟨(cmp_of_scaled hk hu e0 e1).1.mpr h1, lo.mpr ((cmp_of_scaled hk hu e3 e2).1.mpr h2), ?_, ?_⟩
  · rintro (ht | ht)
    · exact h3 (Or.inl ((cmp_of_scaled hk hu e0 e1).2.mp ht))
    · exact h3 (Or.inr ((cmp_of_scaled hk hu e2 e3).2.mp (lo'.mp ht)).symm)
  · rw [h4, Ne, Ne, (cmp_of_scaled hk hu e0 e3).2]
    omega

end Percival.Proofs.IeeeArith
