import Percival.Model.Events
import Percival.Spec.PQ
/-!
# The timer queue as the event loop sees it, and the arithmetic on `struct timeval` (C04/C05)

`TQContract` is all that the event-loop proofs know of `timerqueue.c`.  The rest is the arithmetic of
`events_timer.c` and `events_network_select`: deadlines as `(sec, usec)` pairs, the difference
`events_timer_min` hands to `poll`, its conversion to milliseconds, and what is left of a wait after EINTR.
-/
namespace Percival.Proofs.EventsTQ
open Percival.Spec.Events Percival.Model.Events Percival.Model Percival.Model.TimerQueue Percival.Spec.PQ

/-- The contract of `datastruct/timerqueue.c` + `ptrheap.c` as proved for `Model.TimerQueue` in C13
    (`Percival.Proofs.TQ`: `tq_inv_empty`, `tq_add`, `tq_delete`, `tq_increase`, `tq_getmin`,
    `tq_getptr` — the fields below are those statements verbatim, with `TQInv` abstract).
    The event-loop theorems use the timer queue only through this contract. -/
structure TQContract where
  TQInv : TQ → Prop
  empty : TQInv TimerQueue.empty
  add : ∀ (q : TQ) (r : Nat) (sec usec : Int) (ptr : Nat), TQInv q → r ∉ q.h.a.toList →
      TQInv (add q r sec usec ptr) ∧ (add q r sec usec ptr).h.a.toList.Perm (r :: q.h.a.toList) ∧
      (add q r sec usec ptr).recs = (r, ⟨sec, usec, ptr⟩) :: q.recs
  delete : ∀ (q : TQ) (r : Nat), TQInv q → r ∈ q.h.a.toList →
      ∃ q', delete q r = some q' ∧ TQInv q' ∧ q.h.a.toList.Perm (r :: q'.h.a.toList) ∧ q'.recs = q.recs
  increase : ∀ (q : TQ) (r : Nat) (sec usec : Int) (old : Rec), TQInv q → r ∈ q.h.a.toList →
      lookup q.recs r = some old → tvKey old.sec old.usec ≤ tvKey sec usec →
      ∃ q', increase q r sec usec = some q' ∧ TQInv q' ∧ q'.h.a.toList.Perm q.h.a.toList ∧
        q'.recs = (r, { old with sec, usec }) :: q.recs
  getmin : ∀ (q : TQ), TQInv q →
      match getmin q with
      | none => q.h.a.toList = []
      | some (s, u) => ∃ r x, IsLeast (key q.recs) q.h.a.toList r ∧ lookup q.recs r = some x ∧ s = x.sec ∧ u = x.usec
  getptr : ∀ (q : TQ) (sec usec : Int), TQInv q →
      match getptr q sec usec with
      | (q', some (r, p)) => IsLeast (key q.recs) q.h.a.toList r ∧ key q.recs r ≤ tvKey sec usec ∧
          (∃ x, lookup q.recs r = some x ∧ p = x.ptr) ∧ TQInv q' ∧ q.h.a.toList.Perm (r :: q'.h.a.toList) ∧ q'.recs = q.recs
      | (q', none) => q' = q ∧ ∀ x ∈ q.h.a.toList, key q.recs x > tvKey sec usec

theorem tvKey_le (s1 u1 s2 u2 : Int) (h1 : 0 ≤ u1) (h1' : u1 < 1000000) (h2 : 0 ≤ u2) (h2' : u2 < 1000000) :
    tvKey s1 u1 ≤ tvKey s2 u2 ↔ s1 * 1000000 + u1 ≤ s2 * 1000000 + u2 := by
  unfold tvKey
  have e1 : (2:Int)^64 = 18446744073709551616 := by decide
  have e2 : (2:Int)^63 = 9223372036854775808 := by decide
  rw [e1, e2]
  omega

theorem split_usec (us : Nat) : ((us / 1000000 : Nat) : Int) * 1000000 + ((us % 1000000 : Nat) : Int) = us ∧
    (0:Int) ≤ ((us / 1000000 : Nat) : Int) ∧ (0:Int) ≤ ((us % 1000000 : Nat) : Int) ∧ ((us % 1000000 : Nat) : Int) < 1000000 := by
  omega


/-- `p` is the normalised `struct timeval` worth `us` microseconds -/
structure TV (p : Int × Int) (us : Int) : Prop where
  val : p.1 * 1000000 + p.2 = us
  lo : 0 ≤ p.2
  hi : p.2 < 1000000

theorem TV.of {p : Int × Int} {us : Int} (h : p.1 * 1000000 + p.2 = us ∧ 0 ≤ p.2 ∧ p.2 < 1000000) : TV p us :=
  ⟨h.1, h.2.1, h.2.2⟩

theorem TV.split (us : Nat) : TV (((us / 1000000 : Nat) : Int), ((us % 1000000 : Nat) : Int)) us :=
  TV.of (by omega)

/-- `gettimeout`: now + delta, normalised -/
theorem TV.gettimeout {d : Int × Int} {x : Int} (h : TV d x) (clock : Nat) : TV (gettimeout clock d.1 d.2) (clock + x) := by
  obtain ⟨h1, h2, h3⟩ := h
  unfold Model.Events.gettimeout
  simp only
  split <;> exact TV.of (by simp only; omega)

/-! ## the conversion to milliseconds

`C05.ceilMs` is the property's "rounded up to a millisecond" and has no upper limit.  The code's `tv2ms`
(`Model.selectTimeout`) agrees with it below `INT_MAX / 1000` = 2147483 seconds and from there on returns
2147483000 ms, which is no longer than the time asked for: `satMs`. -/

/-- what `tv2ms` makes of `us` microseconds -/
def satMs (us : Nat) : Int := if us < 2147483000000 then C05.ceilMs us else 2147483000

/-- never longer than asked for -/
theorem satMs_le (us : Nat) : satMs us ≤ C05.ceilMs us := by
  unfold satMs C05.ceilMs
  split <;> omega

theorem satMs_nonneg (us : Nat) : 0 ≤ satMs us := by
  unfold satMs C05.ceilMs
  split <;> omega

/-- zero only when nothing is left (no busy loop while time remains, no blocking once it has run out) -/
theorem satMs_eq_zero (us : Nat) : satMs us = 0 ↔ us = 0 := by
  unfold satMs C05.ceilMs
  split <;> omega

theorem satMs_lt {us : Nat} (h : us < 2147483000000) : satMs us = C05.ceilMs us := by
  unfold satMs; rw [if_pos h]

theorem satMs_ge {us : Nat} (h : 2147483000000 ≤ us) : satMs us = 2147483000 := by
  unfold satMs; rw [if_neg (by omega)]

/-! ## the timeout of the first `poll`: `events_timer_min`, then `tv2ms` -/

theorem ceilMs_mono {a b : Nat} (h : a ≤ b) : C05.ceilMs a ≤ C05.ceilMs b :=
  Int.ofNat_le.mpr (Nat.div_le_div_right (Nat.add_le_add_right h 999))

/-- `events_timer_min`'s difference holds the time that is left until the deadline `dl` (none once it is due) -/
theorem TV.timerDiff {t : Int × Int} {dl : Nat} (h : TV t dl) (clock : Nat) :
    TV (timerDiff clock t.1 t.2) ((dl - clock : Nat) : Int) := by
  obtain ⟨h1, h2, h3⟩ := h
  unfold Model.Events.timerDiff
  simp only
  split
  · exact TV.of (by simp only; omega)
  · split <;> exact TV.of (by simp only; omega)

/-- `tv2ms` of a normalised `struct timeval` -/
theorem TV.selectTimeout {p : Int × Int} {us : Nat} (h : TV p us) : selectTimeout (some p) = satMs us := by
  obtain ⟨sec, usec⟩ := p
  obtain ⟨h1, h2, h3⟩ := h
  unfold Model.Events.selectTimeout satMs C05.ceilMs
  simp only at h1 h2 h3 ⊢
  split <;> split <;> omega

/-- the timeout handed to `poll` for a timer due at `dl` µs when the clock reads `clock` µs:
    `events_timer_min`'s difference pushed through `events_network_select`'s conversion is `satMs` of
    the time that is left (0 once the timer is due) -/
theorem selectTimeout_timerDiff (clock dl : Nat) :
    selectTimeout (some (timerDiff clock ((dl / 1000000 : Nat) : Int) ((dl % 1000000 : Nat) : Int))) = satMs (dl - clock) :=
  ((TV.split dl).timerDiff clock).selectTimeout

/-! ## what is left of a wait after EINTR (`events_network_select`) -/

theorem TV.carry (sec usec : Int) (h0 : -1000000 < usec) (h1 : usec < 2000000) : TV (tvCarry sec usec) (sec * 1000000 + usec) := by
  unfold tvCarry
  split
  · exact TV.of (by simp only; omega)
  · split
    · exact TV.of (by simp only; omega)
    · exact ⟨rfl, by omega, by omega⟩

/-- `timeLeft` is `satMs` of what is left of the wait (nothing once `tstart + tv ≤ tnow`) -/
theorem TV.timeLeft {tv : Int × Int} {us : Nat} (h : TV tv us) (tstart tnow : Nat) :
    timeLeft tv tstart tnow = satMs (tstart + us - tnow) := by
  obtain ⟨h1, h2, h3⟩ := h
  unfold Model.Events.timeLeft
  simp only
  have hc := TV.carry (tv.1 - (((tnow / 1000000 : Nat) : Int) - ((tstart / 1000000 : Nat) : Int)))
    (tv.2 - (((tnow % 1000000 : Nat) : Int) - ((tstart % 1000000 : Nat) : Int))) (by omega) (by omega)
  generalize tvCarry _ _ = left at hc ⊢
  obtain ⟨c1, c2, c3⟩ := hc
  split
  · have : tstart + us - tnow = 0 := by omega
    rw [this]; rfl
  · exact TV.selectTimeout ⟨by omega, c2, c3⟩

end Percival.Proofs.EventsTQ
