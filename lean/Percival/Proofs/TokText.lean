import Std.Data.String.ToNat
import Std.Data.String.ToInt
import Percival.Driver.Loop
/-!
# Printed text and how it is read back: the layer under the `Proofs/*Ans.lean` files

Every `pmodel x` prints its typed output as tokens and every `pmodel xmon` reads tokens; what the protocols are made of
is the same everywhere and is proved here once, for arbitrary printers and readers:

* `cut c t`, the pieces of `t` between the occurrences of `c` (each monitor's `splitCh` is this function), undoes
  joining with `c` when no piece contains `c` (`cut_intercalate`); a `Line` is a list of tokens that cutting its text at
  the spaces gives back;
* **atoms** (`Atom s`: letters, digits, `-`, `#`, `?`): printed numbers, hex strings and the words of the protocols.
  No separator of any protocol is a word character, so one fact per atom serves every separator (`Atom.free`), and
  fields that are atoms are cut back at any separator they are joined by (`Atoms.cut`);
* what a printed value is made of (`Made seps s`: word characters and the separators `seps`), built as the value is
  (`Atom.made`, `Atoms.made`, `Made.intercalate`, `Made.dashList`); that it contains no other separator, to be cut at
  one or to stand in a line, is read off it (`Made.free`);
* what a reader rejects is not printed (`ne_of_read`): `toString n ≠ "none"`, an item of a list is not `-`, …;
* lists are read item by item (`mapM_read`); a list printed as `-` when empty and joined by a separator otherwise
  (`dashList`) is read back by `readDashList` (`readDashList_map`, `readDashList_dashList`);
* `key=value` looked up by its key (`kvRead`): found under its own key and under no other (`kvRead_kv`, `kvRead_ne`);
* numbers (`nat_rt`, `int_rt`, `int_toNat`) and hex strings (`hex_rt`).
-/
namespace Percival.Proofs.TokText
open Percival.Driver

/-- the pieces of `t` between the occurrences of `c`: what `splitCh` of every monitor is -/
def cut (c : Char) (t : String) : List String := (t.split c).toList.map (·.copy)

theorem cut_intercalate (c : Char) (l : List String) (hl : ∀ s ∈ l, c ∉ s.toList) (hne : l ≠ []) :
    cut c ((String.singleton c).intercalate l) = l := by
  have := String.toList_split_intercalate (c := c) (l := l) hl
  simpa [cut, hne] using this

theorem cut_free (c : Char) (t : String) (ht : c ∉ t.toList) : cut c t = [t] := by
  have := cut_intercalate c [t] (by simpa using ht) (by simp)
  rwa [String.intercalate_singleton] at this

theorem cut_kv (c : Char) (k v : String) (hk : c ∉ k.toList) (hv : c ∉ v.toList) :
    cut c (k ++ String.singleton c ++ v) = [k, v] := by
  have := cut_intercalate c [k, v] (by simp; exact ⟨hk, hv⟩) (by simp)
  rwa [String.intercalate_cons_cons, String.intercalate_singleton] at this

def Line (l : List String) : Prop := l ≠ [] ∧ ∀ t ∈ l, ' ' ∉ t.toList

theorem Line.cut {l : List String} (h : Line l) : cut ' ' (" ".intercalate l) = l := cut_intercalate ' ' l h.2 h.1

theorem line_cons {t : String} {l : List String} : Line (t :: l) ↔ ∀ s ∈ t :: l, ' ' ∉ s.toList :=
  ⟨fun h => h.2, fun h => ⟨List.cons_ne_nil _ _, h⟩⟩

theorem line_one {t : String} : Line [t] ↔ ' ' ∉ t.toList := by rw [line_cons, List.forall_mem_singleton]

theorem line_more {t u : String} {l : List String} : Line (t :: u :: l) ↔ ' ' ∉ t.toList ∧ Line (u :: l) := by
  rw [line_cons, line_cons, List.forall_mem_cons]

theorem mem_intercalate (sep : String) (c : Char) : ∀ (l : List String), c ∈ (sep.intercalate l).toList →
    c ∈ sep.toList ∨ ∃ x ∈ l, c ∈ x.toList
  | [], h => by simp at h
  | [x], h => by rw [String.intercalate_singleton] at h; exact Or.inr ⟨x, by simp, h⟩
  | x :: y :: l, h => by
    rw [String.intercalate_cons_cons] at h
    simp only [String.toList_append, List.mem_append] at h
    rcases h with (h | h) | h
    · exact Or.inr ⟨x, by simp, h⟩
    · exact Or.inl h
    · rcases mem_intercalate sep c (y :: l) h with h | ⟨z, hz, hc⟩
      · exact Or.inl h
      · exact Or.inr ⟨z, List.mem_cons_of_mem _ hz, hc⟩

theorem mem_intercalate_of_mem (sep : String) (c : Char) : ∀ (l : List String) (x : String), x ∈ l → c ∈ x.toList →
    c ∈ (sep.intercalate l).toList
  | [], _, h, _ => by cases h
  | [y], x, h, hc => by
    rw [String.intercalate_singleton]
    rcases List.mem_singleton.1 h with rfl
    exact hc
  | y :: z :: l, x, h, hc => by
    rw [String.intercalate_cons_cons]
    simp only [String.toList_append, List.mem_append]
    rcases List.mem_cons.1 h with rfl | h
    · exact Or.inl (Or.inl hc)
    · exact Or.inr (mem_intercalate_of_mem sep c (z :: l) x h hc)

/-- how the monitors that look a key up read a token (`Afmon.kvOf`, `Netbufmon.kv`) -/
def kvRead (t key : String) : Option String :=
  let p := (key ++ "=").toList
  if p.isPrefixOf t.toList then some (String.ofList (t.toList.drop p.length)) else none

theorem kvRead_kv (k v : String) : kvRead (k ++ "=" ++ v) k = some v := by
  unfold kvRead
  simp only [String.toList_append]
  rw [if_pos (by simp), List.drop_left, String.ofList_toList]

theorem kvRead_free {t : String} (h : '=' ∉ t.toList) (key : String) : kvRead t key = none := by
  unfold kvRead
  simp only
  split
  · rename_i hp
    exact absurd ((List.isPrefixOf_iff_prefix.1 hp).subset (by simp)) h
  · rfl

theorem kvRead_ne {k k' : String} (v : String) (hk : '=' ∉ k.toList) (hk' : '=' ∉ k'.toList) (hne : k' ≠ k) :
    kvRead (k ++ "=" ++ v) k' = none := by
  unfold kvRead
  simp only
  split
  · rename_i hp
    exfalso
    have hp := List.isPrefixOf_iff_prefix.1 hp
    simp only [String.toList_append, List.append_assoc] at hp
    have e : ("=" : String).toList = ['='] := rfl
    rw [e] at hp
    -- `k'` and `k` are prefixes of the same list, so one is a prefix of the other; what is left over begins with `=`
    rcases List.prefix_or_prefix_of_prefix ((List.prefix_append k'.toList ['=']).trans hp)
      (List.prefix_append k.toList (['='] ++ v.toList)) with ⟨r, hr⟩ | ⟨r, hr⟩
    · rw [← hr, List.append_assoc, List.prefix_append_right_inj] at hp
      cases r with
      | nil => exact hne (String.toList_inj.1 (by simpa using hr))
      | cons x r =>
        rw [List.cons_append, List.cons_prefix_cons] at hp
        exact hk (by rw [← hr, ← hp.1]; simp)
    · rw [← hr, List.append_assoc, List.prefix_append_right_inj] at hp
      cases r with
      | nil => exact hne (String.toList_inj.1 (by simpa using hr.symm))
      | cons x r =>
        rw [List.cons_append, List.cons_append, List.cons_prefix_cons] at hp
        exact hk' (by rw [← hr, hp.1]; simp)
  · rfl

/-- the characters of numbers and words.  Not among them: the separators ` `, `=`, `:`, `,`, `;`, `/`, `|` -/
def wordCh (c : Char) : Bool := c.isAlphanum || c == '-' || c == '#' || c == '?'

def Atom (s : String) : Prop := ∀ c ∈ s.toList, wordCh c = true

instance (s : String) : Decidable (Atom s) := inferInstanceAs (Decidable (∀ c ∈ s.toList, wordCh c = true))

theorem Atom.free {s : String} (h : Atom s) {c : Char} (hc : wordCh c = false) : c ∉ s.toList :=
  fun hm => by rw [h c hm] at hc; cases hc

theorem Atom.append {a b : String} (ha : Atom a) (hb : Atom b) : Atom (a ++ b) := fun c h => by
  rw [String.toList_append, List.mem_append] at h
  exact h.elim (ha c) (hb c)

theorem Atom.sp {s : String} (h : Atom s) : ' ' ∉ s.toList := h.free rfl

def Atoms (l : List String) : Prop := ∀ s ∈ l, Atom s

theorem atoms_nil : Atoms [] := fun _ h => nomatch h

theorem atoms_cons {t : String} {l : List String} : Atoms (t :: l) ↔ Atom t ∧ Atoms l := List.forall_mem_cons

theorem Atoms.cut {l : List String} (h : Atoms l) {c : Char} (hc : wordCh c = false) (hne : l ≠ []) :
    cut c ((String.singleton c).intercalate l) = l :=
  cut_intercalate c l (fun s hs => (h s hs).free hc) hne

/-- the words several protocols share; each `*Ans` file lists those of its own in a `vocab` of this form -/
theorem words : Atom "ok" ∧ Atom "fail" ∧ Atom "end" ∧ Atom "skip" ∧ Atom "none" ∧ Atom "0" := by decide +kernel

theorem nat_chars (n : Nat) : ∀ c ∈ (toString n).toList, c.isDigit = true := by
  intro c h
  have h' : c ∈ (Nat.repr n).toList := h
  rw [Nat.toList_repr] at h'
  exact Nat.isDigit_of_mem_toDigits (b := 10) (by omega) (by omega) h'

theorem int_toString (i : Int) : toString i = match i with | .ofNat m => m.repr | .negSucc m => "-" ++ m.succ.repr := by
  cases i <;> rfl

theorem int_chars (i : Int) : ∀ c ∈ (toString i).toList, c.isDigit = true ∨ c = '-' := by
  intro c h
  rw [int_toString] at h
  cases i with
  | ofNat m => exact Or.inl (nat_chars m c h)
  | negSucc m =>
    simp only [String.toList_append, List.mem_append] at h
    rcases h with h | h
    · right; simpa using h
    · exact Or.inl (nat_chars _ c h)

theorem wordCh_digit {c : Char} (h : c.isDigit = true) : wordCh c = true := by
  simp [wordCh, Char.isAlphanum, h]

theorem atom_nat (n : Nat) : Atom (toString n) := fun c h => wordCh_digit (nat_chars n c h)

theorem atom_int (i : Int) : Atom (toString i) := fun c h => by
  rcases int_chars i c h with h | rfl
  · exact wordCh_digit h
  · rfl

theorem ne_of_read {α : Type} {rd : String → Option α} {s t : String} {a : α} (ht : rd t = none)
    (hs : rd s = some a) : s ≠ t :=
  fun e => by rw [e, ht] at hs; cases hs

theorem nat_rt (n : Nat) : (toString n).toNat? = some n := Nat.toNat?_repr n

theorem int_rt (i : Int) : (toString i).toInt? = some i := Int.toInt?_repr i

theorem zero_rt : ("0" : String).toNat? = some 0 := nat_rt 0

theorem toNat?_none {s : String} {c : Char} (hm : c ∈ s.toList) (hc : c.isDigit = false) (hu : c ≠ '_') :
    s.toNat? = none := by
  apply String.toNat?_eq_none
  cases h : s.isNat with
  | false => rfl
  | true =>
    rw [String.isNat_iff] at h
    rcases h.2.1 c hm with h | h
    · rw [h] at hc; cases hc
    · exact absurd h hu

theorem int_toNat (i : Int) : (toString i).toNat? = if 0 ≤ i then some i.toNat else none := by
  cases i with
  | ofNat m => exact nat_rt m
  | negSucc m =>
    rw [if_neg (by omega)]
    exact toNat?_none (c := '-') (by rw [int_toString]; simp) (by decide) (by decide)

theorem dash_toInt : ("-" : String).toInt? = none := by
  apply String.toInt?_eq_none
  cases h : ("-" : String).isInt with
  | false => rfl
  | true =>
    rw [String.isInt_iff] at h
    rcases h with h | ⟨t, ht, hn⟩
    · rw [String.isNat_iff] at h
      have := h.2.1 '-' (by simp)
      simp at this
    · have : t = "" := by
        have := congrArg String.toList ht
        simp only [String.toList_append] at this
        have e : ("-" : String).toList = ['-'] := by decide
        rw [e] at this
        simpa using this
      subst this
      rw [String.isNat_iff] at hn
      exact absurd rfl hn.1

theorem nat_ne_none (n : Nat) : toString n ≠ "none" :=
  ne_of_read (toNat?_none (c := 'n') (by decide) (by decide) (by decide)) (nat_rt n)

theorem int_ne_none (i : Int) : toString i ≠ "none" := by
  intro h
  rcases int_chars i 'n' (by rw [h]; decide) with h | h <;> cases h

theorem mapM_read {α β : Type} {pr : α → String} {rd : String → Option β} {f : α → β} :
    ∀ (l : List α), (∀ a ∈ l, rd (pr a) = some (f a)) → (l.map pr).mapM rd = some (l.map f)
  | [], _ => rfl
  | a :: l, h => by
    simp only [List.map_cons, List.mapM_cons, h a (by simp), mapM_read l fun x hx => h x (List.mem_cons_of_mem _ hx)]
    rfl

theorem mapM_cons_some {α β : Type} {f : α → Option β} {a : α} {l : List α} {ys : List β}
    (h : (a :: l).mapM f = some ys) : ∃ y ys', f a = some y ∧ l.mapM f = some ys' ∧ ys = y :: ys' := by
  simp only [List.mapM_cons, Option.bind_eq_bind, Option.bind_eq_some_iff, Option.pure_def, Option.some.injEq] at h
  obtain ⟨y, h1, ys', h2, rfl⟩ := h
  exact ⟨y, ys', h1, h2, rfl⟩

/-- `-` for no item, the items joined by `sep` otherwise: how every protocol prints a list inside a token -/
def dashList (sep : Char) (l : List String) : String :=
  if l.isEmpty then "-" else (String.singleton sep).intercalate l

/-- how every monitor reads such a list -/
def readDashList {α : Type} (sep : Char) (rd : String → Option α) (s : String) : Option (List α) :=
  if s = "-" then some [] else (cut sep s).mapM rd

/-- the items are read one by one, except that the single item `-` is read as no item -/
theorem readDashList_dashList {α : Type} (sep : Char) (hsep : sep ≠ '-') (rd : String → Option α) (l : List String)
    (hl : ∀ s ∈ l, sep ∉ s.toList) :
    readDashList sep rd (dashList sep l) = if l = ["-"] then some [] else l.mapM rd := by
  cases l with
  | nil => simp [readDashList, dashList]
  | cons x xs =>
    have hc := cut_intercalate sep (x :: xs) hl (by simp)
    have e : dashList sep (x :: xs) = (String.singleton sep).intercalate (x :: xs) := rfl
    rw [readDashList, e]
    by_cases hd : (String.singleton sep).intercalate (x :: xs) = "-"
    · rw [hd, cut_free sep "-" (by simpa using hsep)] at hc
      rw [if_pos hd, if_pos hc.symm]
    · rw [if_neg hd, hc, if_neg]
      intro h
      rw [h, String.intercalate_singleton] at hd
      exact hd rfl

theorem readDashList_map {α β : Type} (sep : Char) (hsep : sep ≠ '-') {pr : α → String} {rd : String → Option β}
    {f : α → β} (hd : rd "-" = none) (l : List α) (hrt : ∀ a ∈ l, rd (pr a) = some (f a))
    (hl : ∀ a ∈ l, sep ∉ (pr a).toList) :
    readDashList sep rd (dashList sep (l.map pr)) = some (l.map f) := by
  rw [readDashList_dashList sep hsep rd _ (by simpa using hl), mapM_read l hrt, if_neg]
  cases l with
  | nil => simp
  | cons a l =>
    intro h
    simp only [List.map_cons, List.cons.injEq] at h
    exact ne_of_read hd (hrt a (by simp)) h.1

theorem readDashList_rt {α : Type} (sep : Char) (hsep : sep ≠ '-') {pr : α → String} {rd : String → Option α}
    (hd : rd "-" = none) (l : List α) (hrt : ∀ a ∈ l, rd (pr a) = some a) (hl : ∀ a ∈ l, sep ∉ (pr a).toList) :
    readDashList sep rd (dashList sep (l.map pr)) = some l := by
  rw [readDashList_map sep hsep hd l hrt hl, List.map_id']

/-- the `,`-list of numbers of the heap and allocation-failure protocols -/
theorem readDashList_nats (ids : List Nat) :
    readDashList ',' String.toNat? (dashList ',' (ids.map toString)) = some ids :=
  readDashList_rt ',' (by decide) (toNat?_none (c := '-') (by decide) (by decide) (by decide)) ids
    (fun n _ => nat_rt n) fun n _ => (atom_nat n).free rfl

/-- `s` is made of word characters and the separators `seps`: an atom is made of word characters alone, and joining
with a separator adds it.  So each printed value has ONE such fact, built as the value is, and that it contains no
other separator (to be cut at one, or to stand in a line) is read off it (`Made.free`). -/
def Made (seps : List Char) (s : String) : Prop := ∀ c ∈ s.toList, wordCh c = true ∨ c ∈ seps

theorem Made.free {seps : List Char} {s : String} (h : Made seps s) {c : Char} (hc : wordCh c = false)
    (hs : c ∉ seps) : c ∉ s.toList :=
  fun hm => (h c hm).elim (fun hw => by rw [hw] at hc; cases hc) hs

theorem Atom.made {s : String} (h : Atom s) (seps : List Char) : Made seps s := fun c hc => Or.inl (h c hc)

theorem Made.intercalate {seps : List Char} (sep : Char) {l : List String} (hl : ∀ x ∈ l, Made seps x) :
    Made (sep :: seps) ((String.singleton sep).intercalate l) := by
  intro c hc
  rcases mem_intercalate _ c l hc with h | ⟨x, hx, h⟩
  · exact Or.inr (List.mem_cons.2 (Or.inl (by simpa using h)))
  · exact (hl x hx c h).imp_right (List.mem_cons_of_mem _)

theorem Made.dashList {α : Type} {seps : List Char} (sep : Char) {pr : α → String} {l : List α}
    (hl : ∀ a ∈ l, Made seps (pr a)) : Made (sep :: seps) (dashList sep (l.map pr)) := by
  unfold TokText.dashList
  split
  · exact Atom.made (by decide +kernel) _
  · exact Made.intercalate sep (List.forall_mem_map.2 hl)

theorem kv_sp {k v : String} (hk : Atom k) (hv : ' ' ∉ v.toList) : ' ' ∉ (k ++ "=" ++ v).toList := by
  simp only [String.toList_append, List.mem_append, not_or]
  exact ⟨⟨hk.sp, by decide⟩, hv⟩

theorem Atoms.made {l : List String} (h : Atoms l) (sep : Char) : Made [sep] ((String.singleton sep).intercalate l) :=
  Made.intercalate sep fun s hs => (h s hs).made _

theorem dashList_nats_sp (ids : List Nat) : ' ' ∉ (dashList ',' (ids.map toString)).toList :=
  (Made.dashList (seps := []) ',' fun n _ => (atom_nat n).made _).free rfl (by decide)

theorem hexDigit_val : ∀ n, n < 16 → hexVal (hexDigit n) = some n ∧
    ((hexDigit n).isDigit = true ∨ ('a' ≤ hexDigit n ∧ hexDigit n ≤ 'f')) := by decide

def hexChars (bs : List UInt8) : List Char :=
  bs.foldr (fun b acc => hexDigit (b.toNat / 16) :: hexDigit (b.toNat % 16) :: acc) []

theorem hexChars_cons (b : UInt8) (bs : List UInt8) :
    hexChars (b :: bs) = hexDigit (b.toNat / 16) :: hexDigit (b.toNat % 16) :: hexChars bs := rfl

theorem byte_lt (b : UInt8) : b.toNat / 16 < 16 ∧ b.toNat % 16 < 16 := by
  have := b.toNat_lt; omega

theorem bytesOfHexChars_hexChars (bs : List UInt8) : bytesOfHexChars (hexChars bs) = some bs := by
  induction bs with
  | nil => rfl
  | cons b bs ih =>
    obtain ⟨h1, h2⟩ := byte_lt b
    rw [hexChars_cons, bytesOfHexChars, (hexDigit_val _ h1).1, (hexDigit_val _ h2).1, ih]
    simp only [Option.pure_def, Option.bind_eq_bind, Option.bind_some, Option.some.injEq, List.cons.injEq, and_true]
    have : b.toNat / 16 * 16 + b.toNat % 16 = b.toNat := by omega
    rw [this]; simp

def hexCh (c : Char) : Prop := c.isDigit = true ∨ ('a' ≤ c ∧ c ≤ 'f')

theorem hexChars_chars (bs : List UInt8) : ∀ c ∈ hexChars bs, hexCh c := by
  induction bs with
  | nil => simp [hexChars]
  | cons b bs ih =>
    obtain ⟨h1, h2⟩ := byte_lt b
    intro c hc
    rw [hexChars_cons] at hc
    simp only [List.mem_cons] at hc
    rcases hc with rfl | rfl | hc
    · exact (hexDigit_val _ h1).2
    · exact (hexDigit_val _ h2).2
    · exact ih c hc

theorem hexOfBytes_cons (b : UInt8) (bs : List UInt8) : hexOfBytes (b :: bs) = String.ofList (hexChars (b :: bs)) := rfl

theorem hexOfBytes_ne_dash (b : UInt8) (bs : List UInt8) : hexOfBytes (b :: bs) ≠ "-" := by
  rw [hexOfBytes_cons]
  intro h
  have := congrArg String.toList h
  rw [String.toList_ofList, hexChars_cons] at this
  simp at this

theorem hex_rt (bs : List UInt8) : bytesOfHex (hexOfBytes bs) = some bs := by
  cases bs with
  | nil => simp [hexOfBytes, bytesOfHex]
  | cons b bs =>
    rw [bytesOfHex, if_neg (hexOfBytes_ne_dash b bs), hexOfBytes_cons, String.toList_ofList, bytesOfHexChars_hexChars]

theorem hex_chars (bs : List UInt8) : ∀ c ∈ (hexOfBytes bs).toList, hexCh c ∨ c = '-' := by
  cases bs with
  | nil => intro c hc; right; simpa [hexOfBytes] using hc
  | cons b bs =>
    intro c hc
    rw [hexOfBytes_cons, String.toList_ofList] at hc
    exact Or.inl (hexChars_chars _ c hc)

theorem wordCh_hex {c : Char} (h : hexCh c) : wordCh c = true := by
  rcases h with h | h
  · exact wordCh_digit h
  · have : c.isLower = true := by
      simp only [Char.isLower, Bool.and_eq_true, decide_eq_true_eq]
      exact ⟨h.1, Nat.le_trans h.2 (by decide)⟩
    simp [wordCh, Char.isAlphanum, Char.isAlpha, this]

theorem atom_hex (b : List UInt8) : Atom (hexOfBytes b) := fun c h => by
  rcases hex_chars b c h with h | rfl
  · exact wordCh_hex h
  · rfl

end Percival.Proofs.TokText
