import Percival.Proofs.AFUTop
import Percival.Proofs.AFUFrames
/-!
# C14, upper layers: the ghost counter `evLive` is the event layer's block count

`World.evLive` is moved by `setEv` only, by the change of `Mem.live` across each call into the event layer.
`Proofs/EvRegAcct.lean` shows that every such call changes `Mem.live` by exactly the change of `evBlocks`; the rules of
`Proofs/AFUCalc.lean` carry this along a call (field `acct` of `At`), so `evLive = evBlocks ev` along every run (`EvAcct`), and with `Inv.acct` the oracle's counter is
`|live| + |cache| + evBlocks ev`.  Once every object has been released, the exit handlers (`atexitAll`) free
every block: `atexitAll_frees_everything`.
-/
namespace Percival.Proofs.AllocFailUpper
open Percival.Model Percival.Model.EvReg Percival.Model.AllocFail
open Percival.Proofs.EvRegNet (regNet netRegistered NetInv)
open Percival.Proofs.EvRegTimer (regImm regTimers TmInv Step Granted)
open Percival.Proofs.EArray (malloc_ok malloc_fail free_facts)
open Percival.Model.Connect (AddrOutcome)
open Percival.Proofs.EvRegAcct

namespace Acct

/-! ### one call, a run, the teardown -/

theorem evAcct_step (w : World) (op : Op) (h : Inv w) (ha : EvAcct w) : EvAcct (step w op) := by
  rw [step_eq]; exact (stepR_post w op h).arr.acct ha

theorem evAcct_teardownN : ∀ (n : Nat) (w : World), Inv w → EvAcct w → EvAcct (teardownN n w)
  | 0, _, _, ha => ha
  | n + 1, w, h, ha => by
    unfold teardownN
    cases hop : nextRelease w with
    | none => exact ha
    | some op => exact evAcct_teardownN n (step w op) (step_inv w op h) (evAcct_step w op h ha)

end Acct

/-- one call keeps `evLive = evBlocks ev`, whatever the oracle does and whatever the outcome -/
theorem evAcct_stepR (w : World) (op : Op) (h : Inv w) (ha : EvAcct w) : EvAcct (stepR w op).2 :=
  (stepR_post w op h).arr.acct ha

theorem evAcct_run (w : World) (ops : List Op) (h : Inv w) (ha : EvAcct w) : EvAcct (run w ops) := by
  induction ops generalizing w with
  | nil => exact ha
  | cons op rest ih =>
    show EvAcct (run (step w op) rest)
    exact ih (step w op) (step_inv w op h) (Acct.evAcct_step w op h ha)

theorem evAcct_teardown (w : World) (h : Inv w) (ha : EvAcct w) : EvAcct (teardown w) :=
  Acct.evAcct_teardownN (objects w) w h ha

/-- along every run the oracle's counter is the upper layers' blocks, the cached cookies and the event
layer's block count -/
theorem live_eq_blocks (w : World) (h : Inv w) (ha : EvAcct w) :
    w.m.live = w.live.length + w.cache.length + evBlocks w.ev := by
  rw [h.acct, ha.1]

/-- **after every object has been released, the exit handlers free everything the library ever allocated** -/
theorem atexitAll_frees_everything (w : World) (h : Inv w) (ha : EvAcct w)
    (ht : tables w = ⟨[], [], [], [], [], [], []⟩) :
    (atexitAll w).m.live = 0 ∧ (atexitAll w).live = [] ∧ (atexitAll w).cache = [] := by
  obtain ⟨hi, hcache, hlive, _, hev, _, _, hevl, _, _, _, _⟩ := atexitPools_partial w h.toInv0
  obtain ⟨hl0, hn, htm, him⟩ := empty_tables_nothing w h.toInv0 ht
  have hsd := shutdown_acct (atexitPools w).ev (atexitPools w).m hi.ev.net hi.ev.tm (by rw [hev]; exact ha.2)
    (by rw [hev]; exact hn) (by rw [hev]; exact htm) (by rw [hev]; exact him)
  have hacct : (atexitPools w).m.live = (atexitPools w).live.length + (atexitPools w).cache.length + (atexitPools w).evLive :=
    hi.acct
  rw [hcache, hlive, hl0, hevl, ha.1, ← hev] at hacct
  unfold atexitAll
  dsimp only
  rcases hsh : shutdown (atexitPools w).ev (atexitPools w).m with ⟨e', m'⟩
  rw [hsh] at hsd
  refine ⟨?_, ?_, hcache⟩
  · show m'.live = 0
    dsimp only at hsd
    rw [hsd, hacct]; simp
  · show (atexitPools w).live = []
    rw [hlive, hl0]

/-- **after `teardown` nothing is left**: no block owned by an object, no object, nothing registered, no double free; the
pools' exit handlers then empty the cache, and what the allocator still counts as live is the event layer's -/
theorem teardown_leaves_nothing (w0 : World) (h : Inv w0) :
    let w := teardown w0
    Inv w ∧ w.live = [] ∧ tables w = ⟨[], [], [], [], [], [], []⟩ ∧
    regNet w.ev = [] ∧ regTimers w.ev = [] ∧ (regImm w.ev).flatten = [] ∧
    w.bad = 0 ∧ (atexitPools w).cache = [] ∧ (atexitPools w).live = [] ∧ (atexitPools w).m.live = (atexitPools w).evLive := by
  intro w
  obtain ⟨hw, ht, _⟩ := teardown_spec w0 h
  obtain ⟨h1, h2, h3, h4⟩ := empty_tables_nothing w hw.toInv0 ht
  obtain ⟨hx, hc, hl, _⟩ := atexitPools_partial w hw.toInv0
  refine ⟨hw, h1, ht, h2, h3, h4, hw.bad0, hc, by rw [hl, h1], ?_⟩
  have ha := hx.acct
  simp only [forgetDyn] at ha
  rw [hc, hl, h1] at ha
  simpa using ha

/-- end to end, from the empty world, for every oracle and every sequence of calls: after the calls, the normal
releases of whatever is left, and the exit handlers, no block of the library is allocated -/
theorem run_teardown_atexit_no_leak (m : Mem) (hm : m.live = 0) (ops : List Op) :
    (atexitAll (teardown (run { m := m } ops))).m.live = 0 ∧
    (atexitAll (teardown (run { m := m } ops))).live = [] ∧ (atexitAll (teardown (run { m := m } ops))).cache = [] := by
  have h0 := inv_init m hm
  have h1 := run_inv _ ops h0
  have a1 := evAcct_run _ ops h0 (evAcct_init m)
  obtain ⟨h2, ht, _⟩ := teardown_spec _ h1
  exact atexitAll_frees_everything _ h2 (evAcct_teardown _ h1 a1) ht

end Percival.Proofs.AllocFailUpper
