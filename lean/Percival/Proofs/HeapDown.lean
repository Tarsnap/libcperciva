import Percival.Proofs.Heap
/-!
# C13: `minChild`, sift-down (`heapify`), what sifting does not read, the stale last slot
-/
namespace Percival.Proofs.Heap
open Percival.Model.Heap

variable (key : Nat → Int)

theorem keyAt_of_get {h : Heap} {i w : Nat} (hw : h.a[i]? = some w) : keyAt key h i = some (key w) := by
  rw [keyAt, hw]; rfl

/-- one comparison of `heapify`: the candidate `m` so far, or the child `c` if it lies below `N` and
    its key is smaller -/
def pick (h : Heap) (N m c : Nat) : Nat :=
  match keyAt key h m, keyAt key h c with
  | some km, some kc => if c < N ∧ km > kc then c else m
  | _, _ => m

theorem minChild_eq (h : Heap) (N i : Nat) :
    minChild key h N i = pick key h N (pick key h N i (2*i+1)) (2*i+2) := rfl

theorem pick_cases (h : Heap) (N m c : Nat) : pick key h N m c = m ∨ (pick key h N m c = c ∧ c < N) := by
  unfold pick
  split
  · split
    · exact .inr ⟨rfl, ‹_ ∧ _›.1⟩
    · exact .inl rfl
  · exact .inl rfl

theorem pick_le {h : Heap} {N m c : Nat} {kv : Int} (hv : keyAt key h (pick key h N m c) = some kv) :
    (∀ km, keyAt key h m = some km → kv ≤ km) ∧ (∀ kc, c < N → keyAt key h c = some kc → kv ≤ kc) := by
  unfold pick at hv
  split at hv
  · rename_i km kc hkm hkc
    split at hv
    · rename_i hlt
      rw [hkc] at hv; cases hv
      exact ⟨fun k hk => by rw [hkm] at hk; cases hk; omega,
        fun k _ hk => by rw [hkc] at hk; cases hk; exact Int.le_refl _⟩
    · rename_i hge
      rw [hkm] at hv; cases hv
      exact ⟨fun k hk => by rw [hkm] at hk; cases hk; exact Int.le_refl _,
        fun k hcN hk => by rw [hkc] at hk; cases hk; omega⟩
  · rename_i hno
    exact ⟨fun k hk => by rw [hv] at hk; cases hk; exact Int.le_refl _, fun k _ hk => (hno kv k hv hk).elim⟩

theorem pick_drop_last (h : Heap) (n m c : Nat)
    (hle : c = n - 1 → ∀ km kc, keyAt key h m = some km → keyAt key h c = some kc → km ≤ kc) :
    pick key h n m c = pick key h (n-1) m c := by
  unfold pick
  split
  · rename_i km kc hkm hkc
    by_cases hcn : c = n - 1
    · have := hle hcn km kc hkm hkc
      rw [if_neg (by omega), if_neg (by omega)]
    · have : c < n ↔ c < n - 1 := by omega
      simp only [this]
  · rfl

theorem minChild_cases (h : Heap) (N i : Nat) :
    minChild key h N i = i ∨ (minChild key h N i = 2*i+1 ∧ 2*i+1 < N) ∨ (minChild key h N i = 2*i+2 ∧ 2*i+2 < N) := by
  rw [minChild_eq]
  rcases pick_cases key h N (pick key h N i (2*i+1)) (2*i+2) with h2 | h2
  · rw [h2]
    rcases pick_cases key h N i (2*i+1) with h1 | h1
    · exact .inl h1
    · exact .inr (.inl h1)
  · exact .inr (.inr h2)

theorem minChild_child (h : Heap) (N x : Nat) (hm : minChild key h N x ≠ x) :
    x < minChild key h N x ∧ minChild key h N x < N ∧ (minChild key h N x - 1) / 2 = x := by
  have := minChild_cases key h N x
  omega

theorem minChild_le (h : Heap) (N i : Nat) (hN : N ≤ h.a.size) (hi : i < N) {j v w : Nat}
    (hj : j = i ∨ j = 2*i+1 ∨ j = 2*i+2) (hjN : j < N)
    (hv : h.a[minChild key h N i]? = some v) (hw : h.a[j]? = some w) : key v ≤ key w := by
  rw [minChild_eq] at hv
  obtain ⟨hm1, hr⟩ := pick_le key (keyAt_of_get key hv)
  have h1N : pick key h N i (2*i+1) < N := by
    rcases pick_cases key h N i (2*i+1) with e | e <;> omega
  have hv1 := keyAt_of_get key (Array.getElem?_eq_getElem (Nat.lt_of_lt_of_le h1N hN))
  obtain ⟨hx, hl⟩ := pick_le key hv1
  have := hm1 _ hv1
  have hkw := keyAt_of_get key hw
  rcases hj with rfl | rfl | rfl
  · have := hx _ hkw; omega
  · have := hl _ hjN hkw; omega
  · exact hr _ hjN hkw

theorem siftDown_perm (b : Bool) (N f : Nat) (h : Heap) (x : Nat) :
    (siftDown key b N f h x).a.toList.Perm h.a.toList := by
  fun_induction siftDown key b N f h x with
  | case3 f h x m _ ih => exact ih.trans (swap_perm b h _ _)
  | _ => exact List.Perm.refl _

theorem siftDown_size (b : Bool) (N f : Nat) (h : Heap) (x : Nat) :
    (siftDown key b N f h x).a.size = h.a.size := by
  simpa using (siftDown_perm key b N f h x).length_eq

theorem siftDown_log_false (N f : Nat) (h : Heap) (x : Nat) :
    (siftDown key false N f h x).log = h.log := by
  fun_induction siftDown key false N f h x with
  | case3 f h x m _ ih => rw [ih, swap_log_false]
  | _ => rfl

theorem siftDown_handles (N f : Nat) (h : Heap) (x : Nat) (hN : N ≤ h.a.size) (hh : Handles h) :
    Handles (siftDown key true N f h x) := by
  fun_induction siftDown key true N f h x with
  | case3 f h x m hm ih =>
    obtain ⟨hxm, hmN, -⟩ : x < m ∧ m < N ∧ (m - 1) / 2 = x := minChild_child key h N x hm
    exact ih (by rw [swap_size]; exact hN) (swap_handles h _ _ (Nat.lt_of_lt_of_le hmN hN)
      (Nat.lt_of_lt_of_le (Nat.lt_trans hxm hmN) hN) hh)
  | _ => exact hh

theorem siftDown_distinct (b : Bool) (N f : Nat) (h : Heap) (x : Nat) (hN : N ≤ h.a.size)
    (hd : DistinctN h N) : DistinctN (siftDown key b N f h x) N := by
  fun_induction siftDown key b N f h x with
  | case3 f h x m hm ih =>
    obtain ⟨hxm, hmN, -⟩ : x < m ∧ m < N ∧ (m - 1) / 2 = x := minChild_child key h N x hm
    exact ih (by rw [swap_size]; exact hN) (swap_distinct b h N _ _ hN hmN (Nat.lt_trans hxm hmN) hd)
  | _ => exact hd

/-- One step of `heapify`: a child `m` of `x` holds the least key among `x` and its children below `N`;
    after the exchange the edges in doubt are those below `m`. -/
theorem swap_down_ordered (b : Bool) (h : Heap) (N lo x : Nat) (hN : N ≤ h.a.size) (hlo : lo ≤ x) (hxN : x < N)
    (hm : minChild key h N x ≠ x) (hex : OrderedBelowExcept key h N lo x) (hp : ParentOK key h N lo x) :
    OrderedBelowExcept key (swap b h (minChild key h N x) x) N lo (minChild key h N x) ∧
    ParentOK key (swap b h (minChild key h N x) x) N lo (minChild key h N x) := by
  obtain ⟨hxm, hmN, hmx⟩ := minChild_child key h N x hm
  have hle := fun {j v w : Nat} => minChild_le key h N x hN hxN (j := j) (v := v) (w := w)
  generalize minChild key h N x = m at *
  have hm0 : 0 < m := Nat.zero_lt_of_lt hxm
  clear hm hxm
  subst hmx
  have hms : m < h.a.size := Nat.lt_of_lt_of_le hmN hN
  have hxs : (m-1)/2 < h.a.size := Nat.lt_of_lt_of_le hxN hN
  constructor
  · intro i u v hi0 hiN hil hpm hu hv
    rcases swap_edge b h m i u v hm0 hms hi0 hu hv with
      ⟨rfl, hu, hv⟩ | ⟨h2, hu, hv⟩ | ⟨h3, _⟩ | ⟨h4, h1, hu, hv⟩ | ⟨h1, h3, h4, hu, hv⟩
    · exact hle (.inl rfl) hxN hv hu
    · exact hp m u v (h2 ▸ hi0) (h2 ▸ hil) hmN hm0 rfl hu (h2 ▸ hv)
    · exact absurd h3 hpm
    · exact hle (.inr (child_cases hi0 h4)) hiN hv hu
    · exact hex i u v hi0 hiN hil h4 hu hv
  · intro c e q _ _ hcN hc0 hcm he hq
    obtain ⟨n1, n2, n3, n4, hlc⟩ :
        c ≠ m ∧ c ≠ (m-1)/2 ∧ (m-1)/2 ≠ m ∧ (c-1)/2 ≠ (m-1)/2 ∧ lo ≤ (c-1)/2 := by omega
    rw [swap_get b h _ _ _ hms hxs, if_neg n1, if_neg n2] at he
    rw [swap_get b h _ _ _ hms hxs, if_neg n3, if_pos rfl] at hq
    exact hex c e q hc0 hcN hlc n4 he (hcm ▸ hq)

/-- Sift-down restores the order on all edges with parent `≥ lo`, given that it held on all of them
    except the ones below `x`.  `lo = 0`: `increase`/`delete`; `lo = x`: one step of `create`. -/
theorem siftDown_ordered (b : Bool) (N lo f : Nat) (h : Heap) (x : Nat) (hN : N ≤ h.a.size) (hfuel : N ≤ x + f)
    (hlo : lo ≤ x)
    (hex : OrderedBelowExcept key h N lo x) (hp : ParentOK key h N lo x) :
    OrderedFrom key (siftDown key b N f h x) N lo := by
  fun_induction siftDown key b N f h x with
  | case1 h x =>
    intro i c q hi hiN hl hc hq
    exact hex i c q hi hiN hl (by omega) hc hq
  | case2 f h x m hm =>
    -- nothing below `x` is smaller
    intro i c q hi hiN hl hc hq
    by_cases hpar : (i-1)/2 = x
    · rw [hpar] at hq
      exact minChild_le key h N x hN (hpar ▸ Nat.lt_trans (parent_lt hi) hiN) (.inr (child_cases hi hpar)) hiN
        (by rw [show minChild key h N x = x from hm]; exact hq) hc
    · exact hex i c q hi hiN hl hpar hc hq
  | case3 f h x m hm ih =>
    obtain ⟨hxm, hmN, -⟩ : x < m ∧ m < N ∧ (m - 1) / 2 = x := minChild_child key h N x hm
    obtain ⟨hex', hp'⟩ := swap_down_ordered key b h N lo x hN hlo (Nat.lt_trans hxm hmN) hm hex hp
    exact ih (by rw [swap_size]; exact hN) (by omega) (Nat.le_trans hlo (Nat.le_of_lt hxm)) hex' hp'

/-! ## Sifting is natural in what it does not read

`heapifyup` and `heapify` below `N` read the first `N` slots and nothing else, and act by exchanges among them.  A
transformation of the heap that leaves those reads alone and commutes with those exchanges therefore commutes with both.
Two transformations matter: older notifications put below the log (`Proofs/HeapUnder.lean`) and the last slot dropped
(`ptrheap_delete` shrinks the array last; `Proofs/HeapDelete.lean`). -/

structure Blind (n N : Nat) (T : Heap → Heap) : Prop where
  get : ∀ h, h.a.size = n → ∀ k, k < N → (T h).a[k]? = h.a[k]?
  swap : ∀ b h i j, h.a.size = n → i < N → j < N → swap b (T h) i j = T (swap b h i j)

theorem siftUp_blind {n N : Nat} {T : Heap → Heap} (hT : Blind n N T) (b : Bool) (f : Nat) (h : Heap) (x : Nat)
    (hn : h.a.size = n) (hx : x < N) : siftUp key b f (T h) x = T (siftUp key b f h x) := by
  induction f generalizing h x with
  | zero => rfl
  | succ f ih =>
    have hp : (x-1)/2 < N := Nat.lt_of_le_of_lt (parent_le x) hx
    rw [siftUp_succ, siftUp_succ, hT.get h hn x hx, hT.get h hn _ hp]
    split
    · split
      · rw [hT.swap b h x _ hn hx hp, ih _ _ (by rw [swap_size]; exact hn) hp]
      · rfl
    · rfl

theorem pick_blind {n N : Nat} {T : Heap → Heap} (hT : Blind n N T) (h : Heap) (hn : h.a.size = n) (m c : Nat)
    (hm : m < N) : pick key (T h) N m c = pick key h N m c := by
  unfold pick keyAt
  rw [hT.get h hn m hm]
  by_cases hc : c < N
  · rw [hT.get h hn c hc]
  · -- a child from `N` on is not taken, whatever its slot holds
    simp only [hc, false_and, if_false]
    split <;> split <;> rfl

theorem minChild_blind {n N : Nat} {T : Heap → Heap} (hT : Blind n N T) (h : Heap) (hn : h.a.size = n) (x : Nat)
    (hx : x < N) : minChild key (T h) N x = minChild key h N x := by
  rw [minChild_eq, minChild_eq, pick_blind key hT h hn x (2*x+1) hx]
  refine pick_blind key hT h hn _ _ ?_
  rcases pick_cases key h N x (2*x+1) with e | e <;> omega

theorem siftDown_blind {n N : Nat} {T : Heap → Heap} (hT : Blind n N T) (b : Bool) (f : Nat) (h : Heap) (x : Nat)
    (hn : h.a.size = n) (hx : x < N) : siftDown key b N f (T h) x = T (siftDown key b N f h x) := by
  induction f generalizing h x with
  | zero => rfl
  | succ f ih =>
    simp only [siftDown]
    rw [minChild_blind key hT h hn x hx]
    split
    · rfl
    · rename_i hm
      obtain ⟨hxm, hmN, -⟩ := minChild_child key h N x hm
      rw [hT.swap b h _ x hn hmN hx, ih _ _ (by rw [swap_size]; exact hn) hmN]

/-! ## The stale last slot in `ptrheap_delete` is never chosen by `heapify` -/

/-- If slot `n-1` holds the same element as slot `i` (the element being sifted), the C's
    choice among {i, 2i+1, 2i+2} over `N = n` slots equals the choice over `n-1` slots. -/
theorem minChild_dup_eq (h : Heap) (n i : Nat) (hn : n = h.a.size) (hi : i < n - 1)
    (hdup : h.a[n-1]? = h.a[i]?) :
    minChild key h n i = minChild key h (n-1) i := by
  have hk : keyAt key h (n-1) = keyAt key h i := congrArg (Option.map key) hdup
  have h1 : pick key h n i (2*i+1) = pick key h (n-1) i (2*i+1) :=
    pick_drop_last key h n i (2*i+1) fun hc km kc hm hv => by
      rw [hc, hk, hm] at hv; cases hv; exact Int.le_refl _
  rw [minChild_eq, minChild_eq, h1]
  refine pick_drop_last key h n _ (2*i+2) fun hc km kc hm hv => ?_
  rw [hc, hk] at hv
  exact (pick_le key hm).1 kc hv

theorem minChild_dup_ne (h : Heap) (n i : Nat) (hn : n = h.a.size) (hi : i < n - 1)
    (hdup : h.a[n-1]? = h.a[i]?) : minChild key h n i ≠ n - 1 := by
  rw [minChild_dup_eq key h n i hn hi hdup]
  have := minChild_cases key h (n-1) i
  omega

theorem siftDown_dup_eq (b : Bool) (f : Nat) (h : Heap) (n i : Nat) (hn : n = h.a.size) (hi : i < n - 1)
    (hdup : h.a[n-1]? = h.a[i]?) :
    siftDown key b n f h i = siftDown key b (n-1) f h i := by
  induction f generalizing h i with
  | zero => rfl
  | succ f ih =>
    simp only [siftDown]
    rw [minChild_dup_eq key h n i hn hi hdup]
    split
    · rfl
    · rename_i hm
      obtain ⟨hxm, hmN, -⟩ := minChild_child key h (n-1) i hm
      generalize minChild key h (n-1) i = m at *
      have hms : m < h.a.size := by omega
      have his : i < h.a.size := by omega
      refine ih _ m (by rw [swap_size]; exact hn) hmN ?_
      rw [swap_get b h _ _ _ hms his, swap_get b h _ _ _ hms his, if_neg (Nat.ne_of_gt hmN),
        if_neg (Nat.ne_of_gt hi), if_pos rfl]
      exact hdup

end Percival.Proofs.Heap
