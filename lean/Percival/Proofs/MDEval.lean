import Percival.Proofs.MDAbsorb
import Percival.Proofs.Words
/-!
# Merkle–Damgård hashes in a form the kernel evaluates quickly

The specifications (`Spec.Sha256`, `Spec.Sha1`, `Spec.Md5` over `Spec.MD`) are written to be read against the
standards.  Evaluated by the kernel they are slow for three reasons: every `UInt32` operation is unfolded
through `BitVec` and `Fin` down to `Nat`; `MD.blocks` walks each block several times (`take`, `length`, `drop`,
then the word decoder), and every pass over a list costs about as much per element as a round of the hash; a
schedule kept as a list is taken apart by pattern matching once per word.

Here a hash is run on natural numbers (whose operations the kernel performs directly on literals) in one pass:
`wordsPad` counts the message, pads it and cuts it into 32-bit words as it goes; `absorb` takes the words sixteen
at a time as ONE number (`pack`: the first word in the lowest 32 bits; `fld win i` reads word `i`) and hands it, with
the chaining value, to a compression function `f`.  `Eval p` packages such an `f` with the proof that it computes
`p.compress` on one block; `Eval.hash_eq` says the hash is `MD.hash p`.  A known-answer test rewrites with that
equation and then evaluates.

For the two hashes with a message schedule, `rounds` runs a round function over a table of constants with the
sixteen most recent schedule words kept as such a number: round `t` uses the lowest word of the window as `W_t`, then
the window moves down one word and `W_{t+16}`, computed by `next` from the window, enters at the top (`slide`);
`rounds_eq` relates it to a fold over `Spec.extendSchedule`.  (A window passed as a list is matched afresh in every
round, which is four times dearer; sixteen separate arguments are a tenth dearer and name sixteen words in every
statement.)

Operations are written `Nat.xor x y` and not `x ^^^ y` here and in the instances because the kernel recognises
the former at once and has to unfold three instances to find it in the latter.
-/
namespace Percival.Proofs.MDEval
open Percival.Spec Percival.Proofs.Words

def wordBE (a b c d : UInt8) : Nat :=
  Nat.lor (Nat.lor (Nat.lor (Nat.shiftLeft a.toNat 24) (Nat.shiftLeft b.toNat 16)) (Nat.shiftLeft c.toNat 8)) d.toNat

def wordLE (a b c d : UInt8) : Nat := wordBE d c b a

theorem toNat_be32 (a b c d : UInt8) : (be32 a b c d).toNat = wordBE a b c d := by
  have ha := a.toNat_lt; have hb := b.toNat_lt; have hc := c.toNat_lt
  show _ = a.toNat <<< 24 ||| b.toNat <<< 16 ||| c.toNat <<< 8 ||| d.toNat
  simp only [be32, UInt32.toNat_or, UInt32.toNat_shiftLeft, UInt8.toNat_toUInt32, UInt32.toNat_ofNat,
    Nat.reducePow, Nat.reduceMod]
  rw [Nat.mod_eq_of_lt (a := _ <<< 24), Nat.mod_eq_of_lt (a := _ <<< 16), Nat.mod_eq_of_lt (a := _ <<< 8)] <;>
    (rw [Nat.shiftLeft_eq]; omega)

/-! Word operations shared by the instances (`x`, `y`, `z` below `2^32`; rotations by `0 < n < 32`). -/

def add32 (x y : Nat) : Nat := Nat.mod (Nat.add x y) 4294967296
def not32 (x : Nat) : Nat := Nat.sub 4294967295 x
def rotl (x n : Nat) : Nat := Nat.lor (Nat.mod (Nat.shiftLeft x n) 4294967296) (Nat.shiftRight x (Nat.sub 32 n))
def rotr (x n : Nat) : Nat := Nat.lor (Nat.shiftRight x n) (Nat.mod (Nat.shiftLeft x (Nat.sub 32 n)) 4294967296)
def Ch (x y z : Nat) : Nat := Nat.xor (Nat.land x y) (Nat.land (not32 x) z)
def Maj (x y z : Nat) : Nat := Nat.xor (Nat.xor (Nat.land x y) (Nat.land x z)) (Nat.land y z)
def Parity (x y z : Nat) : Nat := Nat.xor (Nat.xor x y) z

theorem mod_def (a b : Nat) : Nat.mod a b = a % b := rfl
theorem shiftLeft_def (a b : Nat) : Nat.shiftLeft a b = a <<< b := rfl
theorem shiftRight_def (a b : Nat) : Nat.shiftRight a b = a >>> b := rfl

/-- the words of `m ++ pad (n + m.length)` in one pass over `m`; `n` counts the bytes already seen -/
def wordsPad (word : Word4 Nat) (pad : Nat → Bytes) (n : Nat) : Bytes → List Nat
  | a :: b :: c :: d :: rest => word a b c d :: wordsPad word pad (Nat.add n 4) rest
  | t => words word (t ++ pad (n + t.length))

theorem wordsPad_eq (word : Word4 Nat) (pad : Nat → Bytes) (n : Nat) (m : Bytes) :
    wordsPad word pad n m = words word (m ++ pad (n + m.length)) := by
  fun_induction wordsPad word pad n m with
  | case1 n a b c d rest ih =>
    rw [ih, List.length_cons, List.length_cons, List.length_cons, List.length_cons,
      show Nat.add n 4 + rest.length = n + (rest.length + 1 + 1 + 1 + 1) by show n + 4 + _ = _; omega]
    rfl
  | case2 => rfl

def pack : List Nat → Nat
  | [] => 0
  | w :: ws => Nat.add w (Nat.mul 4294967296 (pack ws))

def fld (win i : Nat) : Nat := Nat.mod (Nat.shiftRight win (Nat.mul 32 i)) 4294967296

theorem pack_cons (w : Nat) (ws : List Nat) : pack (w :: ws) = w + 2 ^ 32 * pack ws := rfl

theorem pack_append (ws us : List Nat) : pack (ws ++ us) = pack ws + 2 ^ (32 * ws.length) * pack us := by
  induction ws with
  | nil => simp [pack]
  | cons w ws ih =>
    rw [List.cons_append, pack_cons, pack_cons, ih, List.length_cons, Nat.mul_succ, Nat.pow_add, Nat.mul_add,
      Nat.add_assoc, Nat.mul_left_comm, Nat.mul_assoc]

theorem fld_toNat : ∀ (ws : List UInt32) (i : Nat), fld (pack (ws.map UInt32.toNat)) i = (ws.getD i 0).toNat
  | [], i => by
    show 0 >>> (32 * i) % 2 ^ 32 = _
    rw [Nat.zero_shiftRight]; rfl
  | w :: ws, 0 => by
    show (w.toNat + 2 ^ 32 * _) >>> (32 * 0) % 2 ^ 32 = w.toNat
    rw [Nat.mul_zero, Nat.shiftRight_zero, Nat.add_mul_mod_self_left, Nat.mod_eq_of_lt w.toNat_lt]
  | w :: ws, i+1 => by
    rw [List.getD_cons_succ, ← fld_toNat ws i]
    show (w.toNat + 2 ^ 32 * _) >>> (32 * (i + 1)) % 2 ^ 32 = _ >>> (32 * i) % 2 ^ 32
    rw [Nat.mul_succ, Nat.add_comm (32 * i), Nat.shiftRight_add, Nat.shiftRight_eq_div_pow _ 32,
      Nat.add_mul_div_left _ _ (by decide), Nat.div_eq_of_lt w.toNat_lt, Nat.zero_add]

def absorb {ρ : Type} (f : ρ → Nat → ρ) (H : ρ) : List Nat → ρ
  | w0 :: w1 :: w2 :: w3 :: w4 :: w5 :: w6 :: w7 :: w8 :: w9 :: w10 :: w11 :: w12 :: w13 :: w14 :: w15 :: rest =>
    absorb f (f H (pack [w0, w1, w2, w3, w4, w5, w6, w7, w8, w9, w10, w11, w12, w13, w14, w15])) rest
  | _ => H

theorem absorb_block {ρ : Type} (f : ρ → Nat → ρ) (H : ρ) (ws rest : List Nat) (h : ws.length = 16) :
    absorb f H (ws ++ rest) = absorb f (f H (pack ws)) rest :=
  match ws, h with
  | [_, _, _, _, _, _, _, _, _, _, _, _, _, _, _, _], _ => rfl

structure Eval (p : MD.Params) where
  ρ : Type
  toN : p.St → ρ
  word : Word4 Nat
  f : ρ → Nat → ρ
  out : ρ → Bytes
  compress : ∀ s b, b.length = 64 → toN (p.compress s b) = f (toN s) (pack (words word b))
  out_eq : ∀ s, p.out s = out (toN s)

variable {p : MD.Params} (e : Eval p)

def Eval.hash (m : Bytes) : Bytes :=
  e.out (absorb e.f (e.toN p.init) (wordsPad e.word (MD.padding p) 0 m))

/-- the digest of a chaining value reached over whole blocks (the hash is the case `s = H⁽⁰⁾`, `m` the padded message) -/
theorem Eval.out_absorb (k : Nat) : ∀ (s : p.St) (m : Bytes), m.length = 64 * k →
    p.out (MD.absorb p s m) = e.out (absorb e.f (e.toN s) (words e.word m)) := by
  induction k with
  | zero => intro s m h; rw [List.eq_nil_of_length_eq_zero h, MD.absorb_short p s [] (by decide), e.out_eq]; rfl
  | succ k ih =>
    intro s m h
    have h1 : (m.take 64).length = 4 * 16 := by rw [List.length_take]; omega
    rw [← List.take_append_drop 64 m, MD.absorb_block p s _ _ h1, ih _ _ (by rw [List.length_drop]; omega),
      e.compress s _ h1, words_append _ 16 _ _ h1, absorb_block _ _ _ _ (by rw [words_length, h1])]

theorem Eval.hash_eq : MD.hash p = e.hash := by
  funext m
  obtain ⟨k, hk⟩ := MD.padded_len p m
  rw [MD.hash, Eval.hash, e.out_absorb k _ _ hk, wordsPad_eq, Nat.zero_add]

/-- the words of the Spec as numbers (for `Eval.compress`, which is about `pack (words word b)`) -/
theorem toNat_wordsBE (b : Bytes) : (wordsBE b).map UInt32.toNat = words wordBE b := by
  rw [wordsBE_eq, words_map]
  exact congrArg (words · b) (funext fun a => funext fun b => funext fun c => funext fun d => toNat_be32 a b c d)

theorem toNat_wordsLE (b : Bytes) : (wordsLE b).map UInt32.toNat = words wordLE b := by
  rw [wordsLE_eq, words_map]
  exact congrArg (words · b) (funext fun a => funext fun b => funext fun c => funext fun d => toNat_be32 d c b a)

section rounds
variable {ρ κ : Type} (round : ρ → κ → Nat → ρ) (next : Nat → Nat)

/-- the window one word on: the lowest word leaves, `next` of the window enters as word 15 -/
def slide (win : Nat) : Nat := Nat.add (Nat.div win 4294967296) (Nat.shiftLeft (next win) 480)

def schedule : Nat → Nat → List Nat
  | 0, _ => []
  | n+1, win => Nat.mod win 4294967296 :: schedule n (slide next win)

def rounds : List κ → ρ → Nat → ρ
  | [], r, _ => r
  | k :: ks, r, win => rounds ks (round r k (Nat.mod win 4294967296)) (slide next win)

theorem schedule_length : ∀ (n win : Nat), (schedule next n win).length = n
  | 0, _ => rfl
  | n+1, win => by rw [schedule, List.length_cons, schedule_length n]

variable (nextU : List UInt32 → Option UInt32)
  (hnext : ∀ (ws acc : List UInt32), ws.length = 16 → ∃ u, nextU (ws.reverse ++ acc) = some u ∧
    u.toNat = next (pack (ws.map UInt32.toNat)))

include hnext in
theorem schedule_succ (w : UInt32) (ws acc : List UInt32) (h : ws.length = 15) :
    ∃ u, nextU ((w :: ws).reverse ++ acc) = some u ∧ ∀ n, schedule next (n + 1) (pack ((w :: ws).map UInt32.toNat)) =
      w.toNat :: schedule next n (pack ((ws ++ [u]).map UInt32.toNat)) := by
  obtain ⟨u, hu, hn⟩ := hnext (w :: ws) acc (congrArg Nat.succ h)
  refine ⟨u, hu, fun n => ?_⟩
  have hw := w.toNat_lt
  rw [schedule]
  unfold slide
  rw [← hn, List.map_append, pack_append, List.length_map, h, List.map_cons, pack_cons, List.map_cons, List.map_nil,
    pack_cons, pack, Nat.mul_zero, Nat.add_zero]
  show (_ % 2 ^ 32) :: schedule next n (_ / 2 ^ 32 + u.toNat <<< (32 * 15)) = _
  rw [Nat.add_mul_mod_self_left, Nat.mod_eq_of_lt hw, Nat.add_mul_div_left _ _ (by decide), Nat.div_eq_of_lt hw,
    Nat.zero_add, Nat.shiftLeft_eq, Nat.mul_comm u.toNat]

include hnext in
theorem schedule_take : ∀ (m : Nat) (ws : List UInt32), ws.length = 16 → m ≤ 16 →
    schedule next m (pack (ws.map UInt32.toNat)) = (ws.take m).map UInt32.toNat
  | 0, _, _, _ => rfl
  | m+1, w :: ws, h, hm => by
    rw [List.length_cons, Nat.succ.injEq] at h
    obtain ⟨u, _, hs⟩ := schedule_succ next nextU hnext w ws [] h
    rw [hs, schedule_take m _ (by rw [List.length_append, h]; rfl) (by omega), List.take_succ_cons, List.map_cons,
      List.take_append_of_le_length (by omega)]

include hnext in
theorem toNat_extendSchedule : ∀ (n : Nat) (ws acc : List UInt32), ws.length = 16 →
    (extendSchedule nextU n (ws.reverse ++ acc)).reverse.map UInt32.toNat =
      acc.reverse.map UInt32.toNat ++ schedule next (n + 16) (pack (ws.map UInt32.toNat))
  | 0, ws, acc, h => by
    rw [extendSchedule, List.reverse_append, List.reverse_reverse, List.map_append,
      schedule_take next nextU hnext 16 ws h (Nat.le_refl _), List.take_of_length_le (Nat.le_of_eq h)]
  | n+1, w :: ws, acc, h => by
    rw [List.length_cons, Nat.succ.injEq] at h
    obtain ⟨u, hu, hs⟩ := schedule_succ next nextU hnext w ws acc h
    have e : u :: ((w :: ws).reverse ++ acc) = (ws ++ [u]).reverse ++ (w :: acc) := by simp
    simp only [extendSchedule, hu]
    rw [e, toNat_extendSchedule n _ _ (by rw [List.length_append, h]; rfl),
      show n + 1 + 16 = n + 16 + 1 from Nat.add_right_comm .., hs]
    simp

include hnext in
theorem length_extendSchedule (n : Nat) (ws : List UInt32) (h : ws.length = 16) :
    (extendSchedule nextU n ws.reverse).reverse.length = n + 16 := by
  have := congrArg List.length (toNat_extendSchedule next nextU hnext n ws [] h)
  simpa [schedule_length] using this

variable {R κU : Type} (toN : R → ρ) (toK : κU → κ) (roundU : R → κU → UInt32 → R)
  (hround : ∀ r k w, toN (roundU r k w) = round (toN r) (toK k) w.toNat)

include hround in
theorem toN_foldl_round : ∀ (ks : List κU) (W : List UInt32) (r : R) (win : Nat),
    W.map UInt32.toNat = schedule next ks.length win →
    toN ((ks.zip W).foldl (fun r kw => roundU r kw.1 kw.2) r) = rounds round next (ks.map toK) (toN r) win
  | [], _, _, _, _ => rfl
  | k :: ks, [], _, _, h => by simp [schedule] at h
  | k :: ks, x :: W, r, win, h => by
    simp only [List.length_cons, schedule, List.map_cons, List.cons.injEq] at h
    rw [List.zip_cons_cons, List.foldl_cons, List.map_cons, rounds, toN_foldl_round ks W _ _ h.2, hround, h.1]

include hnext hround in
theorem rounds_eq (ks : List κU) (n : Nat) (hks : ks.length = n + 16) (r : R) (ws : List UInt32) (h : ws.length = 16) :
    toN ((ks.zip (extendSchedule nextU n ws.reverse).reverse).foldl (fun r kw => roundU r kw.1 kw.2) r) =
      rounds round next (ks.map toK) (toN r) (pack (ws.map UInt32.toNat)) :=
  toN_foldl_round round next toN toK roundU hround ks _ _ _
    (hks ▸ by simpa using toNat_extendSchedule next nextU hnext n ws [] h)

end rounds

theorem zipIdx_foldl {R α : Type} (g : R → Nat → α → R) (W : List α) (n : Nat) (h : W.length = n) (s : Nat) (r : R) :
    (W.zipIdx s).foldl (fun r wt => g r wt.2 wt.1) r =
      ((List.range' s n).zip W).foldl (fun r kw => g r kw.1 kw.2) r := by
  subst h
  induction W generalizing s r with
  | nil => rfl
  | cons w W ih =>
    simp only [List.zipIdx_cons, List.length_cons, List.range'_succ, List.zip_cons_cons, List.foldl_cons, ih]

end Percival.Proofs.MDEval
