import Percival.Proofs.HttpRes
/-! What `Proofs.HttpRes.runAllR_ok` says of a request, in the terms in which `Properties/C08.lean` states it. -/
namespace Percival.Proofs.HttpRun
open Percival.Model.Http Percival.Model.HttpRes Percival.Proofs.Http Percival.Proofs.HttpRes

/-- every request ends: `Ended` (no fault, nothing live — `Ended.clean` —, no descriptor), with no callback if it was cancelled
    and one otherwise, the body buffer handed over exactly when that callback got a non-empty body -/
theorem runAllR_ended {σ : Type} (ovf : Bool → Nat → Int) (oracle : σ → Nat → Nat → σ × Turn) (o : σ)
    (ishead : Bool) (max : Nat) (data : Bytes) (hasBody : Bool) (pre : Pre) :
    ∃ cbs cancelled r tr hb, runAllR ovf oracle o ishead max data hasBody pre = .ended cbs cancelled r tr ∧
      Ended r 0 cbs.length hb ∧ (cancelled = true → cbs = [] ∧ hb = 0) ∧
      (cancelled = false → ∃ resp, cbs = [resp] ∧ RespOK max resp ∧ hb = (bodyNonEmpty resp).toNat) := by
  have h := runAllR_ok ovf oracle o ishead max data hasBody pre
  generalize runAllR ovf oracle o ishead max data hasBody pre = out at h
  cases out with
  | abort w tr => exact h.elim
  | ended cbs cancelled r tr =>
    obtain ⟨hb, he, h9⟩ := h
    exact ⟨cbs, cancelled, r, tr, hb, rfl, he, fun e => by rw [e] at h9; exact h9, fun e => by rw [e] at h9; exact h9⟩

end Percival.Proofs.HttpRun
