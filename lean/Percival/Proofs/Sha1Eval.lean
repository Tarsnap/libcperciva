import Percival.Spec.Hmac
import Percival.Proofs.MDEval
import Percival.Proofs.ListLen
/-! SHA-1 on natural numbers (`MDEval`): `hash_eq : Spec.Sha1.hash = hash`. -/
namespace Percival.Proofs.Sha1Eval
open Percival.Spec
open Percival.Proofs.MDEval (add32 rotl Ch Maj Parity fld pack)
open Percival.Proofs.Words (encBE)

def f (t x y z : Nat) : Nat :=
  if t < 20 then Ch x y z else if t < 40 then Parity x y z else if t < 60 then Maj x y z else Parity x y z

def K (t : Nat) : Nat :=
  if t < 20 then 0x5a827999 else if t < 40 then 0x6ed9eba1 else if t < 60 then 0x8f1bbcdc else 0xca62c1d6

/-- `Sha1.Regs` with the words as natural numbers below `2^32` -/
structure Regs where
  a : Nat
  b : Nat
  c : Nat
  d : Nat
  e : Nat

def toRegs (H : Sha1.Regs) : Regs := ⟨H.a.toNat, H.b.toNat, H.c.toNat, H.d.toNat, H.e.toNat⟩

def round (r : Regs) (t w : Nat) : Regs :=
  { e := r.d, d := r.c, c := rotl r.b 30, b := r.a,
    a := add32 (Nat.add (Nat.add (Nat.add (rotl r.a 5) (f t r.b r.c r.d)) r.e) (K t)) w }

/-- `W_{t+16}` from the window `W_t … W_{t+15}` -/
def nextW (win : Nat) : Nat := rotl (Nat.xor (Nat.xor (Nat.xor (fld win 13) (fld win 8)) (fld win 2)) (fld win 0)) 1

def addRegs (H r : Regs) : Regs :=
  ⟨add32 r.a H.a, add32 r.b H.b, add32 r.c H.c, add32 r.d H.d, add32 r.e H.e⟩

def compress (H : Regs) (blk : Nat) : Regs := addRegs H (MDEval.rounds round nextW (List.range' 0 80) H blk)

def out (r : Regs) : Bytes :=
  encBE r.a ++ encBE r.b ++ encBE r.c ++ encBE r.d ++ encBE r.e

attribute [local simp] MDEval.mod_def MDEval.shiftLeft_def MDEval.shiftRight_def add32 MDEval.not32 rotl Ch Parity Maj
  Sha1.rotl Sha1.Ch Sha1.Parity Sha1.Maj

theorem toRegs_round (r : Sha1.Regs) (t : Nat) (w : UInt32) :
    toRegs (Sha1.round r t w) = round (toRegs r) t w.toNat := by
  simp [Sha1.round, round, toRegs, f, K, Sha1.f, Sha1.K, apply_ite UInt32.toNat]

theorem toRegs_addRegs (H r : Sha1.Regs) : toRegs (Sha1.addRegs H r) = addRegs (toRegs H) (toRegs r) := by
  simp [Sha1.addRegs, addRegs, toRegs]

theorem nextW_eq (ws acc : List UInt32) (h : ws.length = 16) :
    ∃ u, Sha1.nextW (ws.reverse ++ acc) = some u ∧ u.toNat = nextW (pack (ws.map UInt32.toNat)) := by
  obtain ⟨w0, w1, w2, w3, w4, w5, w6, w7, w8, w9, w10, w11, w12, w13, w14, w15, rfl⟩ := len16 ws h
  exact ⟨_, rfl, by simp only [nextW, MDEval.fld_toNat]; simp⟩

theorem compress_eq (H : Sha1.Regs) (ws : List UInt32) (h : ws.length = 16) :
    toRegs (Sha1.addRegs H (Sha1.rounds H (extendSchedule Sha1.nextW 64 ws.reverse).reverse)) =
      compress (toRegs H) (pack (ws.map UInt32.toNat)) := by
  rw [toRegs_addRegs, Sha1.rounds, compress, MDEval.zipIdx_foldl _ _ 80
    (MDEval.length_extendSchedule nextW Sha1.nextW nextW_eq 64 ws h) 0]
  exact congrArg _ ((MDEval.rounds_eq round nextW Sha1.nextW nextW_eq toRegs id (fun r t w => Sha1.round r t w)
    toRegs_round (List.range' 0 80) 64 rfl H ws h).trans (by rw [List.map_id]))

def eval : MDEval.Eval Sha1.params where
  ρ := Regs
  toN := toRegs
  word := MDEval.wordBE
  f := compress
  out := out
  compress := fun H b hb => MDEval.toNat_wordsBE b ▸ compress_eq H _ (by rw [Words.wordsBE_length, hb])
  out_eq := fun s => by simp [show Sha1.params.out = Sha1.out from rfl, Sha1.out, out, toRegs, Words.be32enc_eq]

def hash : Bytes → Bytes := eval.hash

theorem hash_eq : Sha1.hash = hash := eval.hash_eq

theorem hmacSha1_eq : Hmac.hmacSha1 = Hmac.hmac hash := by
  funext k m; rw [Hmac.hmacSha1, hash_eq]

end Percival.Proofs.Sha1Eval
