import Percival.Proofs.AFURun
/-!
# C14, upper layers: what a refused request does to one call, and that releases cannot fail

Projections of `stepR_post` (`Proofs/AFUOp.lean`), for the outcome-returning step `stepR`:
(a) a refused request inside a call that can fail makes it report failure; (b) a reported failure leaves
nothing registered and loses nothing (and, for the calls listed in `isAtomic`, leaves every object as it was);
a call that is `Ready` fails only because a request was refused, succeeds when the allocator grants what is
asked, and can be made again after a failure; (d) the release calls cannot fail.
-/
namespace Percival.Proofs.AllocFailUpper
open Percival.Model Percival.Model.EvReg Percival.Model.AllocFail
open Percival.Proofs.EvRegNet (regNet netRegistered NetInv)
open Percival.Proofs.EvRegTimer (regImm regTimers TmInv Step Granted)
open Percival.Proofs.EArray (malloc_ok malloc_fail free_facts)
open Percival.Model.Connect (AddrOutcome)

/-! ## (d) releases -/

/-- (d) releases cannot fail: under every oracle the call is made, the object and everything it held are gone -/
theorem stepR_release_ok (w : World) (op : Op) (h : Inv w) (hp : Present w op) :
    (stepR w op).1 = .ok ∧ gone w (stepR w op).2 op := by
  have post := stepR_post w op h
  have hok := post.made hp
  have ht := post.tab (by rw [hok]; nofun)
  rw [hok] at ht
  exact ⟨hok, gone_tabStep ht (release_of_present hp) w rfl⟩

/-- the upper layers' own release code requests no memory: with room in the pools' caches (`mpool_free`
never takes its slow path) the oracle is not consulted at all by these calls -/
theorem stepR_release_no_consultation (w : World) (op : Op) (h : Inv w) (hp : Present w op)
    (hrec : w.ev.recPool.stacklen < w.ev.recPool.allocsize) (hrd : w.rdPool.stacklen < w.rdPool.allocsize)
    (hwr : w.wrPool.stacklen < w.wrPool.allocsize)
    (hop : (∃ c, op = .readCancel c) ∨ (∃ c, op = .writeCancel c) ∨ (∃ c, op = .acceptCancel c) ∨ (∃ r, op = .nbrFree r)) :
    (stepR w op).2.m.n = w.m.n :=
  (stepR_post w op h).quiet hp (by rcases hop with ⟨c, rfl⟩ | ⟨c, rfl⟩ | ⟨c, rfl⟩ | ⟨r, rfl⟩ <;> rfl) hrec hrd hwr

/-! ## (a) a refused request makes the call fail -/

/-- (a) a refused request inside a call that can fail makes it report failure -/
theorem stepR_refused_fails (w : World) (op : Op) (h : Inv w) (hs : isRelease op = false)
    (hr : (stepR w op).2.m.refusals ≠ w.m.refusals) : (stepR w op).1 = .fail :=
  (stepR_post w op h).refused hs hr

/-! ## (b) a failure leaves nothing registered -/
namespace Top

/-- a release call reports `.ok` or is not made; it never reports failure -/
theorem release_not_fail (w : World) (op : Op) (h : Inv w) (hs : isRelease op = true) : (stepR w op).1 ≠ .fail :=
  (stepR_post w op h).relNoFail hs

end Top

/-- (b) a reported failure leaves nothing registered and loses nothing -/
theorem stepR_fail_registry (w : World) (op : Op) (h : Inv w) (hf : (stepR w op).1 = .fail) :
    registry (stepR w op).2.ev = registry w.ev ∧ (stepR w op).2.bad = 0 ∧ isRelease op = false := by
  refine ⟨(stepR_post w op h).failReg hf, (stepR_inv w op h).bad0, ?_⟩
  cases hrel : isRelease op with
  | false => rfl
  | true => exact absurd hf (Top.release_not_fail w op h hrel)

theorem stepR_fail_same (w : World) (op : Op) (h : Inv w) (ha : isAtomic op = true) (hf : (stepR w op).1 = .fail) :
    Same w (stepR w op).2 :=
  (stepR_post w op h).failSame hf ha

/-! ## a call that is `Ready` fails only because a request was refused -/

/-- a failure of a call that is `Ready` comes from a refused request -/
theorem stepR_fail_refused (w : World) (op : Op) (h : Inv w) (hrdy : Ready w op) (hf : (stepR w op).1 = .fail) :
    w.m.refusals < (stepR w op).2.m.refusals :=
  (stepR_post w op h).cause hf (ready_ready' hrdy)

namespace Top

/-- a call that is `Ready` is within the usage contract -/
theorem ready_not_contract (w : World) (op : Op) (h : Inv w) (hrdy : Ready w op) : (stepR w op).1 ≠ .contract :=
  (stepR_post w op h).inContract (ready_ready' hrdy)

end Top

/-- … so it succeeds when the allocator grants what is asked -/
theorem stepR_granted_ok (w : World) (op : Op) (h : Inv w) (hrdy : Ready w op) (hg : Granted w.m) :
    (stepR w op).1 = .ok := by
  cases hrc : (stepR w op).1 with
  | ok => rfl
  | contract => exact absurd hrc (Top.ready_not_contract w op h hrdy)
  | fail =>
    have h1 := stepR_fail_refused w op h hrdy hrc
    have h2 := (stepR_step w op h).g hg
    omega

/-! ## the call can be made again -/

/-- the same call can be made again after a failure (`netbuf_write_consume` excepted: its reservation is
consumed even when starting the transfer fails) -/
theorem ready_after_fail (w : World) (op : Op) (h : Inv w) (hrdy : Ready w op) (hf : (stepR w op).1 = .fail)
    (hc : ∀ x len, op ≠ .nbwConsume x len) : Ready (stepR w op).2 op :=
  (stepR_post w op h).again hf hrdy hc

end Percival.Proofs.AllocFailUpper
