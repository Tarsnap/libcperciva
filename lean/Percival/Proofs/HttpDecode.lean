import Percival.Proofs.Http
import Percival.Proofs.HttpNum
/-! C09: what the handlers of `Model.Http` do on the wire format (`Spec.HttpResp`) of a header block, of a chunk-size
    line and of body data, wholly buffered or cut short by the buffer's end. -/
namespace Percival.Proofs.HttpDecode
open Percival.Model.Http Percival.Proofs.Http Percival.Proofs.HttpNum

local notation "crlf" => ([13, 10] : List UInt8)

/-- a line of a header block: not empty, no CR, LF, NUL -/
def LineOK (l : List UInt8) : Prop := l ≠ [] ∧ ∀ c ∈ l, c ≠ 13 ∧ c ≠ 10 ∧ c ≠ 0

theorem noCrlf_of_no_cr {l : List UInt8} (h : ∀ c ∈ l, c ≠ 13) : NoCrlf l :=
  fun _ hc => h 13 (List.mem_of_getElem? hc.1) rfl

theorem LineOK.noCrlf {l : List UInt8} (h : LineOK l) : NoCrlf l := noCrlf_of_no_cr fun c hc => (h.2 c hc).1

theorem LineOK.no_nul {l : List UInt8} (h : LineOK l) : l.contains 0 = false :=
  Bool.eq_false_iff.mpr fun hc => (h.2 0 (List.contains_iff_mem.mp hc)).2.2 rfl

/-- before the blank line, CRLF CRLF stands nowhere in a block: a line has no CR, and a CRLF is followed by a line,
    which is not empty -/
theorem joined_term (ls : List (List UInt8)) (hok : ∀ l ∈ ls, LineOK l) (more : List UInt8) :
    ∀ q, TermAt (joined ls ++ crlf ++ more) q → q + 2 ≤ (joined ls).length → q + 2 = (joined ls).length := by
  induction ls with
  | nil => intro q _ h; simp [joined_nil] at h
  | cons l ls ih =>
    intro q ht hq
    have hl := (hok l (List.mem_cons_self ..)).2
    have e : joined (l :: ls) ++ crlf ++ more = l ++ (13 :: 10 :: (joined ls ++ crlf ++ more)) := by simp [joined_cons]
    rw [e] at ht
    rw [joined_cons] at hq ⊢
    simp only [List.length_append, List.length_cons, List.length_nil] at hq ⊢
    rcases Nat.lt_or_ge q l.length with h1 | h1
    · have := ht.first
      rw [List.getElem?_append_left h1] at this
      exact absurd rfl (hl 13 (List.mem_of_getElem? this)).1
    · rw [termAt_append_right _ _ h1] at ht
      obtain ⟨d, rfl⟩ : ∃ d, q = l.length + d := ⟨q - l.length, by omega⟩
      rw [Nat.add_sub_cancel_left] at ht
      match d, ht with
      | 0, ht =>
        have h3 := ht.third
        cases ls with
        | nil => simp [joined_nil]
        | cons l2 ls2 =>
          obtain ⟨hne2, hl2⟩ := hok l2 (by simp)
          obtain ⟨c, t, rfl⟩ := List.exists_cons_of_ne_nil hne2
          simp [joined_cons] at h3
          exact absurd h3 (hl2 c (List.mem_cons_self ..)).1
      | 1, ht => have := ht.first; simp at this
      | d + 2, ht =>
        have := ih (fun l' hl' => hok l' (List.mem_cons_of_mem _ hl')) d ht (by omega)
        omega

theorem dropWhile_stop {p : UInt8 → Bool} (u : List UInt8) (x : UInt8) (v : List UInt8) (hx : p x = false) :
    (u ++ x :: v).dropWhile p = u.dropWhile p ++ x :: v := by
  induction u with
  | nil => simp [hx]
  | cons c u ih =>
    by_cases hc : p c = true
    · simp [hc, ih]
    · simp [hc]

theorem rstrip_append_ows (a w : List UInt8) (hw : ∀ c ∈ w, isOWS c = true) : rstripOWS (a ++ w) = rstripOWS a := by
  simp only [rstripOWS, List.reverse_append]
  rw [List.dropWhile_append_of_pos (fun c hc => hw c (List.mem_reverse.mp hc))]

theorem rstrip_id (a : List UInt8) (h : ∀ c, a.getLast? = some c → isOWS c = false) : rstripOWS a = a := by
  simp only [rstripOWS]
  rw [dropWhile_head a.reverse (fun c hc => h c (by rw [← List.head?_reverse]; exact hc))]
  simp

/-- trailing white space is stripped up to the last byte which is none, here the colon -/
theorem rstrip_stop (a : List UInt8) (x : UInt8) (m : List UInt8) (hx : isOWS x = false) :
    rstripOWS (a ++ x :: m) = a ++ x :: rstripOWS m := by
  simp only [rstripOWS, List.reverse_append, List.reverse_cons, List.append_assoc, List.singleton_append]
  rw [dropWhile_stop _ _ _ hx]
  simp

theorem getLast?_append_ne_nil (x v : List UInt8) (hv : v ≠ []) : (x ++ v).getLast? = v.getLast? := by
  rw [List.getLast?_append]
  cases hgl : v.getLast? with
  | none => rw [List.getLast?_eq_none_iff] at hgl; exact absurd hgl hv
  | some c => simp

open Percival.Spec.HttpResp in
theorem splitHeader_line (h : Hdr) (hwf : h.WF) : splitHeader h.line = (h.name, h.value) := by
  obtain ⟨hname, _, hpre, hpost, hhead, hlast⟩ := hwf
  rw [List.all_eq_true] at hname hpre hpost
  have hname58 : ∀ c ∈ h.name, (c != 58) = true := fun c hc => (Bool.and_eq_true_iff.mp (hname c hc)).2
  -- after the colon: white space, then the value as the spec has it
  have hm : (rstripOWS (h.pre ++ h.value ++ h.post)).dropWhile Model.Http.isOWS = h.value := by
    rw [rstrip_append_ows _ _ hpost]
    by_cases hv : h.value = []
    · rw [hv, List.append_nil, ← List.nil_append h.pre, rstrip_append_ows _ _ hpre]
      rfl
    · rw [rstrip_id _ (fun c hc => hlast c (by rwa [getLast?_append_ne_nil _ _ hv] at hc)),
        List.dropWhile_append_of_pos (p := Model.Http.isOWS) hpre]
      exact dropWhile_head _ hhead
  have e : h.line = h.name ++ 58 :: (h.pre ++ h.value ++ h.post) := by simp [Hdr.line, COLON]
  simp only [splitHeader]
  rw [e, rstrip_stop _ _ _ (by decide), List.takeWhile_append_of_pos hname58, List.dropWhile_append_of_pos hname58,
    List.takeWhile_cons_of_neg (by decide), List.dropWhile_cons_of_neg (by decide), List.append_nil]
  simp only [hm]

theorem dec1 : Percival.Spec.HttpResp.dec 1 = [49] := by decide

theorem digitVal10_none_of_not_digit (c : UInt8) (h : Percival.Spec.HttpResp.isDigit c = false) : digitVal 10 c = none := by
  simp only [Percival.Spec.HttpResp.isDigit] at h
  simp only [digitVal, h]
  simp

theorem after10_of (rest : List UInt8) (h : ∀ c, rest.head? = some c → digitVal 10 c = none) : After 10 rest :=
  ⟨h, fun hc => by omega⟩

section
variable (ovf : Bool → Nat → Int)

theorem scanStatusLine_ok (b : Percival.Spec.HttpResp.Block) (lo hi : Nat) (hhi : hi ≤ 599)
    (hwf : b.WF lo hi) :
    scanStatusLine ovf b.statusLine = some { major := 1, minor := (b.minor : Int), status := (b.status : Int) } := by
  obtain ⟨hminor, hlo, hhi', hreason, hrhead, _⟩ := hwf
  have hpre : httpSlash.isPrefixOf b.statusLine = true := by
    simp [httpSlash, Percival.Spec.HttpResp.Block.statusLine, Percival.Spec.HttpResp.http1dot]
  have hdrop : b.statusLine.drop 5 = Percival.Spec.HttpResp.dec 1 ++
      (46 :: (Percival.Spec.HttpResp.dec b.minor ++ (32 :: (Percival.Spec.HttpResp.dec b.status ++ b.reason)))) := by
    rw [dec1]
    simp [Percival.Spec.HttpResp.Block.statusLine, Percival.Spec.HttpResp.http1dot, Percival.Spec.HttpResp.SP]
  simp only [scanStatusLine, hpre, if_true, hdrop]
  rw [dec_eq 1, scanInt_numeral ovf 1 _ (after10_of _ (by intro c hc; simp at hc; subst hc; decide)) (by decide)]
  simp only []
  rw [dec_eq b.minor, scanInt_numeral ovf b.minor _ (after10_of _ (by intro c hc; simp at hc; subst hc; decide))
    (by simp only [INT_MAX]; omega)]
  simp only []
  have hsp : ((32 : UInt8) :: ((digs 10 b.status).map Percival.Spec.HttpResp.digitChar ++ b.reason)).dropWhile isSpace =
      (digs 10 b.status).map Percival.Spec.HttpResp.digitChar ++ b.reason := by
    have h32 : isSpace 32 = true := by decide
    simp only [List.dropWhile_cons, h32, if_true]
    obtain ⟨c, hc, hcm⟩ := head_numeral_append 10 b.status b.reason
    exact dropWhile_head _ (fun c' hc' => by rw [hc] at hc'; cases hc'; exact (numeral_bytes 10 (Or.inl rfl) b.status c hcm).1)
  rw [dec_eq b.status, hsp, scanInt_numeral ovf b.status _
    (after10_of _ (fun c hc => digitVal10_none_of_not_digit c (hrhead c hc))) (by simp only [INT_MAX]; omega)]
  rfl

open Percival.Spec.HttpResp in
def blockLines (b : Block) : List (List UInt8) := b.statusLine :: b.headers.map Hdr.line

open Percival.Spec.HttpResp in
theorem serialize_eq_joined (b : Block) : b.serialize = joined (blockLines b) ++ crlf := by
  simp [Block.serialize, blockLines, joined, Percival.Spec.HttpResp.crlf, CR, LF, List.map_map, Function.comp_def]

theorem lineSafe_ne (c : UInt8) (h : Percival.Spec.HttpResp.lineSafe c = true) : c ≠ 13 ∧ c ≠ 10 ∧ c ≠ 0 := by
  simp only [Percival.Spec.HttpResp.lineSafe, Percival.Spec.HttpResp.CR, Percival.Spec.HttpResp.LF, Bool.and_eq_true,
    bne_iff_ne, ne_eq] at h
  exact ⟨h.1.1, h.1.2, h.2⟩

theorem ows_safe (c : UInt8) (h : Percival.Spec.HttpResp.isOWS c = true) : c ≠ 13 ∧ c ≠ 10 ∧ c ≠ 0 := by
  simp only [Percival.Spec.HttpResp.isOWS, Percival.Spec.HttpResp.SP, Percival.Spec.HttpResp.HT, Bool.or_eq_true,
    beq_iff_eq] at h
  rcases h with h | h <;> subst h <;> decide

open Percival.Spec.HttpResp in
theorem hdrLine_ok (h : Hdr) (hwf : h.WF) : LineOK h.line := by
  obtain ⟨hname, hvalue, hpre, hpost, _, _⟩ := hwf
  rw [List.all_eq_true] at hname hvalue hpre hpost
  refine ⟨by simp [Hdr.line], ?_⟩
  intro c hc
  simp only [Hdr.line, List.mem_append, List.mem_singleton] at hc
  rcases hc with (((hc | hc) | hc) | hc) | hc
  · have := hname c hc
    simp only [Bool.and_eq_true] at this
    exact lineSafe_ne c this.1
  · subst hc; decide
  · exact ows_safe c (hpre c hc)
  · exact lineSafe_ne c (hvalue c hc)
  · exact ows_safe c (hpost c hc)

open Percival.Spec.HttpResp in
theorem statusLine_ok (b : Block) (lo hi : Nat) (hwf : b.WF lo hi) : LineOK b.statusLine := by
  obtain ⟨_, _, _, hreason, _, _⟩ := hwf
  rw [List.all_eq_true] at hreason
  refine ⟨by simp [Block.statusLine, http1dot], ?_⟩
  intro c hc
  simp only [Block.statusLine, List.mem_append, List.mem_singleton] at hc
  rcases hc with (((hc | hc) | hc) | hc) | hc
  · simp only [http1dot, List.mem_cons, List.mem_nil_iff, or_false] at hc
    rcases hc with h | h | h | h | h | h | h <;> subst h <;> decide
  · exact numeral_safe 10 (Or.inl rfl) b.minor c (dec_eq _ ▸ hc)
  · subst hc; decide
  · exact numeral_safe 10 (Or.inl rfl) b.status c (dec_eq _ ▸ hc)
  · exact lineSafe_ne c (hreason c hc)

open Percival.Spec.HttpResp in
theorem blockLines_ok (b : Block) (lo hi : Nat) (hwf : b.WF lo hi) : ∀ l ∈ blockLines b, LineOK l := by
  intro l hl
  simp only [blockLines, List.mem_cons, List.mem_map] at hl
  rcases hl with rfl | ⟨h, hh, rfl⟩
  · exact statusLine_ok b lo hi hwf
  · exact hdrLine_ok h (hwf.2.2.2.2.2 h hh)

open Percival.Spec.HttpResp in
theorem gotHeaders_block (st : St) (b : Block) (lo hi : Nat) (hlo : 100 ≤ lo) (hhi : hi ≤ 599)
    (hwf : b.WF lo hi) :
    gotHeaders ovf st b.serialize =
      afterParse st (b.status : Int) (b.headers.map (fun h => (h.name, h.value))) b.serialize.length := by
  have hlines := blockLines_ok b lo hi hwf
  have hnul : (b.headers.map Hdr.line).any (·.contains 0) = false := by
    rw [List.any_eq_false]
    exact fun l hl => by rw [(hlines l (List.mem_cons_of_mem _ hl)).no_nul]; exact Bool.false_ne_true
  have hst : ¬ ((b.status : Int) < Percival.Gen.Http.STATUS_MIN ∨ (b.status : Int) > Percival.Gen.Http.STATUS_MAX) := by
    have := hwf.2.1
    have := hwf.2.2.1
    simp only [Percival.Gen.Http.STATUS_MIN, Percival.Gen.Http.STATUS_MAX]
    omega
  rw [serialize_eq_joined, blockLines, gotHeaders_joined ovf st _ _ (fun l hl => (hlines l hl).noCrlf),
    (hlines _ (List.mem_cons_self ..)).no_nul, scanStatusLine_ok ovf b lo hi hhi hwf]
  simp only [Bool.false_eq_true, if_false, bne_self_eq_false, hnul, Bool.or_eq_true, decide_eq_true_eq, hst, List.map_map]
  exact congrArg (afterParse st _ · _) (List.map_congr_left fun h hh => splitHeader_line h (hwf.2.2.2.2.2 h hh))

open Percival.Spec.HttpResp in
theorem block_length_ge (b : Block) : 4 ≤ b.serialize.length := by
  simp only [Block.serialize, List.length_append, Percival.Spec.HttpResp.crlf, List.length_cons, List.length_nil]
  omega

theorem joined_ends (lines : List (List UInt8)) (hne : lines ≠ []) : ∃ Y, joined lines = Y ++ crlf := by
  induction lines with
  | nil => exact absurd rfl hne
  | cons l ls ih =>
    cases ls with
    | nil => exact ⟨l, by simp [joined_cons, joined_nil]⟩
    | cons l2 ls2 =>
      obtain ⟨Y, hY⟩ := ih (by simp)
      exact ⟨l ++ crlf ++ Y, by rw [joined_cons, hY]; simp⟩

/-- a header block: lines without CR/LF/NUL, each followed by CRLF, then the blank line -/
def IsBlock (block : List UInt8) : Prop :=
  ∃ lines, (∀ l ∈ lines, LineOK l) ∧ lines ≠ [] ∧ block = joined lines ++ crlf

theorem block_len4 {block : List UInt8} (hb : IsBlock block) : 4 ≤ block.length := by
  obtain ⟨lines, _, hne, rfl⟩ := hb
  obtain ⟨Y, hY⟩ := joined_ends lines hne
  rw [hY]; simp

theorem block_ends {block : List UInt8} (hb : IsBlock block) (more : List UInt8) :
    TermAt (block ++ more) (block.length - 4) := by
  obtain ⟨lines, _, hne, rfl⟩ := hb
  obtain ⟨Y, hY⟩ := joined_ends lines hne
  rw [hY]
  have e : (Y ++ crlf ++ crlf ++ more) = Y ++ (13 :: 10 :: 13 :: 10 :: more) := by simp
  have hl : (Y ++ crlf ++ crlf).length - 4 = Y.length := by simp
  rw [TermAt, e, hl, List.drop_left' rfl]
  rfl

/-- the only terminator inside a block is its end -/
theorem block_first_term {block : List UInt8} (hb : IsBlock block) (more : List UInt8) (p : Nat)
    (hp : p + 4 ≤ block.length) (ht : TermAt (block ++ more) p) : p = block.length - 4 := by
  obtain ⟨lines, hl, _, rfl⟩ := hb
  simp only [List.length_append, List.length_cons, List.length_nil] at hp ⊢
  have := joined_term lines hl more p ht (by omega)
  omega

/-- scanning from any `hepos` not beyond the terminator finds it -/
theorem scan_from {block : List UInt8} (hb : IsBlock block) (more : List UInt8) (hepos : Nat)
    (hh : hepos + 4 ≤ block.length) :
    scanHdr ((block ++ more).drop hepos) hepos = block.length - 4 := by
  rw [scanHdr_eq (q := block.length - 4 - hepos) hepos
    (termAt_drop.mpr (by rw [Nat.add_sub_cancel' (by omega)]; exact block_ends hb more))
    fun q' hq' h => absurd (block_first_term hb more _ (by omega) (termAt_drop.mp h)) (by omega)]
  omega

/-- on a buffer which ends inside the block, the scan does not find a terminator and stops before the block's -/
theorem scan_prefix {block : List UInt8} (hb : IsBlock block) (more : List UInt8) (hepos b : Nat)
    (hh : hepos + 4 ≤ block.length) (hbl : b < block.length) :
    let buf := (block ++ more).take b
    let hp := scanHdr (buf.drop hepos) hepos
    ¬ (hp + 4 ≤ buf.length) ∧ hp + 4 ≤ block.length := by
  intro buf hp
  have hbuflen : buf.length = b := by simp only [buf, List.length_take, List.length_append]; omega
  have hnone : ∀ q, ¬ TermAt (buf.drop hepos) q := fun q h => by
    have hle := h.le
    rw [List.length_drop, hbuflen] at hle
    -- the same four bytes are in the block
    have hsame : TermAt (block ++ more) (hepos + q) := by
      have := termAt_drop.mp h
      simp only [TermAt, buf] at this ⊢
      rwa [List.drop_take, List.take_take, Nat.min_eq_left (by omega)] at this
    have := block_first_term hb more _ (by omega) hsame
    omega
  have : hp = hepos + (buf.length - hepos - 3) := by
    simp only [hp]
    rw [scanHdr_none hepos hnone, List.length_drop]
  omega

open Percival.Spec.HttpResp in
theorem isBlock_serialize (b : Block) (lo hi : Nat) (hwf : b.WF lo hi) : IsBlock b.serialize :=
  ⟨blockLines b, blockLines_ok b lo hi hwf, by simp [blockLines], serialize_eq_joined b⟩

open Percival.Spec.HttpResp in
theorem readHeader_block (st : St) (b : Block) (lo hi : Nat) (hlo : 100 ≤ lo) (hhi : hi ≤ 599)
    (hwf : b.WF lo hi) (rest : List UInt8) (hh : st.hepos + 4 ≤ b.serialize.length) :
    readHeader ovf st .ok (b.serialize ++ rest) =
      afterParse { st with hepos := b.serialize.length - 4 } (b.status : Int)
        (b.headers.map (fun h => (h.name, h.value))) b.serialize.length := by
  have hb := isBlock_serialize b lo hi hwf
  have hL := block_len4 hb
  have hscan := scan_from hb rest st.hepos hh
  simp only [readHeader, bne_self_eq_false, Bool.false_eq_true, if_false, hscan]
  have e1 : b.serialize.length - 4 + 4 = b.serialize.length := by omega
  rw [e1]
  have hle : b.serialize.length ≤ (b.serialize ++ rest).length := by simp
  simp only [hle, if_true]
  have htake : (b.serialize ++ rest).take b.serialize.length = b.serialize := by simp
  rw [htake]
  exact gotHeaders_block ovf _ b lo hi hlo hhi hwf

/-- the buffer ends inside the block: wait for one more byte, `hepos` advanced but still before the terminator -/
theorem readHeader_cut (st : St) (block more : List UInt8) (hb : IsBlock block) (b' : Nat)
    (hh : st.hepos + 4 ≤ block.length) (hbl : b' < block.length) (hsize : b' < Percival.Gen.Http.MAXHDR + 1) :
    ∃ hp, hp + 4 ≤ block.length ∧
      readHeader ovf st .ok ((block ++ more).take b') = .wait { st with hepos := hp } 0 (b' + 1) .readHeader := by
  obtain ⟨h1, h2⟩ := scan_prefix hb more st.hepos b' hh hbl
  have hbuflen : ((block ++ more).take b').length = b' := by
    simp only [List.length_take, List.length_append]; omega
  refine ⟨_, h2, ?_⟩
  simp only [readHeader, bne_self_eq_false, Bool.false_eq_true, if_false]
  rw [if_neg h1, hbuflen, if_neg (by omega)]

theorem interim_cond (n : Nat) (h1 : 100 ≤ n) (h2 : n ≤ 199) :
    (decide (Percival.Gen.Http.INTERIM_MIN ≤ (n : Int)) && decide ((n : Int) ≤ Percival.Gen.Http.INTERIM_MAX)) = true := by
  have a : Percival.Gen.Http.INTERIM_MIN ≤ (n : Int) := by simp only [Percival.Gen.Http.INTERIM_MIN]; omega
  have b : (n : Int) ≤ Percival.Gen.Http.INTERIM_MAX := by simp only [Percival.Gen.Http.INTERIM_MAX]; omega
  simp [a, b]

theorem not_interim_cond (n : Nat) (h1 : 200 ≤ n) :
    (decide (Percival.Gen.Http.INTERIM_MIN ≤ (n : Int)) && decide ((n : Int) ≤ Percival.Gen.Http.INTERIM_MAX)) = false := by
  have b : ¬ ((n : Int) ≤ Percival.Gen.Http.INTERIM_MAX) := by simp only [Percival.Gen.Http.INTERIM_MAX]; omega
  simp [b]

/-- state ready to read a (further) header block -/
structure Ready (st : St) (ishead : Bool) (max : Nat) : Prop where
  hepos : st.hepos = 0
  bodylen : st.bodylen = 0
  bodyRev : st.bodyRev = []
  alloc : st.alloc ≤ st.max
  max : st.max = max
  ishead : st.ishead = ishead

theorem cstr_id (l : List UInt8) (h : ∀ c ∈ l, c ≠ 0) : cstr l = l := by
  have := List.takeWhile_append_of_pos (p := (· != 0)) (l₂ := []) fun c hc => bne_iff_ne.mpr (h c hc)
  simpa [cstr] using this

/-- the state while a body is being collected: `got` so far -/
structure BodySt (st : St) (status : Int) (hdrs : List (List UInt8 × List UInt8)) (max : Nat) (chunked : Bool)
    (got : List UInt8) : Prop where
  status : st.status = status
  headers : st.headers = hdrs
  max : st.max = max
  chunked : st.chunked = chunked
  bodylen : st.bodylen = got.length
  bodyRev : st.bodyRev = got.reverse
  alloc : st.alloc ≤ st.max

section
variable {st : St} {status : Int} {hdrs : List (List UInt8 × List UInt8)} {max : Nat} {ch : Bool} {got : List UInt8}

theorem mkResp_bodySt (h : BodySt st status hdrs max ch got) :
    mkResp st = { status := status, headers := hdrs, body := some got } := by
  simp [mkResp, h.status, h.headers, h.bodyRev]

theorem BodySt.readlen (h : BodySt st status hdrs max ch got) (n : Nat) :
    BodySt { st with readlen := n } status hdrs max ch got :=
  ⟨h.status, h.headers, h.max, h.chunked, h.bodylen, h.bodyRev, h.alloc⟩

/-- a piece which fits the limit is added to the body; nothing else changes but the allocation -/
theorem BodySt.addbody (h : BodySt st status hdrs max ch got) (piece : List UInt8) (hfit : got.length + piece.length ≤ max) :
    ∃ st1, addbody st piece = some st1 ∧ ∀ n, BodySt { st1 with readlen := n } status hdrs max ch (got ++ piece) := by
  obtain ⟨a, ha1, _, he⟩ := addbody_eq st piece h.alloc (by rw [h.bodylen, h.max]; exact hfit)
  exact ⟨_, he, fun n => ⟨h.status, h.headers, h.max, h.chunked, by simp [h.bodylen], by simp [h.bodyRev], ha1⟩⟩

end

/-- `callback_readdata` on a buffer of which it takes `m` bytes: those before the EOL go to the body -/
theorem readData_pos {st : St} {status : Int} {hdrs : List (List UInt8 × List UInt8)} {max : Nat} {ch : Bool}
    {got : List UInt8} (hs : BodySt st status hdrs max ch got) (buf : List UInt8) {m : Nat}
    (hm : min buf.length st.readlen = m) (hfit : got.length + min m (st.readlen - eolOf ch) ≤ max) :
    ∃ st', BodySt st' status hdrs max ch (got ++ buf.take (min m (st.readlen - eolOf ch))) ∧
      st'.readlen = st.readlen - m ∧
      readData st .ok buf =
        if st.readlen - m = 0 then
          if ch then .goto st' m .chunkedHeader
          else .done (some { status := status, headers := hdrs,
                             body := some (got ++ buf.take (min m (st.readlen - eolOf ch))) })
        else .wait st' m (if st.readlen - m > Percival.Gen.Http.WAITCAP then Percival.Gen.Http.WAITCAP
          else st.readlen - m) .readData := by
  obtain ⟨st1, he, hs1⟩ := hs.addbody (buf.take (min m (st.readlen - eolOf ch))) (by rw [List.length_take]; omega)
  refine ⟨{ st1 with readlen := st.readlen - m }, hs1 _, rfl, ?_⟩
  rw [← mkResp_bodySt (hs1 (st.readlen - m))]
  simp only [readData, bne_self_eq_false, Bool.false_eq_true, if_false, ite_gt_eq_min, hm, hs.chunked,
    sub_eolLen ch st.readlen m (by omega), he]
  by_cases hz : st.readlen - m = 0
  · simp only [hz, beq_self_eq_true, if_true]
  · have : (st.readlen - m == 0) = false := by simp [hz]
    simp only [this, Bool.false_eq_true, if_false, hz]

theorem readToEof_eof (st : St) (status : Int) (hdrs : List (List UInt8 × List UInt8)) (max : Nat) (ch : Bool)
    (got : List UInt8) (hs : BodySt st status hdrs max ch got) (buf : List UInt8) :
    readToEof st .eof buf = .done (some { status := status, headers := hdrs, body := some got }) := by
  simp only [readToEof, mkResp_bodySt hs]

theorem ext_after16 (e : List UInt8) (he : Percival.Spec.HttpResp.extWF e) : After 16 e := by
  refine ⟨?_, ?_⟩
  · intro c hc
    have := he.2 c hc
    subst this
    decide
  · intro _ c hc
    have := he.2 c hc
    subst this
    decide

theorem ext_bytes (e : List UInt8) (he : Percival.Spec.HttpResp.extWF e) : ∀ c ∈ e, c ≠ 13 ∧ c ≠ 10 ∧ c ≠ 0 := by
  intro c hc
  have := he.1
  rw [List.all_eq_true] at this
  exact lineSafe_ne c (this c hc)

theorem sizeLine_bytes (n : Nat) (e : List UInt8) (he : Percival.Spec.HttpResp.extWF e) :
    ∀ c ∈ Percival.Spec.HttpResp.hex n ++ e, c ≠ 13 ∧ c ≠ 10 ∧ c ≠ 0 := by
  intro c hc
  rw [List.mem_append] at hc
  rcases hc with hc | hc
  · exact numeral_safe 16 (Or.inr rfl) n c (hex_eq _ ▸ hc)
  · exact ext_bytes e he c hc

/-- `callback_chunkedheader` on a buffered chunk-size line (size `n`, extension `e`) -/
theorem chunkedHeader_line (st : St) (n : Nat) (e : List UInt8) (he : Percival.Spec.HttpResp.extWF e) (more : List UInt8)
    (hn : n ≤ SIZE_MAX) (hb : n ≠ 0 → st.bodylen ≤ st.max) :
    chunkedHeader st .ok (Percival.Spec.HttpResp.hex n ++ e ++ crlf ++ more) =
      if n = 0 then .done (some (mkResp st))
      else if n > st.max - st.bodylen ∨ n > SIZE_MAX - 2 then tooBig st
      else .goto { st with readlen := n + 2 } ((Percival.Spec.HttpResp.hex n ++ e).length + 2) .readData := by
  have hs := sizeLine_bytes n e he
  have hfe := findeol_line (noCrlf_of_no_cr fun c hc => (hs c hc).1) more
  rw [chunkedHeader_size st _ (by rw [hfe]; simp only [List.length_append, List.length_cons, List.length_nil]; omega) n hb,
    hfe]
  rw [hfe, List.append_assoc (Percival.Spec.HttpResp.hex n ++ e), List.take_left' rfl, cstr_id _ (fun c hc => (hs c hc).2.2),
    hex_eq]
  exact parsenumSize_numeral 16 (Or.inr rfl) n e (ext_after16 e he) true (Or.inl rfl) hn

theorem take_append_ge (x y : List UInt8) (b : Nat) (h : x.length ≤ b) : (x ++ y).take b = x ++ y.take (b - x.length) := by
  rw [List.take_append]
  rw [List.take_of_length_le h]

/-- a chunk-size line whose CRLF has not completely arrived: wait for one more byte -/
theorem chunkedHeader_cut (st : St) (line more : List UInt8) (hl : ∀ c ∈ line, c ≠ 13) (b : Nat)
    (hb : b < line.length + 2) (hshort : b < Percival.Gen.Http.MAXCHLEN) :
    chunkedHeader st .ok ((line ++ crlf ++ more).take b) = .wait st 0 (b + 1) .chunkedHeader := by
  have hbuf : (line ++ crlf ++ more).take b = (line ++ [13]).take b := by
    rw [show line ++ crlf ++ more = (line ++ [13]) ++ (10 :: more) by simp, List.take_append_of_le_length (by simp; omega)]
  -- the only CR in the buffer is its last byte
  have hno : NoCrlf ((line ++ [13]).take b) := fun q hq => by
    obtain ⟨h13, h10⟩ := hq.of_take.1
    rcases Nat.lt_or_ge q line.length with h | h
    · rw [List.getElem?_append_left h] at h13
      exact hl 13 (List.mem_of_getElem? h13) rfl
    · rw [List.getElem?_eq_none (by simp; omega)] at h10
      cases h10
  have hlen : ((line ++ [13]).take b).length = b := by simp; omega
  rw [hbuf, chunkedHeader_noline st _ (findeol_noCrlf hno), hlen, if_neg (by omega)]

open Percival.Spec.HttpResp in
theorem serializeChunk_eq (c : List UInt8 × List UInt8) :
    serializeChunk c = hex c.1.length ++ c.2 ++ [13, 10] ++ (c.1 ++ [13, 10]) := by
  simp [serializeChunk, Percival.Spec.HttpResp.crlf, CR, LF]

/-- the reader which delivers everything at the first wait -/
def whole (n : Nat) : Unit → Nat → Nat → Unit × Arrival := fun _ _ _ => ((), Arrival.more n)

theorem findHeader_map (hs : List Percival.Spec.HttpResp.Hdr) (nm : List UInt8) :
    findHeader (hs.map (fun h => (h.name, h.value))) nm = Percival.Spec.HttpResp.firstValue hs nm := by
  simp only [findHeader, Percival.Spec.HttpResp.firstValue, List.find?_map, Option.map_map]
  rfl

theorem nobody_cond (ishead : Bool) (n : Nat) :
    (ishead || (n : Int) == Percival.Gen.Http.NOBODY_A || (n : Int) == Percival.Gen.Http.NOBODY_B) =
      Percival.Spec.HttpResp.bodiless ishead n := by
  have a : ((n : Int) == Percival.Gen.Http.NOBODY_A) = (n == 204) := by
    simp only [Percival.Gen.Http.NOBODY_A]
    rw [Bool.eq_iff_iff]; simp; omega
  have b : ((n : Int) == Percival.Gen.Http.NOBODY_B) = (n == 304) := by
    simp only [Percival.Gen.Http.NOBODY_B]
    rw [Bool.eq_iff_iff]; simp; omega
  rw [a, b]
  rfl

theorem afterParse_final (st : St) (n : Nat) (hn : 200 ≤ n) (hdrs : List (List UInt8 × List UInt8)) (len : Nat) :
    afterParse st (n : Int) hdrs len =
      (if Percival.Spec.HttpResp.bodiless st.ishead n then
        .done (some { status := (n : Int), headers := hdrs, body := some [] })
      else if isChunkedTE (findHeader hdrs hTransferEncoding) then
        .goto { st with status := (n : Int), headers := hdrs, chunked := true } len .chunkedHeader
      else
      match findHeader hdrs hContentLength with
      | some clen =>
        match parsenumSize 10 false clen with
        | none => .done none
        | some k =>
          if k > st.max then tooBig { st with status := (n : Int), headers := hdrs }
          else .goto { st with status := (n : Int), headers := hdrs, readlen := k, chunked := false } len .readData
      | none => .goto { st with status := (n : Int), headers := hdrs } len .readToEof) := by
  simp only [afterParse, not_interim_cond n hn, Bool.false_eq_true, if_false, nobody_cond]
  rfl

theorem parse_dec (n : Nat) (hn : n ≤ SIZE_MAX) : parsenumSize 10 false (Percival.Spec.HttpResp.dec n) = some n := by
  have := parsenumSize_numeral 10 (Or.inl rfl) n [] ⟨by simp, by simp⟩ false (Or.inr rfl) hn
  simpa [dec_eq] using this

end

end Percival.Proofs.HttpDecode
