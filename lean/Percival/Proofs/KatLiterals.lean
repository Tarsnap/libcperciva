import Percival.KAT.Common
/-! `Proofs.Literals` for the helpers of the known-answer tests. -/
namespace Percival.KAT
open Percival.Spec

theorem ascii_ofList (l : List Char) : ascii (String.ofList l) = l.map fun c => UInt8.ofNat c.toNat := by
  rw [ascii, String.toList_ofList]

theorem unhex_ofList (l : List Char) : unhex (String.ofList l) = unhexL l := by
  rw [unhex, String.toList_ofList]

end Percival.KAT
