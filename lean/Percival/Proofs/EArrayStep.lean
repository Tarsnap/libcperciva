import Percival.Proofs.EArray
/-!
# Every elastic-array operation is admitted by the ideal array, and `abs` commutes (C12)
-/
namespace Percival.Proofs.EArray
open Percival.Model Percival.Model.EArray Percival.Spec.DS
open Percival.Proofs.MemCalls (Calls calls_malloc calls_free)

theorem SIZE_MAX_same : EArray.SIZE_MAX = Percival.Spec.DS.SIZE_MAX := by decide

theorem ans_st (st : St) (a : EA) (m m' : Mem) (out : Option (List UInt8 × Nat)) : (ans st a m m' out).st = st := rfl

def StepOk (a : EA) (op : EaOp) (m : Mem) : Prop :=
  Inv (step a op m).2.1 ∧ eaAdmit (abs a) op (step a op m).1 = some (abs (step a op m).2.1)

theorem abs_eq {a : EA} {bytes : List UInt8} (hb : a.buf.take a.size = bytes) (ht : Tight a) :
    ({ bytes := bytes, loose := false } : EaIdeal) = abs a := by
  simp only [abs, hb]; congr 1; simp only [Tight] at ht; simp; omega

/-! ### The oracle's side of the functions built on `resize` (no invariant needed) -/

theorem append_acct (a : EA) (data : List UInt8) (n : Nat) (r : RecLen) (m : Mem) :
    Acct a m (append a data n r m).2.1 (append a data n r m).2.2 ∧
    ((append a data n r m).1 = .ok → (append a data n r m).2.2.refusals = m.refusals) ∧
    ((append a data n r m).1 = .fail → (append a data n r m).2.1 = a) := by
  obtain ⟨ac, hrf, -, hfail⟩ := resize_acct a ((a.size + (n * r.val) % SZ) % SZ) m
  unfold append
  simp only
  split
  · exact ⟨.refl _ _, fun _ => rfl, fun _ => rfl⟩
  · rcases hres : resize a ((a.size + (n * r.val) % SZ) % SZ) m with ⟨ok, a', m'⟩
    rw [hres] at ac hrf hfail
    cases ok
    · exact ⟨ac, nofun, fun _ => hfail rfl⟩
    · simp only
      split
      · split
        · exact ⟨ac, nofun, nofun⟩
        · split
          · exact ⟨ac.data rfl, fun _ => hrf, nofun⟩
          · exact ⟨ac, nofun, nofun⟩
      · exact ⟨ac, fun _ => hrf, nofun⟩

theorem shrink_acct (a : EA) (n : Nat) (r : RecLen) (m : Mem) :
    Acct a m (shrink a n r m).1 (shrink a n r m).2 := by
  unfold shrink
  simp only
  generalize (if n > EArray.SIZE_MAX / r.val ∨ (n * r.val) % SZ > a.size then 0 else a.size - (n * r.val) % SZ) = ns
  have hf := (resize_acct a ns m).1
  rcases hres : resize a ns m with ⟨ok, a', m'⟩
  rw [hres] at hf
  cases ok
  · exact hf.data rfl
  · exact hf

theorem truncate_acct (a : EA) (m : Mem) :
    Acct a m (truncate a m).2.1 (truncate a m).2.2 ∧
    (truncate a m).2.2.refusals = m.refusals + (if (truncate a m).1 then 0 else 1) ∧
    ((truncate a m).1 = false → (truncate a m).2.1 = a) := by
  unfold truncate
  split
  · exact ⟨.release m rfl, (free_facts _ _).1, nofun⟩
  · rename_i h0
    split
    · rename_i hgt
      have ha : (a.alloc == 0) = false := by simp; omega
      cases hr : (m.realloc false a.size).1
      · rw [pair_eta _ hr]; exact ⟨.refused hr, (realloc_fail hr).1, fun _ => rfl⟩
      · rw [pair_eta _ hr]
        exact ⟨ha ▸ .granted (a' := ⟨a.size, a.size, _⟩) (ha ▸ hr) h0, (realloc_ok hr).1, nofun⟩
    · exact ⟨.refl _ _, rfl, nofun⟩

theorem free_calls (a : EA) (m : Mem) : Calls m (EArray.free a m) (-1 - bufBlocks a) :=
  ((calls_free m (a.alloc == 0)).trans (calls_free _ false)).cast
    (by by_cases ha : a.alloc = 0 <;> simp [bufBlocks, ha])

theorem setRec_alloc {a a' : EA} {pos : Nat} {r : RecLen} {rec : List UInt8}
    (h : setRec a pos r rec = some a') : a'.alloc = a.alloc := by
  unfold setRec at h
  split at h
  · simp only [Option.map_eq_some_iff] at h
    obtain ⟨b, _, rfl⟩ := h; rfl
  · cases h

theorem fillFrom_fields {a a' : EA} {old : Nat} {fill : List UInt8} (h : fillFrom a old fill = some a') :
    a'.alloc = a.alloc ∧ a'.size = a.size := by
  unfold fillFrom at h
  split at h
  · cases h; exact ⟨rfl, rfl⟩
  · split at h
    · simp only [Option.map_eq_some_iff] at h
      obtain ⟨b, _, rfl⟩ := h; exact ⟨rfl, rfl⟩
    · cases h

/-- a write inside the contents: the array keeps its shape, the contents change where the bytes went -/
theorem write_spec {a : EA} {off : Nat} {src : List UInt8} (h : Inv a) (hs : off + src.length ≤ a.size) :
    ∃ b, writeAt a.buf off src = some b ∧ Inv { a with buf := b } ∧
      b.take a.size = (a.buf.take a.size).take off ++ src ++ (a.buf.take a.size).drop (off + src.length) := by
  have := h.le; have := h.len
  refine ⟨_, writeAt_some (by omega), ⟨h.le, ?_, h.lt⟩, ?_⟩
  · simp [List.length_take, List.length_drop]; omega
  · have hX : (a.buf.take off).length = off := by rw [List.length_take]; omega
    rw [List.take_append, List.take_of_length_le (l := a.buf.take off ++ src) (by simp [hX]; omega)]
    simp only [List.length_append, hX]
    rw [List.take_take, Nat.min_eq_left (by omega), List.drop_take]

theorem fillFrom_spec {a' : EA} {old : Nat} {fill : List UInt8} (h : Inv a')
    (hf : fill.length = a'.size - old) :
    ∃ a'', fillFrom a' old fill = some a'' ∧ a''.size = a'.size ∧ a''.alloc = a'.alloc ∧ Inv a'' ∧
      a''.buf.take a''.size = a'.buf.take (min old a'.size) ++ fill := by
  unfold fillFrom
  by_cases hle : a'.size ≤ old
  · have : fill = [] := List.eq_nil_of_length_eq_zero (by omega)
    refine ⟨a', by simp [hle], rfl, rfl, h, ?_⟩
    simp [this, Nat.min_eq_right hle]
  · obtain ⟨b, hw, hinv, hb⟩ := write_spec (off := old) (src := fill) h (by omega)
    rw [if_neg hle, if_pos (by omega), hw]
    refine ⟨_, rfl, rfl, rfl, hinv, ?_⟩
    rw [hb, List.take_take, List.drop_of_length_le (by rw [List.length_take, h.len]; have := h.le; omega),
      List.append_nil, Nat.min_comm]

theorem step_resize (a : EA) (n : Nat) (r : RecLen) (fill : List UInt8) (m : Mem) (h : Inv a)
    (hc : eaContract (abs a) (.resize n r fill)) : StepOk a (.resize n r fill) m := by
  have hs := resizeRec_spec a n r m h
  have hfail := (resizeRec_acct a n r m).2.2
  have hal := abs_length h
  simp only [eaContract, hal] at hc
  unfold StepOk
  simp only [step]
  rcases hres : resizeRec a n r m with ⟨ok, a', m'⟩
  rw [hres] at hs hfail
  cases ok
  · -- failure: nothing changed
    obtain ⟨ha', hrf⟩ := hfail rfl
    simp only at ha' hrf
    subst ha'
    refine ⟨h, ?_⟩
    have hcond : (ans St.fail a' m m' none).refused = true ∨ n * r.val > Percival.Spec.DS.SIZE_MAX := by
      rcases hrf with h1 | h2
      · left; simp [ans]; omega
      · right; rw [← SIZE_MAX_same]; exact (guard_iff n r).1 h2
    simp only [eaAdmit, ans_st]
    rw [if_pos ⟨hcond, rfl⟩]
    exact shape_abs h _ _ _ _
  · have hok := hs.2 rfl
    simp only at hok
    obtain ⟨hle, hsz, htight, htake⟩ := hok
    have hinv' : Inv a' := hs.1
    have hfill : fill.length = a'.size - a.size := by rw [hsz]; exact hc (by rw [← SIZE_MAX_same]; exact hle)
    obtain ⟨a'', hff, hs1, hs2, hinv'', hbytes⟩ := fillFrom_spec hinv' (old := a.size) hfill
    simp only [hff]
    refine ⟨hinv'', ?_⟩
    simp only [eaAdmit, ans_st]
    have hcond : n * r.val ≤ Percival.Spec.DS.SIZE_MAX ∧ fill.length = n * r.val - (abs a).bytes.length ∧
        (ans St.ok a'' m m' none).out = none := by
      refine ⟨by rw [← SIZE_MAX_same]; exact hle, by rw [hal, ← hsz]; exact hfill, rfl⟩
    rw [if_pos hcond]
    have hb : a''.buf.take a''.size = resizeBytes (abs a).bytes (n * r.val) fill := by
      rw [hbytes, resizeBytes, hsz]
      simp only [abs, List.take_take]
      rw [Nat.min_comm (n * r.val) a.size, htake]
    rw [abs_eq hb (by simp only [Tight, hs1, hs2] at *; exact htight)]
    exact shape_abs hinv'' _ _ _ _

theorem append_spec (a : EA) (data : List UInt8) (n : Nat) (r : RecLen) (m : Mem) (h : Inv a)
    (hd : n * r.val ≤ EArray.SIZE_MAX → n * r.val ≤ data.length) :
    Inv (append a data n r m).2.1 ∧ (append a data n r m).1 ≠ .oob ∧
    ((append a data n r m).1 = .ok →
      a.size + n * r.val ≤ EArray.SIZE_MAX ∧ (append a data n r m).2.1.size = a.size + n * r.val ∧
      Tight (append a data n r m).2.1 ∧ (append a data n r m).2.2.refusals = m.refusals ∧
      (append a data n r m).2.1.buf.take (append a data n r m).2.1.size = a.buf.take a.size ++ data.take (n * r.val)) ∧
    ((append a data n r m).1 = .fail →
      (append a data n r m).2.1 = a ∧
      ((append a data n r m).2.2.refusals = m.refusals + 1 ∨
       ((append a data n r m).2.2.refusals = m.refusals ∧ a.size + n * r.val > EArray.SIZE_MAX))) ∧
    (append a data n r m).2.2.live + bufBlocks a = m.live + bufBlocks (append a data n r m).2.1 := by
  have hsl : a.size < SZ := Nat.lt_of_le_of_lt h.le h.lt
  unfold append
  by_cases hg1 : n > EArray.SIZE_MAX / r.val
  · have := (guard_iff n r).1 hg1
    simp only [hg1, true_or, if_true]
    exact ⟨h, by simp, by simp, fun _ => ⟨trivial, Or.inr ⟨trivial, by omega⟩⟩, by simp⟩
  · obtain ⟨hle, hmod⟩ := guard_mod hg1
    have hS := SIZE_MAX_succ
    simp only [hmod]
    have hdl := hd hle
    have hk0 : n = 0 → n * r.val = 0 := fun h0 => by simp [h0]
    generalize n * r.val = k at *
    by_cases hg2 : k > EArray.SIZE_MAX - a.size
    · simp only [hg1, hg2, or_true, if_true]
      exact ⟨h, by simp, by simp, fun _ => ⟨trivial, Or.inr ⟨trivial, by omega⟩⟩, by simp⟩
    · simp only [hg1, hg2, or_self, if_false]
      have hsum : a.size + k < SZ := by omega
      rw [Nat.mod_eq_of_lt hsum]
      have hs := resize_spec a (a.size + k) m h hsum
      obtain ⟨ac, hrf, hsz, hfail⟩ := resize_acct a (a.size + k) m
      have hlive := ac.live
      rcases hres : resize a (a.size + k) m with ⟨ok, a', m'⟩
      rw [hres] at hs hrf hsz hfail hlive
      cases ok
      · exact ⟨hs.1, by simp, by simp, fun _ => ⟨hfail rfl, Or.inl hrf⟩, hlive⟩
      · obtain ⟨htight, htake⟩ := hs.2.1 rfl
        have hinv' : Inv a' := hs.1
        have hsz := hsz rfl
        simp only at htight htake hsz hrf ⊢
        rw [Nat.min_eq_left (by omega)] at htake
        by_cases hn : n > 0
        · have hlen : (data.take k).length = k := by rw [List.length_take, Nat.min_eq_left hdl]
          obtain ⟨b, hw, hinvb, hb⟩ := write_spec (off := a.size) (src := data.take k) hinv' (by omega)
          simp only [hn, if_true, show ¬ data.length < k from by omega, if_false, hw]
          refine ⟨hinvb, by simp, fun _ => ⟨by omega, hsz, htight, hrf, ?_⟩, by simp, hlive⟩
          show b.take a'.size = _
          rw [hb, List.take_take, Nat.min_eq_left (by omega), htake,
            List.drop_of_length_le (by rw [List.length_take, hinv'.len, hlen]; have := hinv'.le; omega), List.append_nil]
        · have hn0 : n = 0 := by omega
          simp only [hn, if_false]
          refine ⟨hinv', by simp, ?_, by simp, hlive⟩
          intro _
          have hk : k = 0 := hk0 hn0
          refine ⟨by omega, hsz, htight, hrf, ?_⟩
          subst hk
          simp only [hsz, Nat.add_zero, htake, List.take_zero, List.append_nil]

theorem step_append (a : EA) (data : List UInt8) (n : Nat) (r : RecLen) (m : Mem) (h : Inv a)
    (hc : eaContract (abs a) (.append data n r)) : StepOk a (.append data n r) m := by
  have hal := abs_length h
  simp only [eaContract] at hc
  have hs := append_spec a data n r m h (fun hle => by rw [hc (by rw [← SIZE_MAX_same]; exact hle)]; exact Nat.le_refl _)
  unfold StepOk
  simp only [step]
  rcases hres : append a data n r m with ⟨st, a', m'⟩
  rw [hres] at hs
  obtain ⟨hinv', hno, hok, hfail, _⟩ := hs
  simp only at hinv' hno hok hfail ⊢
  refine ⟨hinv', ?_⟩
  simp only [eaAdmit]
  cases st
  · obtain ⟨hle, hsz, htight, _, hbytes⟩ := hok rfl
    simp only [ans_st]
    rw [if_pos ⟨by rw [hal, ← SIZE_MAX_same]; exact hle, rfl⟩]
    rw [abs_eq (a := a') (by rw [hbytes]; rfl) htight]
    exact shape_abs hinv' _ _ _ _
  · obtain ⟨ha', hrf⟩ := hfail rfl
    subst ha'
    simp only [ans_st]
    have hcond : (ans St.fail a' m m' none).refused = true ∨ (abs a').bytes.length + n * r.val > Percival.Spec.DS.SIZE_MAX := by
      rcases hrf with h1 | ⟨_, h2⟩
      · left; simp [ans, h1]
      · right; rw [hal, ← SIZE_MAX_same]; exact h2
    rw [if_pos ⟨hcond, rfl⟩]
    exact shape_abs h _ _ _ _
  · exact absurd rfl hno

theorem shrink_spec (a : EA) (n : Nat) (r : RecLen) (m : Mem) (h : Inv a) :
    Inv (shrink a n r m).1 ∧ (shrink a n r m).1.size = a.size - n * r.val ∧
    (shrink a n r m).1.buf.take (shrink a n r m).1.size = a.buf.take (a.size - n * r.val) ∧
    (((shrink a n r m).2.refusals = m.refusals ∧ Tight (shrink a n r m).1) ∨
     ((shrink a n r m).2.refusals = m.refusals + 1 ∧ ¬ Tight (shrink a n r m).1 ∧
      (shrink a n r m).1.alloc = a.alloc ∧ (shrink a n r m).1.buf = a.buf)) ∧
    (shrink a n r m).2.live + bufBlocks a = m.live + bufBlocks (shrink a n r m).1 := by
  have hsl : a.size < SZ := Nat.lt_of_le_of_lt h.le h.lt
  have hnsize : (if n > EArray.SIZE_MAX / r.val ∨ n * r.val % SZ > a.size then 0 else a.size - n * r.val % SZ)
      = a.size - n * r.val := by
    by_cases hg1 : n > EArray.SIZE_MAX / r.val
    · have := (guard_iff n r).1 hg1
      have := SIZE_MAX_succ
      simp only [hg1, true_or, if_true]; omega
    · obtain ⟨hle, hmod⟩ := guard_mod hg1
      simp only [hg1, false_or, hmod]
      split <;> omega
  unfold shrink
  simp only [hnsize]
  generalize a.size - n * r.val = k at *
  have hk : k ≤ a.size := by
    have := hnsize; split at this <;> omega
  have hs := resize_spec a k m h (by omega)
  obtain ⟨ac, hrf, hsz, hfail⟩ := resize_acct a k m
  have hlive := ac.live
  rcases hres : resize a k m with ⟨ok, a', m'⟩
  rw [hres] at hs hrf hsz hfail hlive
  cases ok
  · have ha' := hfail rfl
    have hq := hs.2.2 rfl
    simp only at ha' hrf hq ⊢
    subst ha'
    have hq' := hq (by have := h.le; omega)
    refine ⟨⟨?_, h.len, h.lt⟩, ?_, ?_, Or.inr ⟨hrf, ?_, ?_, ?_⟩, ?_⟩
    · show k ≤ a'.alloc; have := h.le; omega
    · first | trivial | rfl
    · first | trivial | rfl
    · show ¬ (a'.alloc / 4 ≤ k); omega
    · first | trivial | rfl
    · first | trivial | rfl
    · simpa [bufBlocks] using hlive
  · obtain ⟨htight, htake⟩ := hs.2.1 rfl
    have hsz := hsz rfl
    simp only at hsz htight hrf htake ⊢
    rw [Nat.min_eq_right hk] at htake
    refine ⟨hs.1, hsz, by rw [hsz]; exact htake, Or.inl ⟨hrf, htight⟩, hlive⟩

theorem step_shrink (a : EA) (n : Nat) (r : RecLen) (m : Mem) (h : Inv a) : StepOk a (.shrink n r) m := by
  have hal := abs_length h
  have hs := shrink_spec a n r m h
  unfold StepOk
  simp only [step]
  rcases hres : shrink a n r m with ⟨a', m'⟩
  rw [hres] at hs
  obtain ⟨hinv', hsz, hbytes, hcases, _⟩ := hs
  simp only at hinv' hsz hbytes hcases ⊢
  refine ⟨hinv', ?_⟩
  simp only [eaAdmit]
  rw [if_pos ⟨rfl, rfl⟩]
  have hb : (abs a).bytes.take ((abs a).bytes.length - n * r.val) = a'.buf.take a'.size := by
    rw [hal, hbytes]; simp only [abs, List.take_take]; congr 1; omega
  have : ({ bytes := (abs a).bytes.take ((abs a).bytes.length - n * r.val),
            loose := (ans St.ok a' m m' none).refused } : EaIdeal) = abs a' := by
    rw [hb]
    simp only [abs, ans]; congr 1
    rcases hcases with ⟨h1, ht⟩ | ⟨h1, ht, _, _⟩
    · simp only [Tight] at ht; simp [h1]; omega
    · simp only [Tight] at ht
      have e1 : (m.refusals + 1 != m.refusals) = true := by simp
      rw [h1, e1, eq_comm, decide_eq_true_eq]; omega
  rw [this]
  exact shape_abs hinv' _ _ _ _

/-- `elasticarray_shrink` keeps exactly the bytes in front of the records it drops -/
theorem shrink_bytes (a : EA) (n : Nat) (r : RecLen) (m : Mem) (h : Inv a) :
    (abs (step a (.shrink n r) m).2.1).bytes = (abs a).bytes.take ((abs a).bytes.length - n * r.val) := by
  have h2 := (step_shrink a n r m h).2
  simp only [eaAdmit] at h2
  split at h2
  · obtain ⟨he, _⟩ := eaCheck_some h2; rw [he]
  · cases h2

/-- the data side of `truncate` (the oracle's side is `truncate_acct`) -/
theorem truncate_spec (a : EA) (m : Mem) (h : Inv a) :
    Inv (truncate a m).2.1 ∧
    ((truncate a m).1 = true →
      (truncate a m).2.1.size = a.size ∧ (truncate a m).2.1.alloc = a.size ∧
      (truncate a m).2.1.buf = a.buf.take a.size) := by
  obtain ⟨hle, hlen, hlt⟩ := h
  unfold truncate
  by_cases h0 : a.size = 0
  · simp only [h0, if_true]
    exact ⟨⟨by simp, by simp, by simp [SZ_eq]⟩, fun _ => ⟨by simp, by simp, by simp⟩⟩
  · simp only [h0, if_false]
    by_cases hgt : a.alloc > a.size
    · simp only [hgt, if_true]
      cases hr : (m.realloc false a.size).1
      · rw [pair_eta _ hr]
        exact ⟨⟨hle, hlen, hlt⟩, nofun⟩
      · rw [pair_eta _ hr]
        exact ⟨⟨by simp, by simp [List.length_take]; omega, by simp; omega⟩, fun _ => ⟨by simp, by simp, by simp⟩⟩
    · simp only [hgt, if_false]
      have : a.alloc = a.size := by omega
      refine ⟨⟨hle, hlen, hlt⟩, fun _ => ⟨by simp, by simp [this], ?_⟩⟩
      rw [List.take_of_length_le (by omega)]

theorem step_truncate (a : EA) (m : Mem) (h : Inv a) : StepOk a .truncate m := by
  have hs := truncate_spec a m h
  obtain ⟨-, hrf, hfail⟩ := truncate_acct a m
  unfold StepOk
  simp only [step]
  rcases hres : truncate a m with ⟨ok, a', m'⟩
  rw [hres] at hs hrf hfail
  obtain ⟨hinv', hok⟩ := hs
  simp only at hinv' hok hrf hfail ⊢
  cases ok
  · have ha' := hfail rfl
    subst ha'
    refine ⟨h, ?_⟩
    simp only [eaAdmit, ans_st]
    rw [if_pos ⟨by simp [ans, hrf], rfl⟩]
    exact shape_abs h _ _ _ _
  · obtain ⟨hsz, hal, hbuf⟩ := hok rfl
    refine ⟨hinv', ?_⟩
    simp only [eaAdmit, ans_st]
    rw [if_pos ⟨by simp [ans, hsz, hal], rfl⟩]
    have : ({ (abs a) with loose := false } : EaIdeal) = abs a' := by
      apply abs_eq
      · simp only [abs, hbuf, hsz, List.take_take, Nat.min_self]
      · simp only [Tight, hal, hsz]; omega
    rw [this]
    exact shape_abs hinv' _ _ _ _

theorem readAt_some {b : List UInt8} {off len : Nat} (h : off + len ≤ b.length) :
    readAt b off len = some ((b.drop off).take len) := by simp [readAt, h]

theorem getRec_spec (a : EA) (pos : Nat) (r : RecLen) (h : Inv a) (hc : pos * r.val + r.val ≤ a.size) :
    getRec a pos r = some (getBytes (a.buf.take a.size) pos r.val) := by
  have := h.le; have := h.len
  unfold getRec
  rw [if_pos hc, readAt_some (by omega)]
  simp only [getBytes]
  congr 1
  rw [List.drop_take, List.take_take, Nat.min_eq_left (by omega)]

theorem step_get (a : EA) (pos : Nat) (r : RecLen) (m : Mem) (h : Inv a)
    (hc : eaContract (abs a) (.get pos r)) : StepOk a (.get pos r) m := by
  have hal := abs_length h
  simp only [eaContract, hal] at hc
  unfold StepOk
  simp only [step, getRec_spec a pos r h hc]
  refine ⟨h, ?_⟩
  simp only [eaAdmit]
  rw [if_pos ⟨rfl, by rw [hal]; exact hc, rfl⟩]
  exact shape_abs h _ _ _ _

theorem setRec_spec (a : EA) (pos : Nat) (r : RecLen) (rec : List UInt8) (h : Inv a)
    (hc : pos * r.val + r.val ≤ a.size) (hr : rec.length = r.val) :
    ∃ a', setRec a pos r rec = some a' ∧ a'.size = a.size ∧ a'.alloc = a.alloc ∧ Inv a' ∧
      a'.buf.take a'.size = setBytes (a.buf.take a.size) pos r.val rec := by
  obtain ⟨b, hw, hinv, hb⟩ := write_spec (off := pos * r.val) (src := rec) h (by omega)
  unfold setRec
  rw [if_pos ⟨hc, hr⟩, hw]
  exact ⟨_, rfl, rfl, rfl, hinv, hr ▸ hb⟩

theorem step_set (a : EA) (pos : Nat) (r : RecLen) (rec : List UInt8) (m : Mem) (h : Inv a)
    (hc : eaContract (abs a) (.set pos r rec)) : StepOk a (.set pos r rec) m := by
  have hal := abs_length h
  simp only [eaContract, hal] at hc
  obtain ⟨a', hset, hsz, halloc, hinv', hbytes⟩ := setRec_spec a pos r rec h hc.1 hc.2
  unfold StepOk
  simp only [step, hset]
  refine ⟨hinv', ?_⟩
  simp only [eaAdmit]
  rw [if_pos ⟨rfl, by rw [hal]; exact hc.1, hc.2, rfl⟩]
  have : ({ (abs a) with bytes := setBytes (abs a).bytes pos r.val rec } : EaIdeal) = abs a' := by
    rw [hsz] at hbytes
    simp only [abs, hbytes, hsz, halloc]
  rw [this]
  exact shape_abs hinv' _ _ _ _

theorem step_getsize (a : EA) (r : RecLen) (m : Mem) (h : Inv a) : StepOk a (.getsize r) m := by
  have hal := abs_length h
  unfold StepOk
  simp only [step]
  refine ⟨h, ?_⟩
  simp only [eaAdmit]
  rw [if_pos ⟨rfl, by simp [ans, getsize, hal]⟩]
  exact shape_abs h _ _ _ _

theorem exportdup_spec (a : EA) (r : RecLen) (m : Mem) (h : Inv a) :
    ((exportdup a r m).1 = .ok ∧ (exportdup a r m).2.1 = some (a.buf.take a.size, a.size / r.val)) ∨
    ((exportdup a r m).1 = .fail ∧ (exportdup a r m).2.1 = none ∧
      (exportdup a r m).2.2.refusals = m.refusals + 1) := by
  have := h.le; have := h.len
  unfold exportdup
  cases hr : (m.malloc a.size).1
  · rw [pair_eta _ hr]
    right; exact ⟨by simp, by simp, (malloc_fail hr).1⟩
  · rw [pair_eta _ hr]
    left
    simp only [readAt_some (b := a.buf) (off := 0) (len := a.size) (by omega), List.drop_zero]
    exact ⟨by simp, by simp [getsize]⟩

theorem step_exportdup (a : EA) (r : RecLen) (m : Mem) (h : Inv a) : StepOk a (.exportdup r) m := by
  have hal := abs_length h
  have hs := exportdup_spec a r m h
  unfold StepOk
  simp only [step]
  rcases hres : exportdup a r m with ⟨st, out, m'⟩
  rw [hres] at hs
  simp only at hs ⊢
  refine ⟨h, ?_⟩
  simp only [eaAdmit]
  rcases hs with ⟨h1, h2⟩ | ⟨h1, h2, h3⟩
  · subst h1; subst h2
    simp only [ans_st]
    rw [if_pos (by simp [ans, abs]; rw [← hal]; simp [abs])]
    exact shape_abs h _ _ _ _
  · subst h1; subst h2
    simp only [ans_st]
    rw [if_pos ⟨by simp [ans, h3], rfl⟩]
    exact shape_abs h _ _ _ _

/-- the copy a successful `exportdup` hands to the caller: a block the array does not hold -/
def handed (e : EaOp) (an : EaAns) : Int :=
  match e, an.st, an.out with
  | .exportdup _, .ok, some _ => 1
  | _, _, _ => 0

/-- the oracle's side of one observable step that stays inside storage (no invariant needed) -/
theorem step_acct (a : EA) (e : EaOp) (m : Mem) (hno : (step a e m).1.st ≠ .oob) :
    Calls m (step a e m).2.2 (bufBlocks (step a e m).2.1 - bufBlocks a + handed e (step a e m).1) ∧
    ∀ c, (∀ i sz, m.f i sz = true → sz ≤ c) → a.alloc ≤ c → (step a e m).2.1.alloc ≤ c := by
  have key : ∀ {a' : EA} {m' : Mem} {an : EaAns}, Acct a m a' m' → (∀ r, e ≠ .exportdup r) →
      Calls m m' (bufBlocks a' - bufBlocks a + handed e an) ∧
      ∀ c, (∀ i sz, m.f i sz = true → sz ≤ c) → a.alloc ≤ c → a'.alloc ≤ c := fun ac he =>
    ⟨ac.calls.cast (by unfold handed; split <;> simp_all), ac.bound⟩
  revert hno
  cases e with
  | resize n r fill =>
    have hf := (resizeRec_acct a n r m).1
    intro _
    simp only [step]
    rcases hres : resizeRec a n r m with ⟨ok, a', m'⟩
    rw [hres] at hf
    cases ok
    · exact key hf nofun
    · simp only
      cases hfl : fillFrom a' a.size fill
      · exact key hf nofun
      · exact key (hf.data (fillFrom_fields hfl).1) nofun
  | append data n r => exact fun _ => key (append_acct a data n r m).1 nofun
  | shrink n r => exact fun _ => key (shrink_acct a n r m) nofun
  | truncate =>
    have hf := (truncate_acct a m).1
    intro _
    simp only [step]
    rcases hres : truncate a m with ⟨ok, a', m'⟩
    rw [hres] at hf
    cases ok <;> exact key hf nofun
  | get pos r => intro _; simp only [step]; split <;> exact key (.refl _ _) nofun
  | set pos r rec =>
    intro _
    simp only [step]
    split
    · rename_i a' ha; exact key ((Acct.refl a m).data (setRec_alloc ha)) nofun
    · exact key (.refl _ _) nofun
  | getsize r => exact fun _ => key (.refl _ _) nofun
  | exportdup r =>
    simp only [step, exportdup]
    have c1 := calls_malloc m a.size
    cases hr : (m.malloc a.size).1
    · rw [pair_eta _ hr]
      exact fun _ => ⟨c1.cast (by simp [hr, handed, EArray.ans]), fun _ _ h => h⟩
    · rw [pair_eta _ hr]
      simp only
      split
      · exact fun _ => ⟨c1.cast (by simp [hr, handed, EArray.ans]), fun _ _ h => h⟩
      · exact fun h => absurd rfl h

/-- **every step is admitted by the ideal array and `abs` commutes** -/
theorem step_ok (a : EA) (op : EaOp) (m : Mem) (h : Inv a) (hc : eaContract (abs a) op) : StepOk a op m := by
  cases op with
  | resize n r fill => exact step_resize a n r fill m h hc
  | append data n r => exact step_append a data n r m h hc
  | shrink n r => exact step_shrink a n r m h
  | truncate => exact step_truncate a m h
  | get pos r => exact step_get a pos r m h hc
  | set pos r rec => exact step_set a pos r rec m h hc
  | getsize r => exact step_getsize a r m h
  | exportdup r => exact step_exportdup a r m h

theorem inv_empty : Inv { size := 0, alloc := 0, buf := [] } := ⟨Nat.le_refl _, rfl, by simp [SZ_eq]⟩

/-- `elasticarray_init`: on success a tight array of exactly `k * reclen` bytes, the structure and the buffer allocated;
on failure (a refused request, or a product that does not fit `size_t`) nothing stays allocated -/
theorem init_full (k : Nat) (r : RecLen) (m : Mem) :
    match EArray.init k r m with
    | (some a, m') => Inv a ∧ Tight a ∧ a.size = k * r.val ∧ k * r.val ≤ EArray.SIZE_MAX ∧
        Calls m m' (1 + bufBlocks a) ∧ m'.refusals = m.refusals ∧
        ∀ c, (∀ i sz, m.f i sz = true → sz ≤ c) → a.alloc ≤ c
    | (none, m') => Calls m m' 0 ∧ (m.refusals < m'.refusals ∨ k > EArray.SIZE_MAX / r.val) := by
  unfold EArray.init
  have c1 := calls_malloc m structSize
  cases hr : (m.malloc structSize).1
  · rw [pair_eta _ hr]
    exact ⟨c1.cast (by simp [hr]), .inl (by rw [(malloc_fail hr).1]; exact Nat.lt_succ_self _)⟩
  · rw [pair_eta _ hr]
    simp only
    obtain ⟨ac, hok, hfail⟩ := resizeRec_acct { size := 0, alloc := 0, buf := [] } k r (m.malloc structSize).2
    have hs := resizeRec_spec { size := 0, alloc := 0, buf := [] } k r (m.malloc structSize).2 inv_empty
    rcases hres : resizeRec { size := 0, alloc := 0, buf := [] } k r (m.malloc structSize).2 with ⟨ok, a, m2⟩
    rw [hres] at ac hok hfail hs
    have hm := malloc_ok hr
    cases ok
    · obtain ⟨rfl, hrf⟩ := hfail rfl
      refine ⟨((c1.trans ac.calls).trans (free_calls _ m2)).cast (by simp [hr, bufBlocks]), ?_⟩
      have := (free_calls ({ size := 0, alloc := 0, buf := [] } : EA) m2).step.r
      rw [hm.1] at hrf
      exact hrf.imp (fun h => Nat.lt_of_lt_of_le h this) id
    · obtain ⟨hle, hsz, htight, -⟩ := hs.2 rfl
      exact ⟨hs.1, htight, hsz, hle, (c1.trans ac.calls).cast (by simp [hr, bufBlocks]), by rw [(hok rfl).1, hm.1],
        fun c hc => ac.bound c (fun i sz => hm.2.2.1 ▸ hc i sz) (Nat.zero_le _)⟩

theorem init_spec (nrec : Nat) (r : RecLen) (m : Mem) :
    match EArray.init nrec r m with
    | (some a, m') => Inv a ∧ Tight a ∧ a.size = nrec * r.val ∧ nrec * r.val ≤ EArray.SIZE_MAX ∧
        m'.live = m.live + 1 + bufBlocks a ∧ m'.refusals = m.refusals
    | (none, m') => m'.live = m.live ∧ (m'.refusals > m.refusals ∨ nrec * r.val > EArray.SIZE_MAX) := by
  have h := init_full nrec r m
  generalize EArray.init nrec r m = p at h ⊢
  obtain ⟨_ | a, m'⟩ := p
  · exact ⟨by rw [h.1.live]; omega, h.2.imp id (guard_iff nrec r).1⟩
  · exact ⟨h.1, h.2.1, h.2.2.1, h.2.2.2.1, by rw [h.2.2.2.2.1.live]; omega, h.2.2.2.2.2.1⟩

theorem init_none {nrec : Nat} {r : RecLen} {m m' : Mem} (h : EArray.init nrec r m = (none, m')) :
    m'.live = m.live ∧ (m'.refusals > m.refusals ∨ nrec * r.val > EArray.SIZE_MAX) := by
  have := init_spec nrec r m; rw [h] at this; exact this

theorem init_some {nrec : Nat} {r : RecLen} {m m' : Mem} {a : EA} (h : EArray.init nrec r m = (some a, m')) :
    Inv a ∧ Tight a ∧ a.size = nrec * r.val ∧ nrec * r.val ≤ EArray.SIZE_MAX ∧
    m'.live = m.live + 1 + bufBlocks a ∧ m'.refusals = m.refusals := by
  have := init_spec nrec r m; rw [h] at this; exact this

/-- the oracle's side of `elasticarray_init` alone -/
theorem init_calls (k : Nat) (r : RecLen) (m : Mem) :
    match EArray.init k r m with
    | (some a, m') => Calls m m' (1 + bufBlocks a) ∧ m'.refusals = m.refusals ∧
        ∀ c, (∀ i sz, m.f i sz = true → sz ≤ c) → a.alloc ≤ c
    | (none, m') => Calls m m' 0 ∧ (m.refusals < m'.refusals ∨ k > EArray.SIZE_MAX / r.val) := by
  have h := init_full k r m
  generalize EArray.init k r m = p at h ⊢
  obtain ⟨_ | a, m'⟩ := p
  · exact h
  · exact h.2.2.2.2

theorem wantAlloc_empty (n : Nat) : wantAlloc 0 n = n := by
  unfold wantAlloc
  split
  · simp only [Nat.zero_mul, Nat.zero_mod]; rw [if_pos (by omega)]
  · rw [if_neg (by omega)]; omega

/-- which requests `elasticarray_init` makes: the structure, then (for a positive count) exactly the bytes asked for -/
theorem init_sites (k : Nat) (r : RecLen) (m : Mem) (hk : k * r.val ≤ EArray.SIZE_MAX) :
    ((EArray.init k r m).1 = none ↔
      (m.f m.n structSize = false ∨ (0 < k ∧ m.f (m.n + 1) (k * r.val) = false))) ∧
    (EArray.init k r m).2.n ≤ m.n + 2 ∧
    ∀ a, (EArray.init k r m).1 = some a → a.alloc = k * r.val := by
  have hg : ¬ k > EArray.SIZE_MAX / r.val := fun h => absurd ((guard_iff k r).1 h) (by omega)
  have hpos : 0 < k ↔ k * r.val ≠ 0 := by
    have := r.property
    constructor
    · intro h; exact Nat.ne_of_gt (Nat.mul_pos h this)
    · intro h; exact Nat.pos_of_ne_zero fun h0 => h (by rw [h0, Nat.zero_mul])
  unfold EArray.init resizeRec
  simp only [hg, if_false, (guard_mod hg).2]
  unfold resize
  simp only [wantAlloc_empty]
  cases h1 : m.f m.n structSize
  · simp [Mem.malloc, h1]
  · by_cases h0 : k * r.val = 0
    · simp [Mem.malloc, Mem.free, h1, h0, hpos]
    · cases h2 : m.f (m.n + 1) (k * r.val) <;>
        simp [Mem.malloc, Mem.realloc, Mem.free, EArray.free, h1, h2, h0, hpos]

/-- `elasticarray_export`: hands over exactly the contents and their record count; on failure the array
is untouched and a request was refused -/
theorem export_spec (a : EA) (r : RecLen) (m : Mem) (h : Inv a) :
    match exportBuf a r m with
    | (some (b, n), _, m') => b = a.buf.take a.size ∧ n = a.size / r.val ∧
        m'.live + bufBlocks a + 1 = m.live + (if a.size = 0 then 0 else 1)
    | (none, a', m') => a' = a ∧ m'.refusals = m.refusals + 1 ∧ m'.live = m.live := by
  have hs := truncate_spec a m h
  obtain ⟨ac, hrf, hfail⟩ := truncate_acct a m
  have hlive := ac.live
  unfold exportBuf
  rcases hres : truncate a m with ⟨ok, a', m'⟩
  rw [hres] at hs hrf hfail hlive
  obtain ⟨hinv', hok⟩ := hs
  simp only at hinv' hok hrf hfail hlive ⊢
  cases ok
  · have ha := hfail rfl
    subst ha
    exact ⟨rfl, hrf, by omega⟩
  · obtain ⟨hsz, hal, hbuf⟩ := hok rfl
    simp only
    refine ⟨hbuf, by simp [getsize, hsz], ?_⟩
    have f := (free_facts m' false).2.1
    have hb : bufBlocks a' = if a.size = 0 then 0 else 1 := by simp [bufBlocks, hal]
    rw [hb] at hlive
    rw [f]; simp; omega

theorem export_none {a a' : EA} {r : RecLen} {m m' : Mem} (h : Inv a) (he : exportBuf a r m = (none, a', m')) :
    a' = a ∧ m'.refusals = m.refusals + 1 ∧ m'.live = m.live := by
  have := export_spec a r m h; rw [he] at this; exact this

/-- `elasticarray_free` releases the structure and its buffer -/
theorem free_live (a : EA) (m : Mem) : (EArray.free a m).live = m.live - 1 - bufBlocks a := by
  rw [(free_calls a m).live]; omega

/-- the caller keeps its side of the contract at every operation of the run -/
def Contracts (a : EA) : List EaOp → Mem → Prop
  | [], _ => True
  | op :: rest, m => eaContract (abs a) op ∧ Contracts (step a op m).2.1 rest (step a op m).2.2

theorem run_ok : ∀ (ops : List EaOp) (a : EA) (m : Mem), Inv a → Contracts a ops m →
    Inv (run a ops m).2.1 ∧ eaAdmitAll (abs a) (run a ops m).1 = some (abs (run a ops m).2.1)
  | [], a, m, h, _ => ⟨h, rfl⟩
  | op :: rest, a, m, h, hc => by
    obtain ⟨hc1, hc2⟩ := hc
    have hs := step_ok a op m h hc1
    unfold StepOk at hs
    have ih := run_ok rest (step a op m).2.1 (step a op m).2.2 hs.1 hc2
    simp only [run]
    rcases hst : step a op m with ⟨an, a', m'⟩
    rw [hst] at hs ih
    simp only at hs ih ⊢
    rcases hrun : run a' rest m' with ⟨tr, a'', m''⟩
    rw [hrun] at ih
    simp only at ih ⊢
    exact ⟨ih.1, by simp only [eaAdmitAll, hs.2]; exact ih.2⟩

end Percival.Proofs.EArray
