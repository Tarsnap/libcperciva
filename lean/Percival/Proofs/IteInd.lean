/-! The case rule for `if`, as a term: walks of model functions with many branches apply it where `split` would be slow
    (the JSON scanner's safety walk, the HTTP handlers with resources). -/
namespace Percival.Proofs

theorem ite_ind {α : Sort _} {P : α → Prop} {c : Prop} [Decidable c] {x y : α} (hx : c → P x) (hy : ¬c → P y) :
    P (if c then x else y) := by
  split
  · exact hx ‹_›
  · exact hy ‹_›

end Percival.Proofs
