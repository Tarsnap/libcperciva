import Percival.Spec.Endian
/-! The octets of a number and the number of an octet string (`Spec.Endian`): lengths, the two round trips, bounds,
big-endian as little-endian reversed, and eight octets written out (the form `be64enc`-like definitions have). -/
namespace Percival.Proofs.Endian
open Percival.Spec.Endian

theorem leBytes_length (n x : Nat) : (leBytes n x).length = n := by
  induction n generalizing x with
  | zero => rfl
  | succ n ih => simp [leBytes, ih]

theorem beBytes_length (n x : Nat) : (beBytes n x).length = n := by
  simp [beBytes, leBytes_length]

theorem leVal_leBytes (n x : Nat) (h : x < 256 ^ n) : leVal (leBytes n x) = x := by
  induction n generalizing x with
  | zero => simp at h; simp [leBytes, leVal, h]
  | succ n ih =>
    have h2 : x / 256 < 256 ^ n := by
      rw [Nat.pow_succ] at h
      exact Nat.div_lt_of_lt_mul (by rw [Nat.mul_comm]; exact h)
    simp [leBytes, leVal, ih _ h2]
    omega

theorem leBytes_leVal (l : List UInt8) : leBytes l.length (leVal l) = l := by
  induction l with
  | nil => rfl
  | cons b bs ih =>
    have hb := b.toNat_lt
    rw [List.length_cons, leVal, leBytes, show (b.toNat + 256 * leVal bs) / 256 = leVal bs by omega, ih,
      show (b.toNat + 256 * leVal bs) % 256 = b.toNat by omega, UInt8.ofNat_toNat]

theorem leVal_snoc (l : List UInt8) (c : UInt8) : leVal (l ++ [c]) = leVal l + c.toNat * 256 ^ l.length := by
  induction l with
  | nil => simp [leVal]
  | cons b bs ih =>
    simp only [List.cons_append, leVal, ih, List.length_cons, Nat.pow_succ, Nat.mul_add, Nat.add_assoc]
    congr 2; ac_rfl

theorem leVal_lt (l : List UInt8) : leVal l < 256 ^ l.length := by
  induction l with
  | nil => simp [leVal]
  | cons b bs ih =>
    have := b.toNat_lt
    simp only [leVal, List.length_cons, Nat.pow_succ]; omega

theorem beVal_append_single (l : List UInt8) (a : UInt8) : beVal (l ++ [a]) = beVal l * 256 + a.toNat := by
  induction l with
  | nil => simp [beVal]
  | cons b bs ih => simp [beVal, ih, Nat.pow_succ, Nat.add_mul, Nat.mul_assoc, Nat.add_assoc]

theorem beVal_reverse (l : List UInt8) : beVal l.reverse = leVal l := by
  induction l with
  | nil => rfl
  | cons b bs ih => simp [beVal_append_single, ih, leVal]; omega

theorem beVal_eq_leVal_reverse (l : List UInt8) : beVal l = leVal l.reverse := by
  rw [← beVal_reverse, List.reverse_reverse]

theorem beVal_lt (l : List UInt8) : beVal l < 256 ^ l.length := by
  rw [beVal_eq_leVal_reverse, ← List.length_reverse]
  exact leVal_lt _

theorem beVal_beBytes (n x : Nat) (h : x < 256 ^ n) : beVal (beBytes n x) = x := by
  simp [beBytes, beVal_reverse, leVal_leBytes n x h]

theorem beBytes_beVal (l : List UInt8) : beBytes l.length (beVal l) = l := by
  rw [beVal_eq_leVal_reverse, beBytes, ← List.length_reverse, leBytes_leVal, List.reverse_reverse]

theorem leBytes_mod (n x : Nat) : leBytes n (x % 256 ^ n) = leBytes n x := by
  induction n generalizing x with
  | zero => rfl
  | succ n ih =>
    simp only [leBytes]
    have h1 : x % 256 ^ (n + 1) % 256 = x % 256 :=
      Nat.mod_mod_of_dvd x ⟨256 ^ n, by rw [Nat.pow_succ, Nat.mul_comm]⟩
    have h2 : x % 256 ^ (n + 1) / 256 = x / 256 % 256 ^ n := by
      rw [Nat.pow_succ, Nat.mod_mul_left_div_self]
    rw [h1, h2, ih]

theorem beBytes_mod (n x : Nat) : beBytes n (x % 256 ^ n) = beBytes n x := by
  simp only [beBytes, leBytes_mod]

theorem and255 (n : Nat) : n &&& 255 = n % 256 := Nat.and_two_pow_sub_one_eq_mod n 8

theorem leBytes_succ (n x : Nat) : leBytes (n + 1) x = UInt8.ofNat x :: leBytes n (x >>> 8) := by
  rw [leBytes, Nat.shiftRight_eq_div_pow]
  congr 1
  apply UInt8.toNat_inj.mp
  simp

theorem beBytes_succ (n x : Nat) : beBytes (n + 1) x = beBytes n (x / 256) ++ [UInt8.ofNat x] := by
  rw [beBytes, leBytes_succ, List.reverse_cons, Nat.shiftRight_eq_div_pow]; rfl

theorem beBytes_append (m n x y : Nat) (hy : y < 256 ^ n) :
    beBytes m x ++ beBytes n y = beBytes (m + n) (x * 256 ^ n + y) := by
  induction n generalizing y with
  | zero => rw [Nat.pow_zero, Nat.lt_one_iff] at hy; subst hy; simp [beBytes, leBytes]
  | succ n ih =>
    have e : (x * 256 ^ (n + 1) + y) / 256 = x * 256 ^ n + y / 256 := by rw [Nat.pow_succ, ← Nat.mul_assoc]; omega
    have e' : UInt8.ofNat (x * 256 ^ (n + 1) + y) = UInt8.ofNat y := by
      apply UInt8.toNat_inj.mp
      simp only [UInt8.toNat_ofNat', Nat.pow_succ, ← Nat.mul_assoc]
      omega
    rw [beBytes_succ, ← List.append_assoc, ih _ (by rw [Nat.pow_succ] at hy; omega), ← Nat.add_assoc, beBytes_succ, e, e']

theorem beBytes8 (n : Nat) : beBytes 8 n =
    [UInt8.ofNat (n / 2^56), UInt8.ofNat (n / 2^48), UInt8.ofNat (n / 2^40), UInt8.ofNat (n / 2^32),
     UInt8.ofNat (n / 2^24), UInt8.ofNat (n / 2^16), UInt8.ofNat (n / 2^8), UInt8.ofNat n] := by
  simp only [beBytes, leBytes_succ, leBytes.eq_1, ← Nat.shiftRight_add, Nat.reduceAdd, List.reverse_cons,
    List.reverse_nil, List.nil_append, List.cons_append]
  simp only [Nat.shiftRight_eq_div_pow]

theorem shifts64 (x : UInt64) :
    [(x >>> 56).toUInt8, (x >>> 48).toUInt8, (x >>> 40).toUInt8, (x >>> 32).toUInt8,
     (x >>> 24).toUInt8, (x >>> 16).toUInt8, (x >>> 8).toUInt8, x.toUInt8] = beBytes 8 x.toNat := by
  simp [beBytes8, ← UInt8.toNat_inj, Nat.shiftRight_eq_div_pow]

end Percival.Proofs.Endian
