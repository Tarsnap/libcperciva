import Percival.Spec.MD
import Percival.Proofs.Endian
/-! Byte strings cut into words (`words`; lengths of `wordsBE` / `wordsLE`) and words into bytes (`encBE`, `encLE`; `encBE` is `Spec.Endian.beBytes 4`); a register
file (`Vector`) read and written at `Fin` slots. -/
namespace Percival.Proofs.Words
open Percival.Spec

abbrev Word4 (α : Type) := UInt8 → UInt8 → UInt8 → UInt8 → α

/-- consecutive groups of four bytes, each combined by `word` (an incomplete last group is dropped):
`wordsBE` and `wordsLE` are the cases `be32`, `le32` -/
def words {α : Type} (word : Word4 α) : Bytes → List α
  | a :: b :: c :: d :: rest => word a b c d :: words word rest
  | _ => []

theorem wordsBE_eq : wordsBE = words be32 := by
  funext b; fun_induction wordsBE b <;> simp_all [words]

theorem wordsLE_eq : wordsLE = words le32 := by
  funext b; fun_induction wordsLE b <;> simp_all [words]

theorem words_length {α : Type} (word : Word4 α) (b : Bytes) :
    (words word b).length = b.length / 4 := by
  fun_induction words word b with
  | case1 a b c d rest ih => simp [ih]; omega
  | case2 b h =>
    match b, h with
    | [], _ => rfl
    | [_], _ => simp
    | [_, _], _ => simp
    | [_, _, _], _ => simp
    | a :: b :: c :: d :: rest, h => exact absurd rfl (h a b c d rest)

theorem wordsBE_length (b : Bytes) : (wordsBE b).length = b.length / 4 := wordsBE_eq ▸ words_length be32 b

theorem wordsLE_length (b : Bytes) : (wordsLE b).length = b.length / 4 := wordsLE_eq ▸ words_length le32 b

theorem words_map {α β : Type} (word : Word4 α) (g : α → β) (b : Bytes) :
    (words word b).map g = words (fun a b c d => g (word a b c d)) b := by
  fun_induction words word b <;> simp_all [words]

theorem words_append {α : Type} (word : Word4 α) (k : Nat) :
    ∀ (b m : Bytes), b.length = 4 * k → words word (b ++ m) = words word b ++ words word m := by
  induction k with
  | zero => intro b m h; rw [List.eq_nil_of_length_eq_zero h]; rfl
  | succ k ih =>
    intro b m h
    match b, h with
    | a :: b :: c :: d :: rest, h =>
      simp only [List.cons_append, words, ih rest m (by simpa [Nat.mul_succ] using h)]

/-- the four bytes of a word below `2^32`, most significant first -/
def encBE (w : Nat) : Bytes :=
  [UInt8.ofNat (w >>> 24), UInt8.ofNat (w >>> 16), UInt8.ofNat (w >>> 8), UInt8.ofNat w]

def encLE (w : Nat) : Bytes := (encBE w).reverse

theorem encBE_eq (w : Nat) : encBE w = Spec.Endian.beBytes 4 w := by
  simp only [encBE, Spec.Endian.beBytes, Endian.leBytes_succ, Spec.Endian.leBytes.eq_1, ← Nat.shiftRight_add,
    Nat.reduceAdd, List.reverse_cons, List.reverse_nil, List.nil_append, List.cons_append]

theorem be32enc_eq (w : UInt32) : be32enc w = encBE w.toNat := by
  simp [be32enc, encBE, ← UInt8.toNat_inj]

theorem le32enc_eq (w : UInt32) : le32enc w = encLE w.toNat := by
  simp [le32enc, encLE, encBE, ← UInt8.toNat_inj]

theorem get_fin {α : Type} {n : Nat} (T : Vector α n) (x : Fin n) : T[x] = T.get x := rfl

theorem get_set {α : Type} {n : Nat} (T : Vector α n) (j x : Fin n) (v : α) :
    (T.set j v).get x = if j = x then v else T.get x := by
  show (T.set j.val v j.isLt)[x.val]'x.isLt = if j = x then v else T[x.val]'x.isLt
  simp only [Vector.getElem_set, Fin.val_inj]

theorem toList_eq_ofFn {α : Type} {n : Nat} (v : Vector α n) : v.toList = List.ofFn fun i : Fin n => v[i] := by
  apply List.ext_getElem <;> simp

end Percival.Proofs.Words
