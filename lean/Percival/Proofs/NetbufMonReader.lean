import Percival.Proofs.NetbufMonTok
import Percival.Proofs.NetbufStep
/-!
# C07 helper lemmas: the monitor accepts the reader half of `Model.NetbufStep`

`RRel s m a`: the executable's state `s` (reader model + scripted kernel queue + the harness' callback program),
the monitor's state `m` and the abstract reader `a` of `Spec/ByteStream.lean` describe the same situation:
`s.r` refines `a` (the relation of `reader_refines`), the monitor's stream is what is visible followed by what is
still in the kernel, the same wait is outstanding, the same callback program is running.  `spinR_sound`: the
records produced by the reader half of `spin` are accepted by `judgeRecs`, and the relation holds afterwards.
-/
namespace Percival.Proofs.NetbufMonSound
open Percival Percival.Spec.ByteStream Percival.Spec.NetbufMon Percival.Model.Netbuf Percival.Model
open Percival.Model.NetbufStep Percival.Proofs.NetbufMonTok Percival.Proofs.NetbufStep

abbrev MSt := Percival.Spec.NetbufMon.St
abbrev XSt := Percival.Model.NetbufStep.St

/-- a record of the model's callback as the monitor reads it (the map inside `Out.ans`) -/
def convRec : CbRec → Rec
  | .succ a (some sh) => .succ a sh
  | .succ a none => .succ a .none
  | .status v => .status v

/-- the record could be printed: the model read the bytes it shows from its own buffer -/
def Readable : CbRec → Prop
  | .succ _ none => False
  | _ => True

def SameW (s s' : XSt) : Prop := s'.w = s.w ∧ s'.wq = s.wq ∧ s'.wpos = s.wpos ∧ s'.wresv = s.wresv
def SameMW (m m' : MSt) : Prop :=
  m'.pending = m.pending ∧ m'.wq = m.wq ∧ m'.failed = m.failed ∧ m'.resv = m.resv

theorem SameW.refl (s : XSt) : SameW s s := ⟨rfl, rfl, rfl, rfl⟩
theorem SameMW.refl (m : MSt) : SameMW m m := ⟨rfl, rfl, rfl, rfl⟩
theorem SameW.trans {s1 s2 s3 : XSt} (h1 : SameW s1 s2) (h2 : SameW s2 s3) : SameW s1 s3 :=
  ⟨h2.1.trans h1.1, h2.2.1.trans h1.2.1, h2.2.2.1.trans h1.2.2.1, h2.2.2.2.trans h1.2.2.2⟩
theorem SameMW.trans {m1 m2 m3 : MSt} (h1 : SameMW m1 m2) (h2 : SameMW m2 m3) : SameMW m1 m3 :=
  ⟨h2.1.trans h1.1, h2.2.1.trans h1.2.1, h2.2.2.1.trans h1.2.2.1, h2.2.2.2.trans h1.2.2.2⟩

structure RRel (s : XSt) (m : MSt) (a : Reader) : Prop where
  rel : Proofs.NetbufRead.Rel s.r a
  toks : toks m.items = a.visible.map .byte ++ qtoks s.rq
  known : m.known ≤ a.visible.length
  waiting : m.waiting = a.waiting
  waitk : ∀ k, a.waiting = some k → s.waitk = k
  loopN : m.loopN = s.loopN
  loopJK : 0 < s.loopN → m.loopJ = s.loopJ ∧ m.loopK = s.loopK
  rqne : ∀ d, KAns.data d ∈ s.rq → d ≠ []

/-- … at the moment the reader has decided to call back with success for `wait k` and the harness' callback
has not run yet (the monitor has not read the record yet) -/
structure RPre (s : XSt) (m : MSt) (a : Reader) (k : Nat) : Prop where
  rel : Proofs.NetbufRead.Rel s.r a
  aw : a.waiting = none
  mw : m.waiting = some k
  hk : k ≤ a.visible.length
  wk : s.waitk = k
  toks : toks m.items = a.visible.map .byte ++ qtoks s.rq
  known : m.known ≤ a.visible.length
  loopN : m.loopN = s.loopN
  loopJK : 0 < s.loopN → m.loopJ = s.loopJ ∧ m.loopK = s.loopK
  rqne : ∀ d, KAns.data d ∈ s.rq → d ≠ []

theorem rrel_init : RRel {} {} Reader.init :=
  ⟨Proofs.NetbufRead.rel_init, rfl, Nat.le_refl _, rfl, fun _ h => by simp [Reader.init] at h, rfl,
   fun h => by simp at h, fun _ h => by simp at h⟩

theorem dataBefore_of {items : List RItem} {v : Bytes} {q : List KAns}
    (h : toks items = v.map .byte ++ qtoks q) : dataBefore items = v.length + (lead (qtoks q)).length := by
  rw [dataBefore_eq, h, lead_bytes, List.length_append]

theorem takeData_of {items : List RItem} {v : Bytes} {q : List KAns}
    (h : toks items = v.map .byte ++ qtoks q) (n : Nat) (hn : n ≤ v.length) : takeData n items = v.take n := by
  rw [takeData_eq, h, lead_bytes, List.take_append_of_le_length hn]

theorem visible_consume (a : Reader) (j : Nat) :
    ({ a with consumed := a.consumed + j } : Reader).visible = a.visible.drop j := by
  simp [Reader.visible, List.drop_drop]

theorem visible_append (a : Reader) (d : Bytes) (h : a.consumed ≤ a.received.length) :
    ({ a with received := a.received ++ d } : Reader).visible = a.visible ++ d := by
  simp only [Reader.visible]
  rw [List.drop_append_of_le_length h]

theorem judgeRecs_succ (m : MSt) (k a : Nat) (shown : Shown) (rest : List Rec)
    (hw : m.waiting = some k) (h1 : k ≤ a) (h3 : m.known ≤ a) (h4 : a ≤ dataBefore m.items)
    (h5 : shownOf (takeData k m.items) k = shown) :
    judgeRecs m (.succ a shown :: rest) =
      if 0 < m.loopN then
        if m.loopJ ≤ a then
          judgeRecs { m with known := a - m.loopJ, waiting := some m.loopK, items := dropData m.loopJ m.items,
                             loopN := m.loopN - 1 } rest
        else judgeRecs { m with known := a, waiting := none, loopN := 0 } rest
      else judgeRecs { m with known := a, waiting := none } rest := by
  rw [judgeRecs]
  simp only [hw]
  rw [if_neg (by omega), if_neg (by omega), if_neg (by omega), if_neg (by omega), if_neg (by simp [h5])]

theorem judgeRecs_status (m : MSt) (k : Nat) (v : Int) (rest : List Rec)
    (hw : m.waiting = some k) (h1 : dataBefore m.items < k) (h2 : firstMark m.items = some v) :
    judgeRecs m (.status v :: rest) =
      judgeRecs { m with items := dropMark m.items, waiting := none, loopN := 0 } rest := by
  rw [judgeRecs]
  simp only [hw]
  rw [if_neg (by omega), if_neg (by simp [h2])]

theorem appCallback_succ (s : XSt) (m : MSt) (a : Reader) (k : Nat) (recs : List CbRec)
    (h : RPre s m a k) (hh : RHist s.r) (hbad : s.bad = none) :
    ∃ rec m' a', (appCallback s 0 recs).2 = recs ++ [rec] ∧ Readable rec ∧
      (∀ rest, judgeRecs m (convRec rec :: rest) = judgeRecs m' rest) ∧
      RRel (appCallback s 0 recs).1 m' a' ∧ RHist (appCallback s 0 recs).1.r ∧ (appCallback s 0 recs).1.bad = none ∧
      (appCallback s 0 recs).1.rq = s.rq ∧ SameW s (appCallback s 0 recs).1 ∧ SameMW m m' ∧
      (appCallback s 0 recs).1.loopN ≤ s.loopN ∧
      ((appCallback s 0 recs).1.r.pending ≠ .none → (appCallback s 0 recs).1.loopN < s.loopN) := by
  obtain ⟨hrel, haw, hmw, hk, hwk, htoks, hknown, hloopN, hloopJK, hrqne⟩ := h
  have hav : avail s.r = a.visible.length := by rw [hrel.avail]; rfl
  have hpeek : NetbufRead.peek s.r = .ok a.visible := by
    rw [Proofs.NetbufRead.peek_eq hrel.geo, hrel.win]
  have hpn : s.r.pending = .none := Proofs.NetbufRead.pending_none_of hrel haw
  have hdb := dataBefore_of htoks
  have hmin : min s.waitk a.visible.length = k := by rw [hwk]; omega
  have hj := judgeRecs_succ m k a.visible.length (shownOf (a.visible.take k) k)
    (hw := hmw) (h1 := hk) (h3 := hknown) (h4 := by omega)
    (h5 := by rw [takeData_of htoks k hk])
  obtain ⟨s', out, e⟩ : ∃ s' out, appCallback s 0 recs = (s', out) := ⟨_, _, rfl⟩
  rw [e]
  unfold appCallback at e
  simp only [beq_self_eq_true, if_true, hpeek, hav, hmin] at e
  by_cases hN : 0 < s.loopN
  · rw [if_pos hN] at e
    obtain ⟨hJ, hK⟩ := hloopJK hN
    by_cases hJa : s.loopJ ≤ a.visible.length
    · rw [if_pos hJa] at e
      obtain ⟨r1, e1, hr1, -⟩ := Proofs.NetbufRead.consume_rel hrel haw s.loopJ hJa
      obtain ⟨r2, e2, hr2, -⟩ := Proofs.NetbufRead.wait_rel hr1 haw s.loopK
      rw [e1] at e; simp only [] at e; rw [e2] at e
      simp only [Prod.mk.injEq] at e
      obtain ⟨rfl, rfl⟩ := e
      refine ⟨_, { m with known := a.visible.length - m.loopJ, waiting := some m.loopK,
                          items := dropData m.loopJ m.items, loopN := m.loopN - 1 },
        { ({ a with consumed := a.consumed + s.loopJ } : Reader) with waiting := some s.loopK }, rfl, trivial, ?_, ?_,
        (hh.consume _ e1).wait _ e2, hbad, rfl,
        ⟨rfl, rfl, rfl, rfl⟩, ⟨rfl, rfl, rfl, rfl⟩, (by show s.loopN - 1 ≤ s.loopN; omega),
        fun _ => (by show s.loopN - 1 < s.loopN; omega)⟩
      · intro rest
        show judgeRecs m (.succ _ _ :: rest) = _
        rw [hj, if_pos (by omega), if_pos (by omega)]
      · refine ⟨hr2, ?_, ?_, (by show some m.loopK = some s.loopK; rw [hK]), ?_, ?_, ?_, hrqne⟩
        · show toks (dropData m.loopJ m.items) = _
          rw [toks_dropData _ _ (by omega), htoks, hJ, drop_bytes _ _ _ hJa]
          show _ = List.map Tok.byte ({ a with consumed := a.consumed + s.loopJ } : Reader).visible ++ _
          rw [visible_consume]
        · show a.visible.length - m.loopJ ≤ ({ a with consumed := a.consumed + s.loopJ } : Reader).visible.length
          rw [visible_consume, List.length_drop, hJ]
          omega
        · intro k' hk'
          simp only [Option.some.injEq] at hk'
          exact hk'
        · show m.loopN - 1 = s.loopN - 1
          rw [hloopN]
        · intro _
          exact ⟨hJ, hK⟩
    · rw [if_neg hJa] at e
      simp only [Prod.mk.injEq] at e
      obtain ⟨rfl, rfl⟩ := e
      refine ⟨_, { m with known := a.visible.length, waiting := none, loopN := 0 }, a, rfl, trivial, ?_, ?_, hh, hbad, rfl,
        ⟨rfl, rfl, rfl, rfl⟩, ⟨rfl, rfl, rfl, rfl⟩, Nat.zero_le _, fun hp => absurd hpn hp⟩
      · intro rest
        show judgeRecs m (.succ _ _ :: rest) = _
        rw [hj, if_pos (by omega), if_neg (by omega)]
      · exact ⟨hrel, htoks, Nat.le_refl _, haw.symm, fun k' hk' => (by rw [haw] at hk'; cases hk'), rfl,
          fun h0 => (by simp at h0), hrqne⟩
  · rw [if_neg hN] at e
    simp only [Prod.mk.injEq] at e
    obtain ⟨rfl, rfl⟩ := e
    refine ⟨_, { m with known := a.visible.length, waiting := none }, a, rfl, trivial, ?_, ?_, hh, hbad, rfl,
      ⟨rfl, rfl, rfl, rfl⟩, ⟨rfl, rfl, rfl, rfl⟩, Nat.le_refl _, fun hp => absurd hpn hp⟩
    · intro rest
      show judgeRecs m (.succ _ _ :: rest) = _
      rw [hj, if_neg (by omega)]
    · exact ⟨hrel, htoks, Nat.le_refl _, haw.symm, fun k' hk' => (by rw [haw] at hk'; cases hk'), hloopN,
        hloopJK, hrqne⟩

theorem appCallback_status (s : XSt) (v : Int) (recs : List CbRec) (hv : v ≠ 0) :
    appCallback s v recs = ({ s with loopN := 0 }, recs ++ [.status v]) := by
  unfold appCallback
  rw [if_neg (by simpa using hv)]

/-- fuel that is enough for `spinR` -/
def need (s : XSt) : Nat := s.loopN + rqWeight s.rq + (if s.r.pending = .none then 1 else 2)

/-- nothing more can happen without a new script line -/
def Quiet (s : XSt) : Prop := s.r.pending = .none ∨ (s.r.pending = .read ∧ s.rq = [])

theorem recv_split (d : Bytes) (rest : List KAns) (space : Nat) (hd : d ≠ []) (hs : 0 < space) (ev : REv)
    (rq1 : List KAns)
    (h : (if d.length ≤ space then ((REv.data d, rest) : REv × List KAns)
          else (REv.data (d.take space), KAns.data (d.drop space) :: rest)) = (ev, rq1)) :
    ∃ d1, ev = .data d1 ∧ d1.length ≠ 0 ∧ d1.length ≤ space ∧
      qtoks (.data d :: rest) = d1.map .byte ++ qtoks rq1 ∧
      rqWeight rq1 + 1 ≤ rqWeight (.data d :: rest) ∧
      ((∀ x, KAns.data x ∈ rest → x ≠ []) → (∀ x, KAns.data x ∈ rq1 → x ≠ [])) := by
  have hdl : 0 < d.length := List.length_pos_iff.2 hd
  split at h
  · rename_i hfit
    simp only [Prod.mk.injEq] at h
    obtain ⟨rfl, rfl⟩ := h
    exact ⟨d, rfl, by omega, hfit, rfl, by simp only [rqWeight]; omega, fun h => h⟩
  · rename_i hfit
    simp only [Prod.mk.injEq] at h
    obtain ⟨rfl, rfl⟩ := h
    refine ⟨d.take space, rfl, by rw [List.length_take]; omega, by rw [List.length_take]; omega, ?_, ?_, ?_⟩
    · simp only [qtoks]
      rw [← List.append_assoc, ← List.map_append, List.take_append_drop]
    · simp only [rqWeight, List.length_drop]; omega
    · intro hr x hx
      simp only [List.mem_cons, KAns.data.injEq] at hx
      rcases hx with rfl | hx
      · exact fun h0 => hfit (List.drop_eq_nil_iff.1 h0)
      · exact hr x hx

/-- `p` is a good outcome of the reader half of `spin` begun in `s` with the monitor in `m` and `recs` written:
the new records are accepted by `judgeRecs`, the relation holds again, nothing more can happen -/
abbrev SpinOK (s : XSt) (m : MSt) (recs : List CbRec) (p : XSt × List CbRec) : Prop :=
  ∃ new m' a', p.2 = recs ++ new ∧ (∀ r ∈ new, Readable r) ∧
    (∀ rest, judgeRecs m (new.map convRec ++ rest) = judgeRecs m' rest) ∧
    RRel p.1 m' a' ∧ RHist p.1.r ∧ p.1.bad = none ∧ Quiet p.1 ∧ SameW s p.1 ∧ SameMW m m'

theorem spinR_sound : ∀ (fuel : Nat) (s : XSt) (m : MSt) (a : Reader) (recs : List CbRec),
    RRel s m a → RHist s.r → s.bad = none → need s ≤ fuel → SpinOK s m recs (spinR fuel s recs) := by
  intro fuel
  induction fuel with
  | zero =>
    intro s m a recs _ _ _ hf
    unfold need at hf
    split at hf <;> omega
  | succ f ih =>
    intro s m a recs h hh hbad hfuel
    -- after the harness' callback for a success: go on with the induction hypothesis
    have cont : ∀ (s1 : XSt) (a1 : Reader) (k : Nat), RPre s1 m a1 k → RHist s1.r → s1.bad = none →
        s1.loopN + rqWeight s1.rq + 1 ≤ f → SameW s s1 →
        SpinOK s m recs (spinR f (appCallback s1 0 recs).1 (appCallback s1 0 recs).2) := by
      intro s1 a1 k hpre hh1 hbad1 hf1 hsw
      obtain ⟨rec, m1, a2, e1, hrd1, hj1, hr1, hh1, hb1, hrq1, hsw1, hmw1, hle, hlt⟩ :=
        appCallback_succ s1 m a1 k recs hpre hh1 hbad1
      have hneed : need (appCallback s1 0 recs).1 ≤ f := by
        unfold need
        rw [hrq1]
        split
        · omega
        · rename_i hp
          have := hlt hp
          omega
      obtain ⟨new, m', a', e2, hrd2, hj2, hr2, hh2, hb2, hq2, hsw2, hmw2⟩ :=
        ih (appCallback s1 0 recs).1 m1 a2 (appCallback s1 0 recs).2 hr1 hh1 hb1 hneed
      refine ⟨rec :: new, m', a', ?_, ?_, ?_, hr2, hh2, hb2, hq2, (hsw.trans hsw1).trans hsw2, hmw1.trans hmw2⟩
      · rw [e2, e1]; simp
      · intro r hr
        rcases List.mem_cons.1 hr with rfl | hr
        · exact hrd1
        · exact hrd2 r hr
      · intro rest
        simp only [List.map_cons, List.cons_append]
        rw [hj1, hj2]
    have quiet : Quiet s → SpinOK s m recs (s, recs) := fun hq =>
      ⟨[], m, a, by simp, (fun _ hr => by cases hr), fun _ => rfl, h, hh, hbad, hq, SameW.refl s, SameMW.refl m⟩
    simp only [spinR]
    rw [if_neg (by simp [hbad])]
    have hgeo := h.rel.geo
    have hav := h.rel.avail
    cases haw : a.waiting with
    | none =>
      have hp := Proofs.NetbufRead.pending_none_of h.rel haw
      rw [hp]
      exact quiet (Or.inl hp)
    | some k =>
      rcases (Proofs.NetbufRead.pendRel_some haw).1 h.rel.pend with ⟨hp, hpend⟩ | ⟨hp, hwl, hlt, hroom⟩
      · -- the wait can be satisfied from the buffer
        rw [hp]
        simp only
        obtain ⟨e, hr'⟩ := Proofs.NetbufRead.fire_rel h.rel k haw hpend
        rw [e]
        simp only
        have hpre : RPre { s with r := { s.r with pending := .none } } m { a with waiting := none } k :=
          ⟨hr', rfl, by rw [h.waiting, haw], hpend, h.waitk k haw, h.toks, h.known, h.loopN, h.loopJK, h.rqne⟩
        have hneed : s.loopN + rqWeight s.rq + 1 ≤ f := by
          unfold need at hfuel
          rw [if_neg (by simp [hp])] at hfuel
          omega
        exact cont _ _ k hpre (hh.fire e) hbad hneed ⟨rfl, rfl, rfl, rfl⟩
      · rw [hp]
        simp only
        have hnk : ¬ k ≤ a.visible.length := by omega
        have hmw : m.waiting = some k := by rw [h.waiting, haw]
        have hneed : s.loopN + rqWeight s.rq + 2 ≤ f + 1 := by
          unfold need at hfuel
          rw [if_neg (by simp [hp])] at hfuel
          exact hfuel
        cases hq : s.rq with
        | nil => exact quiet (Or.inr ⟨hp, hq⟩)
        | cons ans rest =>
          have hrqne' : ∀ x, KAns.data x ∈ rest → x ≠ [] :=
            fun x hx => h.rqne x (by rw [hq]; exact List.mem_cons_of_mem _ hx)
          rw [hq] at hneed
          -- the stream ends: a status record, the wait and the callback program are over
          have fin : ∀ v : Int, lead (qtoks (ans :: rest)) = [] → markOf (qtoks (ans :: rest)) = some v →
              dropMarkT (qtoks (ans :: rest)) = qtoks rest → rqWeight rest + 1 ≤ f →
              RHist { s.r with pending := .none } →
              SpinOK s m recs (spinR f { s with r := { s.r with pending := .none }, rq := rest, loopN := 0 }
                (recs ++ [.status v])) := by
            intro v hl hmk hdm hwt hh1
            have hdb : dataBefore m.items < k := by
              rw [dataBefore_of h.toks, hq, hl]; simp only [List.length_nil]; omega
            have hfm : firstMark m.items = some v := by rw [firstMark_eq, h.toks, markOf_bytes, hq, hmk]
            have hj := judgeRecs_status m k v (hw := hmw) (h1 := hdb) (h2 := hfm)
            have hr1 : RRel { s with r := { s.r with pending := .none }, rq := rest, loopN := 0 }
                { m with items := dropMark m.items, waiting := none, loopN := 0 } { a with waiting := none } :=
              ⟨h.rel.idle, by show toks (dropMark m.items) = a.visible.map .byte ++ qtoks rest
                              rw [toks_dropMark, h.toks, hq, dropMarkT_bytes, hdm],
               h.known, rfl, (fun _ h0 => by simp at h0), rfl, (fun h0 => by simp at h0), hrqne'⟩
            obtain ⟨new, m', a', e2, hrd2, hj2, hr2, hh2, hb2, hq2, hsw2, hmw2⟩ := ih _ _ _ (recs ++ [.status v]) hr1 hh1 hbad
              (by show 0 + rqWeight rest + 1 ≤ f; omega)
            refine ⟨.status v :: new, m', a', by rw [e2]; simp, (fun r hr => by rcases List.mem_cons.1 hr with rfl | hr; exact trivial; exact hrd2 r hr), ?_, hr2, hh2, hb2, hq2, hsw2, hmw2⟩
            intro rest'
            simp only [List.map_cons, List.cons_append, convRec]
            rw [hj, hj2]
          cases ans with
          | eagain =>
            simp only
            have hr1 : RRel { s with rq := rest } m a :=
              ⟨h.rel, by rw [h.toks, hq]; rfl, h.known, h.waiting, h.waitk, h.loopN, h.loopJK, hrqne'⟩
            exact ih { s with rq := rest } m a recs hr1 hh hbad
              (by unfold need; simp only [rqWeight] at hneed ⊢; split <;> omega)
          | data d =>
            simp only
            have hspace : 0 < s.r.buflen - s.r.datalen := by
              have := hgeo.pos; have := hgeo.dat; omega
            generalize hev : (if d.length ≤ s.r.buflen - s.r.datalen then ((REv.data d, rest) : REv × List KAns)
              else (REv.data (d.take (s.r.buflen - s.r.datalen)), KAns.data (d.drop (s.r.buflen - s.r.datalen)) :: rest)) = evq
            obtain ⟨ev, rq1⟩ := evq
            obtain ⟨d1, rfl, hd10, hd1s, htk, hw1, hne1⟩ :=
              recv_split d rest _ (h.rqne d (by rw [hq]; exact List.mem_cons_self)) hspace ev rq1 hev
            simp only
            have hnd := Proofs.NetbufRead.net_data_rel h.rel k haw hnk d1 hd10 hd1s
            simp only at hnd
            obtain ⟨r', e, hr', -⟩ := hnd
            rw [e]
            have hvis := visible_append a d1 h.rel.cons
            have htoks1 : toks m.items = (a.visible ++ d1).map .byte ++ qtoks rq1 := by
              rw [h.toks, hq, htk]; simp
            by_cases hdone : k ≤ ({ a with received := a.received ++ d1 } : Reader).visible.length
            · rw [if_pos hdone] at hr' ⊢
              simp only
              have hpre : RPre { s with r := r', rq := rq1 } m
                  { ({ a with received := a.received ++ d1 } : Reader) with waiting := none } k :=
                ⟨hr', rfl, hmw, hdone, h.waitk k haw, by rw [htoks1, ← hvis]; rfl,
                 by show m.known ≤ ({ a with received := a.received ++ d1 } : Reader).visible.length
                    rw [hvis, List.length_append]; have := h.known; omega,
                 h.loopN, h.loopJK, hne1 hrqne'⟩
              exact cont _ _ k hpre (hh.net _ e) hbad (by show s.loopN + rqWeight rq1 + 1 ≤ f; omega) ⟨rfl, rfl, rfl, rfl⟩
            · rw [if_neg hdone] at hr' ⊢
              simp only
              have hr1 : RRel { s with r := r', rq := rq1 } m { a with received := a.received ++ d1 } :=
                ⟨hr', by rw [htoks1, ← hvis],
                 by rw [hvis, List.length_append]; have := h.known; omega,
                 hmw.trans haw.symm, h.waitk, h.loopN, h.loopJK, hne1 hrqne'⟩
              exact ih _ m _ recs hr1 (hh.net _ e) hbad (by unfold need; show s.loopN + rqWeight rq1 + _ ≤ f; split <;> omega)
          | eof =>
            simp only
            have e := (Proofs.NetbufRead.net_end_rel h.rel k haw hnk .eof 1 (Or.inl ⟨rfl, rfl⟩)).1
            rw [e]
            simp only
            rw [appCallback_status _ 1 _ (by decide)]
            exact fin 1 rfl rfl rfl (by simp only [rqWeight] at hneed; omega) (hh.net _ e)
          | err =>
            simp only
            have e := (Proofs.NetbufRead.net_end_rel h.rel k haw hnk .err (-1) (Or.inr ⟨rfl, rfl⟩)).1
            rw [e]
            simp only
            rw [appCallback_status _ (-1) _ (by decide)]
            exact fin (-1) rfl rfl rfl (by simp only [rqWeight] at hneed; omega) (hh.net _ e)

end Percival.Proofs.NetbufMonSound
