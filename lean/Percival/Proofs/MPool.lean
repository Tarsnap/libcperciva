import Percival.Proofs.EArray
import Percival.Model.MPool
/-!
# The object-pool model refines "the set of objects in use" (C12, C14)

What the pool's functions do to the oracle (`cached`, `malloc_calls`, `free_calls`, `atexit_calls`; no invariant needed), the
simulation relation `R`, `malloc_R` / `free_R` (one pool operation keeps it and is admitted), `atexit_spec`, then `step_ok`
and `run_ok`.
-/
namespace Percival.Proofs.MPool
open Percival.Model Percival.Model.MPool Percival.Spec.DS
open Percival.Proofs.EArray
open Percival.Proofs.MemCalls (Calls calls_malloc calls_free)

/-- the simulation relation between a pool `p` (under oracle state `m`) and the set `u` of objects in use;
`base` is the number of live blocks that have nothing to do with the pool -/
structure R (p : MP) (m : Mem) (u : List Nat) (base : Int) : Prop where
  nodup : p.stack.Nodup
  unodup : u.Nodup
  disj : ∀ x ∈ p.stack, x ∉ u
  sfresh : ∀ x ∈ p.stack, x < m.n
  ufresh : ∀ x ∈ u, x < m.n
  slen : p.stacklen = p.stack.length
  live : m.live = base + u.length + p.stack.length + (if p.dyn then 1 else 0)

/-! ### The oracle's side of the pool's functions (no invariant needed) -/

/-- what a pool holds besides the objects in use: its cached objects and, once grown, its stack array -/
def cached (p : MP) : Int := p.stack.length + (if p.dyn then 1 else 0)

/-- `mpool_malloc`: the pool's holdings and the object handed out; a refusal exactly when it returns NULL -/
theorem malloc_calls (p : MP) (len : Nat) (m : Mem) :
    Calls m (malloc p len m).2.2
      (cached (malloc p len m).2.1 - cached p + (if (malloc p len m).1.isSome then 1 else 0)) ∧
    (malloc p len m).2.2.refusals = m.refusals + (if (malloc p len m).1.isSome then 0 else 1) := by
  unfold malloc
  simp only
  cases hst : p.stack with
  | cons x rest => exact ⟨(Calls.refl m).cast (by simp [cached, hst]; omega), rfl⟩
  | nil =>
    have hc := calls_malloc m len
    cases hr : (m.malloc len).1 <;> rw [hr] at hc <;> rw [pair_eta _ hr]
    · exact ⟨hc.cast (by simp [cached, hst]), (malloc_fail hr).1⟩
    · exact ⟨hc.cast (by simp [cached, hst]), (malloc_ok hr).1⟩

/-- `mpool_free`: the object goes into the cache or is released; the stack array may be replaced, and the request for
the bigger one may be refused harmlessly -/
theorem free_calls (p : MP) (obj : Nat) (m : Mem) :
    Calls m (free p obj m).2 (cached (free p obj m).1 - cached p - 1) := by
  unfold free
  split
  · exact (Calls.refl m).cast (by simp only [cached, List.length_cons]; omega)
  · split
    · have hc := calls_malloc m ((p.allocsize * 2 * 8) % EArray.SZ)
      cases hr : (m.malloc ((p.allocsize * 2 * 8) % EArray.SZ)).1 <;> rw [hr] at hc <;> rw [pair_eta _ hr]
      · exact (hc.trans (calls_free _ false)).cast (by cases hd : p.dyn <;> simp [resetStats, cached, hd])
      · cases hd : p.dyn
        · exact hc.cast (by simp [resetStats, cached, hd]; omega)
        · exact (hc.trans (calls_free _ false)).cast (by simp [resetStats, cached, hd]; omega)
    · exact (calls_free m false).cast (by cases hd : p.dyn <;> simp [resetStats, cached, hd])

/-- with room in the cache `mpool_free` asks for nothing -/
theorem free_fast (p : MP) (x : Nat) (m : Mem) (h : p.stacklen < p.allocsize) : (free p x m).2 = m := by
  unfold free; rw [if_pos h]

theorem foldl_free_calls (l : List Nat) (m : Mem) : Calls m (l.foldl (fun m _ => m.free false) m) (-(l.length : Int)) := by
  induction l generalizing m with
  | nil => exact Calls.refl m
  | cons x rest ih => exact ((calls_free m false).trans (ih _)).cast (by simp; omega)

/-- `mpool_atexit` releases everything the pool holds -/
theorem atexit_calls (p : MP) (m : Mem) : Calls m (atexit p m).2 (-(cached p)) := by
  simp only [atexit, cached]
  split
  · exact ((foldl_free_calls p.stack m).trans (calls_free _ false)).cast (by simp; omega)
  · exact (foldl_free_calls p.stack m).cast (by simp)

theorem malloc_R (p : MP) (sz : Nat) (m : Mem) (u : List Nat) (base : Int) (h : R p m u base) :
    ∃ u', mpAdmit u .malloc (step sz p .malloc m).1 = some u' ∧ R (step sz p .malloc m).2.1 (step sz p .malloc m).2.2 u' base := by
  obtain ⟨hnd, hund, hdisj, hsf, huf, hsl, hlive⟩ := h
  simp only [step, MPool.malloc]
  cases hst : p.stack with
  | cons x rest =>
    rw [hst] at hnd hdisj hsf hlive
    simp only
    have hx : x ∉ u := hdisj x List.mem_cons_self
    refine ⟨x :: u, by simp [mpAdmit, hx], ?_⟩
    have hnd' := List.nodup_cons.1 hnd
    refine ⟨hnd'.2, List.nodup_cons.2 ⟨hx, hund⟩, ?_, fun y hy => hsf y (List.mem_cons_of_mem _ hy), ?_, by simp [hsl, hst], ?_⟩
    · intro y hy hyu
      rcases List.mem_cons.1 hyu with h1 | h1
      · subst h1; exact hnd'.1 hy
      · exact hdisj y (List.mem_cons_of_mem _ hy) h1
    · intro y hy
      rcases List.mem_cons.1 hy with h1 | h1
      · subst h1; exact hsf _ List.mem_cons_self
      · exact huf y h1
    · simp only [List.length_cons] at hlive ⊢; simp only [hlive]; omega
  | nil =>
    rw [hst] at hlive
    simp only
    cases hr : (m.malloc sz).1
    · have hf := malloc_fail hr
      rw [pair_eta _ hr]
      simp only
      refine ⟨u, by simp [mpAdmit, hf.1], ?_⟩
      refine ⟨by simp, hund, by simp, by simp, fun y hy => by rw [hf.2.2.2]; have := huf y hy; omega, by simp [hsl, hst], ?_⟩
      simp only [hf.2.1, hlive]
    · have hf := malloc_ok hr
      rw [pair_eta _ hr]
      simp only
      have hfresh : m.n ∉ u := fun hm => Nat.lt_irrefl _ (huf _ hm)
      refine ⟨m.n :: u, by simp [mpAdmit, hfresh], ?_⟩
      refine ⟨by simp, List.nodup_cons.2 ⟨hfresh, hund⟩, by simp, by simp, ?_, by simp [hsl, hst], ?_⟩
      · intro y hy
        rw [hf.2.2.2]
        rcases List.mem_cons.1 hy with h1 | h1
        · omega
        · have := huf y h1; omega
      · simp only [hf.2.1, hlive, List.length_cons, List.length_nil]; omega

theorem push_R {p : MP} {m : Mem} {u : List Nat} {base : Int} (x : Nat) (h : R p m u base) (hx : x ∈ u)
    {p' : MP} {m' : Mem} (hs : p'.stack = x :: p.stack) (hl : p'.stacklen = p.stacklen + 1) (hn : m.n ≤ m'.n)
    (hlive : m'.live = base + (u.erase x).length + p'.stack.length + (if p'.dyn then 1 else 0)) :
    R p' m' (u.erase x) base := by
  obtain ⟨hnd, hund, hdisj, hsf, huf, hsl, _⟩ := h
  refine ⟨?_, hund.erase x, ?_, ?_, ?_, by rw [hl, hs, hsl]; rfl, hlive⟩
  · rw [hs]; exact List.nodup_cons.2 ⟨fun hxs => hdisj x hxs hx, hnd⟩
  · intro y hy hyu
    rw [hs] at hy
    rcases List.mem_cons.1 hy with h1 | h1
    · subst h1; exact (List.Nodup.mem_erase_iff hund).1 hyu |>.1 rfl
    · exact hdisj y h1 (List.mem_of_mem_erase hyu)
  · intro y hy
    rw [hs] at hy
    rcases List.mem_cons.1 hy with h1 | h1
    · subst h1; have := huf _ hx; omega
    · have := hsf y h1; omega
  · intro y hy; have := huf y (List.mem_of_mem_erase hy); omega

theorem drop_R {p : MP} {m : Mem} {u : List Nat} {base : Int} (x : Nat) (h : R p m u base)
    {p' : MP} {m' : Mem} (hs : p'.stack = p.stack) (hl : p'.stacklen = p.stacklen) (hn : m.n ≤ m'.n)
    (hlive : m'.live = base + (u.erase x).length + p'.stack.length + (if p'.dyn then 1 else 0)) :
    R p' m' (u.erase x) base := by
  obtain ⟨hnd, hund, hdisj, hsf, huf, hsl, _⟩ := h
  refine ⟨by rw [hs]; exact hnd, hund.erase x, ?_, ?_, ?_, by rw [hl, hs, hsl], hlive⟩
  · intro y hy hyu; rw [hs] at hy; exact hdisj y hy (List.mem_of_mem_erase hyu)
  · intro y hy; rw [hs] at hy; have := hsf y hy; omega
  · intro y hy; have := huf y (List.mem_of_mem_erase hy); omega

/-- the blocks are counted by `free_calls` whatever path `mpool_free` takes; the paths differ in whether the object is
pushed -/
theorem free_R (p : MP) (sz : Nat) (x : Nat) (m : Mem) (u : List Nat) (base : Int) (h : R p m u base) (hx : x ∈ u) :
    ∃ u', mpAdmit u (.free x) (step sz p (.free x) m).1 = some u' ∧
      R (step sz p (.free x) m).2.1 (step sz p (.free x) m).2.2 u' base := by
  have hc := free_calls p x m
  have hlive : (free p x m).2.live =
      base + (u.erase x).length + (free p x m).1.stack.length + (if (free p x m).1.dyn then 1 else 0) := by
    have := hc.live; have := h.live; have := List.length_erase_of_mem hx; have := List.length_pos_of_mem hx
    simp only [cached] at *; omega
  have hn := hc.step.n
  refine ⟨u.erase x, by simp [mpAdmit, step, hx], ?_⟩
  revert hlive hn
  simp only [step, MPool.free]
  split
  · exact fun hlive hn => push_R x h hx rfl rfl hn hlive
  · split
    · cases hr : (m.malloc (p.allocsize * 2 * 8 % EArray.SZ)).1
      · rw [pair_eta _ hr]; exact fun hlive hn => drop_R x h rfl rfl hn hlive
      · rw [pair_eta _ hr]; exact fun hlive hn => push_R x h hx rfl rfl hn hlive
    · exact fun hlive hn => drop_R x h rfl rfl hn hlive

/-- **exit: every cached object (and an allocated stack) is released; only objects in use stay allocated** -/
theorem atexit_spec (p : MP) (m : Mem) (u : List Nat) (base : Int) (h : R p m u base) :
    (atexit p m).1.stack = [] ∧ (atexit p m).1.stacklen = 0 ∧ (atexit p m).2.live = base + u.length := by
  have := (atexit_calls p m).live
  have := h.live
  exact ⟨rfl, rfl, by simp only [cached] at *; omega⟩

theorem init_R (size : Nat) (m : Mem) : R (MPool.init size) m [] m.live :=
  ⟨by simp [MPool.init], by simp, by simp [MPool.init], by simp [MPool.init], by simp, rfl, by simp [MPool.init]⟩

/-- the caller only frees objects it holds -/
def Contracts (sz : Nat) (p : MP) (u : List Nat) : List MpOp → Mem → Prop
  | [], _ => True
  | op :: rest, m =>
    (match op with | .free x => x ∈ u | .malloc => True) ∧
    ∀ u', mpAdmit u op (step sz p op m).1 = some u' → Contracts sz (step sz p op m).2.1 u' rest (step sz p op m).2.2

theorem step_ok (sz : Nat) (p : MP) (op : MpOp) (m : Mem) (u : List Nat) (base : Int) (h : R p m u base)
    (hc : match op with | .free x => x ∈ u | .malloc => True) :
    ∃ u', mpAdmit u op (step sz p op m).1 = some u' ∧ R (step sz p op m).2.1 (step sz p op m).2.2 u' base := by
  cases op with
  | malloc => exact malloc_R p sz m u base h
  | free x => exact free_R p sz x m u base h hc

theorem run_ok (sz : Nat) : ∀ (ops : List MpOp) (p : MP) (m : Mem) (u : List Nat) (base : Int), R p m u base →
    Contracts sz p u ops m →
    ∃ u', mpAdmitAll u (run sz p ops m).1 = some u' ∧ R (run sz p ops m).2.1 (run sz p ops m).2.2 u' base
  | [], p, m, u, base, h, _ => ⟨u, rfl, h⟩
  | op :: rest, p, m, u, base, h, hc => by
    obtain ⟨hc1, hc2⟩ := hc
    obtain ⟨u1, ha, hr⟩ := step_ok sz p op m u base h hc1
    obtain ⟨u2, ha2, hr2⟩ := run_ok sz rest _ _ u1 base hr (hc2 u1 ha)
    simp only [run]
    rcases hst : step sz p op m with ⟨an, p', m'⟩
    rw [hst] at ha ha2 hr2
    simp only at ha ha2 hr2 ⊢
    rcases hrun : run sz p' rest m' with ⟨tr, p'', m''⟩
    rw [hrun] at ha2 hr2
    simp only at ha2 hr2 ⊢
    exact ⟨u2, by simp only [mpAdmitAll, ha]; exact ha2, hr2⟩

end Percival.Proofs.MPool
