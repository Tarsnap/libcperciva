import Percival.Proofs.TokText
import Percival.Proofs.DsOut
import Percival.Driver.Ds
import Percival.Driver.Dsmon
/-!
# `Out.ans` is read ∘ print (C12): what `pmodel dsmon` reads of a line `pmodel ds` prints

`Driver/Ds.render o` is the tokens `Ds.l1Toks o` joined by single spaces, followed by ` | ` and the L2 part;
`Driver/Dsmon.parseAns` reads a list of tokens.  `parseAns_l1Toks`: **for every typed output `o`,
`Dsmon.parseAns (Ds.l1Toks o) = o.ans`** — number printing / reading (`Nat.repr`, `Int.repr`, `String.toNat?`,
`String.toInt?`: `Std.Data.String.ToNat` / `ToInt`), hex printing / reading (`hexOfBytes`, `bytesOfHex` of
`Driver/Loop.lean`), the `key=value` and `;` splitting (`String.split` with a character pattern) included.
Not covered: the cut of the printed line at ` | ` and at the spaces (`Driver/Loop.loopMon`, `tools/vlib.py`); no token
contains a space (`l1Toks_line`).
-/
namespace Percival.Proofs.DsAns
open Percival.Model Percival.Model.DsStep Percival.Spec.DS Percival.Spec.DSMon Percival.Driver
open Percival.Driver.Ds Percival.Driver.Dsmon Percival.Proofs.TokText

theorem splitCh_eq : @splitCh = @cut := rfl

def valChar (c : Char) : Bool := c.isDigit || ('a' ≤ c && c ≤ 'f') || c = '-' || c = '?' || c = ';'

theorem hexOfBytes_nil : hexOfBytes [] = "-" := rfl

theorem kv_eq (k v : String) : kv k v = k ++ String.singleton '=' ++ v := rfl

theorem vocab : Atom "sz" ∧ Atom "al" ∧ Atom "rf" ∧ Atom "n" ∧ Atom "out" ∧ Atom "len" ∧ Atom "rec" ∧ Atom "recs" ∧
    Atom "num" ∧ Atom "ptr" ∧ Atom "obj" ∧ Atom "live" ∧ Atom "leaked" ∧ Atom "null" := by decide +kernel

theorem atom_stStr (st : St) : Atom (stStr st) := by cases st <;> decide +kernel
theorem atom_showWord (w : Word) : Atom (showWord w) := by cases w <;> decide +kernel

def recStr : Option (List UInt8) → String
  | some b => hexOfBytes b
  | none => "?"

theorem atom_recStr (r : Option (List UInt8)) : Atom (recStr r) := by
  cases r with
  | some b => exact atom_hex b
  | none => decide +kernel

theorem recStr_rt (r : Option (List UInt8)) : bytesOfHex (recStr r) = r := by
  cases r with
  | some b => exact hex_rt b
  | none => simp [recStr, bytesOfHex, bytesOfHexChars]

def recsStr (l : List (Option (List UInt8))) : String := dashList ';' (l.map recStr)

theorem eqExtraToks_recs (l : List (Option (List UInt8))) : eqExtraToks (.recs l) = [kv "recs" (recsStr l)] := by
  simp only [eqExtraToks, recsStr, dashList]
  congr

theorem recsStr_made (l : List (Option (List UInt8))) : Made [';'] (recsStr l) :=
  Made.dashList ';' fun r _ => (atom_recStr r).made _

theorem recStr_eq_dash (r : Option (List UInt8)) : recStr r = "-" ↔ r = some [] := by
  rcases r with _ | _ | ⟨b, bs⟩
  · simp [recStr]
  · simp [recStr, hexOfBytes_nil]
  · simp [recStr, hexOfBytes_ne_dash]

theorem recsStr_sp (l : List (Option (List UInt8))) : ' ' ∉ (recsStr l).toList := (recsStr_made l).free rfl (by decide)

theorem parseRecs_recsStr (l : List (Option (List UInt8))) : parseRecs (recsStr l) = recsAns l := by
  have := readDashList_dashList ';' (by decide) bytesOfHex (l.map recStr)
    (List.forall_mem_map.2 fun r _ => (atom_recStr r).free rfl)
  rw [List.mapM_map, show bytesOfHex ∘ recStr = id from funext recStr_rt] at this
  show readDashList ';' bytesOfHex (dashList ';' (l.map recStr)) = _
  have e : l.map recStr = ["-"] ↔ l = [some []] := by
    simp only [List.map_eq_singleton_iff, recStr_eq_dash, exists_eq_right]
  rw [this, recsAns]
  simp only [e]

theorem addTok_kv (a : Ans) {k v : String} (hk : Atom k) (hv : '=' ∉ v.toList) : addTok a (kv k v) = addField a k v := by
  simp only [addTok, kv_eq, splitCh_eq, cut_kv '=' k v (hk.free rfl) hv]

theorem addTok_atom (a : Ans) {k v : String} (hk : Atom k) (hv : Atom v) : addTok a (kv k v) = addField a k v :=
  addTok_kv a hk (hv.free rfl)

theorem addTok_recs (a : Ans) (l : List (Option (List UInt8))) :
    addTok a (kv "recs" (recsStr l)) = addField a "recs" (recsStr l) :=
  addTok_kv a (by simp only [vocab]) ((recsStr_made l).free rfl (by decide))

theorem addTok_null (a : Ans) : addTok a "null" = { a with null := true } := by
  simp only [addTok, splitCh_eq, cut_free '=' "null" (by decide)]
  simp

theorem parseHead_stStr (st : St) : parseHead (stStr st) = headOfSt st := by
  cases st <;> simp [stStr, parseHead, headOfSt]

theorem parseHead_showWord (w : Word) : parseHead (showWord w) = headOfWord w := by
  cases w <;> simp [showWord, parseHead, headOfWord]

theorem parseHead_lit : parseHead "ok" = .ok ∧ parseHead "end" = .end_ ∧ parseHead "fail" = .fail := by
  simp [parseHead]

theorem bytesFld_hex (b : List UInt8) : bytesFld (hexOfBytes b) = .val b := by simp [bytesFld, hex_rt]

theorem int_toNat_repr (i : Int) : i.repr.toNat? = if 0 ≤ i then some i.toNat else none := int_toNat i

/-- **what `pmodel dsmon` reads of the L1 tokens `pmodel ds` prints is `Out.ans`**, for every typed output -/
theorem parseAns_l1Toks (o : Out) : parseAns (l1Toks o) = o.ans := by
  -- every shape of output alike: the tokens are folded into the answer field by field, each value read back
  rcases o with w | ⟨live, n⟩ | ⟨rf, c⟩ | ⟨st, sz, al, rf, _ | ⟨n, b⟩, c⟩ | ⟨rf, n, b, c⟩ | c |
    ⟨st, len, rf, _ | _ | b | l, l2⟩ | ⟨rf, l2⟩ | ⟨st, rf, _ | i, _ | p, l2⟩ | ⟨rf, _ | _ | x, l2⟩ | c
  all_goals
    simp only [l1Toks, eqExtraToks_recs]
    simp only [eqExtraToks, List.cons_append, List.nil_append, List.append_nil,
      parseAns, List.foldl, addTok_atom, addTok_recs, addTok_null, vocab, words, atom_nat, atom_int, atom_hex, List.length]
    -- the equations of `addField` key by key: `simp [addField]` would evaluate the string comparisons of its `match`
    simp [addField.eq_1, addField.eq_2, addField.eq_3, addField.eq_4, addField.eq_5, addField.eq_6, addField.eq_7,
      addField.eq_8, addField.eq_9, addField.eq_10, addField.eq_11, addField.eq_12, addField.eq_13, parseHead_lit,
      parseHead_stStr, parseHead_showWord, int_toNat_repr, zero_rt, bytesFld_hex, parseRecs_recsStr, Out.ans]

theorem kv_sp {k v : String} (hk : Atom k) (hv : ' ' ∉ v.toList) : ' ' ∉ (kv k v).toList := TokText.kv_sp hk hv

theorem l1Toks_line (o : Out) : Line (l1Toks o) := by
  rcases o with w | ⟨live, n⟩ | ⟨rf, c⟩ | ⟨st, sz, al, rf, _ | ⟨n, b⟩, c⟩ | ⟨rf, n, b, c⟩ | c |
    ⟨st, len, rf, _ | _ | b | l, l2⟩ | ⟨rf, l2⟩ | ⟨st, rf, _ | i, _ | p, l2⟩ | ⟨rf, _ | _ | x, l2⟩ | c
  all_goals
    simp only [l1Toks, eqExtraToks_recs]
    simp only [eqExtraToks, List.cons_append, List.nil_append, List.append_nil, line_one, line_more, kv_sp, Atom.sp,
      recsStr_sp, vocab, words, atom_nat, atom_int, atom_hex, atom_stStr, atom_showWord, not_false_eq_true, and_self]

theorem split_l1 (o : Out) : splitCh ' ' (" ".intercalate (l1Toks o)) = l1Toks o := (l1Toks_line o).cut

theorem render_eq (o : Out) :
    render o = " ".intercalate (l1Toks o) ++ (match l2Str o with | some s => " | " ++ s | none => "") := rfl

end Percival.Proofs.DsAns
