import Percival.Proofs.Keys
import Percival.Proofs.EventsNetAbs
import Percival.Proofs.EventsImm
import Percival.Proofs.EventsTQ
/-!
# What the monitor relations read of the model; no monitor's state or step occurs here

Both relations (`EventsC04Rel`, `EventsC05Rel`) read the model through three views: the list the 32 queues hold
(`RQ`, `EventsImm`), the slots `S[fd].reader/writer` and the report per descriptor (`slot`, `rev`, `EventsNetAbs`), and the timers: `TmView` says
what the model knows about one timer, `TmOk` that the `timerrec`s and the queue's records match (namespace
`EventsC04`: the names are those the statements of the C04 relation use).  Each `events_timer.c` step is described by how it changes
`TmView` (`tm_add` and `tm_reset`, both by `tm_set`; `tmView_remove`, `tm_getptr_*`, `tm_getmin`), over the timer-queue contract.
-/
namespace Percival.Proofs.EventsC04
open Percival.Spec.Events Percival.Model.Events Percival.Model
open Percival.Proofs.EventsNet Percival.Proofs.EventsTQ Percival.Proofs.EventsImm Percival.Proofs.EventsNetAbs

/-- what the model knows about timer `id`: original timeout `us` and absolute deadline `dl` (µs) -/
def TmView (tq : TimerQueue.TQ) (timers : List (Nat × TimerRec)) (id us dl : Nat) : Prop :=
  ∃ (t : TimerRec) (x : TimerQueue.Rec), (id, t) ∈ timers ∧ TimerQueue.lookup tq.recs t.qrec = some x ∧
    x.sec * 1000000 + x.usec = dl ∧ t.osec * 1000000 + t.ousec = us

/-- well-formedness of the timer side (independent of the monitor): the `timerrec`s (one per live id, `keys`) and the
    records in the queue's heap are in bijection through `qrec` (`recsNd`, `perm`); every record number in use is below
    `nextRec` (`fresh`: `events_timer_register` takes `nextRec` for the next one); the record of a timer points back at its id and both
    its time and the original timeout are normalised, non-negative timevals (`bound`) -/
structure TmOk (C : TQContract) (tq : TimerQueue.TQ) (timers : List (Nat × TimerRec)) (nextRec : Nat) : Prop where
  inv : C.TQInv tq
  keys : (timers.map (·.1)).Nodup
  recsNd : (timers.map (·.2.qrec)).Nodup
  perm : tq.h.a.toList.Perm (timers.map (·.2.qrec))
  fresh : ∀ p ∈ timers, p.2.qrec < nextRec
  bound : ∀ p ∈ timers, ∃ x, TimerQueue.lookup tq.recs p.2.qrec = some x ∧ x.ptr = p.1 ∧
      0 ≤ x.sec ∧ 0 ≤ x.usec ∧ x.usec < 1000000 ∧ 0 ≤ p.2.osec ∧ 0 ≤ p.2.ousec ∧ p.2.ousec < 1000000

theorem timerOf_some_mem (s : State) (id : Nat) (t : TimerRec) (h : timerOf s id = some t) : (id, t) ∈ s.timers :=
  Keys.lookup_mem h

theorem timerOf_none (s : State) (id : Nat) (h : timerOf s id = none) (t : TimerRec) : (id, t) ∉ s.timers := by
  unfold timerOf at h
  rw [Option.map_eq_none_iff, List.find?_eq_none] at h
  intro hm
  have := h _ hm
  simp at this

theorem timerOf_of_mem (s : State) (id : Nat) (t : TimerRec) (hk : (s.timers.map (·.1)).Nodup) (hm : (id, t) ∈ s.timers) :
    timerOf s id = some t :=
  (Keys.lookup_iff hk).2 hm

theorem applyOp_fault (s : State) (o : Op) (h : s.fault = true) : applyOp s o = s := by
  unfold applyOp; simp [h]

theorem isLive_false (s : State) (id : Nat) :
    isLive s id = false ↔ immPrioOf s.imm id = none ∧ netHolds s.net id = false ∧ timerOf s id = none := by
  unfold isLive
  simp only [Bool.or_eq_false_iff, Option.isSome_eq_false_iff, Option.isNone_iff_eq_none, and_assoc]

theorem not_timer_of_not_live (s : State) (id : Nat) (h : isLive s id = false) (t : TimerRec) : (id, t) ∉ s.timers :=
  timerOf_none s id ((isLive_false s id).mp h).2.2 t

theorem idsNodup_snoc {l : List C05.Imm} (h : IdsNodup l) (id prio : Nat) (hid : id ∉ l.map (·.id)) :
    IdsNodup (l ++ [⟨id, prio⟩]) := by
  unfold IdsNodup at *
  rw [List.map_append, List.nodup_append]
  refine ⟨h, by simp, ?_⟩
  rintro a ha b hb rfl
  simp only [List.map_cons, List.map_nil, List.mem_singleton] at hb
  exact hid (hb ▸ ha)

theorem notLive_views {s : State} {id : Nat} (h : isLive s id = false) :
    (∀ l, RQ s.imm l → ∀ p, (⟨id, p⟩ : C05.Imm) ∉ l) ∧ (∀ fd d, slot s.net fd d ≠ some id) ∧
    ∀ us dl, ¬ TmView s.tq s.timers id us dl := by
  obtain ⟨h1, h2, h3⟩ := (isLive_false s id).mp h
  refine ⟨fun l hq p => immPrioOf_none s.imm l id hq h1 p, fun fd d hs => ?_,
    fun us dl ⟨t, _, hm, _⟩ => timerOf_none s id h3 t hm⟩
  have hh := (netHolds_iff s.net id).mpr ⟨fd, d, hs⟩
  rw [h2] at hh; cases hh

theorem tq_lookup_cons (recs : List (Nat × TimerQueue.Rec)) (r r' : Nat) (x : TimerQueue.Rec) :
    TimerQueue.lookup ((r, x) :: recs) r' = if r' = r then some x else TimerQueue.lookup recs r' :=
  Keys.lookup_cons r r' x recs

theorem key_of_lookup (recs : List (Nat × TimerQueue.Rec)) (r : Nat) (x : TimerQueue.Rec)
    (h : TimerQueue.lookup recs r = some x) : TimerQueue.key recs r = TimerQueue.tvKey x.sec x.usec := by
  unfold TimerQueue.key; rw [h]

/-- membership after the one element with the key of `x0` was replaced by `g x0` -/
theorem mem_map_update {α : Type} (l : List α) (key : α → Nat) (hnd : (l.map key).Nodup) (g : α → α) {x0 : α} (hx0 : x0 ∈ l)
    (y : α) : y ∈ l.map (fun x => if key x == key x0 then g x else x) ↔ y = g x0 ∨ (key y ≠ key x0 ∧ y ∈ l) := by
  rw [List.mem_map]
  constructor
  · rintro ⟨x, hx, rfl⟩
    by_cases hk : key x = key x0
    · rw [Keys.inj hnd hx hx0 hk, beq_self_eq_true, if_pos rfl]
      exact Or.inl rfl
    · rw [if_neg (by simpa using hk)]
      exact Or.inr ⟨hk, hx⟩
  · rintro (rfl | ⟨hk, hy⟩)
    · exact ⟨x0, hx0, by rw [beq_self_eq_true, if_pos rfl]⟩
    · exact ⟨y, hy, by rw [if_neg (by simpa using hk)]⟩

/-- the keys of two normalised timevals compare as what they are worth -/
theorem _root_.Percival.Proofs.EventsTQ.TV.key_le {s1 u1 s2 u2 a b : Int} (hp : TV (s1, u1) a) (hq : TV (s2, u2) b) :
    TimerQueue.tvKey s1 u1 ≤ TimerQueue.tvKey s2 u2 ↔ a ≤ b := by
  rw [tvKey_le _ _ _ _ hp.lo hp.hi hq.lo hq.hi, hp.val, hq.val]

section
variable {C : TQContract} {tq : TimerQueue.TQ} {timers : List (Nat × TimerRec)} {nextRec : Nat}

omit tq timers nextRec in
theorem tmOk_init (C : TQContract) : TmOk C TimerQueue.empty [] 0 :=
  ⟨C.empty, List.nodup_nil, List.nodup_nil, by simp [TimerQueue.empty, Heap.empty], nofun, nofun⟩

theorem qrec_mem_heap (h : TmOk C tq timers nextRec) (id : Nat) (t : TimerRec) (hm : (id, t) ∈ timers) :
    t.qrec ∈ tq.h.a.toList := by
  rw [h.perm.mem_iff]
  exact List.mem_map.mpr ⟨(id, t), hm, rfl⟩

theorem timer_unique (h : TmOk C tq timers nextRec) {id : Nat} {t t' : TimerRec} (hm : (id, t) ∈ timers)
    (hm' : (id, t') ∈ timers) : t' = t :=
  (Prod.mk.inj (Keys.inj (f := Prod.fst) h.keys hm' hm rfl)).2

/-- removing timer `id` (by cancel or because it fired): the queue record is gone and the rest is intact -/
theorem tmOk_remove {tq' : TimerQueue.TQ} (h : TmOk C tq timers nextRec) (id : Nat) (t : TimerRec) (hm : (id, t) ∈ timers)
    (hinv : C.TQInv tq') (hperm : tq.h.a.toList.Perm (t.qrec :: tq'.h.a.toList)) (hrecs : tq'.recs = tq.recs) :
    TmOk C tq' (timers.filter (fun p => p.1 != id)) nextRec := by
  have hpq : (timers.map (·.2.qrec)).Perm (t.qrec :: (timers.filter (fun p => p.1 != id)).map (·.2.qrec)) := by
    simpa using (Keys.perm_filter (f := Prod.fst) h.keys hm).map (fun p : Nat × TimerRec => p.2.qrec)
  refine ⟨hinv, ?_, ?_, ?_, ?_, ?_⟩
  · exact Keys.filter _ h.keys
  · exact Keys.filter _ h.recsNd
  · exact List.Perm.cons_inv ((hperm.symm.trans h.perm).trans hpq)
  · intro p hp'; exact h.fresh p (List.mem_filter.mp hp').1
  · intro p hp'; rw [hrecs]; exact h.bound p (List.mem_filter.mp hp').1

/-- `events_timer_cancel`: the queue record of a registered timer can be deleted -/
theorem tm_delete (h : TmOk C tq timers nextRec) (id : Nat) (t : TimerRec) (hm : (id, t) ∈ timers) :
    ∃ q', TimerQueue.delete tq t.qrec = some q' ∧ TmOk C q' (timers.filter (fun p => p.1 != id)) nextRec ∧
      q'.recs = tq.recs :=
  let ⟨q', hd, hinv, hperm, hrecs⟩ := C.delete tq t.qrec h.inv (qrec_mem_heap h id t hm)
  ⟨q', hd, tmOk_remove h id t hm hinv hperm hrecs, hrecs⟩

theorem tmView_remove {tq' : TimerQueue.TQ} (hrecs : tq'.recs = tq.recs) (id id' us dl : Nat) :
    TmView tq' (timers.filter (fun p => p.1 != id)) id' us dl ↔ id' ≠ id ∧ TmView tq timers id' us dl := by
  unfold TmView
  rw [hrecs]
  constructor
  · rintro ⟨t, x, hm, rest⟩
    obtain ⟨hm1, hm2⟩ := List.mem_filter.mp hm
    have hm2 := bne_iff_ne.mp hm2
    exact ⟨hm2, t, x, hm1, rest⟩
  · rintro ⟨hne, t, x, hm, rest⟩
    exact ⟨t, x, List.mem_filter.mpr ⟨hm, bne_iff_ne.mpr hne⟩, rest⟩

/-- a registered timer has a view, read off its record in the queue -/
theorem tmView_of_mem (h : TmOk C tq timers nextRec) (id : Nat) (t : TimerRec) (hm : (id, t) ∈ timers) :
    ∃ us dl, TmView tq timers id us dl ∧ ∃ x, TimerQueue.lookup tq.recs t.qrec = some x ∧ x.ptr = id ∧
      TV (x.sec, x.usec) (dl : Nat) := by
  obtain ⟨x, hx, hptr, h1, h2, h3, h4, h5, h6⟩ := h.bound (id, t) hm
  simp only at hx hptr h4 h5 h6
  have e1 : x.sec * 1000000 + x.usec = ((x.sec * 1000000 + x.usec).toNat : Int) := by omega
  have e2 : t.osec * 1000000 + t.ousec = ((t.osec * 1000000 + t.ousec).toNat : Int) := by omega
  exact ⟨_, _, ⟨t, x, hm, hx, e1, e2⟩, x, hx, hptr, e1, h2, h3⟩

/-- a view is a record in the heap, whose key is that of its deadline -/
theorem key_of_view (h : TmOk C tq timers nextRec) {id us dl : Nat} (hv : TmView tq timers id us dl) :
    ∃ r s u, r ∈ tq.h.a.toList ∧ TimerQueue.key tq.recs r = TimerQueue.tvKey s u ∧ TV (s, u) (dl : Nat) := by
  obtain ⟨t, x, hm, hx, e1, _⟩ := hv
  obtain ⟨x', hx', _, _, h2, h3, _⟩ := h.bound (id, t) hm
  rw [hx] at hx'; cases hx'
  exact ⟨t.qrec, x.sec, x.usec, qrec_mem_heap h id t hm, key_of_lookup _ _ _ hx, e1, h2, h3⟩

/-- timer `id` (record `t`) gets the queue record `x`, bound to a record number that no other timer uses; the other
    timers are those there were, with their records: what `events_timer_register` and `events_timer_reset` do -/
theorem tm_set (h : TmOk C tq timers nextRec) {tq' : TimerQueue.TQ} {timers' : List (Nat × TimerRec)} {nextRec' id : Nat}
    {t : TimerRec} {x : TimerQueue.Rec} {us dl : Nat}
    (hinv : C.TQInv tq') (hrecs : tq'.recs = (t.qrec, x) :: tq.recs)
    (hkeys : (timers'.map (·.1)).Nodup) (hnd : (timers'.map (·.2.qrec)).Nodup)
    (hperm : tq'.h.a.toList.Perm (timers'.map (·.2.qrec))) (hfresh : ∀ p ∈ timers', p.2.qrec < nextRec')
    (hmem : ∀ p, p ∈ timers' ↔ p = (id, t) ∨ (p.1 ≠ id ∧ p ∈ timers))
    (hptr : x.ptr = id) (hdl : TV (x.sec, x.usec) dl) (hus : TV (t.osec, t.ousec) us) :
    TmOk C tq' timers' nextRec' ∧ ∀ id' us' dl', TmView tq' timers' id' us' dl' ↔
      (id' = id ∧ us' = us ∧ dl' = dl) ∨ (id' ≠ id ∧ TmView tq timers id' us' dl') := by
  have hself : TimerQueue.lookup tq'.recs t.qrec = some x := by rw [hrecs, tq_lookup_cons, if_pos rfl]
  have hother : ∀ p ∈ timers', p.1 ≠ id → TimerQueue.lookup tq'.recs p.2.qrec = TimerQueue.lookup tq.recs p.2.qrec :=
    fun p hp hne => by
      rw [hrecs, tq_lookup_cons, if_neg]
      exact fun hq => hne (congrArg Prod.fst (Keys.inj hnd hp ((hmem _).mpr (Or.inl rfl)) hq))
  obtain ⟨d1, d2, d3⟩ := hdl
  obtain ⟨u1, u2, u3⟩ := hus
  simp only at d1 d2 d3 u1 u2 u3
  refine ⟨⟨hinv, hkeys, hnd, hperm, hfresh, fun p hp => ?_⟩, fun id' us' dl' => ⟨?_, ?_⟩⟩
  · rcases (hmem p).mp hp with rfl | ⟨hne, hp0⟩
    · exact ⟨x, hself, hptr, by omega, d2, d3, by simp only; omega, u2, u3⟩
    · rw [hother p hp hne]; exact h.bound p hp0
  · rintro ⟨t', x', hm', hx', e1, e2⟩
    rcases (hmem _).mp hm' with heq | ⟨hne, hm0⟩
    · cases heq; rw [hself] at hx'; cases hx'
      exact Or.inl ⟨rfl, Int.ofNat_inj.mp (e2.symm.trans u1), Int.ofNat_inj.mp (e1.symm.trans d1)⟩
    · rw [hother _ hm' hne] at hx'; exact Or.inr ⟨hne, t', x', hm0, hx', e1, e2⟩
  · rintro (⟨rfl, rfl, rfl⟩ | ⟨hne, t', x', hm0, hx', e1, e2⟩)
    · exact ⟨t, x, (hmem _).mpr (Or.inl rfl), hself, d1, u1⟩
    · have hm' := (hmem (id', t')).mpr (Or.inr ⟨hne, hm0⟩)
      exact ⟨t', x', hm', by rw [hother _ hm' hne]; exact hx', e1, e2⟩

/-- registering timer `id` with the record `t0`: it is the one new timer, due `usec` µs from now -/
theorem tm_add (h : TmOk C tq timers nextRec) (clock id usec : Nat) (t0 : TimerRec) (sec us : Int)
    (hnot : ∀ t, (id, t) ∉ timers) (hq : t0.qrec = nextRec) (ho : TV (t0.osec, t0.ousec) usec)
    (hgt : gettimeout clock t0.osec t0.ousec = (sec, us)) :
    TmOk C (TimerQueue.add tq nextRec sec us id) ((id, t0) :: timers) (nextRec + 1) ∧
    ∀ id' us' dl', TmView (TimerQueue.add tq nextRec sec us id) ((id, t0) :: timers) id' us' dl' ↔
      (id' = id ∧ us' = usec ∧ dl' = clock + usec) ∨ (id' ≠ id ∧ TmView tq timers id' us' dl') := by
  subst hq
  have hfr : ∀ p ∈ timers, p.2.qrec ≠ t0.qrec := fun p hp => Nat.ne_of_lt (h.fresh p hp)
  obtain ⟨hinv, hperm, hrecs⟩ := C.add tq t0.qrec sec us id h.inv fun hm =>
    let ⟨p, hp, e⟩ := List.mem_map.mp (h.perm.mem_iff.mp hm); hfr p hp e
  exact tm_set h (x := ⟨sec, us, id⟩) hinv hrecs
    (List.nodup_cons.mpr ⟨fun hm => let ⟨p, hp, e⟩ := List.mem_map.mp hm; hnot p.2 (by rw [← show p.1 = id from e]; exact hp), h.keys⟩)
    (List.nodup_cons.mpr ⟨fun hm => let ⟨p, hp, e⟩ := List.mem_map.mp hm; hfr p hp e, h.recsNd⟩)
    (hperm.trans (h.perm.cons _))
    (fun p hp => (List.mem_cons.mp hp).elim (fun e => e ▸ Nat.lt_succ_self _) fun hp => Nat.lt_succ_of_lt (h.fresh p hp))
    (fun p => List.mem_cons.trans (or_congr_right ⟨fun hp => ⟨fun e => hnot p.2 (by rw [← e]; exact hp), hp⟩, And.right⟩))
    rfl (by rw [Int.natCast_add]; exact hgt ▸ ho.gettimeout clock) ho

/-- resetting timer `id`: the deadline moves to now + the original timeout, never backwards (which is what
    `timerqueue_increase` needs) -/
theorem tm_reset (h : TmOk C tq timers nextRec) (clock id : Nat) (t : TimerRec) (sec us : Int) (us0 dl0 : Nat)
    (hm : (id, t) ∈ timers) (hview : TmView tq timers id us0 dl0) (hdl : dl0 ≤ clock + us0)
    (hgt : gettimeout clock t.osec t.ousec = (sec, us)) :
    ∃ q', TimerQueue.increase tq t.qrec sec us = some q' ∧ TmOk C q' timers nextRec ∧
      ∀ id' us' dl', TmView q' timers id' us' dl' ↔
        (id' = id ∧ us' = us0 ∧ dl' = clock + us0) ∨ (id' ≠ id ∧ TmView tq timers id' us' dl') := by
  obtain ⟨x, hx, hptr, _, h2, h3, _, h5, h6⟩ := h.bound (id, t) hm
  obtain ⟨t0, x0, hm0, hx0, e1, e2⟩ := hview
  cases timer_unique h hm hm0
  rw [hx] at hx0; cases hx0
  have hus : TV (t.osec, t.ousec) us0 := ⟨e2, h5, h6⟩
  have hnew : TV (sec, us) ((clock + us0 : Nat) : Int) := by rw [Int.natCast_add]; exact hgt ▸ hus.gettimeout clock
  obtain ⟨q', hinc, hinv, hperm, hrecs⟩ := C.increase tq t.qrec sec us x h.inv (qrec_mem_heap h id t hm) hx
    ((TV.key_le ⟨e1, h2, h3⟩ hnew).mpr (Int.ofNat_le.mpr hdl))
  refine ⟨q', hinc, tm_set h (x := { x with sec := sec, usec := us }) hinv hrecs h.keys h.recsNd (hperm.trans h.perm) h.fresh
    (fun p => ⟨fun hp => ?_, fun hp => hp.elim (· ▸ hm) And.right⟩) hptr hnew hus⟩
  by_cases e : p.1 = id
  · obtain ⟨i, t'⟩ := p; cases e; exact Or.inl (by rw [timer_unique h hm hp])
  · exact Or.inr ⟨e, hp⟩

/-- the record at the top of the queue belongs to a registered timer, and no registered timer has an earlier deadline -/
theorem least_view (h : TmOk C tq timers nextRec) {r : Nat} {x : TimerQueue.Rec}
    (hleast : Spec.PQ.IsLeast (TimerQueue.key tq.recs) tq.h.a.toList r) (hx : TimerQueue.lookup tq.recs r = some x) :
    ∃ t us dl, (x.ptr, t) ∈ timers ∧ t.qrec = r ∧ TmView tq timers x.ptr us dl ∧ TV (x.sec, x.usec) (dl : Nat) ∧
      ∀ id' us' dl', TmView tq timers id' us' dl' → dl ≤ dl' := by
  obtain ⟨⟨id, t⟩, hm, rfl⟩ := List.mem_map.mp (h.perm.mem_iff.mp hleast.1)
  obtain ⟨us, dl, hv, x', hx', rfl, htv⟩ := tmView_of_mem h id t hm
  rw [hx] at hx'; cases hx'
  refine ⟨t, us, dl, hm, rfl, hv, htv, fun id' us' dl' hv' => ?_⟩
  obtain ⟨r', s, u, hheap, hk, htv'⟩ := key_of_view h hv'
  exact Int.ofNat_le.mp ((TV.key_le htv htv').mp (hk ▸ key_of_lookup _ _ _ hx ▸ hleast.2 _ hheap))

/-- `events_timer_get` released a timer: it is registered, due, and no registered timer has an earlier deadline -/
theorem tm_getptr_some (h : TmOk C tq timers nextRec) (clock : Nat) (q' : TimerQueue.TQ) (rr id : Nat)
    (hg : TimerQueue.getptr tq ((clock / 1000000 : Nat) : Int) ((clock % 1000000 : Nat) : Int) = (q', some (rr, id))) :
    ∃ us dl, TmView tq timers id us dl ∧ dl ≤ clock ∧
      (∀ id' us' dl', TmView tq timers id' us' dl' → dl ≤ dl') ∧
      TmOk C q' (timers.filter (fun p => p.1 != id)) nextRec ∧ q'.recs = tq.recs := by
  have hc := C.getptr tq ((clock / 1000000 : Nat) : Int) ((clock % 1000000 : Nat) : Int) h.inv
  rw [hg] at hc
  obtain ⟨hleast, hkey, ⟨x, hx, rfl⟩, hinv, hperm, hrecs⟩ := hc
  obtain ⟨t, us, dl, hm, hq, hv, htv, hmin⟩ := least_view h hleast hx
  refine ⟨us, dl, hv, ?_, hmin, tmOk_remove h _ t hm hinv (by rw [hq]; exact hperm) hrecs, hrecs⟩
  exact Int.ofNat_le.mp ((TV.key_le htv (TV.split clock)).mp (key_of_lookup _ _ _ hx ▸ hkey))

/-- `events_timer_get` released nothing: no registered timer is due -/
theorem tm_getptr_none (h : TmOk C tq timers nextRec) (clock : Nat) (q' : TimerQueue.TQ)
    (hg : TimerQueue.getptr tq ((clock / 1000000 : Nat) : Int) ((clock % 1000000 : Nat) : Int) = (q', none)) :
    q' = tq ∧ ∀ id' us' dl', TmView tq timers id' us' dl' → clock < dl' := by
  have hc := C.getptr tq ((clock / 1000000 : Nat) : Int) ((clock % 1000000 : Nat) : Int) h.inv
  rw [hg] at hc
  refine ⟨hc.1, fun id' us' dl' hv' => ?_⟩
  obtain ⟨r', s, u, hheap, hk, htv'⟩ := key_of_view h hv'
  have := hk ▸ hc.2 _ hheap
  rw [gt_iff_lt, ← Int.not_le, TV.key_le htv' (TV.split clock), Int.ofNat_le] at this
  exact Nat.lt_of_not_le this

/-- `events_timer_min`: no timers, or the earliest deadline -/
theorem tm_getmin (h : TmOk C tq timers nextRec) :
    (TimerQueue.getmin tq = none ∧ timers = []) ∨
    (∃ id us dl, TimerQueue.getmin tq = some (((dl / 1000000 : Nat) : Int), ((dl % 1000000 : Nat) : Int)) ∧
      TmView tq timers id us dl ∧ ∀ id' us' dl', TmView tq timers id' us' dl' → dl ≤ dl') := by
  have hc := C.getmin tq h.inv
  cases hg : TimerQueue.getmin tq with
  | none =>
    rw [hg] at hc
    have := h.perm.length_eq
    rw [hc, List.length_map] at this
    exact Or.inl ⟨rfl, List.eq_nil_of_length_eq_zero this.symm⟩
  | some su =>
    obtain ⟨s0, u0⟩ := su
    rw [hg] at hc
    obtain ⟨r, x, hleast, hx, rfl, rfl⟩ := hc
    obtain ⟨t, us, dl, _, _, hv, ⟨hdl, h2, h3⟩, hmin⟩ := least_view h hleast hx
    have ⟨e1, e2⟩ : x.sec = ((dl / 1000000 : Nat) : Int) ∧ x.usec = ((dl % 1000000 : Nat) : Int) := by
      simp only at hdl h2 h3; omega
    exact Or.inr ⟨x.ptr, us, dl, by rw [← e1, ← e2], hv, hmin⟩

end
end Percival.Proofs.EventsC04
