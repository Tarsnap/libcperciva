import Percival.Model.HeapAlloc
import Percival.Proofs.AllocFail
import Percival.Proofs.EArrayStep
import Percival.Proofs.HeapCreate
import Percival.Proofs.AllocCalls
/-!
# C14: `ptrheap_create` with its allocations (`Model.HeapAlloc.create`)

* `create_nil` — `ptrheap_init` is `ptrheap_create` of no element (as in the C);
* `create_spec` — success: the heap is C13's `Heap.create`, the storage invariant holds, no request was refused,
  exactly `2 + (buffer)` blocks were taken; failure: the count of live blocks is what it was, and a request was refused
  (or `8 * N` does not fit `size_t`);
* `create_refused_fails` — if any request the call makes is refused the call fails (no size hypothesis);
* `create_fails_iff` — the three allocation sites in the C's order, each consulted against the oracle;
* `create_free_live` — a created heap released with `ptrheap_free` leaves the count of live blocks where it was;
* `create_none`, `create_success` — the above collected for a call whose result is known.
-/
namespace Percival.Proofs.HeapCreateAlloc
open Percival.Model Percival.Model.HeapAlloc
open Percival.Proofs.EArray (pair_eta malloc_ok malloc_fail free_facts bufBlocks SIZE_MAX_eq SZ_eq)
open Percival.Proofs.AllocFail (HInv)
open Percival.Proofs.EvRegTimer (Step Granted step_malloc step_free)
open Percival.Proofs.AllocCalls Percival.Proofs.MemCalls

theorem heapCreate_nil (key : Nat → Int) : Heap.create key [] = Heap.empty := rfl

theorem create_nil (key : Nat → Int) (m : Mem) : create key [] m = init m := by
  unfold create init
  simp only [List.length_nil, heapCreate_nil]

theorem create_spec (key : Nat → Int) (ptrs : List Nat) (m : Mem) :
    match create key ptrs m with
    | (some ha, m') => ha.h = Heap.create key ptrs ∧ HInv ha ∧ 8 * ptrs.length ≤ EArray.SIZE_MAX ∧
        m'.refusals = m.refusals ∧ m'.live = m.live + 2 + (if ha.alloc = 0 then 0 else 1)
    | (none, m') => m'.live = m.live ∧ (m'.refusals > m.refusals ∨ 8 * ptrs.length > EArray.SIZE_MAX) := by
  have h := create_calls key ptrs m
  rcases hc : create key ptrs m with ⟨_ | ha, m'⟩ <;> rw [hc] at h <;> dsimp only at h ⊢
  · exact ⟨by rw [h.1.live]; omega, h.2⟩
  · exact ⟨h.2.1, h.2.2.1, h.2.2.2.1, h.2.2.2.2, by rw [h.1.live]; simp only [Percival.Proofs.EvRegAcct.bb]; omega⟩

theorem create_refused_fails (key : Nat → Int) (ptrs : List Nat) (m : Mem) :
    (m.refusals < (create key ptrs m).2.refusals → (create key ptrs m).1 = none) ∧
    ((create key ptrs m).1 = none → (create key ptrs m).2.live = m.live) := by
  have hs := create_spec key ptrs m
  rcases hres : create key ptrs m with ⟨o, m'⟩
  rw [hres] at hs
  cases o with
  | some ha => dsimp only at hs ⊢; exact ⟨fun h => by omega, fun h => by cases h⟩
  | none => dsimp only at hs ⊢; exact ⟨fun _ => rfl, fun _ => hs.1⟩

/-- the allocation sites of `elasticarray_init(k, 8)`: the structure (24 bytes), then — for `k > 0` — the buffer -/
theorem eaInit_sites (k : Nat) (m : Mem) (hk : 8 * k ≤ EArray.SIZE_MAX) :
    ((EArray.init k SeqMap.ptrLen m).1 = none ↔ (m.f m.n 24 = false ∨ (0 < k ∧ m.f (m.n + 1) (8 * k) = false))) ∧
    (EArray.init k SeqMap.ptrLen m).2.n ≤ m.n + 2 := by
  have h := Percival.Proofs.EArray.init_sites k SeqMap.ptrLen m (by rw [Nat.mul_comm]; exact hk)
  rw [show k * SeqMap.ptrLen.val = 8 * k from Nat.mul_comm _ _] at h
  exact ⟨h.1, h.2.1⟩

/-- **the allocation sites of `ptrheap_create` in the C's order**, for a list whose `8 * N` bytes fit `size_t`: the
call fails exactly if the oracle refuses the structure (request `m.n`, 40 bytes), or the list structure (request
`m.n + 1`, 24 bytes), or — for `N > 0` only — the list's buffer (request `m.n + 2`, `8 * N` bytes); it consults at
most these three -/
theorem create_fails_iff (key : Nat → Int) (ptrs : List Nat) (m : Mem) (hsmall : 8 * ptrs.length ≤ EArray.SIZE_MAX) :
    ((create key ptrs m).1 = none ↔
      (m.f m.n 40 = false ∨ m.f (m.n + 1) 24 = false ∨ (ptrs ≠ [] ∧ m.f (m.n + 2) (8 * ptrs.length) = false))) ∧
    (create key ptrs m).2.n ≤ m.n + 3 := by
  have hpos : 0 < ptrs.length ↔ ptrs ≠ [] := by
    cases ptrs <;> simp
  unfold create
  by_cases h1 : m.f m.n 40 = true
  · have hm : m.malloc structSize = (true, (m.malloc structSize).2) := by
      simp [Mem.malloc, structSize, h1]
    have hn : (m.malloc structSize).2.n = m.n + 1 := rfl
    have hf : (m.malloc structSize).2.f = m.f := rfl
    rw [hm]; dsimp only
    have hs := eaInit_sites ptrs.length (m.malloc structSize).2 hsmall
    rw [hn, hf, hpos] at hs
    rcases hi : EArray.init ptrs.length SeqMap.ptrLen (m.malloc structSize).2 with ⟨oa, m2⟩
    rw [hi] at hs
    cases oa with
    | some a =>
      dsimp only at hs ⊢
      refine ⟨⟨fun h => (by cases h), fun h => ?_⟩, by omega⟩
      rcases h with h | h | h
      · rw [h1] at h; cases h
      · exact absurd (hs.1.mpr (Or.inl h)) (by simp)
      · exact absurd (hs.1.mpr (Or.inr h)) (by simp)
    | none =>
      dsimp only at hs ⊢
      refine ⟨⟨fun _ => Or.inr ?_, fun _ => rfl⟩, ?_⟩
      · rcases hs.1.mp rfl with h | h
        · exact Or.inl h
        · exact Or.inr h
      · have : (m2.free false).n = m2.n := rfl
        omega
  · have hm : m.malloc structSize = (false, (m.malloc structSize).2) := by
      simp [Mem.malloc, structSize, h1]
    rw [hm]; dsimp only
    have hn : (m.malloc structSize).2.n = m.n + 1 := rfl
    refine ⟨⟨fun _ => Or.inl (by simpa using h1), fun _ => rfl⟩, by omega⟩

theorem eaInit_alloc (k : Nat) (m : Mem) (a : EArray.EA) (m' : Mem)
    (h : EArray.init k SeqMap.ptrLen m = (some a, m')) : a.alloc = 8 * k ∧ a.size = 8 * k := by
  have hs := Percival.Proofs.EArray.init_spec k SeqMap.ptrLen m
  rw [h] at hs
  have hv : k * SeqMap.ptrLen.val = 8 * k := Nat.mul_comm _ _
  have ha := (Percival.Proofs.EArray.init_sites k SeqMap.ptrLen m hs.2.2.2.1).2.2 a (by rw [h])
  exact ⟨ha.trans hv, hs.2.2.1.trans hv⟩

/-- the storage of a created heap is exactly `8 * N` bytes (L2 `hal=`): no buffer for `N = 0` -/
theorem create_alloc (key : Nat → Int) (ptrs : List Nat) (m : Mem) (ha : HeapA) (m' : Mem)
    (h : create key ptrs m = (some ha, m')) : ha.alloc = 8 * ptrs.length := by
  unfold create at h
  split at h
  · cases h
  · rename_i m1 _
    rcases hi : EArray.init ptrs.length SeqMap.ptrLen m1 with ⟨oa, m2⟩
    rw [hi] at h
    cases oa with
    | none => cases h
    | some a =>
      simp only [Prod.mk.injEq, Option.some.injEq] at h
      rw [← h.1]
      exact (eaInit_alloc _ _ _ _ hi).1

theorem create_succeeds_when_granted (key : Nat → Int) (ptrs : List Nat) (m : Mem)
    (hsmall : 8 * ptrs.length ≤ EArray.SIZE_MAX) (hg : Granted m) : (create key ptrs m).1.isSome = true := by
  have hi := (create_fails_iff key ptrs m hsmall).1
  cases hc : (create key ptrs m).1 with
  | some _ => rfl
  | none =>
    rcases hi.mp hc with h | h | ⟨_, h⟩
    · rw [hg _ _ (Nat.le_refl _)] at h; cases h
    · rw [hg _ _ (by omega)] at h; cases h
    · rw [hg _ _ (by omega)] at h; cases h

theorem create_free_live (key : Nat → Int) (ptrs : List Nat) (m : Mem) (ha : HeapA) (m' : Mem)
    (h : create key ptrs m = (some ha, m')) : (HeapAlloc.free ha m').live = m.live := by
  have hc := create_calls key ptrs m
  rw [h] at hc
  have := (hc.1.trans (heapFree_calls ha m')).live
  omega

theorem create_none {key : Nat → Int} {ptrs : List Nat} {m m' : Mem} (h : create key ptrs m = (none, m')) :
    m'.live = m.live ∧ (m'.refusals > m.refusals ∨ 8 * ptrs.length > EArray.SIZE_MAX) := by
  have := create_spec key ptrs m; rw [h] at this; exact this

theorem create_success {key : Nat → Int} {ptrs : List Nat} {m m' : Mem} {ha : HeapA} (h : create key ptrs m = (some ha, m')) :
    m'.refusals = m.refusals ∧ ha.h = Heap.create key ptrs ∧ ha.alloc = 8 * ptrs.length ∧ HInv ha ∧
    m'.live = m.live + 2 + (if ptrs = [] then 0 else 1) ∧ (free ha m').live = m.live := by
  have hs := create_spec key ptrs m
  rw [h] at hs
  obtain ⟨h1, h2, _, h4, h5⟩ := hs
  have hal := create_alloc key ptrs m ha m' h
  refine ⟨h4, h1, hal, h2, ?_, create_free_live key ptrs m ha m' h⟩
  rw [h5, hal]
  cases ptrs <;> simp

end Percival.Proofs.HeapCreateAlloc
