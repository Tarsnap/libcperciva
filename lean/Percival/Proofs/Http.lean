import Percival.Model.HttpRes
import Percival.Proofs.HttpScan
/-! C08: `addbody`, the invariant `Inv` handler by handler, and the two loops above the handlers: the chain of direct calls
    (`callback_ok`) and the run over a reader (`run_rule`, which C09's decoding argument uses too). -/
namespace Percival.Proofs.Http
open Percival.Model.Http Percival.Gen.Http
open Percival.Model.HttpRes (arrive)

theorem growAlloc_bounds (alloc need max : Nat) (h : need ≤ max) :
    need ≤ growAlloc alloc need max ∧ growAlloc alloc need max ≤ max := by
  simp only [growAlloc]
  split <;> split <;> omega

/-- `addbody` fails only on a piece which does not fit the limit: the allocation it chooses always holds the body -/
theorem addbody_eq_ite (st : St) (piece : Bytes) :
    addbody st piece =
      if st.bodylen + piece.length ≤ st.max then
        some { st with
          alloc := if st.bodylen + piece.length > st.alloc then growAlloc st.alloc (st.bodylen + piece.length) st.max
                   else st.alloc,
          bodylen := st.bodylen + piece.length, bodyRev := piece.reverse ++ st.bodyRev }
      else none := by
  simp only [addbody]
  split
  · rename_i h
    rw [if_pos]
    split
    · exact (growAlloc_bounds _ _ _ h).1
    · omega
  · rfl

theorem addbody_eq (st : St) (piece : Bytes) (ha : st.alloc ≤ st.max) (h : st.bodylen + piece.length ≤ st.max) :
    ∃ a, a ≤ st.max ∧ st.bodylen + piece.length ≤ a ∧
      addbody st piece = some { st with alloc := a, bodylen := st.bodylen + piece.length, bodyRev := piece.reverse ++ st.bodyRev } := by
  refine ⟨_, ?_, ?_, by rw [addbody_eq_ite, if_pos h]⟩
  · split
    · exact (growAlloc_bounds _ _ _ h).2
    · exact ha
  · split
    · exact (growAlloc_bounds _ _ _ h).1
    · omega

/-- parser-state invariant, per handler about to run -/
def Inv (st : St) (h : Handler) : Prop :=
  st.bodylen = st.bodyRev.length ∧
  st.bodylen ≤ st.alloc ∧ st.alloc ≤ st.max ∧
  (h ≠ .readHeader → 100 ≤ st.status ∧ st.status ≤ 599) ∧
  (h = .readHeader → st.bodylen = 0) ∧
  (h = .chunkedHeader → st.chunked = true) ∧
  (h = .readData →
    (st.chunked = true → 1 ≤ st.readlen ∧ st.bodylen + st.readlen ≤ st.max + 2) ∧
    (st.chunked = false → st.bodylen + st.readlen ≤ st.max))

/-- … together with what ties it to the snapshot: `hepos` lies inside the unconsumed bytes -/
def InvBuf (st : St) (h : Handler) (buf : Bytes) : Prop :=
  Inv st h ∧ (h = .readHeader → st.hepos ≤ buf.length)

/-- what C08 promises about anything handed to the caller's callback -/
def RespOK (max : Nat) : Option Resp → Prop
  | none => True
  | some r => 100 ≤ r.status ∧ r.status ≤ 599 ∧
      (match r.body with
       | some b => b.length ≤ max
       | none => True)

/-- the verdict on one handler invocation -/
def MicroOK (st : St) (buf : Bytes) : Micro → Prop
  | .goto st' c h' => 0 < c ∧ c ≤ buf.length ∧ st'.max = st.max ∧ InvBuf st' h' (buf.drop c)
  | .wait st' c k h' => c ≤ buf.length ∧ buf.length - c < k ∧ st'.max = st.max ∧ InvBuf st' h' (buf.drop c)
  | .done r => RespOK st.max r
  | .abort _ => False

/-- the part of `Inv` every handler shares: what `addbody` maintains -/
def Core (st : St) : Prop := st.bodylen = st.bodyRev.length ∧ st.bodylen ≤ st.alloc ∧ st.alloc ≤ st.max

def StatusOK (n : Int) : Prop := 100 ≤ n ∧ n ≤ 599

theorem inv_readHeader {st : St} : Inv st .readHeader ↔ Core st ∧ st.bodylen = 0 := by
  simp [Inv, Core, and_assoc]

theorem inv_chunkedHeader {st : St} : Inv st .chunkedHeader ↔ Core st ∧ StatusOK st.status ∧ st.chunked = true := by
  simp [Inv, Core, StatusOK, and_assoc]

theorem inv_readData {st : St} : Inv st .readData ↔ Core st ∧ StatusOK st.status ∧
    (st.chunked = true → 1 ≤ st.readlen ∧ st.bodylen + st.readlen ≤ st.max + 2) ∧
    (st.chunked = false → st.bodylen + st.readlen ≤ st.max) := by
  simp [Inv, Core, StatusOK, and_assoc]

theorem inv_readToEof {st : St} : Inv st .readToEof ↔ Core st ∧ StatusOK st.status := by
  simp [Inv, Core, StatusOK, and_assoc]

theorem invBuf_mono {st : St} {h : Handler} {b1 b2 : Bytes} (hi : InvBuf st h b1) (hl : b1.length ≤ b2.length) :
    InvBuf st h b2 := ⟨hi.1, fun e => Nat.le_trans (hi.2 e) hl⟩

theorem core_addbody {st : St} (hc : Core st) {piece : Bytes} {a : Nat} (h1 : a ≤ st.max) (h2 : st.bodylen + piece.length ≤ a) :
    Core { st with alloc := a, bodylen := st.bodylen + piece.length, bodyRev := piece.reverse ++ st.bodyRev } :=
  ⟨by simp [hc.1, Nat.add_comm], h2, h1⟩

theorem respOK_mkResp {st : St} (hc : Core st) (hs : StatusOK st.status) : RespOK st.max (some (mkResp st)) :=
  ⟨hs.1, hs.2, by simp only [mkResp, List.length_reverse, ← hc.1]; exact Nat.le_trans hc.2.1 hc.2.2⟩

theorem respOK_tooBig {st : St} (buf : Bytes) (hs : StatusOK st.status) : MicroOK st buf (tooBig st) :=
  ⟨hs.1, hs.2, trivial⟩

theorem readToEof_ok (st : St) (s : Status) (buf : Bytes) (hi : InvBuf st .readToEof buf) :
    MicroOK st buf (readToEof st s buf) := by
  obtain ⟨hc, hs⟩ := inv_readToEof.mp hi.1
  cases s with
  | err => trivial
  | eof => exact respOK_mkResp hc hs
  | ok =>
    have hle := Nat.le_trans hc.2.1 hc.2.2
    simp only [readToEof, if_neg (Nat.not_lt.mpr hle)]
    split
    · exact respOK_tooBig buf hs
    · obtain ⟨a, ha1, ha2, he⟩ := addbody_eq st buf hc.2.2 (by omega)
      rw [he]
      exact ⟨Nat.le_refl _, by omega, rfl, ⟨inv_readToEof.mpr ⟨core_addbody hc ha1 ha2, hs⟩, nofun⟩⟩

/-- how many of the bytes `readlen` counts are no body data: the EOL after a chunk -/
def eolOf (chunked : Bool) : Nat := if chunked then 2 else 0

/-- of the `m ≤ readlen` bytes taken now, the body gets those which lie before the EOL -/
theorem sub_eolLen (ch : Bool) (readlen m : Nat) (h : m ≤ readlen) :
    m - eolLen ch readlen m = min m (readlen - eolOf ch) := by
  cases ch
  · simp only [eolLen, eolOf, Bool.false_eq_true, if_false]
    omega
  · simp only [eolLen, eolOf, if_true]
    split <;> split <;> omega

theorem ite_gt_eq_min (a b : Nat) : (if a > b then b else a) = min a b := by
  split <;> omega

theorem readData_ok (st : St) (s : Status) (buf : Bytes) (hi : InvBuf st .readData buf) :
    MicroOK st buf (readData st s buf) := by
  obtain ⟨hc, hs, hch, hnc⟩ := inv_readData.mp hi.1
  cases s with
  | err => trivial
  | eof => trivial
  | ok =>
    simp only [readData, bne_self_eq_false, Bool.false_eq_true, if_false, ite_gt_eq_min]
    generalize hn : min buf.length st.readlen = n
    have hle := Nat.le_trans hc.2.1 hc.2.2
    have hfit : st.bodylen + (buf.take (n - eolLen st.chunked st.readlen n)).length ≤ st.max := by
      rw [List.length_take, sub_eolLen _ _ _ (by omega)]
      cases hb : st.chunked with
      | false => have := hnc hb; omega
      | true => have := hch hb; simp only [eolOf, if_true]; omega
    obtain ⟨a, ha1, ha2, he⟩ := addbody_eq st _ hc.2.2 hfit
    have hc' := core_addbody hc ha1 ha2
    rw [List.length_take] at hfit
    simp only [he, beq_iff_eq]
    split
    · rename_i hz
      split
      · rename_i hb
        have := hch hb
        exact ⟨by omega, by omega, rfl, ⟨inv_chunkedHeader.mpr ⟨hc', hs, hb⟩, nofun⟩⟩
      · exact respOK_mkResp hc' hs
    · rename_i hz
      refine ⟨by omega, ?_, rfl, ⟨inv_readData.mpr ⟨hc', hs, ?_, ?_⟩, nofun⟩⟩
      · have : 0 < WAITCAP := by decide
        omega
      · intro hb; have := hch hb; simp only [List.length_take]; omega
      · intro hb; have := hnc hb; simp only [List.length_take]; omega

theorem chunkedHeader_noline (st : St) (buf : Bytes) (h : findeol buf = buf.length) :
    chunkedHeader st .ok buf =
      if buf.length ≥ MAXCHLEN then .done none else .wait st 0 (buf.length + 1) .chunkedHeader := by
  simp [chunkedHeader, h]

theorem chunkedHeader_badsize (st : St) (buf : Bytes) (h : findeol buf ≠ buf.length)
    (hp : parsenumSize 16 true (cstr (buf.take (findeol buf))) = none) : chunkedHeader st .ok buf = .done none := by
  simp [chunkedHeader, h, hp]

theorem chunkedHeader_size (st : St) (buf : Bytes) (h : findeol buf + 2 ≤ buf.length) (clen : Nat)
    (hb : clen ≠ 0 → st.bodylen ≤ st.max)
    (hp : parsenumSize 16 true (cstr (buf.take (findeol buf))) = some clen) :
    chunkedHeader st .ok buf =
      if clen = 0 then .done (some (mkResp st))
      else if clen > st.max - st.bodylen ∨ clen > SIZE_MAX - 2 then tooBig st
      else .goto { st with readlen := clen + 2 } (findeol buf + 2) .readData := by
  have h1 : findeol buf ≠ buf.length := by omega
  simp only [chunkedHeader, bne_self_eq_false, Bool.false_eq_true, if_false, bne_iff_ne, ne_eq, h1, not_false_eq_true,
    if_true, hp, if_neg (Nat.not_lt.mpr h), beq_iff_eq]
  by_cases h0 : clen = 0
  · simp only [h0, if_true]
  · rw [if_neg h0, if_neg h0, if_neg (Nat.not_lt.mpr (hb h0))]
    by_cases h2 : clen > st.max - st.bodylen
    · simp only [h2, if_true, true_or]
    · simp only [h2, false_or, if_false]

/-- a CRLF found by `findeol` lies inside the buffer -/
theorem findeol_add_two_le (buf : Bytes) (h : findeol buf ≠ buf.length) : findeol buf + 2 ≤ buf.length := by
  have hle := findeol_le buf
  exact (findeol_spec buf (by omega)).lt

theorem chunkedHeader_ok (st : St) (s : Status) (buf : Bytes) (hi : InvBuf st .chunkedHeader buf) :
    MicroOK st buf (chunkedHeader st s buf) := by
  obtain ⟨hc, hs, hch⟩ := inv_chunkedHeader.mp hi.1
  have hle := Nat.le_trans hc.2.1 hc.2.2
  cases s with
  | err => trivial
  | eof => trivial
  | ok =>
    by_cases hl : findeol buf = buf.length
    · rw [chunkedHeader_noline st buf hl]
      split
      · trivial
      · exact ⟨Nat.zero_le _, by omega, rfl, hi.1, nofun⟩
    · have h2 := findeol_add_two_le buf hl
      cases hp : parsenumSize 16 true (cstr (buf.take (findeol buf))) with
      | none => rw [chunkedHeader_badsize st buf hl hp]; trivial
      | some clen =>
        rw [chunkedHeader_size st buf h2 clen (fun _ => hle) hp]
        split
        · exact respOK_mkResp hc hs
        · split
          · exact respOK_tooBig buf hs
          · refine ⟨by omega, h2, rfl, ⟨inv_readData.mpr ⟨hc, hs, fun _ => ?_, fun hb => ?_⟩, nofun⟩⟩
            · show 1 ≤ clen + 2 ∧ st.bodylen + (clen + 2) ≤ st.max + 2
              omega
            · rw [hch] at hb; cases hb

variable (ovf : Bool → Nat → Int)

/-- what `gotheaders` decides once status `n` and the header fields are parsed, `len` bytes being consumed -/
theorem afterParse_ok (st : St) (buf : Bytes) (n : Int) (hdrs : List (Bytes × Bytes)) (len : Nat)
    (hi : Inv st .readHeader) (hn : StatusOK n) (hpos : 0 < len) (hlen : len ≤ buf.length) :
    MicroOK st buf (afterParse st n hdrs len) := by
  obtain ⟨hc, hb⟩ := inv_readHeader.mp hi
  simp only [afterParse]
  split
  · exact ⟨hpos, hlen, rfl, inv_readHeader.mpr ⟨hc, hb⟩, fun _ => Nat.zero_le _⟩
  · split
    · exact ⟨hn.1, hn.2, Nat.zero_le _⟩
    · split
      · exact ⟨hpos, hlen, rfl, ⟨inv_chunkedHeader.mpr ⟨hc, hn, rfl⟩, nofun⟩⟩
      · split
        · split
          · trivial
          · split
            · exact respOK_tooBig buf hn
            · rename_i hfit
              refine ⟨hpos, hlen, rfl, ⟨inv_readData.mpr ⟨hc, hn, nofun, fun _ => ?_⟩, nofun⟩⟩
              dsimp only at hfit ⊢
              omega
        · exact ⟨hpos, hlen, rfl, ⟨inv_readToEof.mpr ⟨hc, hn⟩, nofun⟩⟩

theorem gotHeaders_ok (st : St) (buf pre : Bytes)
    (hi : Inv st .readHeader) (hlen : (pre ++ term4).length ≤ buf.length) :
    MicroOK st buf (gotHeaders ovf st (pre ++ term4)) := by
  obtain ⟨l0, ls, hl, hj⟩ := block_lines pre
  rw [hj, gotHeaders_joined ovf st l0 ls hl]
  split
  · trivial
  split
  · trivial
  split
  · trivial
  split
  · trivial
  rename_i sl _ _ hrange
  split
  · trivial
  have hst : StatusOK sl.status := by
    simp only [Bool.or_eq_true, decide_eq_true_eq] at hrange
    exact ⟨Int.not_lt.mp fun h => hrange (Or.inl h), Int.not_lt.mp fun h => hrange (Or.inr h)⟩
  exact afterParse_ok st buf _ _ _ hi hst (by rw [← hj]; simp [term4]) (hj ▸ hlen)

theorem take_term4 (buf : Bytes) (hp : Nat) (ht : TermAt buf hp) :
    buf.take (hp + 4) = buf.take hp ++ term4 := by
  rw [List.take_add, ht]

theorem readHeader_ok (st : St) (s : Status) (buf : Bytes)
    (hi : InvBuf st .readHeader buf) : MicroOK st buf (readHeader ovf st s buf) := by
  obtain ⟨hinv, hhe⟩ := hi
  have hhe' := hhe rfl
  cases s with
  | err => trivial
  | eof => trivial
  | ok =>
    simp only [readHeader, bne_self_eq_false, Bool.false_eq_true, if_false]
    obtain ⟨q, hq, _, s3⟩ := scanHdr_char (buf.drop st.hepos) st.hepos
    have hle : st.hepos + q ≤ buf.length := by
      rcases s3 with h | h
      · have := h.le; rw [List.length_drop] at this; omega
      · rw [List.length_drop] at h; omega
    rw [hq]
    split
    · have ht : TermAt buf (st.hepos + q) := by
        rcases s3 with h | h
        · exact termAt_drop.mp h
        · rw [List.length_drop] at h; omega
      rw [take_term4 buf _ ht]
      exact gotHeaders_ok ovf { st with hepos := st.hepos + q } buf (buf.take (st.hepos + q)) hinv
        (by rw [← take_term4 buf _ ht, List.length_take]; omega)
    · split
      · trivial
      · exact ⟨Nat.zero_le _, by omega, rfl, hinv, fun _ => hle⟩

theorem micro_ok (st : St) (h : Handler) (s : Status) (buf : Bytes)
    (hi : InvBuf st h buf) : MicroOK st buf (micro ovf st h s buf) := by
  cases h with
  | readHeader => exact readHeader_ok ovf st s buf hi
  | chunkedHeader => exact chunkedHeader_ok st s buf hi
  | readData => exact readData_ok st s buf hi
  | readToEof => exact readToEof_ok st s buf hi

/-- the bytes consumed before a chain of direct calls are added to what the chain consumes, nothing else -/
def _root_.Percival.Model.Http.StepRes.shift (c0 : Nat) : StepRes → StepRes
  | .wait st c k h => .wait st (c0 + c) k h
  | r => r

theorem step_shift : ∀ (f : Nat) (st : St) (h : Handler) (s : Status) (buf : Bytes) (c0 : Nat),
    step ovf f st h s buf c0 = (step ovf f st h s buf 0).shift c0 := by
  intro f
  induction f with
  | zero => intros; rfl
  | succ f ih =>
    intro st h s buf c0
    simp only [step]
    cases micro ovf st h s buf with
    | goto st' c h' =>
      simp only []
      rw [ih _ _ _ _ (c0 + c), ih _ _ _ _ (0 + c)]
      cases step ovf f st' h' .ok (buf.drop c) 0 <;> simp [StepRes.shift, Nat.add_assoc]
    | wait _ _ _ _ => simp [StepRes.shift]
    | done _ => rfl
    | abort _ => rfl

/-- one callback from the start of a snapshot: the first handler, then the chain from where it leaves off -/
theorem step_succ (f : Nat) (st : St) (h : Handler) (s : Status) (buf : Bytes) :
    step ovf (f + 1) st h s buf 0 =
      match micro ovf st h s buf with
      | .goto st' c h' => (step ovf f st' h' .ok (buf.drop c) 0).shift c
      | .wait st' c k h' => .wait st' c k h'
      | .done r => .done r
      | .abort w => .abort w := by
  simp only [step]
  cases micro ovf st h s buf with
  | goto st' c h' => exact step_shift ovf f st' h' .ok (buf.drop c) (0 + c) |>.trans (by rw [Nat.zero_add])
  | wait st' c k h' => simp
  | done _ => rfl
  | abort _ => rfl

/-- the verdict on one event-loop callback: a wait for strictly more than is buffered, or the callback -/
def CallbackOK (st : St) (buf : Bytes) : StepRes → Prop
  | .wait st' c k h' => c ≤ buf.length ∧ buf.length - c < k ∧ st'.max = st.max ∧ InvBuf st' h' (buf.drop c)
  | .done r => RespOK st.max r
  | .abort _ => False

theorem callback_ok : ∀ (f : Nat) (st : St) (h : Handler) (s : Status) (buf : Bytes),
    InvBuf st h buf → buf.length < f → CallbackOK st buf (step ovf f st h s buf 0) := by
  intro f
  induction f with
  | zero => intro st h s buf _ hf; omega
  | succ f ih =>
    intro st h s buf hi hf
    have hm := micro_ok ovf st h s buf hi
    rw [step_succ]
    generalize micro ovf st h s buf = m at hm
    cases m with
    | goto st' c h' =>
      obtain ⟨hc0, hc1, hmax, hinv⟩ := hm
      have := ih st' h' .ok (buf.drop c) hinv (by rw [List.length_drop]; omega)
      simp only []
      generalize step ovf f st' h' .ok (buf.drop c) 0 = r at this
      cases r with
      | wait st'' c' k h'' =>
        obtain ⟨a2, a3, a4, a5⟩ := this
        rw [List.length_drop] at a2 a3
        rw [List.drop_drop] at a5
        exact ⟨by omega, by omega, a4.trans hmax, a5⟩
      | done r => show RespOK st.max r; rw [← hmax]; exact this
      | abort w => exact this
    | wait st' c k h' => exact hm
    | done r => exact hm
    | abort w => exact hm

theorem step_done (f : Nat) (st : St) (h : Handler) (s : Status) (buf : List UInt8) (c0 : Nat)
    (r : Option Resp) (hm : micro ovf st h s buf = .done r) :
    step ovf (f + 1) st h s buf c0 = .done r := by
  simp only [step, hm]

/-- fuel beyond what a callback needs changes nothing -/
theorem step_fuel (k : Nat) : ∀ (f : Nat) (st : St) (h : Handler) (s : Status) (buf : List UInt8)
    (c0 : Nat), (∀ w, step ovf f st h s buf c0 ≠ .abort w) → step ovf (f + k) st h s buf c0 = step ovf f st h s buf c0 := by
  intro f
  induction f with
  | zero => intro st h s buf c0 hna; exact absurd rfl (hna _)
  | succ f ih =>
    intro st h s buf c0 hna
    rw [Nat.add_right_comm]
    simp only [step] at hna ⊢
    generalize micro ovf st h s buf = m at hna ⊢
    cases m with
    | goto st' c h' => exact ih _ _ _ _ _ hna
    | wait _ _ _ _ => rfl
    | done _ => rfl
    | abort _ => rfl

/-- a handler entered with EOF or an error always ends the request -/
theorem step_not_ok (f : Nat) (st : St) (h : Handler) (s : Status) (buf : Bytes) (c0 : Nat)
    (hs : s ≠ .ok) : ∃ r, step ovf (f + 1) st h s buf c0 = .done r := by
  cases s with
  | ok => exact absurd rfl hs
  | eof => cases h <;> exact ⟨_, rfl⟩
  | err => cases h <;> exact ⟨_, rfl⟩

/-- after a wait, `run` goes on with the status and the buffered amount `arrive` computes -/
theorem run_succ {σ : Type} (oracle : σ → Nat → Nat → σ × Arrival) (f : Nat) (o : σ) (st : St)
    (h : Handler) (s : Status) (rest : List UInt8) (rlen b : Nat) (ws : List Nat) :
    run ovf oracle (f + 1) o st h s rest rlen b ws =
      match step ovf (b + 1) st h s (rest.take b) 0 with
      | .done r => .callback r ws.reverse
      | .abort w => .abort w ws.reverse
      | .wait st' c k h' =>
        run ovf oracle f (oracle o c k).1 st' h' (arrive (oracle o c k).2 k (rlen - c) (b - c)).1 (rest.drop c) (rlen - c)
          (arrive (oracle o c k).2 k (rlen - c) (b - c)).2 (k :: ws) := by
  simp only [run, arrive]
  cases step ovf (b + 1) st h s (rest.take b) 0 with
  | done _ => rfl
  | abort _ => rfl
  | wait st' c k h' =>
    (try dsimp only)
    split
    · rfl
    · cases (oracle o c k).2 with
      | more extra => (try dsimp only); split <;> rfl
      | eof => rfl
      | err => rfl

/-- a wait for more than is buffered keeps what is buffered, stays inside the stream, and has `k` bytes unless at its end -/
theorem arrive_spec (a : Arrival) (k rlen b : Nat) (hb : b ≤ rlen) (hk : b < k) :
    b ≤ (arrive a k rlen b).2 ∧ (arrive a k rlen b).2 ≤ rlen ∧
    ((arrive a k rlen b).1 = .ok → k ≤ (arrive a k rlen b).2) := by
  simp only [arrive]
  rw [if_neg (by omega)]
  cases a with
  | more extra =>
    (try dsimp only)
    split
    · refine ⟨?_, ?_, fun _ => ?_⟩ <;> (try dsimp only) <;> split <;> omega
    · exact ⟨hb, Nat.le_refl _, fun hc => by cases hc⟩
  | eof => exact ⟨Nat.le_refl _, hb, fun hc => by cases hc⟩
  | err => exact ⟨Nat.le_refl _, hb, fun hc => by cases hc⟩

/-- **The run's loop, once.**  If `I` holds of the configurations of a run and one event-loop callback from a
    configuration with `I` aborts never, ends with `Q`, or waits for more than is buffered and leaves `I` to the next
    configuration, then the run ends in the callback, with `Q`: every wait brings the buffer's end nearer to the
    stream's, and a handler entered with EOF or an error ends the request. -/
theorem run_rule {σ : Type} (oracle : σ → Nat → Nat → σ × Arrival)
    (I : σ → St → Handler → Status → Bytes → Nat → Prop) (Q : Option Resp → Prop)
    (hI : ∀ o st h s rest b, I o st h s rest b → b ≤ rest.length →
      match step ovf (b + 1) st h s (rest.take b) 0 with
      | .done r => Q r
      | .abort _ => False
      | .wait st' c k h' => c ≤ b ∧ b - c < k ∧
          I (oracle o c k).1 st' h' (arrive (oracle o c k).2 k (rest.length - c) (b - c)).1 (rest.drop c)
            (arrive (oracle o c k).2 k (rest.length - c) (b - c)).2) :
    ∀ (f : Nat) (o : σ) (st : St) (h : Handler) (s : Status) (rest : Bytes) (rlen b : Nat) (ws : List Nat),
    rlen = rest.length → b ≤ rlen → I o st h s rest b → (s = .ok → rlen - b + 2 ≤ f) → 1 ≤ f →
    ∃ r ws', run ovf oracle f o st h s rest rlen b ws = .callback r ws' ∧ Q r := by
  intro f
  induction f with
  | zero => intro o st h s rest rlen b ws _ _ _ _ hf; omega
  | succ f ih =>
    intro o st h s rest rlen b ws hrl hb hi hfuel _
    subst hrl
    have hv := hI o st h s rest b hi hb
    rw [run_succ]
    generalize hstep : step ovf (b + 1) st h s (rest.take b) 0 = r0 at hv
    cases r0 with
    | done r => exact ⟨r, _, rfl, hv⟩
    | abort w => exact hv.elim
    | wait st' c k h' =>
      have hf2 : rest.length - b + 2 ≤ f + 1 := by
        apply hfuel
        by_cases hs : s = .ok
        · exact hs
        · obtain ⟨r, hr⟩ := step_not_ok ovf b st h s (rest.take b) 0 hs
          rw [hr] at hstep; cases hstep
      obtain ⟨hc, hk, hi'⟩ := hv
      obtain ⟨a1, a2, a3⟩ := arrive_spec (oracle o c k).2 k (rest.length - c) (b - c) (by omega) hk
      exact ih _ st' h' _ (rest.drop c) _ _ (k :: ws) (by rw [List.length_drop]) a2 hi'
        (fun e => by have := a3 e; omega) (by omega)

theorem run_ok {σ : Type} (oracle : σ → Nat → Nat → σ × Arrival) (max : Nat) :
    ∀ (f : Nat) (o : σ) (st : St) (h : Handler) (s : Status) (rest : Bytes) (rlen b : Nat) (ws : List Nat),
    rlen = rest.length → b ≤ rlen → st.max = max ∧ InvBuf st h (rest.take b) → (s = .ok → rlen - b + 2 ≤ f) → 1 ≤ f →
    ∃ r ws', run ovf oracle f o st h s rest rlen b ws = .callback r ws' ∧ RespOK max r := by
  refine run_rule ovf oracle (fun _ st h _ rest b => st.max = max ∧ InvBuf st h (rest.take b)) _ ?_
  rintro o st h s rest b ⟨rfl, hi⟩ hb
  have hsl : (rest.take b).length = b := by rw [List.length_take]; omega
  have hso := callback_ok ovf (b + 1) st h s (rest.take b) hi (by omega)
  generalize step ovf (b + 1) st h s (rest.take b) 0 = r0 at hso
  cases r0 with
  | done r => exact hso
  | abort w => exact hso
  | wait st' c k h' =>
    obtain ⟨hc, hk, hmax, hinv⟩ := hso
    rw [hsl] at hc hk
    obtain ⟨a1, a2, _⟩ := arrive_spec (oracle o c k).2 k (rest.length - c) (b - c) (by omega) hk
    exact ⟨hc, hk, hmax, invBuf_mono hinv
      (by rw [List.length_drop, hsl, List.length_take, List.length_drop]; omega)⟩

theorem initSt_inv (ishead : Bool) (max : Nat) (buf : Bytes) : InvBuf (initSt ishead max) .readHeader buf :=
  ⟨inv_readHeader.mpr ⟨⟨rfl, Nat.le_refl _, Nat.zero_le _⟩, rfl⟩, fun _ => Nat.zero_le _⟩

theorem runAll_ok {σ : Type} (oracle : σ → Nat → Nat → σ × Arrival) (o : σ)
    (ishead : Bool) (max : Nat) (data : Bytes) :
    ∃ r ws, runAll ovf oracle o ishead max data = .callback r ws ∧ RespOK max r :=
  run_ok ovf oracle max (data.length + 3) o (initSt ishead max) .readHeader .ok data data.length 0 []
    rfl (Nat.zero_le _) ⟨rfl, initSt_inv ishead max _⟩ (fun _ => by omega) (by omega)

end Percival.Proofs.Http
