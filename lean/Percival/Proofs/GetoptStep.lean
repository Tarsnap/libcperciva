import Percival.Proofs.Getopt
/-! One `getopt` call at an initialised state (C18): what happens before the search, by the word the cursor stands in
(`Fetch`); the search against the Spec's lookups (`Finds`); `finishOpt`, `takeArg` and the switch case by case. -/
namespace Percival.Proofs.Getopt
open Percival.Spec.Getopt Percival.Model.Getopt

theorem inv_update {lines : List Line} {s : St} (h : Inv lines s) (oa : Option Str) (oi : Nat)
    (pk : Option (Nat × Nat)) (fd : Nat) :
    Inv lines { s with optarg := oa, optind := oi, packed := pk, optFound := fd } :=
  ⟨h.reset, h.init, h.opts, h.nopts, h.dflt, h.miss⟩

theorem getopt_end {lines : List Line} {argv : List Str} {s : St} (h : Inv lines s)
    (he : argv.length ≤ s.optind) :
    Model.Getopt.getopt argv s = pure (.null, { s with optarg := none }) := by
  simp [Model.Getopt.getopt, h.reset, h.init, he]

theorem getopt_body {lines : List Line} {argv : List Str} {s : St} (h : Inv lines s)
    (he : s.optind < argv.length) :
    Model.Getopt.getopt argv s = getoptBody argv { s with optarg := none } := by
  have : ¬ argv.length ≤ s.optind := by omega
  simp [Model.Getopt.getopt, h.reset, h.init, this]

theorem arg_eq {argv : List Str} {i : Nat} {w : Str} (h : argv[i]? = some w) : arg argv i = pure w := by
  simp [arg, h]

theorem lt_of_getElem? {α : Type} {l : List α} {j : Nat} {x : α} (h : l[j]? = some x) : j < l.length :=
  (List.getElem?_eq_some_iff.mp h).1

/-- a word that does not start with `-` (the empty word included): NULL, nothing consumed -/
theorem body_operand {argv : List Str} {s : St} {w : Str} {c0 : UInt8} (hp : s.packed = none)
    (hw : argv[s.optind]? = some w) (h0 : rd w 0 = pure c0) (hc : c0 ≠ dash) : getoptBody argv s = pure (.null, s) := by
  simp [getoptBody, startPack, takePacked, dashDash, hp, arg_eq hw, h0, hc]

/-- the next character of a pack (`p` = what is already behind the cursor) -/
theorem body_packed {argv : List Str} {s : St} {p : Str} {c : UInt8} {cs : Str}
    (hp : s.packed = some (s.optind, p.length))
    (hw : argv[s.optind]? = some (p ++ c :: cs)) (hnul : NulFree (p ++ c :: cs)) :
    getoptBody argv s = finishOpt argv
      { s with packed := if cs = [] then none else some (s.optind, p.length + 1),
               optind := if cs = [] then s.optind + 1 else s.optind } [dash, c] := by
  have hc : c ≠ 0 := hnul c (by simp)
  have hcstr : cstr [dash, c] = [dash, c] := cstr_of_nulFree (nulFree_short hc)
  cases cs with
  | nil =>
    simp [getoptBody, startPack, takePacked, dashDash, hp, arg_eq hw, rd_append_length, rd_append_length_succ,
      rd_cons_zero, rd_cons_succ, rd_nil_zero, hcstr]
  | cons d cs =>
    have hd : d ≠ 0 := hnul d (by simp)
    simp [getoptBody, startPack, takePacked, dashDash, hp, arg_eq hw, rd_append_length, rd_append_length_succ,
      rd_cons_zero, rd_cons_succ, hcstr, hd]

/-- the cursor is inside `argv`: `optind ≤ argc`, and a pack cursor points strictly inside `argv[optind]`,
    after its leading `-` -/
def CursorOK (argv : List Str) (s : St) : Prop :=
  s.optind ≤ argv.length ∧
  ∀ i j, s.packed = some (i, j) → i = s.optind ∧ ∃ w, argv[i]? = some w ∧ 1 ≤ j ∧ j < w.length

def offset (s : St) : Nat :=
  match s.packed with
  | none => 0
  | some (_, j) => j

/-- What `getopt` does before the search when the cursor stands in the word `w`: it returns NULL (having consumed
    `--`), or hands the long option word, or the next character `c` of a pack (`p` before it, `cs` after it), to
    `finishOpt`. -/
inductive Fetch (argv : List Str) (s : St) (w : Str) : Prop
  | stop (c : Bool) (hp : s.packed = none) (hw : ∀ T, word T w = .stop c)
      (hg : Model.Getopt.getopt argv s =
        pure (.null, { s with optarg := none, optind := s.optind + if c then 1 else 0 }))
  | long (hp : s.packed = none) (hw : ∀ T, word T w = .options (long T w).1 (long T w).2)
      (hg : Model.Getopt.getopt argv s = finishOpt argv { s with optarg := none, optind := s.optind + 1 } w)
  | char (p : Str) (c : UInt8) (cs : Str) (hsplit : w = p ++ c :: cs) (hc0 : c ≠ 0) (hp1 : 1 ≤ p.length)
      (hcur : (s.packed = none ∧ p = [dash] ∧ c ≠ dash) ∨ s.packed = some (s.optind, p.length))
      (hg : Model.Getopt.getopt argv s = finishOpt argv
        { s with optarg := none, packed := if cs = [] then none else some (s.optind, p.length + 1),
                 optind := if cs = [] then s.optind + 1 else s.optind } [dash, c])

theorem getopt_fetch {lines : List Line} {argv : List Str} {s : St} {w : Str} (hinv : Inv lines s)
    (hc : CursorOK argv s) (hw : argv[s.optind]? = some w) (hwn : NulFree w) : Fetch argv s w := by
  have hb := getopt_body hinv (lt_of_getElem? hw)
  cases hp : s.packed with
  | none =>
    match w, hw, hwn with
    | [], hw, _ =>
      exact .stop false hp (fun _ => rfl)
        (hb.trans (body_operand (s := { s with optarg := none }) hp hw rd_nil_zero dash_ne_zero.symm))
    | [c], hw, _ =>
      refine .stop false hp (fun _ => rfl) (hb.trans ?_)
      by_cases hc : c = dash
      · -- a lone `-`
        subst hc
        simp [getoptBody, startPack, takePacked, dashDash, hp, arg_eq hw, rd_cons_zero, rd_cons_succ, rd_nil_zero,
          dash_ne_zero.symm]
      · exact body_operand (s := { s with optarg := none }) hp hw (rd_cons_zero c []) hc
    | c0 :: c1 :: cs, hw, hwn =>
      by_cases h0 : c0 = dash
      · subst h0
        by_cases h1 : c1 = dash
        · subst h1
          cases cs with
          | nil =>
            -- `--`: NULL, consumed
            refine .stop true hp (fun _ => by simp [word]) (hb.trans ?_)
            simp [getoptBody, startPack, takePacked, dashDash, hp, arg_eq hw, rd_cons_zero, rd_cons_succ, rd_nil_zero]
          | cons c cs =>
            -- `--x…`: a long option
            have hc0 : c ≠ 0 := hwn c (by simp)
            refine .long hp (fun _ => by simp [word]) (hb.trans ?_)
            simp [getoptBody, startPack, takePacked, dashDash, hp, arg_eq hw, rd_cons_zero, rd_cons_succ, hc0]
        · -- `-c…` with `c ≠ '-'` starts a pack, and its first character is handled at once
          have hc0 : c1 ≠ 0 := hwn c1 (by simp)
          have hstart : getoptBody argv { s with optarg := none } =
              getoptBody argv { s with optarg := none, packed := some (s.optind, 1) } := by
            simp [getoptBody, startPack, hp, arg_eq hw, rd_cons_zero, rd_cons_succ, h1, hc0]
          exact .char [dash] c1 cs rfl hc0 (Nat.le_refl 1) (.inl ⟨hp, rfl, h1⟩)
            (hb.trans (hstart.trans (body_packed (s := { s with optarg := none, packed := some (s.optind, 1) })
              (p := [dash]) rfl hw hwn)))
      · exact .stop false hp (fun _ => by simp [word, h0])
          (hb.trans (body_operand (s := { s with optarg := none }) hp hw (rd_cons_zero c0 _) h0))
  | some ij =>
    obtain ⟨i, j⟩ := ij
    obtain ⟨hi, w', hw', hj1, hj⟩ := hc.2 i j hp
    subst hi
    rw [hw] at hw'; cases hw'
    have hplen : (w.take j).length = j := by simp; omega
    cases hdj : w.drop j with
    | nil => have := congrArg List.length hdj; simp at this; omega
    | cons c cs =>
      have hsplit : w = w.take j ++ c :: cs := by rw [← hdj, List.take_append_drop]
      rw [hsplit] at hw hwn
      have hp' : s.packed = some (s.optind, (w.take j).length) := by rw [hplen]; exact hp
      exact .char (w.take j) c cs hsplit (hwn c (by simp)) (by omega) (.inr hp')
        (hb.trans (body_packed (s := { s with optarg := none }) hp' hw hwn))

/-- a word that denotes an option, read at the end of the option's name: NUL, or `=` before the value -/
theorem matchOpt_rd {n os : Str} {h : Bool} {v : Option Str} (hm : matchOpt ⟨n, h⟩ os = some v) :
    rd os n.length = pure (if v.isSome then eqc else 0) ∧
      ∀ val, v = some val → val = os.drop (n.length + 1) := by
  rw [matchOpt_eq] at hm
  split at hm
  · next hp =>
    rw [rd_drop (List.isPrefixOf_iff_prefix.mp hp).length_le]
    split at hm
    · next hd => cases hm; simp [hd]
    · next c t hd =>
      split at hm
      · next hc =>
        cases hm
        have : os.drop (n.length + 1) = t := by rw [← List.drop_drop, hd]; rfl
        simp [hd, hc, this]
      · cases hm
  · cases hm

/-- from `s`, the search finds the option word `os` on line `j`, which registers `n` (`v` = the `=value` if any) -/
structure Finds (lines : List Line) (s : St) (os : Str) (j : Nat) (n : Str) (a : Bool) (v : Option Str) : Prop where
  search : searchopt s os = pure j
  line : lines[j]? = some (.opt n a)
  val : matchOpt ⟨n, a⟩ os = some v

theorem finds_long {lines : List Line} (hn : NamesOK lines) {s : St} (h : Inv lines s) {os : Str} (hos : NulFree os) :
    match lookupLong (tableOf lines).opts os with
    | none => searchopt s os = pure (lines.length + 1)
    | some (o, v) => ∃ j, Finds lines s os j o.name o.hasArg v := by
  obtain ⟨r, hr, hf⟩ := searchSlots_spec lines hn os hos (lines.length + 1) 0 0
  have hs : searchopt s os = pure r := by simpa [searchopt, h.opts, h.dflt] using hr
  unfold Found at hf
  cases hl : lookupLong (tableOf lines).opts os with
  | none => rw [hl] at hf; rw [hs, show r = _ from hf]
  | some ov =>
    rw [hl] at hf
    obtain ⟨j, rfl, h1, h2⟩ := hf
    exact ⟨j, by simpa using hs, h1, h2⟩

theorem lookupShort_name {opts : List Opt} {c : UInt8} {o : Opt} (h : lookupShort opts c = some o) :
    o.name = [dash, c] := by
  have := List.find?_some h
  simpa using this

theorem finds_short {lines : List Line} (hn : NamesOK lines) {s : St} (h : Inv lines s) {c : UInt8} (hc : c ≠ 0) :
    match lookupShort (tableOf lines).opts c with
    | none => searchopt s [dash, c] = pure (lines.length + 1)
    | some o => ∃ j, Finds lines s [dash, c] j o.name o.hasArg none := by
  have h := finds_long hn h (nulFree_short hc)
  rw [lookupLong_short _ fun o ho => (hn o.name o.hasArg (mem_tableOf.mp ho)).1] at h
  cases hs : lookupShort (tableOf lines).opts c <;> simpa [hs] using h

theorem slot_eq {lines : List Line} {s : St} (h : Inv lines s) {j : Nat} {n : Str} {a : Bool}
    (hj : lines[j]? = some (.opt n a)) : slot s j = pure ⟨n, n.length, a⟩ := by
  simp [slot, h.opts, hj, slotOf]

theorem finishOpt_unknown {lines : List Line} {argv : List Str} {s : St} (h : Inv lines s) {os : Str}
    (hf : searchopt s os = pure (lines.length + 1)) :
    finishOpt argv s os = pure (.os os, { s with optFound := lines.length + 1 }) := by
  simp [finishOpt, hf, h.dflt]

theorem finishOpt_found {lines : List Line} {argv : List Str} {s : St}
    (h : Inv lines s) {os : Str} {j : Nat} {n : Str} {a : Bool} {v : Option Str} (hf : Finds lines s os j n a v) :
    finishOpt argv s os =
      if a then (do
        let s' ← takeArg argv { s with optFound := j } os ⟨n, n.length, a⟩
        pure (.os n, s'))
      else (do
        let c ← rd os n.length
        pure (.os n, if c == eqc then { s with optFound := lines.length + 1 } else { s with optFound := j })) := by
  have hne : j ≠ lines.length + 1 := Nat.ne_of_lt (Nat.lt_succ_of_lt (lt_of_getElem? hf.line))
  simp [finishOpt, hf.search, h.dflt, hne, slot, h.opts, hf.line, slotOf]

theorem finishOpt_noarg {lines : List Line} {argv : List Str} {s : St}
    (h : Inv lines s) {os : Str} {j : Nat} {n : Str} {v : Option Str}
    (hf : Finds lines s os j n false v) :
    finishOpt argv s os =
      pure (.os n, { s with optFound := match v with | none => j | some _ => lines.length + 1 }) := by
  rw [finishOpt_found h hf, if_neg Bool.false_ne_true, (matchOpt_rd hf.val).1, pure_bind]
  cases v with
  | none => rw [if_neg (by simpa using eqc_ne_zero.symm)]
  | some val => rw [if_pos (by simp)]

theorem finishOpt_arg {lines : List Line} {argv : List Str} {s : St}
    (h : Inv lines s) {os : Str} {j : Nat} {n : Str} {v : Option Str} (hf : Finds lines s os j n true v) :
    finishOpt argv s os = (do
      let s' ← takeArg argv { s with optFound := j } os ⟨n, n.length, true⟩
      pure (.os n, s')) := by
  rw [finishOpt_found h hf, if_pos rfl]

/-- `-abcfoo`: the rest of the pack is the argument -/
theorem takeArg_packed {argv : List Str} {s : St} {i : Nat} {p : Str} {c x : UInt8} {cs : Str} {e : Slot}
    (hp : s.packed = some (i, p.length)) (hw : argv[i]? = some (p ++ c :: cs)) (he : e.olen = 2) :
    takeArg argv s [dash, x] e =
      pure { s with optarg := some (c :: cs), packed := none, optind := s.optind + 1 } := by
  simp [takeArg, hp, arg_eq hw, he, rd_cons_succ, rd_nil_zero, eqc_ne_zero.symm]

/-- `--foo=bar` -/
theorem takeArg_eq {argv : List Str} {s : St} {os : Str} {e : Slot}
    (hp : s.packed = none) (hrd : rd os e.olen = pure eqc) :
    takeArg argv s os e = pure { s with optarg := some (os.drop (e.olen + 1)) } := by
  simp [takeArg, hp, hrd]

/-- `--foo bar`, `-f bar`: the next word is the argument -/
theorem takeArg_next {argv : List Str} {s : St} {os : Str} {e : Slot} {a : Str}
    (hp : s.packed = none) (hoa : s.optarg = none) (hrd : rd os e.olen = pure 0)
    (hw : argv[s.optind]? = some a) :
    takeArg argv s os e = pure { s with optarg := some a, optind := s.optind + 1 } := by
  have hlt := lt_of_getElem? hw
  simp [takeArg, hp, hoa, hrd, eqc_ne_zero.symm, hlt, arg_eq hw]

theorem takeArg_missing {argv : List Str} {s : St} {os : Str} {e : Slot}
    (hp : s.packed = none) (hoa : s.optarg = none) (hrd : rd os e.olen = pure 0)
    (hend : argv.length ≤ s.optind) :
    takeArg argv s os e = pure { s with optFound := s.optMissing } := by
  have : ¬ s.optind < argv.length := by omega
  simp [takeArg, hp, hoa, hrd, eqc_ne_zero.symm, this]

def isMissing : Line → Bool
  | .missing => true
  | _ => false

theorem tableOf_hasMissing (lines : List Line) : (tableOf lines).hasMissing = lines.any isMissing := by
  simp only [tableOf]
  induction lines with
  | nil => rfl
  | cons l rest ih => cases l <;> simp [isMissing, ih]

theorem lastMissing_spec (rest : List Line) : ∀ (ln cur : Nat),
    (rest.any isMissing = false ∧ lastMissing rest ln cur = cur) ∨
    (rest.any isMissing = true ∧ ∃ k, lastMissing rest ln cur = ln + k ∧ rest[k]? = some .missing) := by
  induction rest with
  | nil => intro ln cur; left; simp [lastMissing]
  | cons l rest ih =>
    intro ln cur
    cases l with
    | missing =>
      right
      refine ⟨by simp [isMissing], ?_⟩
      rcases ih (ln + 1) ln with ⟨_, h2⟩ | ⟨_, k, h2, h3⟩
      · exact ⟨0, by simp [lastMissing, h2], by simp⟩
      · exact ⟨k + 1, by simp [lastMissing, h2]; omega, by simpa using h3⟩
    | _ =>
      rcases ih (ln + 1) cur with ⟨h1, h2⟩ | ⟨h1, k, h2, h3⟩
      · left; exact ⟨by simp [isMissing, h1], by simp [lastMissing, h2]⟩
      · right; exact ⟨by simp [h1], k + 1, by simp [lastMissing, h2]; omega, by simpa using h3⟩

theorem lookup_found {lines : List Line} {s : St} (h : Inv lines s) {j : Nat} {n : Str} {a : Bool}
    (hf : s.optFound = j) (hj : lines[j]? = some (.opt n a)) :
    getoptLookup s n = pure j := by
  have hlt : s.optFound < s.nopts := by rw [h.nopts, hf]; exact lt_of_getElem? hj
  subst hf
  unfold getoptLookup
  simp only [h.reset, h.init, Bool.false_eq_true, if_false, Bool.not_true]
  split
  · rfl
  · simp [slot, h.opts, List.getElem?_map, hj, slotOf]

theorem dispatch_opt {lines : List Line} {s : St} (h : Inv lines s) {j : Nat} {n : Str}
    (hf : s.optFound = j) (hj : lines[j]? = some (.opt n false)) :
    dispatch lines s n = pure .opt := by
  simp [dispatch, lookup_found h hf hj, hj]

theorem dispatch_optarg {lines : List Line} {s : St} (h : Inv lines s) {j : Nat} {n a : Str}
    (hf : s.optFound = j) (hj : lines[j]? = some (.opt n true)) (ha : s.optarg = some a) :
    dispatch lines s n = pure .optarg := by
  simp [dispatch, lookup_found h hf hj, hj, ha]

theorem dispatch_default {lines : List Line} {s : St} (h : Inv lines s) (ch : Str)
    (hf : s.optFound = lines.length + 1) :
    dispatch lines s ch = pure .dflt := by
  simp [dispatch, getoptLookup, h.reset, h.init, hf, h.dflt]

theorem dispatch_missing {lines : List Line} {s : St} (h : Inv lines s) (ch : Str)
    (hf : s.optFound = s.optMissing) :
    dispatch lines s ch = pure (if (tableOf lines).hasMissing then .missingArg else .dflt) := by
  rw [tableOf_hasMissing]
  have hl : getoptLookup s ch = pure s.optMissing := by
    simp [getoptLookup, h.reset, h.init, hf]
  rcases lastMissing_spec lines 0 (lines.length + 1) with ⟨h1, h2⟩ | ⟨h1, k, h2, h3⟩
  · have : s.optMissing = lines.length + 1 := by rw [h.miss, h2]
    simp [dispatch, hl, this, h1]
  · have : s.optMissing = k := by rw [h.miss, h2]; omega
    simp [dispatch, hl, this, h3, h1]

end Percival.Proofs.Getopt
