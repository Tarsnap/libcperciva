import Percival.Proofs.AFUOp
import Percival.Proofs.AFURefs
import Percival.Proofs.Keys
/-!
# C14, component `upstart`: the objects the harness can name, and what one library call does to them

`Vis t k c`: the object `c` of kind `k` exists in the tables `t` and is not owned by another object (a read
started by a buffered reader belongs to that reader, a write to its writer, a connection attempt to its HTTP
request): exactly the objects the harness holds a handle for.  `delta`: one call changes this set by the object
it returns (`addOf`) and the object it releases (`delOf`), nothing else — an owned object comes and goes with its
owner and is never seen.  The other facts read off the table change `TabStep` of a call are here too: the returned
object is new (`add_fresh`), descriptors are inherited or the call's own (`fds_ev`), the number of connection attempts
grows by at most one (`conns_ev`), a writer becomes `reserved` only by `netbuf_write_reserve` (`reserved_ev`).
-/
namespace Percival.Proofs.UpMonSound
open Percival.Model Percival.Model.EvReg Percival.Model.AllocFail
open Percival.Proofs.AllocFailUpper
open Percival.Model.Connect (AddrOutcome)

/-- the kinds of objects (one handle table of the harness each) -/
inductive K where
  | rd | wr | acc | conn | nbr | nbw | http
  deriving DecidableEq, Repr

def Vis (t : Tables) : K → Nat → Prop
  | .rd, c => c ∈ t.reads.map (·.cookie) ∧ ∀ r ∈ t.readers, r.readCookie ≠ some c
  | .wr, c => c ∈ t.writes.map (·.cookie) ∧ ∀ x ∈ t.writers, Run.ownW x ≠ some c
  | .acc, c => c ∈ t.accepts.map (·.cookie)
  | .conn, c => c ∈ t.conns.map (·.cookie) ∧ ∀ x ∈ t.https, x.conn ≠ some c
  | .nbr, c => c ∈ t.readers.map (·.id)
  | .nbw, c => c ∈ t.writers.map (·.id)
  | .http, c => c ∈ t.https.map (·.cookie)

def addOf : Op → Option Nat → Option (K × Nat)
  | .read _, some c => some (.rd, c)
  | .write _, some c => some (.wr, c)
  | .accept _, some c => some (.acc, c)
  | .connect _ _ _, some c => some (.conn, c)
  | .nbrInit _, some c => some (.nbr, c)
  | .nbwInit _, some c => some (.nbw, c)
  | .http _ _ _, some c => some (.http, c)
  | .https _ _ _ _, some c => some (.http, c)
  | _, _ => none

def delOf : Op → Option (K × Nat)
  | .readCancel c => some (.rd, c)
  | .writeCancel c => some (.wr, c)
  | .acceptCancel c => some (.acc, c)
  | .connectCancel c => some (.conn, c)
  | .nbrFree c => some (.nbr, c)
  | .nbwFree c => some (.nbw, c)
  | .httpCancel c => some (.http, c)
  | _ => none

/-! ## lists with distinct keys, and what their entries own

`k` is the key of an entry, `own` the object it owns, if any: a buffered reader its read, a writer its write, an HTTP
request its connection attempt.  "Nobody in `l` owns `c`" is `∀ y ∈ l, own y ≠ some c`; the lemmas say how this
changes when an entry is added, replaced or removed. -/

section
variable {α : Type} (k : α → Nat) {own : α → Option Nat} {l : List α} {a a' : α} {c c1 : Nat}

theorem forall_split (hnd : (l.map k).Nodup) (ha : a ∈ l) (P : α → Prop) :
    (∀ y ∈ l, P y) ↔ ((∀ y ∈ l, k y ≠ k a → P y) ∧ P a) := by
  refine ⟨fun h => ⟨fun y hy _ => h y hy, h a ha⟩, fun h y hy => ?_⟩
  by_cases hk : k y = k a
  · exact Keys.inj hnd hy ha hk ▸ h.2
  · exact h.1 y hy hk

theorem forall_upd (ha : a ∈ l) (hid : k a' = k a) (P : α → Prop) :
    (∀ y ∈ l.map (fun x => if k x == k a' then a' else x), P y) ↔ ((∀ y ∈ l, k y ≠ k a → P y) ∧ P a') := by
  simp only [List.mem_map, forall_exists_index, and_imp, hid]
  constructor
  · intro h
    refine ⟨fun y hy hne => ?_, ?_⟩
    · have := h y y hy
      simpa [hne] using this
    · have := h a' a ha
      simpa using this
  · rintro ⟨h1, h2⟩ y x hx rfl
    by_cases hk : k x = k a
    · simpa [hk] using h2
    · simpa [hk] using h1 x hx hk

theorem forall_filter_ne (c : Nat) (P : α → Prop) :
    (∀ y ∈ l.filter (fun x => k x != c), P y) ↔ (∀ y ∈ l, k y ≠ c → P y) := by
  simp [List.mem_filter]

theorem mem_map_filter_ne (c c0 : Nat) :
    c ∈ (l.filter (fun x => k x != c0)).map k ↔ c ∈ l.map k ∧ c ≠ c0 := by
  simp only [List.mem_map, List.mem_filter, bne_iff_ne, ne_eq]
  constructor
  · rintro ⟨a, ⟨ha, hne⟩, rfl⟩; exact ⟨⟨a, ha, rfl⟩, hne⟩
  · rintro ⟨⟨a, ha, rfl⟩, hne⟩; exact ⟨a, ⟨ha, hne⟩, rfl⟩

theorem unowned_cons_none (ho : own a = none) : (∀ y ∈ a :: l, own y ≠ some c) ↔ ∀ y ∈ l, own y ≠ some c := by
  simp [ho]

theorem unowned_cons_some (ho : own a = some c1) :
    (∀ y ∈ a :: l, own y ≠ some c) ↔ ((∀ y ∈ l, own y ≠ some c) ∧ c1 ≠ c) := by
  simp [ho, and_comm]

theorem unowned_upd_same (hnd : (l.map k).Nodup) (ha : a ∈ l) (hid : k a' = k a) (ho : own a' = own a) :
    (∀ y ∈ l.map (fun x => if k x == k a' then a' else x), own y ≠ some c) ↔ ∀ y ∈ l, own y ≠ some c := by
  rw [forall_upd k ha hid, forall_split k hnd ha (fun y => own y ≠ some c), ho]

theorem unowned_upd_gain (hnd : (l.map k).Nodup) (ha : a ∈ l) (hid : k a' = k a) (ho : own a = none)
    (ho' : own a' = some c1) :
    (∀ y ∈ l.map (fun x => if k x == k a' then a' else x), own y ≠ some c) ↔
      ((∀ y ∈ l, own y ≠ some c) ∧ c1 ≠ c) := by
  rw [forall_upd k ha hid, forall_split k hnd ha (fun y => own y ≠ some c), ho, ho']
  simp

theorem unowned_filter_none (hnd : (l.map k).Nodup) (ha : a ∈ l) (ho : own a = none) :
    (∀ y ∈ l.filter (fun x => k x != k a), own y ≠ some c) ↔ ∀ y ∈ l, own y ≠ some c := by
  rw [forall_filter_ne k, forall_split k hnd ha (fun y => own y ≠ some c), ho]
  simp

/-- the owner of `c1` gives it up (is removed, or replaced by an entry that owns nothing: `R`) and `c1` is removed
from the table `m` of the owned objects: for the objects nobody owns nothing changes -/
theorem drop_owned {β : Type} (key : β → Nat) {m : List β} {R : Prop} (hnd : (l.map k).Nodup) (ha : a ∈ l)
    (ho : own a = some c1) (hR : R ↔ ∀ y ∈ l, k y ≠ k a → own y ≠ some c) :
    (c ∈ (m.filter (fun x => key x != c1)).map key ∧ R) ↔ (c ∈ m.map key ∧ ∀ y ∈ l, own y ≠ some c) := by
  rw [mem_map_filter_ne, hR, forall_split k hnd ha (fun y => own y ≠ some c), ho]
  simp only [ne_eq, Option.some.injEq]
  exact ⟨fun ⟨⟨h1, h2⟩, h3⟩ => ⟨h1, h3, fun e => h2 e.symm⟩, fun ⟨h1, h3, h2⟩ => ⟨⟨h1, fun e => h2 e.symm⟩, h3⟩⟩

end

/-- a new key `c1` comes with its owner (`U'`: nobody owns `c` afterwards): for the objects nobody owns nothing
changes -/
theorem add_owned {m : List Nat} {U U' : Prop} {c c1 : Nat} (hf : c1 ∉ m) (hU : U' ↔ (U ∧ c1 ≠ c)) :
    (c ∈ c1 :: m ∧ U') ↔ (c ∈ m ∧ U) := by
  rw [hU, List.mem_cons]
  exact ⟨fun ⟨h1, h2, h3⟩ => ⟨h1.resolve_left fun e => h3 e.symm, h2⟩,
    fun ⟨h1, h2⟩ => ⟨.inr h1, h2, fun e => hf (e ▸ h1)⟩⟩

def Delta (t t' : Tables) (add del : Option (K × Nat)) : Prop :=
  ∀ k c, Vis t' k c ↔ ((Vis t k c ∧ del ≠ some (k, c)) ∨ add = some (k, c))

section
variable {t t' : Tables} {k0 : K} {c0 : Nat}

theorem delta_same : Delta t t' none none ↔ ∀ k c, (Vis t' k c ↔ Vis t k c) :=
  forall_congr' fun _ => forall_congr' fun _ => iff_congr .rfl ⟨fun h => h.elim (·.1) nofun, fun v => .inl ⟨v, nofun⟩⟩

theorem delta_add :
    Delta t t' (some (k0, c0)) none ↔ ∀ k c, (Vis t' k c ↔ (Vis t k c ∨ (k = k0 ∧ c = c0))) :=
  forall_congr' fun _ => forall_congr' fun _ => iff_congr .rfl (or_congr ⟨(·.1), fun v => ⟨v, nofun⟩⟩
    ⟨fun e => by cases e; exact ⟨rfl, rfl⟩, fun ⟨a, b⟩ => by rw [a, b]⟩)

theorem delta_del :
    Delta t t' none (some (k0, c0)) ↔ ∀ k c, (Vis t' k c ↔ (Vis t k c ∧ ¬ (k = k0 ∧ c = c0))) :=
  forall_congr' fun _ => forall_congr' fun _ => iff_congr .rfl
    ⟨fun h => h.elim (fun ⟨v, n⟩ => ⟨v, fun ⟨a, b⟩ => n (by rw [a, b])⟩) nofun,
     fun ⟨v, n⟩ => .inl ⟨v, fun e => n (by cases e; exact ⟨rfl, rfl⟩)⟩⟩

/-- a kind whose tables the call does not touch -/
theorem frame_add {p : Prop} {k : K} {c : Nat} (h : k ≠ k0) : p ↔ (p ∨ (k = k0 ∧ c = c0)) :=
  ⟨.inl, fun x => x.elim id fun e => absurd e.1 h⟩

theorem frame_del {p : Prop} {k : K} {c : Nat} (h : k ≠ k0) : p ↔ (p ∧ ¬ (k = k0 ∧ c = c0)) :=
  ⟨fun x => ⟨x, fun e => h e.1⟩, (·.1)⟩

theorem add_iff {m : List Nat} {c : Nat} : c ∈ c0 :: m ↔ (c ∈ m ∨ (k0 = k0 ∧ c = c0)) :=
  List.mem_cons.trans ⟨fun h => h.elim (fun e => .inr ⟨rfl, e⟩) .inl, fun h => h.elim .inr (fun e => .inl e.2)⟩

theorem add_iff_of {m : List Nat} {U : Prop} {c : Nat} (hu : c = c0 → U) :
    (c ∈ c0 :: m ∧ U) ↔ ((c ∈ m ∧ U) ∨ (k0 = k0 ∧ c = c0)) :=
  ⟨fun ⟨h, u⟩ => (List.mem_cons.1 h).elim (fun e => .inr ⟨rfl, e⟩) (fun h => .inl ⟨h, u⟩),
   fun h => h.elim (fun ⟨h, u⟩ => ⟨List.mem_cons_of_mem _ h, u⟩) (fun ⟨_, e⟩ => ⟨e ▸ List.mem_cons_self, hu e⟩)⟩

theorem del_iff {β : Type} (key : β → Nat) {m : List β} {c : Nat} :
    c ∈ (m.filter (fun x => key x != c0)).map key ↔ (c ∈ m.map key ∧ ¬ (k0 = k0 ∧ c = c0)) :=
  (mem_map_filter_ne key c c0).trans (and_congr_right' ⟨fun h e => h e.2, fun h e => h ⟨rfl, e⟩⟩)

theorem del_iff_of {β : Type} (key : β → Nat) {m : List β} {U : Prop} {c : Nat} :
    (c ∈ (m.filter (fun x => key x != c0)).map key ∧ U) ↔ ((c ∈ m.map key ∧ U) ∧ ¬ (k0 = k0 ∧ c = c0)) :=
  (and_congr_left' (del_iff key)).trans and_right_comm

end

theorem addOf_none (c : Op) : addOf c none = none := by cases c <;> rfl

theorem delOf_of_not_release {c : Op} (h : isRelease c = false) : delOf c = none := by
  cases c <;> first | rfl | cases h

theorem ids_updReader (l : List Reader) (r' : Reader) : (updReader l r').map (·.id) = l.map (·.id) :=
  Run.upd_keys Reader.id l r'

/-- Each case names the kinds whose tables the call touches; for the others `Vis` is unchanged by definition. -/
theorem delta {t t' : Tables} {c0 : Op} {rc : Rc} {o : Option Nat} (hev : TabStep t c0 rc o t')
    (hnd : ((expLive t).map (·.1)).Nodup) (href : Refs t) : Delta t t' (addOf c0 o) (delOf c0) := by
  obtain ⟨_, _, _, _, ndReaders, ndWriters, ndHttps⟩ := tables_nodup hnd
  cases hev with
  | same c0 rc hrel =>
    rw [addOf_none, delOf_of_not_release hrel]
    exact delta_same.2 fun _ _ => Iff.rfl
  | read fd c1 hf =>
    refine delta_add.2 fun k c => ?_
    cases k
    case rd => exact add_iff_of fun e => e ▸ fun r hr hc => hf _ (href.rdRef r hr _ hc) rfl
    all_goals exact frame_add nofun
  | write fd c1 hf =>
    refine delta_add.2 fun k c => ?_
    cases k
    case wr => exact add_iff_of fun e => e ▸ fun x hx hc => let ⟨wb, hwb⟩ := Run.ownW_some.1 hc; hf _ (href.wrRef x hx wb _ hwb) rfl
    all_goals exact frame_add nofun
  | accept fd c1 hf =>
    refine delta_add.2 fun k c => ?_
    cases k
    case acc => exact add_iff
    all_goals exact frame_add nofun
  | connect a tm s c1 k1 hk hf =>
    subst hk
    refine delta_add.2 fun k c => ?_
    cases k
    case conn => exact add_iff_of fun e => e ▸ fun x hx hc => let ⟨k, hk, e'⟩ := href.htRef x hx _ hc; hf k hk e'
    all_goals exact frame_add nofun
  | nbrInit fd c1 r hid hfd hc hf =>
    subst hid
    refine delta_add.2 fun k c => ?_
    cases k
    case nbr => exact add_iff
    case rd => exact (and_congr_right' (unowned_cons_none hc)).trans (frame_add nofun)
    all_goals exact frame_add nofun
  | nbwInit fd c1 x hid hfd hc hres hf =>
    subst hid
    have hown : Run.ownW x = none := by rw [Run.ownW, hc]; rfl
    refine delta_add.2 fun k c => ?_
    cases k
    case nbw => exact add_iff
    case wr => exact (and_congr_right' (unowned_cons_none hown)).trans (frame_add nofun)
    all_goals exact frame_add nofun
  | http c0 a l s x hd c1 ho k1 hc0 hk hfc hfx =>
    subst hk
    rw [show addOf c0 (some x) = some (.http, x) by rcases hc0 with rfl | ⟨hl, rfl⟩ <;> rfl,
      show delOf c0 = none by rcases hc0 with rfl | ⟨hl, rfl⟩ <;> rfl]
    refine delta_add.2 fun k c => ?_
    cases k
    case http => exact add_iff
    case conn =>
      exact (add_owned (not_mem_keys Conn.cookie hfc) (unowned_cons_some (own := Http.conn) rfl)).trans (frame_add nofun)
    all_goals exact frame_add nofun
  | readCancel c1 hun =>
    refine delta_del.2 fun k c => ?_
    cases k
    case rd => exact del_iff_of NetReq.cookie
    all_goals exact frame_del nofun
  | writeCancel c1 hun =>
    refine delta_del.2 fun k c => ?_
    cases k
    case wr => exact del_iff_of NetReq.cookie
    all_goals exact frame_del nofun
  | acceptCancel c1 =>
    refine delta_del.2 fun k c => ?_
    cases k
    case acc => exact del_iff NetReq.cookie
    all_goals exact frame_del nofun
  | connectCancel c1 hun =>
    refine delta_del.2 fun k c => ?_
    cases k
    case conn => exact del_iff_of Conn.cookie
    all_goals exact frame_del nofun
  | nbrUpd len rc r r' hr hc hid hfd hc' =>
    refine delta_same.2 fun k c => ?_
    cases k
    case rd => exact and_congr_right' (unowned_upd_same Reader.id ndReaders hr hid (hc'.trans hc.symm))
    case nbr => exact iff_of_eq (congrArg (c ∈ ·) (ids_updReader _ _))
    all_goals exact Iff.rfl
  | nbrRead len r r' c1 hr hc hid hfd hc' hf =>
    refine delta_same.2 fun k c => ?_
    cases k
    case rd =>
      exact add_owned (not_mem_keys NetReq.cookie hf) (unowned_upd_gain Reader.id ndReaders hr hid hc hc')
    case nbr => exact iff_of_eq (congrArg (c ∈ ·) (ids_updReader _ _))
    all_goals exact Iff.rfl
  | nbrCancel r hr =>
    refine delta_same.2 fun k c => ?_
    cases k
    case nbr =>
      exact iff_of_eq (congrArg (c ∈ ·) (ids_updReader _ _))
    case rd =>
      cases hrc : r.readCookie with
      | none =>
        exact and_congr_right' (unowned_upd_same Reader.id ndReaders hr
          (a' := { r with readCookie := none, immediate := false }) rfl hrc.symm)
      | some c1 =>
        refine drop_owned Reader.id NetReq.cookie ndReaders hr hrc ?_
        exact (forall_upd Reader.id (a' := { r with readCookie := none, immediate := false }) hr rfl _).trans
          (and_iff_left nofun)
    all_goals exact Iff.rfl
  | nbrFree r hr hc =>
    refine delta_del.2 fun k c => ?_
    cases k
    case nbr => exact del_iff Reader.id
    case rd => exact (and_congr_right' (unowned_filter_none Reader.id ndReaders hr hc)).trans (frame_del nofun)
    all_goals exact frame_del nofun
  | nbwReserve len x q hx hres hq =>
    refine delta_same.2 fun k c => ?_
    cases k
    case wr =>
      exact and_congr_right' (unowned_upd_same Writer.id ndWriters hx
        (a' := { x with reserved := true, queue := q }) rfl rfl)
    case nbw => exact iff_of_eq (congrArg (c ∈ ·) (updWriter_ids _ _))
    all_goals exact Iff.rfl
  | nbwUpd c0 rc len x x' hc0 hx hid hfd hres hc =>
    rw [addOf_none, show delOf c0 = none by rcases hc0 with rfl | rfl <;> rfl]
    refine delta_same.2 fun k c => ?_
    cases k
    case wr =>
      exact and_congr_right' (unowned_upd_same Writer.id ndWriters hx hid
        (show Run.ownW x' = Run.ownW x by rw [Run.ownW, Run.ownW, hc]))
    case nbw => exact iff_of_eq (congrArg (c ∈ ·) (updWriter_ids _ _))
    all_goals exact Iff.rfl
  | nbwStart c0 len x x' wb c1 hc0 hx hid hfd hres hc hc' hf =>
    rw [addOf_none, show delOf c0 = none by rcases hc0 with rfl | rfl <;> rfl]
    refine delta_same.2 fun k c => ?_
    cases k
    case wr =>
      exact add_owned (not_mem_keys NetReq.cookie hf) (unowned_upd_gain Writer.id ndWriters hx hid
        (own := Run.ownW) (by rw [Run.ownW, hc]; rfl) (by rw [Run.ownW, hc']; rfl))
    case nbw => exact iff_of_eq (congrArg (c ∈ ·) (updWriter_ids _ _))
    all_goals exact Iff.rfl
  | nbwFree x hx =>
    refine delta_del.2 fun k c => ?_
    cases k
    case nbw => exact del_iff Writer.id
    case wr =>
      refine Iff.trans ?_ (frame_del nofun)
      cases hcur : x.curr with
      | none =>
        exact and_congr_right' (unowned_filter_none Writer.id ndWriters hx (own := Run.ownW) (by rw [Run.ownW, hcur]; rfl))
      | some p =>
        exact drop_owned Writer.id NetReq.cookie ndWriters hx (own := Run.ownW) (by rw [Run.ownW, hcur]; rfl)
          (forall_filter_ne Writer.id x.id _)
    all_goals exact frame_del nofun
  | httpCancel x hx =>
    refine delta_del.2 fun k c => ?_
    cases k
    case http => exact del_iff Http.cookie
    case conn =>
      refine Iff.trans ?_ (frame_del nofun)
      cases hcur : x.conn with
      | none => exact and_congr_right' (unowned_filter_none Http.cookie ndHttps hx hcur)
      | some c1 => exact drop_owned Http.cookie Conn.cookie ndHttps hx hcur (forall_filter_ne Http.cookie x.cookie _)
    all_goals exact frame_del nofun

theorem add_fresh {t t' : Tables} {c0 : Op} {rc : Rc} {o : Option Nat} (hev : TabStep t c0 rc o t') :
    ∀ k c, addOf c0 o = some (k, c) → ¬ Vis t k c := by
  intro k c ha hv
  cases hev
  case http =>
    rename_i a0 l0 s0 x0 hd0 c1 ho0 k0 hk0 hfc0 hfx hc0
    rcases hc0 with h1 | ⟨hl, h1⟩
    all_goals
      rw [h1] at ha
      simp only [addOf, Option.some.injEq, Prod.mk.injEq] at ha
      obtain ⟨rfl, rfl⟩ := ha
      simp only [Vis, List.mem_map] at hv
      obtain ⟨a, ha, he⟩ := hv
      exact hfx a ha he
  all_goals simp only [addOf, Option.some.injEq, Prod.mk.injEq, reduceCtorEq] at ha
  all_goals (obtain ⟨rfl, rfl⟩ := ha; simp only [Vis, List.mem_map] at hv)
  case read hf => obtain ⟨⟨a, ha, he⟩, _⟩ := hv; exact hf a ha he
  case write hf => obtain ⟨⟨a, ha, he⟩, _⟩ := hv; exact hf a ha he
  case accept hf => obtain ⟨a, ha, he⟩ := hv; exact hf a ha he
  case connect hf => obtain ⟨⟨a, ha, he⟩, _⟩ := hv; exact hf a ha he
  case nbrInit hf => obtain ⟨a, ha, he⟩ := hv; exact hf a ha he
  case nbwInit hf => obtain ⟨a, ha, he⟩ := hv; exact hf a ha he

def fdOf : Op → Option Nat
  | .read fd | .write fd | .accept fd | .nbrInit fd | .nbwInit fd => some fd
  | _ => none

/-- a property of descriptors that holds of the one the call names is kept: by the buffered readers, by the
buffered writers, and (a write a writer starts is on the writer's descriptor) by the outstanding writes -/
theorem fds_ev {P : Nat → Prop} {t t' : Tables} {c0 : Op} {rc : Rc} {o : Option Nat} (hev : TabStep t c0 rc o t')
    (hnew : ∀ fd, fdOf c0 = some fd → P fd) :
    ((∀ r ∈ t.readers, P r.fd) → ∀ r ∈ t'.readers, P r.fd) ∧
    ((∀ x ∈ t.writers, P x.fd) → (∀ x ∈ t'.writers, P x.fd) ∧
      ((∀ a ∈ t.writes, P a.fd) → ∀ a ∈ t'.writes, P a.fd)) := by
  have filt : ∀ {α : Type} {l : List α} {p : α → Bool} {Q : α → Prop}, (∀ y ∈ l, Q y) → ∀ y ∈ l.filter p, Q y :=
    fun h y hy => h y (List.mem_filter.1 hy).1
  cases hev
  case write fd c hf => exact ⟨id, fun hx => ⟨hx, fun hw => List.forall_mem_cons.2 ⟨hnew fd rfl, hw⟩⟩⟩
  case nbrInit fd c r hid hfd hc hf =>
    exact ⟨fun hr => List.forall_mem_cons.2 ⟨hfd ▸ hnew fd rfl, hr⟩, fun hx => ⟨hx, id⟩⟩
  case nbwInit fd c x hid hfd hc hres hf =>
    exact ⟨id, fun hx => ⟨List.forall_mem_cons.2 ⟨hfd ▸ hnew fd rfl, hx⟩, id⟩⟩
  case writeCancel c hun => exact ⟨id, fun hx => ⟨hx, filt⟩⟩
  case nbrUpd len r r' hr hc hid hfd hc' =>
    exact ⟨fun h => (forall_upd Reader.id hr hid _).2 ⟨fun y hy _ => h y hy, hfd ▸ h r hr⟩, fun hx => ⟨hx, id⟩⟩
  case nbrRead len r r' c hr hc hid hfd hc' hf =>
    exact ⟨fun h => (forall_upd Reader.id hr hid _).2 ⟨fun y hy _ => h y hy, hfd ▸ h r hr⟩, fun hx => ⟨hx, id⟩⟩
  case nbrCancel r hr =>
    exact ⟨fun h => (forall_upd Reader.id (a' := { r with readCookie := none, immediate := false }) hr rfl _).2
      ⟨fun y hy _ => h y hy, h r hr⟩, fun hx => ⟨hx, id⟩⟩
  case nbrFree r hr hc => exact ⟨filt, fun hx => ⟨hx, id⟩⟩
  case nbwReserve len x q hx hres hq =>
    exact ⟨id, fun h => ⟨(forall_upd Writer.id (a' := { x with reserved := true, queue := q }) hx rfl _).2
      ⟨fun y hy _ => h y hy, h x hx⟩, id⟩⟩
  case nbwUpd len x x' hx hid hfd hres hc hc0 =>
    exact ⟨id, fun h => ⟨(forall_upd Writer.id hx hid _).2 ⟨fun y hy _ => h y hy, hfd ▸ h x hx⟩, id⟩⟩
  case nbwStart len x x' wb c hx hid hfd hres hc hc' hf hc0 =>
    exact ⟨id, fun h => ⟨(forall_upd Writer.id hx hid _).2 ⟨fun y hy _ => h y hy, hfd ▸ h x hx⟩,
      fun hw => List.forall_mem_cons.2 ⟨h x hx, hw⟩⟩⟩
  case nbwFree x hx =>
    refine ⟨id, fun h => ⟨filt h, fun hw => ?_⟩⟩
    cases x.curr with
    | none => exact hw
    | some p => exact filt hw
  all_goals exact ⟨id, fun hx => ⟨hx, id⟩⟩

/-- what a library call adds to the number of outstanding connects, at most -/
def connCost : Op → Nat
  | .connect _ _ _ => 1
  | .http _ _ _ => 1
  | .https _ _ _ _ => 1
  | _ => 0

theorem conns_ev {t t' : Tables} {c0 : Op} {rc : Rc} {o : Option Nat} (hev : TabStep t c0 rc o t') :
    t'.conns.length ≤ t.conns.length + connCost c0 := by
  cases hev
  case connect => exact Nat.le_refl _
  case http hc0 => rcases hc0 with rfl | ⟨hl, rfl⟩ <;> exact Nat.le_refl _
  case connectCancel => exact Nat.le_trans (List.length_filter_le _ _) (Nat.le_add_right _ _)
  case httpCancel x hx =>
    refine Nat.le_trans ?_ (Nat.le_add_right _ _)
    cases x.conn with
    | none => exact Nat.le_refl _
    | some c => exact List.length_filter_le _ _
  all_goals exact Nat.le_add_right _ _

theorem reserved_ev {t t' : Tables} {c0 : Op} {rc : Rc} {o : Option Nat} (hev : TabStep t c0 rc o t') :
    ∀ y ∈ t'.writers, y.reserved = true → y ∈ t.writers ∨
      (∃ x len, c0 = .nbwReserve x.id len ∧ rc = .ok ∧ x ∈ t.writers ∧ x.reserved = false ∧ y.id = x.id ∧
        ∃ wb, y.queue.getLast? = some wb ∧ len ≤ wb.buflen - wb.datalen) := by
  cases hev
  case nbwInit fd c x hid hfd hc hres hf =>
    intro y hy hr
    rcases List.mem_cons.1 hy with rfl | hy
    · rw [hres] at hr; cases hr
    · exact Or.inl hy
  case nbwReserve len x q hx hres hq =>
    show ∀ y ∈ updWriter t.writers { x with reserved := true, queue := q }, _
    unfold updWriter
    rw [forall_upd Writer.id (a' := { x with reserved := true, queue := q }) hx rfl]
    exact ⟨fun y hy _ _ => Or.inl hy, fun _ => Or.inr ⟨x, len, rfl, rfl, hx, hres, rfl, hq⟩⟩
  case nbwUpd len x x' hx hid hfd hres hc hc0 =>
    show ∀ y ∈ updWriter t.writers x', _
    unfold updWriter
    rw [forall_upd Writer.id hx hid]
    exact ⟨fun y hy _ _ => Or.inl hy, fun h => by rw [hres] at h; cases h⟩
  case nbwStart len x x' wb c hx hid hfd hres hc hc' hf hc0 =>
    show ∀ y ∈ updWriter t.writers x', _
    unfold updWriter
    rw [forall_upd Writer.id hx hid]
    exact ⟨fun y hy _ _ => Or.inl hy, fun h => by rw [hres] at h; cases h⟩
  case nbwFree x hx =>
    exact fun y hy _ => Or.inl (List.mem_filter.1 hy).1
  all_goals exact fun y hy _ => Or.inl hy

end Percival.Proofs.UpMonSound
