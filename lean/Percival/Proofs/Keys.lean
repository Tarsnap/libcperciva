/-! Tables keyed by an id: a list `l` whose keys `l.map f` are distinct.  What the clusters with such tables (timer and
    immediate registries, the allocation monitor's tables, the event monitors, suffix tables) need of them, once. -/
namespace Percival.Proofs.Keys

variable {α κ : Type} {f : α → κ} {l : List α}

theorem inj (h : (l.map f).Nodup) {a b : α} (ha : a ∈ l) (hb : b ∈ l) (hf : f a = f b) : a = b := by
  induction l with
  | nil => cases ha
  | cons x xs ih =>
    rw [List.map_cons, List.nodup_cons] at h
    rcases List.mem_cons.mp ha with rfl | ha' <;> rcases List.mem_cons.mp hb with rfl | hb'
    · rfl
    · exact absurd (List.mem_map.mpr ⟨b, hb', hf.symm⟩) h.1
    · exact absurd (List.mem_map.mpr ⟨a, ha', hf⟩) h.1
    · exact ih h.2 ha' hb'

theorem nodup (h : (l.map f).Nodup) : l.Nodup := by
  induction l with
  | nil => exact List.nodup_nil
  | cons x xs ih =>
    rw [List.map_cons, List.nodup_cons] at h
    exact List.nodup_cons.mpr ⟨fun hm => h.1 (List.mem_map_of_mem hm), ih h.2⟩

theorem filter (p : α → Bool) (h : (l.map f).Nodup) : ((l.filter p).map f).Nodup :=
  h.sublist (List.filter_sublist.map f)

theorem find [BEq κ] [LawfulBEq κ] (h : (l.map f).Nodup) {a : α} (ha : a ∈ l) : l.find? (fun y => f y == f a) = some a := by
  cases hfind : l.find? (fun y => f y == f a) with
  | none => exact absurd (List.find?_eq_none.mp hfind a ha) (by simp)
  | some b => rw [inj h (List.mem_of_find?_eq_some hfind) ha (by simpa using List.find?_some hfind)]

theorem find_iff [BEq κ] [LawfulBEq κ] (h : (l.map f).Nodup) {k : κ} {a : α} :
    l.find? (fun y => f y == k) = some a ↔ a ∈ l ∧ f a = k :=
  ⟨fun hf => ⟨List.mem_of_find?_eq_some hf, by simpa using List.find?_some hf⟩, fun ⟨ha, hk⟩ => hk ▸ find h ha⟩

theorem perm_filter [BEq κ] [LawfulBEq κ] (h : (l.map f).Nodup) {a : α} (ha : a ∈ l) :
    l.Perm (a :: l.filter (fun x => f x != f a)) := by
  induction l with
  | nil => cases ha
  | cons x xs ih =>
    rw [List.map_cons, List.nodup_cons] at h
    rcases List.mem_cons.mp ha with rfl | ha'
    · have : xs.filter (fun y => f y != f a) = xs :=
        List.filter_eq_self.mpr fun y hy => by
          have : f y ≠ f a := fun e => h.1 (e ▸ List.mem_map_of_mem hy)
          simpa using this
      simp [this]
    · have hne : f x ≠ f a := fun e => h.1 (e ▸ List.mem_map_of_mem ha')
      rw [List.filter_cons, if_pos (by simpa using hne)]
      exact ((ih h.2 ha').cons x).trans (List.Perm.swap a x _)

theorem length_filter [BEq κ] [LawfulBEq κ] (h : (l.map f).Nodup) {a : α} (ha : a ∈ l) :
    (l.filter (fun x => f x != f a)).length + 1 = l.length :=
  (perm_filter h ha).length_eq.symm

theorem lookup_cons {β : Type} [DecidableEq κ] (k k' : κ) (x : β) (t : List (κ × β)) :
    (((k, x) :: t).find? (fun p => p.1 == k')).map (·.2) =
      if k' = k then some x else (t.find? (fun p => p.1 == k')).map (·.2) := by
  rw [List.find?_cons]
  by_cases h : k' = k
  · rw [if_pos h, h, beq_self_eq_true]; rfl
  · rw [if_neg h, beq_false_of_ne (Ne.symm h)]

theorem lookup_mem {β : Type} [BEq κ] [LawfulBEq κ] {t : List (κ × β)} {k : κ} {x : β}
    (h : (t.find? (fun p => p.1 == k)).map (·.2) = some x) : (k, x) ∈ t := by
  obtain ⟨p, hp, rfl⟩ := Option.map_eq_some_iff.1 h
  have hk : p.1 = k := beq_iff_eq.1 (List.find?_some (p := fun q : κ × β => q.1 == k) hp)
  exact hk ▸ List.mem_of_find?_eq_some hp

theorem lookup_iff {β : Type} [BEq κ] [LawfulBEq κ] {t : List (κ × β)} (h : (t.map (·.1)).Nodup) {k : κ} {x : β} :
    (t.find? (fun p => p.1 == k)).map (·.2) = some x ↔ (k, x) ∈ t :=
  ⟨lookup_mem, fun hm => congrArg (Option.map (·.2)) (find (f := Prod.fst) h hm)⟩

end Percival.Proofs.Keys
