import Percival.Proofs.GetoptStep
/-! Every `getopt` call that reports an option moves the cursor forward (C18, termination). -/
namespace Percival.Proofs.Getopt
open Percival.Spec.Getopt Percival.Model.Getopt

def Frame (t t' : St) : Prop :=
  t'.optreset = t.optreset ∧ t'.initialized = t.initialized ∧ t'.opts = t.opts ∧ t'.nopts = t.nopts ∧
  t'.optDefault = t.optDefault ∧ t'.optMissing = t.optMissing

/-- how one completed option changes the cursor: nothing moved, or the rest of a pack was taken,
    or the following word was taken -/
def Effect (argv : List Str) (t t' : St) : Prop :=
  Frame t t' ∧
  ((t'.packed = t.packed ∧ t'.optind = t.optind) ∨
   (t.packed ≠ none ∧ t'.packed = none ∧ t'.optind = t.optind + 1) ∨
   (t.packed = none ∧ t'.packed = none ∧ t'.optind = t.optind + 1 ∧ t.optind < argv.length))

theorem takeArg_effect {argv : List Str} {t t' : St} {os : Str} {e : Slot}
    (h : takeArg argv t os e = .ok t') : Effect argv t t' := by
  unfold takeArg at h
  cases hp : t.packed with
  | some ij =>
    -- inside a pack: the rest of the word is the argument and the pack ends (or the cursor is outside: `oob`)
    obtain ⟨i, j⟩ := ij
    simp only [hp, bind, Except.bind] at h
    cases ha : arg argv i with
    | error e => simp [ha] at h
    | ok w =>
      simp only [ha] at h
      split at h
      · cases hr : rd os e.olen with
        | error e => simp [hr, pure, Except.pure] at h
        | ok c =>
          simp only [hr, pure, Except.pure] at h
          by_cases hc : (c == eqc) = true <;> simp [hc] at h <;> subst h <;> simp [Effect, Frame, hp]
      · simp [throw, throwThe, MonadExceptOf.throw] at h
  | none =>
    -- at a word boundary: `=value` moves nothing; else the next word is taken if there is one; else nothing moves
    simp only [hp, bind, Except.bind, pure, Except.pure] at h
    cases hr : rd os e.olen with
    | error e => simp [hr] at h
    | ok c =>
      simp only [hr] at h
      by_cases hc : (c == eqc) = true
      · simp [hc] at h; subst h; simp [Effect, Frame, hp]
      · simp only [hc] at h
        by_cases hcond : (t.optarg.isNone && decide (t.optind < argv.length)) = true
        · simp only [Bool.false_eq_true, if_false, hcond, if_true] at h
          cases ha : arg argv t.optind with
          | error e => simp [ha] at h
          | ok w =>
            simp [ha] at h
            subst h
            simp at hcond
            simp [Effect, Frame, hp, hcond.2]
        · simp only [Bool.false_eq_true, if_false, hcond] at h
          split at h <;> simp at h <;> subst h <;> simp [Effect, Frame, hp]

theorem finishOpt_effect {argv : List Str} {t t' : St} {os : Str} {r : Ret}
    (h : finishOpt argv t os = .ok (r, t')) : Effect argv t t' := by
  unfold finishOpt at h
  simp only [bind, Except.bind, pure, Except.pure] at h
  cases hs : searchopt t os with
  | error e => simp [hs] at h
  | ok found =>
    simp only [hs] at h
    split at h
    · simp at h; obtain ⟨_, rfl⟩ := h; simp [Effect, Frame]
    · cases hsl : slot { t with optFound := found } found with
      | error e => simp [hsl] at h
      | ok e =>
        simp only [hsl] at h
        split at h
        · cases hta : takeArg argv { t with optFound := found } os e with
          | error e => simp [hta] at h
          | ok t2 =>
            simp [hta] at h
            obtain ⟨_, rfl⟩ := h
            have := takeArg_effect hta
            simpa [Effect, Frame] using this
        · cases hr : rd os e.olen with
          | error e => simp [hr] at h
          | ok c =>
            simp [hr] at h
            obtain ⟨_, rfl⟩ := h
            split <;> simp [Effect, Frame]

theorem inv_of_frame {lines : List Line} {t t' : St} (h : Inv lines t) (f : Frame t t') : Inv lines t' := by
  obtain ⟨f1, f2, f3, f4, f5, f6⟩ := f
  exact ⟨f1 ▸ h.reset, f2 ▸ h.init, f3 ▸ h.opts, f4 ▸ h.nopts, f5 ▸ h.dflt, f6 ▸ h.miss⟩

theorem finishOpt_cursor {lines : List Line} {argv : List Str} {t t' : St} {os : Str} {r : Ret}
    (hinv : Inv lines t) (hc : CursorOK argv t) (hf : finishOpt argv t os = .ok (r, t')) :
    CursorOK argv t' ∧ Inv lines t' ∧ (t.optind < t'.optind ∨ (t.optind = t'.optind ∧ offset t ≤ offset t')) := by
  obtain ⟨hfr, heff⟩ := finishOpt_effect hf
  refine ⟨?_, inv_of_frame hinv hfr, ?_⟩ <;> rcases heff with ⟨e1, e2⟩ | ⟨e1, e2, e3⟩ | ⟨_, e2, e3, e4⟩
  · exact ⟨e2 ▸ hc.1, fun i j h => e2 ▸ hc.2 i j (e1 ▸ h)⟩
  · -- a pack cursor stands in a word, so there is a next index
    cases hp : t.packed with
    | none => exact absurd hp e1
    | some ij =>
      obtain ⟨hi, w, hw, _⟩ := hc.2 ij.1 ij.2 hp
      have := lt_of_getElem? hw
      exact ⟨by omega, fun i j h => by rw [e2] at h; cases h⟩
  · exact ⟨by omega, fun i j h => by rw [e2] at h; cases h⟩
  · exact .inr ⟨e2.symm, by simp only [offset, e1, Nat.le_refl]⟩
  · exact .inl (by omega)
  · exact .inl (by omega)

/-- **Progress.**  At an initialised state whose cursor is inside `argv`, a `getopt` call that returns
    an option string leaves the cursor inside `argv` and strictly further on (next word, or same word
    and a larger offset): the part before the search moves it on (`Fetch`), `finishOpt` does not move it back. -/
theorem getopt_progress {lines : List Line} {argv : List Str} (hnul : ∀ a ∈ argv, NulFree a)
    {s s' : St} {ch : Str} (hinv : Inv lines s) (hc : CursorOK argv s)
    (h : Model.Getopt.getopt argv s = .ok (.os ch, s')) :
    CursorOK argv s' ∧ Inv lines s' ∧
      (s.optind < s'.optind ∨ (s.optind = s'.optind ∧ offset s < offset s')) := by
  have hlt : s.optind < argv.length := by
    by_cases hlt : s.optind < argv.length
    · exact hlt
    · rw [getopt_end hinv (by omega)] at h; cases h
  obtain ⟨w, hw⟩ : ∃ w, argv[s.optind]? = some w := ⟨argv[s.optind], by simp [hlt]⟩
  -- from the call state `t`, which is further on than `s`
  have fin : ∀ {t : St} {os : Str}, finishOpt argv t os = .ok (.os ch, s') → Inv lines t → CursorOK argv t →
      (s.optind < t.optind ∨ (s.optind = t.optind ∧ offset s < offset t)) →
      CursorOK argv s' ∧ Inv lines s' ∧ (s.optind < s'.optind ∨ (s.optind = s'.optind ∧ offset s < offset s')) := by
    intro t os hf hi hct hadv
    obtain ⟨h1, h2, h3⟩ := finishOpt_cursor hi hct hf
    exact ⟨h1, h2, by omega⟩
  cases getopt_fetch hinv hc hw (hnul w (List.mem_of_getElem? hw)) with
  | stop c _ _ hg => rw [hg] at h; cases h
  | long hp _ hg =>
    rw [hg] at h
    exact fin h (inv_update hinv _ _ _ _) ⟨hlt, fun i j h => by rw [hp] at h; cases h⟩ (.inl (Nat.lt_succ_self _))
  | char p c cs hsplit _ hp1 hcur hg =>
    rw [hg] at h
    have hoff : offset s < p.length + 1 := by
      rcases hcur with ⟨hp, _⟩ | hp <;> simp only [offset, hp] <;> omega
    cases cs with
    | nil => exact fin h (inv_update hinv _ _ _ _) ⟨hlt, fun i j h => by cases h⟩ (.inl (Nat.lt_succ_self _))
    | cons d cs =>
      refine fin h (inv_update hinv _ _ _ _) ⟨Nat.le_of_lt hlt, fun i j h => ?_⟩ (.inr ⟨rfl, hoff⟩)
      cases h
      exact ⟨rfl, w, hw, by omega, by rw [hsplit]; simp⟩

theorem ready_cursorOK (lines : List Line) (argv : List Str) (s : St) (h : 1 ≤ argv.length) :
    CursorOK argv (ready lines argv s) :=
  ⟨h, by intro i j hp; simp [ready, reset] at hp⟩

end Percival.Proofs.Getopt
