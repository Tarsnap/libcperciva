import Percival.Proofs.AfMonHeap
import Percival.Proofs.AfMonReg
import Percival.Proofs.AfMonRun
import Percival.Proofs.AfMonEnd
/-!
# C14: the monitor `pmodel afmon` accepts every answer of the model `pmodel af` — assembly

The state relation `Rel` is the conjunction of four pieces:

* `HeapRel` (`Proofs/AfMonHeap.lean`): the monitor's multiset of live elements and keys is the model's heap, which
  satisfies C13's heap invariant and the storage invariant;
* `RegRel`, `DlRel`, `AcctRel` (`Proofs/AfMonRel.lean`): the monitor's ideal registry is what is registered in the
  model's event layer, whose own invariants hold; every timer's record in the timer queue carries the deadline the
  monitor remembers and the immediate queues' `minq` is sound; the allocator's count of live blocks is exactly what the
  event layer and the heap hold, and the harness knows every descriptor registration.  Together they say
  `EvAbs s.ev s.m ms.reg` (`Proofs/AfMonAbs.lean`), plus the clocks, the counter and the descriptor list (`rel_iff`).

A line that is not `end` is a line of the event layer (`AfMonRun.ev_line`: everything about it is read off `EvLine`), a
heap line (`AfMonHeap.heap_lines`: read off `HeapLine`) or the clock.  `end`: `AfMonEnd.release_live`.

Well-formedness of a case: `end` at most as the last line (it resets the monitor's keys but not the model's), and
`reg_imm` with a priority below 32 (`OpOk`; the C asserts it; with a priority ≥ 32 the model registers nothing,
answers `ok` and keeps the two blocks, so a following `end` would be rejected).
-/
namespace Percival.Proofs.AfMonSound
open Percival.Model Percival.Model.AfStep
open Percival.Spec.AfMon (Op Ans MState monStep acceptsRun)
open Percival.Proofs.AfMonRel Percival.Proofs.AfMonHeap Percival.Proofs.AfMonAbs
open Percival.Proofs.AfMonReg (answered)
open Percival.Proofs.AfMonRun (DlRel regRel_init dlRel_init)
open Percival.Proofs.AfMonEnd (AcctRel OpOk heapBlocks acctRel_init release_live end_accepted)
open Percival.Proofs.EvRegAcct (evBlocks)

def EndLast : List Op → Prop
  | [] => True
  | [_] => True
  | op :: rest => op ≠ .end_ ∧ EndLast rest

def OpsOk (ops : List Op) : Prop := EndLast ops ∧ ∀ op ∈ ops, OpOk op

structure Rel (s : S) (ms : MState) : Prop where
  heap : HeapRel s ms
  reg : RegRel s ms
  dl : DlRel s ms
  acct : AcctRel s

theorem rel_init : Rel {} {} := ⟨heapRel_init, regRel_init, dlRel_init, acctRel_init⟩

/-- the relation in the terms the proofs work in: the heap piece; the clocks agree; the monitor's registry describes the
event layer; every live block is a block of the event layer or of the pointer heap; the harness' list has every
descriptor registration -/
theorem rel_iff {s : S} {ms : MState} : Rel s ms ↔ HeapRel s ms ∧ ms.now = s.now ∧ EvAbs s.ev s.m ms.reg ∧
    s.m.live = evBlocks s.ev + heapBlocks s.h ∧ Covers ms.reg s.net := by
  constructor
  · exact fun h => ⟨h.heap, h.reg.now, evAbs_of h.reg h.dl h.acct.acct, h.acct.live,
      fun fd w id hx => h.acct.net fd w ⟨id, (h.reg.net fd w id).mp hx⟩⟩
  · rintro ⟨hh, hnow, ha, hl, hc⟩
    exact ⟨hh, (regDl_of hnow ha).1, (regDl_of hnow ha).2, hl, ha.net.acct, ha.imm.inv.len,
      fun fd w ⟨id, hid⟩ => hc fd w id ((ha.net.net fd w id).mpr hid)⟩

theorem step_sound (s : S) (ms : MState) (op : Op) (hop : op ≠ .end_) (hok : OpOk op) (h : Rel s ms) :
    Accepts s ms op ∧ Rel (next s ms op).1 (next s ms op).2 := by
  obtain ⟨hH, hnow, habs, hlive, hcov⟩ := rel_iff.mp h
  -- a heap line: everything is read off `HeapLine`; the event layer is untouched, the oracle only advanced
  have heap : AfMonReg.isHeapOp op = true → Accepts s ms op ∧ Rel (next s ms op).1 (next s ms op).2 := fun hh => by
    obtain ⟨hacc, m', h', _, _, _, _, hn, hrel, hc⟩ := heap_lines hH op hh
    rw [hn]
    exact ⟨hacc, rel_iff.mpr ⟨hrel, hnow, habs.mono hc.step.n,
      by have := hc.live; show m'.live = evBlocks s.ev + heapBlocks h'; omega, hcov⟩⟩
  -- a line of the event layer: everything is read off `EvLine`; the heap piece is untouched
  have ev : AfMonReg.isHeapOp op = false → (¬ ∃ us, op = .clock us) →
      Accepts s ms op ∧ Rel (next s ms op).1 (next s ms op).2 := fun hh hc => by
    obtain ⟨hacc, e', m', _, _, hn, ha, hlv, hcv⟩ := AfMonRun.ev_line hnow habs op hh hop hc
    rw [hn]
    exact ⟨hacc, rel_iff.mpr ⟨⟨hH.keys, hH.noHeap, hH.heap⟩, hnow, ha,
      by have := hlv hok; show m'.live = evBlocks e' + heapBlocks s.h; omega, hcv hcov⟩⟩
  cases op with
  | end_ => exact absurd rfl hop
  | clock us =>
    exact ⟨rfl, rel_iff.mpr ⟨⟨hH.keys, hH.noHeap, hH.heap⟩, congrArg (· + us) hnow, habs, hlive, hcov⟩⟩
  | hInit | hAdd _ _ | hMin | hDelmin | hFree | hCreate _ => exact heap rfl
  | _ => exact ev rfl (fun ⟨_, hc⟩ => by cases hc)

theorem end_live (s : S) (ms : MState) (h : Rel s ms) : (releaseAll s).m.live = 0 := by
  obtain ⟨_, _, habs, hlive, hcov⟩ := rel_iff.mp h
  exact release_live s habs hlive hcov

theorem end_sound (s : S) (ms : MState) (h : Rel s ms) : Accepts s ms .end_ := end_accepted s ms (end_live s ms h)

theorem sound_from : ∀ (ops : List Op) (s : S) (ms : MState), OpsOk ops → Rel s ms →
    acceptsRun ms (answered s ops) = true
  | [], _, _, _, _ => rfl
  | op :: rest, s, ms, hok, h => by
    by_cases hop : op = .end_
    · subst hop
      have hrest : rest = [] := by
        cases rest with
        | nil => rfl
        | cons o r => exact absurd rfl hok.1.1
      subst hrest
      rw [AfMonReg.acceptsRun_cons s ms .end_ [] (end_sound s ms h)]
      rfl
    · obtain ⟨hacc, h'⟩ := step_sound s ms op hop (hok.2 op List.mem_cons_self) h
      have hok' : OpsOk rest := by
        refine ⟨?_, fun o ho => hok.2 o (List.mem_cons_of_mem _ ho)⟩
        cases rest with
        | nil => trivial
        | cons o r => exact hok.1.2
      rw [AfMonReg.acceptsRun_cons s ms op rest hacc]
      exact sound_from rest _ _ hok' h'

theorem sound (ops : List Op) (hok : OpsOk ops) : acceptsRun {} (answered {} ops) = true :=
  sound_from ops {} {} hok rel_init

theorem rel_run : ∀ (ops : List Op) (s : S) (ms : MState), (∀ op ∈ ops, op ≠ .end_ ∧ OpOk op) → Rel s ms →
    Rel (ops.foldl (fun p op => next p.1 p.2 op) (s, ms)).1 (ops.foldl (fun p op => next p.1 p.2 op) (s, ms)).2
  | [], _, _, _, h => h
  | op :: rest, s, ms, hops, h => by
    have h' := (step_sound s ms op (hops op List.mem_cons_self).1 (hops op List.mem_cons_self).2 h).2
    exact rel_run rest _ _ (fun o ho => hops o (List.mem_cons_of_mem _ ho)) h'

end Percival.Proofs.AfMonSound
