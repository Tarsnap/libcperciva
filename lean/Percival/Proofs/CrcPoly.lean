import Percival.Spec.Crc32c
import Percival.Proofs.Bits
/-! GF(2) polynomial lemmas for `Spec.Crc32c`: remainder is linear, long division is a shift
register, `crc32c` satisfies `Valid`. -/
namespace Percival.Proofs.CrcPoly
open Percival.Spec Percival.Spec.Crc32c Percival.Proofs.Bits

/-- coefficientwise sum of two polynomials of the same degree bound -/
def zx (a b : Poly) : Poly := List.zipWith (· ^^ ·) a b

theorem zx_cons (x y : Bool) (xs ys : Poly) : zx (x :: xs) (y :: ys) = (x ^^ y) :: zx xs ys := rfl

theorem addFront_length (a g : Poly) : (addFront a g).length = a.length := by
  fun_induction addFront a g <;> simp_all

theorem zx_length (a b : Poly) (h : a.length = b.length) : (zx a b).length = a.length := by
  simp [zx, h]

theorem addFront_zx_left (a b g : Poly) (h : a.length = b.length) :
    addFront (zx a b) g = zx (addFront a g) b := by
  induction a generalizing b g with
  | nil => cases b <;> cases g <;> simp [zx, addFront]
  | cons x xs ih =>
    cases b with
    | nil => simp at h
    | cons y ys =>
      cases g with
      | nil => simp [zx, addFront]
      | cons z zs =>
        rw [zx_cons, addFront, addFront, zx_cons, ih ys zs (by simpa using h)]
        congr 1
        cases x <;> cases y <;> cases z <;> rfl

theorem zx_comm (a b : Poly) : zx a b = zx b a := by
  unfold zx
  rw [List.zipWith_comm]
  congr 1; funext x y; exact Bool.xor_comm _ _

theorem addFront_zx_right (a b g : Poly) (h : a.length = b.length) :
    addFront (zx a b) g = zx a (addFront b g) := by
  rw [zx_comm, addFront_zx_left _ _ _ h.symm, zx_comm]

theorem zx_addFront_both (a b g : Poly) (h : a.length = b.length) :
    zx (addFront a g) (addFront b g) = zx a b := by
  induction a generalizing b g with
  | nil => cases b <;> cases g <;> simp [zx, addFront]
  | cons x xs ih =>
    cases b with
    | nil => simp at h
    | cons y ys =>
      cases g with
      | nil => simp [addFront]
      | cons z zs =>
        rw [zx_cons, addFront, addFront, zx_cons, ih ys zs (by simpa using h)]
        congr 1
        cases x <;> cases y <;> cases z <;> rfl

set_option linter.unusedSimpArgs false in
theorem reduce_zx (gt : Poly) (n : Nat) (a b : Poly) (h : a.length = b.length) :
    reduce gt n (zx a b) = zx (reduce gt n a) (reduce gt n b) := by
  induction n generalizing a b with
  | zero => simp [reduce]
  | succ n ih =>
    cases a with
    | nil =>
      cases b with
      | nil => simp [zx, reduce]
      | cons _ _ => simp at h
    | cons x xs =>
      cases b with
      | nil => simp at h
      | cons y ys =>
        have hl : xs.length = ys.length := by simpa using h
        cases x <;> cases y <;> simp only [zx_cons, Bool.xor_false, Bool.xor_true,
          Bool.not_true, Bool.not_false, Bool.false_xor, Bool.true_xor, reduce]
        · exact ih xs ys hl
        · rw [addFront_zx_right xs ys gt hl]
          exact ih xs _ (by rw [addFront_length]; exact hl)
        · rw [addFront_zx_left xs ys gt hl]
          exact ih _ ys (by rw [addFront_length]; exact hl)
        · rw [← ih _ _ (by simp [addFront_length, hl]), zx_addFront_both xs ys gt hl]

theorem reduce_zeros (gt : Poly) (n : Nat) (c : Poly) : reduce gt n (List.replicate n false ++ c) = c := by
  induction n with
  | zero => simp [reduce]
  | succ n ih => simp only [List.replicate_succ, List.cons_append, reduce]; exact ih

theorem zx_self (c : Poly) : zx c c = List.replicate c.length false := by
  induction c with
  | nil => rfl
  | cons x xs ih => rw [zx_cons, ih, Bool.xor_self]; rfl

theorem zx_zeros_right (a : Poly) : zx a (List.replicate a.length false) = a := by
  induction a with
  | nil => rfl
  | cons x xs ih =>
    rw [List.length_cons, List.replicate_succ, zx_cons, ih, Bool.xor_false]

theorem zx_zeros_left (a : Poly) : zx (List.replicate a.length false) a = a := by
  rw [zx_comm, zx_zeros_right]

theorem addFront_eq_zx_pad (a g : Poly) (h : g.length ≤ a.length) :
    addFront a g = zx (g ++ List.replicate (a.length - g.length) false) a := by
  induction a generalizing g with
  | nil => cases g with
    | nil => rfl
    | cons _ _ => simp at h
  | cons x xs ih =>
    cases g with
    | nil => rw [addFront]; exact (zx_zeros_left (x :: xs)).symm
    | cons y ys =>
      rw [addFront, ih ys (Nat.le_of_succ_le_succ h), Bool.xor_comm]
      simp [zx]

theorem addFront_eq_zx (a g : Poly) (h : a.length = g.length) : addFront a g = zx a g := by
  rw [addFront_eq_zx_pad a g (Nat.le_of_eq h.symm), h, Nat.sub_self, List.replicate_zero, List.append_nil, zx_comm]

theorem zx_append (a b c d : Poly) (h : a.length = c.length) : zx (a ++ b) (c ++ d) = zx a c ++ zx b d := by
  unfold zx
  exact List.zipWith_append h

theorem reduce_length (gt : Poly) (n : Nat) (a : Poly) (h : n ≤ a.length) :
    (reduce gt n a).length = a.length - n := by
  induction n generalizing a with
  | zero => simp [reduce]
  | succ n ih =>
    cases a with
    | nil => simp at h
    | cons x xs =>
      cases x <;> simp only [reduce]
      · rw [ih xs (by simpa using h)]; simp
      · rw [ih _ (by rw [addFront_length]; simpa using h), addFront_length]; simp

/-- appending the remainder of `m·x^k` (`k = gt.length`) to `m` gives a multiple of `g` -/
theorem reduce_append_rem (gt m : Poly) :
    reduce gt m.length (m ++ reduce gt m.length (m ++ List.replicate gt.length false))
      = List.replicate gt.length false := by
  have hcl : (reduce gt m.length (m ++ List.replicate gt.length false)).length = gt.length := by
    rw [reduce_length _ _ _ (by simp)]; simp
  generalize hc : reduce gt m.length (m ++ List.replicate gt.length false) = c at *
  have hsplit : m ++ c = zx (m ++ List.replicate gt.length false) (List.replicate m.length false ++ c) := by
    rw [zx_append _ _ _ _ (by simp), zx_zeros_right, ← hcl, zx_zeros_left]
  rw [hsplit, reduce_zx _ _ _ _ (by simp [hcl]), reduce_zeros, hc, zx_self, hcl]

/-- one step of the (list) shift register of width `gt.length`: shift in a zero, feed back
    `head ⊕ input` -/
def lstep (gt : Poly) (st : Poly) (b : Bool) : Poly :=
  let sh := st.tail ++ [false]
  if (st.headD false ^^ b) then addFront sh gt else sh

theorem addFront_append (p z g : Poly) (h : g.length ≤ p.length) : addFront (p ++ z) g = addFront p g ++ z := by
  induction p generalizing g with
  | nil => cases g <;> simp_all [addFront]
  | cons x xs ih =>
    cases g with
    | nil => simp [addFront]
    | cons y ys => simp only [List.cons_append, addFront]; rw [ih ys (by simpa using h)]

theorem lstep_length (gt st : Poly) (b : Bool) (h : st.length = gt.length) (hpos : 0 < gt.length) :
    (lstep gt st b).length = gt.length := by
  unfold lstep
  simp only
  split <;> simp [addFront_length, h] <;> omega

/-- dividing `st·x^n + msg·x^k` is running the register from `st` over `msg` -/
theorem reduce_eq_fold (gt : Poly) (hpos : 0 < gt.length) (msg st : Poly) (hst : st.length = gt.length) :
    reduce gt msg.length (zx (st ++ List.replicate msg.length false) (msg ++ List.replicate gt.length false))
      = msg.foldl (lstep gt) st := by
  induction msg generalizing st with
  | nil => simp only [List.length_nil, List.replicate_zero, List.append_nil, List.nil_append, reduce, List.foldl_nil]; rw [← hst, zx_zeros_right]
  | cons b m ih =>
    cases st with
    | nil => simp at hst; omega
    | cons s0 st' =>
      have hst' : st'.length + 1 = gt.length := by simpa using hst
      have hsh : (st' ++ [false]).length = gt.length := by simp; omega
      -- the coefficients after the leading one
      have htail : zx (st' ++ List.replicate (m.length + 1) false) (m ++ List.replicate gt.length false)
          = zx ((st' ++ [false]) ++ List.replicate m.length false) (m ++ List.replicate gt.length false) := by
        rw [List.replicate_succ, List.append_assoc]; rfl
      simp only [List.length_cons, List.cons_append, zx_cons, List.foldl_cons]
      have hl : lstep gt (s0 :: st') b = if (s0 ^^ b) then addFront (st' ++ [false]) gt else st' ++ [false] := rfl
      rw [hl]
      cases hfb : (s0 ^^ b)
      · simp only [reduce, Bool.false_eq_true, if_false]
        rw [htail]
        exact ih _ hsh
      · simp only [reduce, if_true]
        rw [htail]
        rw [addFront_zx_left ((st' ++ [false]) ++ List.replicate m.length false)
          (m ++ List.replicate gt.length false) gt (by simp; omega), addFront_append _ _ _ (by omega)]
        exact ih _ (by rw [addFront_length]; exact hsh)

theorem reduce_eq_fold_zero (gt : Poly) (hpos : 0 < gt.length) (msg : Poly) :
    reduce gt msg.length (msg ++ List.replicate gt.length false)
      = msg.foldl (lstep gt) (List.replicate gt.length false) := by
  have := reduce_eq_fold gt hpos msg (List.replicate gt.length false) (by simp)
  rw [← this]
  congr 1
  rw [List.replicate_append_replicate]
  have : (msg ++ List.replicate gt.length false).length = gt.length + msg.length := by simp; omega
  rw [← this, zx_zeros_left]

/-! ### bits and bytes (`byteOfBits c` is `UInt8.ofNat (Bits.lsb (c.take 8))`) -/

theorem lsb_bitsOfByte (b : UInt8) : lsb (bitsOfByte b) = b.toNat := by
  rw [bitsOfByte, List.range_eq_range', lsb_testBits, Nat.pow_zero, Nat.div_one, Nat.mod_eq_of_lt b.toNat_lt]

theorem byteOfBits_take (c : List Bool) : byteOfBits c = byteOfBits (c.take 8) := by
  unfold byteOfBits; rw [List.take_take]; simp

theorem bits_byte (c : List Bool) (h : 8 ≤ c.length) : bitsOfByte (byteOfBits c) = c.take 8 := by
  have hl : (c.take 8).length = 8 := by rw [List.length_take]; omega
  have hv := lsb_lt (c.take 8)
  rw [hl] at hv
  apply List.ext_getElem
  · simp [bitsOfByte, hl]
  · intro i h1 h2
    simp only [bitsOfByte, show byteOfBits c = UInt8.ofNat (lsb (c.take 8)) from rfl, List.getElem_map,
      List.getElem_range, UInt8.toNat_ofNat']
    rw [Nat.mod_eq_of_lt hv, testBit_lsb, List.getD_eq_getElem?_getD, List.getElem?_eq_getElem h2]
    rfl

theorem bits_bytes (n : Nat) (c : List Bool) (h : c.length = 8 * n) : bitsLSB (bytesOfBits n c) = c := by
  induction n generalizing c with
  | zero => simp at h; subst h; rfl
  | succ n ih =>
    cases c with
    | nil => simp at h
    | cons x xs =>
      simp only [bytesOfBits, bitsLSB, List.flatMap_cons]
      rw [bits_byte _ (by omega)]
      have := ih ((x :: xs).drop 8) (by simp [List.length_drop] at *; omega)
      unfold bitsLSB at this
      rw [this, List.take_append_drop]

theorem bytesOfBits_length (n : Nat) (c : List Bool) (h : c.length = 8 * n) : (bytesOfBits n c).length = n := by
  induction n generalizing c with
  | zero => rfl
  | succ n ih =>
    cases c with
    | nil => simp at h
    | cons x xs =>
      simp only [bytesOfBits, List.length_cons]
      rw [ih _ (by simp [List.length_drop] at *; omega)]

theorem bitsLSB_length (bs : Bytes) : (bitsLSB bs).length = 8 * bs.length := by
  induction bs with
  | nil => rfl
  | cons b bs ih => simp only [bitsLSB, List.flatMap_cons, List.length_append] at ih ⊢; rw [ih]; simp [bitsOfByte]; omega

theorem castagnoli_tail_length : castagnoli.tail.length = 32 := by decide

/-- the remainder the Spec function encodes -/
def rem (data : Bytes) : Poly :=
  reduce castagnoli.tail (true :: bitsLSB data).length (true :: bitsLSB data ++ List.replicate 32 false)

theorem rem_length (data : Bytes) : (rem data).length = 32 := by
  unfold rem; rw [reduce_length _ _ _ (by simp)]; simp

theorem crc32c_eq (data : Bytes) : crc32c data = bytesOfBits 4 (rem data) := by
  unfold crc32c rem mod
  congr 2
  simp [castagnoli, bitsMSB32]

/-- **the Spec function satisfies the documented sentence** -/
theorem spec_valid (data : Bytes) : Valid data (crc32c data) := by
  rw [crc32c_eq]
  refine ⟨bytesOfBits_length 4 _ (by rw [rem_length]), ?_⟩
  unfold IsMultiple codeword mod
  rw [bits_bytes 4 _ (by rw [rem_length])]
  have h := reduce_append_rem castagnoli.tail (true :: bitsLSB data)
  rw [castagnoli_tail_length] at h
  have hn : (true :: (bitsLSB data ++ rem data)).length + 1 - castagnoli.length = (true :: bitsLSB data).length := by
    simp [rem_length, castagnoli, bitsMSB32]
  rw [hn]
  have : true :: (bitsLSB data ++ rem data) = (true :: bitsLSB data) ++ rem data := rfl
  rw [this]
  unfold rem
  rw [h]
  intro b hb
  exact List.eq_of_mem_replicate hb

end Percival.Proofs.CrcPoly
