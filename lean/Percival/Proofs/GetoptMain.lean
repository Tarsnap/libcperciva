import Percival.Proofs.GetoptLoop
/-! Assembly of the C18 results: a whole parse from an arbitrary prior state. -/
namespace Percival.Proofs.Getopt
open Percival.Spec.Getopt Percival.Model.Getopt

theorem fuelFor_eq (argv : List Str) : fuelFor argv = cost argv + 2 := by
  simp [fuelFor, cost]; omega

/-- `ready` forgets everything about the prior state except `cmdname` -/
theorem ready_congr (lines : List Line) (argv : List Str) (s s' : St) (h : argv ≠ [] ∨ s.cmdname = s'.cmdname) :
    ready lines argv s = ready lines argv s' := by
  cases argv with
  | nil =>
    rcases h with h | h
    · exact absurd rfl h
    · simp [ready, reset, h]
  | cons a rest => simp [ready, reset]

/-- the first call after `optreset = 1` returns the dummy, the switch registers the table -/
theorem loop_start (lines : List Line) (hwf : (tableOf lines).WF) (argv : List Str) (s : St) (f : Nat)
    (hr : s.optreset = true) :
    loop lines argv (f + 1) s = loop lines argv f (ready lines argv s) :=
  loop_dummy (getopt_reset argv s hr) (initPass_ok lines hwf argv s)

theorem run_start (lines : List Line) (hwf : (tableOf lines).WF) (argv : List Str) (s : St) :
    run lines argv s = loop lines argv (cost argv + 1) (ready lines argv s) := by
  unfold run
  rw [fuelFor_eq]
  exact loop_start lines hwf argv _ _ rfl

theorem loop_spec (lines : List Line) (hwf : (tableOf lines).WF) (argv : List Str)
    (hnul : ∀ a ∈ argv, NulFree a) (s : St) (hr : s.optreset = true) :
    ∃ evs sf, (∀ fuel, fuelFor argv ≤ fuel → loop lines argv fuel s = pure (evs, sf)) ∧
      evs.map (·.1) = (parseArgv (tableOf lines) argv).1 ∧ sf.optind = (parseArgv (tableOf lines) argv).2 := by
  obtain ⟨evs, sf, h1, h2, h3⟩ := loop_ahead (namesOK_of_wf hwf) hnul (cost argv + 1) (ready lines argv s) (ready_inv lines argv s)
    (ready_cursorOK lines argv s) (Nat.lt_succ_of_le (Nat.le_trans (Nat.sub_le _ _) (cost_drop_mono argv (Nat.zero_le 1))))
  rw [show (ready lines argv s).packed = none from rfl, show (ready lines argv s).optind = 1 from rfl, ahead_boundary] at h2 h3
  refine ⟨evs, sf, fun fuel hf => ?_, h2, h3⟩
  rw [fuelFor_eq] at hf
  obtain ⟨f, rfl⟩ : ∃ f, fuel = f + 1 := ⟨fuel - 1, by omega⟩
  rw [loop_start lines hwf argv s f hr]
  exact h1 f (by omega)

end Percival.Proofs.Getopt
