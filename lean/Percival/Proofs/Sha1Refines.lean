import Percival.Proofs.Sha1Transform
import Percival.Proofs.Counters
import Percival.Proofs.HmacStream
/-! `Model.Sha1.alg` refines `Spec.Sha1.params`. -/
namespace Percival.Proofs.Sha1T
open Percival Percival.Model.Sha1
open Percival.Spec (Bytes)

def R (s : State) : Spec.Sha1.Regs := regsAt s 0

theorem transform_eq (s : State) (b : Bytes) (hb : b.length = 64) :
    R (transform s b) = Spec.Sha1.compress (R s) b := by
  unfold transform Spec.Sha1.compress R
  simp only
  rw [rounds_spec s b hb]
  generalize (List.finRange 80).foldl (fun S i => RNDr S ((List.finRange 64).foldl schedStep (decodeBlock b)) i) s = S
  simp only [Spec.Sha1.addRegs, regsAt, slot, Fin.getElem_fin, Vector.getElem_ofFn]
  simp only [Spec.Sha1.Regs.mk.injEq]
  refine ⟨?_, ?_, ?_, ?_, ?_⟩ <;> exact UInt32.add_comm _ _

theorem digest_eq (s : State) : digest s = Spec.Sha1.out (R s) := by
  unfold digest Spec.Sha1.out R regsAt
  rw [Words.toList_eq_ofFn]
  simp [List.ofFn_succ, List.flatMap_cons, slot, Fin.getElem_fin]
  rfl

theorem init_eq : R initialState = Spec.Sha1.H0 := by decide +kernel

def refines : MDStream.Refines alg Spec.Sha1.params where
  R := R
  init := init_eq
  transform := transform_eq
  digest := digest_eq
  PAD := by decide +kernel
  cnt := Counters.cntSha1OK

theorem hash_len (m : Bytes) : (Spec.Sha1.hash m).length = 20 := by
  unfold Spec.Sha1.hash Spec.MD.hash
  simp [Spec.Sha1.params, Spec.Sha1.out, Spec.be32enc]

def hashOK : HmacStream.HashOK Model.Hmac.sha1 Spec.Sha1.params where
  rf := refines
  final := MDStream.finalUpd_eq_hash refines
  hlen := hash_len
  hlen_le := by decide

end Percival.Proofs.Sha1T
