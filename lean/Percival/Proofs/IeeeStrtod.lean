import Percival.Proofs.Ieee
/-! C16: the rounding specification determines its result; `toDouble` and `toBinary32` meet it. -/
namespace Percival.Proofs.Ieee
open Percival.Model.Strtod Percival.Proofs.IeeeArith Percival.Spec.Ieee

theorem natCast_lt_of_mul {a b : Nat} {u : Rat} (hu : 0 < u) (h : (a : Rat) * u < b * u) : a < b :=
  Rat.natCast_lt_natCast.mp (Rat.lt_of_mul_lt_mul_right h (Rat.le_of_lt hu))

/-- between two different non-negative numbers with even significands lies another number of the format -/
theorem even_between_nonneg (f : Format) (hv : Valid f) {a b : Rat} (ha : f.Even a) (hb : f.Even b)
    (h0 : 0 ≤ a) (hab : a < b) : ∃ z, f.Finite z ∧ a < z ∧ z < b := by
  obtain ⟨c1, k1, hc1, hk1, hk1', va, can1, ev1⟩ := ha
  obtain ⟨c2, k2, hc2, hk2, hk2', vb, can2, ev2⟩ := hb
  rw [Rat.abs_of_nonneg h0] at va
  rw [Rat.abs_of_nonneg (by grind)] at vb
  have hp1 : f.p = (f.p - 1) + 1 := by have := hv.p_ge; omega
  have h2p : 2 ^ f.p % 2 = 0 := by rw [hp1, Nat.pow_succ]; omega
  have hu := p2_pos k1
  have hz : (0 : Rat) ≤ ((c1 + 1 : Nat) : Rat) * 2 ^ k1 := Rat.mul_nonneg Rat.natCast_nonneg (Rat.le_of_lt hu)
  refine ⟨((c1 + 1 : Nat) : Rat) * 2 ^ k1, ⟨c1 + 1, k1, by omega, hk1, hk1', Rat.abs_of_nonneg hz⟩, ?_, ?_⟩
  · rw [va, Rat.natCast_add]; simp only [Rat.natCast_ofNat]; grind
  · by_cases hk : k1 ≤ k2
    · rw [vb, mul_p2_eq c2 hk]
      rw [va, vb, mul_p2_eq c2 hk] at hab
      have hlt := natCast_lt_of_mul hu hab
      have hj : (c2 * 2 ^ (k2 - k1).toNat) % 2 = 0 := by
        rw [Nat.mul_mod, ev2]; simp
      apply Rat.mul_lt_mul_of_pos_right _ hu
      exact Rat.natCast_lt_natCast.mpr (by omega)
    · exfalso
      have hk : k2 < k1 := by omega
      have hc : 2 ^ (f.p - 1) ≤ c1 := by rcases can1 with h | h; omega; exact h
      have a1 := mul_u_le (natCast_le hc) hu
      rw [p2_pred _ (by omega)] at a1
      have a2 := lt_binade (natCast_mul_lt hc2 k2) hk
      grind

theorem even_between (f : Format) (hv : Valid f) {a b : Rat} (ha : f.Even a) (hb : f.Even b)
    (hab : a < b) : ∃ z, f.Finite z ∧ a < z ∧ z < b := by
  by_cases h0 : 0 ≤ a
  · exact even_between_nonneg f hv ha hb h0 hab
  · by_cases h1 : b ≤ 0
    · obtain ⟨z, hz, h2, h3⟩ := even_between_nonneg f hv ((even_neg f b).mpr hb) ((even_neg f a).mpr ha)
        (by grind) (by grind : -b < -a)
      exact ⟨-z, (finite_neg f z).mpr hz, by grind, by grind⟩
    · exact ⟨0, finite_zero f hv, by grind, by grind⟩

theorem isNearestEven_unique (f : Format) (hv : Valid f) {x a b : Rat} (ha : IsNearestEven f x a)
    (hb : IsNearestEven f x b) : a = b := by
  apply Classical.byContradiction; intro hne
  have h1 := ha.2.1 b hb.1
  have h2 := hb.2.1 a ha.1
  have heq : (x - a).abs = (x - b).abs := Rat.le_antisymm h1 h2
  have ea := ha.2.2 b hb.1 (fun h => hne h.symm) heq.symm
  have eb := hb.2.2 a ha.1 hne heq
  have ca := abs_cases (x - a)
  have cb := abs_cases (x - b)
  have hlg : a < b ∨ b < a := by
    rcases Rat.le_total (a := a) (b := b) with h | h
    · exact Or.inl (Rat.lt_of_le_of_ne h hne)
    · exact Or.inr (Rat.lt_of_le_of_ne h (fun h' => hne h'.symm))
  rcases hlg with hlt | hgt
  · obtain ⟨z, hz, z1, z2⟩ := even_between f hv ea eb hlt
    have := ha.2.1 z hz
    have cz := abs_cases (x - z)
    grind
  · obtain ⟨z, hz, z1, z2⟩ := even_between f hv eb ea hgt
    have := ha.2.1 z hz
    have cz := abs_cases (x - z)
    grind

theorem isNearestEven_exact_iff {f : Format} {x d : Rat} (h : IsNearestEven f x d) : d = x ↔ f.Finite x := by
  constructor
  · intro e; rw [← e]; exact h.1
  · intro hx
    have h1 := h.2.1 x hx
    rw [Rat.sub_self, Rat.abs_zero] at h1
    have := Rat.abs_eq_zero_iff.mp (Rat.le_antisymm h1 Rat.abs_nonneg)
    grind

theorem signed_inj (neg : Bool) {a b : Rat} (h : Fl.signed neg a = Fl.signed neg b) : a = b := by
  cases neg
  · exact h
  · have : -a = -b := h
    grind

theorem roundsTo_unique (f : Format) (hv : Valid f) {neg : Bool} {q : Rat} {a b : Fl}
    (ha : RoundsTo f neg q a) (hb : RoundsTo f neg q b) : a = b := by
  cases a with
  | nan => exact absurd ha id
  | inf n1 =>
    cases b with
    | nan => exact absurd hb id
    | inf n2 => rw [ha.1, hb.1]
    | fin n2 m2 => exact absurd ha.2 hb.2.2.1
  | fin n1 m1 =>
    cases b with
    | nan => exact absurd hb id
    | inf n2 => exact absurd hb.2 ha.2.2.1
    | fin n2 m2 =>
      obtain ⟨e1, _, _, na⟩ := ha
      obtain ⟨e2, _, _, nb⟩ := hb
      rw [e1] at na; rw [e2] at nb
      rw [e1, e2, signed_inj neg (isNearestEven_unique f hv na nb)]

open Percival.Spec.FloatNumeral (Subject ratPow FAccepts FNumeral Body)
open Percival.Model.Strto (Errno)

/-- the exact value of a subject sequence is a magnitude -/
def SubjectNonneg : Subject → Prop
  | .num q => 0 ≤ q
  | _ => True

/-- the magnitude of a finite datum is non-negative -/
def FlNonneg : Fl → Prop
  | .fin _ mag => 0 ≤ mag
  | _ => True

theorem ratPow_nonneg (b : Nat) (e : Int) : 0 ≤ ratPow b e := by
  unfold ratPow
  split
  · exact Rat.natCast_nonneg
  · rw [Rat.div_def, Rat.one_mul]
    by_cases h : ((b ^ (-e).toNat : Nat) : Rat) = 0
    · rw [h, Rat.inv_zero]; exact Rat.le_refl
    · have : (0 : Rat) < ((b ^ (-e).toNat : Nat) : Rat) :=
        Rat.lt_of_le_of_ne Rat.natCast_nonneg (fun h' => h h'.symm)
      exact Rat.le_of_lt (Rat.inv_pos.mpr this)

theorem body_nonneg {b : Body} {sub : Subject} (h : b.Denotes sub) : SubjectNonneg sub := by
  cases b with
  | inf txt => rw [h.2]; trivial
  | nan txt p => rw [h.2.2]; trivial
  | dec m =>
    obtain ⟨sig, nfrac, e, _, rfl⟩ := h
    exact Rat.mul_nonneg Rat.natCast_nonneg (ratPow_nonneg _ _)
  | hex x m =>
    obtain ⟨_, sig, nfrac, e, _, rfl⟩ := h
    exact Rat.mul_nonneg Rat.natCast_nonneg (ratPow_nonneg _ _)

theorem faccepts_nonneg {tr : Bool} {s : List UInt8} {neg : Bool} {sub : Subject} (h : FAccepts tr s neg sub) :
    SubjectNonneg sub := by
  unfold FAccepts at h
  split at h
  · obtain ⟨_, n, _, hd, _⟩ := h; exact body_nonneg hd.2.2
  · obtain ⟨n, _, hd⟩ := h; exact body_nonneg hd.2.2

theorem toDouble_converts (neg : Bool) (sub : Subject) (h : SubjectNonneg sub) : Converts neg sub (toDouble neg sub).1 := by
  cases sub with
  | inf => rfl
  | nan => rfl
  | num q => exact (roundTo_spec binary64 binary64_valid neg q h).1

theorem toDouble_erange_iff (neg : Bool) (sub : Subject) (h : SubjectNonneg sub) :
    (toDouble neg sub).2 = .erange ↔ ConvRangeError neg sub := by
  cases sub with
  | inf => simp [toDouble, ConvRangeError]
  | nan => simp [toDouble, ConvRangeError]
  | num q =>
    obtain ⟨_, h1, h2⟩ := roundTo_spec binary64 binary64_valid neg q h
    show _ ↔ RangeError binary64 (Fl.signed neg q)
    unfold RangeError
    rw [← h1, ← h2]
    unfold toDouble
    simp only
    split <;> simp_all

theorem toDouble_ok_iff (neg : Bool) (sub : Subject) (h : SubjectNonneg sub) :
    (toDouble neg sub).2 = .ok ↔ ¬ ConvRangeError neg sub := by
  rw [← toDouble_erange_iff neg sub h]
  cases sub with
  | inf => simp [toDouble]
  | nan => simp [toDouble]
  | num q =>
    unfold toDouble
    simp only
    split <;> simp

theorem roundsTo_nonneg {f : Format} {neg : Bool} {q : Rat} {d : Fl} (h : RoundsTo f neg q d) : FlNonneg d := by
  cases d with
  | nan => trivial
  | inf n => trivial
  | fin n mag => exact h.2.1

theorem converts_nonneg {neg : Bool} {sub : Subject} {d : Fl} (h : Converts neg sub d) : FlNonneg d := by
  cases sub with
  | inf => rw [show d = .inf neg from h]; trivial
  | nan => rw [show d = .nan from h]; trivial
  | num q => exact roundsTo_nonneg h

theorem narrows_nonneg {d v : Fl} (h : Narrows d v) : FlNonneg v := by
  cases d with
  | nan => rw [show v = .nan from h]; trivial
  | inf n => rw [show v = .inf n from h]; trivial
  | fin n mag => exact roundsTo_nonneg h

theorem converts_unique {neg : Bool} {sub : Subject} {a b : Fl} (ha : Converts neg sub a) (hb : Converts neg sub b) :
    a = b := by
  cases sub with
  | inf => rw [show a = .inf neg from ha, show b = .inf neg from hb]
  | nan => rw [show a = .nan from ha, show b = .nan from hb]
  | num q => exact roundsTo_unique binary64 binary64_valid ha hb

theorem toBinary32_narrows (d : Fl) (h : FlNonneg d) : Narrows d (toBinary32 d) := by
  cases d with
  | nan => rfl
  | inf n => rfl
  | fin n mag => exact (roundTo_spec binary32 binary32_valid n mag h).1

theorem narrows_unique {d a b : Fl} (ha : Narrows d a) (hb : Narrows d b) : a = b := by
  cases d with
  | nan => rw [show a = .nan from ha, show b = .nan from hb]
  | inf n => rw [show a = .inf n from ha, show b = .inf n from hb]
  | fin n mag => exact roundsTo_unique binary32 binary32_valid ha hb

end Percival.Proofs.Ieee
