import Percival.Proofs.Sha256Transform
import Percival.Proofs.Counters
import Percival.Proofs.HmacStream
/-! `Model.Sha256.alg` refines `Spec.Sha256.params`. -/
namespace Percival.Proofs.Sha256T
open Percival Percival.Model.Sha256
open Percival.Spec (Bytes)

def R (s : State) : Spec.Sha256.Regs := regsAt s 0

theorem transform_eq (s : State) (b : Bytes) (hb : b.length = 64) :
    R (transform s b) = Spec.Sha256.compress (R s) b := by
  unfold transform Spec.Sha256.compress R
  simp only
  rw [rounds_spec s b hb]
  generalize mix s (decodeBlock b) = S
  simp only [Spec.Sha256.addRegs, regsAt, slot, Fin.getElem_fin, Vector.getElem_ofFn]
  simp only [Spec.Sha256.Regs.mk.injEq]
  refine ⟨?_, ?_, ?_, ?_, ?_, ?_, ?_, ?_⟩ <;> exact UInt32.add_comm _ _

theorem digest_eq (s : State) : digest s = Spec.Sha256.out (R s) := by
  unfold digest Spec.Sha256.out R regsAt
  rw [Words.toList_eq_ofFn]
  simp [List.ofFn_succ, List.flatMap_cons, slot, Fin.getElem_fin]
  rfl

theorem init_eq : R initialState = Spec.Sha256.H0 := by decide +kernel

def refines : MDStream.Refines alg Spec.Sha256.params where
  R := R
  init := init_eq
  transform := transform_eq
  digest := digest_eq
  PAD := by decide +kernel
  cnt := Counters.cnt64OK

theorem hash_len (m : Bytes) : (Spec.Sha256.hash m).length = 32 := by
  unfold Spec.Sha256.hash Spec.MD.hash
  simp [Spec.Sha256.params, Spec.Sha256.out, Spec.be32enc]

def hashOK : HmacStream.HashOK Model.Hmac.sha256 Spec.Sha256.params where
  rf := refines
  final := MDStream.final256_eq_hash refines
  hlen := hash_len
  hlen_le := by decide

end Percival.Proofs.Sha256T
