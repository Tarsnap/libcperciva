import Percival.Proofs.HttpDecode
/-! C09: the decoding of a well-formed response.  A position in its wire format (`Pos`) and the parser state which
    belongs there (`Sync`) are kept by every handler on every prefix of the unconsumed stream; hence by every run,
    however the bytes arrive (`decode_run`). -/
namespace Percival.Proofs.HttpSeg
open Percival.Model.Http Percival.Proofs.Http Percival.Proofs.HttpNum Percival.Proofs.HttpDecode
open Percival.Model.HttpRes (arrive)

local notation "crlf" => ([13, 10] : List UInt8)

-- what the platform's `sscanf` stores for a `%d` out of `int` range (`Model.Http.scanInt`): everything holds for any such
variable (ovf : Bool → Nat → Int)

theorem take_take_drop (l : List UInt8) (m n : Nat) : (l.take n).take m ++ (l.drop m).take (n - m) = l.take n := by
  rw [← List.drop_take, List.take_append_drop]

open Percival.Spec.HttpResp

/-- the response being received, the request kind and the caller's limit -/
structure Ctx where
  r : Percival.Spec.HttpResp.Resp
  ishead : Bool
  max : Nat

def Ctx.status (C : Ctx) : Int := (C.r.final.status : Int)
def Ctx.hdrs (C : Ctx) : List (List UInt8 × List UInt8) := expectedHeaders C.r
def Ctx.body (C : Ctx) : List UInt8 := expectedBody C.r C.ishead
def Ctx.resp (C : Ctx) : Model.Http.Resp := { status := C.status, headers := C.hdrs, body := some C.body }
def Ctx.after (C : Ctx) : List UInt8 := if bodiless C.ishead C.r.final.status then [] else C.r.framing.serialize

/-- what follows the body: after the chunks the last-chunk line and the rest, after a `Content-Length` body the rest -/
def Ctx.tail (C : Ctx) : List UInt8 :=
  match C.r.framing with
  | .chunked _ le tail => [48] ++ le ++ crlf ++ tail
  | .length _ t => t
  | .close _ => []

/-- a well-formed response whose body the caller's limit admits -/
structure Ctx.WF (C : Ctx) : Prop where
  wf : C.r.WF C.ishead
  fit : C.body.length ≤ C.max
  sz : C.r.framing.body.length + 2 ≤ SIZE_MAX

/-- the client's windows: no header block beyond `MAXHDR + 1` bytes, no chunk-size line of `MAXCHLEN - 1` or more -/
structure Ctx.Lim (C : Ctx) : Prop where
  blocks : (∀ b ∈ C.r.interim, b.serialize.length ≤ Percival.Gen.Http.MAXHDR + 1) ∧
    C.r.final.serialize.length ≤ Percival.Gen.Http.MAXHDR + 1
  lines : ∀ cs le tail, C.r.framing = .chunked cs le tail →
    (∀ c ∈ cs, (hex c.1.length ++ c.2).length + 1 < Percival.Gen.Http.MAXCHLEN) ∧
    ([48] ++ le).length + 1 < Percival.Gen.Http.MAXCHLEN

structure Ctx.OK (C : Ctx) : Prop extends C.WF, C.Lim

inductive Pos where
  /-- reading header blocks: the interim blocks still to come, then the final block -/
  | hdr (is : List Block)
  /-- before a chunk-size line; the chunks still to come -/
  | chunkHdr (cs : List (List UInt8 × List UInt8))
  /-- inside what `readlen` counts: `seg` is left of a chunk with its EOL (`ch`) or of a `Content-Length` body -/
  | data (ch : Bool) (seg : List UInt8) (cs : List (List UInt8 × List UInt8))
  | eofData (rem : List UInt8)

def chunksBytes (cs : List (List UInt8 × List UInt8)) : List UInt8 := (cs.map serializeChunk).flatten
def chunksData (cs : List (List UInt8 × List UInt8)) : List UInt8 := (cs.map (·.1)).flatten

/-- the unconsumed part of the stream -/
def Pos.bytes (C : Ctx) : Pos → List UInt8
  | .hdr is => (is.map Block.serialize).flatten ++ (C.r.final.serialize ++ C.after)
  | .chunkHdr cs => chunksBytes cs ++ C.tail
  | .data _ seg cs => seg ++ (chunksBytes cs ++ C.tail)
  | .eofData rem => rem

def Pos.handler : Pos → Handler
  | .hdr _ => .readHeader
  | .chunkHdr _ => .chunkedHeader
  | .data _ _ _ => .readData
  | .eofData _ => .readToEof

def firstLen (C : Ctx) : List Block → Nat
  | [] => C.r.final.serialize.length
  | b :: _ => b.serialize.length

/-- the body is chunked, and `cs` are chunks of it -/
def Chunked (C : Ctx) (cs : List (List UInt8 × List UInt8)) : Prop :=
  bodiless C.ishead C.r.final.status = false ∧ ∃ cs0 le tail, C.r.framing = .chunked cs0 le tail ∧ ∀ c ∈ cs, c ∈ cs0

theorem Chunked.tail {C : Ctx} {c : List UInt8 × List UInt8} {cs : List (List UInt8 × List UInt8)}
    (h : Chunked C (c :: cs)) : Chunked C cs :=
  ⟨h.1, h.2.imp fun _ => Exists.imp fun _ => Exists.imp fun _ h => ⟨h.1, fun c' hc' => h.2 c' (List.mem_cons_of_mem _ hc')⟩⟩

/-- the parser state agrees with the position -/
def Sync (C : Ctx) : Pos → St → Prop
  | .hdr is, st =>
    (∀ b ∈ is, b ∈ C.r.interim) ∧ Ready { st with hepos := 0 } C.ishead C.max ∧ st.hepos + 4 ≤ firstLen C is
  | .chunkHdr cs, st =>
    Chunked C cs ∧ ∃ got, BodySt st C.status C.hdrs C.max true got ∧ got ++ chunksData cs = C.body
  | .data ch seg cs, st =>
    (ch = true → Chunked C cs ∧ seg ≠ []) ∧ (ch = false → cs = []) ∧ st.readlen = seg.length ∧
    ∃ got, BodySt st C.status C.hdrs C.max ch got ∧ got ++ seg.take (seg.length - eolOf ch) ++ chunksData cs = C.body
  | .eofData rem, st =>
    ∃ got ch, BodySt st C.status C.hdrs C.max ch got ∧ got ++ rem = C.body

/-- the end of the buffer does not fall inside a header block or a chunk-size line too long for the client's window:
    the response respects the windows, or the buffer holds nothing, or all there is -/
def Uncut (C : Ctx) (p : Pos) (b : Nat) : Prop := C.Lim ∨ b = 0 ∨ b = (p.bytes C).length

theorem Uncut.lt {C : Ctx} {p : Pos} {b : Nat} (h : Uncut C p b) {n w : Nat} (hb : b < n) (hn : n ≤ (p.bytes C).length)
    (hw : C.Lim → n ≤ w) (h0 : 0 < w) : b < w := by
  rcases h with h | h | h
  · exact Nat.lt_of_lt_of_le hb (hw h)
  · omega
  · omega

theorem Uncut.drop {C : Ctx} {p p' : Pos} {b c : Nat} (h : Uncut C p b) (hc : 0 < c) (hcb : c ≤ b)
    (hp : p'.bytes C = (p.bytes C).drop c) : Uncut C p' (b - c) :=
  h.imp_right fun h => Or.inr (by rw [hp, List.length_drop]; omega)

/-- the verdict on one handler invocation on the first `b` bytes of the unconsumed stream -/
def MicroSync (C : Ctx) (p : Pos) (b : Nat) : Micro → Prop
  | .done r => r = some C.resp
  | .goto st' c h' => 0 < c ∧ c ≤ b ∧ ∃ p', h' = p'.handler ∧ Sync C p' st' ∧ p'.bytes C = (p.bytes C).drop c
  | .wait st' c k h' => c ≤ b ∧ b - c < k ∧ ∃ p', h' = p'.handler ∧ Sync C p' st' ∧ p'.bytes C = (p.bytes C).drop c ∧
      (k ≤ (p'.bytes C).length ∨ (k = 1 ∧ ∃ rem, p' = .eofData rem))
  | .abort _ => False

theorem waitcap_pos : 0 < Percival.Gen.Http.WAITCAP := by decide

/-- a handler which consumes nothing and waits for one byte more than it has seen stays where it is -/
theorem microSync_more {C : Ctx} {p : Pos} {b : Nat} {st' : St} (hs : Sync C p st') (hb : b < (p.bytes C).length) :
    MicroSync C p b (.wait st' 0 (b + 1) p.handler) :=
  ⟨Nat.zero_le _, Nat.lt_succ_self _, p, rfl, hs, rfl, Or.inl hb⟩

theorem sync_eofData (C : Ctx) (hok : C.WF) (rem : List UInt8) (st : St)
    (hs : Sync C (.eofData rem) st) (b : Nat) (hb : b ≤ ((Pos.eofData rem).bytes C).length) :
    MicroSync C (.eofData rem) b (micro ovf st (Pos.eofData rem).handler .ok (((Pos.eofData rem).bytes C).take b)) := by
  obtain ⟨got, ch, hbs, hbody⟩ := hs
  simp only [Pos.bytes] at hb ⊢
  have hfit : got.length + rem.length ≤ C.max := by
    have := hok.fit; rw [← hbody] at this; simpa using this
  have hbl := hbs.bodylen
  have hmx := hbs.max
  have hlen : (rem.take b).length = b := by rw [List.length_take]; omega
  obtain ⟨st1, he, hs1⟩ := hbs.addbody (rem.take b) (by omega)
  simp only [Pos.handler, micro, readToEof]
  rw [if_neg (by omega), if_neg (by omega), he, hlen]
  refine ⟨Nat.le_refl _, by omega, .eofData (rem.drop b), rfl, ⟨got ++ rem.take b, ch, hs1 st1.readlen, ?_⟩, rfl,
    Or.inr ⟨rfl, _, rfl⟩⟩
  rw [List.append_assoc, List.take_append_drop]; exact hbody

theorem sync_data (C : Ctx) (hok : C.WF) (ch : Bool) (seg : List UInt8) (cs : List (List UInt8 × List UInt8)) (st : St)
    (hs : Sync C (.data ch seg cs) st) (b : Nat) (hb : b ≤ ((Pos.data ch seg cs).bytes C).length) :
    MicroSync C (.data ch seg cs) b (micro ovf st (Pos.data ch seg cs).handler .ok (((Pos.data ch seg cs).bytes C).take b)) := by
  obtain ⟨hch, hnc, hrl, got, hbs, hbody⟩ := hs
  simp only [Pos.bytes] at hb ⊢
  generalize chunksBytes cs ++ C.tail = next at hb ⊢
  have hfit : got.length + (seg.length - eolOf ch) ≤ C.max := by
    have := hok.fit
    rw [← hbody] at this
    simp only [List.length_append, List.length_take] at this
    omega
  obtain ⟨m, hm⟩ : ∃ m, min b st.readlen = m := ⟨_, rfl⟩
  obtain ⟨st', hs', hrl', hw⟩ := readData_pos hbs ((seg ++ next).take b) (m := m) (by rw [List.length_take]; omega) (by omega)
  -- the bytes which go to the body are the first `m` of the data left in `seg`
  have hpiece : ((seg ++ next).take b).take (min m (st.readlen - eolOf ch)) = (seg.take (seg.length - eolOf ch)).take m := by
    rw [List.take_take, List.take_take, List.take_append_of_le_length (by omega), hrl]
    congr 1
    omega
  rw [hpiece] at hs' hw
  simp only [Pos.handler, micro, hw]
  by_cases hz : st.readlen - m = 0
  · -- everything `readlen` counts is buffered
    obtain rfl : m = seg.length := by omega
    rw [List.take_of_length_le (by rw [List.length_take]; omega)] at hs' ⊢
    simp only [hz, if_true]
    cases ch with
    | true =>
      obtain ⟨hC, hne⟩ := hch rfl
      exact ⟨List.length_pos_iff.mpr hne, by omega, .chunkHdr cs, rfl, ⟨hC, _, hs', hbody⟩, (List.drop_left' rfl).symm⟩
    | false =>
      rw [hnc rfl] at hbody
      simp only [Bool.false_eq_true, if_false, MicroSync, Ctx.resp, ← hbody, chunksData, List.map_nil, List.flatten_nil,
        List.append_nil]
  · simp only [hz, if_false, MicroSync]
    obtain rfl : m = b := by omega
    refine ⟨Nat.le_refl _, by have := waitcap_pos; split <;> omega, .data ch (seg.drop m) cs, rfl,
      ⟨fun h => ⟨(hch h).1, by rw [← List.length_pos_iff, List.length_drop]; omega⟩, hnc,
        by rw [hrl', hrl, List.length_drop], _, hs', ?_⟩, ?_, Or.inl ?_⟩
    · rw [List.append_assoc got, List.length_drop, Nat.sub_right_comm, take_take_drop]
      exact hbody
    · exact (List.drop_append_of_le_length (by omega)).symm
    · simp only [Pos.bytes, List.length_append, List.length_drop]
      split <;> omega

theorem chunksBytes_cons (c : List UInt8 × List UInt8) (cs : List (List UInt8 × List UInt8)) (e : List UInt8) :
    chunksBytes (c :: cs) ++ e = hex c.1.length ++ c.2 ++ crlf ++ (c.1 ++ crlf ++ (chunksBytes cs ++ e)) := by
  simp only [chunksBytes, List.map_cons, List.flatten_cons, serializeChunk_eq, List.append_assoc]

theorem chunksData_cons (c : List UInt8 × List UInt8) (cs : List (List UInt8 × List UInt8)) :
    chunksData (c :: cs) = c.1 ++ chunksData cs := by
  simp [chunksData]

theorem maxchlen_pos : 0 < Percival.Gen.Http.MAXCHLEN := by decide

theorem sync_chunkHdr (C : Ctx) (hok : C.WF) (cs : List (List UInt8 × List UInt8)) (st : St)
    (hs : Sync C (.chunkHdr cs) st) (b : Nat) (hb : b ≤ ((Pos.chunkHdr cs).bytes C).length)
    (hcut : Uncut C (.chunkHdr cs) b) :
    MicroSync C (.chunkHdr cs) b (micro ovf st (Pos.chunkHdr cs).handler .ok (((Pos.chunkHdr cs).bytes C).take b)) := by
  have hs0 := hs
  obtain ⟨⟨hbl, cs0, le, tail, hfm, hsub⟩, got, hbs, hbody⟩ := hs
  have hfw := hok.wf.2.2 hbl
  rw [hfm] at hfw
  obtain ⟨_, hcs0, hle⟩ := hfw
  -- the size line which stands here: the last-chunk line, or the next chunk's
  obtain ⟨n, e, after, hbytes, he, hlim, hnle, hcase⟩ : ∃ n e after,
      (Pos.chunkHdr cs).bytes C = hex n ++ e ++ crlf ++ after ∧ extWF e ∧
      (C.Lim → (hex n ++ e).length + 2 ≤ Percival.Gen.Http.MAXCHLEN) ∧ n ≤ (chunksData cs).length ∧
      (cs = [] ∧ n = 0 ∨
        ∃ c cs', cs = c :: cs' ∧ n = c.1.length ∧ e = c.2 ∧ after = c.1 ++ crlf ++ (chunksBytes cs' ++ C.tail)) := by
    cases cs with
    | nil => exact ⟨0, le, tail, by simp [Pos.bytes, chunksBytes, Ctx.tail, hfm, show hex 0 = [48] from rfl], hle,
        fun hl => (hl.lines cs0 le tail hfm).2, Nat.zero_le _, Or.inl ⟨rfl, rfl⟩⟩
    | cons c cs' => exact ⟨c.1.length, c.2, _, by simp only [Pos.bytes]; rw [chunksBytes_cons],
        (hcs0 c (hsub c (by simp))).2, fun hl => (hl.lines cs0 le tail hfm).1 c (hsub c (by simp)),
        by simp [chunksData_cons], Or.inr ⟨c, cs', rfl, rfl, rfl, rfl⟩⟩
  have hlen : ((Pos.chunkHdr cs).bytes C).length = (hex n ++ e).length + 2 + after.length := by
    rw [hbytes]; simp only [List.length_append, List.length_cons, List.length_nil]
  simp only [Pos.handler, micro]
  by_cases hpart : b < (hex n ++ e).length + 2
  · rw [hbytes, chunkedHeader_cut st _ _ (fun x hx => (sizeLine_bytes n e he x hx).1) b hpart
      (hcut.lt hpart (by omega) hlim maxchlen_pos)]
    exact microSync_more (p := .chunkHdr cs) hs0 (by omega)
  · have hfit := hok.fit
    have hsz := hok.sz
    rw [show C.r.framing.body = C.body by simp [Ctx.body, expectedBody, hbl], ← hbody] at hsz
    rw [← hbody] at hfit
    have hbl' := hbs.bodylen
    have hmx := hbs.max
    rw [hbytes, take_append_ge _ _ _ (by simp only [List.length_append, List.length_cons, List.length_nil] at hpart ⊢; omega),
      chunkedHeader_line st n e he _ (by simp only [List.length_append] at hsz; omega)
        (fun _ => by simp only [List.length_append] at hfit; omega)]
    rcases hcase with ⟨rfl, rfl⟩ | ⟨c, cs', rfl, rfl, rfl, rfl⟩
    · simp only [chunksData, List.map_nil, List.flatten_nil, List.append_nil] at hbody
      simp only [if_true, MicroSync, Ctx.resp, mkResp_bodySt hbs, hbody]
    · rw [chunksData_cons] at hbody hfit hsz
      simp only [List.length_append] at hfit hsz
      have hn0 : c.1.length ≠ 0 := fun h => (hcs0 c (hsub c (by simp))).1 (List.eq_nil_of_length_eq_zero h)
      rw [if_neg hn0, if_neg (by omega)]
      refine ⟨by omega, by omega, .data true (c.1 ++ crlf) cs', rfl,
        ⟨fun _ => ⟨Chunked.tail ⟨hbl, cs0, le, tail, hfm, hsub⟩, by simp⟩, nofun, by simp, got, hbs.readlen _,
          by simpa [eolOf] using hbody⟩, ?_⟩
      rw [hbytes, List.append_assoc (hex c.1.length ++ c.2), List.drop_append]
      simp [Pos.bytes]

/-- the final header block is completely buffered: the framing decision -/
theorem sync_final (C : Ctx) (hok : C.WF) (st : St) (hs : Sync C (.hdr []) st) (b : Nat)
    (hge : C.r.final.serialize.length ≤ b) :
    MicroSync C (.hdr []) b (micro ovf st .readHeader .ok (((Pos.hdr []).bytes C).take b)) := by
  obtain ⟨_, ⟨_, (hbl0 : st.bodylen = 0), (hbr0 : st.bodyRev = []), (hal : st.alloc ≤ st.max), (hmx : st.max = C.max),
    (hish : st.ishead = C.ishead)⟩, hhe⟩ := hs
  have hwfF := hok.wf.2.1
  simp only [firstLen] at hhe
  have h200 : 200 ≤ C.r.final.status := hwfF.2.1
  have hF4 := block_length_ge C.r.final
  simp only [Pos.bytes, List.map_nil, List.flatten_nil, List.nil_append]
  rw [take_append_ge _ _ _ hge]
  simp only [micro]
  rw [readHeader_block ovf st C.r.final 200 599 (by omega) (by omega) hwfF _ hhe, afterParse_final _ _ h200]
  simp only [hish]
  cases hb0 : bodiless C.ishead C.r.final.status with
  | true =>
    simp only [if_true, MicroSync, Ctx.resp, Ctx.status, Ctx.hdrs, Ctx.body, expectedHeaders, expectedBody, hb0]
  | false =>
    have hfw := hok.wf.2.2 hb0
    have hbodyF : C.body = C.r.framing.body := by simp [Ctx.body, expectedBody, hb0]
    have hafter : C.after = C.r.framing.serialize := by simp [Ctx.after, hb0]
    have hfit := hok.fit
    rw [hbodyF] at hfit
    simp only [Bool.false_eq_true, if_false, findHeader_map]
    rw [show hTransferEncoding = sTransferEncoding from rfl, show hContentLength = sContentLength from rfl]
    have hbs0 : ∀ {s : St} {ch : Bool}, s.status = C.status → s.headers = C.hdrs → s.max = st.max → s.chunked = ch →
        s.bodylen = st.bodylen → s.bodyRev = st.bodyRev → s.alloc = st.alloc → BodySt s C.status C.hdrs C.max ch [] :=
      fun h1 h2 h3 h4 h5 h6 h7 => ⟨h1, h2, h3.trans hmx, h4, h5.trans hbl0, h6.trans hbr0, by rw [h7, h3]; exact hal⟩
    cases hfm : C.r.framing with
    | length body tail =>
      rw [hfm] at hfw hfit
      simp only [framingWF, Framing.body] at hfw hfit
      have hsz := hok.sz
      rw [hfm] at hsz
      simp only [Framing.body] at hsz
      rw [hfw.1, hfw.2]
      simp only [isChunkedTE, Bool.false_eq_true, if_false]
      rw [parse_dec body.length (by omega)]
      (try dsimp only)
      rw [if_neg (by (try dsimp only); omega)]
      simp only [MicroSync]
      refine ⟨by omega, hge, .data false body [], rfl, ⟨nofun, fun _ => rfl, rfl, [], hbs0 rfl rfl rfl rfl rfl rfl rfl, ?_⟩, ?_⟩
      · simp [hbodyF, hfm, Framing.body, eolOf, chunksData]
      · simp [Pos.bytes, Ctx.tail, hfm, hafter, Framing.serialize, chunksBytes]
    | chunked cs le tail =>
      rw [hfm] at hfw hfit
      simp only [framingWF, Framing.body] at hfw hfit
      rw [hfw.1]
      have : isChunkedTE (some Percival.Spec.HttpResp.sChunked) = true := by decide
      simp only [this, if_true, MicroSync]
      refine ⟨by omega, hge, .chunkHdr cs, rfl,
        ⟨⟨hb0, cs, le, tail, hfm, fun _ h => h⟩, [], hbs0 rfl rfl rfl rfl rfl rfl rfl, ?_⟩, ?_⟩
      · simp [hbodyF, hfm, Framing.body, chunksData]
      · simp [Pos.bytes, Ctx.tail, hfm, hafter, Framing.serialize, chunksBytes, Percival.Spec.HttpResp.crlf, CR, LF]
    | close body =>
      rw [hfm] at hfw hfit
      simp only [framingWF, Framing.body] at hfw hfit
      rw [hfw.1, hfw.2]
      simp only [isChunkedTE, Bool.false_eq_true, if_false, MicroSync]
      refine ⟨by omega, hge, .eofData body, rfl, ⟨[], st.chunked, hbs0 rfl rfl rfl rfl rfl rfl rfl, ?_⟩, ?_⟩
      · simp [hbodyF, hfm, Framing.body]
      · simp [Pos.bytes, hafter, hfm, Framing.serialize]

theorem maxhdr_pos : 0 < Percival.Gen.Http.MAXHDR + 1 := Nat.succ_pos _

theorem sync_hdr (C : Ctx) (hok : C.WF) (is : List Block) (st : St)
    (hs : Sync C (.hdr is) st) (b : Nat) (hb : b ≤ ((Pos.hdr is).bytes C).length) (hcut : Uncut C (.hdr is) b) :
    MicroSync C (.hdr is) b (micro ovf st (Pos.hdr is).handler .ok (((Pos.hdr is).bytes C).take b)) := by
  have hs0 := hs
  obtain ⟨his, hr, hhe⟩ := hs
  simp only [Pos.handler]
  cases is with
  | nil =>
    simp only [firstLen] at hhe
    by_cases hpart : b < C.r.final.serialize.length
    · -- the final block is not complete yet
      have hsmall := hcut.lt hpart (by simp [Pos.bytes]) (fun hl => hl.blocks.2) maxhdr_pos
      simp only [Pos.bytes, List.map_nil, List.flatten_nil, List.nil_append, micro] at hb ⊢
      have hblk := isBlock_serialize C.r.final 200 599 hok.wf.2.1
      obtain ⟨hp, hhp, hw⟩ := readHeader_cut ovf st _ C.after hblk b hhe hpart hsmall
      rw [hw]
      refine microSync_more (p := .hdr []) ⟨his, hr, hhp⟩ ?_
      simp only [Pos.bytes, List.map_nil, List.flatten_nil, List.nil_append, List.length_append]
      omega
    · exact sync_final ovf C hok st hs0 b (by omega)
  | cons B is' =>
    have hwfB := hok.wf.1 B (his B (by simp))
    simp only [firstLen] at hhe
    have hblk := isBlock_serialize B 100 199 hwfB
    have hB4 := block_len4 hblk
    by_cases hpart : b < B.serialize.length
    · have hsmall := hcut.lt hpart (by simp [Pos.bytes]) (fun hl => hl.blocks.1 B (his B (by simp))) maxhdr_pos
      simp only [Pos.bytes, List.map_cons, List.flatten_cons, micro] at hb ⊢
      rw [List.append_assoc] at hb ⊢
      obtain ⟨hp, hhp, hw⟩ := readHeader_cut ovf st _ _ hblk b hhe hpart hsmall
      rw [hw]
      refine microSync_more (p := .hdr (B :: is')) ⟨his, hr, hhp⟩ ?_
      simp only [Pos.bytes, List.map_cons, List.flatten_cons, List.length_append]
      omega
    · simp only [Pos.bytes, List.map_cons, List.flatten_cons, micro] at hb ⊢
      rw [List.append_assoc] at hb ⊢
      rw [take_append_ge _ _ _ (by omega)]
      rw [readHeader_block ovf st B 100 199 (by omega) (by omega) hwfB _ hhe]
      simp only [afterParse, interim_cond B.status hwfB.2.1 hwfB.2.2.1, if_true, MicroSync]
      refine ⟨by omega, by omega, .hdr is', rfl, ⟨fun b' hb' => his b' (by simp [hb']),
        ⟨rfl, hr.bodylen, hr.bodyRev, hr.alloc, hr.max, hr.ishead⟩, ?_⟩, ?_⟩
      · -- the next block has at least four bytes
        simp only [Nat.zero_add]
        cases is' with
        | nil => exact block_length_ge C.r.final
        | cons B2 _ => exact block_length_ge B2
      · simp [Pos.bytes]

theorem micro_sync (C : Ctx) (hok : C.WF) (p : Pos) (st : St) (hs : Sync C p st) (b : Nat)
    (hb : b ≤ (p.bytes C).length) (hcut : Uncut C p b) :
    MicroSync C p b (micro ovf st p.handler .ok ((p.bytes C).take b)) := by
  cases p with
  | hdr is => exact sync_hdr ovf C hok is st hs b hb hcut
  | chunkHdr cs => exact sync_chunkHdr ovf C hok cs st hs b hb hcut
  | data ch seg cs => exact sync_data ovf C hok ch seg cs st hs b hb
  | eofData rem => exact sync_eofData ovf C hok rem st hs b hb

def StepSync (C : Ctx) (p : Pos) (b : Nat) : StepRes → Prop
  | .done r => r = some C.resp
  | .wait st' c k h' => c ≤ b ∧ b - c < k ∧ ∃ p', h' = p'.handler ∧ Sync C p' st' ∧
      p'.bytes C = (p.bytes C).drop c ∧ (k ≤ (p'.bytes C).length ∨ (k = 1 ∧ ∃ rem, p' = .eofData rem))
  | .abort _ => False

theorem step_sync (C : Ctx) (hok : C.WF) : ∀ (F : Nat) (p : Pos) (st : St) (b : Nat),
    Sync C p st → b ≤ (p.bytes C).length → b < F → Uncut C p b →
    StepSync C p b (step ovf F st p.handler .ok ((p.bytes C).take b) 0) := by
  intro F
  induction F with
  | zero => intro p st b _ _ h; omega
  | succ F ih =>
    intro p st b hs hb hF hcut
    have hm := micro_sync ovf C hok p st hs b hb hcut
    rw [step_succ]
    generalize micro ovf st p.handler .ok ((p.bytes C).take b) = m at hm
    cases m with
    | goto st' c h' =>
      obtain ⟨hc0, hcb, p', rfl, hs', hbytes⟩ := hm
      have hb' : b - c ≤ (p'.bytes C).length := by rw [hbytes, List.length_drop]; omega
      have := ih p' st' (b - c) hs' hb' (by omega) (hcut.drop hc0 hcb hbytes)
      simp only []
      rw [show ((p.bytes C).take b).drop c = (p'.bytes C).take (b - c) by rw [hbytes, List.drop_take]]
      generalize step ovf F st' p'.handler .ok ((p'.bytes C).take (b - c)) 0 = r at this
      cases r with
      | done r => exact this
      | abort w => exact this
      | wait st'' c2 k h'' =>
        obtain ⟨a2, a3, p'', a4, a5, a6, a7⟩ := this
        exact ⟨by omega, by omega, p'', a4, a5, by rw [a6, hbytes, List.drop_drop], a7⟩
    | wait st' c k h' => exact hm
    | done r => exact hm
    | abort w => exact hm

/-- at the end of a read-to-EOF body, EOF completes the response -/
theorem step_eof (C : Ctx) (st : St) (b : Nat) (buf : List UInt8)
    (hs : Sync C (.eofData []) st) : step ovf (b + 1) st .readToEof .eof buf 0 = .done (some C.resp) := by
  obtain ⟨got, ch, hbs, hbody⟩ := hs
  apply step_done
  simp only [micro]
  rw [readToEof_eof st _ _ _ _ got hbs]
  rw [List.append_nil] at hbody
  simp [Ctx.resp, hbody]

/-- a reader/network which delivers the stream completely.  `J o rlen b` ties the reader's state `o` to a moment of the
    run at which `rlen` bytes are unconsumed and `b` of them buffered; the run then consumes `c` and waits for `k`, and
    the reader answers with data as long as the stream has enough of it.  At the end of the stream it may answer with
    data (the run itself turns a wait the stream cannot satisfy into EOF) or with EOF. -/
def Delivers {σ : Type} (oracle : σ → Nat → Nat → σ × Arrival) (J : σ → Nat → Nat → Prop) : Prop :=
  ∀ o rlen b c k, J o rlen b → c ≤ b → b ≤ rlen → b - c < k →
    (k ≤ rlen - c → ∃ e, (oracle o c k).2 = .more e ∧
      J (oracle o c k).1 (rlen - c) (if k + e > rlen - c then rlen - c else k + e)) ∧
    (rlen - c < k → (∃ e, (oracle o c k).2 = .more e) ∨ (oracle o c k).2 = .eof)

/-- a reader which answers every wait with data, whatever its state -/
theorem delivers_of_more {σ : Type} {oracle : σ → Nat → Nat → σ × Arrival} (h : ∀ o c k, ∃ e, (oracle o c k).2 = .more e) :
    Delivers oracle fun _ _ _ => True :=
  fun o _ _ c k _ _ _ _ => ⟨fun _ => (h o c k).imp fun _ he => ⟨he, trivial⟩, fun _ => Or.inl (h o c k)⟩

/-- the reader which delivers all there is at the first wait never leaves a buffer which ends inside the stream -/
theorem whole_delivers (n : Nat) : Delivers (whole n) fun _ rlen b => rlen ≤ n ∧ (b = 0 ∨ b = rlen) :=
  fun _ _ _ _ _ hj _ _ _ => ⟨fun _ => ⟨n, rfl, by omega, Or.inr (by split <;> omega)⟩, fun _ => Or.inl ⟨n, rfl⟩⟩

/-- the configurations of a run which decodes `C`: in step with the stream, or entered with EOF at the end of a body
    read to EOF -/
def RunSync {σ : Type} (C : Ctx) (J : σ → Nat → Nat → Prop) (o : σ) (st : St) (h : Handler) (s : Status)
    (rest : List UInt8) (b : Nat) : Prop :=
  (s = .ok ∧ ∃ p, h = p.handler ∧ Sync C p st ∧ rest = p.bytes C ∧ J o rest.length b) ∨
  (s = .eof ∧ h = .readToEof ∧ Sync C (.eofData []) st)

theorem run_sync {σ : Type} (oracle : σ → Nat → Nat → σ × Arrival) (J : σ → Nat → Nat → Prop) (hJ : Delivers oracle J)
    (C : Ctx) (hok : C.WF) (hcut : ∀ o rlen b, J o rlen b → C.Lim ∨ b = 0 ∨ b = rlen)
    (f : Nat) (o : σ) (p : Pos) (st : St) (rest : List UInt8) (rlen b : Nat) (ws : List Nat)
    (hs : Sync C p st) (hrest : rest = p.bytes C) (hrl : rlen = rest.length) (hb : b ≤ rlen) (hfuel : rlen - b + 2 ≤ f)
    (hj : J o rlen b) :
    ∃ ws', run ovf oracle f o st p.handler .ok rest rlen b ws = .callback (some C.resp) ws' := by
  refine Exists.elim (run_rule ovf oracle (RunSync C J) (· = some C.resp) ?_ f o st p.handler .ok rest rlen b ws hrl hb
    (Or.inl ⟨rfl, p, rfl, hs, hrest, hrl ▸ hj⟩) (fun _ => hfuel) (by omega)) fun _ ⟨ws', h, hr⟩ => ⟨ws', hr ▸ h⟩
  rintro o st h s rest b (⟨rfl, p, rfl, hs, rfl, hj⟩ | ⟨rfl, rfl, hs⟩) hb
  · have hss := step_sync ovf C hok (b + 1) p st b hs hb (by omega) (hcut _ _ _ hj)
    generalize step ovf (b + 1) st p.handler .ok ((p.bytes C).take b) 0 = r0 at hss
    cases r0 with
    | done r => exact hss
    | abort w => exact hss
    | wait st' c k h' =>
      obtain ⟨hcb, hk, p', hh, hs', hbytes, hor⟩ := hss
      refine ⟨hcb, hk, ?_⟩
      obtain ⟨hmore, hend⟩ := hJ o _ b c k hj hcb hb hk
      have hlen' : (p'.bytes C).length = (p.bytes C).length - c := by rw [hbytes, List.length_drop]
      simp only [arrive]
      rw [if_neg (by omega)]
      by_cases hkr : k ≤ (p.bytes C).length - c
      · obtain ⟨e, he, hj'⟩ := hmore hkr
        rw [he]
        dsimp only
        rw [if_pos hkr]
        exact Or.inl ⟨rfl, p', hh, hs', hbytes.symm, by rwa [List.length_drop]⟩
      · -- the stream is exhausted: this only happens while reading to EOF
        rcases hor with hle | ⟨hk1', rem, hp'⟩
        · omega
        · subst hp'
          obtain rfl : rem = [] := List.eq_nil_of_length_eq_zero (by have : rem.length = _ := hlen'; omega)
          rcases hend (by omega) with ⟨e, he⟩ | he <;> rw [he] <;> dsimp only
          · rw [if_neg hkr]
            exact Or.inr ⟨rfl, hh, hs'⟩
          · exact Or.inr ⟨rfl, hh, hs'⟩
  · rw [step_eof ovf C st _ _ hs]

/-- the initial parser state stands at the start of the wire format -/
theorem sync_start (C : Ctx) :
    Sync C (.hdr C.r.interim) (initSt C.ishead C.max) ∧ serialize C.r C.ishead = (Pos.hdr C.r.interim).bytes C := by
  refine ⟨⟨fun _ h => h, ⟨rfl, rfl, rfl, Nat.zero_le _, rfl, rfl⟩, ?_⟩, ?_⟩
  · simp only [initSt, Nat.zero_add]
    cases C.r.interim with
    | nil => exact block_length_ge C.r.final
    | cons B _ => exact block_length_ge B
  · simp [serialize, Pos.bytes, Ctx.after, List.append_assoc]

/-- **Exact decoding**: a well-formed response is decoded exactly by every reader which delivers the stream completely
    and never leaves the buffer's end inside a header block or chunk-size line too long for the client's window: because
    the response has none, or because the reader delivers nothing or all there is (no handler then sees a block or line
    cut short, and the windows are never looked at). -/
theorem decode_run {σ : Type} (oracle : σ → Nat → Nat → σ × Arrival) (J : σ → Nat → Nat → Prop) (hJ : Delivers oracle J)
    (o : σ) (C : Ctx) (hok : C.WF) (hcut : ∀ o rlen b, J o rlen b → C.Lim ∨ b = 0 ∨ b = rlen)
    (hj : J o (serialize C.r C.ishead).length 0) :
    ∃ ws, runAll ovf oracle o C.ishead C.max (serialize C.r C.ishead) = .callback (some C.resp) ws :=
  run_sync ovf oracle J hJ C hok hcut _ o (.hdr C.r.interim) _ _ _ 0 [] (sync_start C).1 (sync_start C).2 rfl (Nat.zero_le _)
    (by omega) hj

end Percival.Proofs.HttpSeg

namespace Percival.Proofs.HttpDecode
open Percival.Model.Http Percival.Spec.HttpResp

/-- **Batch decoding**: the model run on the wire format of a well-formed response, the whole stream buffered,
    ends in the callback with exactly that response. -/
theorem decode_serialize (ovf : Bool → Nat → Int) (r : Percival.Spec.HttpResp.Resp) (ishead : Bool) (max : Nat)
    (hwf : r.WF ishead) (hmax : (expectedBody r ishead).length ≤ max) (hsz : r.framing.body.length + 2 ≤ SIZE_MAX) :
    ∃ ws, runAll ovf (whole (serialize r ishead).length) () ishead max (serialize r ishead) =
      .callback (some { status := (r.final.status : Int), headers := expectedHeaders r,
                        body := some (expectedBody r ishead) }) ws :=
  HttpSeg.decode_run ovf _ _ (HttpSeg.whole_delivers _) () { r, ishead, max } ⟨hwf, hmax, hsz⟩
    (fun _ _ _ h => Or.inr h.2) ⟨Nat.le_refl _, Or.inl rfl⟩

end Percival.Proofs.HttpDecode
