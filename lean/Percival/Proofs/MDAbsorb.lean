import Percival.Spec.MD
/-! Lemmas about `Spec.MD.blocks / absorb / padding`. -/
namespace Percival.Proofs.MD
open Percival.Spec Percival.Spec.MD
variable (p : Params)

theorem blocks_fuel (s : p.St) (n k : Nat) (m : Bytes) (h1 : m.length / 64 < n) (h2 : m.length / 64 < k) :
    blocks p s n m = blocks p s k m := by
  induction n generalizing s k m with
  | zero => omega
  | succ n ih =>
    cases k with
    | zero => omega
    | succ k =>
      simp only [blocks]
      split
      · rfl
      · rename_i hlen
        simp only [List.length_take] at hlen
        apply ih
        · simp only [List.length_drop]; omega
        · simp only [List.length_drop]; omega

theorem absorb_short (s : p.St) (m : Bytes) (h : m.length < 64) : absorb p s m = s := by
  unfold absorb
  have : m.length / 64 = 0 := by omega
  simp only [this, blocks, List.length_take]
  split
  · rfl
  · omega

theorem absorb_block (s : p.St) (b m : Bytes) (hb : b.length = 64) :
    absorb p s (b ++ m) = absorb p (p.compress s b) m := by
  unfold absorb
  have hl : (b ++ m).length = 64 + m.length := by simp [hb]
  have : (b ++ m).length / 64 + 1 = (m.length / 64 + 1) + 1 := by omega
  rw [this, blocks]
  have ht : (b ++ m).take 64 = b := by
    rw [List.take_append_of_le_length (by omega)]; exact List.take_of_length_le (by omega)
  have hd : (b ++ m).drop 64 = m := by
    rw [List.drop_append_of_le_length (by omega)]; simp [List.drop_of_length_le, hb]
  simp only [ht, hd, hb, Nat.lt_irrefl, if_false]

theorem absorb_append (s : p.St) (a m : Bytes) (k : Nat) (ha : a.length = 64 * k) :
    absorb p s (a ++ m) = absorb p (absorb p s a) m := by
  induction k generalizing s a with
  | zero =>
    have : a = [] := List.eq_nil_of_length_eq_zero (by omega)
    subst this
    simp [absorb_short]
  | succ k ih =>
    have h1 : (a.take 64).length = 64 := by simp [List.length_take]; omega
    have h2 : (a.drop 64).length = 64 * k := by simp [List.length_drop]; omega
    have hsplit : a = a.take 64 ++ a.drop 64 := (List.take_append_drop 64 a).symm
    rw [hsplit, List.append_assoc, absorb_block p s _ _ h1, ih _ _ h2, absorb_block p s _ _ h1]

theorem absorb_tail (s : p.St) (a t : Bytes) (k : Nat) (ha : a.length = 64 * k) (ht : t.length < 64) :
    absorb p s (a ++ t) = absorb p s a := by
  rw [absorb_append p s a t k ha, absorb_short p _ t ht]

theorem absorb_one (s : p.St) (b : Bytes) (hb : b.length = 64) : absorb p s b = p.compress s b := by
  have := absorb_block p s b [] hb
  simpa [absorb_short] using this

theorem absorb_full (s : p.St) (m : Bytes) : absorb p s m = absorb p s (m.take (m.length / 64 * 64)) := by
  have h := absorb_tail p s (m.take (m.length / 64 * 64)) (m.drop (m.length / 64 * 64)) (m.length / 64)
    (by simp [List.length_take]; omega) (by simp [List.length_drop]; omega)
  rw [List.take_append_drop] at h
  exact h

theorem padding_eq (n : Nat) :
    padding p n = (0x80 :: List.replicate ((if n % 64 < 56 then 56 - n % 64 else 120 - n % 64) - 1) 0) ++ p.lenEnc (8 * n % 2^64) := by
  have hcnt : (119 - n % 64) % 64 = (if n % 64 < 56 then 56 - n % 64 else 120 - n % 64) - 1 := by
    split <;> omega
  unfold padding zeroCount
  rw [hcnt]

theorem padded_len (m : Bytes) : ∃ k, (m ++ padding p m.length).length = 64 * k := by
  refine ⟨(m ++ padding p m.length).length / 64, ?_⟩
  simp only [padding, zeroCount, List.length_append, List.length_cons, List.length_replicate, p.lenEnc_len]
  omega

end Percival.Proofs.MD
