import Percival.Proofs.EventsC04Rel
import Percival.Proofs.EventsStep
/-!
# C04: every trace of the model is accepted by the C04 monitor

`Good C s`: the trace so far is accepted and the monitor's state is related to the model's.  Every piece of the
model that emits an event is one monitor step that keeps `Rel` (an API call: `applyOp_good`; a callback: `Fireable`, handed
over by the three gets as `GetPost`; a poll or an event the monitor ignores: `good_step`); the loops of `events.c` are
walked once, with `Weak` standing for "`Good`, or out of fuel".
-/
namespace Percival.Proofs.EventsC04
open Percival.Spec.Events Percival.Spec.Events.C04 Percival.Model.Events Percival.Model
open Percival.Proofs.EventsNet Percival.Proofs.EventsImm Percival.Proofs.EventsLive Percival.Proofs.EventsTQ
open Percival.Proofs.EventsNetAbs
open Percival.Proofs.EventsStep (isRun4)

def Adm (s : State) : Prop := ∃ m, C04.run {} s.trace.reverse = .ok m

def Good (C : TQContract) (s : State) : Prop :=
  s.fault = false ∧ ∃ m, C04.run {} s.trace.reverse = .ok m ∧ Rel C m s

/-- either `Good`, or the model gave up with an accepted trace (it records `fault` only when a loop runs out of fuel:
    under `Rel` no array access is out of bounds) -/
def Weak (C : TQContract) (s : State) : Prop := Good C s ∨ (s.fault = true ∧ Adm s)

theorem Good.adm {C : TQContract} {s : State} (h : Good C s) : Adm s := by
  obtain ⟨_, m, hm, _⟩ := h; exact ⟨m, hm⟩

theorem Weak.adm {C : TQContract} {s : State} (h : Weak C s) : Adm s := by
  rcases h with h | h
  · exact h.adm
  · exact h.2

theorem good_of_weak {C : TQContract} {s : State} (h : Weak C s) (hf : s.fault = false) : Good C s := by
  rcases h with h | ⟨h, _⟩
  · exact h
  · rw [hf] at h; cases h

/-- the part of the model's state that the relation reads -/
def core (s : State) : Net × Imm × TimerQueue.TQ × List (Nat × TimerRec) × Nat × Nat :=
  (s.net, s.imm, s.tq, s.timers, s.nextRec, s.clock)

theorem rel_of_eq {C : TQContract} {m : M} {s s' : State} (r : Rel C m s) (h : core s' = core s) : Rel C m s' := by
  simp only [core, Prod.mk.injEq] at h
  obtain ⟨h1, h2, h3, h4, h5, h6⟩ := h
  refine ⟨r.keys, by rw [h6]; exact r.clock, by rw [h2]; exact r.imm, by rw [h1]; exact r.net, ?_⟩
  rw [h3, h4, h5]; exact r.tm

theorem adm_emit {s s' : State} (h : Adm s) {e : Ev} (ht : s'.trace = e :: s.trace) (he : ∀ m, C04.step m e = .ok m) :
    Adm s' := by
  obtain ⟨m, hm⟩ := h
  exact ⟨m, ht ▸ isRun4.emit hm (he m)⟩

theorem good_step {C : TQContract} {s s' : State} (hg : Good C s) {e : Ev} (hf : s'.fault = false)
    (ht : s'.trace = e :: s.trace)
    (h : ∀ m, Rel C m s → ∃ m', C04.step m e = .ok m' ∧ Rel C m' s') : Good C s' := by
  obtain ⟨_, m, hm, hr⟩ := hg
  obtain ⟨m', hs, hr'⟩ := h m hr
  exact ⟨hf, m', ht ▸ isRun4.emit hm hs, hr'⟩

/-- an event the C04 monitor ignores (`he` is `fun _ => rfl` for each of them), emitted without a change to
    what the relation reads -/
theorem good_ignored {C : TQContract} {s s' : State} (hg : Good C s) {e : Ev} (hf : s'.fault = false)
    (ht : s'.trace = e :: s.trace) (he : ∀ m, C04.step m e = .ok m) (hc : core s' = core s) : Good C s' :=
  good_step hg hf ht (fun m r => ⟨m, he m, rel_of_eq r hc⟩)

theorem weak_faulted {s : State} (C : TQContract) (h : Adm s) : Weak C (faulted s) :=
  Or.inr ⟨rfl, adm_emit h (e := .fault) rfl (fun _ => rfl)⟩

/-- one more event, accepted from the state the trace has reached, staying related -/
theorem good_next {C : TQContract} {s s' : State} {m m' : M} {e : Ev} (hm : C04.run {} s.trace.reverse = .ok m)
    (hf : s'.fault = false) (ht : s'.trace = e :: s.trace) (hs : C04.step m e = .ok m') (hr : Rel C m' s') : Good C s' :=
  ⟨hf, m', ht ▸ isRun4.emit hm hs, hr⟩

theorem applyOp_good (C : TQContract) (s : State) (o : Op) (hg : Good C s) : Good C (applyOp s o) := by
  obtain ⟨hf, m, hm, hr⟩ := hg
  -- a call that changes nothing (`skip`, EEXIST, ENOENT)
  have same : ∀ e : Ev, C04.step m e = .ok m → Good C (emit s e) :=
    fun e he => good_next hm hf rfl he (rel_of_eq hr rfl)
  unfold applyOp
  rw [if_neg (by simp [hf])]
  cases o with
  | regImm id prio =>
    simp only
    by_cases hc : (isLive s id || decide (prio ≥ 32)) = true
    · rw [if_pos hc]; exact same _ rfl
    · rw [if_neg hc]
      simp only [Bool.or_eq_true, decide_eq_true_eq, not_or, Bool.not_eq_true] at hc
      obtain ⟨q', heq, hr'⟩ := rel_regImm hr id prio hc.1 (by omega)
      simp only [heq]
      exact good_next hm hf rfl rfl (rel_of_eq hr' rfl)
  | cancelImm id =>
    simp only
    cases hp : immPrioOf s.imm id with
    | none => exact same _ rfl
    | some p =>
      obtain ⟨q', heq, hr'⟩ := rel_cancelImm hr id p hp
      simp only [heq]
      exact good_next hm hf rfl rfl (rel_of_eq hr' rfl)
  | regNet id fd d =>
    simp only
    by_cases hc : isLive s id = true
    · rw [if_pos hc]; exact same _ rfl
    · rw [if_neg hc]
      rcases netRegister_abs s.net id fd d hr.net.inv with ⟨id0, _, heq⟩ | ⟨n', heq, ha⟩
      · simp only [heq]
        exact same _ rfl
      · simp only [heq]
        exact good_next hm hf rfl rfl (rel_of_eq (rel_regNet_ok hr (by simpa using hc) ha) rfl)
  | cancelNet fd d =>
    simp only
    rcases netCancel_abs s.net fd d hr.net.inv with ⟨_, heq⟩ | ⟨id, n', heq, hd⟩
    · simp only [heq]
      exact same _ rfl
    · simp only [heq]
      exact good_next hm hf rfl rfl (rel_of_eq (rel_cancelNet_ok hr hd) rfl)
  | regTimer id usec =>
    simp only
    by_cases hc : isLive s id = true
    · rw [if_pos hc]; exact same _ rfl
    · rw [if_neg hc]
      cases hgt : gettimeout s.clock ((usec / 1000000 : Nat) : Int) ((usec % 1000000 : Nat) : Int) with
      | mk sec us => exact good_next hm hf rfl rfl (rel_of_eq (rel_regTimer hr id usec _ sec us (by simpa using hc) rfl (TV.split usec) hgt) rfl)
  | cancelTimer id =>
    simp only
    cases ht : timerOf s id with
    | none => exact same _ rfl
    | some t =>
      obtain ⟨q', heq, hr'⟩ := rel_cancelTimer hr id t ht
      simp only [heq]
      exact good_next hm hf rfl rfl (rel_of_eq hr' rfl)
  | resetTimer id =>
    simp only
    cases ht : timerOf s id with
    | none => exact same _ rfl
    | some t =>
      cases hgt : gettimeout s.clock t.osec t.ousec with
      | mk sec us =>
        obtain ⟨q', us0, dl0, heq, hl, hr'⟩ := rel_resetTimer hr id t sec us ht hgt
        simp only [hgt, heq]
        refine good_next hm hf rfl ?_ (rel_of_eq hr' rfl)
        delta C04.step
        simp only [hl]
        rfl
  | interrupt => exact good_next hm hf rfl rfl (rel_of_eq hr rfl)
  | clock us => exact good_next hm hf rfl rfl (rel_of_eq (rel_clock hr us) rfl)
  | done => exact good_next hm hf rfl rfl (rel_of_eq hr rfl)

/-- the record of registration `id` has just been taken out of the model's state `s`; the monitor
    (in the state reached by the trace so far) accepts its invocation -/
def Fireable (C : TQContract) (s : State) (id : Nat) : Prop :=
  s.fault = false ∧ ∃ m m', C04.run {} s.trace.reverse = .ok m ∧ C04.step m (.cb id) = .ok m' ∧ Rel C m' s

theorem Fireable.adm {C : TQContract} {s : State} {id : Nat} (h : Fireable C s id) : Adm s := by
  obtain ⟨_, m, _, hm, _⟩ := h; exact ⟨m, hm⟩

theorem doevent_good (C : TQContract) (s : State) (id : Nat) (h : Fireable C s id) : Good C (doevent s id).1 := by
  obtain ⟨hf, m, m', hm, hs, hr⟩ := h
  have h1 : Good C (emit { s with cbcount := s.cbcount + 1 } (.cb id)) :=
    ⟨hf, m', isRun4.emit hm hs, rel_of_eq hr rfl⟩
  unfold doevent
  simp only
  split
  · exact good_ignored h1 h1.1 rfl (fun _ => rfl) rfl
  · have h2 := List.foldlRecOn (scriptOf (emit { s with cbcount := s.cbcount + 1 } (.cb id)) id).ops applyOp h1
      fun s hs o _ => applyOp_good C s o hs
    exact good_ignored h2 h2.1 rfl (fun _ => rfl) rfl

/-- after a `get`: nothing found and still `Good`, or the record of `id` taken out and `Fireable` -/
def GetPost (C : TQContract) (p : State × Option Nat) : Prop :=
  (∃ s1, p = (s1, none) ∧ Good C s1) ∨ ∃ s1 id, p = (s1, some id) ∧ Fireable C s1 id

theorem immGetS_good (C : TQContract) (s : State) (h : Good C s) : GetPost C (immGetS s) := by
  obtain ⟨hf, m, hm, hr⟩ := h
  obtain ⟨l, hq, hnd, hiff⟩ := hr.imm
  unfold immGetS
  simp only
  rcases immGet_rq_filter s.imm l hq hnd with ⟨hl, hnone, hq'⟩ | ⟨j, _, hj, hsome, hq'⟩
  · rw [hnone]
    subst hl
    exact .inl ⟨_, rfl, hf, m, hm, { hr with imm := ⟨[], hq', hnd, hiff⟩ }⟩
  · rw [hsome]
    exact .inr ⟨_, _, rfl, hf, m, _, hm, step_cb ((hiff j.id j.prio).mpr hj) trivial, rel_remove_imm hr j.id j.prio l _ hnd hiff hj hq'⟩

theorem netGetS_good (C : TQContract) (s : State) (h : Good C s) : GetPost C (netGetS s) := by
  obtain ⟨hf, m, hm, hr⟩ := h
  unfold netGetS
  rcases netGet_abs s.net hr.net.inv with ⟨n', heq, hx, _⟩ | ⟨id, n', fd, d, heq, hh, hd⟩
  · simp only [heq]
    exact .inl ⟨_, rfl, hf, m, hm, rel_net_expanded hr hx⟩
  · simp only [heq]
    -- the monitor accepts `cb id`: the report that let the scan return it is one it knows of
    obtain ⟨rs, hl, hjust⟩ := hr.net.justified hh hd.held
    exact .inr ⟨_, _, rfl, hf, m, _, hm, step_cb hl hjust, rel_drop_net hr hd⟩

theorem timerGet_good (C : TQContract) (s : State) (h : Good C s) : GetPost C (timerGet s) := by
  obtain ⟨hf, m, hm, hr⟩ := h
  unfold timerGet
  cases hg : TimerQueue.getptr s.tq ((s.clock / 1000000 : Nat) : Int) ((s.clock % 1000000 : Nat) : Int) with
  | mk q' res =>
    cases res with
    | none => exact .inl ⟨_, rfl, hf, m, hm, hr⟩
    | some rp =>
      obtain ⟨rr, id⟩ := rp
      obtain ⟨m', hs, hr'⟩ := rel_timerGet_some hr q' rr id hg
      exact .inr ⟨_, _, rfl, hf, m, m', hm, hs, hr'⟩

/-- `Good` of the state with `fdscanpos` reset: what holds between poll's return and the end of
    `events_network_select` (a poll's answer breaks invariant 6 until the reset) -/
def GoodRescanned (C : TQContract) (s : State) : Prop :=
  Good C { s with net := { s.net with scan := topScan s.net } }

theorem answer_good (C : TQContract) (s : State) (timeout : Int) (adv : Nat) (a : List (Nat × Bits)) (rest : List PollAns)
    (h : Good C s) : GoodRescanned C (pollLoop.answer s timeout adv a rest) := by
  unfold pollLoop.answer
  simp only
  split
  · exact good_step h h.1 rfl fun m hr => ⟨{ m with clock := m.clock + adv }, rfl, rel_of_eq (rel_rescan (rel_clock hr adv)) rfl⟩
  · exact good_step h h.1 rfl fun m hr =>
      ⟨_, rfl, rel_of_eq (rel_poll_ok hr _ (netPoll_abs s.net a hr.net.inv.inv0)) rfl⟩

theorem pollLoop_good (C : TQContract) (wait : Option ((Int × Int) × Nat)) : ∀ (q : List PollAns) (timeout : Int) (s : State),
    Good C s → GoodRescanned C (pollLoop s wait timeout q) := by
  intro q
  induction q with
  | nil => intro timeout s h; unfold pollLoop; exact answer_good C s timeout 0 [] [] h
  | cons x rest ih =>
    intro timeout s h
    cases x with
    | ans adv a => unfold pollLoop; exact answer_good C s timeout adv a rest h
    | eintr adv =>
      unfold pollLoop
      simp only
      have h1 : Good C (emit { s with clock := s.clock + adv, pollq := rest }
          (.poll timeout adv (pollEntries s.net.fds (fun _ => {})) .eintr)) :=
        good_step h h.1 rfl fun m hr => ⟨{ m with clock := m.clock + adv }, rfl, rel_of_eq (rel_clock hr adv) rfl⟩
      split
      · obtain ⟨hf, m, hm, hr⟩ := h1
        exact ⟨hf, m, hm, rel_of_eq (rel_rescan hr) rfl⟩
      · exact ih _ _ h1
    | intr adv =>
      -- a signal handler calls events_interrupt() during this poll
      unfold pollLoop
      exact good_step h h.1 rfl fun m hr => ⟨{ m with clock := m.clock + adv }, rfl, rel_of_eq (rel_rescan (rel_clock hr adv)) rfl⟩

theorem netSelect_good (C : TQContract) (s : State) (tv : Option (Int × Int)) (h : Good C s) : Good C (netSelect s tv) :=
  pollLoop_good C (waitStart s tv) s.pollq (selectTimeout tv) s h

theorem immLoop_weak (C : TQContract) : ∀ (f : Nat) (s : State) (id : Nat), Fireable C s id →
    Weak C (immLoop f s id).1 := by
  intro f
  induction f with
  | zero => intro s id h; exact weak_faulted C h.adm
  | succ f ih =>
    intro s id h
    unfold immLoop
    have h1 := doevent_good C s id h
    cases hd : doevent s id with
    | mk s1 rc =>
      rw [hd] at h1
      simp only at h1 ⊢
      split
      · exact Or.inl h1
      · split
        · exact Or.inl h1
        · split
          · exact Or.inl h1
          · rcases (immGetS_good C s1 h1) with ⟨s2, heq, h2⟩ | ⟨s2, id', heq, h2⟩ <;> rw [heq]
            · exact Or.inl h2
            · exact ih s2 id' h2

theorem mainLoop_weak (C : TQContract) : ∀ (f : Nat) (s : State), Good C s → Weak C (mainLoop f s).1 := by
  intro f
  induction f with
  | zero => intro s h; exact weak_faulted C h.adm
  | succ f ih =>
    intro s hg
    -- a callback found by any of the `get`s: run it, then stop with its status or go round the loop again
    have fire : ∀ (s1 : State) (id : Nat), Fireable C s1 id →
        Weak C (if (doevent s1 id).2 ≠ 0 then ((doevent s1 id).1, (doevent s1 id).2) else mainLoop f (doevent s1 id).1).1 := by
      intro s1 id hfire
      have h2 := doevent_good C s1 id hfire
      split
      · exact Or.inl h2
      · exact ih _ h2
    unfold mainLoop
    rw [if_neg (by simp [hg.1])]
    split
    · exact Or.inl hg
    · rcases (immGetS_good C s hg) with ⟨s1, heq, h1⟩ | ⟨s1, id, heq, h1⟩ <;> rw [heq] <;> dsimp only
      · rcases (netGetS_good C s1 h1) with ⟨s2, heq, h2⟩ | ⟨s2, id, heq, h2⟩ <;> rw [heq] <;> dsimp only
        · simp only [h2.1, Bool.false_eq_true, if_false]
          rcases (netGetS_good C _ (netSelect_good C s2 (some (0, 0)) h2)) with
            ⟨s4, heq, h4⟩ | ⟨s4, id, heq, h4⟩ <;> rw [heq] <;> dsimp only
          · simp only [h4.1, Bool.false_eq_true, if_false]
            rcases (timerGet_good C s4 h4) with ⟨s5, heq, h5⟩ | ⟨s5, id, heq, h5⟩ <;> rw [heq]
            · exact Or.inl h5
            · exact fire s5 id h5
          · exact fire s4 id h4
        · exact fire s2 id h2
      · exact fire s1 id h1

theorem runInternal_weak (C : TQContract) (fuel : Nat) (s : State) (h : Good C s) : Weak C (runInternal fuel s).1 := by
  unfold runInternal
  rcases (immGetS_good C s h) with ⟨s1, heq, h1⟩ | ⟨s1, id, heq, h1⟩ <;> rw [heq]
  · exact mainLoop_weak C fuel _ (netSelect_good C s1 _ h1)
  · exact immLoop_weak C fuel s1 id h1

/-- the model's guard `if s.fault then s else …`: what follows it is entered `Good` -/
theorem weak_guard {C : TQContract} {s s' : State} (hw : Weak C s) (h : Good C s → Weak C s') :
    Weak C (if s.fault then s else s') := by
  split
  · exact hw
  · rename_i hf; exact h (good_of_weak hw (by simpa using hf))

theorem eventsRun_weak (C : TQContract) (fuel : Nat) (s : State) (h : Good C s) : Weak C (eventsRun fuel s) := by
  have h1 := runInternal_weak C fuel _ (good_ignored h (s' := emit { s with cbcount := 0 } .runBegin) h.1 rfl (fun _ => rfl) rfl)
  unfold eventsRun
  dsimp only
  cases hr : runInternal fuel (emit { s with cbcount := 0 } .runBegin) with
  | mk s1 rc =>
    rw [hr] at h1
    exact weak_guard h1 fun h1 => Or.inl (good_ignored h1 h1.1 rfl (fun _ => rfl) rfl)

theorem spinLoop_weak (C : TQContract) (fuel : Nat) : ∀ (n : Nat) (s : State) (rc : Int), Weak C s →
    Weak C (spinLoop fuel n s rc).1 := by
  intro n
  induction n with
  | zero => intro s rc h; exact weak_faulted C h.adm
  | succ n ih =>
    intro s rc h
    unfold spinLoop
    split
    · rename_i hc
      exact ih _ _ (runInternal_weak C fuel s (good_of_weak h hc.2.2.2))
    · exact h

theorem eventsSpin_weak (C : TQContract) (fuel : Nat) (s : State) (h : Good C s) : Weak C (eventsSpin fuel s) :=
  weak_guard (spinLoop_weak C fuel spinFuel _ 0 (Or.inl (good_ignored h
    (s' := emit { s with cbcount := 0 } .spinBegin) h.1 rfl (fun _ => rfl) rfl)))
    fun h1 => Or.inl (good_ignored h1 h1.1 rfl (fun _ => rfl) rfl)

theorem stepTop_weak (C : TQContract) (fuel : Nat) (s : State) (t : Top) (h : Weak C s) : Weak C (stepTop fuel s t) := by
  -- a step that leaves trace, fault flag and everything the relation reads alone
  have idle : ∀ s' : State, s'.fault = s.fault → s'.trace = s.trace → core s' = core s → Weak C s' := by
    intro s' h1 h2 h3
    rcases h with ⟨hf, m, hm, hr⟩ | ⟨hf, m, hm⟩
    · exact Or.inl ⟨by rw [h1]; exact hf, m, by rw [h2]; exact hm, rel_of_eq hr h3⟩
    · exact Or.inr ⟨by rw [h1]; exact hf, m, by rw [h2]; exact hm⟩
  cases t with
  | api o =>
    show Weak C (applyOp s o)
    rcases h with hg | ⟨hf, ha⟩
    · exact Or.inl (applyOp_good C s o hg)
    · rw [applyOp_fault s o hf]; exact Or.inr ⟨hf, ha⟩
  | script id sc => exact idle _ rfl rfl rfl
  | pollAns a => exact idle _ rfl rfl rfl
  | run => exact weak_guard h (eventsRun_weak C fuel s)
  | spin => exact weak_guard h (eventsSpin_weak C fuel s)

theorem rel_init (C : TQContract) : Rel C {} {} := by
  refine ⟨by simp [KeysNodup], rfl, ⟨[], rq_init, by simp [IdsNodup], by simp [lookup]⟩, ⟨inv_init, ?_, ?_, ?_⟩, ⟨tmOk_init C, ?_, ?_⟩⟩
  · intro id fd d; simp [lookup, slot]
  · intro j e d id he; simp at he
  · intro j e he; simp at he
  · intro id us dl; simp [lookup, TmView]
  · intro id us dl h; simp [lookup] at h

theorem foldl_weak (C : TQContract) (fuel : Nat) (prog : List Top) (s : State) (h : Weak C s) :
    Weak C (prog.foldl (stepTop fuel) s) :=
  List.foldlRecOn prog (stepTop fuel) h fun s hs t _ => stepTop_weak C fuel s t hs

theorem run_admissible (C : TQContract) (fuel : Nat) (prog : List Top) : C04.admissible (Model.Events.run fuel prog) = true := by
  have h0 : Weak C ({} : State) := Or.inl ⟨rfl, {}, rfl, rel_init C⟩
  obtain ⟨m, hm⟩ := (foldl_weak C fuel prog {} h0).adm
  unfold C04.admissible Model.Events.run
  rw [hm]

theorem run_ok_of_admissible {t : Trace} (h : C04.admissible t = true) : ∃ m, C04.run {} t = .ok m := by
  unfold C04.admissible at h
  cases hr : C04.run {} t with
  | ok m => exact ⟨m, rfl⟩
  | error e => rw [hr] at h; cases h

end Percival.Proofs.EventsC04
