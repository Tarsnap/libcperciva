import Percival.Model.NetbufWrite
import Percival.Proofs.NetbufRead
/-! Helper lemmas for C07, writer half: what has been sent plus what is still queued is what was written. -/
namespace Percival.Proofs.NetbufWrite
open Percival.Spec.ByteStream Percival.Model.Netbuf Percival.Model.NetbufWrite
open Percival.Proofs.NetbufRead (slice_eq blit_eq sub_eq)

theorem last_split {α : Type} (q : List α) (x : α) (h : q.getLast? = some x) : q = q.dropLast ++ [x] := by
  obtain ⟨ys, rfl⟩ := List.getLast?_eq_some_iff.1 h
  rw [List.dropLast_concat]

def qdata (q : List WBuf) : Bytes := (q.map WBuf.data).flatten

def currData (w : W) : Bytes :=
  match w.curr with
  | some wb => wb.data
  | none => []

/-- everything accepted from the application and not yet reported written by the transport -/
def pendingData (w : W) : Bytes := currData w ++ qdata w.queue

@[simp] theorem qdata_nil : qdata [] = [] := rfl
@[simp] theorem qdata_cons (wb : WBuf) (q : List WBuf) : qdata (wb :: q) = wb.data ++ qdata q := by
  simp [qdata]
@[simp] theorem qdata_append (q1 q2 : List WBuf) : qdata (q1 ++ q2) = qdata q1 ++ qdata q2 := by
  simp [qdata]

structure BufOK (wb : WBuf) : Prop where
  len : wb.buf.length = wb.buflen
  dat : wb.datalen ≤ wb.buflen

theorem data_length {wb : WBuf} (h : BufOK wb) : wb.data.length = wb.datalen := by
  obtain ⟨h1, h2⟩ := h
  simp [WBuf.data, List.length_take]; omega

theorem data_empty {wb : WBuf} (h : wb.datalen = 0) : wb.data = [] := by
  simp [WBuf.data, h]

theorem dropEmpty_spec (q : List WBuf) :
    qdata (dropEmpty q) = qdata q ∧ (∀ wb ∈ dropEmpty q, wb ∈ q) ∧
      (∀ wb rest, dropEmpty q = wb :: rest → wb.datalen ≠ 0) := by
  induction q with
  | nil => simp [dropEmpty]
  | cons wb t ih =>
    unfold dropEmpty
    by_cases h : wb.datalen = 0
    · rw [if_pos h]
      refine ⟨by simp [ih.1, data_empty h], fun x hx => List.mem_cons_of_mem _ (ih.2.1 x hx), ih.2.2⟩
    · rw [if_neg h]
      refine ⟨rfl, fun x hx => hx, ?_⟩
      intro wb' rest e
      simp only [List.cons.injEq] at e
      rw [← e.1]; exact h

structure Inv (w : W) : Prop where
  q : ∀ wb ∈ w.queue, BufOK wb
  c : ∀ wb, w.curr = some wb → BufOK wb ∧ 0 < wb.datalen
  failedIdle : w.failed = true → w.curr = none
  idle : w.failed = false → w.curr = none → qdata w.queue = []

theorem inv_init : Inv init := by
  refine ⟨?_, ?_, ?_, ?_⟩ <;> simp [init]

theorem poke_spec {w : W} (hq : ∀ wb ∈ w.queue, BufOK wb) (hc : ∀ wb, w.curr = some wb → BufOK wb ∧ 0 < wb.datalen)
    (hf : w.failed = true → w.curr = none) :
    ∃ w', poke w = .ok w' ∧ w'.failed = w.failed ∧ w'.reserved = w.reserved ∧
      pendingData w' = pendingData w ∧ Inv w' ∧ (w.curr.isSome → w' = w) := by
  unfold poke
  by_cases h1 : (w.curr.isSome || w.queue.isEmpty) = true
  · rw [if_pos h1]
    refine ⟨w, rfl, rfl, rfl, rfl, ⟨hq, hc, hf, ?_⟩, fun _ => rfl⟩
    intro _ hcn
    simp only [hcn, Option.isSome_none, Bool.false_or, List.isEmpty_iff] at h1
    simp [h1]
  · rw [if_neg h1]
    simp only [Bool.or_eq_true, not_or, Bool.not_eq_true, Option.isSome_eq_false_iff, Option.isNone_iff_eq_none] at h1
    obtain ⟨hcn, _⟩ := h1
    by_cases h2 : w.failed = true
    · rw [if_pos h2]
      exact ⟨w, rfl, rfl, rfl, rfl, ⟨hq, hc, hf, by intro h; simp [h] at h2⟩, by simp [hcn]⟩
    · rw [if_neg h2]
      obtain ⟨hd, hmem, hne⟩ := dropEmpty_spec w.queue
      cases hde : dropEmpty w.queue with
      | nil =>
        simp only [Res.pure_eq]
        refine ⟨_, rfl, rfl, rfl, ?_, ⟨?_, ?_, ?_, ?_⟩, by simp [hcn]⟩
        · rw [hde] at hd
          simp [pendingData, currData, hcn, ← hd]
        · intro wb hwb; simp at hwb
        · intro wb hwb; exact hc wb hwb
        · exact hf
        · intro _ _; rfl
      | cons wb rest =>
        have hwb0 := hne wb rest hde
        have hok : BufOK wb := hq wb (hmem wb (by rw [hde]; exact List.mem_cons_self))
        simp only []
        rw [if_neg hwb0, slice_eq _ _ _ (by have := hok.len; have := hok.dat; omega)]
        simp only [Res.ok_bind, Res.pure_eq]
        refine ⟨_, rfl, rfl, rfl, ?_, ⟨?_, ?_, ?_, ?_⟩, by simp [hcn]⟩
        · rw [hde] at hd
          simp only [pendingData, currData, hcn, List.nil_append, ← hd, qdata_cons]
        · intro x hx
          exact hq x (hmem x (by rw [hde]; exact List.mem_cons_of_mem _ hx))
        · intro x hx
          simp only [Option.some.injEq] at hx
          subst hx
          exact ⟨hok, by omega⟩
        · intro hft
          exact absurd hft h2
        · intro _ hcn'
          simp at hcn'

/-- how the model mirrors the outstanding reservation of the call protocol: the reserved bytes are
inside the last queued buffer, behind its data -/
def ResvRel (w : W) : Option Nat → Prop
  | none => w.reserved = false
  | some n => w.reserved = true ∧ ∃ wb, w.queue.getLast? = some wb ∧ n ≤ wb.buflen - wb.datalen

theorem newBuflen_ge (n : Nat) : n ≤ newBuflen n := by
  unfold newBuflen; split <;> omega

theorem reserve_spec {w : W} (hi : Inv w) (hr : ResvRel w none) (n : Nat) :
    ∃ w', reserve w n = .ok w' ∧ Inv w' ∧ ResvRel w' (some n) ∧ pendingData w' = pendingData w ∧
      w'.failed = w.failed ∧ w'.curr = w.curr := by
  have hres : w.reserved = false := hr
  unfold reserve
  rw [if_neg (by simp [hres])]
  simp only []
  -- the new-buffer branch
  have fresh : ∀ w0 : W, w0 = { w with reserved := true, queue := w.queue ++
      [{ buf := List.replicate (newBuflen n) 0, buflen := newBuflen n, datalen := 0 }] } →
      Inv w0 ∧ ResvRel w0 (some n) ∧ pendingData w0 = pendingData w ∧ w0.failed = w.failed ∧ w0.curr = w.curr := by
    intro w0 e
    subst e
    refine ⟨⟨?_, hi.c, hi.failedIdle, ?_⟩, ⟨rfl, _, List.getLast?_concat, by simp [newBuflen_ge]⟩, ?_, rfl, rfl⟩
    · intro wb hwb
      simp only [List.mem_append, List.mem_singleton] at hwb
      rcases hwb with hwb | rfl
      · exact hi.q wb hwb
      · exact ⟨by simp, by simp⟩
    · intro hf hc
      simp [hi.idle hf hc, WBuf.data]
    · simp [pendingData, currData, WBuf.data]
  cases hl : w.queue.getLast? with
  | none =>
    simp only [Res.pure_eq]
    exact ⟨_, rfl, fresh _ rfl⟩
  | some wb =>
    have hmem : wb ∈ w.queue := List.mem_of_getLast? hl
    have hok := hi.q wb hmem
    simp only []
    rw [sub_eq _ _ hok.dat]
    simp only [Res.ok_bind]
    by_cases hfit : n ≤ wb.buflen - wb.datalen
    · rw [if_pos hfit]
      simp only [Res.pure_eq]
      exact ⟨_, rfl, ⟨hi.q, hi.c, hi.failedIdle, hi.idle⟩, ⟨rfl, wb, hl, hfit⟩, rfl, rfl, rfl⟩
    · rw [if_neg hfit]
      simp only [Res.pure_eq]
      exact ⟨_, rfl, fresh _ rfl⟩

theorem data_blit (wb : WBuf) (hok : BufOK wb) (d : Bytes) :
    (wb.buf.take wb.datalen ++ (d ++ wb.buf.drop (wb.datalen + d.length))).take (wb.datalen + d.length)
      = wb.data ++ d := by
  have h1 := hok.len
  have h2 := hok.dat
  have hl : (wb.buf.take wb.datalen ++ d).length = wb.datalen + d.length := by
    simp [List.length_take]; omega
  rw [← List.append_assoc, ← hl, List.take_left' rfl]
  rfl

theorem data_blit_keep (wb : WBuf) (hok : BufOK wb) (d : Bytes) :
    (wb.buf.take wb.datalen ++ (d ++ wb.buf.drop (wb.datalen + d.length))).take wb.datalen = wb.data := by
  have h1 := hok.len
  have h2 := hok.dat
  rw [List.take_append_of_le_length (by simp [List.length_take]; omega)]
  simp [WBuf.data, List.take_take]

theorem consume_spec {w : W} (hi : Inv w) (n : Nat) (hr : ResvRel w (some n)) (d : Bytes) (hd : d.length ≤ n) :
    ∃ w', consume w d = .ok w' ∧ Inv w' ∧ ResvRel w' none ∧ w'.failed = w.failed ∧
      (w.failed = false → pendingData w' = pendingData w ++ d) ∧ (w.failed = true → w'.curr = none) ∧
      (∀ wb, w.curr = some wb → w'.curr = some wb) := by
  obtain ⟨hres, wb, hl, hn⟩ := hr
  have hmem : wb ∈ w.queue := List.mem_of_getLast? hl
  have hok := hi.q wb hmem
  have hlen := hok.len
  have hdat := hok.dat
  have hsplit := last_split _ _ hl
  unfold consume
  rw [if_neg (by simp [hres]), hl]
  simp only []
  rw [sub_eq _ _ hdat]
  simp only [Res.ok_bind]
  rw [if_neg (by omega), blit_eq _ _ _ (by omega)]
  simp only [Res.ok_bind]
  -- the writer just before `poke`
  let wb' : WBuf := ⟨wb.buf.take wb.datalen ++ (d ++ wb.buf.drop (wb.datalen + d.length)), wb.buflen, if w.failed = true then wb.datalen else wb.datalen + d.length⟩
  have hq' : ∀ x ∈ w.queue.dropLast ++ [wb'], BufOK x := by
    intro x hx
    simp only [List.mem_append, List.mem_singleton] at hx
    rcases hx with hx | rfl
    · exact hi.q x ((List.dropLast_sublist _).subset hx)
    · refine ⟨?_, ?_⟩
      · simp [wb', List.length_take, List.length_drop]; omega
      · show (if w.failed = true then wb.datalen else wb.datalen + d.length) ≤ wb.buflen
        split <;> omega
  obtain ⟨w', e, hf', hr', hp', hinv', hsame⟩ := poke_spec (w := ⟨w.queue.dropLast ++ [wb'], w.curr, false, w.failed⟩) hq' hi.c hi.failedIdle
  refine ⟨w', e, hinv', ?_, hf', ?_, ?_, fun wb0 hc0 => ?_⟩
  rotate_right
  · rw [hsame (by show w.curr.isSome = true; rw [hc0]; rfl)]
    exact hc0
  · show w'.reserved = false
    rw [hr']
  · intro hnf
    rw [hp']
    simp only [pendingData, currData, qdata_append, qdata_cons, qdata_nil, List.append_nil]
    rw [hsplit] at *
    simp only [qdata_append, qdata_cons, qdata_nil, List.append_nil, List.dropLast_concat, List.append_assoc]
    congr 2
    have hdl : wb'.datalen = wb.datalen + d.length := by simp [wb', hnf]
    show wb'.buf.take wb'.datalen = wb.data ++ d
    rw [hdl]
    exact data_blit wb hok d
  · intro hft
    have := hinv'.failedIdle (by rw [hf']; exact hft)
    exact this

theorem write_spec {w : W} (hi : Inv w) (hr : ResvRel w none) (d : Bytes) :
    ∃ w', write w d = .ok w' ∧ Inv w' ∧ ResvRel w' none ∧ w'.failed = w.failed ∧
      (w.failed = false → pendingData w' = pendingData w ++ d) ∧ (w.failed = true → w' = w) ∧
      (∀ wb, w.curr = some wb → w'.curr = some wb) := by
  unfold write
  by_cases hf : w.failed = true
  · rw [if_pos hf]
    exact ⟨w, rfl, hi, hr, rfl, fun h => by simp [h] at hf, fun _ => rfl, fun _ h => h⟩
  · rw [if_neg hf]
    obtain ⟨w1, e1, i1, r1, p1, f1, c1⟩ := reserve_spec hi hr d.length
    obtain ⟨w2, e2, i2, r2, f2, p2, _, c2⟩ := consume_spec i1 d.length r1 d (Nat.le_refl _)
    rw [e1]
    simp only [Res.ok_bind]
    refine ⟨w2, e2, i2, r2, by rw [f2, f1], ?_, fun h => absurd h hf, fun wb hc => c2 wb (c1.trans hc)⟩
    intro hnf
    rw [p2 (by rw [f1]; exact hnf), p1]

theorem step_reserve {w w' : W} {n : Nat} (e : reserve w n = .ok w') : step w (.reserve n) = .ok (w', {}) := by
  simp [step, e]

theorem step_consume {w w' : W} {d : Bytes} (e : consume w d = .ok w') : step w (.consume d) = .ok (w', {}) := by
  simp [step, e]

theorem step_write {w w' : W} {d : Bytes} (e : write w d = .ok w') : step w (.write d) = .ok (w', {}) := by
  simp [step, e]

theorem net_spec {w : W} (hi : Inv w) (hr : ResvRel w none) (ev : WEv) (hfit : fits w (.net ev)) :
    ∃ w' o, step w (.net ev) = .ok (w', o) ∧ Inv w' ∧ ResvRel w' none ∧ w.failed = false ∧
      (match ev with
       | .done _ => w'.failed = false ∧ o.failcb = false ∧ o.sent ++ pendingData w' = pendingData w
       | .fail _ => w'.failed = true ∧ o.failcb = true ∧ o.sent <+: pendingData w) := by
  obtain ⟨wb, hc, hev⟩ := hfit
  have hres : w.reserved = false := hr
  obtain ⟨hok, hpos⟩ := hi.c wb hc
  have hlen := hok.len
  have hdat := hok.dat
  have hnf : w.failed = false := by
    cases hf : w.failed
    · rfl
    · have := hi.failedIdle hf
      rw [hc] at this
      simp at this
  cases ev with
  | done n =>
    simp only at hev
    subst hev
    obtain ⟨w', e, hf', hr', hp', hinv', _⟩ := poke_spec (w := ⟨w.queue, none, w.reserved, false⟩) hi.q (by simp) (by simp)
    refine ⟨w', ⟨(wb.buf.drop 0).take wb.datalen, false⟩, ?_, hinv', ?_, hnf, ?_⟩
    · simp only [step, hc, takenOf, writelenOf, writbuf, hres, hnf]
      rw [slice_eq _ _ _ (by omega)]
      rw [hres] at e
      simp [e]
    · show w'.reserved = false
      rw [hr']; exact hres
    · refine ⟨by rw [hf'], rfl, ?_⟩
      rw [hp']
      simp [pendingData, currData, hc, WBuf.data]
  | fail p =>
    simp only at hev
    refine ⟨⟨w.queue, none, w.reserved, true⟩, ⟨(wb.buf.drop 0).take p, true⟩, ?_, ⟨hi.q, by simp, by simp, by simp⟩, hres, hnf, rfl, rfl, ?_⟩
    · simp only [step, hc, takenOf, writelenOf, writbuf, hres, hnf]
      rw [slice_eq _ _ _ (by omega)]
      simp
    · simp only [pendingData, currData, hc, WBuf.data, List.drop_zero]
      refine List.IsPrefix.trans ?_ (List.prefix_append _ _)
      have : List.take p wb.buf = List.take p (List.take wb.datalen wb.buf) := by
        rw [List.take_take]; congr 1; omega
      rw [this]
      exact List.take_prefix _ _

/-- The writer state together with the history it has to account for: the reservation of the call
protocol, everything written so far, everything the peer has received so far, the number of failure
callbacks so far. -/
structure Good (w : W) (rs : Option Nat) (wr sent : Bytes) (fails : Nat) : Prop where
  inv : Inv w
  resv : ResvRel w rs
  stream : w.failed = false → sent ++ pendingData w = wr
  pre : sent <+: wr
  fcount : fails = if w.failed = true then 1 else 0

theorem good_init : Good init none [] [] 0 :=
  ⟨inv_init, rfl, by simp [pendingData, currData, init], List.prefix_refl _, by simp [init]⟩

def opWrites : WOp → Bytes
  | .write d => d
  | .consume d => d
  | _ => []

def opFails : WOp → Bool
  | .net (.fail _) => true
  | _ => false

theorem writesOf_cons (op : WOp) (ops : List WOp) : writesOf (op :: ops) = opWrites op ++ writesOf ops := by
  cases op <;> simp [writesOf, opWrites]

theorem hasFail_cons (op : WOp) (ops : List WOp) : hasFail (op :: ops) = (opFails op || hasFail ops) := by
  cases op with
  | net ev => cases ev <;> simp [hasFail, opFails]
  | _ => simp [hasFail, opFails]

/-- `Good` after a call that put `d` (nothing, for `reserve`) behind the pending data.  The conclusion is written
with `sent ++ []` and `fails + 0` because that is the form `step_good` asks for: a call sends nothing and does not
fail. -/
theorem Good.call {w w' : W} {rs rs' : Option Nat} {wr sent d : Bytes} {fails : Nat} (g : Good w rs wr sent fails)
    (i' : Inv w') (r' : ResvRel w' rs') (f' : w'.failed = w.failed)
    (p' : w.failed = false → pendingData w' = pendingData w ++ d) :
    Good w' rs' (wr ++ d) (sent ++ []) (fails + 0) := by
  refine ⟨i', r', fun h => ?_, ?_, by rw [f']; exact g.fcount⟩
  · have hnf : w.failed = false := f' ▸ h
    rw [List.append_nil, p' hnf, ← List.append_assoc, g.stream hnf]
  · rw [List.append_nil]
    exact List.IsPrefix.trans g.pre (List.prefix_append _ _)

theorem step_good {w : W} {rs rs' : Option Nat} {wr sent : Bytes} {fails : Nat} {op : WOp}
    (g : Good w rs wr sent fails) (hc : clientStep rs op = some rs') (hf : fits w op) :
    ∃ w' o, step w op = .ok (w', o) ∧
      Good w' rs' (wr ++ opWrites op) (sent ++ o.sent) (fails + (if o.failcb = true then 1 else 0)) ∧
      w'.failed = (w.failed || opFails op) ∧ (w.failed = true → o = {}) := by
  have ⟨hi, hr, hs, hp, hfc⟩ := g
  cases rs with
  | none =>
    cases op with
    | reserve n =>
      simp only [clientStep, Option.some.injEq] at hc
      subst hc
      obtain ⟨w', e, i', r', p', f', _⟩ := reserve_spec hi hr n
      exact ⟨w', {}, step_reserve e, g.call i' r' f' (fun _ => p'.trans (List.append_nil _).symm),
        by simp [f', opFails], fun _ => rfl⟩
    | consume d => simp [clientStep] at hc
    | write d =>
      simp only [clientStep, Option.some.injEq] at hc
      subst hc
      obtain ⟨w', e, i', r', f', p', _⟩ := write_spec hi hr d
      exact ⟨w', {}, step_write e, g.call i' r' f' p', by simp [f', opFails], fun _ => rfl⟩
    | net ev =>
      simp only [clientStep, Option.some.injEq] at hc
      subst hc
      obtain ⟨w', o, e, i', r', hnf, hev⟩ := net_spec hi hr ev hf
      have hwr := hs hnf
      cases ev with
      | done n =>
        obtain ⟨f', c', s'⟩ := hev
        have heq : (sent ++ o.sent) ++ pendingData w' = wr := by rw [List.append_assoc, s', hwr]
        refine ⟨w', o, e, ⟨i', r', ?_, ?_, ?_⟩, by simp [f', hnf, opFails], fun h => absurd (hnf.symm.trans h) nofun⟩
        · intro _; simpa [opWrites] using heq
        · simp only [opWrites, List.append_nil]; rw [← heq]; exact List.prefix_append _ _
        · simp [f', c', hfc, hnf]
      | fail p =>
        obtain ⟨f', c', s'⟩ := hev
        refine ⟨w', o, e, ⟨i', r', ?_, ?_, ?_⟩, by simp [f', opFails], fun h => absurd (hnf.symm.trans h) nofun⟩
        · intro h; rw [f'] at h; simp at h
        · simp only [opWrites, List.append_nil]; rw [← hwr]
          exact (List.prefix_append_right_inj sent).2 s'
        · simp [f', c', hfc, hnf]
  | some n =>
    cases op with
    | consume d =>
      simp only [clientStep] at hc
      split at hc
      · rename_i hd
        simp only [Option.some.injEq] at hc
        subst hc
        obtain ⟨w', e, i', r', f', p', _⟩ := consume_spec hi n hr d hd
        exact ⟨w', {}, step_consume e, g.call i' r' f' p', by simp [f', opFails], fun _ => rfl⟩
      · simp at hc
    | reserve _ => simp [clientStep] at hc
    | write _ => simp [clientStep] at hc
    | net _ => simp [clientStep] at hc

theorem run_good (ops : List WOp) : ∀ {w : W} {rs rs' : Option Nat} {wr sent : Bytes} {fails : Nat},
    Good w rs wr sent fails → clientRun rs ops = some rs' → transportOK w ops →
    ∃ w' outs, run w ops = .ok (w', outs) ∧
      Good w' rs' (wr ++ writesOf ops) (sent ++ sentOf outs) (fails + failcbsOf outs) ∧
      w'.failed = (w.failed || hasFail ops) ∧ (w.failed = true → sentOf outs = [] ∧ failcbsOf outs = 0) := by
  induction ops with
  | nil =>
    intro w rs rs' wr sent fails g hc _
    simp only [clientRun, Option.some.injEq] at hc
    subst hc
    exact ⟨w, [], rfl, by simpa [writesOf, sentOf, failcbsOf] using g, by simp [hasFail], fun _ => ⟨rfl, rfl⟩⟩
  | cons op ops ih =>
    intro w rs rs' wr sent fails g hc ht
    simp only [clientRun] at hc
    split at hc
    · rename_i rs1 hcs
      obtain ⟨hf, hnext⟩ := ht
      obtain ⟨w1, o, e1, g1, f1, q1⟩ := step_good g hcs hf
      obtain ⟨w2, outs, e2, g2, f2, q2⟩ := ih g1 hc (hnext w1 o e1)
      refine ⟨w2, o :: outs, by simp [run, e1, e2], ?_, ?_, fun hfl => ?_⟩
      · rw [writesOf_cons]
        simp only [sentOf, failcbsOf]
        rw [← List.append_assoc, ← List.append_assoc, ← Nat.add_assoc]
        exact g2
      · rw [f2, f1, hasFail_cons, Bool.or_assoc]
      · -- a failed writer has no outstanding request, so `op` is a call, and calls send nothing
        obtain ⟨s2, c2⟩ := q2 (by rw [f1, hfl]; rfl)
        rw [sentOf, failcbsOf, q1 hfl, s2, c2]
        exact ⟨rfl, rfl⟩
    · simp at hc

theorem run_failed (ops : List WOp) {w : W} {rs rs' : Option Nat} {wr sent : Bytes} {fails : Nat}
    (g : Good w rs wr sent fails) (hfl : w.failed = true) (hc : clientRun rs ops = some rs') (ht : transportOK w ops) :
    ∃ w' outs, run w ops = .ok (w', outs) ∧ sentOf outs = [] ∧ failcbsOf outs = 0 ∧
      w'.failed = true ∧ w'.curr = none :=
  let ⟨w', outs, e, g', f', q⟩ := run_good ops g hc ht
  have hfl' : w'.failed = true := by rw [f', hfl]; rfl
  ⟨w', outs, e, (q hfl).1, (q hfl).2, hfl', g'.inv.failedIdle hfl'⟩

theorem run_append (o1 o2 : List WOp) : ∀ (w : W),
    run w (o1 ++ o2) = (do
      let (w1, outs1) ← run w o1
      let (w2, outs2) ← run w1 o2
      pure (w2, outs1 ++ outs2)) := by
  induction o1 with
  | nil =>
    intro w
    simp only [List.nil_append, run, Res.pure_eq, Res.ok_bind]
    cases run w o2 <;> rfl
  | cons op ops ih =>
    intro w
    simp only [List.cons_append, run]
    cases hs : step w op with
    | ok p =>
      obtain ⟨w1, o⟩ := p
      simp only [Res.ok_bind]
      rw [ih w1]
      cases run w1 ops with
      | ok p1 =>
        obtain ⟨w2, os⟩ := p1
        simp only [Res.ok_bind, Res.pure_eq]
        cases run w2 o2 with
        | ok p2 => simp
        | _ => rfl
      | _ => rfl
    | _ => rfl

theorem clientRun_append (o1 o2 : List WOp) : ∀ (s : Option Nat),
    clientRun s (o1 ++ o2) = (clientRun s o1).bind (fun s1 => clientRun s1 o2) := by
  induction o1 with
  | nil => intro s; rfl
  | cons op ops ih =>
    intro s
    simp only [List.cons_append, clientRun]
    cases clientStep s op with
    | none => rfl
    | some s' => exact ih s'

theorem transportOK_append (o1 o2 : List WOp) : ∀ (w : W), transportOK w (o1 ++ o2) →
    transportOK w o1 ∧ ∀ w1 outs1, run w o1 = .ok (w1, outs1) → transportOK w1 o2 := by
  induction o1 with
  | nil =>
    intro w h
    refine ⟨trivial, ?_⟩
    intro w1 outs1 e
    simp only [run, Res.pure_eq, Res.ok.injEq, Prod.mk.injEq] at e
    rw [← e.1]; exact h
  | cons op ops ih =>
    intro w h
    obtain ⟨hf, hnext⟩ := h
    refine ⟨⟨hf, fun w' o e => (ih w' (hnext w' o e)).1⟩, ?_⟩
    intro w1 outs1 e
    simp only [run] at e
    cases hs : step w op with
    | ok p =>
      obtain ⟨w', o⟩ := p
      rw [hs] at e
      simp only [Res.ok_bind] at e
      cases hr : run w' ops with
      | ok p1 =>
        obtain ⟨w'', os⟩ := p1
        rw [hr] at e
        simp only [Res.ok_bind, Res.pure_eq, Res.ok.injEq, Prod.mk.injEq] at e
        rw [← e.1]
        exact (ih w' (hnext w' o hs)).2 w'' os hr
      | _ => rw [hr] at e; simp at e
    | _ => rw [hs] at e; simp at e

theorem run_init {ops : List WOp} {rs : Option Nat} (hc : clientRun none ops = some rs) (ht : transportOK init ops) :
    ∃ w outs, run init ops = .ok (w, outs) ∧ Good w rs (writesOf ops) (sentOf outs) (failcbsOf outs) ∧
      w.failed = hasFail ops := by
  obtain ⟨w, outs, e, g, f, -⟩ := run_good ops good_init hc ht
  simp only [init, Bool.false_or, List.nil_append, Nat.zero_add] at f g
  exact ⟨w, outs, e, g, f⟩

theorem request_none {w : W} : request w = none ↔ w.curr = none := by
  cases h : w.curr <;> simp [request, h]

theorem Good.all_sent {w : W} {rs : Option Nat} {wr sent : Bytes} {fails : Nat} (g : Good w rs wr sent fails)
    (hf : w.failed = false) (hc : w.curr = none) : sent = wr := by
  have hs := g.stream hf
  simp only [pendingData, currData, hc, g.inv.idle hf hc, List.append_nil] at hs
  exact hs

theorem run_append_failed (ops1 ops2 : List WOp) {w : W} {rs rs' : Option Nat} {wr sent : Bytes} {fails : Nat}
    (g : Good w rs wr sent fails) (hc : clientRun rs (ops1 ++ ops2) = some rs') (ht : transportOK w (ops1 ++ ops2))
    (hfail : (w.failed || hasFail ops1) = true) :
    ∃ w1 outs1 w2 outs2 rs1, run w ops1 = .ok (w1, outs1) ∧ run w1 ops2 = .ok (w2, outs2) ∧
      run w (ops1 ++ ops2) = .ok (w2, outs1 ++ outs2) ∧
      Good w1 rs1 (wr ++ writesOf ops1) (sent ++ sentOf outs1) (fails + failcbsOf outs1) ∧ w1.failed = true ∧
      sentOf outs2 = [] ∧ failcbsOf outs2 = 0 ∧ w2.failed = true ∧ w2.curr = none := by
  rw [clientRun_append] at hc
  cases hc1 : clientRun rs ops1 with
  | none => rw [hc1] at hc; cases hc
  | some rs1 =>
    rw [hc1] at hc
    obtain ⟨ht1, ht2⟩ := transportOK_append ops1 ops2 _ ht
    obtain ⟨w1, outs1, e1, g1, f1, -⟩ := run_good ops1 g hc1 ht1
    have hf1 : w1.failed = true := f1.trans hfail
    obtain ⟨w2, outs2, e2, s2, c2, f2, cur2⟩ := run_failed ops2 g1 hf1 hc (ht2 w1 outs1 e1)
    exact ⟨w1, outs1, w2, outs2, rs1, e1, e2, by simp only [run_append, e1, e2, Res.ok_bind, Res.pure_eq], g1, hf1, s2, c2, f2, cur2⟩

theorem transportOK_of_b (ops : List WOp) : ∀ (w : W), transportOKb w ops = true → transportOK w ops := by
  induction ops with
  | nil => intro _ _; trivial
  | cons op ops ih =>
    intro w h
    simp only [transportOKb, Bool.and_eq_true] at h
    obtain ⟨hf, hn⟩ := h
    refine ⟨?_, ?_⟩
    · cases op with
      | net ev =>
        simp only [fitsb] at hf
        cases hc : w.curr with
        | none => rw [hc] at hf; simp at hf
        | some wb =>
          rw [hc] at hf
          refine ⟨wb, hc, ?_⟩
          cases ev <;> simpa using hf
      | _ => trivial
    · intro w' o e
      rw [e] at hn
      exact ih w' hn

/-- for concrete examples: the hypotheses of the property theorems from two evaluations -/
theorem hyps_of_eval {ops : List WOp} (h1 : (clientRun none ops).isSome = true)
    (h2 : transportOKb init ops = true) :
    (∃ rs, clientRun none ops = some rs) ∧ transportOK init ops :=
  ⟨Option.isSome_iff_exists.1 h1, transportOK_of_b _ _ h2⟩

end Percival.Proofs.NetbufWrite
