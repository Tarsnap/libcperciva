import Percival.Proofs.NetbufMonReader
import Percival.Proofs.NetbufWrite
/-!
# C07 helper lemmas: the monitor accepts the writer half of `Model.NetbufStep`

`WRel s m`: the writer model of the executable's state `s` is consistent (`Inv`), the monitor's `pending` is what
the writer still has to send (`pendingData`, minus the part of the buffer in flight that the kernel already took),
the same `send` answers are scripted, the same reservation is outstanding.  `spinW_sound`: what the writer half of
`spin` reports (bytes at the peer, failure callbacks, send answers used) satisfies `SendOK`, and `judgeSend`
accepts every report that satisfies `SendOK`.
-/
namespace Percival.Proofs.NetbufMonSound
open Percival Percival.Spec.ByteStream Percival.Spec.NetbufMon Percival.Model.Netbuf Percival.Model
open Percival.Model.NetbufStep Percival.Proofs.NetbufWrite Percival.Proofs.NetbufStep

def SameR (s s' : XSt) : Prop :=
  s'.r = s.r ∧ s'.rq = s.rq ∧ s'.waitk = s.waitk ∧ s'.loopJ = s.loopJ ∧ s'.loopK = s.loopK ∧ s'.loopN = s.loopN

theorem SameR.refl (s : XSt) : SameR s s := ⟨rfl, rfl, rfl, rfl, rfl, rfl⟩
theorem SameR.trans {s1 s2 s3 : XSt} (h1 : SameR s1 s2) (h2 : SameR s2 s3) : SameR s1 s3 :=
  ⟨h2.1.trans h1.1, h2.2.1.trans h1.2.1, h2.2.2.1.trans h1.2.2.1, h2.2.2.2.1.trans h1.2.2.2.1,
   h2.2.2.2.2.1.trans h1.2.2.2.2.1, h2.2.2.2.2.2.trans h1.2.2.2.2.2⟩

/-- the progress of the write in flight lies inside its buffer -/
def PosOK (s : XSt) : Prop :=
  match s.w.curr with
  | some wb => s.wpos < wb.datalen
  | none => s.wpos = 0

/-- what the writer still has to hand to the kernel -/
def D (s : XSt) : Bytes := (pendingData s.w).drop s.wpos

structure WRel (s : XSt) (m : MSt) : Prop where
  inv : Inv s.w
  resv : ResvRel s.w m.resv
  wresv : ∀ n, m.resv = some n → s.wresv = n
  failed : m.failed = s.w.failed
  wq : m.wq = s.wq
  acc : ∀ n, SAns.accept n ∈ s.wq → 0 < n
  pos : PosOK s
  pend : s.w.failed = false → m.pending = D s
  pendF : s.w.failed = true → m.pending = []

theorem wrel_init : WRel {} {} :=
  ⟨inv_init, rfl, fun _ h => by simp at h, rfl, rfl, fun _ h => by simp at h, rfl, fun _ => rfl, fun _ => rfl⟩

def accepts (l : List SAns) : List Nat := l.filterMap fun a => match a with | .accept n => some n | _ => none
def nfail (l : List SAns) : Nat := (l.filter fun a => match a with | .fail => true | _ => false).length
def sumN (l : List Nat) : Nat := l.foldl (· + ·) 0

theorem nfail_append (A B : List SAns) : nfail (A ++ B) = nfail A + nfail B := by
  simp [nfail, List.filter_append]

theorem foldl_add (l : List Nat) : ∀ a, l.foldl (· + ·) a = a + l.foldl (· + ·) 0 := by
  induction l with
  | nil => intro a; rfl
  | cons x l ih => intro a; simp only [List.foldl_cons]; rw [ih (a + x), ih (0 + x)]; omega

theorem sumN_cons (n : Nat) (l : List Nat) : sumN (n :: l) = n + sumN l := by
  simp only [sumN, List.foldl_cons]; rw [foldl_add]; omega

/-- what one `spin` of the writer reports: `delta` arrived at the peer, the failure callback ran `fc` times, the
send answers `A` were used; before, `D` was still to be sent, afterwards `D'`; `more`: answers are left over -/
structure SendOK (D D' : Bytes) (failed' : Bool) (A : List SAns) (delta : Bytes) (fc : Nat) (more : Prop) : Prop where
  lo : (accepts A).length ≤ delta.length
  hi : delta.length ≤ sumN (accepts A)
  cases : (nfail A = 0 ∧ fc = 0 ∧ failed' = false ∧ delta ++ D' = D ∧ (more → D' = [])) ∨
          (∃ A0, A = A0 ++ [.fail] ∧ nfail A0 = 0 ∧ fc = 1 ∧ failed' = true ∧ delta.length < D.length ∧ delta <+: D)

theorem SendOK.eagain {D D' : Bytes} {failed' : Bool} {A : List SAns} {delta : Bytes} {fc : Nat} {more : Prop}
    (h : SendOK D D' failed' A delta fc more) : SendOK D D' failed' (.eagain :: A) delta fc more := by
  refine ⟨by simpa [accepts] using h.lo, by simpa [accepts] using h.hi, ?_⟩
  rcases h.cases with ⟨h1, h2⟩ | ⟨A0, rfl, h1, h2⟩
  · exact Or.inl ⟨by simpa [nfail] using h1, h2⟩
  · exact Or.inr ⟨.eagain :: A0, rfl, by simpa [nfail] using h1, h2⟩

theorem SendOK.accept {D D' : Bytes} {failed' : Bool} {A : List SAns} {delta : Bytes} {fc : Nat} {more : Prop}
    (n m' : Nat) (h1 : 1 ≤ m') (h2 : m' ≤ n) (h3 : m' ≤ D.length)
    (h : SendOK (D.drop m') D' failed' A delta fc more) :
    SendOK D D' failed' (.accept n :: A) (D.take m' ++ delta) fc more := by
  have hlt : (D.take m').length = m' := by rw [List.length_take]; omega
  have hacc : accepts (.accept n :: A) = n :: accepts A := by simp [accepts]
  refine ⟨?_, ?_, ?_⟩
  · rw [hacc, List.length_append, hlt, List.length_cons]; have := h.lo; omega
  · rw [hacc, List.length_append, hlt, sumN_cons]; have := h.hi; omega
  · rcases h.cases with ⟨e1, e2, e3, e4, e5⟩ | ⟨A0, rfl, e1, e2, e3, e4, e5⟩
    · refine Or.inl ⟨by simpa [nfail] using e1, e2, e3, ?_, e5⟩
      rw [List.append_assoc, e4, List.take_append_drop]
    · refine Or.inr ⟨.accept n :: A0, rfl, by simpa [nfail] using e1, e2, e3, ?_, ?_⟩
      · rw [List.length_append, hlt]
        rw [List.length_drop] at e4
        omega
      · have : D.take m' ++ delta <+: D.take m' ++ D.drop m' := (List.prefix_append_right_inj _).2 e5
        rwa [List.take_append_drop] at this

theorem spinW_idle (s : XSt) (q : List SAns) (peer : Bytes) (fails used : Nat) (hc : s.w.curr = none) :
    spinW s q peer fails used = ({ s with wq := q }, peer, fails, used) := by
  cases q with
  | nil => rfl
  | cons ans rest =>
    simp only [spinW, hc]
    split <;> rfl

theorem step_net_sent {w w' : NetbufWrite.W} {wb : NetbufWrite.WBuf} {ev : WEv} {o : WOut}
    (e : NetbufWrite.step w (.net ev) = .ok (w', o)) (hc : w.curr = some wb) (hok : BufOK wb)
    (ht : NetbufWrite.takenOf ev ≤ wb.datalen) : o.sent = wb.buf.take (NetbufWrite.takenOf ev) := by
  have h1 := hok.len
  have h2 := hok.dat
  simp only [NetbufWrite.step, hc] at e
  rw [Proofs.NetbufRead.slice_eq _ _ _ (by omega)] at e
  simp only [Res.ok_bind, List.drop_zero] at e
  cases hwb : NetbufWrite.writbuf w (NetbufWrite.writelenOf ev) with
  | ok p =>
    rw [hwb] at e
    simp only [Res.ok_bind, Res.pure_eq, Res.ok.injEq, Prod.mk.injEq] at e
    rw [← e.2]
  | oob => rw [hwb] at e; simp at e
  | abort => rw [hwb] at e; simp at e
  | contract => rw [hwb] at e; simp at e

theorem piece_eq (wb : NetbufWrite.WBuf) (hok : BufOK wb) (Q : Bytes) (wpos m' : Nat) (h : wpos + m' ≤ wb.datalen) :
    (wb.buf.drop wpos).take m' = ((wb.data ++ Q).drop wpos).take m' := by
  have h1 := hok.len
  have h2 := hok.dat
  have hdl := data_length hok
  rw [List.drop_append_of_le_length (by omega), List.take_append_of_le_length (by rw [List.length_drop]; omega)]
  simp only [NetbufWrite.WBuf.data]
  rw [List.drop_take, List.take_take]
  congr 1
  omega

theorem D_of_curr {s : XSt} {wb : NetbufWrite.WBuf} (hc : s.w.curr = some wb) :
    D s = (wb.data ++ qdata s.w.queue).drop s.wpos := by
  simp [D, pendingData, currData, hc]

theorem D_length_of_curr {s : XSt} {wb : NetbufWrite.WBuf} (hc : s.w.curr = some wb) (hok : BufOK wb)
    (hp : s.wpos ≤ wb.datalen) : wb.datalen - s.wpos ≤ (D s).length := by
  rw [D_of_curr hc, List.length_drop, List.length_append, data_length hok]
  omega

/-- `X` is what `spinW` returns from `s` with the answers `q` when `peer`, `fails`, `used` were counted before -/
def SpinWOK (s : XSt) (q : List SAns) (peer : Bytes) (fails used : Nat) (X : XSt × Bytes × Nat × Nat) : Prop :=
  ∃ k delta fc, k ≤ q.length ∧ X.2.1 = peer ++ delta ∧ X.2.2.1 = fails + fc ∧ X.2.2.2 = used + k ∧
    X.1.wq = q.drop k ∧ Inv X.1.w ∧ WHist X.1.w ∧ ResvRel X.1.w none ∧ PosOK X.1 ∧ X.1.bad = none ∧ SameR s X.1 ∧
    X.1.wresv = s.wresv ∧ SendOK (D s) (D X.1) X.1.w.failed (q.take k) delta fc (k < q.length)

theorem SpinWOK.cons {s s' : XSt} {q : List SAns} {peer peer' : Bytes} {fails used : Nat} {X : XSt × Bytes × Nat × Nat}
    (a : SAns) (m' : Nat) (hD : D s' = (D s).drop m') (hs : SameR s s') (hwr : s'.wresv = s.wresv)
    (hpeer : peer' = peer ++ (D s).take m')
    (hstep : ∀ {D' failed' A delta fc more}, SendOK ((D s).drop m') D' failed' A delta fc more →
      SendOK (D s) D' failed' (a :: A) ((D s).take m' ++ delta) fc more)
    (h : SpinWOK s' q peer' fails (used + 1) X) : SpinWOK s (a :: q) peer fails used X := by
  obtain ⟨k, delta, fc, hk, epeer, efails, eused, hwq, hinv, hhist, hresv, hpos, hbad, hsame, hwresv, hsend⟩ := h
  rw [hD] at hsend
  refine ⟨k + 1, (D s).take m' ++ delta, fc, Nat.succ_le_succ hk, by rw [epeer, hpeer, List.append_assoc], efails,
    by rw [eused]; omega, hwq, hinv, hhist, hresv, hpos, hbad, hs.trans hsame, hwresv.trans hwr, ?_⟩
  rw [List.length_cons, Nat.add_lt_add_iff_right]
  exact hstep hsend

theorem spinW_sound : ∀ (q : List SAns) (s : XSt) (peer : Bytes) (fails used : Nat),
    Inv s.w → WHist s.w → ResvRel s.w none → PosOK s → s.bad = none → s.w.failed = false →
    (∀ n, SAns.accept n ∈ q → 0 < n) →
    SpinWOK s q peer fails used (spinW s q peer fails used) := by
  intro q
  induction q with
  | nil =>
    intro s peer fails used hi hh hr hp hbad hf _
    refine ⟨0, [], 0, Nat.le_refl _, by simp [spinW], rfl, rfl, rfl, hi, hh, hr, hp, hbad, SameR.refl s, rfl, ?_⟩
    exact ⟨Nat.le_refl _, Nat.zero_le _, Or.inl ⟨rfl, rfl, hf, rfl, fun h => absurd h (by simp)⟩⟩
  | cons ans rest ih =>
    intro s peer fails used hi hh hr hp hbad hf hacc
    have hacc' : ∀ n, SAns.accept n ∈ rest → 0 < n := fun n hn => hacc n (List.mem_cons_of_mem _ hn)
    cases hc : s.w.curr with
    | none =>
      rw [spinW_idle s _ peer fails used hc]
      refine ⟨0, [], 0, Nat.zero_le _, by simp, rfl, rfl, rfl, hi, hh, hr, hp, hbad, SameR.refl s, rfl, ?_⟩
      refine ⟨Nat.le_refl _, Nat.zero_le _, Or.inl ⟨rfl, rfl, hf, rfl, fun _ => ?_⟩⟩
      show D s = []
      simp [D, pendingData, currData, hc, hi.idle hf hc]
    | some wb =>
      obtain ⟨hok, hpos⟩ := hi.c wb hc
      have hp' : s.wpos < wb.datalen := by unfold PosOK at hp; rw [hc] at hp; exact hp
      simp only [spinW]
      rw [if_neg (by simp [hbad])]
      simp only [hc]
      cases ans with
      | eagain =>
        exact .cons .eagain 0 rfl (SameR.refl s) rfl (List.append_nil _).symm SendOK.eagain
          (ih s peer fails (used + 1) hi hh hr hp hbad hf hacc')
      | accept n =>
        have hn : 0 < n := hacc n List.mem_cons_self
        simp only
        have hm3 : s.wpos + min n (wb.datalen - s.wpos) ≤ wb.datalen := by omega
        have hDl := D_length_of_curr hc hok (by omega)
        have hpiece : (wb.buf.drop s.wpos).take (min n (wb.datalen - s.wpos))
            = (D s).take (min n (wb.datalen - s.wpos)) := by
          rw [D_of_curr hc]; exact piece_eq wb hok _ _ _ hm3
        rw [hpiece]
        split
        · rename_i hlt
          -- part of the buffer in flight is left
          exact .cons (s' := { s with wpos := s.wpos + min n (wb.datalen - s.wpos) }) _ _
            (by simp only [D]; rw [List.drop_drop]) ⟨rfl, rfl, rfl, rfl, rfl, rfl⟩ rfl rfl
            (SendOK.accept n _ (by omega) (by omega) (by omega))
            (ih _ _ fails (used + 1) hi hh hr (by unfold PosOK; simp only [hc]; exact hlt) hbad hf hacc')
        · rename_i hlt
          -- the buffer in flight is complete: `writbuf`
          have hfull : s.wpos + min n (wb.datalen - s.wpos) = wb.datalen := by omega
          rw [hfull]
          obtain ⟨w', o, e, hi', hr', _, hev⟩ := net_spec hi hr (.done wb.datalen) ⟨wb, hc, rfl⟩
          obtain ⟨hf', hcb, hsent⟩ := hev
          have hos := step_net_sent e hc hok (Nat.le_refl _)
          rw [e]
          simp only [hcb]
          have hpend' : pendingData w' = (D s).drop (min n (wb.datalen - s.wpos)) := by
            simp only [D]
            rw [List.drop_drop, hfull, ← hsent, hos]
            exact (List.drop_left' (data_length hok)).symm
          have hpos' : PosOK { s with w := w', wpos := 0 } := by
            unfold PosOK
            cases hc' : w'.curr with
            | none => rfl
            | some wb2 => exact (hi'.c wb2 hc').2
          exact .cons (s' := { s with w := w', wpos := 0 }) _ _ hpend' ⟨rfl, rfl, rfl, rfl, rfl, rfl⟩ rfl rfl
            (SendOK.accept n _ (by omega) (by omega) (by omega))
            (ih _ _ _ (used + 1) hi' (hh.step _ _ e) hr' hpos' hbad hf' hacc')
      | fail =>
        simp only
        obtain ⟨w', o, e, hi', hr', _, hev⟩ := net_spec hi hr (.fail s.wpos) ⟨wb, hc, by show s.wpos ≤ wb.datalen; omega⟩
        obtain ⟨hf', hcb, _⟩ := hev
        rw [e]
        simp only [hcb]
        have hc' : w'.curr = none := hi'.failedIdle hf'
        rw [spinW_idle _ rest peer _ _ hc']
        have hDl := D_length_of_curr hc hok (by omega)
        refine ⟨1, [], 1, by simp, by simp, by simp, rfl, by simp, hi', hh.step _ _ e, hr', ?_, hbad, ⟨rfl, rfl, rfl, rfl, rfl, rfl⟩,
          rfl, ?_⟩
        · unfold PosOK; simp [hc']
        · refine ⟨by simp [accepts], Nat.zero_le _, Or.inr ⟨[], by simp, rfl, rfl, hf', ?_, List.nil_prefix⟩⟩
          simp only [List.length_nil]
          omega

end Percival.Proofs.NetbufMonSound
