import Percival.Model.DsStep
/-!
# What the monitor sees of a line of `pmodel ds`, and the lines that only set the allocation schedule (C12, C14)

`Out.ans` is the typed composition "print, cut into tokens, read" (`Proofs/DsAns.lean`); `OpOk` the operations the
generators produce.  `stepOp` and `monStep` are large case distinctions over the protocol's operations.  Their
equations for `failat` / `failfrom` / `failoff` are proved here, in a module of their own: a theorem that unfolds one
of the two functions generates its unfolding lemmas unless an imported module already holds them, and most theorems
of `Proofs/DsLines.lean` and `Proofs/DsStep.lean` unfold them.
-/
namespace Percival.Model.DsStep
open Percival.Spec.DS Percival.Spec.DSMon

def headOfSt : St → Head
  | .ok => .ok | .fail => .fail | .oob => .other

def headOfWord : Word → Head
  | .ok => .ok | .skip => .skip | _ => .other

/-- how `recs=` is read back: `?` (a record that could not be read) makes the field unreadable; a single empty
record prints as `-`, which reads as "no records" (records are never empty: record lengths are positive) -/
def recsAns (l : List (Option (List UInt8))) : Option (List (List UInt8)) :=
  if l = [some []] then some [] else l.mapM id

/-- **What the monitor sees of a line of the model**: `Driver/Ds.render` prints the typed output, the part before
` | ` is cut into tokens and `Driver/Dsmon.parseAns` reads them into an `Ans`; `Out.ans` is that composition as a
typed function (`Proofs/DsAns.lean` proves `parseAns (l1Toks o) = o.ans` for every `o`, where `render o` is the tokens
`l1Toks o` joined by spaces and followed by the L2 part; `KAT/DsAns.lean` checks the whole printed line on an output
of every shape). -/
def Out.ans : Out → Ans
  | .word w => { head := headOfWord w, ntoks := 1 }
  | .ended live _ =>
      { head := .end_, ntoks := 3, live := if 0 ≤ live then some live.toNat else none, leaked := some 0 }
  | .initFail rf _ => { head := .fail, ntoks := 2, rf := some rf }
  | .ea st sz al rf none _ => { head := headOfSt st, ntoks := 4, sz := some sz, al := some al, rf := some rf }
  | .ea st sz al rf (some (n, b)) _ =>
      { head := headOfSt st, ntoks := 6, sz := some sz, al := some al, rf := some rf, n := some n, out := .val b }
  | .eaExport rf n b _ => { head := .ok, ntoks := 4, rf := some rf, n := some n, out := .val b }
  | .freed _ => { head := .ok, ntoks := 1 }
  | .eq st len rf .none _ => { head := headOfSt st, ntoks := 3, len := some len, rf := some rf }
  | .eq st len rf .null _ => { head := headOfSt st, ntoks := 4, len := some len, rf := some rf, null := true }
  | .eq st len rf (.record b) _ => { head := headOfSt st, ntoks := 4, len := some len, rf := some rf, recd := .val b }
  | .eq st len rf (.recs l) _ =>
      { head := headOfSt st, ntoks := 4, len := some len, rf := some rf, recs := some (recsAns l) }
  | .smInit rf _ => { head := .ok, ntoks := 2, rf := some rf }
  | .sm st rf num ptr _ =>
      { head := headOfSt st, ntoks := 2 + (if num.isSome then 1 else 0) + (if ptr.isSome then 1 else 0),
        rf := some rf, num := num, ptr := ptr }
  | .mp rf .none _ => { head := .ok, ntoks := 2, rf := some rf }
  | .mp rf .null _ => { head := .ok, ntoks := 3, rf := some rf, null := true }
  | .mp rf (.obj x) _ => { head := .ok, ntoks := 3, rf := some rf, obj := some x }
  | .mpExit _ => { head := .ok, ntoks := 2, leaked := some 0 }

/-- operations the generators produce (and the C harness can execute): record lengths are positive (the C asserts
it), a queue's record length fits `size_t` with room for the largest array the harness' allocator grants, stored
pointers are non-NULL 64-bit values -/
def OpOk : Op → Prop
  | .eaInit _ r _ | .eaResize _ r _ | .eaAppend _ r _ | .eaShrink _ r | .eaGetsize r | .eaDup r | .eaExport r => 0 < r
  | .eqInit r => 0 < r ∧ r + cap ≤ SIZE_MAX
  | .smAdd p => 0 < p ∧ p < 2^64
  | .mpInit k | .mpUse k => poolSizes.contains k = true
  | _ => True

instance : DecidablePred OpOk := fun op => by cases op <;> simp only [OpOk] <;> infer_instance

end Percival.Model.DsStep

namespace Percival.Proofs.DsStep
open Percival.Model Percival.Model.DsStep Percival.Spec.DS Percival.Spec.DSMon

theorem Out.ans_word (w : Word) : (Out.word w).ans = { head := headOfWord w, ntoks := 1 } := by simp only [Out.ans]

/-- the three schedule lines replace the oracle's decision function and nothing else -/
theorem stepOp_sched (s : DsStep.S) (k : Nat) :
    stepOp s (.failat k) = ({ s with m := { s.m with f := sched 1 k s.m.n } }, .word .ok) ∧
    stepOp s (.failfrom k) = ({ s with m := { s.m with f := sched 2 k s.m.n } }, .word .ok) ∧
    stepOp s .failoff = ({ s with m := { s.m with f := sched 0 0 0 } }, .word .ok) := by
  simp only [stepOp, and_self]

theorem monStep_sched (ms : Spec.DSMon.S) (k : Nat) (A : Ans) :
    monStep ms (.failat k) A = okOr ms (A.isJust .ok) "answer" ∧
    monStep ms (.failfrom k) A = okOr ms (A.isJust .ok) "answer" ∧
    monStep ms .failoff A = okOr ms (A.isJust .ok) "answer" := by
  simp only [monStep, and_self]

end Percival.Proofs.DsStep
