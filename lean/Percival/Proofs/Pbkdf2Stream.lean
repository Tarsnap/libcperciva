import Percival.Model.Pbkdf2
import Percival.Spec.Pbkdf2
import Percival.Proofs.HmacStream
/-! `Model.Pbkdf2` (copied HMAC contexts, `INT(i+1)`, truncated last block) computes RFC 8018 §5.2. -/
namespace Percival.Proofs.Pbkdf2Stream
open Percival.Spec Percival.Model Percival.Model.Hash Percival.Proofs.MDStream Percival.Proofs.HmacStream
open Percival.Model.Pbkdf2 (H inner outer xor32)

variable {p : MD.Params}

/-- `PRF(P, ·)` -/
abbrev prf (p : MD.Params) (P : Bytes) : Bytes → Bytes := Spec.Hmac.hmac (MD.hash p) P

theorem prf_len (ok : HashOK H p) (P m : Bytes) : (prf p P m).length = 32 := by
  unfold prf Spec.Hmac.hmac
  exact ok.hlen _

theorem xorIter_len (ok : HashOK H p) (P : Bytes) (n : Nat) (u t : Bytes) (ht : t.length = 32) :
    (Spec.Pbkdf2.xorIter (prf p P) n u t).length = 32 := by
  induction n generalizing u t with
  | zero => simpa [Spec.Pbkdf2.xorIter] using ht
  | succ n ih =>
    simp only [Spec.Pbkdf2.xorIter]
    apply ih
    simp [Spec.Pbkdf2.xorBytes, ht, prf_len ok]

/-- the inner loop `for (j = 2; j <= c; j++)` -/
theorem inner_eq (ok : HashOK H p) (Ph : Hmac.Ctx H) (P : Bytes) (hP : HInv ok Ph P [])
    (n : Nat) (U T : Bytes) (hT : T.length = 32) :
    inner Ph n U T = some (Spec.Pbkdf2.xorIter (prf p P) n U T) := by
  induction n generalizing U T with
  | zero => rfl
  | succ n ih =>
    simp only [inner, Spec.Pbkdf2.xorIter]
    have h1 := final_hinv ok _ P _ (update_hinv ok Ph P [] U hP)
    simp only [List.nil_append] at h1
    rw [h1]
    simp only [Option.bind_eq_bind, Option.bind_some, xor32, hT, prf_len ok, and_self, if_true]
    exact ih _ _ (by simp [hT, prf_len ok])

/-- `T_{i+1}` -/
abbrev Tblk (p : MD.Params) (P S : Bytes) (c i : Nat) : Bytes := Spec.Pbkdf2.F (prf p P) 32 S c (i + 1)

theorem Tblk_len (ok : HashOK H p) (P S : Bytes) (c i : Nat) : (Tblk p P S c i).length = 32 := by
  unfold Tblk Spec.Pbkdf2.F
  cases c with
  | zero => simp
  | succ c => exact xorIter_len ok P _ _ _ (prf_len ok _ _)

/-- `T_1 ‖ … ‖ T_i` -/
abbrev G (p : MD.Params) (P S : Bytes) (c i : Nat) : Bytes := Spec.Pbkdf2.blocks (prf p P) 32 S c i

theorem G_succ (P S : Bytes) (c i : Nat) : G p P S c (i + 1) = G p P S c i ++ Tblk p P S c i := by
  simp [G, Spec.Pbkdf2.blocks, List.range_succ, List.flatMap_append]

theorem G_len (ok : HashOK H p) (P S : Bytes) (c i : Nat) : (G p P S c i).length = 32 * i := by
  induction i with
  | zero => simp [G, Spec.Pbkdf2.blocks]
  | succ i ih => rw [G_succ, List.length_append, ih, Tblk_len ok]; omega

theorem take_memcpy_block (buf G T : Bytes) (n L : Nat) (hG : G.length = n) (hT : T.length = 32)
    (hbuf : buf.length = L) (hn : n < L) (hpre : buf.take n = G) :
    (memcpy buf n (T.take (min 32 (L - n)))).length = L ∧
    (memcpy buf n (T.take (min 32 (L - n)))).take (n + 32) = (G ++ T).take L := by
  have hX : (T.take (min 32 (L - n))).length = min 32 (L - n) := by rw [List.length_take, hT]; omega
  have hR : (G ++ T).take L = G ++ T.take (min 32 (L - n)) := by
    rw [List.take_append, List.take_of_length_le (l := G) (by omega), hG, List.take_eq_take_min (l := T), hT,
      Nat.min_comm]
  generalize T.take (min 32 (L - n)) = X at hX hR ⊢
  have hlen := (memcpy_length buf X n (by omega)).trans hbuf
  refine ⟨hlen, ?_⟩
  rw [List.take_eq_take_min, hlen, show min (n + 32) L = n + X.length by omega, memcpy_take _ _ _ (by omega), hpre, hR]

/-- the outer loop from block `i` on -/
theorem outer_eq (ok : HashOK H p) (Ph PSh : Hmac.Ctx H) (P S : Bytes) (c dkLen : Nat) (hc : 1 ≤ c)
    (hP : HInv ok Ph P []) (hPS : HInv ok PSh P S)
    (k i : Nat) (buf : Bytes) (hk : dkLen - i * 32 = k) (hi : i ≤ (dkLen + 31) / 32)
    (hlen : buf.length = dkLen) (hpre : buf.take (32 * i) = (G p P S c i).take dkLen) :
    outer Ph PSh c dkLen i buf = some ((G p P S c ((dkLen + 31) / 32)).take dkLen) := by
  induction k using Nat.strongRecOn generalizing i buf with
  | _ k ih =>
    rw [outer]
    by_cases hlt : i * 32 < dkLen
    · have hGl := G_len ok P S c i
      rw [List.take_of_length_le (l := G p P S c i) (by omega)] at hpre
      -- `U_1`, then the model's `T` is the spec's `T_{i+1}`
      have hT : Spec.Pbkdf2.xorIter (prf p P) (c - 1) (prf p P (S ++ be32enc (UInt32.ofNat (i + 1))))
          (prf p P (S ++ be32enc (UInt32.ofNat (i + 1)))) = Tblk p P S c i := by
        obtain ⟨c', rfl⟩ : ∃ c', c = c' + 1 := ⟨c - 1, by omega⟩
        rfl
      simp only [hlt, if_true, final_hinv ok _ P _ (update_hinv ok PSh P S (be32enc (UInt32.ofNat (i + 1))) hPS),
        Option.bind_eq_bind, Option.bind_some, inner_eq ok Ph P hP _ _ _ (prf_len ok _ _), hT]
      rw [show (if dkLen - i * 32 > 32 then 32 else dkLen - i * 32) = min 32 (dkLen - 32 * i) by split <;> omega,
        Nat.mul_comm i 32]
      obtain ⟨h1, h2⟩ := take_memcpy_block buf _ (Tblk p P S c i) (32 * i) dkLen hGl (Tblk_len ok P S c i) hlen
        (by omega) hpre
      exact ih (dkLen - (i + 1) * 32) (by omega) (i + 1) _ rfl (by omega) h1 (by rw [G_succ, ← h2]; rfl)
    · simp only [hlt, if_false]
      obtain rfl : i = (dkLen + 31) / 32 := by omega
      rw [← hpre, List.take_of_length_le (by omega)]

theorem pbkdf2_stream_eq_spec (ok : HashOK H p) (P S : Bytes) (c dkLen : Nat) (hc : 1 ≤ c) :
    Model.Pbkdf2.pbkdf2 P S c dkLen = some (Spec.Pbkdf2.pbkdf2 (Spec.Hmac.hmac (MD.hash p)) 32 P S c dkLen) := by
  unfold Model.Pbkdf2.pbkdf2 Spec.Pbkdf2.pbkdf2
  obtain ⟨Ph, hinit, hP⟩ := init_hinv ok P
  rw [hinit]
  simp only [Option.bind_eq_bind, Option.bind_some]
  have hPS := update_hinv ok Ph P [] S hP
  simp only [List.nil_append] at hPS
  exact outer_eq ok Ph _ P S c dkLen hc hP hPS _ 0 _ rfl (by omega) (by simp) (by simp [G, Spec.Pbkdf2.blocks])

end Percival.Proofs.Pbkdf2Stream
