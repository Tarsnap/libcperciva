import Percival.Proofs.EventsNet
/-!
# `events_network_register` and `poll`/`events_network_select` keep the invariants (C04/C05 helper lemmas)
-/
namespace Percival.Proofs.EventsNet
open Percival.Spec.Events Percival.Model.Events

theorem push_set {α : Type} (a : Array α) (x y : α) : (a.push x).setIfInBounds a.size y = a.push y := by
  apply Array.ext
  · simp
  · intro i h1 h2
    simp only [Array.size_push] at h2
    grind

theorem get_growSocketList (S : Array Sock) (k i : Nat) :
    (growSocketList S k)[i]? = if i < S.size then S[i]? else if i < k then some {} else none := by
  unfold growSocketList
  rw [Array.getElem?_append]
  by_cases h : i < S.size
  · simp [h]
  · simp only [h, if_false]
    by_cases h2 : i < k
    · have : i - S.size < k - S.size := by omega
      simp [h2, this]
    · have : ¬ (i - S.size < k - S.size) := by omega
      simp [h2, this]

theorem grow_entry (n : Net) (k i : Nat) : entry { n with S := growSocketList n.S k } i = entry n i := by
  show ((((growSocketList n.S k)[i]?).bind Sock.pollpos).bind fun j => n.fds[j]?) = ((n.S[i]?).bind Sock.pollpos).bind _
  rw [get_growSocketList]
  split
  · rfl
  · next hi =>
    rw [Array.getElem?_eq_none_iff.mpr (Nat.le_of_not_lt hi)]
    split <;> rfl

theorem grow_inv0 (n : Net) (k : Nat) (h : Inv0 n) : Inv0 { n with S := growSocketList n.S k } := by
  obtain ⟨hP, hC⟩ := inv0_iff.mp h
  have hnew : ∀ {i : Nat} {t : Sock}, (growSocketList n.S k)[i]? = some t →
      n.S[i]? = some t ∨ (n.S[i]? = none ∧ t = ({} : Sock)) := by
    intro i t ht
    rw [get_growSocketList] at ht
    split at ht
    · exact Or.inl ht
    · next hi =>
      split at ht
      · cases ht; exact Or.inr ⟨Array.getElem?_eq_none_iff.mpr (Nat.le_of_not_lt hi), rfl⟩
      · cases ht
  refine inv0_iff.mpr ⟨⟨fun i t p ht hq => ?_, fun j e he => ?_⟩, fun i t ht => ?_⟩
  · rcases hnew ht with ht | ⟨_, rfl⟩
    · exact hP.fwd i t p ht hq
    · cases hq
  · obtain ⟨s, hs, hp⟩ := hP.back j e he
    exact ⟨s, by show (growSocketList n.S k)[e.fd]? = some s; rw [get_growSocketList, if_pos (lt_of_get hs)]; exact hs, hp⟩
  · rw [grow_entry]
    rcases hnew ht with ht | ⟨hn, rfl⟩
    · exact hC i t ht
    · rw [entry_absent hn]
      exact Content.none fun hq => hq.elim (nomatch ·) (nomatch ·)

theorem grow_slot (n : Net) (k i : Nat) (d : Dir) : slot { n with S := growSocketList n.S k } i d = slot n i d := by
  unfold slot
  simp only [get_growSocketList]
  by_cases h : i < n.S.size
  · simp [h]
  · have : n.S[i]? = none := Array.getElem?_eq_none_iff.mpr (by omega)
    simp only [h, if_false, this]
    split <;> cases d <;> simp [Sock.get]

/-- `n'` is `n` with `id` registered in the free `slot n fd d`: the slot is filled, and the descriptor's pollfd
    (a new one with no `revents` if it had none) polls for the direction as well -/
structure Adds (n n' : Net) (id fd : Nat) (d : Dir) : Prop where
  slot : ∀ i d', slot n' i d' = if i = fd ∧ d' = d then some id else slot n i d'
  entry : ∀ i, entry n' i = if i = fd then some (armed ((entry n fd).getD ⟨fd, {}, {}⟩) d) else entry n i

/-- registering in the free slot `d` of an existing socket: `S[fd]` gets the registration, and its
    pollfd is created at the end of `fds` or has the bit set -/
theorem netRegister_free (n : Net) (id fd : Nat) (d : Dir) (s : Sock) (h : Inv n) (hs : n.S[fd]? = some s)
    (hfree : s.get d = none) :
    ∃ n', netRegister n id fd d = some (n', .ok) ∧ Inv n' ∧ n'.scan = n.scan ∧
      Adds n n' id fd d := by
  have hlt := lt_of_get hs
  have hS1 : (n.S.setIfInBounds fd (s.set d (some id)))[fd]? = some (s.set d (some id)) :=
    Array.getElem?_setIfInBounds_self_of_lt hlt
  have hset : (s.set d (some id)).get d = some id := by cases d <;> rfl
  unfold netRegister
  simp only [show ¬ fd ≥ n.S.size by omega, if_false, hs, hfree, Option.isSome_none, Bool.false_eq_true]
  cases hpp : s.pollpos with
  | none =>
    have hS2 : (n.S.setIfInBounds fd { s.set d (some id) with pollpos := some n.fds.size })[fd]?
        = some { s.set d (some id) with pollpos := some n.fds.size } :=
      Array.getElem?_setIfInBounds_self_of_lt hlt
    simp only [Option.isNone_none, if_true, growPollFd, setPollpos_eq _ hS1, Option.pure_def, Option.bind_eq_bind,
      Option.bind_some, Array.setIfInBounds_setIfInBounds, hS2, Array.getElem?_push_size, push_set]
    -- without a pollfd the socket has no registration in the other direction
    have hno : ¬ (s.reader.isSome = true ∨ s.writer.isSome = true) := fun hq => by
      have := h.inv0.i2 fd s hs hq
      rw [hpp] at this; cases this
    have hl : Linked { s.set d (some id) with pollpos := some n.fds.size } (armed ⟨fd, {}, {}⟩ d) := by
      cases d
      · exact ⟨rfl, Bool.eq_false_iff.mpr fun hh => hno (Or.inr hh), ⟨fun _ => rfl, fun hh => Bool.noConfusion hh⟩, rfl, rfl⟩
      · exact ⟨Bool.eq_false_iff.mpr fun hh => hno (Or.inl hh), rfl, ⟨fun hh => Bool.noConfusion hh, fun _ => rfl⟩, rfl, rfl⟩
    obtain ⟨h0, hE⟩ := h.inv0.put hs (by rw [hpp]; rfl) rfl rfl (Content.of_linked hl (d := d) (id := id) (by cases d <;> rfl))
      Array.getElem?_push_size (fun j hj => by rw [Array.getElem?_push, if_neg hj])
    refine ⟨_, rfl, ⟨h0, h.i6.mono rfl fun j e' hj hany => ?_⟩, rfl,
      slot_set hs d (some id) (fun d' => by cases d' <;> rfl) rfl, ?_⟩
    · rw [Array.getElem?_push] at hj
      split at hj
      · cases hj; cases d <;> cases hany
      · exact ⟨j, e', Nat.le_refl _, hj, hany⟩
    · rw [entry_none hs hpp]; exact hE
  | some pp =>
    obtain ⟨e, he, hefd, hl⟩ := h.inv0.linked hs hpp
    have hpp' : (s.set d (some id)).pollpos = some pp := by cases d <;> exact hpp
    simp only [Option.isNone_some, Bool.false_eq_true, if_false, hS1, hpp', he]
    obtain ⟨h0, hE⟩ := h.inv0.put (e' := armed e d) hs (by rw [hpp]; rfl) hpp' hefd (Content.of_linked (hl.set d id) hset)
      (Array.getElem?_setIfInBounds_self_of_lt (lt_of_get he)) (fun j hj => Array.getElem?_setIfInBounds_ne (Ne.symm hj))
    refine ⟨_, rfl, ⟨h0, h.i6.mono rfl fun j e' hj hany => ?_⟩, rfl, slot_set hs d (some id) (fun _ => rfl) rfl, ?_⟩
    · rcases of_set_some hj with ⟨rfl, rfl⟩ | ⟨_, hj⟩
      · exact ⟨j, e, Nat.le_refl _, he, hany⟩
      · exact ⟨j, e', Nat.le_refl _, hj, hany⟩
    · rw [entry_eq hs hpp, he]; exact hE

/-- `events_network_register`: never faults under the invariants and keeps them; EEXIST exactly when
    the slot is taken, otherwise the registration is added -/
theorem netRegister_upd (n : Net) (id fd : Nat) (d : Dir) (h : Inv n) :
    (∃ id0, slot n fd d = some id0 ∧ netRegister n id fd d = some (n, .eexist)) ∨
    (slot n fd d = none ∧ ∃ n', netRegister n id fd d = some (n', .ok) ∧ Inv n' ∧ n'.scan = n.scan ∧
      Adds n n' id fd d) := by
  by_cases hge : fd ≥ n.S.size
  · right
    have hnone : n.S[fd]? = none := Array.getElem?_eq_none_iff.mpr hge
    refine ⟨by simp [slot, hnone], ?_⟩
    let g : Net := { n with S := growSocketList n.S (fd + 1) }
    have hgs : g.S[fd]? = some {} := by
      show (growSocketList n.S (fd + 1))[fd]? = some {}
      rw [get_growSocketList, if_neg (by omega), if_pos (Nat.lt_succ_self fd)]
    have heq : netRegister n id fd d = netRegister g id fd d := by
      have hgsz : ¬ (fd ≥ g.S.size) := Nat.not_le.mpr (lt_of_get hgs)
      unfold netRegister
      simp only [hge, hgsz, if_true, if_false]
      rfl
    obtain ⟨n', hr, hinv, hsc, hslots, hE⟩ :=
      netRegister_free g id fd d {} ⟨grow_inv0 n (fd + 1) h.inv0, h.i6⟩ hgs (by cases d <;> rfl)
    refine ⟨n', by rw [heq]; exact hr, hinv, hsc, fun i d' => by rw [hslots i d', grow_slot], fun i => ?_⟩
    rw [hE, grow_entry, grow_entry]
  · obtain ⟨s, hs⟩ : ∃ s, n.S[fd]? = some s := ⟨n.S[fd]'(by omega), by simp [Nat.not_le.mp hge]⟩
    cases hg : s.get d with
    | some id0 =>
      left
      refine ⟨id0, by simp [slot, hs, hg], ?_⟩
      unfold netRegister
      simp [hge, hs, hg]
    | none => exact Or.inr ⟨by simp [slot, hs, hg], netRegister_free n id fd d s h hs hg⟩

/-- `fdscanpos = nfds - 1` -/
def topScan (n : Net) : Option Nat := if n.fds.size = 0 then none else some (n.fds.size - 1)

theorem i6_top (n : Net) (hsc : n.scan = topScan n) : I6 n := by
  intro j e hj _
  obtain ⟨hlt, _⟩ := Array.getElem?_eq_some_iff.mp hj
  refine ⟨n.fds.size - 1, ?_, by omega⟩
  rw [hsc]; unfold topScan
  have : ¬ n.fds.size = 0 := by omega
  simp [this]

theorem rescan_inv (n : Net) (h : Inv0 n) : Inv { n with scan := topScan n } :=
  ⟨h.scan _, i6_top _ rfl⟩

theorem maskAns_sub (a : List (Nat × Bits)) (e : PollFd) :
    ((maskAns a e).r = true → e.ev.r = true) ∧ ((maskAns a e).w = true → e.ev.w = true) := by
  unfold maskAns
  split <;> simp

/-- what a successful poll does to the array: every `revents` overwritten by the masked answer -/
def polled (n : Net) (a : List (Nat × Bits)) : Net :=
  { n with fds := n.fds.map (fun e => { e with rev := maskAns a e }) }

theorem polled_get (n : Net) (a : List (Nat × Bits)) (j : Nat) :
    (polled n a).fds[j]? = (n.fds[j]?).map (fun e => { e with rev := maskAns a e }) := by
  simp [polled]

theorem polled_inv0 (n : Net) (a : List (Nat × Bits)) (h : Inv0 n) : Inv0 (polled n a) :=
  h.of_entries rfl fun j => ⟨_, polled_get n a j, fun e => ⟨rfl, rfl, fun _ => maskAns_sub a e⟩⟩

theorem polled_inv (n : Net) (a : List (Nat × Bits)) (h : Inv0 n) :
    Inv { polled n a with scan := topScan (polled n a) } :=
  rescan_inv _ (polled_inv0 n a h)

theorem polled_entry (n : Net) (a : List (Nat × Bits)) (i : Nat) :
    entry (polled n a) i = (entry n i).map fun e => { e with rev := maskAns a e } := by
  rcases entry_cases n i with h | ⟨p, h⟩
  · rw [h (polled n a) rfl, h n rfl]; rfl
  · rw [h (polled n a) rfl, h n rfl]; exact polled_get n a p

section
variable {n : Net}
/-- what `poll` is shown and answers for descriptor `fd`, in the monitors' terms -/
theorem Inv0.revOf_pollEntries (h : Inv0 n) (f : PollFd → Bits) (fd : Nat) :
    revOf (pollEntries n.fds f) fd = ((entry n fd).map f).getD {} := by
  have hfind : n.fds.toList.find? (fun x => x.fd == fd) = entry n fd := by
    cases he : entry n fd with
    | some e =>
      obtain ⟨hfd, j, hj⟩ := h.get_of_entry he
      obtain ⟨hlt, hje⟩ := Array.getElem?_eq_some_iff.mp hj
      -- `e` is the first entry for its descriptor: an earlier one would sit at `S[fd].pollpos` as well
      refine List.find?_eq_some_iff_getElem.mpr ⟨by simp [hfd], j, by rw [Array.length_toList]; exact hlt,
        by rw [Array.getElem_toList]; exact hje, fun i hi => ?_⟩
      rw [Bool.not_eq_true', beq_eq_false_iff_ne, Array.getElem_toList]
      intro hfdi
      have hi' : n.fds[i]? = some (n.fds[i]'(Nat.lt_trans hi hlt)) := Array.getElem?_eq_getElem _
      obtain ⟨s, p, hs, hp, _⟩ := of_entry he
      have h1 := h.unique hs hp hi' hfdi
      have h2 := h.unique hs hp hj hfd
      omega
    | none =>
      rw [List.find?_eq_none]
      intro x hx
      obtain ⟨j, hj⟩ := Array.getElem?_of_mem (Array.mem_def.mpr hx)
      simp only [beq_iff_eq]
      intro hxfd
      rw [← hxfd, h.entry_of_get hj] at he; cases he
  simp only [revOf, pollEntries, List.find?_map, Function.comp_def, hfind]
  cases entry n fd <;> rfl

end

end Percival.Proofs.EventsNet
