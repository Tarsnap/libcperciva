import Percival.Model.Hex
import Percival.Model.Endian
import Percival.Spec.Hex
import Percival.Proofs.Endian
import Percival.Proofs.ByteDecide
import Percival.Proofs.CStr
/-! `Proofs.Hex`: `Model.Hex` (hexify.c) against `Spec.Hex`: the table holds exactly the digits (`mem_tbl`), the loops as
list functions on the bytes the buffer holds (`At`: `hexifyF_eq`, `valL`, `convF_eq`), `unhexify` on a C string
(`unhexify_str`) and on a block (`unhexify_at`).  `Proofs.Endian`:
`Model.Endian` (sysendian.h) against `Spec.Endian`. -/
namespace Percival.Proofs.Hex
open Percival.Model Percival.Spec Percival.Gen Percival.Proofs

def upperDigit (v : Nat) : UInt8 := if v < 10 then UInt8.ofNat (0x30 + v) else UInt8.ofNat (0x41 + (v - 10))

/-- Gen obligation: `hexchars` is the 16 lower-case digits followed by the 16 upper-case digits -/
theorem hexchars_eq :
    CodecTables.hexchars = (List.range 16).map Spec.Hex.digit ++ (List.range 16).map upperDigit := by decide

def toUpper (c : UInt8) : UInt8 := if 0x61 ≤ c ∧ c ≤ 0x66 then c - 0x20 else c


theorem tbl_digit : ∀ i, i < 16 → tblRd Hex.tbl i = .ok (Spec.Hex.digit i) := by decide

theorem tbl_hi (c : UInt8) : tblRd Hex.tbl (c >>> 4).toNat = .ok (Spec.Hex.digit (c.toNat / 16)) := by
  have := c.toNat_lt
  rw [UInt8.toNat_shiftRight, Nat.shiftRight_eq_div_pow]
  exact tbl_digit _ (by simp; omega)

theorem tbl_lo (c : UInt8) : tblRd Hex.tbl (c &&& 0x0f).toNat = .ok (Spec.Hex.digit (c.toNat % 16)) := by
  rw [UInt8.toNat_and, show (0x0f : UInt8).toNat = 2 ^ 4 - 1 from rfl, Nat.and_two_pow_sub_one_eq_mod]
  exact tbl_digit _ (Nat.mod_lt _ (by decide))

theorem nibble_eq : ∀ c : UInt8, Spec.Hex.isDigit c = true →
    Hex.nibble c = .ok (UInt8.ofNat ((Spec.Hex.digitVal c).getD 0)) ∧ (Spec.Hex.digitVal c).getD 0 < 16 ∧
    Spec.Hex.digitVal c = some ((Spec.Hex.digitVal c).getD 0) := by decide +kernel
theorem comb_eq : ∀ x, x < 16 → ∀ y, y < 16 → (UInt8.ofNat x <<< 4) + UInt8.ofNat y = UInt8.ofNat (16 * x + y) := by decide +kernel
theorem digit_lower : ∀ v, v < 16 → (0x30 ≤ Spec.Hex.digit v ∧ Spec.Hex.digit v ≤ 0x39) ∨ (0x61 ≤ Spec.Hex.digit v ∧ Spec.Hex.digit v ≤ 0x66) := by decide +kernel
theorem digitVal_digit : ∀ v, v < 16 → Spec.Hex.digitVal (Spec.Hex.digit v) = some v := by decide +kernel
theorem isDigit_ne0 (c : UInt8) (h : Spec.Hex.isDigit c = true) : c ≠ 0 := by rintro rfl; exact absurd h (by decide)
theorem recombine (c : UInt8) : UInt8.ofNat (16 * (c.toNat / 16) + c.toNat % 16) = c := by
  rw [Nat.div_add_mod]; exact UInt8.ofNat_toNat

theorem digit_isDigit : ∀ v, v < 16 → Spec.Hex.isDigit (Spec.Hex.digit v) = true ∧ Spec.Hex.isDigit (upperDigit v) = true := by
  decide +kernel
theorem digitVal_inv : ∀ c : UInt8,
    (Spec.Hex.digitVal c).all (fun v => v < 16 && (Spec.Hex.digit v == c || upperDigit v == c)) = true := by
  decide +kernel

theorem mem_tbl (c : UInt8) : c ∈ Hex.tbl ↔ Spec.Hex.isDigit c = true := by
  simp only [Hex.tbl, hexchars_eq, List.mem_append, List.mem_map, List.mem_range, Spec.Hex.isDigit]
  constructor
  · rintro (⟨v, hv, rfl⟩ | ⟨v, hv, rfl⟩)
    · exact (digit_isDigit v hv).1
    · exact (digit_isDigit v hv).2
  · intro h
    obtain ⟨v, hv⟩ := Option.isSome_iff_exists.mp h
    have := digitVal_inv c
    simp [hv] at this
    exact this.2.imp (fun e => ⟨v, this.1, e⟩) (fun e => ⟨v, this.1, e⟩)

theorem bad_eq (c : UInt8) : (c == 0 || (strchrIdx Hex.tbl c).isNone) = !Spec.Hex.isDigit c := by
  by_cases h0 : c = 0
  · subst h0; rfl
  rw [strchrIdx, beq_false_of_ne h0, Bool.false_or]
  by_cases hd : Spec.Hex.isDigit c = true
  · simp [hd, List.idxOf_lt_length_iff.mpr ((mem_tbl c).mpr hd)]
  · simp [hd, List.idxOf_eq_length (mt (mem_tbl c).mp hd)]

theorem hexifyF_eq {b : Buf} {n : Nat} (l : List UInt8) : ∀ (i f : Nat), At b i l → n = i + l.length → l.length + 1 ≤ f →
    Hex.hexifyF b n f i = .ok (Spec.Hex.encode l ++ [0]) := by
  induction l with
  | nil =>
    intro i f _ hn hf
    cases f with
    | zero => simp at hf
    | succ f => simp [Hex.hexifyF, hn, Spec.Hex.encode]
  | cons c l ih =>
    intro i f hb hn hf
    cases f with
    | zero => simp at hf
    | succ f =>
      have ih' := ih (i + 1) f (hb.drop 1) (by simp at hn; omega) (by simp at hf; omega)
      unfold Hex.hexifyF
      rw [if_pos (by simp at hn; omega), hb.head]
      simp only [Res.ok_bind, tbl_hi, tbl_lo, ih']
      simp [Spec.Hex.encode]

/-- `hexify(in, out, len)` on any buffer that holds the `len` bytes `l` -/
theorem hexify_at {b : Buf} {l : List UInt8} (hb : At b 0 l) : Hex.hexify b l.length = .ok (Spec.Hex.encode l ++ [0]) :=
  hexifyF_eq l 0 _ hb (Nat.zero_add _).symm (Nat.le_refl _)

theorem encode_lower (b : List UInt8) :
    ∀ c ∈ Spec.Hex.encode b, (0x30 ≤ c ∧ c ≤ 0x39) ∨ (0x61 ≤ c ∧ c ≤ 0x66) := by
  induction b with
  | nil => simp [Spec.Hex.encode]
  | cons a as ih =>
    intro c hc
    simp only [Spec.Hex.encode, List.mem_cons] at hc
    have ha := a.toNat_lt
    rcases hc with rfl | rfl | hc
    · exact digit_lower _ (by omega)
    · exact digit_lower _ (by omega)
    · exact ih c hc

theorem decode_cons2 (a b : UInt8) (rest w : List UInt8) (h : Spec.Hex.decode (a :: b :: rest) = some w) :
    ∃ x y r, Spec.Hex.digitVal a = some x ∧ Spec.Hex.digitVal b = some y ∧ Spec.Hex.decode rest = some r ∧
      w = UInt8.ofNat (16 * x + y) :: r := by
  simp only [Spec.Hex.decode] at h
  split at h
  · rename_i x y r hx hy hr
    exact ⟨x, y, r, hx, hy, hr, by simpa using h.symm⟩
  · simp at h

theorem decode_length : ∀ (s w : List UInt8), Spec.Hex.decode s = some w → 2 * w.length = s.length
  | [], w, h => by simp [Spec.Hex.decode] at h; subst h; rfl
  | [_], w, h => by simp [Spec.Hex.decode] at h
  | a :: b :: rest, w, h => by
    obtain ⟨x, y, r, _, _, hr, rfl⟩ := decode_cons2 a b rest w h
    have := decode_length rest r hr
    simp only [List.length_cons]; omega

/-- the validation loop on the bytes it may read: `oob` when it runs past them -/
def valL : List UInt8 → Nat → Res Bool
  | _, 0 => .ok true
  | [], _+1 => .oob
  | c :: cs, n+1 => if Spec.Hex.isDigit c then valL cs n else .ok false

theorem validateF_eq {b : Buf} (len : Nat) : ∀ (n : Nat) (l : List UInt8) (i f : Nat) (v : Bool), At b i l → n + 1 ≤ f →
    i + n = 2 * len → valL l n = .ok v → Hex.validateF b len f i = .ok v := by
  intro n
  induction n with
  | zero =>
    intro l i f v _ hf hi hv
    cases f with
    | zero => omega
    | succ f => unfold Hex.validateF; rw [if_neg (by omega)]; simpa [valL] using hv
  | succ n ih =>
    intro l i f v hb hf hi hv
    cases f with
    | zero => omega
    | succ f =>
      cases l with
      | nil => cases hv
      | cons c cs =>
        unfold Hex.validateF
        rw [if_pos (by omega), hb.head]
        simp only [Res.ok_bind, bad_eq]
        rw [valL] at hv
        cases hd : Spec.Hex.isDigit c with
        | false => simpa [hd] using hv
        | true => simpa [hd] using ih cs (i + 1) f v (hb.drop 1) (by omega) (by omega) (by simpa [hd] using hv)

theorem valL_cstr (s : List UInt8) (hs : ∀ c ∈ s, c ≠ 0) (n : Nat) :
    valL (s ++ [0]) n = .ok (decide (n ≤ s.length) && (s.take n).all Spec.Hex.isDigit) := by
  induction s generalizing n with
  | nil =>
    cases n with
    | zero => simp [valL]
    | succ n => simp [valL, show Spec.Hex.isDigit 0 = false from rfl]
  | cons c cs ih =>
    cases n with
    | zero => simp [valL]
    | succ n =>
      have := ih (fun c hc => hs c (List.mem_cons_of_mem _ hc)) n
      simp only [List.cons_append, valL, this]
      cases hd : Spec.Hex.isDigit c <;> simp [hd]

theorem valL_block (s : List UInt8) (n : Nat) (h : n ≤ s.length) :
    valL s n = .ok ((s.take n).all Spec.Hex.isDigit) := by
  induction s generalizing n with
  | nil =>
    cases n with
    | zero => simp [valL]
    | succ n => simp at h
  | cons c cs ih =>
    cases n with
    | zero => simp [valL]
    | succ n =>
      have := ih n (by simpa using h)
      simp only [valL, this]
      cases hd : Spec.Hex.isDigit c <;> simp [hd]

theorem convF_eq {b : Buf} (len : Nat) : ∀ (n : Nat) (l : List UInt8) (i f : Nat), At b (2 * i) l → l.length = 2 * n →
    n + 1 ≤ f → i + n = len → l.all Spec.Hex.isDigit = true →
    ∃ w, Spec.Hex.decode l = some w ∧ Hex.convF b len f i = .ok w := by
  intro n
  induction n with
  | zero =>
    intro l i f _ hl hf hi _
    cases f with
    | zero => omega
    | succ f =>
      rw [List.length_eq_zero_iff.mp hl]
      exact ⟨[], rfl, by unfold Hex.convF; rw [if_neg (by omega)]⟩
  | succ n ih =>
    intro l i f hb hl hf hi hall
    cases f with
    | zero => omega
    | succ f =>
      match l, hb, hl, hall with
      | c1 :: c2 :: l', hb, hl, hall =>
        simp only [List.all_cons, Bool.and_eq_true] at hall
        obtain ⟨h1, h2, h3⟩ := hall
        obtain ⟨w, hw, hc⟩ := ih l' (i + 1) f (hb.drop 2) (by simp at hl; omega) (by omega) (by omega) h3
        obtain ⟨n1, l1, d1⟩ := nibble_eq _ h1
        obtain ⟨n2, l2, d2⟩ := nibble_eq _ h2
        refine ⟨_, by rw [Spec.Hex.decode, d1, d2, hw], ?_⟩
        unfold Hex.convF
        rw [if_pos (by omega), hb.head, hb.get (j := 1) rfl]
        simp only [Res.ok_bind, n1, n2, hc, comb_eq _ l1 _ l2]

theorem decode_all : ∀ (s w : List UInt8), Spec.Hex.decode s = some w → s.all Spec.Hex.isDigit = true
  | [], w, h => by simp
  | [_], w, h => by simp [Spec.Hex.decode] at h
  | a :: b :: rest, w, h => by
    obtain ⟨x, y, r, hx, hy, hr, rfl⟩ := decode_cons2 a b rest w h
    have := decode_all rest r hr
    simp [Spec.Hex.isDigit, hx, hy, this]

theorem decode_ne0 (s w : List UInt8) (h : Spec.Hex.decode s = some w) : ∀ c ∈ s, c ≠ 0 := fun c hc =>
  isDigit_ne0 c (List.all_eq_true.mp (decode_all s w h) c hc)

theorem decode_none (s : List UInt8) (h : s.all Spec.Hex.isDigit = false) : Spec.Hex.decode s = none := by
  cases hd : Spec.Hex.decode s with
  | none => rfl
  | some w => rw [decode_all s w hd] at h; simp at h

/-- `unhexify` once the outcome `v` of the validation on the bytes `l` at the start of the buffer is known -/
theorem unhexify_val {b : Buf} {l : List UInt8} (hb : At b 0 l) (len : Nat) (v : Bool) (hv : valL l (2 * len) = .ok v)
    (hL : v = true → 2 * len ≤ l.length ∧ (l.take (2 * len)).all Spec.Hex.isDigit = true) :
    Hex.unhexify b len = .ok (if v then Spec.Hex.decode (l.take (2 * len)) else none) := by
  unfold Hex.unhexify
  rw [validateF_eq len (2 * len) l 0 (2 * len + 1) v hb (Nat.le_refl _) (by omega) hv]
  cases v with
  | false => simp
  | true =>
    obtain ⟨h1, h2⟩ := hL rfl
    obtain ⟨w, hw, hc⟩ := convF_eq len len (l.take (2 * len)) 0 (len + 1) (hb.take _) (by simp; omega) (Nat.le_refl _)
      (by omega) h2
    simp [hc, hw]

theorem all_digit_ne0 (t : List UInt8) (h : t.all Spec.Hex.isDigit = true) : t.all (· != 0) = true := by
  simp only [List.all_eq_true] at h ⊢
  intro c hc
  simpa using isDigit_ne0 c (h c hc)

/-- `unhexify(in, out, len)` on a C string `s` anywhere a buffer starts with it -/
theorem unhexify_str {b : Buf} {s : List UInt8} (hb : StrAt b 0 s) (len : Nat) :
    Hex.unhexify b len = .ok (if 2 * len ≤ s.length then Spec.Hex.decode (s.take (2 * len)) else none) := by
  have hv := valL_cstr s hb.1 (2 * len)
  by_cases hlen : 2 * len ≤ s.length
  · have ht : (s ++ [0]).take (2 * len) = s.take (2 * len) := List.take_append_of_le_length hlen
    rw [unhexify_val hb.bytes len _ hv (by intro h; rw [ht]; simp at h ⊢; exact ⟨by omega, h.2⟩), ht, if_pos hlen]
    simp only [hlen, decide_true, Bool.true_and]
    cases ha : (s.take (2 * len)).all Spec.Hex.isDigit with
    | true => simp
    | false => simp [decode_none _ ha]
  · rw [unhexify_val hb.bytes len _ hv (by simp [hlen]), if_neg hlen]
    simp [hlen]

/-- `unhexify(in, out, len)` on a block of at least `2 * len` bytes -/
theorem unhexify_at {b : Buf} {l : List UInt8} (hb : At b 0 l) (len : Nat) (h : 2 * len ≤ l.length) :
    Hex.unhexify b len = .ok (Spec.Hex.decode (l.take (2 * len))) := by
  rw [unhexify_val hb len _ (valL_block l (2 * len) h) (fun hd => ⟨h, hd⟩)]
  cases ha : (l.take (2 * len)).all Spec.Hex.isDigit with
  | true => rfl
  | false => simp [decode_none _ ha]

/-- a text with a NUL in it has no value anyway -/
theorem decode_nul (t : List UInt8) : (if t.all (· != 0) then Spec.Hex.decode t else none) = Spec.Hex.decode t := by
  cases ha : t.all Spec.Hex.isDigit with
  | true => rw [if_pos (all_digit_ne0 _ ha)]
  | false => simp [decode_none _ ha]

theorem unhexify_cstr (s : List UInt8) (hs : ∀ c ∈ s, c ≠ 0) (len : Nat) :
    Hex.unhexify (cstr s) len =
      .ok (if 2 * len ≤ s.length then Spec.Hex.decode (s.take (2 * len)) else none) :=
  unhexify_str (StrAt.of_cstr hs) len

theorem digitVal_upper : ∀ v, v < 16 → Spec.Hex.digitVal (toUpper (Spec.Hex.digit v)) = some v := by decide

theorem decode_anycase (b : List UInt8) (s : List UInt8) (hlen : s.length = (Spec.Hex.encode b).length)
    (h : ∀ i (hi : i < s.length), s[i] = (Spec.Hex.encode b)[i]'(by omega) ∨ s[i] = toUpper ((Spec.Hex.encode b)[i]'(by omega))) :
    Spec.Hex.decode s = some b := by
  induction b generalizing s with
  | nil =>
    simp [Spec.Hex.encode] at hlen
    subst hlen; simp [Spec.Hex.decode]
  | cons a as ih =>
    have ha := a.toNat_lt
    match s, hlen, h with
    | [], hlen, _ => simp [Spec.Hex.encode] at hlen
    | [_], hlen, _ => simp [Spec.Hex.encode] at hlen
    | c1 :: c2 :: s', hlen, h =>
      have h0 := h 0 (by simp)
      have h1 := h 1 (by simp)
      simp only [Spec.Hex.encode, List.getElem_cons_zero, List.getElem_cons_succ] at h0 h1
      have d1 : Spec.Hex.digitVal c1 = some (a.toNat / 16) := by
        rcases h0 with e | e <;> rw [e]
        · exact digitVal_digit _ (by omega)
        · exact digitVal_upper _ (by omega)
      have d2 : Spec.Hex.digitVal c2 = some (a.toNat % 16) := by
        rcases h1 with e | e <;> rw [e]
        · exact digitVal_digit _ (by omega)
        · exact digitVal_upper _ (by omega)
      have ih' := ih s' (by simpa [Spec.Hex.encode] using hlen) (by
        intro i hi
        have := h (i + 2) (by simp; omega)
        simpa [Spec.Hex.encode] using this)
      simp only [Spec.Hex.decode, d1, d2, ih', recombine]

theorem decode_encode (b : List UInt8) : Spec.Hex.decode (Spec.Hex.encode b) = some b :=
  decode_anycase b _ rfl fun _ _ => .inl rfl
end Percival.Proofs.Hex

namespace Percival.Proofs.Endian
open Percival.Model Percival.Spec Percival.Spec.Endian

/-! The twelve routines of `sysendian.h` are straight-line code over three word types.  Each load is, by `rfl`, a generic
reader (`rdUp` / `rdDown`: read `n` bytes upwards or downwards and hand the list on) applied to the or-chain of its
width, which is `leVal` of the bytes in the order read (`leVal_or_shl`); each store is, by `rfl`, a generic writer
(`stUp` / `stDown`) on the bytes of the word from the low end, which are `leBytes`. -/

/-- Or-ing in a byte shifted just past the bytes so far (inside a `w`-bit word) appends it to their
    little-endian value: nothing overlaps and nothing is shifted out. -/
theorem leVal_or_shl (l : List UInt8) (c : UInt8) {k w : Nat} (hk : k = 8 * l.length) (hw : k + 8 ≤ w) :
    leVal l ||| c.toNat <<< k % 2 ^ w = leVal (l ++ [c]) := by
  have hl : leVal l < 2 ^ k := by rw [hk, Nat.pow_mul]; exact leVal_lt l
  have hc : c.toNat <<< k < 2 ^ w := by
    rw [Nat.shiftLeft_eq]
    calc c.toNat * 2 ^ k < 2 ^ 8 * 2 ^ k := Nat.mul_lt_mul_of_pos_right c.toNat_lt (Nat.two_pow_pos k)
      _ = 2 ^ (8 + k) := (Nat.pow_add ..).symm
      _ ≤ 2 ^ w := Nat.pow_le_pow_right (by decide) (by omega)
  rw [Nat.mod_eq_of_lt hc, Nat.or_comm, ← Nat.shiftLeft_add_eq_or_of_lt hl, leVal_snoc, Nat.shiftLeft_eq, hk,
    Nat.pow_mul, Nat.add_comm]

def rdUp {α : Type} (b : Buf) : Nat → Nat → (List UInt8 → Res α) → Res α
  | _, 0, k => k []
  | p, n + 1, k => rdR b p >>= fun c => rdUp b (p + 1) n fun r => k (c :: r)

def rdDown {α : Type} (b : Buf) (p : Nat) : Nat → (List UInt8 → Res α) → Res α
  | 0, k => k []
  | n + 1, k => rdR b (p + n) >>= fun c => rdDown b p n fun r => k (c :: r)

theorem rdUp_spec {α : Type} (b : Buf) (n : Nat) : ∀ (p : Nat) (k : List UInt8 → Res α), p + n ≤ b.size →
    rdUp b p n k = k ((b.toList.drop p).take n) := by
  induction n with
  | zero => intro p k _; simp [rdUp]
  | succ n ih =>
    intro p k h
    rw [rdUp, rdR_ok b p (by omega), Res.ok_bind, ih (p + 1) _ (by omega), List.drop_eq_getElem_cons (i := p) (by simp; omega),
      List.take_succ_cons]
    rfl

theorem rdDown_spec {α : Type} (b : Buf) (p n : Nat) : ∀ (k : List UInt8 → Res α), p + n ≤ b.size →
    rdDown b p n k = k ((b.toList.drop p).take n).reverse := by
  induction n with
  | zero => intro k _; simp [rdDown]
  | succ n ih =>
    intro k h
    have hl : n < (b.toList.drop p).length := by simp; omega
    rw [rdDown, rdR_ok b (p + n) (by omega), Res.ok_bind, ih _ (by omega), List.take_succ_eq_append_getElem hl,
      List.reverse_append]
    simp

def stUp (b : Buf) (p : Nat) : List UInt8 → Res Buf
  | [] => .ok b
  | [v] => wr b p v
  | v :: vs => wr b p v >>= fun b => stUp b (p + 1) vs

/-- store `m` downwards, its first byte at the highest address, its last at `p` -/
def stDown (b : Buf) (p : Nat) : List UInt8 → Res Buf
  | [] => .ok b
  | [v] => wr b p v
  | v :: vs => wr b (p + vs.length) v >>= fun b => stDown b p vs

theorem stUp_spec (m : List UInt8) {n : Nat} (hm : m.length = n) (b : Buf) (p : Nat) (h : p + n ≤ b.size) :
    ∃ b', stUp b p m = .ok b' ∧ b'.toList = b.toList.take p ++ m ++ b.toList.drop (p + n) := by
  subst hm
  induction m generalizing b p with
  | nil => exact ⟨b, rfl, by simp⟩
  | cons v vs ih =>
    rw [List.length_cons] at h
    obtain ⟨b', he, hl⟩ := ih (b.set p v (by omega)) (p + 1) (by rw [Array.size_set]; omega)
    refine ⟨b', ?_, ?_⟩
    · cases vs with
      | nil => rw [stUp, wr_ok b p v (by omega)]; exact he
      | cons w ws => rw [stUp.eq_3 _ _ _ _ (by simp), wr_ok b p v (by omega)]; exact he
    · rw [hl, Array.toList_set, List.take_add_one, List.take_set_of_le (Nat.le_refl p),
        List.getElem?_set_self (by simp; omega), List.drop_set_of_lt (by omega), List.length_cons, Nat.add_assoc,
        Nat.add_comm 1]
      simp

theorem stDown_spec (m : List UInt8) {n : Nat} (hm : m.length = n) (b : Buf) (p : Nat) (h : p + n ≤ b.size) :
    ∃ b', stDown b p m = .ok b' ∧ b'.toList = b.toList.take p ++ m.reverse ++ b.toList.drop (p + n) := by
  subst hm
  induction m generalizing b with
  | nil => exact ⟨b, rfl, by simp⟩
  | cons v vs ih =>
    rw [List.length_cons] at h
    obtain ⟨b', he, hl⟩ := ih (b.set (p + vs.length) v (by omega)) (by rw [Array.size_set]; omega)
    refine ⟨b', ?_, ?_⟩
    · cases vs with
      | nil => rw [stDown, ← Nat.add_zero p, ← List.length_nil (α := UInt8), wr_ok b _ v (by omega)]; exact he
      | cons w ws => rw [stDown.eq_3 _ _ _ _ (by simp), wr_ok b _ v (by omega)]; exact he
    · rw [hl, Array.toList_set, List.take_set_of_le (Nat.le_add_right p _),
        List.drop_eq_getElem_cons (by simp; omega), List.getElem_set_self, List.drop_set_of_lt (Nat.lt_succ_self _)]
      simp [Nat.add_assoc]

theorem toUInt8_and16 (x : UInt16) : (x &&& 0xff).toUInt8 = UInt8.ofNat x.toNat := by
  apply UInt8.toNat_inj.mp
  simp [and255]
theorem toUInt8_and32 (x : UInt32) : (x &&& 0xff).toUInt8 = UInt8.ofNat x.toNat := by
  apply UInt8.toNat_inj.mp
  simp [and255]
theorem toUInt8_and64 (x : UInt64) : (x &&& 0xff).toUInt8 = UInt8.ofNat x.toNat := by
  apply UInt8.toNat_inj.mp
  simp [and255]

/-! What is particular to a width: the word built from the bytes in the order read (`comb#`, the same for both byte
orders), and the bytes of a word from the low end (`bytes#`).  Each of the twelve routines is, by `rfl`, a generic
reader with `comb#` or a generic writer on `bytes#`. -/

def comb16 : List UInt8 → UInt16
  | [c0, c1] => c0.toUInt16 ||| (c1.toUInt16 <<< 8)
  | _ => 0

def comb32 : List UInt8 → UInt32
  | [c0, c1, c2, c3] => c0.toUInt32 ||| (c1.toUInt32 <<< 8) ||| (c2.toUInt32 <<< 16) ||| (c3.toUInt32 <<< 24)
  | _ => 0

def comb64 : List UInt8 → UInt64
  | [c0, c1, c2, c3, c4, c5, c6, c7] =>
    c0.toUInt64 ||| (c1.toUInt64 <<< 8) ||| (c2.toUInt64 <<< 16) ||| (c3.toUInt64 <<< 24) |||
      (c4.toUInt64 <<< 32) ||| (c5.toUInt64 <<< 40) ||| (c6.toUInt64 <<< 48) ||| (c7.toUInt64 <<< 56)
  | _ => 0

theorem comb16_eq : ∀ l : List UInt8, l.length = 2 → comb16 l = UInt16.ofNat (leVal l)
  | [c0, c1], _ => by
    rw [← UInt16.ofNat_toNat (x := comb16 _)]
    simp only [comb16, UInt16.toNat_or, UInt16.toNat_shiftLeft, UInt8.toNat_toUInt16, UInt16.reduceToNat, Nat.reduceMod]
    rw [show c0.toNat = leVal [c0] from rfl]
    simp (disch := simp) only [leVal_or_shl, List.cons_append, List.nil_append]

theorem comb32_eq : ∀ l : List UInt8, l.length = 4 → comb32 l = UInt32.ofNat (leVal l)
  | [c0, c1, c2, c3], _ => by
    rw [← UInt32.ofNat_toNat (x := comb32 _)]
    simp only [comb32, UInt32.toNat_or, UInt32.toNat_shiftLeft, UInt8.toNat_toUInt32, UInt32.reduceToNat, Nat.reduceMod]
    rw [show c0.toNat = leVal [c0] from rfl]
    simp (disch := simp) only [leVal_or_shl, List.cons_append, List.nil_append]

theorem comb64_eq : ∀ l : List UInt8, l.length = 8 → comb64 l = UInt64.ofNat (leVal l)
  | [c0, c1, c2, c3, c4, c5, c6, c7], _ => by
    rw [← UInt64.ofNat_toNat (x := comb64 _)]
    simp only [comb64, UInt64.toNat_or, UInt64.toNat_shiftLeft, UInt8.toNat_toUInt64, UInt64.reduceToNat, Nat.reduceMod]
    rw [show c0.toNat = leVal [c0] from rfl]
    simp (disch := simp) only [leVal_or_shl, List.cons_append, List.nil_append]

/-- a load that reads upwards is little-endian, one that reads downwards big-endian -/
theorem load_le {α : Type} (comb : List UInt8 → α) (ofNat : Nat → α) (n : Nat)
    (hc : ∀ l : List UInt8, l.length = n → comb l = ofNat (leVal l)) (b : Buf) (p : Nat) (h : p + n ≤ b.size) :
    rdUp b p n (fun l => .ok (comb l)) = .ok (ofNat (leVal ((b.toList.drop p).take n))) :=
  (rdUp_spec b n p _ h).trans (congrArg Res.ok (hc _ (by simp; omega)))

theorem load_be {α : Type} (comb : List UInt8 → α) (ofNat : Nat → α) (n : Nat)
    (hc : ∀ l : List UInt8, l.length = n → comb l = ofNat (leVal l)) (b : Buf) (p : Nat) (h : p + n ≤ b.size) :
    rdDown b p n (fun l => .ok (comb l)) = .ok (ofNat (beVal ((b.toList.drop p).take n))) :=
  (rdDown_spec b p n _ h).trans (congrArg Res.ok ((hc _ (by simp; omega)).trans (by rw [beVal_eq_leVal_reverse])))

theorem le16dec_spec (b : Buf) (p : Nat) (h : p + 2 ≤ b.size) :
    Endian.le16dec b p = .ok (UInt16.ofNat (Spec.Endian.leVal ((b.toList.drop p).take 2))) :=
  load_le comb16 _ 2 comb16_eq b p h
theorem be16dec_spec (b : Buf) (p : Nat) (h : p + 2 ≤ b.size) :
    Endian.be16dec b p = .ok (UInt16.ofNat (Spec.Endian.beVal ((b.toList.drop p).take 2))) :=
  load_be comb16 _ 2 comb16_eq b p h
theorem le32dec_spec (b : Buf) (p : Nat) (h : p + 4 ≤ b.size) :
    Endian.le32dec b p = .ok (UInt32.ofNat (Spec.Endian.leVal ((b.toList.drop p).take 4))) :=
  load_le comb32 _ 4 comb32_eq b p h
theorem be32dec_spec (b : Buf) (p : Nat) (h : p + 4 ≤ b.size) :
    Endian.be32dec b p = .ok (UInt32.ofNat (Spec.Endian.beVal ((b.toList.drop p).take 4))) :=
  load_be comb32 _ 4 comb32_eq b p h
theorem le64dec_spec (b : Buf) (p : Nat) (h : p + 8 ≤ b.size) :
    Endian.le64dec b p = .ok (UInt64.ofNat (Spec.Endian.leVal ((b.toList.drop p).take 8))) :=
  load_le comb64 _ 8 comb64_eq b p h
theorem be64dec_spec (b : Buf) (p : Nat) (h : p + 8 ≤ b.size) :
    Endian.be64dec b p = .ok (UInt64.ofNat (Spec.Endian.beVal ((b.toList.drop p).take 8))) :=
  load_be comb64 _ 8 comb64_eq b p h

def bytes16 (x : UInt16) : List UInt8 := [(x &&& 0xff).toUInt8, ((x >>> 8) &&& 0xff).toUInt8]

def bytes32 (x : UInt32) : List UInt8 :=
  [(x &&& 0xff).toUInt8, ((x >>> 8) &&& 0xff).toUInt8, ((x >>> 16) &&& 0xff).toUInt8, ((x >>> 24) &&& 0xff).toUInt8]

def bytes64 (x : UInt64) : List UInt8 :=
  [(x &&& 0xff).toUInt8, ((x >>> 8) &&& 0xff).toUInt8, ((x >>> 16) &&& 0xff).toUInt8, ((x >>> 24) &&& 0xff).toUInt8,
   ((x >>> 32) &&& 0xff).toUInt8, ((x >>> 40) &&& 0xff).toUInt8, ((x >>> 48) &&& 0xff).toUInt8, ((x >>> 56) &&& 0xff).toUInt8]

theorem bytes16_eq (x : UInt16) : bytes16 x = leBytes 2 x.toNat := by
  simp only [bytes16, toUInt8_and16, UInt16.toNat_shiftRight, UInt16.reduceToNat, Nat.reduceMod, leBytes_succ, leBytes.eq_1]

theorem bytes32_eq (x : UInt32) : bytes32 x = leBytes 4 x.toNat := by
  simp only [bytes32, toUInt8_and32, UInt32.toNat_shiftRight, UInt32.reduceToNat, Nat.reduceMod, leBytes_succ, leBytes.eq_1,
    ← Nat.shiftRight_add, Nat.reduceAdd]

theorem bytes64_eq (x : UInt64) : bytes64 x = leBytes 8 x.toNat := by
  simp only [bytes64, toUInt8_and64, UInt64.toNat_shiftRight, UInt64.reduceToNat, Nat.reduceMod, leBytes_succ, leBytes.eq_1,
    ← Nat.shiftRight_add, Nat.reduceAdd]

/-- a store that writes the low bytes upwards is little-endian, one that writes them downwards big-endian -/
theorem store_le (m : List UInt8) (n x : Nat) (hm : m = leBytes n x) (b : Buf) (p : Nat) (h : p + n ≤ b.size) :
    ∃ b', stUp b p m = .ok b' ∧ b'.toList = b.toList.take p ++ leBytes n x ++ b.toList.drop (p + n) :=
  hm ▸ stUp_spec _ (leBytes_length n x) b p h

theorem store_be (m : List UInt8) (n x : Nat) (hm : m = leBytes n x) (b : Buf) (p : Nat) (h : p + n ≤ b.size) :
    ∃ b', stDown b p m = .ok b' ∧ b'.toList = b.toList.take p ++ beBytes n x ++ b.toList.drop (p + n) :=
  hm ▸ stDown_spec _ (leBytes_length n x) b p h

theorem le16enc_spec (b : Buf) (p : Nat) (x : UInt16) (h : p + 2 ≤ b.size) :
    ∃ b', Endian.le16enc b p x = .ok b' ∧
      b'.toList = b.toList.take p ++ Spec.Endian.leBytes 2 x.toNat ++ b.toList.drop (p + 2) :=
  store_le _ 2 _ (bytes16_eq x) b p h
theorem be16enc_spec (b : Buf) (p : Nat) (x : UInt16) (h : p + 2 ≤ b.size) :
    ∃ b', Endian.be16enc b p x = .ok b' ∧
      b'.toList = b.toList.take p ++ Spec.Endian.beBytes 2 x.toNat ++ b.toList.drop (p + 2) :=
  store_be _ 2 _ (bytes16_eq x) b p h
theorem le32enc_spec (b : Buf) (p : Nat) (x : UInt32) (h : p + 4 ≤ b.size) :
    ∃ b', Endian.le32enc b p x = .ok b' ∧
      b'.toList = b.toList.take p ++ Spec.Endian.leBytes 4 x.toNat ++ b.toList.drop (p + 4) :=
  store_le _ 4 _ (bytes32_eq x) b p h
theorem be32enc_spec (b : Buf) (p : Nat) (x : UInt32) (h : p + 4 ≤ b.size) :
    ∃ b', Endian.be32enc b p x = .ok b' ∧
      b'.toList = b.toList.take p ++ Spec.Endian.beBytes 4 x.toNat ++ b.toList.drop (p + 4) :=
  store_be _ 4 _ (bytes32_eq x) b p h
theorem le64enc_spec (b : Buf) (p : Nat) (x : UInt64) (h : p + 8 ≤ b.size) :
    ∃ b', Endian.le64enc b p x = .ok b' ∧
      b'.toList = b.toList.take p ++ Spec.Endian.leBytes 8 x.toNat ++ b.toList.drop (p + 8) :=
  store_le _ 8 _ (bytes64_eq x) b p h
theorem be64enc_spec (b : Buf) (p : Nat) (x : UInt64) (h : p + 8 ≤ b.size) :
    ∃ b', Endian.be64enc b p x = .ok b' ∧
      b'.toList = b.toList.take p ++ Spec.Endian.beBytes 8 x.toNat ++ b.toList.drop (p + 8) :=
  store_be _ 8 _ (bytes64_eq x) b p h
end Percival.Proofs.Endian
