import Percival.Spec.Pbkdf2
import Percival.Spec.HmacDrbg
import Percival.Proofs.MDEval
import Percival.Proofs.ListLen
/-! SHA-256 on natural numbers (`MDEval`): `hash_eq : Spec.Sha256.hash = hash`, and the constructions over SHA-256 (HMAC,
PBKDF2, the DRBG's HMAC) over `hash`, for rewriting a goal that mentions them before it is evaluated. -/
namespace Percival.Proofs.Sha256Eval
open Percival.Spec
open Percival.Proofs.MDEval (add32 rotr Ch Maj fld pack)
open Percival.Proofs.Words (encBE)

def bigSigma0 (x : Nat) : Nat := Nat.xor (Nat.xor (rotr x 2) (rotr x 13)) (rotr x 22)
def bigSigma1 (x : Nat) : Nat := Nat.xor (Nat.xor (rotr x 6) (rotr x 11)) (rotr x 25)
def smallSigma0 (x : Nat) : Nat := Nat.xor (Nat.xor (rotr x 7) (rotr x 18)) (Nat.shiftRight x 3)
def smallSigma1 (x : Nat) : Nat := Nat.xor (Nat.xor (rotr x 17) (rotr x 19)) (Nat.shiftRight x 10)

/-- `Sha256.Regs` with the words as natural numbers below `2^32` -/
structure Regs where
  a : Nat
  b : Nat
  c : Nat
  d : Nat
  e : Nat
  f : Nat
  g : Nat
  h : Nat

def toRegs (H : Sha256.Regs) : Regs :=
  ⟨H.a.toNat, H.b.toNat, H.c.toNat, H.d.toNat, H.e.toNat, H.f.toNat, H.g.toNat, H.h.toNat⟩

def round (r : Regs) (k w : Nat) : Regs :=
  let T1 := Nat.add (Nat.add (Nat.add (Nat.add r.h (bigSigma1 r.e)) (Ch r.e r.f r.g)) k) w
  let T2 := Nat.add (bigSigma0 r.a) (Maj r.a r.b r.c)
  { h := r.g, g := r.f, f := r.e, e := add32 r.d T1, d := r.c, c := r.b, b := r.a, a := add32 T1 T2 }

/-- `W_{t+16}` from the window `W_t … W_{t+15}` -/
def nextW (win : Nat) : Nat :=
  add32 (Nat.add (Nat.add (smallSigma1 (fld win 14)) (fld win 9)) (smallSigma0 (fld win 1))) (fld win 0)

def addRegs (H r : Regs) : Regs :=
  ⟨add32 r.a H.a, add32 r.b H.b, add32 r.c H.c, add32 r.d H.d, add32 r.e H.e, add32 r.f H.f, add32 r.g H.g, add32 r.h H.h⟩

def K : List Nat := Sha256.K.map UInt32.toNat

def out (r : Regs) : Bytes :=
  encBE r.a ++ encBE r.b ++ encBE r.c ++ encBE r.d ++ encBE r.e ++ encBE r.f ++ encBE r.g ++ encBE r.h

def compress (H : Regs) (blk : Nat) : Regs := addRegs H (MDEval.rounds round nextW K H blk)

attribute [local simp] MDEval.mod_def MDEval.shiftLeft_def MDEval.shiftRight_def add32 MDEval.not32
  rotr Ch Maj bigSigma0 bigSigma1 smallSigma0 smallSigma1
  Sha256.rotr Sha256.shr Sha256.Ch Sha256.Maj Sha256.bigSigma0 Sha256.bigSigma1 Sha256.smallSigma0
  Sha256.smallSigma1

theorem toRegs_round (r : Sha256.Regs) (k w : UInt32) :
    toRegs (Sha256.round r k w) = round (toRegs r) k.toNat w.toNat := by
  simp [Sha256.round, round, toRegs]

theorem toRegs_addRegs (H r : Sha256.Regs) : toRegs (Sha256.addRegs H r) = addRegs (toRegs H) (toRegs r) := by
  simp [Sha256.addRegs, addRegs, toRegs]

theorem nextW_eq (ws acc : List UInt32) (h : ws.length = 16) :
    ∃ u, Sha256.nextW (ws.reverse ++ acc) = some u ∧ u.toNat = nextW (pack (ws.map UInt32.toNat)) := by
  obtain ⟨w0, w1, w2, w3, w4, w5, w6, w7, w8, w9, w10, w11, w12, w13, w14, w15, rfl⟩ := len16 ws h
  exact ⟨_, rfl, by simp only [nextW, MDEval.fld_toNat]; simp⟩

theorem compress_eq (H : Sha256.Regs) (ws : List UInt32) (h : ws.length = 16) :
    toRegs (Sha256.addRegs H (Sha256.rounds H (extendSchedule Sha256.nextW 48 ws.reverse).reverse)) =
      compress (toRegs H) (pack (ws.map UInt32.toNat)) := by
  rw [toRegs_addRegs, Sha256.rounds, compress, K]
  exact congrArg _ (MDEval.rounds_eq round nextW Sha256.nextW nextW_eq toRegs UInt32.toNat Sha256.round
    toRegs_round Sha256.K 48 rfl H ws h)

def eval : MDEval.Eval Sha256.params where
  ρ := Regs
  toN := toRegs
  word := MDEval.wordBE
  f := compress
  out := out
  compress := fun H b hb => MDEval.toNat_wordsBE b ▸ compress_eq H _ (by rw [Words.wordsBE_length, hb])
  out_eq := fun s => by simp [show Sha256.params.out = Sha256.out from rfl, Sha256.out, out, toRegs, Words.be32enc_eq]

def hash : Bytes → Bytes := eval.hash

theorem hash_eq : Sha256.hash = hash := eval.hash_eq

theorem hmacSha256_eq : Hmac.hmacSha256 = Hmac.hmac hash := by
  funext k m; rw [Hmac.hmacSha256, hash_eq]

theorem pbkdf2Sha256_eq : Pbkdf2.pbkdf2Sha256 = Pbkdf2.pbkdf2 (Hmac.hmac hash) 32 := by
  funext P S c n; rw [Pbkdf2.pbkdf2Sha256, hmacSha256_eq]

theorem drbg_hmac_eq : HmacDrbg.hmac = Hmac.hmac hash := by
  funext k m; rw [HmacDrbg.hmac, hmacSha256_eq]

end Percival.Proofs.Sha256Eval
