/-! The number with given binary digits, least significant first (`lsb`): its bits are the digits, and the digits
`lo … lo + n - 1` of a number give back that slice of it. -/
namespace Percival.Proofs.Bits

def lsb (bits : List Bool) : Nat := bits.foldr (fun b n => 2 * n + (if b then 1 else 0)) 0

theorem lsb_cons (b : Bool) (bs : List Bool) : lsb (b :: bs) = 2 * lsb bs + (if b then 1 else 0) := rfl

theorem testBit_lsb (bits : List Bool) (i : Nat) : (lsb bits).testBit i = bits.getD i false := by
  induction bits generalizing i with
  | nil => simp [lsb]
  | cons b bs ih =>
    cases i with
    | zero => rw [lsb_cons, Nat.testBit_zero]; cases b <;> simp <;> omega
    | succ i => rw [Nat.testBit_succ, show lsb (b :: bs) / 2 = lsb bs by rw [lsb_cons]; split <;> omega, ih]; simp

theorem lsb_lt (bits : List Bool) : lsb bits < 2 ^ bits.length := by
  induction bits with
  | nil => simp [lsb]
  | cons b bs ih =>
    rw [lsb_cons, List.length_cons, Nat.pow_succ]
    split <;> omega

theorem lsb_testBits (x lo n : Nat) : lsb ((List.range' lo n).map x.testBit) = x / 2 ^ lo % 2 ^ n := by
  refine Nat.eq_of_testBit_eq fun i => ?_
  rw [testBit_lsb, Nat.testBit_mod_two_pow, Nat.testBit_div_two_pow, List.getD_eq_getElem?_getD, List.getElem?_map]
  by_cases h : i < n <;> simp [h, Nat.add_comm]

end Percival.Proofs.Bits
