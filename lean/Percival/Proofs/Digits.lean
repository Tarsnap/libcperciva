/-! The digits of a number in base `B`, most significant first and without leading zeros (`digs`), as a list of
numbers: what `%d`, `Nat.repr` and `Nat.toDigits` all write, before the digits are turned into characters.  Then the
digits as ASCII bytes (`digitByte`): what `Nat.toDigits` writes in UTF-8 (`toDigits_utf8`), and a decimal numeral read
back (`decVal_digs`). -/
namespace Percival.Proofs

def digs (B n : Nat) : List Nat := if n < B ∨ B < 2 then [n] else digs B (n / B) ++ [n % B]
decreasing_by exact Nat.div_lt_self (by omega) (by omega)

theorem digs_of_lt {B n : Nat} (h : n < B) : digs B n = [n] := by rw [digs, if_pos (.inl h)]

theorem digs_of_ge {B n : Nat} (hB : 2 ≤ B) (h : B ≤ n) : digs B n = digs B (n / B) ++ [n % B] := by
  rw [digs, if_neg (by omega)]

theorem digs_ne_nil (B n : Nat) : digs B n ≠ [] := by
  rw [digs]; split <;> simp

section
variable {B : Nat} (hB : 2 ≤ B)
include hB

theorem digs_lt (n : Nat) : ∀ d ∈ digs B n, d < B := by
  induction n using Nat.strongRecOn with
  | _ n ih =>
    by_cases h : n < B
    · rw [digs_of_lt h]; simpa using h
    · rw [digs_of_ge hB (by omega)]
      intro d hd
      rcases List.mem_append.mp hd with hd | hd
      · exact ih _ (Nat.div_lt_self (by omega) (by omega)) d hd
      · rw [List.mem_singleton.mp hd]; exact Nat.mod_lt _ (by omega)

theorem digs_val (n : Nat) : (digs B n).foldl (fun v d => B * v + d) 0 = n := by
  induction n using Nat.strongRecOn with
  | _ n ih =>
    by_cases h : n < B
    · rw [digs_of_lt h]; simp
    · rw [digs_of_ge hB (by omega), List.foldl_append, ih _ (Nat.div_lt_self (by omega) (by omega))]
      exact Nat.div_add_mod n B

theorem digs_length (k n : Nat) (h : n < B ^ (k + 1)) : (digs B n).length ≤ k + 1 := by
  induction k generalizing n with
  | zero => rw [digs_of_lt (by simpa using h)]; simp
  | succ k ih =>
    by_cases hn : n < B
    · rw [digs_of_lt hn]; simp
    · have := ih (n / B) (Nat.div_lt_of_lt_mul (by rw [Nat.pow_succ, Nat.mul_comm] at h; exact h))
      rw [digs_of_ge hB (by omega)]
      simp; omega

theorem digs_head (n : Nat) : ∃ d ds, digs B n = d :: ds ∧ (d = 0 → n = 0) := by
  induction n using Nat.strongRecOn with
  | _ n ih =>
    by_cases h : n < B
    · exact ⟨n, [], digs_of_lt h, id⟩
    · obtain ⟨d, ds, e, hz⟩ := ih (n / B) (Nat.div_lt_self (by omega) (by omega))
      refine ⟨d, ds ++ [n % B], by rw [digs_of_ge hB (by omega), e]; rfl, fun hd => ?_⟩
      have : 0 < n / B := Nat.div_pos (Nat.le_of_not_lt h) (by omega)
      have := hz hd
      omega

theorem toDigits_digs (n : Nat) : Nat.toDigits B n = (digs B n).map Nat.digitChar := by
  induction n using Nat.strongRecOn with
  | _ n ih =>
    by_cases h : n < B
    · rw [digs_of_lt h, Nat.toDigits_of_lt_base h]; rfl
    · have h1 := @Nat.toDigits_append_toDigits B (n / B) (n % B) (by omega)
        (Nat.div_pos (by omega) (by omega)) (Nat.mod_lt _ (by omega))
      rw [Nat.toDigits_of_lt_base (Nat.mod_lt _ (by omega)), Nat.div_add_mod] at h1
      rw [digs_of_ge hB (by omega), ← h1, ih _ (Nat.div_lt_self (by omega) (by omega))]
      simp

end

/-- the digit `d < 16` as a byte, `'0'…'9'` and `'a'…'f'`: what `Nat.digitChar d` is in UTF-8 -/
def digitByte (d : Nat) : UInt8 := if d < 10 then UInt8.ofNat (0x30 + d) else UInt8.ofNat (0x57 + d)

theorem digitChar_byte : ∀ d, d < 16 →
    String.utf8EncodeChar (Nat.digitChar d) = [digitByte d] ∧ UInt8.ofNat (Nat.digitChar d).toNat = digitByte d := by
  decide

theorem digitByte_dec : ∀ d, d < 10 → digitByte d = UInt8.ofNat (0x30 + d) ∧ (digitByte d).toNat = 0x30 + d ∧
    0x30 ≤ digitByte d ∧ digitByte d ≤ 0x39 := by
  decide

theorem toDigits_utf8 {B : Nat} (hB : 2 ≤ B) (h16 : B ≤ 16) (n : Nat) :
    (Nat.toDigits B n).flatMap String.utf8EncodeChar = (digs B n).map digitByte := by
  rw [toDigits_digs hB, List.flatMap_map, ← List.flatMap_singleton' ((digs B n).map digitByte), List.flatMap_map]
  exact congrArg List.flatten
    (List.map_congr_left fun d hd => (digitChar_byte d (Nat.lt_of_lt_of_le (digs_lt hB n d hd) h16)).1)

theorem decVal_digs (n : Nat) : ((digs 10 n).map digitByte).foldl (fun v c => 10 * v + (c.toNat - 0x30)) 0 = n := by
  have key : ∀ (l : List Nat) (v : Nat), (∀ d ∈ l, d < 10) →
      (l.map digitByte).foldl (fun v c => 10 * v + (c.toNat - 0x30)) v = l.foldl (fun v d => 10 * v + d) v := by
    intro l
    induction l with
    | nil => intro _ _; rfl
    | cons d l ih =>
      intro v h
      rw [List.map_cons, List.foldl_cons, List.foldl_cons, (digitByte_dec d (h d (by simp))).2.1, Nat.add_sub_cancel_left,
        ih _ fun x hx => h x (by simp [hx])]
  rw [key _ _ (digs_lt (by decide) n), digs_val (by decide)]

end Percival.Proofs
