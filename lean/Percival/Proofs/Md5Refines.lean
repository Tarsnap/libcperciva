import Percival.Proofs.Md5Transform
import Percival.Proofs.Counters
import Percival.Proofs.HmacStream
/-! `Model.Md5.alg` refines `Spec.Md5.params`. -/
namespace Percival.Proofs.Md5T
open Percival Percival.Model.Md5
open Percival.Spec (Bytes)

def R (s : State) : Spec.Md5.Regs := regsAt s 0

theorem transform_eq (s : State) (b : Bytes) (hb : b.length = 64) :
    R (transform s b) = Spec.Md5.compress (R s) b := by
  unfold transform Spec.Md5.compress R
  simp only
  rw [← mix_spec s (decodeBlock b) _ (xw_decodeBlock b hb)]
  generalize (List.finRange 64).foldl (fun S i => STEPr S (decodeBlock b) i) s = S
  simp only [Spec.Md5.addRegs, regsAt, slot, Fin.getElem_fin, Vector.getElem_ofFn]

theorem digest_eq (s : State) : digest s = Spec.Md5.out (R s) := by
  unfold digest Spec.Md5.out R regsAt
  rw [Words.toList_eq_ofFn]
  simp [List.ofFn_succ, List.flatMap_cons, slot, Fin.getElem_fin]
  rfl

theorem init_eq : R initialState = Spec.Md5.init := by decide +kernel

def refines : MDStream.Refines alg Spec.Md5.params where
  R := R
  init := init_eq
  transform := transform_eq
  digest := digest_eq
  PAD := by decide +kernel
  cnt := Counters.cntMd5OK

theorem hash_len (m : Bytes) : (Spec.Md5.hash m).length = 16 := by
  unfold Spec.Md5.hash Spec.MD.hash
  simp [Spec.Md5.params, Spec.Md5.out, Spec.le32enc]

def hashOK : HmacStream.HashOK Model.Hmac.md5 Spec.Md5.params where
  rf := refines
  final := MDStream.finalUpd_eq_hash refines
  hlen := hash_len
  hlen_le := by decide

end Percival.Proofs.Md5T
