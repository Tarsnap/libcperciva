import Percival.Proofs.NetIO
import Percival.Proofs.Connect
import Percival.Model.NetIOStep
/-!
# C06 lemmas: the function `pmodel netio` runs (`Model.NetIOStep.stepOp`)

1. the request states kept per descriptor satisfy the invariants the request theorems need (`StOk`), for every
   operation sequence within the API contract (`OpOk`);
2. hence the fuel `stepOp` gives `runRead`/`runWrite` is sufficient, and every completion a `spin` reports is
   the one the request theorems describe (`spin_completion`); a reported request is gone from its descriptor;
3. a `connect` followed by `spin`s is `Connect.run`.
-/
namespace Percival.Proofs.NetIOStep
open Percival.Model Percival.Model.NetIO Percival.Model.NetIOStep Percival.Proofs.NetIO
open Percival.Model.Connect (AddrOutcome Ev tryconnect)

structure FdOk (f : Fd) : Prop where
  rd : ∀ r, f.rd = some r → ReadInv r
  wr : ∀ w, f.wr = some w → WriteInv w

def StOk (s : St) : Prop := ∀ f ∈ s.fds, FdOk f

/-- the API contract of a request: `network_read` / `network_write` assert `buflen != 0`; `min ≤ buflen` is what
their documentation promises the callback ("between `minread` and `buflen` inclusive") and is left to the caller -/
def OpOk : Op → Prop
  | .read _ bl ml => 0 < bl ∧ ml ≤ bl
  | .write _ ml buf => 0 < buf.length ∧ ml ≤ buf.length
  | _ => True

theorem fdOk_default : FdOk {} := ⟨nofun, nofun⟩

theorem stOk_init : StOk {} := fun _ hf => List.eq_of_mem_replicate hf ▸ fdOk_default

theorem onFd_ok (s : St) (i : Nat) (g : Fd → Fd × Out) (hs : StOk s) (hg : ∀ f, FdOk f → FdOk (g f).1) :
    StOk (onFd s i g).1 := by
  unfold onFd
  cases hi : s.fds[i]? with
  | none => exact hs
  | some f =>
    intro f' hf'
    rcases List.mem_or_eq_of_mem_set hf' with h | h
    · exact hs f' h
    · exact h ▸ hg f (hs f (List.mem_of_getElem? hi))

theorem onFd_get (s : St) (j : Nat) (g : Fd → Fd × Out) (i : Nat) (f : Fd) (hi : s.fds[i]? = some f) :
    (onFd s j g).1.fds[i]? = some (if j = i then (g f).1 else f) := by
  unfold onFd
  by_cases hji : j = i
  · subst hji
    rw [hi, if_pos rfl]
    exact List.getElem?_set_self (List.getElem?_eq_some_iff.mp hi).1
  · rw [if_neg hji]
    cases s.fds[j]? with
    | none => exact hi
    | some fj => exact (List.getElem?_set_ne hji).trans hi

theorem spinRead_none (i : Nat) (f : Fd) (hr : f.rd = none) : spinRead i f = (f, [], []) := by
  unfold spinRead; rw [hr]

theorem spinRead_spec (i : Nat) (f : Fd) (hf : ∀ r, f.rd = some r → ReadInv r) :
    (∀ r', (spinRead i f).1.rd = some r' → ReadInv r') ∧
    (∀ c ∈ (spinRead i f).2.1, ∃ n data r, c = .read i n data ∧ f.rd = some r ∧ (spinRead i f).1.rd = none ∧
      ReadDone r.buflen r.minlen (r.got ++ streamOf f.rq) n data (streamOf (spinRead i f).1.rq)) ∧
    (f.rd.isSome = true → (spinRead i f).1.rd.isSome = true ∨ ∃ n data, .read i n data ∈ (spinRead i f).2.1) := by
  cases hr : f.rd with
  | none =>
    rw [spinRead_none i f hr]
    exact ⟨fun r' h => absurd (hr.symm.trans h) (Option.some_ne_none r').symm, fun _ h => absurd h List.not_mem_nil,
      fun h => absurd h Bool.false_ne_true⟩
  | some r =>
    have hspec := runRead_spec (weight f.rq + 2) r f.rq (hf r hr)
    have hfuel := runRead_fuel (weight f.rq + 2) r f.rq (hf r hr) (Nat.lt_add_of_pos_right (Nat.succ_pos 1))
    unfold spinRead
    rw [hr]
    simp only
    cases hrun : runRead (weight f.rq + 2) r f.rq with
    | fuel => exact absurd hrun hfuel
    | done n r' q =>
      rw [hrun] at hspec
      exact ⟨fun x h => absurd h (Option.some_ne_none x).symm,
        fun c hc => ⟨n, _, r, List.mem_singleton.mp hc, rfl, rfl, ReadDone.ite hspec⟩,
        fun _ => .inr ⟨n, _, List.mem_singleton.mpr rfl⟩⟩
    | pending r' q =>
      rw [hrun] at hspec
      exact ⟨fun _ h => Option.some.inj h ▸ hspec.2.2.2.1.setCalls [], fun _ h => absurd h List.not_mem_nil,
        fun _ => .inl rfl⟩

theorem spinRead_frame (i : Nat) (f : Fd) :
    (spinRead i f).1.wr = f.wr ∧ (spinRead i f).1.sq = f.sq ∧ (spinRead i f).1.acc = f.acc ∧
    (spinRead i f).1.aq = f.aq := by
  unfold spinRead
  cases f.rd with
  | none => exact ⟨rfl, rfl, rfl, rfl⟩
  | some r =>
    simp only
    cases runRead (weight f.rq + 2) r f.rq <;> exact ⟨rfl, rfl, rfl, rfl⟩

theorem spinWrite_none (i : Nat) (f : Fd) (hw : f.wr = none) : spinWrite i f = (f, [], []) := by
  unfold spinWrite; rw [hw]

theorem spinWrite_spec (i : Nat) (f : Fd) (hf : ∀ w, f.wr = some w → WriteInv w) :
    (∀ w', (spinWrite i f).1.wr = some w' → WriteInv w') ∧
    ∀ c ∈ (spinWrite i f).2.1, ∃ n sent w pos, c = .write i n sent ∧ f.wr = some w ∧ (spinWrite i f).1.wr = none ∧
      WriteDone w.buf w.minlen n sent pos := by
  cases hw : f.wr with
  | none =>
    rw [spinWrite_none i f hw]
    exact ⟨fun w' h => absurd (hw.symm.trans h) (Option.some_ne_none w').symm, fun _ h => absurd h List.not_mem_nil⟩
  | some w =>
    have hspec := runWrite_spec (weight f.sq + 2) w f.sq (hf w hw)
    have hfuel := runWrite_fuel (weight f.sq + 2) w f.sq (hf w hw) (Nat.lt_add_of_pos_right (Nat.succ_pos 1))
    unfold spinWrite
    rw [hw]
    simp only
    cases hrun : runWrite (weight f.sq + 2) w f.sq with
    | fuel => exact absurd hrun hfuel
    | done n w' q =>
      rw [hrun] at hspec
      exact ⟨fun x h => absurd h (Option.some_ne_none x).symm,
        fun c hc => ⟨n, w'.sent, w, w'.pos, List.mem_singleton.mp hc, rfl, rfl, hspec⟩⟩
    | pending w' q =>
      rw [hrun] at hspec
      exact ⟨fun _ h => Option.some.inj h ▸ hspec.2.2.2.setCalls [], fun _ h => absurd h List.not_mem_nil⟩

theorem spinWrite_frame (i : Nat) (f : Fd) :
    (spinWrite i f).1.rd = f.rd ∧ (spinWrite i f).1.rq = f.rq ∧ (spinWrite i f).1.acc = f.acc ∧
    (spinWrite i f).1.aq = f.aq := by
  unfold spinWrite
  cases f.wr with
  | none => exact ⟨rfl, rfl, rfl, rfl⟩
  | some w =>
    simp only
    cases runWrite (weight f.sq + 2) w f.sq <;> exact ⟨rfl, rfl, rfl, rfl⟩

theorem spinAccept_frame (i : Nat) (f : Fd) :
    (spinAccept i f).1.rd = f.rd ∧ (spinAccept i f).1.rq = f.rq ∧ (spinAccept i f).1.wr = f.wr ∧
    (spinAccept i f).1.sq = f.sq := by
  unfold spinAccept
  split
  · split <;> exact ⟨rfl, rfl, rfl, rfl⟩
  · exact ⟨rfl, rfl, rfl, rfl⟩

theorem spinAccept_spec (i : Nat) (f : Fd) :
    (f.acc = false → spinAccept i f = (f, [])) ∧
    (f.acc = true → ∀ v q, runAccept f.aq = (some v, q) →
        (spinAccept i f).2 = [.accept i v] ∧ (spinAccept i f).1.acc = false ∧ (spinAccept i f).1.aq = q) ∧
    (f.acc = true → ∀ q, runAccept f.aq = (none, q) →
        (spinAccept i f).2 = [] ∧ (spinAccept i f).1.acc = true ∧ (spinAccept i f).1.aq = q) := by
  unfold spinAccept
  refine ⟨fun h => by rw [h]; rfl, fun h v q hq => by rw [h, hq]; exact ⟨rfl, rfl, rfl⟩,
    fun h q hq => by rw [h, hq]; exact ⟨rfl, rfl, rfl⟩⟩

theorem spinAccept_compl (i : Nat) (f : Fd) (c : Completion) (h : c ∈ (spinAccept i f).2) :
    ∃ v, c = .accept i v := by
  unfold spinAccept at h
  split at h
  · split at h
    · exact ⟨_, List.mem_singleton.mp h⟩
    · cases h
  · cases h

theorem spinFd_eq (i : Nat) (f : Fd) : spinFd i f =
    ((spinAccept i (spinWrite i (spinRead i f).1).1).1,
     (spinRead i f).2.1 ++ (spinWrite i (spinRead i f).1).2.1 ++ (spinAccept i (spinWrite i (spinRead i f).1).1).2,
     (spinRead i f).2.2 ++ (spinWrite i (spinRead i f).1).2.2) := rfl

theorem spinFd_fd (i : Nat) (f : Fd) : (spinFd i f).1 = (spinAccept i (spinWrite i (spinRead i f).1).1).1 :=
  congrArg Prod.fst (spinFd_eq i f)

theorem spinFd_compl (i : Nat) (f : Fd) : (spinFd i f).2.1 =
    (spinRead i f).2.1 ++ (spinWrite i (spinRead i f).1).2.1 ++ (spinAccept i (spinWrite i (spinRead i f).1).1).2 :=
  congrArg (·.2.1) (spinFd_eq i f)

theorem spinFd_rd (i : Nat) (f : Fd) :
    (spinFd i f).1.rd = (spinRead i f).1.rd ∧ (spinFd i f).1.rq = (spinRead i f).1.rq := by
  have ha := spinAccept_frame i (spinWrite i (spinRead i f).1).1
  have hw := spinWrite_frame i (spinRead i f).1
  rw [spinFd_fd]
  exact ⟨ha.1.trans hw.1, ha.2.1.trans hw.2.1⟩

theorem spinFd_wr (i : Nat) (f : Fd) :
    (spinFd i f).1.wr = (spinWrite i (spinRead i f).1).1.wr ∧ (spinRead i f).1.wr = f.wr := by
  rw [spinFd_fd]
  exact ⟨(spinAccept_frame i _).2.2.1, (spinRead_frame i f).1⟩

theorem spinFd_completion (i : Nat) (f : Fd) (hf : FdOk f) (c : Completion) (hc : c ∈ (spinFd i f).2.1) :
    (∃ n data r, c = .read i n data ∧ f.rd = some r ∧ (spinFd i f).1.rd = none ∧
      ReadDone r.buflen r.minlen (r.got ++ streamOf f.rq) n data (streamOf (spinFd i f).1.rq)) ∨
    (∃ n sent w pos, c = .write i n sent ∧ f.wr = some w ∧ (spinFd i f).1.wr = none ∧
      WriteDone w.buf w.minlen n sent pos) ∨
    ∃ v, c = .accept i v := by
  have hrd := spinFd_rd i f
  have hwr := spinFd_wr i f
  rw [spinFd_compl, List.mem_append, List.mem_append] at hc
  rcases hc with (h | h) | h
  · obtain ⟨n, d, r, e, e1, e2, e3⟩ := (spinRead_spec i f hf.rd).2.1 c h
    rw [← hrd.2] at e3
    exact .inl ⟨n, d, r, e, e1, hrd.1.trans e2, e3⟩
  · obtain ⟨n, sent, w, pos, e, e1, e2, e3⟩ := (spinWrite_spec i _ fun w hw => hf.wr w (hwr.2 ▸ hw)).2 c h
    exact .inr (.inl ⟨n, sent, w, pos, e, hwr.2 ▸ e1, hwr.1.trans e2, e3⟩)
  · exact .inr (.inr (spinAccept_compl i _ c h))

theorem spinFd_ok (i : Nat) (f : Fd) (h : FdOk f) : FdOk (spinFd i f).1 :=
  ⟨fun r' hr' => (spinRead_spec i f h.rd).1 r' ((spinFd_rd i f).1 ▸ hr'),
   fun w' hw' => (spinWrite_spec i _ fun w hw => h.wr w ((spinFd_wr i f).2 ▸ hw)).1 w' ((spinFd_wr i f).1 ▸ hw')⟩

theorem spinAll_eq (fs : List Fd) : ∀ k, spinAll k fs =
    ((fs.zipIdx k).map fun p => (spinFd p.2 p.1).1, (fs.zipIdx k).flatMap fun p => (spinFd p.2 p.1).2.1,
      (fs.zipIdx k).flatMap fun p => (spinFd p.2 p.1).2.2) := by
  induction fs with
  | nil => intro k; rfl
  | cons f fs ih => intro k; rw [spinAll, ih (k + 1)]; rfl

theorem spinAll_get (fs : List Fd) (j : Nat) :
    (spinAll 0 fs).1[j]? = fs[j]?.map (fun f => (spinFd j f).1) := by
  rw [spinAll_eq, List.getElem?_map, List.getElem?_zipIdx, Option.map_map, Nat.zero_add]
  rfl

theorem spinAll_mem (fs : List Fd) (c : Completion) :
    c ∈ (spinAll 0 fs).2.1 ↔ ∃ j f, fs[j]? = some f ∧ c ∈ (spinFd j f).2.1 := by
  rw [spinAll_eq, List.mem_flatMap]
  exact ⟨fun ⟨p, hp, hc⟩ => ⟨p.2, p.1, List.mem_zipIdx_iff_getElem?.1 hp, hc⟩,
    fun ⟨j, f, hj, hc⟩ => ⟨(f, j), List.mem_zipIdx_iff_getElem?.2 hj, hc⟩⟩

theorem spinAll_ok (fs : List Fd) (h : ∀ f ∈ fs, FdOk f) : ∀ f' ∈ (spinAll 0 fs).1, FdOk f' := by
  intro f' hf'
  rw [spinAll_eq] at hf'
  obtain ⟨p, hp, rfl⟩ := List.mem_map.1 hf'
  exact spinFd_ok _ _ (h _ (List.mem_of_getElem? (List.mem_zipIdx_iff_getElem?.1 hp)))

theorem cbsOf_mem (evs : List Connect.Ev) (c : Completion) (h : c ∈ cbsOf evs) : ∃ v, c = .connect v := by
  obtain ⟨e, _, he⟩ := List.mem_filterMap.mp h
  cases e with
  | cb v => exact ⟨v, (Option.some.inj he).symm⟩
  | sock _ _ => cases he
  | close _ => cases he

theorem stepOp_spin (s : St) : ∃ l2,
    (stepOp s .spin).2 = .spin ((spinAll 0 s.fds).2.1 ++
      match s.conn with
      | some (timeo, cst) => cbsOf (Connect.spin timeo connFuel cst s.nextfd).1
      | none => []) l2 ∧
    (stepOp s .spin).1.fds = (spinAll 0 s.fds).1 ∧
    (stepOp s .spin).1.conn =
      match s.conn with
      | some (timeo, cst) =>
        if (Connect.spin timeo connFuel cst s.nextfd).2.1 == .finished then none
        else some (timeo, (Connect.spin timeo connFuel cst s.nextfd).2.1)
      | none => none := by
  obtain ⟨fds, conn, evs, nextfd⟩ := s
  cases conn with
  | none => exact ⟨_, rfl, rfl, rfl⟩
  | some tc => exact ⟨_, rfl, rfl, rfl⟩

theorem stepOp_spin_fds (s : St) : (stepOp s .spin).1.fds = (spinAll 0 s.fds).1 :=
  let ⟨_, _, h, _⟩ := stepOp_spin s
  h

theorem stepOp_spin_get (s : St) (i : Nat) (f : Fd) (hi : s.fds[i]? = some f) :
    (stepOp s .spin).1.fds[i]? = some (spinFd i f).1 := by
  rw [stepOp_spin_fds, spinAll_get, hi]
  rfl

/-- what a callback reported by the `spin` that leads from `s` to `s'` says, by kind: a read or write callback belongs
to a request that was outstanding on its descriptor and is gone afterwards (so it cannot be reported again unless a new
request is accepted); a read hands over `data` such that `data`, followed by the bytes still queued, is what had arrived
for the request before followed by what was queued; the bytes a write handed to the kernel are a prefix of its buffer;
no request loop runs out of fuel -/
def Exact (s s' : St) : Completion → Prop
  | .read i n data => ∃ f r f', s.fds[i]? = some f ∧ f.rd = some r ∧ s'.fds[i]? = some f' ∧ f'.rd = none ∧
      ReadDone r.buflen r.minlen (r.got ++ streamOf f.rq) n data (streamOf f'.rq)
  | .write i n sent => ∃ f w f' pos, s.fds[i]? = some f ∧ f.wr = some w ∧ s'.fds[i]? = some f' ∧ f'.wr = none ∧
      WriteDone w.buf w.minlen n sent pos
  | .readFuel _ | .writeFuel _ => False
  | .accept _ _ | .connect _ => True

theorem spin_completion (s : St) (hs : StOk s) (l1 : List Completion) (l2 : List Trace)
    (h : (stepOp s .spin).2 = .spin l1 l2) (c : Completion) (hc : c ∈ l1) : Exact s (stepOp s .spin).1 c := by
  obtain ⟨l2', h1, _⟩ := stepOp_spin s
  rw [h1] at h
  cases h
  rcases List.mem_append.mp hc with hm | hm
  · obtain ⟨j, f, hj, hcf⟩ := (spinAll_mem s.fds c).mp hm
    have hget := stepOp_spin_get s j f hj
    rcases spinFd_completion j f (hs f (List.mem_of_getElem? hj)) c hcf with
      ⟨n, d, r, rfl, e1, e2, e3⟩ | ⟨n, sent, w, pos, rfl, e1, e2, e3⟩ | ⟨v, rfl⟩
    · exact ⟨f, r, _, hj, e1, hget, e2, e3⟩
    · exact ⟨f, w, _, pos, hj, e1, hget, e2, e3⟩
    · trivial
  · cases hcn : s.conn with
    | none => rw [hcn] at hm; cases hm
    | some tc =>
      rw [hcn] at hm
      obtain ⟨v, rfl⟩ := cbsOf_mem _ c hm
      trivial

theorem spin_no_fuel (s : St) (hs : StOk s) (l1 : List Completion) (l2 : List Trace)
    (h : (stepOp s .spin).2 = .spin l1 l2) (i : Nat) : Completion.readFuel i ∉ l1 ∧ Completion.writeFuel i ∉ l1 :=
  ⟨spin_completion s hs l1 l2 h _, spin_completion s hs l1 l2 h _⟩

theorem stepOp_connect_fds (s : St) (timeo : Bool) (addrs : List AddrOutcome) :
    (stepOp s (.connect timeo addrs)).1.fds = s.fds := by
  simp only [stepOp]
  split <;> rfl

theorem stepOp_cancelc_fds (s : St) : (stepOp s .cancelc).1.fds = s.fds := by
  simp only [stepOp]
  split <;> rfl

theorem stepOp_ok (s : St) (op : Op) (hs : StOk s) (ho : OpOk op) : StOk (stepOp s op).1 := by
  cases op with
  | read fd bl ml =>
    refine onFd_ok s fd _ hs fun f hf => ?_
    split
    · exact hf
    · exact ⟨fun r hr => by cases hr; exact readInit_inv bl ml ho.1 ho.2, hf.wr⟩
  | write fd ml buf =>
    refine onFd_ok s fd _ hs fun f hf => ?_
    split
    · exact hf
    · exact ⟨hf.rd, fun w hw => by cases hw; exact writeInit_inv buf ml ho.1 ho.2⟩
  | accept fd => exact onFd_ok s fd _ hs fun f hf => by split <;> exact ⟨hf.rd, hf.wr⟩
  | krecv fd items => exact onFd_ok s fd _ hs fun f hf => ⟨hf.rd, hf.wr⟩
  | ksend fd items => exact onFd_ok s fd _ hs fun f hf => ⟨hf.rd, hf.wr⟩
  | kacc fd items => exact onFd_ok s fd _ hs fun f hf => ⟨hf.rd, hf.wr⟩
  | cancel which fd =>
    cases which with
    | r =>
      refine onFd_ok s fd _ hs fun f hf => ?_
      split
      · exact ⟨fun x h => absurd h (Option.some_ne_none x).symm, hf.wr⟩
      · exact hf
    | w =>
      refine onFd_ok s fd _ hs fun f hf => ?_
      split
      · exact ⟨hf.rd, fun x h => absurd h (Option.some_ne_none x).symm⟩
      · exact hf
    | a => exact onFd_ok s fd _ hs fun f hf => by split <;> exact ⟨hf.rd, hf.wr⟩
  | connect timeo addrs => exact fun f hf => hs f (stepOp_connect_fds s timeo addrs ▸ hf)
  | cancelc => exact fun f hf => hs f (stepOp_cancelc_fds s ▸ hf)
  | fdbase n => exact hs
  | spin =>
    intro f hf
    rw [stepOp_spin_fds] at hf
    exact spinAll_ok s.fds hs f hf

theorem runOps_ok (ops : List Op) : ∀ s : St, StOk s → (∀ op ∈ ops, OpOk op) → StOk (runOps s ops).1 := by
  induction ops with
  | nil => intro s hs _; exact hs
  | cons op ops ih =>
    intro s hs ho
    exact ih _ (stepOp_ok s op hs (ho op List.mem_cons_self)) (fun o h => ho o (List.mem_cons_of_mem _ h))

theorem onFd_rd_kept (s : St) (j : Nat) (g : Fd → Fd × Out) (i : Nat) (f : Fd) (hi : s.fds[i]? = some f)
    (hr : f.rd.isSome = true) (hg : ∀ x, x.rd.isSome = true → (g x).1.rd.isSome = true) :
    ∃ f', (onFd s j g).1.fds[i]? = some f' ∧ f'.rd.isSome = true := by
  refine ⟨_, onFd_get s j g i f hi, ?_⟩
  split
  · exact hg f hr
  · exact hr

def connectVals (l : List Completion) : List Int :=
  l.filterMap fun c => match c with | .connect v => some v | _ => none

open Percival.Proofs.Connect (cbs)

theorem connectVals_append (a b : List Completion) : connectVals (a ++ b) = connectVals a ++ connectVals b :=
  List.filterMap_append

theorem connectVals_cbsOf (evs : List Ev) : connectVals (cbsOf evs) = cbs evs := by
  induction evs with
  | nil => rfl
  | cons e evs ih =>
    cases e with
    | cb v => exact congrArg (v :: ·) ih
    | sock a b => exact ih
    | close a => exact ih

theorem spinFd_no_connect (i : Nat) (f : Fd) : connectVals (spinFd i f).2.1 = [] := by
  have h1 : connectVals (spinRead i f).2.1 = [] := by
    unfold spinRead
    cases f.rd with
    | none => rfl
    | some r => simp only; cases runRead (weight f.rq + 2) r f.rq <;> rfl
  have h2 : ∀ g : Fd, connectVals (spinWrite i g).2.1 = [] := by
    intro g
    unfold spinWrite
    cases g.wr with
    | none => rfl
    | some w => simp only; cases runWrite (weight g.sq + 2) w g.sq <;> rfl
  have h3 : ∀ g : Fd, connectVals (spinAccept i g).2 = [] := by
    intro g
    unfold spinAccept
    split
    · split <;> rfl
    · rfl
  rw [spinFd_compl, connectVals_append, connectVals_append, h1, h2, h3]
  rfl

theorem spinAll_no_connect (fs : List Fd) : connectVals (spinAll 0 fs).2.1 = [] := by
  rw [spinAll_eq, connectVals, List.filterMap_flatMap]
  exact List.flatMap_eq_nil_iff.2 fun p _ => spinFd_no_connect p.2 p.1

theorem connectVals_spin (fs : List Fd) (evs : List Ev) :
    connectVals ((spinAll 0 fs).2.1 ++ cbsOf evs) = cbs evs := by
  rw [connectVals_append, spinAll_no_connect, connectVals_cbsOf, List.nil_append]

theorem stepOp_connect (s : St) (hc : s.conn = none) (timeo : Bool) (addrs : List AddrOutcome) :
    stepOp s (.connect timeo addrs) =
      ({ s with conn := some (timeo, (tryconnect (addrs.take maxAddrs) 0 s.nextfd).2.1),
                connEvs := s.connEvs ++ (tryconnect (addrs.take maxAddrs) 0 s.nextfd).1,
                nextfd := (tryconnect (addrs.take maxAddrs) 0 s.nextfd).2.2 }, .ok) := by
  simp only [stepOp, hc]
  rfl

/-- **connect = `Connect.run`**: an accepted `connect` followed by a `spin` runs exactly the callbacks of
`Connect.run` on the (at most `maxAddrs`) addresses — the object of `connect_callback_exact` -/
theorem connect_spin_is_run (s : St) (hc : s.conn = none) (timeo : Bool) (addrs : List AddrOutcome) :
    (stepOp s (.connect timeo addrs)).2 = .ok ∧
    ∃ l1 l2, (stepOp (stepOp s (.connect timeo addrs)).1 .spin).2 = .spin l1 l2 ∧
      connectVals l1 = cbs (Connect.run timeo (addrs.take maxAddrs) s.nextfd).1 := by
  have hlen : (addrs.take maxAddrs).length + 1 ≤ connFuel :=
    Nat.succ_le_succ (Nat.le_trans (List.length_take_le _ _) (by decide))
  obtain ⟨l2, h1, _⟩ := stepOp_spin (stepOp s (.connect timeo addrs)).1
  rw [stepOp_connect s hc] at h1 ⊢
  refine ⟨rfl, _, l2, h1, ?_⟩
  show connectVals (_ ++ cbsOf _) = _
  rw [connectVals_spin, Percival.Proofs.Connect.run_eq_runAll,
    ← Percival.Proofs.Connect.stepwise_eq_runAll timeo _ 0 s.nextfd connFuel hlen,
    Percival.Proofs.Connect.cbs_append, Percival.Proofs.Connect.cbs_tryconnect, List.nil_append]

end Percival.Proofs.NetIOStep
