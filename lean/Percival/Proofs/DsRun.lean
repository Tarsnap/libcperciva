import Percival.Proofs.DsStep
/-!
# Whole runs of one family of `pmodel ds` lines (C12): the component follows `EArray.run` / `EQueue.run` / `SeqMap.run` / `MPool.run`

`Proofs/DsLines.lean` has the per-line equations (`ea_stepOp`, `eq_stepOp`, `sm_stepOp`, `mp_stepOp`).  Here: the same at run
level.

* array: the container operation a line stands for depends on the number of bytes the array holds (`ea_resize`
  writes `patBytes seed (n * reclen - size)` into the grown part), so the projection `eaProject` is computed along
  the run; and after a successful `ea_dup` the harness frees the copy, which `EArray.run` does not know about: the
  oracle of the executable is the one of `EArray.run` with `live` lowered by the number of copies freed
  (`eaDupFrees`).  `live` is a ghost counter (no model decision reads it): `ea_step_shift`.
* pool: the pool operation a line stands for depends on the harness' list of objects in use; `mpProject` carries it.
-/
namespace Percival.Proofs.DsStep
open Percival.Model Percival.Model.DsStep Percival.Spec.DS Percival.Spec.DSMon
open Percival.Proofs.EArray

/-! ## `live` is a ghost counter -/

/-- the oracle with `d` more blocks counted as allocated -/
def shift (m : Mem) (d : Int) : Mem := { m with live := m.live + d }

theorem shift_zero (m : Mem) : shift m 0 = m := by simp [shift]
theorem shift_shift (m : Mem) (d e : Int) : shift (shift m d) e = shift m (d + e) := by
  simp [shift, Int.add_assoc]
theorem free_false (m : Mem) : m.free false = shift m (-1) := by simp [Mem.free, shift]; rfl

theorem malloc_shift (m : Mem) (d : Int) (sz : Nat) :
    (shift m d).malloc sz = ((m.malloc sz).1, shift (m.malloc sz).2 d) := by
  simp only [Mem.malloc, shift]
  by_cases h : m.f m.n sz = true <;> simp [h] <;> omega

theorem realloc_shift (m : Mem) (d : Int) (w : Bool) (sz : Nat) :
    (shift m d).realloc w sz = ((m.realloc w sz).1, shift (m.realloc w sz).2 d) := by
  simp only [Mem.realloc, shift]
  by_cases h : m.f m.n sz = true <;> cases w <;> simp [h] <;> omega

theorem free_shift (m : Mem) (d : Int) (b : Bool) : (shift m d).free b = shift (m.free b) d := by
  cases b <;> simp [Mem.free, shift] <;> omega

theorem shift_refusals (m : Mem) (d : Int) : (shift m d).refusals = m.refusals := rfl

theorem resize_shift (a : EArray.EA) (n : Nat) (m : Mem) (d : Int) :
    EArray.resize a n (shift m d) =
      ((EArray.resize a n m).1, (EArray.resize a n m).2.1, shift (EArray.resize a n m).2.2 d) := by
  unfold EArray.resize
  simp only [realloc_shift, free_shift]
  split
  · rfl
  · split
    · rcases m.realloc (a.alloc == 0) (EArray.wantAlloc a.alloc n) with ⟨ok, m'⟩
      cases ok <;> rfl
    · rfl

theorem resizeRec_shift (a : EArray.EA) (n : Nat) (r : RecLen) (m : Mem) (d : Int) :
    EArray.resizeRec a n r (shift m d) =
      ((EArray.resizeRec a n r m).1, (EArray.resizeRec a n r m).2.1, shift (EArray.resizeRec a n r m).2.2 d) := by
  unfold EArray.resizeRec
  split
  · rfl
  · exact resize_shift a _ m d

theorem append_shift (a : EArray.EA) (data : List UInt8) (n : Nat) (r : RecLen) (m : Mem) (d : Int) :
    EArray.append a data n r (shift m d) =
      ((EArray.append a data n r m).1, (EArray.append a data n r m).2.1, shift (EArray.append a data n r m).2.2 d) := by
  unfold EArray.append
  simp only [resize_shift]
  split
  · rfl
  · rcases EArray.resize a _ m with ⟨ok, a', m'⟩
    cases ok
    · rfl
    · simp only
      split
      · split
        · rfl
        · split <;> rfl
      · rfl

theorem shrink_shift (a : EArray.EA) (n : Nat) (r : RecLen) (m : Mem) (d : Int) :
    EArray.shrink a n r (shift m d) = ((EArray.shrink a n r m).1, shift (EArray.shrink a n r m).2 d) := by
  unfold EArray.shrink
  simp only [resize_shift]
  rcases EArray.resize a _ m with ⟨ok, a', m'⟩
  cases ok <;> rfl

theorem truncate_shift (a : EArray.EA) (m : Mem) (d : Int) :
    EArray.truncate a (shift m d) =
      ((EArray.truncate a m).1, (EArray.truncate a m).2.1, shift (EArray.truncate a m).2.2 d) := by
  unfold EArray.truncate
  simp only [realloc_shift, free_shift]
  split
  · rfl
  · split
    · rcases m.realloc false a.size with ⟨ok, m'⟩
      cases ok <;> rfl
    · rfl

theorem exportdup_shift (a : EArray.EA) (r : RecLen) (m : Mem) (d : Int) :
    EArray.exportdup a r (shift m d) =
      ((EArray.exportdup a r m).1, (EArray.exportdup a r m).2.1, shift (EArray.exportdup a r m).2.2 d) := by
  unfold EArray.exportdup
  simp only [malloc_shift]
  rcases m.malloc a.size with ⟨ok, m'⟩
  cases ok
  · rfl
  · simp only; split <;> rfl

/-- **no decision of `EArray.step` reads `live`**: same answer, same array, the oracle shifted -/
theorem ea_step_shift (a : EArray.EA) (e : EaOp) (m : Mem) (d : Int) :
    EArray.step a e (shift m d) = ((EArray.step a e m).1, (EArray.step a e m).2.1, shift (EArray.step a e m).2.2 d) := by
  cases e with
  | resize n r fill =>
    simp only [EArray.step, resizeRec_shift]
    rcases EArray.resizeRec a n r m with ⟨ok, a', m'⟩
    cases ok
    · rfl
    · simp only; split <;> rfl
  | append data n r =>
    simp only [EArray.step, append_shift]
    rfl
  | shrink n r =>
    simp only [EArray.step, shrink_shift]
    rfl
  | truncate =>
    simp only [EArray.step, truncate_shift]
    rcases EArray.truncate a m with ⟨ok, a', m'⟩
    cases ok <;> rfl
  | get pos r => simp only [EArray.step]; split <;> rfl
  | set pos r rec => simp only [EArray.step]; split <;> rfl
  | getsize r => rfl
  | exportdup r =>
    simp only [EArray.step, exportdup_shift]
    rfl

theorem ea_run_shift (ops : List EaOp) : ∀ (a : EArray.EA) (m : Mem) (d : Int),
    EArray.run a ops (shift m d) = ((EArray.run a ops m).1, (EArray.run a ops m).2.1, shift (EArray.run a ops m).2.2 d) := by
  induction ops with
  | nil => intro a m d; rfl
  | cons e rest ih =>
    intro a m d
    simp only [EArray.run, ea_step_shift]
    rcases EArray.step a e m with ⟨an, a', m'⟩
    simp only [ih]

/-- whether a line is one of the eight array operations does not depend on the size -/
theorem eaOpOf_isSome (sz sz' : Nat) (op : Op) : (eaOpOf sz op).isSome = (eaOpOf sz' op).isSome := by
  cases op <;> simp [eaOpOf]

/-- **the array operations a sequence of protocol lines stands for**, from the array `a` under the oracle `m`: the
projection of each line (`eaOpOf`) at the size the array has when the line is reached (lines that are no array
operation are left out) -/
def eaProject (a : EArray.EA) (m : Mem) : List Op → List EaOp
  | [] => []
  | op :: rest =>
    match eaOpOf a.size op with
    | none => eaProject a m rest
    | some e => e :: eaProject (EArray.step a e m).2.1 (EArray.step a e m).2.2 rest

/-- the copies the harness freed along a trace: one per successful `exportdup` -/
def eaDupFrees : List (EaOp × EaAns) → Nat
  | [] => 0
  | (e, an) :: rest =>
    (match e, an.st, an.out with | .exportdup _, .ok, some _ => 1 | _, _, _ => 0) + eaDupFrees rest

theorem eaHarnessFree_eq (e : EaOp) (an : EaAns) (m : Mem) :
    eaHarnessFree e an m = shift m (-(eaDupFrees [(e, an)] : Nat)) := by
  unfold eaHarnessFree eaDupFrees
  split <;> simp_all [eaDupFrees, free_false, shift_zero]

theorem ea_run_cons {a : EArray.EA} {e : EaOp} {rest : List EaOp} {m : Mem} :
    EArray.run a (e :: rest) m =
      ((e, (EArray.step a e m).1) :: (EArray.run (EArray.step a e m).2.1 rest (EArray.step a e m).2.2).1,
        (EArray.run (EArray.step a e m).2.1 rest (EArray.step a e m).2.2).2) := rfl

/-- a sequence of array lines on an existing array: the array of the executable's state is the one of `EArray.run` over
`eaProject`, its oracle is `EArray.run`'s with the harness' frees subtracted from `live` (as long as no step reports
an access outside storage) -/
theorem ea_runOps (ops : List Op) : ∀ (s : DsStep.S) (a : EArray.EA) (d : Int) (m : Mem), s.ea = some a →
    s.m = shift m d →
    (∀ op ∈ ops, (eaOpOf a.size op).isSome) →
    (∀ x ∈ (EArray.run a (eaProject a m ops) m).1, x.2.st ≠ .oob) →
    (runOps s ops).1.ea = some (EArray.run a (eaProject a m ops) m).2.1 ∧
    (runOps s ops).1.m = shift (EArray.run a (eaProject a m ops) m).2.2
      (d - (eaDupFrees (EArray.run a (eaProject a m ops) m).1 : Nat)) := by
  induction ops with
  | nil => intro s a d m hs hm _ _; exact ⟨hs, by simp [runOps, eaProject, EArray.run, eaDupFrees, hm]⟩
  | cons op rest ih =>
    intro s a d m hs hm hall hno
    obtain ⟨e, he⟩ := Option.isSome_iff_exists.1 (hall op List.mem_cons_self)
    simp only [eaProject, he, ea_run_cons, List.mem_cons, forall_eq_or_imp] at hno ⊢
    have hsh := ea_step_shift a e m d
    have hstep := ea_stepOp s a hs op e he (by rw [hm, hsh]; exact hno.1)
    rw [hm, hsh] at hstep
    simp only at hstep
    rw [eaHarnessFree_eq, shift_shift] at hstep
    simp only [runOps, hstep]
    have := ih { s with m := shift (EArray.step a e m).2.2 (d + -(eaDupFrees [(e, (EArray.step a e m).1)] : Nat)),
                        ea := some (EArray.step a e m).2.1 }
      (EArray.step a e m).2.1 _ (EArray.step a e m).2.2 rfl rfl
      (fun o ho => by rw [eaOpOf_isSome _ a.size]; exact hall o (List.mem_cons_of_mem _ ho)) hno.2
    refine ⟨this.1, ?_⟩
    rw [this.2]
    congr 1
    simp only [eaDupFrees]
    omega

theorem eq_step_reclen (q : EQueue.EQ) (e : EqOp) (m : Mem) : (EQueue.step q e m).2.1.reclen = q.reclen := by
  cases e <;> simp only [EQueue.step, EQueue.add, EQueue.delete] <;> (repeat' split) <;> try rfl
  all_goals
    rename_i h
    simp only [EQueue.set] at h
    split at h
    · cases h
    · simp only [Option.map_eq_some_iff] at h; obtain ⟨_, _, rfl⟩ := h; rfl

theorem eq_run_cons {q : EQueue.EQ} {e : EqOp} {rest : List EqOp} {m : Mem} :
    EQueue.run q (e :: rest) m =
      ((e, (EQueue.step q e m).1) :: (EQueue.run (EQueue.step q e m).2.1 rest (EQueue.step q e m).2.2).1,
        (EQueue.run (EQueue.step q e m).2.1 rest (EQueue.step q e m).2.2).2) := rfl

/-- a sequence of `eq_add` / `eq_del` / `eq_len` / `eq_get` / `eq_set` lines on an existing queue: the queue and the
oracle of the executable's state are those of `EQueue.run` over the projected operations (as long as no step reports
an access outside storage, which `eq_run_refines` excludes) -/
theorem eq_runOps (ops : List Op) : ∀ (s : DsStep.S) (q : EQueue.EQ), s.eq = some q →
    (∀ op ∈ ops, (eqOpOf q.reclen.val op).isSome) →
    (∀ x ∈ (EQueue.run q (ops.filterMap (eqOpOf q.reclen.val)) s.m).1, x.2.st ≠ .oob) →
    (runOps s ops).1.eq = some (EQueue.run q (ops.filterMap (eqOpOf q.reclen.val)) s.m).2.1 ∧
    (runOps s ops).1.m = (EQueue.run q (ops.filterMap (eqOpOf q.reclen.val)) s.m).2.2 := by
  induction ops with
  | nil => intro s q hs _ _; exact ⟨hs, rfl⟩
  | cons op rest ih =>
    intro s q hs hall hno
    obtain ⟨e, he⟩ := Option.isSome_iff_exists.1 (hall op List.mem_cons_self)
    simp only [List.filterMap_cons, he, eq_run_cons, List.mem_cons, forall_eq_or_imp] at hno ⊢
    have hrl := eq_step_reclen q e s.m
    simp only [runOps, eq_stepOp s q hs op e he hno.1]
    rw [← hrl] at hno ⊢
    exact ih { s with m := (EQueue.step q e s.m).2.2, eq := some (EQueue.step q e s.m).2.1 } _ rfl
      (fun o ho => by rw [hrl]; exact hall o (List.mem_cons_of_mem _ ho)) hno.2

theorem sm_run_cons {x : SeqMap.SM} {e : SmOp} {rest : List SmOp} {m : Mem} :
    SeqMap.run x (e :: rest) m =
      ((e, (SeqMap.step x e m).1) :: (SeqMap.run (SeqMap.step x e m).2.1 rest (SeqMap.step x e m).2.2).1,
        (SeqMap.run (SeqMap.step x e m).2.1 rest (SeqMap.step x e m).2.2).2) := rfl

/-- a sequence of `sm_add` / `sm_get` / `sm_del` / `sm_min` lines on an existing map: the map and the oracle of the
executable's state are those of `SeqMap.run` over the projected operations (as long as no step reports `oob`: an
`assert` of `seqptrmap_add` or an access outside storage, which `sm_run_refines` excludes) -/
theorem sm_runOps (ops : List Op) : ∀ (s : DsStep.S) (x : SeqMap.SM), s.sm = some x →
    (∀ op ∈ ops, (smOpOf op).isSome) →
    (∀ y ∈ (SeqMap.run x (ops.filterMap smOpOf) s.m).1, y.2.st ≠ .oob) →
    (runOps s ops).1.sm = some (SeqMap.run x (ops.filterMap smOpOf) s.m).2.1 ∧
    (runOps s ops).1.m = (SeqMap.run x (ops.filterMap smOpOf) s.m).2.2 := by
  induction ops with
  | nil => intro s x hs _ _; exact ⟨hs, rfl⟩
  | cons op rest ih =>
    intro s x hs hall hno
    obtain ⟨e, he⟩ := Option.isSome_iff_exists.1 (hall op List.mem_cons_self)
    simp only [List.filterMap_cons, he, sm_run_cons, List.mem_cons, forall_eq_or_imp] at hno ⊢
    have hstep := sm_stepOp s x hs op e he hno.1
    simp only [runOps, hstep]
    exact ih { s with m := (SeqMap.step x e s.m).2.2, sm := some (SeqMap.step x e s.m).2.1 } _ rfl
      (fun o ho => hall o (List.mem_cons_of_mem _ ho)) hno.2

/-- the lines of the pool family (`mp_exit` destroys the pool and is not one of them) -/
def isMpLine : Op → Bool
  | .mpMalloc | .mpFree _ | .mpFreenth _ => true
  | _ => false

/-- **the pool operations a sequence of protocol lines stands for**, from the pool `p` with the harness holding the
objects `u`, under the oracle `m`: the projection of each line (`mpOpOf`) with the objects held when the line is
reached; `mp_free` of an object not held and `mp_freenth` with nothing held are no pool operation (answer `skip`,
nothing changes) and are left out -/
def mpProject (p : MPool.MP) (u : List Nat) (m : Mem) : List Op → List MpOp
  | [] => []
  | op :: rest =>
    match mpOpOf u op with
    | none => mpProject p u m rest
    | some e =>
      e :: mpProject (MPool.step objSize p e m).2.1 (mpInUse u e (MPool.step objSize p e m).1) (MPool.step objSize p e m).2.2 rest

/-- the harness' list of objects in use after a trace of pool operations -/
def mpInUseAll (u : List Nat) : List (MpOp × MpAns) → List Nat
  | [] => u
  | (e, an) :: rest => mpInUseAll (mpInUse u e an) rest

theorem mp_run_cons {sz : Nat} {p : MPool.MP} {e : MpOp} {rest : List MpOp} {m : Mem} :
    MPool.run sz p (e :: rest) m =
      ((e, (MPool.step sz p e m).1) :: (MPool.run sz (MPool.step sz p e m).2.1 rest (MPool.step sz p e m).2.2).1,
        (MPool.run sz (MPool.step sz p e m).2.1 rest (MPool.step sz p e m).2.2).2) := rfl

theorem isMpLine_cases {op : Op} (h : isMpLine op = true) :
    op = .mpMalloc ∨ ∃ x, op = .mpFree x ∨ op = .mpFreenth x := by
  cases op <;> simp only [isMpLine, reduceCtorEq] at h
  · exact .inl rfl
  · exact .inr ⟨_, .inl rfl⟩
  · exact .inr ⟨_, .inr rfl⟩

/-- a sequence of `mp_malloc` / `mp_free` / `mp_freenth` lines: pool, oracle and the harness' list of objects in use
are those of `MPool.run objSize` over `mpProject` -/
theorem mp_runOps (ops : List Op) : ∀ (s : DsStep.S), (∀ op ∈ ops, isMpLine op = true) →
    (runOps s ops).1.mp = (MPool.run objSize s.mp (mpProject s.mp s.inUse s.m ops) s.m).2.1 ∧
    (runOps s ops).1.m = (MPool.run objSize s.mp (mpProject s.mp s.inUse s.m ops) s.m).2.2 ∧
    (runOps s ops).1.inUse = mpInUseAll s.inUse (MPool.run objSize s.mp (mpProject s.mp s.inUse s.m ops) s.m).1 := by
  induction ops with
  | nil => intro s _; exact ⟨rfl, rfl, rfl⟩
  | cons op rest ih =>
    intro s hall
    have hrest : ∀ o ∈ rest, isMpLine o = true := fun o ho => hall o (List.mem_cons_of_mem _ ho)
    cases he : mpOpOf s.inUse op with
    | none =>
      have hop : ∃ x, op = .mpFree x ∨ op = .mpFreenth x := by
        rcases isMpLine_cases (hall op List.mem_cons_self) with rfl | h
        · cases he
        · exact h
      simp only [runOps, mp_stepOp_skip s op hop he, mpProject, he]
      exact ih s hrest
    | some e =>
      simp only [runOps, mp_stepOp s op e he, mpProject, he, mp_run_cons, mpInUseAll]
      exact ih { s with m := (MPool.step objSize s.mp e s.m).2.2, mp := (MPool.step objSize s.mp e s.m).2.1,
                        inUse := mpInUse s.inUse e (MPool.step objSize s.mp e s.m).1 } hrest

/-! ## the runs of the executable refine the ideal objects

`C12.ea_run_refines` / `eq_run_refines` / `sm_run_refines` / `mp_run_refines` instantiated at the run of the executable:
an admitted trace has no `oob` answer, so the hypothesis "no step reports `oob`" of `ea_runOps` … follows from the
invariant and the caller's contract. -/

theorem eaAdmitAll_not_oob : ∀ (tr : List (EaOp × EaAns)) (i i' : EaIdeal), eaAdmitAll i tr = some i' →
    ∀ x ∈ tr, x.2.st ≠ .oob
  | [], _, _, _ => by simp
  | (e, an) :: rest, i, i', h => by
    simp only [eaAdmitAll] at h
    split at h
    · rename_i i1 h1
      intro x hx
      rcases List.mem_cons.1 hx with rfl | hx
      · exact eaAdmit_not_oob h1
      · exact eaAdmitAll_not_oob rest i1 i' h x hx
    · cases h

theorem eqAdmitAll_not_oob : ∀ (tr : List (EqOp × EqAns)) (i i' : List (List UInt8)), eqAdmitAll i tr = some i' →
    ∀ x ∈ tr, x.2.st ≠ .oob
  | [], _, _, _ => by simp
  | (e, an) :: rest, i, i', h => by
    simp only [eqAdmitAll] at h
    split at h
    · rename_i i1 h1
      intro x hx
      rcases List.mem_cons.1 hx with rfl | hx
      · exact EQueue.eqAdmit_not_oob h1
      · exact eqAdmitAll_not_oob rest i1 i' h x hx
    · cases h

theorem smAdmitAll_not_oob : ∀ (tr : List (SmOp × SmAns)) (i i' : SmIdeal), smAdmitAll i tr = some i' →
    ∀ x ∈ tr, x.2.st ≠ .oob
  | [], _, _, _ => by simp
  | (e, an) :: rest, i, i', h => by
    simp only [smAdmitAll] at h
    split at h
    · rename_i i1 h1
      intro x hx
      rcases List.mem_cons.1 hx with rfl | hx
      · exact SeqMap.smAdmit_not_oob h1
      · exact smAdmitAll_not_oob rest i1 i' h x hx
    · cases h

/-- array lines on an existing array that satisfies `Inv`, the caller keeping the contract: the executable's array
is `EArray.run`'s, it satisfies `Inv`, and the ideal array admits the whole trace and ends as `abs` of it -/
theorem ea_runOps_refines (ops : List Op) (s : DsStep.S) (a : EArray.EA) (hs : s.ea = some a)
    (hfam : ∀ op ∈ ops, (eaOpOf a.size op).isSome) (h : Inv a)
    (hc : EArray.Contracts a (eaProject a s.m ops) s.m) :
    ∃ a', (runOps s ops).1.ea = some a' ∧ a' = (EArray.run a (eaProject a s.m ops) s.m).2.1 ∧ Inv a' ∧
      eaAdmitAll (EArray.abs a) (EArray.run a (eaProject a s.m ops) s.m).1 = some (EArray.abs a') := by
  have hr := EArray.run_ok _ a s.m h hc
  have hrun := ea_runOps ops s a 0 s.m hs (shift_zero _).symm hfam (eaAdmitAll_not_oob _ _ _ hr.2)
  exact ⟨_, hrun.1, rfl, hr.1, hr.2⟩

/-- the same for the queue -/
theorem eq_runOps_refines (ops : List Op) (s : DsStep.S) (q : EQueue.EQ) (hs : s.eq = some q)
    (hfam : ∀ op ∈ ops, (eqOpOf q.reclen.val op).isSome) (h : EQueue.QInv q)
    (hc : EQueue.Contracts q (ops.filterMap (eqOpOf q.reclen.val)) s.m)
    (hsmall : (q.offset + q.len + ops.length) * q.reclen.val ≤ EArray.SIZE_MAX) :
    ∃ q', (runOps s ops).1.eq = some q' ∧ q' = (EQueue.run q (ops.filterMap (eqOpOf q.reclen.val)) s.m).2.1 ∧
      EQueue.QInv q' ∧
      eqAdmitAll (EQueue.abs q) (EQueue.run q (ops.filterMap (eqOpOf q.reclen.val)) s.m).1 = some (EQueue.abs q') := by
  have hr := EQueue.run_ok _ q s.m h hc
    (Nat.le_trans (Nat.mul_le_mul_right _ (Nat.add_le_add_left (List.length_filterMap_le _ _) _)) hsmall)
  have hrun := eq_runOps ops s q hs hfam (eqAdmitAll_not_oob _ _ _ hr.2)
  exact ⟨_, hrun.1, rfl, hr.1, hr.2⟩

theorem smContract_of_OpOk {op : Op} {e : SmOp} (hok : OpOk op) (he : smOpOf op = some e) : smContract e := by
  cases op <;> simp only [smOpOf, Option.some.injEq, reduceCtorEq] at he <;> subst he
  · exact hok
  all_goals trivial

/-- the same for the map: lines within `OpOk` (stored pointers non-NULL and below 2^64), fewer than 2^63 numbers -/
theorem sm_runOps_refines (ops : List Op) (s : DsStep.S) (x : SeqMap.SM) (hs : s.sm = some x)
    (hfam : ∀ op ∈ ops, (smOpOf op).isSome) (h : SeqMap.MInv x) (hok : ∀ op ∈ ops, OpOk op)
    (hq : (x.q.offset + x.q.len + ops.length) * 8 ≤ EArray.SIZE_MAX)
    (hn : x.offset + x.len + ops.length ≤ SeqMap.INT64_MAX) :
    ∃ x', (runOps s ops).1.sm = some x' ∧ x' = (SeqMap.run x (ops.filterMap smOpOf) s.m).2.1 ∧ SeqMap.MInv x' ∧
      smAdmitAll (SeqMap.abs x) (SeqMap.run x (ops.filterMap smOpOf) s.m).1 = some (SeqMap.abs x') := by
  have hlen : (ops.filterMap smOpOf).length ≤ ops.length := List.length_filterMap_le _ _
  have hr := SeqMap.run_ok (ops.filterMap smOpOf) x s.m h
    (by
      intro e he
      obtain ⟨op, hop, hoe⟩ := List.mem_filterMap.1 he
      exact smContract_of_OpOk (hok op hop) hoe)
    (Nat.le_trans (Nat.mul_le_mul_right _ (Nat.add_le_add_left hlen _)) hq) (by omega)
  have hrun := sm_runOps ops s x hs hfam (smAdmitAll_not_oob _ _ _ hr.2)
  exact ⟨_, hrun.1, rfl, hr.1, hr.2⟩

/-! pool: the executable keeps the caller's side of the contract by construction (`mpOpOf` only frees objects the
harness holds) -/

theorem mpOpOf_free_mem {u : List Nat} {op : Op} {x : Nat} (h : mpOpOf u op = some (.free x)) : x ∈ u := by
  cases op <;> simp only [mpOpOf, reduceCtorEq, Option.some.injEq] at h
  case mpFree y =>
    split at h
    · rename_i hy; cases h; simpa using hy
    · cases h
  case mpFreenth j =>
    simp only [Option.map_eq_some_iff, MpOp.free.injEq] at h
    obtain ⟨y, hy, rfl⟩ := h
    exact List.mem_mergeSort.1 (List.mem_of_getElem? hy)

theorem mpProject_contracts (ops : List Op) : ∀ (p : MPool.MP) (u : List Nat) (m : Mem),
    MPool.Contracts objSize p u (mpProject p u m ops) m := by
  induction ops with
  | nil => intro p u m; trivial
  | cons op rest ih =>
    intro p u m
    cases he : mpOpOf u op with
    | none => simp only [mpProject, he]; exact ih p u m
    | some e =>
      simp only [mpProject, he, MPool.Contracts]
      refine ⟨?_, fun u' hu' => ?_⟩
      · cases e with
        | malloc => trivial
        | free x => exact mpOpOf_free_mem he
      · rw [mpAdmit_inUse hu']; exact ih _ _ _

theorem mpAdmitAll_inUse : ∀ (tr : List (MpOp × MpAns)) (u u' : List Nat), mpAdmitAll u tr = some u' →
    u' = mpInUseAll u tr
  | [], u, u', h => by simp only [mpAdmitAll, Option.some.injEq] at h; exact h.symm
  | (e, an) :: rest, u, u', h => by
    simp only [mpAdmitAll] at h
    split at h
    · rename_i u1 h1
      rw [mpInUseAll, ← mpAdmit_inUse h1]
      exact mpAdmitAll_inUse rest u1 u' h
    · cases h

/-- pool lines from a state in the simulation relation `R`: "the set of objects in use" admits the whole trace of the
executable's pool, ends as the harness' own list, and `R` holds again -/
theorem mp_runOps_refines (ops : List Op) (s : DsStep.S) (base : Int) (hfam : ∀ op ∈ ops, isMpLine op = true)
    (h : MPool.R s.mp s.m s.inUse base) :
    mpAdmitAll s.inUse (MPool.run objSize s.mp (mpProject s.mp s.inUse s.m ops) s.m).1 = some (runOps s ops).1.inUse ∧
    MPool.R (runOps s ops).1.mp (runOps s ops).1.m (runOps s ops).1.inUse base := by
  obtain ⟨u', hadm, hR⟩ := MPool.run_ok objSize _ s.mp s.m s.inUse base h (mpProject_contracts ops s.mp s.inUse s.m)
  obtain ⟨h1, h2, h3⟩ := mp_runOps ops s hfam
  have hu := mpAdmitAll_inUse _ _ _ hadm
  rw [h1, h2, h3, ← hu]
  exact ⟨hadm, hR⟩

instance eaContractDec (i : EaIdeal) (e : EaOp) : Decidable (eaContract i e) := by
  cases e <;> simp only [eaContract] <;> infer_instance

def eaContractsDec : ∀ (ops : List EaOp) (a : EArray.EA) (m : Mem), Decidable (EArray.Contracts a ops m)
  | [], _, _ => isTrue trivial
  | op :: rest, a, m =>
    have := eaContractsDec rest (EArray.step a op m).2.1 (EArray.step a op m).2.2
    by unfold EArray.Contracts; infer_instance

instance (ops : List EaOp) (a : EArray.EA) (m : Mem) : Decidable (EArray.Contracts a ops m) := eaContractsDec ops a m

instance eqContractDec (reclen : Nat) (q : List (List UInt8)) (e : EqOp) : Decidable (eqContract reclen q e) := by
  cases e <;> simp only [eqContract] <;> infer_instance

def eqContractsDec : ∀ (ops : List EqOp) (q : EQueue.EQ) (m : Mem), Decidable (EQueue.Contracts q ops m)
  | [], _, _ => isTrue trivial
  | op :: rest, q, m =>
    have := eqContractsDec rest (EQueue.step q op m).2.1 (EQueue.step q op m).2.2
    by unfold EQueue.Contracts; infer_instance

instance (ops : List EqOp) (q : EQueue.EQ) (m : Mem) : Decidable (EQueue.Contracts q ops m) := eqContractsDec ops q m

/-- an array of 12 bytes in a 16-byte block, alone in the protocol state, and a sequence of array lines on it -/
def demoA : EArray.EA := ⟨12, 16, List.replicate 16 7⟩
def demoS : DsStep.S := { ea := some demoA }
def demoEaLines : List Op :=
  [.eaResize 5 4 1, .eaDup 1, .eaShrink 1 4, .eaResize 7 4 2, .eaGet 0 4, .eaAppend 2 3 5, .eaTrunc, .eaSet 1 4 9,
   .eaGetsize 2]

/-- a queue of 2-byte records holding one record at offset 1, alone in the protocol state -/
def demoQ : EQueue.EQ := ⟨⟨4, 4, [1, 2, 3, 4]⟩, 1, 1, ⟨2, by decide⟩⟩
def demoQS : DsStep.S := { eq := some demoQ }
def demoEqLines : List Op := [.eqAdd 1, .eqAdd 2, .eqDel, .eqGet 0, .eqSet 0 7, .eqLen]

/-- the map a `sm_init` line leaves in the state, if any, is a fresh one -/
theorem smInit_map (s : DsStep.S) (x : SeqMap.SM) (h : (stepOp s .smInit).1.sm = some x) :
    SeqMap.MInv x ∧ x.offset = 0 ∧ x.len = 0 ∧ x.q.offset = 0 ∧ x.q.len = 0 := by
  rw [stepOp_smInit] at h
  have hspec := SeqMap.init_spec (smF s.sm s.m)
  rcases hi : SeqMap.init (smF s.sm s.m) with ⟨_ | y, m'⟩ <;> rw [hi] at h hspec
  · cases h
  · cases h
    exact ⟨hspec.1, hspec.2.2.1, hspec.2.2.2.1, hspec.2.2.2.2.1, hspec.2.2.2.2.2.1⟩

/-- the protocol state after `sm_init`, and a sequence of map lines -/
def demoMS : DsStep.S := (stepOp {} .smInit).1
def demoSmLines : List Op := [.smAdd 5, .smAdd 6, .smDel 0, .smMin, .smGet 1, .smGet 0]

/-- pool lines: two objects handed out, a free of an object not held (`skip`), a free, a `malloc` served from the
cache, another free (`mp_freenth` is left out here only because `List.mergeSort` does not evaluate in the kernel) -/
def demoMpLines : List Op := [.mpMalloc, .mpMalloc, .mpFree 7, .mpFree 1, .mpMalloc, .mpFree 0]

end Percival.Proofs.DsStep
