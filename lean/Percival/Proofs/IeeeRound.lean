import Percival.Proofs.IeeeArith
/-! C16: what `Model.Strtod.roundPos` computes, in terms of "nearest multiple of `2^e`" (`NearestInt`). -/
namespace Percival.Proofs.Ieee
open Percival.Model.Strtod Percival.Proofs.IeeeArith Percival.Spec.Ieee

/-- `m·u` is the multiple of `u` nearest to `q`, `m` even on a tie -/
structure NearestInt (q u : Rat) (m : Nat) : Prop where
  hi : q ≤ m * u + u / 2
  lo : m * u - u / 2 ≤ q
  tie : (q = m * u + u / 2 ∨ q = m * u - u / 2) → m % 2 = 0

theorem roundAt_spec (n d : Nat) (hd : 0 < d) (e : Int) (q : Rat) (hq : q * d = n) :
    ∃ m ix, roundAt n d e = some (m, ix) ∧ NearestInt q (2 ^ e) m ∧ (ix = true ↔ q ≠ m * 2 ^ e) := by
  obtain ⟨h1, h2⟩ := scaled_spec n d hd e q hq
  unfold roundAt
  simp only [show (scaled n d e).2 ≠ 0 by omega, if_false]
  obtain ⟨a, b, c, d'⟩ := divRound_rat q (2 ^ e) (p2_pos e) _ _ h1 h2
  exact ⟨_, _, rfl, ⟨a, b, c⟩, d'⟩

theorem p2_pred (p : Nat) (hp : 1 ≤ p) : ((2 ^ (p - 1) : Nat) : Rat) = 2 ^ ((p : Int) - 1) := by
  rw [← p2_nat]; congr 1; omega

theorem normExp_spec (f : Format) (hp : 1 ≤ f.p) (n d : Nat) (hn : 0 < n) (hd : 0 < d) (q : Rat) (hq : q * d = n) :
    2 ^ ((f.p : Int) - 1) * 2 ^ (normExp f n d) ≤ q ∧ q < 2 ^ (f.p : Int) * 2 ^ (normExp f n d) := by
  unfold normExp
  simp only
  have hl1 := Nat.log2_self_le (Nat.pos_iff_ne_zero.mp hn)
  have hl2 := @Nat.lt_log2_self n
  have hl3 := Nat.log2_self_le (Nat.pos_iff_ne_zero.mp hd)
  have hl4 := @Nat.lt_log2_self d
  generalize Nat.log2 n = ln at *
  generalize Nat.log2 d = ld at *
  have c1 := natCast_le hl1
  have c2 := Rat.natCast_lt_natCast.mpr hl2
  have c3 := natCast_le hl3
  have c4 := Rat.natCast_lt_natCast.mpr hl4
  rw [← p2_nat] at c1 c2 c3 c4
  have hq0 : 0 < q := by
    have : (0 : Rat) < n := Rat.natCast_pos.mpr hn
    have hd' : (0 : Rat) < d := Rat.natCast_pos.mpr hd
    rw [← hq] at this
    exact (Rat.mul_pos_iff_of_pos_right hd').mp this
  -- q > 2^(ln - ld - 1), q < 2^(ln - ld + 1)
  have A : (2 : Rat) ^ ((ln : Int) - (ld : Int) - 1) < q := by
    apply Rat.lt_of_mul_lt_mul_right (c := 2 ^ ((ld + 1 : Nat) : Int)) _ (Rat.le_of_lt (p2_pos _))
    rw [p2_mul (show (ln : Int) - (ld : Int) - 1 + ((ld + 1 : Nat) : Int) = ln by omega)]
    rw [← hq] at c1
    exact Std.lt_of_le_of_lt c1 (Rat.mul_lt_mul_of_pos_left c4 hq0)
  have B : q < (2 : Rat) ^ ((ln : Int) - (ld : Int) + 1) := by
    apply Rat.lt_of_mul_lt_mul_right (c := 2 ^ (ld : Int)) _ (Rat.le_of_lt (p2_pos _))
    rw [p2_mul (show (ln : Int) - (ld : Int) + 1 + (ld : Int) = ((ln + 1 : Nat) : Int) by omega)]
    rw [← hq] at c2
    exact Std.lt_of_le_of_lt (Rat.mul_le_mul_of_nonneg_left c3 (Rat.le_of_lt hq0)) c2
  generalize hl : (ln : Int) - (ld : Int) - ((f.p : Int) - 1) = l
  obtain ⟨s2, s1⟩ := scaled_spec n d hd l q hq
  rw [← p2_mul (show (f.p : Int) - 1 + (l - 1) = (ln : Int) - (ld : Int) - 1 by omega)] at A
  rw [← p2_mul (show (f.p : Int) + l = (ln : Int) - (ld : Int) + 1 by omega)] at B
  -- the test compares `q` with `2^(p-1)·2^l`: both are multiples of `2^l / s.2`
  have ey : 2 ^ ((f.p : Int) - 1) * 2 ^ l * ((scaled n d l).2 : Rat) =
      (((scaled n d l).2 * 2 ^ (f.p - 1) : Nat) : Rat) * 2 ^ l := by
    rw [Rat.natCast_mul, p2_pred _ hp]; grind
  have hcmp := (cmp_of_scaled (Rat.natCast_pos.mpr s2) (p2_pos l) ey s1.symm).1
  split
  · next h =>
    refine ⟨Rat.le_of_lt A, ?_⟩
    rw [p2_mul_mul (show (f.p : Int) + (l - 1) = (f.p : Int) - 1 + l by omega)]
    exact Rat.not_le.mp (mt hcmp.mp (by omega))
  · next h => exact ⟨hcmp.mpr (by omega), B⟩

/-- the exponent actually used: not below `qmin` -/
def clampE (f : Format) (e0 : Int) : Int := if e0 < f.qmin then f.qmin else e0

/-- everything the rounding theorems need to know about `roundPos` -/
theorem roundPos_spec (f : Format) (hp : 1 ≤ f.p) (n d : Nat) (hn : 0 < n) (hd : 0 < d) (q : Rat) (hq : q * d = n) :
    ∃ (e0 : Int) (mu m : Nat) (ix : Bool),
      2 ^ ((f.p : Int) - 1) * 2 ^ e0 ≤ q ∧ q < 2 ^ (f.p : Int) * 2 ^ e0 ∧
      NearestInt q (2 ^ e0) mu ∧ NearestInt q (2 ^ clampE f e0) m ∧ (ix = true ↔ q ≠ m * 2 ^ clampE f e0) ∧
      roundPos f n d = some
        { m := if m = 2 ^ f.p then 2 ^ (f.p - 1) else m,
          e := if m = 2 ^ f.p then clampE f e0 + 1 else clampE f e0,
          inexact := ix,
          tiny := decide (e0 < f.qmin ∧ ¬ (e0 + 1 = f.qmin ∧ mu = 2 ^ f.p)) } := by
  obtain ⟨n1, n2⟩ := normExp_spec f hp n d hn hd q hq
  obtain ⟨mu, ixu, ru, hu, _⟩ := roundAt_spec n d hd (normExp f n d) q hq
  obtain ⟨m, ix, rm, hm, hix⟩ := roundAt_spec n d hd (clampE f (normExp f n d)) q hq
  refine ⟨normExp f n d, mu, m, ix, n1, n2, hu, hm, hix, ?_⟩
  unfold roundPos
  rw [if_neg (by omega)]
  simp only
  unfold clampE at rm
  rw [ru, rm]
  simp only [clampE]
  split <;> rfl

theorem natCast_succ_le {a b : Nat} (h : a < b) : (a : Rat) + 1 ≤ b := by
  have := natCast_le (show a + 1 ≤ b from h)
  simpa [Rat.natCast_add] using this

theorem mul_u_le {a b u : Rat} (h : a ≤ b) (hu : 0 < u) : a * u ≤ b * u :=
  Rat.mul_le_mul_of_nonneg_right h (Rat.le_of_lt hu)

theorem nearestInt_far {q u : Rat} {m : Nat} (h : NearestInt q u m) (hu : 0 < u) (j : Nat) (hj : j ≠ m) :
    u / 2 ≤ (q - j * u).abs := by
  have hc := abs_cases (q - j * u)
  have := h.hi; have := h.lo
  rcases Nat.lt_or_gt_of_ne hj with hlt | hgt
  · have := mul_u_le (natCast_succ_le hlt) hu
    grind
  · have := mul_u_le (natCast_succ_le hgt) hu
    grind

theorem nearestInt_near {q u : Rat} {m : Nat} (h : NearestInt q u m) : (q - m * u).abs ≤ u / 2 := by
  have hc := abs_cases (q - m * u)
  have := h.hi; have := h.lo
  grind

theorem nearestInt_le {q u : Rat} {m : Nat} (h : NearestInt q u m) (hu : 0 < u) (j : Nat) :
    (q - m * u).abs ≤ (q - j * u).abs := by
  by_cases hj : j = m
  · subst hj; exact Rat.le_refl
  · exact Rat.le_trans (nearestInt_near h) (nearestInt_far h hu j hj)

theorem nearestInt_tie {q u : Rat} {m : Nat} (h : NearestInt q u m) (hu : 0 < u) (j : Nat) (hj : j ≠ m)
    (heq : (q - j * u).abs = (q - m * u).abs) : m % 2 = 0 := by
  have h1 := nearestInt_near h
  have h2 := nearestInt_far h hu j hj
  apply h.tie
  have hc := abs_cases (q - m * u)
  grind

theorem NearestInt.le_of_mul_le {q u : Rat} {m : Nat} (h : NearestInt q u m) (hu : 0 < u) {j : Nat}
    (hj : (j : Rat) * u ≤ q) : j ≤ m := by
  apply Classical.byContradiction; intro hc
  have h1 := mul_u_le (natCast_succ_le (show m < j by omega)) hu
  have := h.hi
  grind

theorem NearestInt.le_of_le_mul {q u : Rat} {m : Nat} (h : NearestInt q u m) (hu : 0 < u) {j : Nat}
    (hj : q ≤ (j : Rat) * u) : m ≤ j := by
  apply Classical.byContradiction; intro hc
  have h1 := mul_u_le (natCast_succ_le (show j < m by omega)) hu
  have := h.lo
  grind

/-- an even multiple is reached exactly from half a unit below it on (on the tie the even one is taken) -/
theorem NearestInt.even_le_iff {q u : Rat} {m : Nat} (h : NearestInt q u m) (hu : 0 < u) {j : Nat} (hj : j % 2 = 0) :
    j ≤ m ↔ ((j : Rat) - 1 / 2) * u ≤ q := by
  constructor
  · intro hm
    have := mul_u_le (natCast_le hm) hu
    have := h.lo
    grind
  · intro hq
    apply Classical.byContradiction; intro hc
    have h1 := mul_u_le (natCast_succ_le (show m < j by omega)) hu
    have := h.hi
    have hev := h.tie (Or.inl (by grind))
    have : m + 1 = j := by
      apply Classical.byContradiction; intro hc2
      have h2 := mul_u_le (natCast_succ_le (show m + 1 < j by omega)) hu
      rw [Rat.natCast_add] at h2
      simp only [Rat.natCast_ofNat] at h2
      grind
    omega

theorem far_of_lt {q x y b : Rat} (hx : (q - x).abs ≤ (q - b).abs) (hy : y < b) (hb : b ≤ q) :
    (q - x).abs < (q - y).abs := by
  have h1 := abs_cases (q - b)
  have h2 := abs_cases (q - y)
  grind

end Percival.Proofs.Ieee
