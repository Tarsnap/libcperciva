import Percival.Model.SockAddr
import Percival.Model.Lines
import Percival.Proofs.HexEndian
import Percival.Proofs.Digits
/-! `Model.SockAddr` (sock.c, sock_util.c) and `Model.Lines` (the line readers of readpass_file.c and aws_readkeys.c).

`Proofs.SockAddr`: serialise / deserialise through the little-endian lemmas; `sock_resolve` as a function of the
string (`resolveL`, equal to the model on every C string: `resolve_eq`), of which the bracketed literals and the Unix
paths are cases; `ensurePort`; the decimal port text and `parsePort`; `prettyprint`.  `Proofs.Lines`: `fgets`
leaves a string in the buffer, cutting it at CR/LF leaves a shorter one (`chomp`), and the two readers return strings
shorter than the buffer without NUL, CR or LF.  Strings in buffers are handled through `StrAt` (`Proofs/CStr.lean`). -/
namespace Percival.Proofs.SockAddr
open Percival.Model Percival.Model.SockAddr Percival.Proofs

theorem rdR_list (l : List UInt8) (i : Nat) (h : i < l.length) : rdR l.toArray i = .ok l[i] := by
  simp [rdR, rd, h]

theorem copyOut_at {b : Buf} (l : List UInt8) : ∀ off, At b off l → copyOut b off l.length = .ok l := by
  induction l with
  | nil => intro _ _; rfl
  | cons c l ih => intro off h; rw [List.length_cons, copyOut, h.head, Res.ok_bind, ih _ (h.drop 1), Res.ok_bind]

theorem copyOut_all (b : Buf) : copyOut b 0 b.size = .ok b.toList := by
  have := copyOut_at _ 0 (At.whole b)
  rwa [Array.length_toList] at this

theorem strchrL_lt (s : List UInt8) (c : UInt8) (e : Nat) (h : strchrL s c = some e) : e < s.length := by
  unfold strchrL at h
  split at h
  · injection h with h; omega
  · simp at h

/-! `read32` is the little-endian load and `bytes32` the little-endian bytes of `Proofs.Endian`. -/

theorem read32_safe (b : Buf) (p : Nat) (h : p + 4 ≤ b.size) : ∃ x, read32 b p = .ok x :=
  ⟨_, Endian.le32dec_spec b p h⟩

theorem read32_at {b : Buf} {p : Nat} {x : UInt32} {l : List UInt8} (h : At b p (bytes32 x ++ l)) : read32 b p = .ok x := by
  simp only [read32, h.head, h.get (j := 1) rfl, h.get (j := 2) rfl, h.get (j := 3) rfl, Res.ok_bind]
  show Res.ok (Endian.comb32 (Endian.bytes32 x)) = _
  rw [Endian.comb32_eq _ rfl, Endian.bytes32_eq, Endian.leVal_leBytes 4 _ x.toNat_lt, UInt32.ofNat_toNat]

theorem deserialize_of (b : Buf) (f st n : UInt32) (hl : b.size = 12 + n.toNat)
    (r0 : read32 b 0 = .ok f) (r1 : read32 b 4 = .ok st) (r2 : read32 b 8 = .ok n) :
    deserialize b b.size = .ok (some { family := f, socktype := st, namelen := n, name := (b.toList.drop 12).toArray }) := by
  have hc := copyOut_at (b := b) (b.toList.drop 12) 12 ⟨[], by simp⟩
  rw [List.length_drop, Array.length_toList, hl, Nat.add_sub_cancel_left] at hc
  simp only [deserialize]
  rw [if_neg (by omega), r0, Res.ok_bind, r1, Res.ok_bind, r2, Res.ok_bind, hl]
  simp only [bne_self_eq_false, Bool.false_eq_true, ↓reduceIte]
  rw [hc, Res.ok_bind]

theorem copyOut_name (a : SockAddr) (h : a.WF) : copyOut a.name 0 a.namelen.toNat = .ok a.name.toList := by
  unfold SockAddr.WF at h
  rw [← h]; exact copyOut_all _

theorem deserialize_safe (buf : Buf) :
    ∃ r, deserialize buf buf.size = .ok r ∧
      ∀ a, r = some a → a.WF ∧ buf.size = 12 + a.namelen.toNat ∧ a.name.toList = buf.toList.drop 12 := by
  by_cases h12 : buf.size < 12
  · exact ⟨none, by simp [deserialize, h12], by simp⟩
  · obtain ⟨f, r0⟩ := read32_safe buf 0 (by omega)
    obtain ⟨st, r1⟩ := read32_safe buf 4 (by omega)
    obtain ⟨n, r2⟩ := read32_safe buf 8 (by omega)
    by_cases hn : buf.size = 12 + n.toNat
    · refine ⟨_, deserialize_of buf f st n hn r0 r1 r2, ?_⟩
      intro a ha
      injection ha with ha
      subst ha
      simp [SockAddr.WF]; omega
    · refine ⟨none, ?_, by simp⟩
      simp only [deserialize]
      rw [if_neg h12, r0, Res.ok_bind, r1, Res.ok_bind, r2, Res.ok_bind]
      simp [hn]


theorem strrchrL_none (s : List UInt8) (c : UInt8) (h : c ∉ s) : strrchrL s c = none := by
  induction s with
  | nil => rfl
  | cons x xs ih =>
    have hx : ¬ (x = c) := fun e => h (by simp [e])
    have : c ∉ xs := fun e => h (by simp [e])
    simp [strrchrL, ih this, hx]

theorem strrchrL_lt (s : List UInt8) (c : UInt8) (k : Nat) (h : strrchrL s c = some k) : k < s.length := by
  induction s generalizing k with
  | nil => simp [strrchrL] at h
  | cons x xs ih =>
    simp only [strrchrL] at h
    split at h
    · rename_i k' hk'
      injection h with h
      have := ih k' hk'
      simp; omega
    · split at h
      · injection h with h; simp; omega
      · simp at h

theorem strrchrL_append (pre post : List UInt8) (c : UInt8) (h : c ∉ post) :
    strrchrL (pre ++ c :: post) c = some pre.length := by
  induction pre with
  | nil => simp [strrchrL, strrchrL_none post c h]
  | cons x xs ih => simp [strrchrL, ih]

theorem rdInt_pred (b : Buf) (k : Nat) (hk : 1 ≤ k) : rdInt b ((k : Int) - 1) = rdR b (k - 1) := by
  have : ((k : Int) - 1) = ((k - 1 : Nat) : Int) := by omega
  rw [this]; simp only [rdInt, Int.toNat_natCast]
  rw [if_neg (by omega)]

/-- `sock_resolve` once `ips` (the text between the brackets) and `ports` are cut out -/
def literal (pton4 pton6 : List UInt8 → Option (List UInt8)) (ips ports : List UInt8) : Resolved :=
  match parsePort ports with
  | none => .err
  | some p =>
    if (strchrL ips 0x3a).isSome then
      match pton6 ips with
      | some a => .addr (mkIn6 a p)
      | none => .err
    else
      match pton4 ips with
      | some a => .addr (mkIn a p)
      | none => .err

def resolveL (pton4 pton6 : List UInt8 → Option (List UInt8)) (addr : List UInt8) : Resolved :=
  if addr.head? = some 0x2f then
    if addr.length ≥ sunPathSize then .err else .addr (mkUn addr)
  else
    match strrchrL addr 0x3a with
    | none => .err
    | some colon =>
      let s := addr.take colon
      if s.head? ≠ some 0x5b then .host s (addr.drop (colon + 1))
      else if s.getLast? ≠ some 0x5d then .err
      else literal pton4 pton6 ((s.drop 1).dropLast) (addr.drop (colon + 1))

theorem resolve_eq (pton4 pton6 : List UInt8 → Option (List UInt8)) (addr : List UInt8) (h0 : ∀ c ∈ addr, c ≠ 0) :
    resolve pton4 pton6 (cstr addr) = .ok (resolveL pton4 pton6 addr) := by
  have hA := StrAt.of_cstr h0
  have hc0 : rdR (cstr addr) 0 = .ok ((addr ++ [0]).head?.getD 0) := by
    cases addr <;> exact hA.get (j := 0) rfl
  unfold resolve resolveL
  rw [hc0, Res.ok_bind, hA.read, Res.ok_bind]
  by_cases hs : addr.head? = some 0x2f
  · rw [if_pos (by cases addr <;> simp_all), if_pos hs]; split <;> rfl
  · rw [if_neg (by cases addr <;> simp_all), if_neg hs]
    cases hcol : strrchrL addr 0x3a with
    | none => rfl
    | some colon =>
      have hlt := strrchrL_lt _ _ _ hcol
      obtain ⟨sb, hw, _, h1, h2⟩ := hA.cut colon (Nat.le_of_lt hlt)
      simp only [Nat.zero_add] at hw h2
      simp only []
      rw [hw, Res.ok_bind, h1.read, Res.ok_bind, (h2 hlt).read, Res.ok_bind]
      generalize addr.drop (colon + 1) = ports
      generalize addr.take colon = s at h1
      cases s with
      | nil => rw [show rdR sb 0 = .ok 0 from h1.get (j := 0) rfl]; rfl
      | cons x xs =>
        rw [show rdR sb 0 = .ok x from h1.get (j := 0) rfl, Res.ok_bind]
        by_cases hx : x = 0x5b
        · subst hx
          have hlast : rdR sb ((0x5b :: xs).length - 1) = .ok ((0x5b :: xs).getLast (by simp)) := by
            have := h1.get (j := (0x5b :: xs).length - 1) (c := (0x5b :: xs).getLast (by simp))
              (by rw [List.getElem?_append_left (by simp), List.getLast_eq_getElem]; simp)
            simpa using this
          have hnil : xs = [] → (0x5b :: xs).getLast (by simp) = 0x5b := by rintro rfl; rfl
          rw [if_neg (by decide), rdInt_pred _ _ (by simp), hlast, Res.ok_bind,
            if_neg (show ¬ (0x5b :: xs).head? ≠ some 0x5b by simp), List.getLast?_eq_some_getLast (by simp)]
          generalize (0x5b :: xs).getLast (by simp) = last at hnil
          by_cases hl : last = 0x5d
          · have hxs : xs ≠ [] := fun e => absurd ((hnil e).symm.trans hl) (by decide)
            rw [if_neg (by simp [hl]), if_neg (by simp [hl]), (h1.drop 1 (by simp)).read, Res.ok_bind,
              if_neg (by simpa using hxs), List.dropLast_eq_take, literal]
            generalize List.take _ (List.drop 1 (0x5b :: xs)) = ips
            cases parsePort ports with
            | none => rfl
            | some p =>
              simp only []
              cases (strchrL ips 0x3a).isSome
              · simp only [Bool.false_eq_true, if_false]; cases pton4 ips <;> rfl
              · simp only [if_true]; cases pton6 ips <;> rfl
          · rw [if_pos (by simpa using hl), if_pos (by simpa using hl)]
        · rw [if_pos (by simpa using hx), if_pos (by simpa using hx)]

theorem ensurePort_safe (addr : List UInt8) (h0 : ∀ c ∈ addr, c ≠ 0) :
    ∃ r, ensurePort (cstr addr) = .ok r ∧ (r = addr ∨ r = addr ++ [0x3a, 0x30]) := by
  have hc0 : rdR (cstr addr) 0 = .ok (addr ++ [0])[0] :=
    (StrAt.of_cstr h0).get (j := 0) (List.getElem?_eq_getElem (by simp))
  unfold ensurePort
  rw [(StrAt.of_cstr h0).read, Res.ok_bind, hc0, Res.ok_bind]
  simp only []
  split
  · exact ⟨_, rfl, Or.inl rfl⟩
  · rename_i hk0
    split
    · exact ⟨_, rfl, Or.inl rfl⟩
    · split
      · split
        · exact ⟨_, rfl, Or.inr rfl⟩
        · exact ⟨_, rfl, Or.inl rfl⟩
      · cases hcol : strrchrL addr 0x3a with
        | none => exact ⟨_, rfl, Or.inr rfl⟩
        | some k =>
          have hlt := strrchrL_lt _ _ _ hcol
          have hk : k ≠ 0 := by
            intro h; subst h; simp [hcol] at hk0
          simp only []
          have : k - 1 < (cstr addr).size := by simp [cstr]; omega
          rw [rdInt_pred _ _ (by omega), rdR_ok _ _ this, Res.ok_bind]
          split
          · exact ⟨_, rfl, Or.inr rfl⟩
          · exact ⟨_, rfl, Or.inl rfl⟩

theorem digit_facts : ∀ d : UInt8, 0x30 ≤ d → d ≤ 0x39 → isSpace d = false ∧ isDigit d = true ∧ d ≠ 0x2d ∧ d ≠ 0x2b ∧ d ≠ 0x3a ∧ d ≠ 0 := by
  decide +kernel

/-- `%d` writes the decimal digits -/
theorem decF_eq (f n : Nat) (acc : List UInt8) (hf : n < f) : decF f n acc = (digs 10 n).map digitByte ++ acc := by
  induction f generalizing n acc with
  | zero => omega
  | succ f ih =>
    rw [decF, ← (digitByte_dec _ (Nat.mod_lt n (by decide))).1]
    split
    · rw [digs_of_lt (by omega), show n % 10 = n by omega]; rfl
    · rw [ih _ _ (by omega), digs_of_ge (n := n) (by decide) (by omega)]; simp

theorem decimal_eq (n : Nat) : decimal n = (digs 10 n).map digitByte := by
  rw [decimal, decF_eq _ _ _ (Nat.lt_succ_self n), List.append_nil]

theorem decimal_ne_nil (n : Nat) : decimal n ≠ [] := by
  rw [decimal_eq]; exact fun e => digs_ne_nil 10 n (List.map_eq_nil_iff.mp e)

theorem decimal_digits (p : Nat) : ∀ c ∈ decimal p, 0x30 ≤ c ∧ c ≤ 0x39 := by
  rw [decimal_eq]
  intro c hc
  obtain ⟨d, hd, rfl⟩ := List.mem_map.mp hc
  exact (digitByte_dec d (digs_lt (by decide) p d hd)).2.2

theorem decimal_val (p : Nat) : digitsVal (decimal p) = p := by
  rw [digitsVal, decimal_eq]; exact decVal_digs p

theorem parsePort_digits (s : List UInt8) (hne : s ≠ []) (hd : ∀ c ∈ s, 0x30 ≤ c ∧ c ≤ 0x39) :
    parsePort s = if digitsVal s < 1 ∨ digitsVal s > 65535 then none else some (digitsVal s) := by
  cases s with
  | nil => exact absurd rfl hne
  | cons d rest =>
    obtain ⟨f1, f2, f3, f4, _, _⟩ := digit_facts d (hd d (by simp)).1 (hd d (by simp)).2
    have hall : (d :: rest).all isDigit = true := by
      rw [List.all_eq_true]
      intro c hc
      exact (digit_facts c (hd c hc).1 (hd c hc).2).2.1
    unfold parsePort
    have e : List.dropWhile isSpace (d :: rest) = d :: rest := by simp [List.dropWhile, f1]
    simp only [e]
    split
    · rename_i h; injection h with h; exact absurd h f3
    · rename_i h; injection h with h; exact absurd h f4
    · simp [hall]

theorem parsePort_decimal (p : Nat) (h1 : 1 ≤ p) (h2 : p ≤ 65535) : parsePort (decimal p) = some p := by
  rw [parsePort_digits (decimal p) (decimal_ne_nil p) (decimal_digits p), decimal_val]
  rw [if_neg (by omega)]

theorem resolve_unix (pton4 pton6 : List UInt8 → Option (List UInt8)) (path : List UInt8)
    (hs : path.head? = some 0x2f) (h0 : ∀ c ∈ path, c ≠ 0) (hl : path.length < sunPathSize) :
    resolve pton4 pton6 (cstr path) = .ok (.addr (mkUn path)) := by
  rw [resolve_eq _ _ _ h0, resolveL, if_pos hs, if_neg (by omega)]

theorem bracket_nul (t ports : List UInt8) (h0t : ∀ c ∈ t, c ≠ 0) (h0p : ∀ c ∈ ports, c ≠ 0) :
    ∀ c ∈ [0x5b] ++ t ++ [0x5d, 0x3a] ++ ports, c ≠ 0 := by
  intro c hm
  simp only [List.mem_append, List.mem_cons, List.not_mem_nil, or_false] at hm
  rcases hm with ((rfl | hm) | rfl | rfl) | hm
  · decide
  · exact h0t c hm
  · decide
  · decide
  · exact h0p c hm

theorem resolveL_bracket (pton4 pton6 : List UInt8 → Option (List UInt8)) (t ports : List UInt8)
    (hcp : (0x3a : UInt8) ∉ ports) :
    resolveL pton4 pton6 ([0x5b] ++ t ++ [0x5d, 0x3a] ++ ports) = literal pton4 pton6 t ports := by
  have e : [0x5b] ++ t ++ [0x5d, 0x3a] ++ ports = (0x5b :: (t ++ [0x5d])) ++ 0x3a :: ports := by simp
  have hd : (0x5b :: (t ++ [0x5d]) ++ 0x3a :: ports).drop ((0x5b :: (t ++ [0x5d])).length + 1) = ports := by
    rw [← List.drop_drop, List.drop_left' rfl]; rfl
  rw [resolveL, e, strrchrL_append _ _ _ hcp, if_neg (by simp)]
  simp only [List.take_left', hd]
  rw [if_neg (by simp), List.drop_succ_cons, List.drop_zero, List.dropLast_concat, ← List.cons_append,
    List.getLast?_concat, if_neg (by simp)]

theorem strchrL_none (s : List UInt8) (c : UInt8) (h : c ∉ s) : strchrL s c = none := by
  unfold strchrL
  rw [if_neg]
  have := List.idxOf_eq_length h
  omega

theorem strchrL_isSome (s : List UInt8) (c : UInt8) (h : c ∈ s) : (strchrL s c).isSome = true := by
  unfold strchrL
  rw [if_pos (List.idxOf_lt_length_iff.mpr h)]; rfl

theorem decimal_nul (p : Nat) : ∀ c ∈ decimal p, c ≠ 0 := fun c hc =>
  (digit_facts c (decimal_digits p c hc).1 (decimal_digits p c hc).2).2.2.2.2.2

theorem decimal_colon (p : Nat) : (0x3a : UInt8) ∉ decimal p := fun hc =>
  (digit_facts _ (decimal_digits p _ hc).1 (decimal_digits p _ hc).2).2.2.2.2.1 rfl

theorem resolve_v4 (pton4 pton6 : List UInt8 → Option (List UInt8)) (t a : List UInt8) (p : Nat)
    (ht : pton4 t = some a) (hc : ∀ c ∈ t, c ≠ 0x3a) (h0 : ∀ c ∈ t, c ≠ 0) (h1 : 1 ≤ p) (h2 : p ≤ 65535) :
    resolve pton4 pton6 (cstr ([0x5b] ++ t ++ [0x5d, 0x3a] ++ decimal p)) = .ok (.addr (mkIn a p)) := by
  rw [resolve_eq _ _ _ (bracket_nul t _ h0 (decimal_nul p)), resolveL_bracket _ _ _ _ (decimal_colon p), literal,
    parsePort_decimal p h1 h2]
  simp only [strchrL_none t 0x3a (fun h => hc _ h rfl), ht, Option.isSome_none, Bool.false_eq_true, if_false]

theorem resolve_v6 (pton4 pton6 : List UInt8 → Option (List UInt8)) (t a : List UInt8) (p : Nat)
    (ht : pton6 t = some a) (hc : 0x3a ∈ t) (h0 : ∀ c ∈ t, c ≠ 0) (h1 : 1 ≤ p) (h2 : p ≤ 65535) :
    resolve pton4 pton6 (cstr ([0x5b] ++ t ++ [0x5d, 0x3a] ++ decimal p)) = .ok (.addr (mkIn6 a p)) := by
  rw [resolve_eq _ _ _ (bracket_nul t _ h0 (decimal_nul p)), resolveL_bracket _ _ _ _ (decimal_colon p), literal,
    parsePort_decimal p h1 h2]
  simp only [strchrL_isSome t 0x3a hc, ht, if_true]

theorem port_bytes (p : Nat) (hp : p ≤ 65535) :
    (UInt8.ofNat (p / 256)).toNat * 256 + (UInt8.ofNat (p % 256)).toNat = p := by
  have h1 : (UInt8.ofNat (p / 256)).toNat = p / 256 := by simp; omega
  have h2 : (UInt8.ofNat (p % 256)).toNat = p % 256 := by simp
  rw [h1, h2]; omega

theorem prettyprint_in (ntop4 ntop6 : List UInt8 → Option (List UInt8)) (a t : List UInt8) (p : Nat)
    (ha : a.length = 4) (ht : ntop4 a = some t) (hp : p ≤ 65535) :
    prettyprint ntop4 ntop6 (mkIn a p) = .ok (some ([0x5b] ++ t ++ [0x5d, 0x3a] ++ decimal p)) := by
  have hc := copyOut_all (mkIn a p).name
  rw [show (mkIn a p).name.size = sizeofSockaddrIn by simp [mkIn, zeros, ha, sizeofSockaddrIn]] at hc
  have e1 : (mkIn a p).name.toList.drop 4 = a ++ zeros 8 := rfl
  have e2 : ((mkIn a p).name.toList.drop 2).take 2 = [UInt8.ofNat (p / 256), UInt8.ofNat (p % 256)] := rfl
  rw [prettyprint, if_pos (by rfl), if_neg (by simp [mkIn, sizeofSockaddrIn]), hc, Res.ok_bind, e1, List.take_left' ha, ht]
  simp only [e2, port_bytes p hp]

theorem prettyprint_in6 (ntop4 ntop6 : List UInt8 → Option (List UInt8)) (a t : List UInt8) (p : Nat)
    (ha : a.length = 16) (ht : ntop6 a = some t) (hp : p ≤ 65535) :
    prettyprint ntop4 ntop6 (mkIn6 a p) = .ok (some ([0x5b] ++ t ++ [0x5d, 0x3a] ++ decimal p)) := by
  have hc := copyOut_all (mkIn6 a p).name
  rw [show (mkIn6 a p).name.size = sizeofSockaddrIn6 by simp [mkIn6, zeros, ha, sizeofSockaddrIn6]] at hc
  have e1 : (mkIn6 a p).name.toList.drop 8 = a ++ zeros 4 := rfl
  have e2 : ((mkIn6 a p).name.toList.drop 2).take 2 = [UInt8.ofNat (p / 256), UInt8.ofNat (p % 256)] := rfl
  rw [prettyprint, if_neg (by simp [mkIn6, AF_INET, AF_INET6]), if_pos (by rfl), if_neg (by simp [mkIn6, sizeofSockaddrIn6]), hc, Res.ok_bind, e1, List.take_left' ha, ht]
  simp only [e2, port_bytes p hp]

theorem prettyprint_un (ntop4 ntop6 : List UInt8 → Option (List UInt8)) (path : List UInt8)
    (h0 : ∀ c ∈ path, c ≠ 0) (hl : path.length < sunPathSize) :
    prettyprint ntop4 ntop6 (mkUn path) = .ok (some path) := by
  have hz : zeros (sunPathSize - path.length) = 0 :: zeros (sunPathSize - path.length - 1) := by
    have : sunPathSize - path.length = (sunPathSize - path.length - 1) + 1 := by omega
    rw [zeros, this, List.replicate_succ]; rfl
  have hc : StrAt (mkUn path).name 2 path := ⟨h0, zeros (sunPathSize - path.length - 1), by simp [mkUn, hz]⟩
  have hf : (mkUn path).family = AF_UNIX := rfl
  unfold prettyprint
  rw [hf, if_neg (by decide), if_neg (by decide), if_pos (by rfl), hc.read, Res.ok_bind]

end Percival.Proofs.SockAddr

namespace Percival.Proofs.Lines
open Percival.Model Percival.Model.Lines Percival.Proofs.SockAddr

theorem takeLine_length_le (n : Nat) (file : List UInt8) : (takeLine n file).length ≤ n := by
  induction n generalizing file with
  | zero => simp [takeLine]
  | succ n ih =>
    cases file with
    | nil => simp [takeLine]
    | cons c cs =>
      simp only [takeLine]
      split
      · simp
      · have := ih cs; simp; omega

theorem takeLine_ne_nil (n : Nat) (file : List UInt8) (hn : 1 ≤ n) (hf : file ≠ []) : takeLine n file ≠ [] := by
  cases n with
  | zero => omega
  | succ n =>
    cases file with
    | nil => exact absurd rfl hf
    | cons c cs => simp only [takeLine]; split <;> simp

theorem takeLine_nil_file (n : Nat) : takeLine n [] = [] := by
  cases n <;> simp [takeLine]

theorem store_ok (l : List UInt8) (buf : Buf) (i : Nat) (h : i + l.length < buf.size) :
    ∃ b post, store buf i l = .ok b ∧ b.size = buf.size ∧ b.toList = buf.toList.take i ++ l ++ 0 :: post := by
  induction l generalizing buf i with
  | nil =>
    obtain ⟨b, hw, hl, hs⟩ := wr_toList buf i 0 (by simpa using h)
    refine ⟨b, buf.toList.drop (i+1), by simp [store, hw], hs, ?_⟩
    rw [hl, List.set_eq_take_append_cons_drop, if_pos (by simpa using h)]
    simp
  | cons c cs ih =>
    simp only [List.length_cons] at h
    obtain ⟨b1, hw, hl, hs⟩ := wr_toList buf i c (by omega)
    obtain ⟨b, post, hst, hsz, hbl⟩ := ih b1 (i+1) (by omega)
    refine ⟨b, post, by simp [store, hw, hst], by omega, ?_⟩
    rw [hbl, hl, List.set_eq_take_append_cons_drop, if_pos (by simp; omega)]
    have : (List.take i buf.toList).length = i := by simp; omega
    rw [List.take_append, this, List.take_of_length_le (by omega)]
    simp

theorem fgets_ok (buf : Buf) (h2 : 2 ≤ buf.size) (file : List UInt8) :
    (fgets buf buf.size file = .ok none) ∨
    ∃ b line rest, fgets buf buf.size file = .ok (some (b, rest)) ∧ b.size = buf.size ∧ StrAt b 0 line ∧
      rest.length < file.length := by
  unfold fgets
  have hlen := takeLine_length_le (buf.size - 1) file
  by_cases hl : takeLine (buf.size - 1) file = []
  · left; simp [hl]
  · right
    obtain ⟨b, post, hst, hsz, hbl⟩ := store_ok (takeLine (buf.size - 1) file) buf 0 (by omega)
    obtain ⟨line, hline⟩ := StrAt.of_nul (b := b) (i := 0) (by rw [List.drop_zero, hbl]; simp)
    have hf : file ≠ [] := by
      intro h; subst h; exact hl (takeLine_nil_file _)
    refine ⟨b, line, file.drop (takeLine (buf.size - 1) file).length, ?_, hsz, hline, ?_⟩
    · simp [hl, hst]
    · have : 0 < (takeLine (buf.size - 1) file).length := List.length_pos_iff.mpr hl
      have : 0 < file.length := List.length_pos_iff.mpr hf
      simp; omega

theorem strcspn_le (line rej : List UInt8) : strcspnL line rej ≤ line.length := by
  unfold strcspnL; exact (List.takeWhile_sublist _).length_le

theorem mem_takeWhile (p : UInt8 → Bool) (l : List UInt8) : ∀ c ∈ l.takeWhile p, p c = true :=
  List.all_eq_true.mp List.all_takeWhile

theorem take_strcspn (line rej : List UInt8) :
    line.take (strcspnL line rej) = line.takeWhile fun c => !rej.contains c := by
  unfold strcspnL; exact (List.prefix_iff_eq_take.mp (List.takeWhile_prefix _)).symm

theorem take_strcspn_mem (line : List UInt8) : ∀ c ∈ line.take (strcspnL line [0x0d, 0x0a]), c ≠ 0x0a ∧ c ≠ 0x0d := by
  intro c hc
  rw [take_strcspn] at hc
  have := mem_takeWhile _ _ c hc
  simp at this
  exact ⟨this.2, this.1⟩

def Good (size : Nat) (s : List UInt8) : Prop := s.length < size ∧ ∀ c ∈ s, c ≠ 0 ∧ c ≠ 0x0a ∧ c ≠ 0x0d

/-- `buf[strcspn(buf, "\r\n")] = '\0'`: what is left is the line up to its first CR or LF -/
theorem chomp {b : Buf} {line : List UInt8} (h : StrAt b 0 line) :
    ∃ b', wr b (strcspnL line [0x0d, 0x0a]) 0 = .ok b' ∧ b'.size = b.size ∧
      StrAt b' 0 (line.take (strcspnL line [0x0d, 0x0a])) ∧ Good b.size (line.take (strcspnL line [0x0d, 0x0a])) := by
  obtain ⟨b', hw, hs, h1, _⟩ := h.cut _ (strcspn_le line [0x0d, 0x0a])
  rw [Nat.zero_add] at hw
  refine ⟨b', hw, hs, h1, ?_, fun c hc => ⟨h1.1 c hc, take_strcspn_mem line c hc⟩⟩
  have := h.lt
  simp; omega

theorem readpassFile_safe (init : Buf) (hsz : 2 ≤ init.size) (file : List UInt8) :
    ∃ r, readpassFile init file = .ok r ∧
      ∀ pw, r = some pw → pw.length < init.size ∧ ∀ c ∈ pw, c ≠ 0 ∧ c ≠ 0x0a ∧ c ≠ 0x0d := by
  have tail : ∀ (b : Buf) (rest line : List UInt8), b.size = init.size → StrAt b 0 line →
      ∃ r, (if (!rest.isEmpty) = true then (Res.ok none : Res (Option (List UInt8)))
        else cstrAt b 0 >>= fun line => wr b (strcspnL line [0x0d, 0x0a]) 0 >>= fun b =>
          cstrAt b 0 >>= fun pw => .ok (some pw)) = .ok r ∧
        ∀ pw, r = some pw → pw.length < init.size ∧ ∀ c ∈ pw, c ≠ 0 ∧ c ≠ 0x0a ∧ c ≠ 0x0d := by
    intro b rest line hs hb
    by_cases hr : (!rest.isEmpty) = true
    · exact ⟨none, by rw [if_pos hr], by simp⟩
    · obtain ⟨b', hw, _, h1, hg⟩ := chomp hb
      refine ⟨some _, by rw [if_neg hr, hb.read, Res.ok_bind, hw, Res.ok_bind, h1.read, Res.ok_bind], ?_⟩
      intro pw hpw
      injection hpw with hpw
      subst hpw
      rw [← hs]; exact hg
  unfold readpassFile
  rcases fgets_ok init hsz file with h | ⟨b, line, rest, h, hs, hb, _⟩
  · obtain ⟨b, hw, hl, hs⟩ := wr_toList init 0 0 (by omega)
    rw [h, Res.ok_bind]
    simp only [hw, Res.ok_bind]
    exact tail b file [] hs ⟨by simp, init.toList.drop 1, by
      rw [hl, List.set_eq_take_append_cons_drop, if_pos (by simp; omega)]; simp⟩
  · rw [h, Res.ok_bind]
    simp only [Res.ok_bind]
    exact tail b rest line hs hb

def OptGood (size : Nat) (o : Option (List UInt8)) : Prop := ∀ s, o = some s → Good size s

theorem keysLoopF_ok (size : Nat) (h2 : 2 ≤ size) (fuel : Nat) (buf : Buf) (file : List UInt8)
    (id secret : Option (List UInt8)) (hs : buf.size = size) (hf : file.length < fuel)
    (hid : OptGood size id) (hsec : OptGood size secret) :
    ∃ r, keysLoopF size fuel buf file id secret = .ok r ∧
      ∀ i s, r = some (i, s) → OptGood size i ∧ OptGood size s := by
  induction fuel generalizing buf file id secret with
  | zero => omega
  | succ f ih =>
    have done : ∃ r, (Res.ok (some (id, secret)) : Res (Option (Option (List UInt8) × Option (List UInt8)))) = .ok r ∧
        ∀ i s, r = some (i, s) → OptGood size i ∧ OptGood size s := by
      refine ⟨_, rfl, ?_⟩
      intro i s h
      injection h with h; injection h with h1 h2
      subst h1; subst h2; exact ⟨hid, hsec⟩
    have err : ∃ r, (Res.ok none : Res (Option (Option (List UInt8) × Option (List UInt8)))) = .ok r ∧
        ∀ i s, r = some (i, s) → OptGood size i ∧ OptGood size s := ⟨none, rfl, by simp⟩
    unfold keysLoopF
    subst hs
    rcases fgets_ok buf h2 file with h | ⟨b, line, rest, h, hbs, hb, hrest⟩
    · rw [h, Res.ok_bind]; exact done
    · rw [h, Res.ok_bind]
      simp only []
      obtain ⟨b1, hw1, hs1, hc1, hg1⟩ := chomp hb
      rw [hb.read, Res.ok_bind, rdR_ok _ _ (by have := hb.lt; have := strcspn_le line [0x0d, 0x0a]; omega),
        Res.ok_bind]
      split
      · exact done
      · rw [hw1, Res.ok_bind, hc1.read, Res.ok_bind]
        generalize line.take (strcspnL line [0x0d, 0x0a]) = line2 at hc1 hg1
        cases hse : strchrL line2 0x3d with
        | none => exact err
        | some e =>
          have he := strchrL_lt _ _ _ hse
          obtain ⟨b2, hw2, hs2, hn, hv⟩ := hc1.cut e (Nat.le_of_lt he)
          simp only [Nat.zero_add] at hw2 hv
          simp only []
          rw [hw2, Res.ok_bind, hn.read, Res.ok_bind, (hv he).read, Res.ok_bind]
          have hvo : OptGood buf.size (some (line2.drop (e+1))) := by
            intro s hs; injection hs with hs; subst hs
            refine ⟨?_, fun c hc => hg1.2 c (List.mem_of_mem_drop hc)⟩
            have := hg1.1; simp; omega
          split
          · cases id with
            | some _ => exact err
            | none => exact ih b2 rest (some (line2.drop (e+1))) secret (by omega) (by omega) hvo hsec
          · split
            · cases secret with
              | some _ => exact err
              | none => exact ih b2 rest id (some (line2.drop (e+1))) (by omega) (by omega) hid hvo
            · exact err

theorem awsReadkeys_good (init : Buf) (hsz : 2 ≤ init.size) (file : List UInt8) :
    ∃ r, awsReadkeys init file = .ok r ∧ ∀ id secret, r = .keys id secret → Good init.size id ∧ Good init.size secret := by
  obtain ⟨r, hr, hg⟩ := keysLoopF_ok init.size hsz (file.length + 1) init file none none rfl (by omega)
    (by intro s h; simp at h) (by intro s h; simp at h)
  unfold awsReadkeys
  rw [hr, Res.ok_bind]
  split
  · rename_i id secret
    refine ⟨_, rfl, ?_⟩
    intro i s h
    injection h with h1 h2
    subst h1; subst h2
    have := hg _ _ rfl
    exact ⟨this.1 _ rfl, this.2 _ rfl⟩
  · exact ⟨.fail, rfl, by simp⟩

end Percival.Proofs.Lines
