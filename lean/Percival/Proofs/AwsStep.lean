import Percival.Model.AwsStep
import Percival.Proofs.AwsSign
/-! Lean's library rendering of an integer (`toString`, used for the L1 part by `Model.AwsStep`) is the model's
`%d` (`Model.AwsSign.decimal`) (helper lemmas for C19). -/
namespace Percival.Proofs.AwsStep
open Percival Percival.Spec Percival.Spec.SigV4 Percival.Model.AwsSign Percival.Model.AwsStep
theorem toDigits_decimalNat (n : Nat) :
    (Nat.toDigits 10 n).map (fun c => UInt8.ofNat c.toNat) = decimalNat n := by
  rw [AwsSign.decimalNat_eq, toDigits_digs (by decide), List.map_map]
  exact List.map_congr_left fun d hd =>
    (digitChar_byte d (Nat.lt_of_lt_of_le (digs_lt (by decide) n d hd) (by decide))).2

theorem dec_eq_decimal (i : Int) : dec i = decimal i := by
  unfold dec decimal ascii
  cases i with
  | ofNat m =>
    have : ¬ (Int.ofNat m < 0) := Int.not_lt.mpr (Int.natCast_nonneg m)
    have hn : (Int.ofNat m).natAbs = m := rfl
    simp only [this, if_false, hn]
    show (toString m).toList.map _ = _
    rw [Nat.toString_eq_repr, Nat.repr, String.toList_ofList]
    exact toDigits_decimalNat m
  | negSucc m =>
    have : Int.negSucc m < 0 := Int.negSucc_lt_zero m
    simp only [this, if_true]
    show ("-" ++ Nat.repr (m + 1)).toList.map _ = _
    have hn : (Int.negSucc m).natAbs = m + 1 := rfl
    rw [String.toList_append, List.map_append, Nat.repr]
    simp only [String.toList_ofList, toDigits_decimalNat, hn]
    rfl

/-! The L1 part of a signing line, against a result given as `Option.map` over the clock. -/

theorem ofHeaders_map_clock (now : Clock) (sha : Bytes) (auth : Bytes → Bytes) :
    ofHeaders (AwsSign.headersAt now sha auth) = atClock now fun ts => .headers sha ts (auth ts) := by
  unfold atClock AwsSign.headersAt
  rcases clock now with _ | ⟨_, _⟩ <;> rfl

theorem ofQuery_map_clock (now : Clock) (q : Bytes → Bytes) :
    ofQuery (((clock now).map Prod.snd).map q) = atClock now fun ts => .query (q ts) := by
  unfold atClock
  rcases clock now with _ | ⟨_, _⟩ <;> rfl

/-- a line has an L1 part only inside the domain -/
theorem l1_some {α : Type} {c : Bool} {x a : α} (h : (if !c then none else some x) = some a) : c = true ∧ x = a := by
  cases c
  · cases h
  · exact ⟨rfl, Option.some.inj h⟩

end Percival.Proofs.AwsStep
