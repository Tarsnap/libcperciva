import Percival.Spec.Inet
import Percival.Proofs.SockLines
import Percival.Proofs.Ascii
/-! `inet_pton(AF_INET) ∘ inet_ntop(AF_INET) = id` for `Spec.Inet`: `decOf` writes what `%d` writes (`decimal`), and the four
octets come back (`parse4_print4`); the text has no NUL and no `':'` (`print4_chars`).  Joins and splits, for `'.'` here and
for `':'` in `Proofs/Inet6.lean`: a join is its first group and then the separator and a group for each further one
(`joinWith_cons`), `splitOn` undoes a join of separator-free groups (`splitOn_join`), and a character of a join is the
separator or in a group (`join_chars`). -/
namespace Percival.Proofs.Inet4
open Percival.Model Percival.Spec Percival.Model.SockAddr Percival.Proofs.SockAddr

theorem parse4_length (s a : List UInt8) (h : Inet.parse4 s = some a) : a.length = 4 := by
  unfold Inet.parse4 at h
  split at h
  · injection h with h; subst h; rfl
  · cases h

/-- `Spec.Inet` prints a number as `%d` does: both write the digits `digs 10 n` -/
theorem decOf_eq_decimal (n : Nat) : Inet.decOf n = decimal n := by
  rw [decimal_eq, ← toDigits_utf8 (by decide) (by decide)]
  exact Ascii.toUTF8_toList_ofList _

theorem decOctet_decimal : ∀ n, n < 256 → Inet.decOctet (decimal n) = some (UInt8.ofNat n) := by decide +kernel

theorem decOctet_byte (b : UInt8) : Inet.decOctet (decimal b.toNat) = some b := by
  rw [decOctet_decimal _ b.toNat_lt]; simp

theorem splitOn_ne_nil (sep : UInt8) (s : List UInt8) : Inet.splitOn sep s ≠ [] := by
  cases s with
  | nil => simp [Inet.splitOn]
  | cons c cs =>
    unfold Inet.splitOn
    split
    · simp
    · split <;> simp

theorem splitOn_single (sep : UInt8) (g : List UInt8) (h : sep ∉ g) : Inet.splitOn sep g = [g] := by
  induction g with
  | nil => rfl
  | cons c g ih =>
    have hc : (c == sep) = false := by
      have : c ≠ sep := fun e => h (by simp [e])
      simpa using this
    unfold Inet.splitOn
    rw [ih (fun hm => h (List.mem_cons_of_mem _ hm))]
    simp [hc]

theorem splitOn_cons (sep : UInt8) (g rest : List UInt8) (h : sep ∉ g) :
    Inet.splitOn sep (g ++ sep :: rest) = g :: Inet.splitOn sep rest := by
  induction g with
  | nil =>
    rw [List.nil_append]
    conv => lhs; unfold Inet.splitOn
    cases hr : Inet.splitOn sep rest with
    | nil => exact absurd hr (splitOn_ne_nil sep rest)
    | cons x xs => simp
  | cons c g ih =>
    have hc : (c == sep) = false := by
      have : c ≠ sep := fun e => h (by simp [e])
      simpa using this
    rw [List.cons_append]
    conv => lhs; unfold Inet.splitOn
    rw [ih (fun hm => h (List.mem_cons_of_mem _ hm))]
    simp [hc]

theorem decimal_no_dot (n : Nat) : (0x2e : UInt8) ∉ decimal n := fun hc =>
  absurd (decimal_digits n _ hc) (by decide)

theorem len4 (a : List UInt8) (h : a.length = 4) : ∃ a0 a1 a2 a3, a = [a0, a1, a2, a3] := by
  match a, h with
  | [a0, a1, a2, a3], _ => exact ⟨a0, a1, a2, a3, rfl⟩

theorem joinWith_cons2 (sep : UInt8) (g g' : List UInt8) (gs : List (List UInt8)) :
    Inet.joinWith sep (g :: g' :: gs) = g ++ sep :: Inet.joinWith sep (g' :: gs) := rfl

/-- a join is its first group, then the separator and a group for each further one -/
theorem joinWith_cons (sep : UInt8) (g : List UInt8) (gs : List (List UInt8)) :
    Inet.joinWith sep (g :: gs) = g ++ gs.flatMap (sep :: ·) := by
  induction gs generalizing g with
  | nil => simp [Inet.joinWith]
  | cons g' gs ih => rw [joinWith_cons2, ih, List.flatMap_cons, List.cons_append]

theorem splitOn_join (sep : UInt8) (gs : List (List UInt8)) (h : ∀ g ∈ gs, sep ∉ g) (hn : gs ≠ []) :
    Inet.splitOn sep (Inet.joinWith sep gs) = gs := by
  match gs, h, hn with
  | [g], h, _ => exact splitOn_single _ g (h g (by simp))
  | g :: g' :: gs, h, _ =>
    rw [joinWith_cons2, splitOn_cons _ _ _ (h g (by simp)),
      splitOn_join sep (g' :: gs) (fun x hx => h x (List.mem_cons_of_mem _ hx)) (by simp)]

theorem join_chars (sep : UInt8) (gs : List (List UInt8)) (c : UInt8) (h : c ∈ Inet.joinWith sep gs) :
    c = sep ∨ ∃ g ∈ gs, c ∈ g := by
  cases gs with
  | nil => cases h
  | cons g gs =>
    rw [joinWith_cons, List.mem_append, List.mem_flatMap] at h
    rcases h with h | ⟨x, hx, h⟩
    · exact .inr ⟨g, by simp, h⟩
    · exact (List.mem_cons.mp h).imp id fun hc => ⟨x, by simp [hx], hc⟩

theorem parse4_print4 (a : List UInt8) (h : a.length = 4) : Inet.parse4 (Inet.print4 a) = some a := by
  obtain ⟨a0, a1, a2, a3, rfl⟩ := len4 a h
  unfold Inet.parse4 Inet.print4
  rw [splitOn_join _ _ (by simp [decOf_eq_decimal, decimal_no_dot]) (by simp)]
  simp only [List.map, decOf_eq_decimal, decOctet_byte]

theorem print4_chars (a : List UInt8) : ∀ c ∈ Inet.print4 a, c ≠ 0 ∧ c ≠ 0x3a := by
  intro c hc
  rcases join_chars _ _ c hc with rfl | ⟨g, hg, hcg⟩
  · decide
  · obtain ⟨x, _, rfl⟩ := List.mem_map.mp hg
    rw [decOf_eq_decimal] at hcg
    exact ⟨decimal_nul _ c hcg, fun e => decimal_colon _ (e ▸ hcg)⟩

end Percival.Proofs.Inet4
