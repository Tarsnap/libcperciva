import Percival.Proofs.EArrayStep
import Percival.Proofs.EQueue
import Percival.Proofs.SeqMap
import Percival.Proofs.AllocCalls
import Percival.Proofs.TimerQueue
/-!
# C14, data structures: a reported allocation failure leaves the structure as it was, and the allocator's count of
live blocks is what the structure holds (elastic array, queue, map, pointer heap, timer queue)

The last section has the operations of `ptrheap.c` and `timerqueue.c` on a heap that satisfies C13's invariant and the
storage invariant `HInv`: both are kept, whatever the oracle answers.
-/
namespace Percival.Proofs.AllocFail
open Percival.Model Percival.Spec.DS
open Percival.Proofs.EArray
open Percival.Proofs.MemCalls

/-- (the invariant and the contract are not needed: a refused `realloc` leaves the array alone, whatever it is) -/
theorem ea_fail_unchanged (a : EArray.EA) (op : EaOp) (m : Mem) (_h : Inv a) (_hc : eaContract (EArray.abs a) op)
    (hf : (EArray.step a op m).1.st = .fail) : (EArray.step a op m).2.1 = a := by
  cases op with
  | resize n r fill =>
    have hs := (resizeRec_acct a n r m).2.2
    simp only [EArray.step] at hf ⊢
    rcases hres : EArray.resizeRec a n r m with ⟨ok, a', m'⟩
    rw [hres] at hs hf
    cases ok
    · exact (hs rfl).1
    · simp only at hf ⊢
      split at hf <;> simp [EArray.ans] at hf
  | append data n r =>
    have hs := (append_acct a data n r m).2.2
    simp only [EArray.step] at hf ⊢
    rcases hres : EArray.append a data n r m with ⟨st, a', m'⟩
    rw [hres] at hs hf
    exact hs hf
  | truncate =>
    have hs := (truncate_acct a m).2.2
    simp only [EArray.step] at hf ⊢
    rcases hres : EArray.truncate a m with ⟨ok, a', m'⟩
    rw [hres] at hs hf
    cases ok
    · exact hs rfl
    · simp [EArray.ans] at hf
  | get pos r =>
    simp only [EArray.step] at hf ⊢
    split at hf <;> simp [EArray.ans] at hf
  | set pos r rec =>
    simp only [EArray.step] at hf ⊢
    split at hf <;> simp [EArray.ans] at hf
  | shrink n r => simp [EArray.step, EArray.ans] at hf
  | getsize r => simp [EArray.step, EArray.ans] at hf
  | exportdup r => simp only [EArray.step]

/-- `elasticarray_shrink` cannot fail, whatever the allocator does -/
theorem ea_shrink_ok (a : EArray.EA) (n : Nat) (r : RecLen) (m : Mem) :
    (EArray.step a (.shrink n r) m).1.st = .ok := by
  simp [EArray.step, EArray.ans]

/-- copies handed to the caller by successful `exportdup`s in a trace (the caller owns and frees them) -/
def dups : List (EaOp × EaAns) → Int
  | [] => 0
  | (.exportdup _, a) :: rest => (if a.st = .ok then 1 else 0) + dups rest
  | _ :: rest => dups rest

theorem handed_eq (a : EArray.EA) (op : EaOp) (m : Mem) :
    handed op (EArray.step a op m).1 = dups [(op, (EArray.step a op m).1)] := by
  cases op <;> try rfl
  simp only [EArray.step, EArray.exportdup]
  rcases m.malloc a.size with ⟨_ | _, m'⟩
  · rfl
  · dsimp only
    cases EArray.readAt a.buf 0 a.size <;> rfl

theorem dups_cons (x : EaOp × EaAns) (rest : List (EaOp × EaAns)) : dups (x :: rest) = dups [x] + dups rest := by
  obtain ⟨op, a⟩ := x
  cases op <;> simp [dups]

theorem ea_run_live : ∀ (ops : List EaOp) (a : EArray.EA) (m : Mem), Inv a → Contracts a ops m →
    (EArray.run a ops m).2.2.live + bufBlocks a = m.live + bufBlocks (EArray.run a ops m).2.1 + dups (EArray.run a ops m).1
  | [], a, m, _, _ => by simp [EArray.run, dups]
  | op :: rest, a, m, h, hc => by
    obtain ⟨hc1, hc2⟩ := hc
    have hs := step_ok a op m h hc1
    have hl := (step_acct a op m (eaAdmit_not_oob hs.2)).1.live
    rw [handed_eq] at hl
    have ih := ea_run_live rest (EArray.step a op m).2.1 (EArray.step a op m).2.2 hs.1 hc2
    simp only [EArray.run]
    rcases hst : EArray.step a op m with ⟨an, a', m'⟩
    rw [hst] at hl ih
    simp only at hl ih ⊢
    rcases hrun : EArray.run a' rest m' with ⟨tr, a'', m''⟩
    rw [hrun] at ih
    simp only at ih ⊢
    rw [dups_cons]; omega

/-- a run of queue operations, whatever the operations and the queue: the oracle is only advanced and the count of
live blocks follows the queue's buffer (the single steps need no invariant: `EQueue.step_acct`) -/
theorem eq_run_calls : ∀ (ops : List EqOp) (q : EQueue.EQ) (m : Mem),
    Calls m (EQueue.run q ops m).2.2 (bufBlocks (EQueue.run q ops m).2.1.ea - bufBlocks q.ea)
  | [], q, m => (Calls.refl m).cast (by simp [EQueue.run])
  | op :: rest, q, m => by
    have c1 := (Percival.Proofs.EQueue.step_acct q op m).calls
    have c2 := eq_run_calls rest (EQueue.step q op m).2.1 (EQueue.step q op m).2.2
    rcases hst : EQueue.step q op m with ⟨an, q', m'⟩
    rw [hst] at c1 c2
    rcases hrun : EQueue.run q' rest m' with ⟨tr, q'', m''⟩
    rw [hrun] at c2
    dsimp only at c1 c2
    simp only [EQueue.run, hst, hrun]
    exact (c1.trans c2).cast (by omega)

theorem sm_run_calls : ∀ (ops : List SmOp) (s : SeqMap.SM) (m : Mem),
    Calls m (SeqMap.run s ops m).2.2 (bufBlocks (SeqMap.run s ops m).2.1.q.ea - bufBlocks s.q.ea)
  | [], s, m => (Calls.refl m).cast (by simp [SeqMap.run])
  | op :: rest, s, m => by
    have c1 := (Percival.Proofs.SeqMap.step_acct s op m).calls
    have c2 := sm_run_calls rest (SeqMap.step s op m).2.1 (SeqMap.step s op m).2.2
    rcases hst : SeqMap.step s op m with ⟨an, s', m'⟩
    rw [hst] at c1 c2
    rcases hrun : SeqMap.run s' rest m' with ⟨tr, s'', m''⟩
    rw [hrun] at c2
    dsimp only at c1 c2
    simp only [SeqMap.run, hst, hrun]
    exact (c1.trans c2).cast (by omega)

/-- what `elasticarray_free` leaves of an array made by `elasticarray_init` and operated on within the contract: the
blocks that were there before, and the copies handed out -/
theorem ea_life {nrec : Nat} {r : RecLen} {m m1 : Mem} {a : EArray.EA} (hi : EArray.init nrec r m = (some a, m1))
    (ops : List EaOp) (hc : Contracts a ops m1) :
    (EArray.free (EArray.run a ops m1).2.1 (EArray.run a ops m1).2.2).live = m.live + dups (EArray.run a ops m1).1 := by
  obtain ⟨hinv, _, _, _, hlive, _⟩ := Percival.Proofs.EArray.init_some hi
  have hl := ea_run_live ops a m1 hinv hc
  rw [Percival.Proofs.EArray.free_live]; omega

theorem eq_life {r : RecLen} {m m1 : Mem} {q : EQueue.EQ} (hi : EQueue.init r m = (some q, m1)) (ops : List EqOp) :
    (EQueue.free (EQueue.run q ops m1).2.1 (EQueue.run q ops m1).2.2).live = m.live := by
  have hlive := (Percival.Proofs.EQueue.init_some hi).2.2.2.2.2.1
  have hl := (eq_run_calls ops q m1).live
  rw [Percival.Proofs.EQueue.free_live]; omega

theorem sm_life {m m1 : Mem} {s : SeqMap.SM} (hi : SeqMap.init m = (some s, m1)) (ops : List SmOp) :
    (SeqMap.free (SeqMap.run s ops m1).2.1 (SeqMap.run s ops m1).2.2).live = m.live := by
  have hlive := (Percival.Proofs.SeqMap.init_some hi).2.2.2.2.2.2.1
  have hl := (sm_run_calls ops s m1).live
  rw [Percival.Proofs.SeqMap.free_live]; omega

/-! ### pointer heap and timer queue, with their storage

C13's statement about the heap order next to `AllocCalls.append_one` / `shrink_one` about the array behind it. -/

theorem heap_add_spec (key : Nat → Int) (ha : HeapAlloc.HeapA) (e : Nat) (m : Mem) (h : HInv ha)
    (hsmall : 8 * (ha.h.a.size + 1) ≤ EArray.SIZE_MAX) :
    ((HeapAlloc.add key ha e m).1 = true →
      (HeapAlloc.add key ha e m).2.1.h = Heap.add key ha.h e ∧ HInv (HeapAlloc.add key ha e m).2.1 ∧
      (HeapAlloc.add key ha e m).2.2.refusals = m.refusals) ∧
    ((HeapAlloc.add key ha e m).1 = false →
      (HeapAlloc.add key ha e m).2.1 = ha ∧ (HeapAlloc.add key ha e m).2.2.refusals = m.refusals + 1 ∧
      (HeapAlloc.add key ha e m).2.2.live = m.live) ∧
    ((HeapAlloc.add key ha e m).1 = false ↔
      (EArray.append (HeapAlloc.shape ha.h.a.size ha.alloc) (SeqMap.encPtr e) 1 SeqMap.ptrLen m).1 ≠ .ok) := by
  unfold HeapAlloc.add
  rcases hres : EArray.append (HeapAlloc.shape ha.h.a.size ha.alloc) (SeqMap.encPtr e) 1 SeqMap.ptrLen m with ⟨st, a', m'⟩
  obtain ⟨c, hok, hinv⟩ := Percival.Proofs.AllocCalls.append_one ha e m st a' m' hres
  obtain ⟨h1, h2⟩ := hinv h
  cases st
  · exact ⟨fun _ => ⟨rfl, h1 rfl _ (heap_add_size key ha.h e), hok rfl⟩, by simp, by simp⟩
  all_goals
    obtain ⟨ha', hrf⟩ := h2 nofun
    exact ⟨by simp, fun _ => ⟨by simp only; rw [ha'], hrf hsmall, by rw [c.live, ha']; omega⟩, by simp⟩

/-- `ptrheap_delete` of the root of a non-empty heap, with its storage: the least element leaves, the invariants stay -/
theorem heap_delete_root (key : Nat → Int) (ha : HeapAlloc.HeapA) (m : Mem) (hi : Percival.Proofs.Heap.Inv key ha.h)
    (hh : HInv ha) (hne : 0 < ha.h.a.size) :
    ∃ ha' m' x, HeapAlloc.delete key ha 0 m = some (ha', m') ∧ Heap.getmin ha.h = some x ∧
      Percival.Proofs.Heap.Inv key ha'.h ∧ ha.h.a.toList.Perm (x :: ha'.h.a.toList) ∧ HInv ha' := by
  obtain ⟨h', x, hdel, hi', hx, _, hperm, _⟩ := Percival.Proofs.Heap.delete_spec key ha.h 0 hi hne
  unfold HeapAlloc.delete
  rw [hdel]
  dsimp only
  rcases hres : EArray.shrink (HeapAlloc.shape ha.h.a.size ha.alloc) 1 SeqMap.ptrLen m with ⟨a', m'⟩
  have hlen := hperm.length_eq
  simp only [Array.length_toList, List.length_cons] at hlen
  exact ⟨_, _, x, rfl, hx, hi', hperm, (Percival.Proofs.AllocCalls.shrink_one ha m a' m' hres).2 hh h' hlen.symm⟩

theorem tq_add_fail_spec (t : HeapAlloc.TQA) (sec usec : Int) (ptr : Nat) (m : Mem)
    (h : HInv (HeapAlloc.heapOf t)) (hsmall : 8 * (t.q.h.a.size + 1) ≤ EArray.SIZE_MAX)
    (hf : (HeapAlloc.tqAdd t sec usec ptr m).1 = none) :
    (HeapAlloc.tqAdd t sec usec ptr m).2.1 = t ∧ (HeapAlloc.tqAdd t sec usec ptr m).2.2.live = m.live ∧
    (HeapAlloc.tqAdd t sec usec ptr m).2.2.refusals = m.refusals + 1 := by
  rcases hr : HeapAlloc.tqAdd t sec usec ptr m with ⟨o, t', m'⟩
  rw [hr] at hf
  obtain ⟨c, _, hn⟩ := Percival.Proofs.AllocCalls.tqAdd_calls t sec usec ptr m o t' m' hr
  obtain ⟨rfl, hrf⟩ := (hn hf).2 h
  cases hf
  exact ⟨rfl, by rw [c.live]; simp, hrf hsmall⟩

/-- `timerqueue_delete` of a live cookie, with its storage: cannot fail, the cookie leaves, the invariants stay -/
theorem tq_delete_spec (t : HeapAlloc.TQA) (r : Nat) (m : Mem) (hq : Percival.Proofs.TQ.TQInv t.q)
    (hh : HInv (HeapAlloc.heapOf t)) (hr : r ∈ t.q.h.a.toList) :
    ∃ t' m', HeapAlloc.tqDelete t r m = some (t', m') ∧ Percival.Proofs.TQ.TQInv t'.q ∧
      t.q.h.a.toList.Perm (r :: t'.q.h.a.toList) ∧ HInv (HeapAlloc.heapOf t') ∧ Percival.Proofs.EvRegTimer.Step m m' := by
  obtain ⟨q', hdel, hq', hperm, _⟩ := Percival.Proofs.TQ.tq_delete t.q r hq hr
  unfold HeapAlloc.tqDelete
  rw [hdel]
  dsimp only
  rcases hres : EArray.shrink (HeapAlloc.shape t.q.h.a.size t.alloc) 1 SeqMap.ptrLen m with ⟨a', m'⟩
  obtain ⟨c, hinv⟩ := Percival.Proofs.AllocCalls.shrink_one (HeapAlloc.heapOf t) m a' m' hres
  have hlen := hperm.length_eq
  simp only [Array.length_toList, List.length_cons] at hlen
  exact ⟨_, _, rfl, hq', hperm, hinv hh q'.h hlen.symm, c.step.trans (Percival.Proofs.EvRegTimer.step_free _ _)⟩

open Percival.Model.TimerQueue (key tvKey lookup) in
/-- `timerqueue_getptr` with its storage: nothing is due, or a least record, which is due, is released -/
theorem tq_getptr_spec (t : HeapAlloc.TQA) (sec usec : Int) (m : Mem) (hq : Percival.Proofs.TQ.TQInv t.q)
    (hh : HInv (HeapAlloc.heapOf t)) :
    (HeapAlloc.tqGetptr t sec usec m = (t, none, m) ∧ ∀ x ∈ t.q.h.a.toList, key t.q.recs x > tvKey sec usec) ∨
    (∃ t' m' r x, HeapAlloc.tqGetptr t sec usec m = (t', some x.ptr, m') ∧
      Percival.Spec.PQ.IsLeast (key t.q.recs) t.q.h.a.toList r ∧ key t.q.recs r ≤ tvKey sec usec ∧
      lookup t.q.recs r = some x ∧ Percival.Proofs.TQ.TQInv t'.q ∧ t.q.h.a.toList.Perm (r :: t'.q.h.a.toList) ∧
      t'.q.recs = t.q.recs ∧ HInv (HeapAlloc.heapOf t') ∧
      Calls m m' (Percival.Proofs.EvRegAcct.bb t'.alloc - Percival.Proofs.EvRegAcct.bb t.alloc - 1)) := by
  have hg := Percival.Proofs.TQ.tq_getptr t.q sec usec hq
  unfold HeapAlloc.tqGetptr
  rcases hres : TimerQueue.getptr t.q sec usec with ⟨q', _ | ⟨r, p⟩⟩ <;> rw [hres] at hg <;> dsimp only at hg ⊢
  · exact Or.inl ⟨rfl, hg.2⟩
  · obtain ⟨hl, hdue, ⟨x, hx, rfl⟩, hq', hperm, hrecs⟩ := hg
    rcases hsh : EArray.shrink (HeapAlloc.shape t.q.h.a.size t.alloc) 1 SeqMap.ptrLen m with ⟨a', m'⟩
    obtain ⟨c, hinv⟩ := Percival.Proofs.AllocCalls.shrink_one (HeapAlloc.heapOf t) m a' m' hsh
    have hlen := hperm.length_eq
    simp only [Array.length_toList, List.length_cons] at hlen
    exact Or.inr ⟨_, _, r, x, rfl, hl, hdue, hx, hq', hperm, hrecs, hinv hh q'.h hlen.symm,
      (c.trans (calls_free m' false)).cast (by simp [HeapAlloc.heapOf]; omega)⟩

end Percival.Proofs.AllocFail
