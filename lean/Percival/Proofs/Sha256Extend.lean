import Percival.Spec.Sha256
/-! `Spec.Sha256.schedule` is written with the generic `Spec.extendSchedule nextW`; the statements of C03 speak of the
    same recursion specialised to `nextW`, `Sha256.extend`. -/
namespace Percival.Spec.Sha256

def extend : Nat → List UInt32 → List UInt32
  | 0, ws => ws
  | n+1, ws => match nextW ws with
    | some w => extend n (w :: ws)
    | none => ws

theorem extend_eq (n : Nat) (ws : List UInt32) : extend n ws = extendSchedule nextW n ws := by
  induction n generalizing ws with
  | zero => rfl
  | succ n ih =>
    simp only [extend, extendSchedule]
    cases nextW ws with
    | some w => exact ih _
    | none => rfl

end Percival.Spec.Sha256
