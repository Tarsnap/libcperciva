import Percival.Proofs.AFUCalc
import Percival.Proofs.AFUDefs
import Percival.Proofs.AFUNet
/-!
# C14, upper layers: `netbuf_write.c` (`netbuf_write_init / reserve / consume / write / free`, `poke`)

A buffered writer holds its structure block and, for every queued buffer and the buffer in flight, a header block and a
data block (`writerKeys`).  A call that gives the writer more to hold replaces its table entry by one that takes over what
the call held (`At.absorb`); a call that only moves blocks between the queue and the buffer in flight, or changes a flag,
replaces the entry by one that holds the same (`At.setWriter`); `releaseBufs` frees what the call holds (`At.freeBufs`).

`netbuf_write_consume` and `netbuf_write_write` end in `poke`, which may start a `network_write`.  What that does to the
writer's entry is `Poked`, where a failure of it comes from is `Caused` (`Refusals` of `Proofs/AFUCalc.lean`, for a call that is
ready when a write can be started); both are said of the world the call began in, and
`Poked.of` / `Caused.of` carry them back there from the world in which `poke` (or the consume inside a write) ran.
-/
namespace Percival.Proofs.AllocFailUpper
open Percival.Model Percival.Model.EvReg Percival.Model.AllocFail
open Percival.Proofs.EvRegNet (regNet netRegistered NetInv)
open Percival.Proofs.EvRegTimer (regImm regTimers TmInv Step Granted)
open Percival.Proofs.EArray (free_facts)

/-! ## the writers table, and what a writer holds -/

theorem find_writer {w : World} (h : Inv0 w) {x : Writer} (hx : x ∈ w.writers) :
    w.writers.find? (·.id == x.id) = some x :=
  Keys.find (h.ids Tab.writers) hx

theorem tables_updWriter_self {w : World} (h : Inv0 w) {x : Writer} (hx : x ∈ w.writers) :
    tables w = { tables w with writers := updWriter w.writers x } := by
  rw [show updWriter w.writers x = w.writers from Run.upd_self (fun x : Writer => x.id) (h.ids Tab.writers) hx]
  rfl

theorem updWriter_ids (l : List Writer) (x' : Writer) : (updWriter l x').map (·.id) = l.map (·.id) :=
  Run.upd_keys (fun x : Writer => x.id) l x'

theorem updWriter_updWriter (l : List Writer) {x1 x2 : Writer} (hid : x2.id = x1.id) :
    updWriter (updWriter l x1) x2 = updWriter l x2 :=
  Run.upd_upd (fun x : Writer => x.id) l hid

theorem mem_updWriter {l : List Writer} {x x' : Writer} (hx : x ∈ l) (hid : x'.id = x.id) : x' ∈ updWriter l x' :=
  Run.mem_upd (fun x : Writer => x.id) hx hid

/-- the blocks of the buffer in flight -/
def currKeys : Option (WBuf × Nat) → List (Nat × Site)
  | some (wb, _) => wbufKeys wb
  | none => []

theorem writerKeys_eq (x : Writer) :
    writerKeys x = (x.id, Site.nbwStruct) :: (x.queue.flatMap wbufKeys ++ currKeys x.curr) := by
  unfold writerKeys currKeys
  rcases x.curr with _ | ⟨wb, c⟩ <;> rfl

/-- the entry of a writer is replaced by one that holds the same blocks -/
theorem At.setWriter {w0 w : World} {x x' : Writer} (h : At w0 w (foot (tables w))) (hx : x ∈ w.writers) (hid : x'.id = x.id)
    (hk : (writerKeys x).Perm (writerKeys x')) :
    At w0 (AllocFail.setWriter w x') (foot (tables (AllocFail.setWriter w x'))) :=
  h.sameHolds Tab.writers hx hid ⟨hk, .refl _, .refl _, .refl _⟩

/-- `free(WB->buf); free(WB)` for every buffer of a list the call holds: only the oracle and `live` move -/
theorem At.freeBufs {w0 : World} : ∀ (l : List WBuf) {w : World} {G : Foot}, At w0 w ({ keys := l.flatMap wbufKeys } ++ G) →
    ∃ m live, releaseBufs w l = { w with m := m, live := live } ∧ At w0 (releaseBufs w l) G ∧ m.refusals = w.m.refusals
  | [], w, _, h => ⟨w.m, w.live, rfl, h, rfl⟩
  | wb :: rest, w, G, h => by
    have h' : At w0 w (Foot.key (wb.buf, .nbwBuf) ++ (Foot.key (wb.hdr, .nbwHdr) ++
      ({ keys := rest.flatMap wbufKeys } ++ G))) := h
    obtain ⟨e1, h1⟩ := h'.free
    obtain ⟨e2, h2⟩ := h1.free
    obtain ⟨m, live, e3, h3, hr⟩ := At.freeBufs rest h2
    have hm : (release (release w wb.buf) wb.hdr).m.refusals = w.m.refusals := by
      rw [e2, e1]
      exact (free_facts _ false).1.trans (free_facts _ false).1
    refine ⟨m, live, ?_, h3, hr.trans hm⟩
    show releaseBufs (release (release w wb.buf) wb.hdr) rest = _
    rw [e3, e2, e1]

/-! ## `netbuf_write_init` -/

theorem netbufWriteInit_spec (w : World) (fd : Nat) (h : Inv0 w) :
    NewPost w (netbufWriteInit w fd)
      (fun x W => W.live = ⟨x, .nbwStruct, nbwStructSize⟩ :: w.live ∧
        tables W = { tables w with writers := ⟨x, fd, false, false, [], none⟩ :: w.writers } ∧
        W.m.refusals = w.m.refusals) True := by
  unfold netbufWriteInit
  rcases ha : alloc w .nbwStruct nbwStructSize with ⟨_ | x, w1⟩
  · -- "Bake a cookie." refused: err0
    exact .of_refused h ha
  · -- the structure is all the new writer holds (`STAILQ_INIT(&W->buffers); W->write_cookie = NULL; W->curr = NULL;`)
    obtain ⟨h1, hr1⟩ := h.at.malloc ha
    obtain ⟨rfl, rfl, -⟩ := alloc_some ha
    exact ⟨h1.install Tab.writers ⟨w.m.n, fd, false, false, [], none⟩ (.refl _), nofun,
      fun x hx => by cases hx; exact ⟨rfl, rfl, hr1⟩, fun hne => absurd hr1 hne, nofun⟩

/-! ## `netbuf_write_reserve` -/

theorem nbw_newBuflen_ge (n : Nat) : n ≤ NetbufWrite.newBuflen n := by
  unfold NetbufWrite.newBuflen; split <;> omega

/-- a new buffer at the end of the queue: its two blocks are the writer's -/
theorem writerKeys_append (x : Writer) (wb : WBuf) (r : Bool) :
    (writerKeys { x with reserved := r, queue := x.queue ++ [wb] }).Perm
      ((wb.buf, Site.nbwBuf) :: (wb.hdr, Site.nbwHdr) :: writerKeys x) := by
  rw [List.perm_iff_count]; intro k
  simp only [writerKeys_eq, wbufKeys, List.flatMap_append, List.flatMap_cons, List.flatMap_nil, List.append_nil,
    List.count_cons, List.count_append, List.count_nil]
  omega

/-- "We need to add a new buffer to the queue." -/
def reserveNew (w : World) (x : Writer) (len : Nat) : Rc × World :=
  match alloc w .nbwHdr nbwHdrSize with
  | (none, w1) => (.fail, w1)
  | (some h, w1) =>
    match alloc w1 .nbwBuf (NetbufWrite.newBuflen len) with
    | (none, w2) => (.fail, release w2 h)
    | (some b, w2) =>
      (.ok, setWriter w2 { x with reserved := true, queue := x.queue ++ [⟨h, b, NetbufWrite.newBuflen len, 0⟩] })

theorem netbufWriteReserve_eq {w : World} {x : Writer} {len : Nat} (hfind : w.writers.find? (·.id == x.id) = some x) :
    netbufWriteReserve w x.id len =
      if x.reserved then (.contract, w) else
      if (match x.queue.getLast? with
          | some wb => decide (wb.buflen - wb.datalen ≥ len)
          | none => false) then (.ok, setWriter w { x with reserved := true })
      else reserveNew w x len := by
  unfold netbufWriteReserve reserveNew
  rw [hfind]
  rfl

/-- what `netbuf_write_reserve` promises, about an outcome `R` -/
structure ReserveOut (w : World) (x : Writer) (len : Nat) (R : Rc × World) : Prop where
  arr : Arrives w R.2
  contractIff : R.1 = .contract ↔ x.reserved = true
  contract : R.1 = .contract → R.2 = w
  /-- failure: the writer is exactly as it was (in particular not `reserved`: finding F7) -/
  fail : R.1 = .fail → Same w R.2
  ok : R.1 = .ok →
    ∃ q, (q = x.queue ∨ ∃ hd b, q = x.queue ++ [⟨hd, b, NetbufWrite.newBuflen len, 0⟩]) ∧
      (∃ wb, q.getLast? = some wb ∧ len ≤ wb.buflen - wb.datalen) ∧
      tables R.2 = { tables w with writers := updWriter w.writers { x with reserved := true, queue := q } }
  refusals : Refusals w True R
  ev : R.2.ev = w.ev

theorem reserveNew_spec (w : World) (x : Writer) (len : Nat) (h : Inv0 w) (hx : x ∈ w.writers) (hres : x.reserved = false) :
    ReserveOut w x len (reserveNew w x len) := by
  have hc : ¬ (x.reserved = true) := by rw [hres]; exact Bool.false_ne_true
  unfold reserveNew
  rcases ha1 : alloc w .nbwHdr nbwHdrSize with ⟨_ | hd, w1⟩
  · -- err0: "We did not reserve any space after all." (`W->reserved = 0;`: the model never set it)
    obtain ⟨h1, hr, hsame⟩ := h.at.refused ha1
    obtain ⟨rfl, -⟩ := alloc_none ha1
    exact ⟨h1, ⟨nofun, fun hr' => absurd hr' hc⟩, nofun, fun _ => hsame, nofun,
      .fail_of fun _ => by rw [hr]; exact Nat.lt_succ_self _, rfl⟩
  · obtain ⟨h1, hr1⟩ := h.at.malloc ha1
    simp only
    rcases ha2 : alloc w1 .nbwBuf (NetbufWrite.newBuflen len) with ⟨_ | b, w2⟩
    · -- "Allocate memory." refused: err1: `free(WB);`, then err0
      obtain ⟨h3, hs, hlt, hev⟩ := h.at.allocRefusedFree ha1 ha2
      rw [← hs.tables] at h3
      exact ⟨h3, ⟨nofun, fun hr' => absurd hr' hc⟩, nofun, fun _ => hs, nofun, .fail_of fun _ => hlt, hev⟩
    · -- "Add this buffer to the queue.": the header and the data block, held by the call so far, become the writer's
      obtain ⟨h2, hr2⟩ := h1.malloc ha2
      obtain ⟨-, rfl, -⟩ := alloc_some ha2
      obtain ⟨-, rfl, -⟩ := alloc_some ha1
      have h3 := At.absorb Tab.writers
        (a' := { x with reserved := true, queue := x.queue ++ [⟨hd, b, NetbufWrite.newBuflen len, 0⟩] })
        { keys := [(b, .nbwBuf), (hd, .nbwHdr)] } h2 hx (h.ids Tab.writers) rfl
        ⟨(writerKeys_append x ⟨hd, b, NetbufWrite.newBuflen len, 0⟩ true).symm, .refl _, .refl _, .refl _⟩
      exact ⟨h3, ⟨nofun, fun hr' => absurd hr' hc⟩, nofun, nofun,
        fun _ => ⟨_, Or.inr ⟨_, _, rfl⟩, ⟨_, List.getLast?_concat, nbw_newBuflen_ge len⟩, rfl⟩,
        .quiet nofun (hr2.trans hr1), rfl⟩

theorem netbufWriteReserve_spec (w : World) (x : Writer) (len : Nat) (h : Inv0 w) (hx : x ∈ w.writers) :
    ReserveOut w x len (netbufWriteReserve w x.id len) := by
  rw [netbufWriteReserve_eq (find_writer h hx)]
  cases hres : x.reserved with
  | true =>
    -- "Sanity-check: No calls while buffer space reserved."
    simp only [if_true]
    exact ⟨h.at, ⟨fun _ => hres, fun _ => rfl⟩, fun _ => rfl, nofun, nofun, .quiet nofun rfl, rfl⟩
  | false =>
    simp only [Bool.false_eq_true, if_false]
    have hnew := reserveNew_spec w x len h hx hres
    cases hg : x.queue.getLast? with
    | none => simp only [Bool.false_eq_true, if_false]; exact hnew
    | some wb =>
      simp only
      by_cases hle : len ≤ wb.buflen - wb.datalen
      · -- "Do we have a buffer with enough space?  Return it.": only `W->reserved = 1;` happens
        simp only [ge_iff_le, hle, decide_true, if_true]
        exact ⟨h.at.setWriter (x' := { x with reserved := true }) hx rfl (.refl _),
          ⟨nofun, fun hr => (by rw [hres] at hr; cases hr)⟩, nofun, nofun,
          fun _ => ⟨x.queue, Or.inl rfl, ⟨wb, hg, hle⟩, rfl⟩, .quiet nofun rfl, rfl⟩
      · simp only [ge_iff_le, hle, decide_false, Bool.false_eq_true, if_false]
        exact hnew

/-! ## `poke` -/

theorem splitEmpty_append : ∀ (l : List WBuf), (splitEmpty l).1 ++ (splitEmpty l).2 = l
  | [] => rfl
  | wb :: rest => by
    have ih := splitEmpty_append rest
    simp only [splitEmpty]
    split
    · simp only [List.cons_append, ih]
    · rfl

/-- the buffers `poke` discards are empty -/
theorem splitEmpty_dropped : ∀ (l : List WBuf), ∀ wb ∈ (splitEmpty l).1, wb.datalen = 0
  | [], _, h => by simp [splitEmpty] at h
  | a :: rest, wb, h => by
    simp only [splitEmpty] at h
    split at h
    · rename_i h0
      rcases List.mem_cons.1 h with rfl | h1
      · exact h0
      · exact splitEmpty_dropped rest wb h1
    · simp at h

/-- "Start writing a buffer." (or return if nothing is left), once the empty buffers are gone -/
def pokeStart (w : World) (x : Writer) : Rc × World :=
  match x.queue with
  | [] => (.ok, w)
  | wb :: rest' =>
    match networkWrite w x.fd with
    | (some c, w2) => (.ok, setWriter w2 { x with curr := some (wb, c), queue := rest' })
    | (none, w2) => (.fail, w2)

theorem poke_eq (w : World) (x : Writer) {d r : List WBuf} (hs : splitEmpty x.queue = (d, r)) :
    poke w x =
      if x.curr.isSome || x.queue.isEmpty then (.ok, setWriter w x) else
      if x.failed then (.ok, setWriter w x) else
      pokeStart (setWriter (releaseBufs w d) { x with queue := r }) { x with queue := r } := by
  unfold poke pokeStart
  rw [hs]
  rfl

/-- What `poke` has done to the table entry `x`, seen from the outcome `R` of the call around it: the entry is replaced by
a writer with the same id and descriptor and the flags `rsv`, `fl`; either its write in progress is as it was and nothing
is registered, or none was in progress and `R.1 = .ok` has started one. -/
def Poked (w : World) (x : Writer) (rsv fl : Bool) (R : Rc × World) : Prop :=
  ∃ x', x'.id = x.id ∧ x'.fd = x.fd ∧ x'.reserved = rsv ∧ x'.failed = fl ∧
    ((x'.curr = x.curr ∧ tables R.2 = { tables w with writers := updWriter w.writers x' } ∧
        registry R.2.ev = registry w.ev) ∨
     (x.curr = none ∧ R.1 = .ok ∧ ∃ wb c, x'.curr = some (wb, c) ∧
        tables R.2 = { tables w with writers := updWriter w.writers x', writes := ⟨c, x.fd⟩ :: w.writes }))

/-- success needs no refusal, a refusal means failure, and a failure comes from a refusal if a write could be started
(none in progress, the descriptor can be waited for) -/
abbrev Caused (w : World) (x : Writer) (R : Rc × World) : Prop :=
  Refusals w (x.curr = none → fdOk w x.fd true) R

/-- seen from the world `w`, of which `w1` differs by the entry `x1` in place of `x` -/
theorem Poked.of {w w1 : World} {x x1 : Writer} {rsv fl : Bool} {R : Rc × World} (hp : Poked w1 x1 rsv fl R)
    (ht : tables w1 = { tables w with writers := updWriter w.writers x1 }) (hev : w1.ev = w.ev)
    (hid : x1.id = x.id) (hfd : x1.fd = x.fd) (hc : x1.curr = x.curr) : Poked w x rsv fl R := by
  obtain ⟨x', q1, q2, q3, q4, q5⟩ := hp
  have hw1 : w1.writers = updWriter w.writers x1 := congrArg Tables.writers ht
  have hws : w1.writes = w.writes := congrArg Tables.writes ht
  have hupd : updWriter w1.writers x' = updWriter w.writers x' := by rw [hw1]; exact updWriter_updWriter _ q1
  refine ⟨x', q1.trans hid, q2.trans hfd, q3, q4, ?_⟩
  rcases q5 with ⟨r1, r2, r3⟩ | ⟨r1, r2, wb, c, r3, r4⟩
  · exact Or.inl ⟨r1.trans hc, by rw [r2, ht, hupd], by rw [r3, hev]⟩
  · exact Or.inr ⟨hc ▸ r1, r2, wb, c, r3, by rw [r4, ht, hupd, hws, hfd]⟩

theorem Caused.of {w w1 : World} {x x1 : Writer} {R : Rc × World} (hp : Caused w1 x1 R) (hev : w1.ev = w.ev)
    (href : w1.m.refusals = w.m.refusals) (hfd : x1.fd = x.fd) (hc : x1.curr = x.curr) : Caused w x R :=
  hp.after href fun hd hc1 => by unfold fdOk; rw [hev, hfd]; exact hd (hc ▸ hc1)

/-- what `poke` (or its second half `pokeStart`) promises, about its outcome `R`, for the table entry `x` -/
structure PokeOut (w : World) (x : Writer) (rsv fl : Bool) (R : Rc × World) : Prop where
  arr : Arrives w R.2
  made : R.1 ≠ .contract
  poked : Poked w x rsv fl R
  caused : Caused w x R

/-- the head of the queue becomes the buffer in flight: the same blocks -/
theorem writerKeys_start (x : Writer) (wb : WBuf) (rest' : List WBuf) (c : Nat) (hq : x.queue = wb :: rest')
    (hc : x.curr = none) : (writerKeys x).Perm (writerKeys { x with curr := some (wb, c), queue := rest' }) := by
  rw [List.perm_iff_count]; intro k
  simp only [writerKeys_eq, hq, hc, currKeys, List.flatMap_cons, List.count_cons, List.count_append, List.count_nil]
  omega

/-- "Start writing a buffer." (or return if nothing is left) -/
theorem pokeStart_spec (w : World) (x : Writer) (h : Inv0 w) (hx : x ∈ w.writers) (hc : x.curr = none) :
    PokeOut w x x.reserved x.failed (pokeStart w x) := by
  have hself := tables_updWriter_self h hx
  unfold pokeStart
  cases hq : x.queue with
  | nil =>
    -- "If there is nothing left to write, return."
    exact ⟨h.at, nofun, ⟨x, rfl, rfl, rfl, rfl, Or.inl ⟨rfl, hself, rfl⟩⟩, .quiet nofun rfl⟩
  | cons wb rest' =>
    -- "Start writing a buffer.": `W->write_cookie = network_write(W->s, …)`
    simp only
    have hp := networkWrite_spec w x.fd h
    rcases hnw : networkWrite w x.fd with ⟨o, w2⟩
    rw [hnw] at hp
    cases o with
    | none =>
      -- err0: the buffer stays at the head of the queue
      have sm := hp.same rfl
      exact ⟨hp.arr, nofun, ⟨x, rfl, rfl, rfl, rfl, Or.inl ⟨rfl, sm.tables.trans hself, sm.registry⟩⟩,
        .fail_of fun hd => hp.cause rfl (hd hc)⟩
    | some c =>
      obtain ⟨-, t2, t3⟩ := hp.ok c rfl
      have hw2 : w2.writers = w.writers := congrArg Tables.writers t2
      -- "Remove the buffer from the queue.": it is the buffer in flight now (`W->curr`), the writer holds the same blocks
      have h3 := hp.arr.setWriter (x := x) (x' := { x with curr := some (wb, c), queue := rest' }) (hw2 ▸ hx) rfl
        (writerKeys_start x wb rest' c hq hc)
      refine ⟨h3, nofun,
        ⟨{ x with curr := some (wb, c), queue := rest' }, rfl, rfl, rfl, rfl, Or.inr ⟨hc, rfl, wb, c, rfl, ?_⟩⟩,
        .quiet nofun t3⟩
      show ({ tables w2 with writers := updWriter w2.writers _ } : Tables) = _
      rw [hw2, t2]

/-- the empty buffers at the head of the queue are the writer's: their blocks first -/
theorem writerKeys_split (x : Writer) (d r : List WBuf) (hq : d ++ r = x.queue) :
    (writerKeys x).Perm (d.flatMap wbufKeys ++ writerKeys { x with queue := r }) := by
  rw [List.perm_iff_count]; intro k
  simp only [writerKeys_eq, ← hq, List.flatMap_append, List.count_cons, List.count_append]
  omega

/-- `poke(W)`, called with the writer `x0` that is about to replace the table entry `x` (same blocks) -/
theorem poke_spec (w : World) (x x0 : Writer) (h : Inv0 w) (hx : x ∈ w.writers) (hid : x0.id = x.id) (hfd : x0.fd = x.fd)
    (hq : x0.queue.flatMap wbufKeys = x.queue.flatMap wbufKeys) (hc : x0.curr = x.curr) :
    PokeOut w x x0.reserved x0.failed (poke w x0) := by
  have hkeys : writerKeys x = writerKeys x0 := by rw [writerKeys_eq, writerKeys_eq, hid, hq, hc]
  -- "If a write is in progress or we have nothing to write, return." / "If we've failed, don't try to do anything more.":
  -- the entry is replaced, that is all
  have hidle : PokeOut w x x0.reserved x0.failed (.ok, setWriter w x0) :=
    ⟨h.at.setWriter hx hid (.of_eq hkeys), nofun, ⟨x0, hid, hfd, rfl, rfl, Or.inl ⟨hc, rfl, rfl⟩⟩, .quiet nofun rfl⟩
  rcases hs : splitEmpty x0.queue with ⟨d, r⟩
  have hdr : d ++ r = x0.queue := by have := splitEmpty_append x0.queue; rw [hs] at this; exact this
  rw [poke_eq w x0 hs]
  by_cases hb : (x0.curr.isSome || x0.queue.isEmpty) = true
  · rw [if_pos hb]; exact hidle
  · rw [if_neg hb]
    by_cases hf : x0.failed = true
    · rw [if_pos hf]; exact hidle
    · rw [if_neg hf]
      have hcn : x0.curr = none := by
        cases hcc : x0.curr with
        | none => rfl
        | some p => rw [hcc] at hb; simp at hb
      -- "Discard any empty buffers; there is nothing to write from them."  The model frees them before it writes the entry
      -- back, so the entry is taken out, the call frees what it will not put back, and the rest is put back (`take`,
      -- `freeBufs`, `give`); what is left is `pokeStart` in the world reached, seen from `w`
      have h0 : At w w ({ keys := d.flatMap wbufKeys } ++ ({ keys := writerKeys { x0 with queue := r } } ++
          foot { tables w with writers := w.writers.filter (fun y => y.id != x.id) })) :=
        (h.at.take Tab.writers hx).equiv ⟨((hkeys ▸ writerKeys_split x0 d r hdr).append_right _).trans
          (.of_eq (List.append_assoc _ _ _)), .refl _, .refl _, .refl _⟩
      obtain ⟨m, live, e, h1, hr⟩ := h0.freeBufs d
      rw [e] at h1 ⊢
      have h2 := h1.give Tab.writers (a' := { x0 with queue := r }) hx (h.ids Tab.writers) hid
      have ps := pokeStart_spec _ { x0 with queue := r } h2.inv0 (mem_updWriter hx hid) hcn
      exact ⟨h2.andThen ps.arr, ps.made, ps.poked.of rfl rfl hid hfd hc, ps.caused.of rfl hr hfd hc⟩

/-! ## `netbuf_write_consume` -/

theorem nbw_last_split {q : List WBuf} {wb : WBuf} (h : q.getLast? = some wb) : q.dropLast ++ [wb] = q := by
  obtain ⟨ys, rfl⟩ := List.getLast?_eq_some_iff.1 h
  rw [List.dropLast_concat]

/-- what `netbuf_write_consume` promises, about an outcome `R`: outside the contract nothing happens; in every other
case the reservation is consumed, and a write is started unless one is in progress or the writer has failed; if
starting it fails (-1) the data stays queued and nothing is registered.  (The reference from the writer to its write
in progress is not needed: `poke` does nothing then.) -/
structure ConsumeOut (w : World) (x : Writer) (len : Nat) (R : Rc × World) : Prop where
  arr : Arrives w R.2
  contractIff : R.1 = .contract ↔ ¬ consumeOk x len
  contract : R.1 = .contract → R.2 = w
  poked : R.1 ≠ .contract → Poked w x false x.failed R
  caused : Caused w x R

theorem ConsumeOut.ofContract {w : World} {x : Writer} {len : Nat} (h : Inv0 w) (hn : ¬ consumeOk x len) :
    ConsumeOut w x len (.contract, w) :=
  ⟨h.at, ⟨fun _ => hn, fun _ => rfl⟩, fun _ => rfl, fun hne => absurd rfl hne, .quiet nofun rfl⟩

theorem netbufWriteConsume_spec (w : World) (x : Writer) (len : Nat) (h : Inv0 w) (hx : x ∈ w.writers) :
    ConsumeOut w x len (netbufWriteConsume w x.id len) := by
  have hfind := find_writer h hx
  unfold netbufWriteConsume
  rw [hfind]
  simp only
  cases hres : x.reserved with
  | false =>
    -- "Sanity-check: We must have space reserved."
    simp only [Bool.not_false, if_true]
    exact ConsumeOut.ofContract h (fun hc => by have := hc.1; rw [hres] at this; cases this)
  | true =>
    simp only [Bool.not_true, Bool.false_eq_true, if_false]
    cases hg : x.queue.getLast? with
    | none =>
      -- "Sanity-check: We must have a buffer."
      simp only
      exact ConsumeOut.ofContract h (fun hc => by obtain ⟨_, wb, hwb, _⟩ := hc; rw [hg] at hwb; cases hwb)
    | some wb =>
      simp only
      by_cases hlt : wb.buflen - wb.datalen < len
      · -- "Sanity-check: We must have enough space reserved."
        rw [if_pos hlt]
        refine ConsumeOut.ofContract h (fun hc => ?_)
        obtain ⟨_, wb', hwb, hle⟩ := hc
        rw [hg] at hwb
        cases hwb
        omega
      · rw [if_neg hlt]
        have hok : consumeOk x len := ⟨hres, wb, hg, by omega⟩
        -- "Advance the buffer pointer, unless we've failed": the last buffer changes in place and is the same two blocks;
        -- "We no longer have space reserved."; "Poke the queue to see if we can launch more writing now."
        have hk : wbufKeys (if x.failed = true then wb else { wb with datalen := wb.datalen + len }) = wbufKeys wb := by
          split <;> rfl
        have hq : (x.queue.dropLast ++ [if x.failed = true then wb else { wb with datalen := wb.datalen + len }]).flatMap
            wbufKeys = x.queue.flatMap wbufKeys := by
          conv => rhs; rw [← nbw_last_split hg]
          simp only [List.flatMap_append, List.flatMap_cons, List.flatMap_nil, hk]
        have pk := poke_spec w x { x with queue := x.queue.dropLast ++
          [if x.failed = true then wb else { wb with datalen := wb.datalen + len }], reserved := false } h hx rfl rfl hq rfl
        exact ⟨pk.arr, ⟨fun hc => absurd hc pk.made, fun hn => absurd hok hn⟩, fun hc => absurd hc pk.made, fun _ => pk.poked,
          pk.caused⟩

/-! ## `netbuf_write_write` -/

/-- what `netbuf_write_write` promises, about an outcome `R` -/
structure WriteOut (w : World) (x : Writer) (R : Rc × World) : Prop where
  arr : Arrives w R.2
  /-- "If we've failed, just silently discard writes." -/
  discarded : x.failed = true → R = (.ok, w)
  contractIff : R.1 = .contract ↔ (x.failed = false ∧ x.reserved = true)
  contract : R.1 = .contract → R.2 = w
  poked : x.failed = false → R.1 ≠ .contract → Poked w x false false R
  caused : Caused w x R

theorem netbufWriteWrite_spec (w : World) (x : Writer) (len : Nat) (h : Inv0 w) (hx : x ∈ w.writers) :
    WriteOut w x (netbufWriteWrite w x.id len) := by
  have hfind := find_writer h hx
  unfold netbufWriteWrite
  rw [hfind]
  simp only
  cases hfl : x.failed with
  | true =>
    -- "If we've failed, just silently discard writes."
    simp only [if_true]
    exact ⟨h.at, fun _ => rfl, ⟨nofun, fun hc => (by rw [hfl] at hc; cases hc.1)⟩, fun _ => rfl,
      fun hf => (by rw [hfl] at hf; cases hf), .quiet nofun rfl⟩
  | false =>
    simp only [Bool.false_eq_true, if_false]
    have hnt : ¬ (x.failed = true) := by rw [hfl]; exact Bool.false_ne_true
    -- "Reserve space to write the data into."
    have rv := netbufWriteReserve_spec w x len h hx
    rcases hrv : netbufWriteReserve w x.id len with ⟨rc, w1⟩
    rw [hrv] at rv
    cases rc with
    | contract =>
      obtain rfl : w1 = w := rv.contract rfl
      exact ⟨rv.arr, fun hf => absurd hf hnt, ⟨fun _ => ⟨hfl, rv.contractIff.1 rfl⟩, fun _ => rfl⟩, fun _ => rfl,
        fun _ hne => absurd rfl hne, .quiet nofun rfl⟩
    | fail =>
      -- the reservation was refused: the writer is as it was
      have hs := rv.fail rfl
      have hnr : x.reserved = false := by
        cases hr : x.reserved with
        | false => rfl
        | true => exact absurd (rv.contractIff.2 hr) nofun
      exact ⟨rv.arr, fun hf => absurd hf hnt, ⟨nofun, fun hc => rv.contractIff.2 hc.2⟩, nofun,
        fun _ _ => ⟨x, rfl, rfl, hnr, hfl, Or.inl ⟨rfl, hs.tables.trans (tables_updWriter_self h hx), hs.registry⟩⟩,
        .fail_of fun _ => rv.refusals.cause rfl trivial⟩
    | ok =>
      -- "Consume the reservation.": `netbuf_write_consume` in the world the reservation has reached, seen from `w`
      obtain ⟨q, _, ⟨wbl, hgl, hle⟩, ht1⟩ := rv.ok rfl
      have hx1 : { x with reserved := true, queue := q } ∈ w1.writers := by
        rw [show w1.writers = _ from congrArg Tables.writers ht1]; exact mem_updWriter hx rfl
      have cs := netbufWriteConsume_spec w1 { x with reserved := true, queue := q } len rv.arr.inv0 hx1
      have hnc : (netbufWriteConsume w1 x.id len).1 ≠ .contract := fun hc => cs.contractIff.1 hc ⟨rfl, wbl, hgl, hle⟩
      have p : Poked w x false x.failed (netbufWriteConsume w1 x.id len) := (cs.poked hnc).of ht1 rv.ev rfl rfl rfl
      rw [hfl] at p
      exact ⟨rv.arr.andThen cs.arr, fun hf => absurd hf hnt,
        ⟨fun hc => absurd hc hnc, fun hc => absurd (rv.contractIff.2 hc.2) nofun⟩,
        fun hc => absurd hc hnc, fun _ _ => p, cs.caused.of rv.ev (rv.refusals.ok rfl) rfl rfl⟩

/-! ## `netbuf_write_free` -/

/-- the blocks of a writer, in the order `netbuf_write_free` releases them -/
theorem writerKeys_free_perm (x : Writer) :
    (writerKeys x).Perm (currKeys x.curr ++ (x.queue.flatMap wbufKeys ++ [(x.id, Site.nbwStruct)])) := by
  rw [List.perm_iff_count]; intro k
  simp only [writerKeys_eq, List.count_cons, List.count_append, List.count_nil]
  omega

/-- the writer has left its table: the call holds its blocks, in the order `netbuf_write_free` gives them up -/
theorem At.takeWriter {w0 w : World} {x : Writer} (h : At w0 w (foot (tables w))) (hx : x ∈ w.writers) :
    At w0 w ({ keys := currKeys x.curr } ++ ({ keys := x.queue.flatMap wbufKeys } ++ (Foot.key (x.id, .nbwStruct) ++
      foot { tables w with writers := w.writers.filter (fun y => y.id != x.id) }))) :=
  (h.take Tab.writers hx).equiv ⟨((writerKeys_free_perm x).append_right _).trans
    (.of_eq (by simp only [List.append_assoc]; rfl)), .refl _, .refl _, .refl _⟩

/-- "Free write buffers." and "Free the buffered writer.", and the entry goes -/
theorem nbwFreeTail {w0 w1 : World} {x : Writer}
    (h : At w0 w1 ({ keys := x.queue.flatMap wbufKeys } ++ (Foot.key (x.id, .nbwStruct) ++
      foot { tables w1 with writers := w1.writers.filter (fun y => y.id != x.id) }))) :
    ∃ w', { release (releaseBufs w1 x.queue) x.id with
            writers := (release (releaseBufs w1 x.queue) x.id).writers.filter (fun y => y.id != x.id) } = w' ∧
      Arrives w0 w' ∧ tables w' = { tables w1 with writers := w1.writers.filter (fun y => y.id != x.id) } := by
  obtain ⟨m, live, e, h1, -⟩ := h.freeBufs x.queue
  obtain ⟨e2, h2⟩ := h1.free
  rw [e] at e2 h2
  rw [e2] at h2
  rw [e, e2]
  exact ⟨_, rfl, h2.put Tab.writers _ (.refl _), rfl⟩

theorem netbufWriteFree_spec (w : World) (x : Writer) (h : Inv0 w) (hx : x ∈ w.writers)
    (href : ∀ wb c, x.curr = some (wb, c) → ⟨c, x.fd⟩ ∈ w.writes) :
    ∃ w', netbufWriteFree w x.id = some w' ∧ Arrives w w' ∧
      tables w' = { tables w with
        writers := w.writers.filter (fun y => y.id != x.id),
        writes := match x.curr with
          | some (_, c) => w.writes.filter (fun y => y.cookie != c)
          | none => w.writes } := by
  have hfind := find_writer h hx
  cases hc : x.curr with
  | none =>
    -- no write in progress (`W->write_cookie == NULL`)
    have h0 := h.at.takeWriter hx
    rw [hc] at h0
    obtain ⟨w', e, ha, ht⟩ := nbwFreeTail h0
    exact ⟨w', by simp only [netbufWriteFree, hfind, hc, e], ha, ht⟩
  | some p =>
    obtain ⟨wb, c⟩ := p
    -- "Cancel any in-progress write.": `network_write_cancel(W->write_cookie); free(W->curr->buf); free(W->curr);`
    obtain ⟨w1, hcan, ha1, -, ht1, -⟩ := networkWriteCancel_spec w ⟨c, x.fd⟩ h (href wb c hc)
    have hw1 : w1.writers = w.writers := congrArg Tables.writers ht1
    have h0 := ha1.takeWriter (x := x) (hw1 ▸ hx)
    rw [hc] at h0
    obtain ⟨m, live, e, h1, -⟩ := At.freeBufs [wb] h0
    rw [e] at h1
    obtain ⟨w', e', ha, ht⟩ := nbwFreeTail h1
    have e0 : release (release w1 wb.buf) wb.hdr = { w1 with m := m, live := live } := e
    have hcan' : networkWriteCancel w c = some w1 := hcan
    refine ⟨w', by simp only [netbufWriteFree, hfind, hc, hcan', Option.map_some, e0, e'], ha, ht.trans ?_⟩
    show ({ tables w1 with writers := w1.writers.filter _ } : Tables) = _
    rw [hw1, ht1]

end Percival.Proofs.AllocFailUpper
