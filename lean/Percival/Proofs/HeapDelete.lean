import Percival.Proofs.HeapOps
/-!
# C13: `ptrheap_delete`

The C moves the last element into the hole, repairs the heap from there over the OLD length (the last slot still
holds a stale copy of the moved element) and shrinks the array last.  Nothing it does before the shrinking reads the
last slot (`repair_dropLast`), so the deletion is: drop the last slot, write its element into the hole, repair
(`delete_inner`); from there on it is an instance of `Proofs/HeapOps.lean`'s "one slot overwritten".
-/
namespace Percival.Proofs.Heap
open Percival.Model.Heap

theorem array_toList_pop_last (a : Array Nat) (x : Nat) (h : a[a.size-1]? = some x) :
    a.toList = a.pop.toList ++ [x] := by
  have : a.toList.getLast? = some x := by rw [List.getLast?_eq_getElem?]; simpa using h
  obtain ⟨ys, hys⟩ := List.getLast?_eq_some_iff.mp this
  rw [Array.toList_pop, hys, List.dropLast_concat]

def dropLast (h : Heap) : Heap := { h with a := h.a.pop }

theorem dropLast_size (h : Heap) : (dropLast h).a.size = h.a.size - 1 := Array.size_pop

theorem get_dropLast {h : Heap} {k x : Nat} (hk : (dropLast h).a[k]? = some x) : h.a[k]? = some x := by
  have hlt : k < h.a.size - 1 := dropLast_size h ▸ lt_of_get hk
  rwa [show (dropLast h).a[k]? = h.a.pop[k]? from rfl, Array.getElem?_pop, if_pos hlt] at hk

theorem blind_dropLast (n : Nat) : Blind n (n-1) dropLast where
  get := fun h hn k hk => by
    show h.a.pop[k]? = _
    rw [Array.getElem?_pop, if_pos (hn ▸ hk)]
  swap := fun b h i j hn hi hj => by
    rw [swap_eq b _ i j (by rw [dropLast_size]; omega) (by rw [dropLast_size]; omega),
      swap_eq b h i j (by omega) (by omega)]
    simp only [dropLast, Array.swap, Array.set_pop, Array.getElem_pop]

def put (h : Heap) (x e : Nat) (hx : x < h.a.size) : Heap := ⟨h.a.set x e hx, (e, x) :: h.log⟩

theorem put_spec (h : Heap) (x e : Nat) (hx : x < h.a.size) : Put h x e (put h x e hx) :=
  ⟨fun k => by
    show (h.a.set x e hx)[k]? = _
    rw [Array.getElem?_set]
    by_cases hk : x = k
    · rw [if_pos hk, if_pos hk.symm]
    · rw [if_neg hk, if_neg (Ne.symm hk)], rfl⟩

variable (key : Nat → Int)

theorem inv_dropLast (h : Heap) (hi : Inv key h) : Inv key (dropLast h) where
  distinct := fun i j x hi' hj' => hi.distinct i j x (get_dropLast hi') (get_dropLast hj')
  handles := fun i x hi' => hi.handles i x (get_dropLast hi')
  ordered := fun i c q h0 hc hq => hi.ordered i c q h0 (get_dropLast hc) (get_dropLast hq)

/-- what `ptrheap_delete` does once the last element sits in the hole `x`: up if it is smaller than its new parent,
else `heapify` over `N` slots -/
def repair (N f : Nat) (g : Heap) (x : Nat) : Heap :=
  if (decide (x > 0) &&
        (match keyAt key g x, keyAt key g ((x - 1) / 2) with
         | some kc, some kp => decide (kc < kp)
         | _, _ => false)) = true then
    siftUp key true ((x - 1) / 2) (swap true g x ((x - 1) / 2)) ((x - 1) / 2)
  else siftDown key true N f g x

theorem repair_up (N f : Nat) {g : Heap} {x v q : Nat} (h0 : 0 < x) (hv : g.a[x]? = some v)
    (hq : g.a[(x-1)/2]? = some q) (hlt : key v < key q) :
    repair key N f g x = siftUp key true ((x-1)/2+1) g x := by
  unfold repair
  rw [keyAt_of_get key hv, keyAt_of_get key hq, if_pos (by simpa using And.intro h0 hlt), siftUp_succ, hv, hq]
  exact (if_pos ⟨Nat.ne_of_gt h0, hlt⟩).symm

theorem repair_down (N f : Nat) {g : Heap} {x v q : Nat} (hv : g.a[x]? = some v) (hq : g.a[(x-1)/2]? = some q)
    (hge : ¬ (0 < x ∧ key v < key q)) : repair key N f g x = siftDown key true N f g x := by
  unfold repair
  rw [keyAt_of_get key hv, keyAt_of_get key hq, if_neg (by simpa using hge)]

/-- The repair over `n` slots of an array whose last slot repeats the hole reads nothing of the last slot: the
last slot may be dropped before it. -/
theorem repair_dropLast (g : Heap) (n x : Nat) (hn : g.a.size = n) (hx : x < n - 1) (hdup : g.a[n-1]? = g.a[x]?) :
    dropLast (repair key n n g x) = repair key (n-1) n (dropLast g) x := by
  have hT := blind_dropLast n
  have hp : (x-1)/2 < n - 1 := Nat.lt_of_le_of_lt (parent_le x) hx
  unfold repair keyAt
  rw [hT.get g hn x hx, hT.get g hn _ hp, hT.swap true g x _ hn hx hp,
    siftUp_blind key hT true _ _ _ (by rw [swap_size]; exact hn) hp,
    siftDown_blind key hT true _ _ _ hn hx, siftDown_dup_eq key true n g n x hn.symm hx hdup]
  exact apply_ite dropLast _ _ _

theorem delete_none (h : Heap) (rc : Nat) (hrc : ¬ rc < h.a.size) : delete key h rc = none := by
  unfold delete; simp [hrc]

theorem delete_last (h : Heap) (h0 : 0 < h.a.size) : delete key h (h.a.size - 1) = some (dropLast h) := by
  simp only [delete, Nat.sub_lt h0 Nat.one_pos, ↓reduceDIte, ne_eq, not_true_eq_false, ↓reduceIte]
  rfl

theorem delete_inner (h : Heap) (rc last : Nat) (hrc : rc < h.a.size - 1) (hl : h.a[h.a.size - 1]? = some last) :
    delete key h rc =
      some (repair key (h.a.size - 1) h.a.size (put (dropLast h) rc last (dropLast_size h ▸ hrc)) rc) := by
  have hrc' : rc < h.a.size := Nat.lt_of_lt_of_le hrc (Nat.sub_le _ _)
  have hp : put (dropLast h) rc last (dropLast_size h ▸ hrc) = dropLast (put h rc last hrc') :=
    congrArg (Heap.mk · _) (Array.set_pop _)
  rw [hp, ← repair_dropLast key _ h.a.size rc (Array.size_set (h := hrc')) hrc (by
    show (h.a.set rc last hrc')[h.a.size - 1]? = (h.a.set rc last hrc')[rc]?
    rw [Array.getElem?_set, Array.getElem?_set, if_neg (Nat.ne_of_lt hrc), if_pos rfl]
    exact hl)]
  obtain ⟨-, rfl⟩ := Array.getElem?_eq_some_iff.mp hl
  simp only [delete, hrc', ↓reduceDIte, ne_eq, Nat.ne_of_lt hrc, not_false_eq_true, ↓reduceIte]
  rfl

theorem inv_repair (f : Nat) (g : Heap) (x : Nat) (hx : x < g.a.size) (hf : g.a.size ≤ x + f)
    (hg : Handles g) (hh : Hole key g x) :
    Inv key (repair key g.a.size f g x) ∧ (repair key g.a.size f g x).a.toList.Perm g.a.toList := by
  obtain ⟨v, hv⟩ : ∃ v, g.a[x]? = some v := ⟨_, Array.getElem?_eq_getElem hx⟩
  obtain ⟨q, hq⟩ : ∃ q, g.a[(x-1)/2]? = some q :=
    ⟨_, Array.getElem?_eq_getElem (Nat.lt_of_le_of_lt (parent_le x) hx)⟩
  by_cases hup : 0 < x ∧ key v < key q
  · rw [repair_up key _ f hup.1 hv hq hup.2]
    -- a child of the hole: the moved element < parent of the hole ≤ child
    obtain ⟨hex, hg'⟩ := hh.up g.a.size fun c e v' hc0 hpar he hv' => by
      cases hv.symm.trans hv'
      exact Int.le_trans (Int.le_of_lt hup.2) (hh.grand c e _ hup.1 hc0 hpar he hq)
    -- fuel: the round that steps to the parent, then the `(x-1)/2` rounds `ptrheap_delete` gives `heapifyup` from there
    exact ⟨inv_siftUp key _ g x (by omega) hg hex hg', siftUp_perm key true _ _ _⟩
  · rw [repair_down key _ f hv hq hup]
    obtain ⟨hex, hg'⟩ := hh.down g.a.size fun v' q' h0 hv' hq' => by
      cases hv.symm.trans hv'; cases hq.symm.trans hq'
      exact Int.not_lt.mp fun hlt => hup ⟨h0, hlt⟩
    exact ⟨inv_siftDown key f g x hf hg hex hg', siftDown_perm key true _ _ _ _⟩

theorem inv_put_repair (h : Heap) (x e y N f : Nat) (hi : Inv key h) (hx : x < h.a.size) (hN : N = h.a.size)
    (hf : N ≤ x + f) (he : ∀ i : Nat, h.a[i]? ≠ some e) (hy : h.a[x]? = some y) :
    Inv key (repair key N f (put h x e hx) x) ∧
    (e :: h.a.toList).Perm (y :: (repair key N f (put h x e hx) x).a.toList) := by
  have hp := put_spec h x e hx
  have hs : (put h x e hx).a.size = N := (Array.size_set (h := hx)).trans hN.symm
  obtain ⟨hinv, hperm⟩ := inv_repair key f _ x (hs ▸ hN ▸ hx) (hs ▸ hf) (hp.handles hi.toHandles fun i _ => he i)
    (hp.hole hi.ordered fun _ _ _ => rfl)
  rw [hs] at hinv hperm
  exact ⟨hinv, (hp.perm hy).symm.trans ((List.perm_cons _).mpr hperm.symm)⟩

theorem delete_spec (h : Heap) (rc : Nat) (hi : Inv key h) (hrc : rc < h.a.size) :
    ∃ h' x, delete key h rc = some h' ∧ Inv key h' ∧ h.a[rc]? = some x ∧ posOf h x = some rc ∧
      h.a.toList.Perm (x :: h'.a.toList) ∧ h'.a.size = h.a.size - 1 := by
  obtain ⟨x, hx⟩ : ∃ x, h.a[rc]? = some x := ⟨_, Array.getElem?_eq_getElem hrc⟩
  obtain ⟨last, hl⟩ : ∃ y, h.a[h.a.size - 1]? = some y :=
    ⟨_, Array.getElem?_eq_getElem (Nat.sub_lt (Nat.zero_lt_of_lt hrc) Nat.one_pos)⟩
  have hid := inv_dropLast key h hi
  have hpl : h.a.toList.Perm (last :: (dropLast h).a.toList) :=
    array_toList_pop_last h.a _ hl ▸ List.perm_append_singleton _ _
  have hds := dropLast_size h
  suffices H : ∃ h', delete key h rc = some h' ∧ Inv key h' ∧ h.a.toList.Perm (x :: h'.a.toList) by
    obtain ⟨h', hdel, hinv, hperm⟩ := H
    have := hperm.length_eq
    rw [List.length_cons, Array.length_toList, Array.length_toList] at this
    exact ⟨h', x, hdel, hinv, hx, hi.handles rc _ hx, hperm, by omega⟩
  by_cases hlast : rc = h.a.size - 1
  · subst hlast
    cases hx.symm.trans hl
    exact ⟨_, delete_last key h (Nat.zero_lt_of_lt hrc), hid, hpl⟩
  · have hrc' : rc < h.a.size - 1 := by omega
    obtain ⟨hinv, hperm⟩ := inv_put_repair key (dropLast h) rc last x (h.a.size - 1) h.a.size
      hid (hds ▸ hrc') hds.symm (by omega)
      (fun i hil => by
        -- the last element occurs nowhere else
        have := hi.distinct i _ _ (get_dropLast hil) hl
        have := hds ▸ lt_of_get hil
        omega)
      (((blind_dropLast _).get h rfl rc hrc').trans hx)
    exact ⟨_, delete_inner key h rc last hrc' hl, hinv, hpl.trans hperm⟩

theorem delete_at (h : Heap) (rc e : Nat) (hi : Inv key h) (he : h.a[rc]? = some e) :
    ∃ h', delete key h rc = some h' ∧ Inv key h' ∧ h.a.toList.Perm (e :: h'.a.toList) := by
  obtain ⟨h', x, hdel, hi', hx, _, hperm, _⟩ := delete_spec key h rc hi (lt_of_get he)
  cases he.symm.trans hx
  exact ⟨h', hdel, hi', hperm⟩

end Percival.Proofs.Heap
