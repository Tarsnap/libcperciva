import Percival.Proofs.CpuAesSpec
import Percival.Proofs.ListLen
/-! Helper lemmas for the AES-NI part of C03: the instructions and the two routines of `crypto_aes_aesni.c` against the
FIPS-197 transcription `Model.CpuAesni.Fips`. -/
namespace Percival.Proofs.CpuAesni
open Percival Percival.Model.CpuAesni

theorem W4.xor_def (a b : W4) : a ^^^ b = ⟨a.b0 ^^^ b.b0, a.b1 ^^^ b.b1, a.b2 ^^^ b.b2, a.b3 ^^^ b.b3⟩ := rfl
theorem R.xor_def (a b : R) : a ^^^ b = ⟨a.w0 ^^^ b.w0, a.w1 ^^^ b.w1, a.w2 ^^^ b.w2, a.w3 ^^^ b.w3⟩ := rfl

theorem W4.xor_comm (a b : W4) : a ^^^ b = b ^^^ a := by
  simp only [W4.xor_def, UInt8.xor_comm]
theorem W4.xor_assoc (a b c : W4) : a ^^^ b ^^^ c = a ^^^ (b ^^^ c) := by
  simp only [W4.xor_def, UInt8.xor_assoc]
@[simp] theorem W4.xor_zero (a : W4) : a ^^^ W4.zero = a := by
  simp [W4.xor_def, W4.zero]
@[simp] theorem W4.zero_xor (a : W4) : W4.zero ^^^ a = a := by
  simp [W4.xor_def, W4.zero]

instance : Std.Commutative (α := W4) (· ^^^ ·) := ⟨W4.xor_comm⟩
instance : Std.Associative (α := W4) (· ^^^ ·) := ⟨W4.xor_assoc⟩

/-! ## the instructions are FIPS-197 rounds

(The lemmas below are deliberately *not* proved by a bare `rfl`: used as rewrite rules inside ten
nested rounds, a definitional proof makes the kernel unfold the S-box.) -/

theorem subBytes_shiftRows (s : R) : Fips.subBytes (Fips.shiftRows s) = Fips.shiftRows (Fips.subBytes s) := by
  cases s; rfl

theorem subWord_rotWord (w : W4) : Fips.subWord (Fips.rotWord w) = Fips.rotWord (Fips.subWord w) := by
  cases w; rfl

theorem aesenc_eq (s k : R) :
    aesenc s k = Fips.addRoundKey (Fips.mixColumns (Fips.shiftRows (Fips.subBytes s))) k := by
  rw [← subBytes_shiftRows]; unfold aesenc Fips.addRoundKey; exact Eq.refl _

theorem aesenclast_eq (s k : R) :
    aesenclast s k = Fips.addRoundKey (Fips.shiftRows (Fips.subBytes s)) k := by
  rw [← subBytes_shiftRows]; unfold aesenclast Fips.addRoundKey; exact Eq.refl _

theorem rounds_cons (s k k' : R) (rest : List R) :
    Fips.rounds s (k :: k' :: rest) = Fips.rounds (aesenc s k) (k' :: rest) := by
  rw [aesenc_eq, Fips.rounds]
  intro h; cases h

theorem rounds_last (s k : R) : Fips.rounds s [k] = aesenclast s k := by
  rw [aesenclast_eq, Fips.rounds]

theorem nrSplit_eq : Gen.CpuPaths.aesniNrSplit = 10 := rfl
theorem nr128_eq : Gen.CpuPaths.aesniNr128 = 10 := rfl
theorem nr256_eq : Gen.CpuPaths.aesniNr256 = 14 := rfl

/-- ten rounds: `crypto_aes_encrypt_block_aesni_m128i` = the FIPS-197 cipher over the same 11 round keys; both sides
    become the same chain of nine `AESENC` and one `AESENCLAST` -/
theorem encryptBlock10 (k0 k1 k2 k3 k4 k5 k6 k7 k8 k9 k10 : R) (inp : R) :
    encryptBlock [k0, k1, k2, k3, k4, k5, k6, k7, k8, k9, k10] 10 inp =
      Fips.cipher [k0, k1, k2, k3, k4, k5, k6, k7, k8, k9, k10] inp := by
  simp only [encryptBlock, Fips.cipher, Fips.addRoundKey, rounds_cons, rounds_last, nrSplit_eq,
    List.getElem?_cons_zero, List.getElem?_cons_succ, Option.bind_eq_bind, Option.bind_some, Option.pure_def,
    Nat.lt_irrefl, if_false]

theorem encryptBlock14 (k0 k1 k2 k3 k4 k5 k6 k7 k8 k9 k10 k11 k12 k13 k14 : R) (inp : R) :
    encryptBlock [k0, k1, k2, k3, k4, k5, k6, k7, k8, k9, k10, k11, k12, k13, k14] 14 inp =
      Fips.cipher [k0, k1, k2, k3, k4, k5, k6, k7, k8, k9, k10, k11, k12, k13, k14] inp := by
  simp only [encryptBlock, Fips.cipher, Fips.addRoundKey, rounds_cons, rounds_last, nrSplit_eq,
    List.getElem?_cons_zero, List.getElem?_cons_succ, Option.bind_eq_bind, Option.bind_some, Option.pure_def,
    show (14 : Nat) > 10 from by decide, if_true]

/-- four applications of FIPS-197 (5.2)'s recurrence `w[i] = w[i−Nk] ⊕ temp`, the first with
    `temp = g`, the next three with `temp = w[i−1]`: the next round key from `back = w[i−Nk … i−Nk+3]` -/
def fipsNext (g : W4) (back : R) : R :=
  let a := back.w0 ^^^ g
  let b := back.w1 ^^^ a
  let c := back.w2 ^^^ b
  ⟨a, b, c, back.w3 ^^^ c⟩

/-- next round key with `temp = SubWord(RotWord(w[i−1])) ⊕ [rc, 0, 0, 0]` -/
def nextRot (rc : UInt8) (back prev : R) : R :=
  fipsNext (Fips.subWord (Fips.rotWord prev.w3) ^^^ ⟨rc, 0, 0, 0⟩) back
/-- next round key with `temp = SubWord(w[i−1])` -/
def nextSub (back prev : R) : R := fipsNext (Fips.subWord prev.w3) back

/-- `MKRKEY…` with shuffle `0xff`: `temp = RotWord(SubWord(w[i−1])) ⊕ Rcon` -/
theorem mkrkey_ff (back prev : R) (rc : UInt8) : mkrkey back prev 0xff rc = some (nextRot rc back prev) := by
  simp only [mkrkey, bcast, aeskeygenassist, if_true, Option.map_some, nextRot, fipsNext, R.xor_def, slli4, slli8,
    W4.xor_zero, Option.some.injEq, R.mk.injEq, subWord_rotWord]
  repeat' constructor
  all_goals ac_rfl

/-- `MKRKEY256` with shuffle `0xaa`: `temp = SubWord(w[i−1])`, the rcon immediate is ignored -/
theorem mkrkey_aa (back prev : R) (rc : UInt8) : mkrkey back prev 0xaa rc = some (nextSub back prev) := by
  simp only [mkrkey, bcast, aeskeygenassist, show ((0xaa : Nat) = 0xff) = False from by decide, if_false, if_true,
    Option.map_some, nextSub, fipsNext, R.xor_def, slli4, slli8, W4.xor_zero, Option.some.injEq, R.mk.injEq]
  repeat' constructor
  all_goals ac_rfl

theorem nextWord_rot {nk i : Nat} (h : i % nk = 0) (prev back : W4) (t : List W4)
    (hb : (prev :: t)[nk - 1]? = some back) :
    Fips.nextWord nk i (prev :: t) = some (back ^^^ (Fips.subWord (Fips.rotWord prev) ^^^ Fips.rcon (i / nk))) := by
  unfold Fips.nextWord
  rw [hb]
  simp only [if_pos h]

theorem nextWord_sub {nk i : Nat} (h0 : i % nk ≠ 0) (h4 : nk > 6 ∧ i % nk = 4) (prev back : W4) (t : List W4)
    (hb : (prev :: t)[nk - 1]? = some back) :
    Fips.nextWord nk i (prev :: t) = some (back ^^^ Fips.subWord prev) := by
  unfold Fips.nextWord
  rw [hb]
  simp only [if_neg h0, if_pos h4]

theorem nextWord_plain {nk i : Nat} (h0 : i % nk ≠ 0) (h4 : ¬(nk > 6 ∧ i % nk = 4)) (prev back : W4) (t : List W4)
    (hb : (prev :: t)[nk - 1]? = some back) :
    Fips.nextWord nk i (prev :: t) = some (back ^^^ prev) := by
  unfold Fips.nextWord
  rw [hb]
  simp only [if_neg h0, if_neg h4]

theorem extend_step {nk n i : Nat} {ws : List W4} {w : W4} (h : Fips.nextWord nk i ws = some w) :
    Fips.extend nk (n + 1) i ws = Fips.extend nk n (i + 1) (w :: ws) := by
  rw [Fips.extend, h]

/-- round keys newest first → schedule words newest first -/
def wordsNF : List R → List W4
  | [] => []
  | r :: rs => r.w3 :: r.w2 :: r.w1 :: r.w0 :: wordsNF rs

/-- AES-128: the four words `w[i … i+3]`, `i ≡ 0 (mod 4)`, are the next round key -/
theorem ext128 (n i : Nat) (h : i % 4 = 0) (prev : R) (older : List R) :
    Fips.extend 4 (n + 4) i (wordsNF (prev :: older)) =
      Fips.extend 4 n (i + 4) (wordsNF (nextRot (Fips.rconByte (i / 4)) prev prev :: prev :: older)) := by
  show Fips.extend 4 (n + 4) i (prev.w3 :: prev.w2 :: prev.w1 :: prev.w0 :: wordsNF older) = _
  rw [extend_step (nextWord_rot h _ _ _ (by rfl)),
    extend_step (nextWord_plain (by omega) (by omega) _ _ _ (by rfl)),
    extend_step (nextWord_plain (by omega) (by omega) _ _ _ (by rfl)),
    extend_step (nextWord_plain (by omega) (by omega) _ _ _ (by rfl))]
  rfl

/-- AES-256, `i ≡ 0 (mod 8)`: `temp = SubWord(RotWord(w[i−1])) ⊕ Rcon[i/8]` -/
theorem ext256rot (n i : Nat) (h : i % 8 = 0) (back prev : R) (older : List R) :
    Fips.extend 8 (n + 4) i (wordsNF (prev :: back :: older)) =
      Fips.extend 8 n (i + 4) (wordsNF (nextRot (Fips.rconByte (i / 8)) back prev :: prev :: back :: older)) := by
  show Fips.extend 8 (n + 4) i (prev.w3 :: prev.w2 :: prev.w1 :: prev.w0 :: wordsNF (back :: older)) = _
  rw [extend_step (nextWord_rot h _ _ _ (by rfl)),
    extend_step (nextWord_plain (by omega) (by omega) _ _ _ (by rfl)),
    extend_step (nextWord_plain (by omega) (by omega) _ _ _ (by rfl)),
    extend_step (nextWord_plain (by omega) (by omega) _ _ _ (by rfl))]
  rfl

/-- AES-256, `i ≡ 4 (mod 8)`: `temp = SubWord(w[i−1])` -/
theorem ext256sub (n i : Nat) (h : i % 8 = 4) (back prev : R) (older : List R) :
    Fips.extend 8 (n + 4) i (wordsNF (prev :: back :: older)) =
      Fips.extend 8 n (i + 4) (wordsNF (nextSub back prev :: prev :: back :: older)) := by
  show Fips.extend 8 (n + 4) i (prev.w3 :: prev.w2 :: prev.w1 :: prev.w0 :: wordsNF (back :: older)) = _
  rw [extend_step (nextWord_sub (by omega) (by omega) _ _ _ (by rfl)),
    extend_step (nextWord_plain (by omega) (by omega) _ _ _ (by rfl)),
    extend_step (nextWord_plain (by omega) (by omega) _ _ _ (by rfl)),
    extend_step (nextWord_plain (by omega) (by omega) _ _ _ (by rfl))]
  rfl

theorem roundKeys_flatMap (rks : List R) : Fips.roundKeys (rks.flatMap R.words) = rks := by
  induction rks with
  | nil => rfl
  | cons r rs ih =>
    cases r
    simp only [List.flatMap_cons, R.words, List.cons_append, List.nil_append, Fips.roundKeys, ih]

theorem wordsNF_reverse (rks : List R) : (wordsNF rks).reverse = rks.reverse.flatMap R.words := by
  induction rks with
  | nil => rfl
  | cons r rs ih =>
    simp only [wordsNF, List.reverse_cons, List.flatMap_append, List.flatMap_cons, List.flatMap_nil, ih, R.words,
      List.append_assoc, List.cons_append, List.nil_append, List.append_nil]

theorem roundKeys_wordsNF (rks : List R) : Fips.roundKeys (wordsNF rks).reverse = rks.reverse := by
  rw [wordsNF_reverse, roundKeys_flatMap]

def RconFrom : Nat → List UInt8 → Prop
  | _, [] => True
  | j, rc :: rest => rc = Fips.rconByte j ∧ RconFrom (j + 1) rest

theorem expand128Aux_fips (rcs : List UInt8) (j : Nat) (h : RconFrom j rcs) (prev : R) (older : List R) :
    ∃ rks, expand128Aux rcs (prev :: older) = some rks ∧
      wordsNF rks = Fips.extend 4 (4 * rcs.length) (4 * j) (wordsNF (prev :: older)) := by
  induction rcs generalizing j prev older with
  | nil => exact ⟨_, rfl, rfl⟩
  | cons rc rest ih =>
    obtain ⟨rfl, h2⟩ := h
    obtain ⟨rks, e, hw⟩ := ih (j + 1) h2 (nextRot (Fips.rconByte j) prev prev) (prev :: older)
    refine ⟨rks, ?_, ?_⟩
    · simp only [expand128Aux, show Gen.CpuPaths.aesniShuffle128 = 0xff from rfl, mkrkey_ff]
      exact e
    · rw [hw, show 4 * (_ :: rest).length = 4 * rest.length + 4 by rw [List.length_cons]; omega,
        ext128 _ (4 * j) (by omega), show 4 * j / 4 = j by omega, show 4 * j + 4 = 4 * (j + 1) by omega]

theorem rconFrom_gen : RconFrom 1 Gen.CpuPaths.aesniRcon128 := by
  simp only [Gen.CpuPaths.aesniRcon128, RconFrom]; decide +kernel

theorem expand128_eq (k : R) : expand128 k = some (Fips.roundKeys (Fips.keyExpansion k.words)) := by
  obtain ⟨rks, e, hw⟩ := expand128Aux_fips Gen.CpuPaths.aesniRcon128 1 rconFrom_gen k []
  rw [expand128, e, Option.map_some, ← roundKeys_wordsNF rks, hw]
  rfl

/-- round key `m` (`m ≥ 2`) is made with shuffle `0xff` and `Rcon[m/2]` when `m` is even, with
    shuffle `0xaa` (rcon ignored) when `m` is odd -/
def Sched256 : Nat → List (Nat × UInt8) → Prop
  | _, [] => True
  | m, sr :: rest =>
    (if m % 2 = 0 then sr.1 = 0xff ∧ sr.2 = Fips.rconByte (m / 2) else sr.1 = 0xaa) ∧ Sched256 (m + 1) rest

theorem expand256Aux_fips (srs : List (Nat × UInt8)) (m : Nat) (h : Sched256 m srs) (prev back : R)
    (older : List R) :
    ∃ rks, expand256Aux srs (prev :: back :: older) = some rks ∧
      wordsNF rks = Fips.extend 8 (4 * srs.length) (4 * m) (wordsNF (prev :: back :: older)) := by
  induction srs generalizing m prev back older with
  | nil => exact ⟨_, rfl, rfl⟩
  | cons sr rest ih =>
    obtain ⟨h1, h2⟩ := h
    obtain ⟨sh, rc⟩ := sr
    rw [show 4 * (_ :: rest).length = 4 * rest.length + 4 by rw [List.length_cons]; omega]
    by_cases hm : m % 2 = 0
    · rw [if_pos hm] at h1
      obtain ⟨rfl, h1⟩ := h1
      dsimp only at h1
      subst h1
      obtain ⟨rks, e, hw⟩ := ih (m + 1) h2 (nextRot (Fips.rconByte (m / 2)) back prev) prev (back :: older)
      refine ⟨rks, by simp only [expand256Aux, mkrkey_ff]; exact e, ?_⟩
      rw [hw, ext256rot _ (4 * m) (by omega), show 4 * m / 8 = m / 2 by omega,
        show 4 * m + 4 = 4 * (m + 1) by omega]
    · rw [if_neg hm] at h1
      dsimp only at h1
      subst h1
      obtain ⟨rks, e, hw⟩ := ih (m + 1) h2 (nextSub back prev) prev (back :: older)
      refine ⟨rks, by simp only [expand256Aux, mkrkey_aa]; exact e, ?_⟩
      rw [hw, ext256sub _ (4 * m) (by omega), show 4 * m + 4 = 4 * (m + 1) by omega]

theorem sched256_gen : Sched256 2 Gen.CpuPaths.aesniShufRcon256 := by
  simp only [Gen.CpuPaths.aesniShufRcon256, Sched256]; decide +kernel

theorem expand256_eq (k0 k1 : R) :
    expand256 k0 k1 = some (Fips.roundKeys (Fips.keyExpansion (k0.words ++ k1.words))) := by
  obtain ⟨rks, e, hw⟩ := expand256Aux_fips Gen.CpuPaths.aesniShufRcon256 2 sched256_gen k1 k0 []
  rw [expand256, e, Option.map_some, ← roundKeys_wordsNF rks, hw]
  rfl

theorem encryptBlock_11 (rks : List R) (h : rks.length = 11) (inp : R) :
    encryptBlock rks 10 inp = Fips.cipher rks inp := by
  obtain ⟨k0, k1, k2, k3, t, rfl, h1⟩ := uncons4 (n := 7) h
  obtain ⟨k4, k5, k6, k7, t, rfl, h2⟩ := uncons4 (n := 3) h1
  obtain ⟨k8, k9, k10, rfl⟩ := len3 h2
  exact encryptBlock10 ..

theorem encryptBlock_15 (rks : List R) (h : rks.length = 15) (inp : R) :
    encryptBlock rks 14 inp = Fips.cipher rks inp := by
  obtain ⟨k0, k1, k2, k3, t, rfl, h1⟩ := uncons4 (n := 11) h
  obtain ⟨k4, k5, k6, k7, t, rfl, h2⟩ := uncons4 (n := 7) h1
  obtain ⟨k8, k9, k10, k11, t, rfl, h3⟩ := uncons4 (n := 3) h2
  obtain ⟨k12, k13, k14, rfl⟩ := len3 h3
  exact encryptBlock14 ..

theorem keyWords_reg (k : R) : Fips.keyWords k.bytes = k.words := rfl

theorem keyWords_reg_append (k0 k1 : R) : Fips.keyWords (k0.bytes ++ k1.bytes) = k0.words ++ k1.words := rfl

theorem expand_bytes (k0 k1 : R) :
    (expand128 k0).map (·.map R.bytes) = some (Spec.Aes.keyExpansion k0.bytes) ∧
    (expand256 k0 k1).map (·.map R.bytes) = some (Spec.Aes.keyExpansion (k0.bytes ++ k1.bytes)) := by
  constructor
  · rw [expand128_eq, Option.map_some, ← keyWords_reg, CpuAesSpec.roundKeys_eq_spec _ (Or.inl rfl)]
  · rw [expand256_eq, Option.map_some, ← keyWords_reg_append, CpuAesSpec.roundKeys_eq_spec _ (Or.inr rfl)]

theorem aesni128_eq (k inp : R) :
    (expand128 k).bind (fun rks => encryptBlock rks Gen.CpuPaths.aesniNr128 inp) = Fips.encrypt k.words inp := by
  have hlen : (Fips.roundKeys (Fips.keyExpansion k.words)).length = 11 := by
    rw [← keyWords_reg, CpuAesSpec.roundKeys_count _ (.inl rfl), CpuAesSpec.R.bytes_length]
  rw [expand128_eq, Option.bind_some, nr128_eq, encryptBlock_11 _ hlen]
  rfl

theorem aesni256_eq (k0 k1 inp : R) :
    (expand256 k0 k1).bind (fun rks => encryptBlock rks Gen.CpuPaths.aesniNr256 inp) =
      Fips.encrypt (k0.words ++ k1.words) inp := by
  have hlen : (Fips.roundKeys (Fips.keyExpansion (k0.words ++ k1.words))).length = 15 := by
    rw [← keyWords_reg_append, CpuAesSpec.roundKeys_count _ (.inr rfl), List.length_append,
      CpuAesSpec.R.bytes_length, CpuAesSpec.R.bytes_length]
  rw [expand256_eq, Option.bind_some, nr256_eq, encryptBlock_15 _ hlen]
  rfl

theorem keyLen128_eq : Gen.CpuPaths.aesniKeyLen128 = 16 := rfl
theorem keyLen256_eq : Gen.CpuPaths.aesniKeyLen256 = 32 := rfl

/-- the same on key bytes, including the length dispatch of `crypto_aes_key_expand_aesni`: the key is the bytes of one
    register, or of two -/
theorem aesniEncrypt_eq (key : List UInt8) (inp : R) (h : key.length = 16 ∨ key.length = 32) :
    aesniEncrypt key inp = Fips.encrypt (Fips.keyWords key) inp := by
  unfold aesniEncrypt
  rw [keyLen128_eq, keyLen256_eq]
  rcases h with h | h
  · obtain ⟨k, hk, rfl⟩ := CpuAesSpec.ofBytes_bytes key h
    rw [if_pos h, hk, Option.bind_some, keyWords_reg]
    exact aesni128_eq k inp
  · obtain ⟨k0, hk0, e0⟩ := CpuAesSpec.ofBytes_bytes (key.take 16) (by rw [List.length_take]; omega)
    obtain ⟨k1, hk1, e1⟩ := CpuAesSpec.ofBytes_bytes (key.drop 16) (by rw [List.length_drop]; omega)
    rw [if_neg (by omega), if_pos h, hk0, hk1, Option.bind_some, Option.bind_some, ← List.take_append_drop 16 key,
      ← e0, ← e1, keyWords_reg_append]
    exact aesni256_eq k0 k1 inp

end Percival.Proofs.CpuAesni
