import Percival.Proofs.HexEndian
/-! A load after a store at the same offset returns the stored value: for any store that puts its bytes in place of the
`n` bytes at `p` and any load that evaluates the `n` bytes at `p` (the shapes the `*_spec` lemmas of `Proofs.Endian` have). -/
namespace Percival.Proofs.Endian
open Percival.Model Percival.Spec

theorem window_of_splice {b b' : Buf} {p n : Nat} {m : List UInt8} (hm : m.length = n) (h : p + n ≤ b.size)
    (hl : b'.toList = b.toList.take p ++ m ++ b.toList.drop (p + n)) :
    p + n ≤ b'.size ∧ (b'.toList.drop p).take n = m := by
  have hp : (b.toList.take p).length = p := by simp; omega
  constructor
  · have := congrArg List.length hl
    simp at this
    omega
  · rw [hl, List.append_assoc, List.drop_left' hp, List.take_left' hm]

/-- a store that puts the bytes `m` at `p`, followed by a load that evaluates the `n` bytes at `p` with `val`,
    returns `val m` -/
theorem store_load {α : Type} {enc : Res Buf} {dec : Buf → Res α} (val : List UInt8 → α) {b : Buf} {p n : Nat}
    {m : List UInt8} {x : α} (hm : m.length = n) (h : p + n ≤ b.size)
    (henc : ∃ b', enc = .ok b' ∧ b'.toList = b.toList.take p ++ m ++ b.toList.drop (p + n))
    (hdec : ∀ b' : Buf, p + n ≤ b'.size → dec b' = .ok (val ((b'.toList.drop p).take n))) (hval : val m = x) :
    ∃ b', enc = .ok b' ∧ b'.toList = b.toList.take p ++ m ++ b.toList.drop (p + n) ∧ dec b' = .ok x := by
  obtain ⟨b', he, hl⟩ := henc
  obtain ⟨hs, hw⟩ := window_of_splice hm h hl
  exact ⟨b', he, hl, by rw [hdec b' hs, hw, hval]⟩

end Percival.Proofs.Endian
