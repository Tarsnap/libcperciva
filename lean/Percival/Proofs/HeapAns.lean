import Percival.Proofs.TokText
import Percival.Proofs.HeapStep
import Percival.Driver.Heap
import Percival.Driver.Heapmon
/-!
# `XOut.l1` is read ∘ print (C13): what `pmodel heapmon` reads of a line `pmodel heap` prints

`Driver/Heap.render o` is the tokens `Heap.l1Toks o` joined by single spaces, followed by ` | ` and the L2 part;
`Driver/Heapmon.parseAns` reads a list of tokens as the answer to a heap / timer-queue operation.
`parseAns_l1Toks`: **for every typed output `o` and every operation of the same object (heap / timer queue),
`Heapmon.parseAns op (Heap.l1Toks o) = some o.l1`** — `XOut.l1` (`Model/HeapStep.lean`) being the typed answer
`C13.run_ops_accepted` feeds to the monitor.  Number printing / reading, the `,`-separated id lists
(`String.split` with a character pattern) and the words `none` / `-` included.  Not covered: the cut of the printed
line at ` | ` and at the spaces (`Driver/Loop.loopMon`, `tools/vlib.py`); no token contains a space (`l1Toks_line`).
Number / splitting lemmas from `Proofs/TokText.lean`.
-/
namespace Percival.Proofs.HeapAns
open Percival Percival.Driver Percival.Spec.PQ Percival.Model.HeapStep Percival.Proofs.TokText
open Percival.Driver.Heap Percival.Driver.Heapmon

theorem splitCh_eq : @Heapmon.splitCh = @cut := rfl

theorem parseIds_commaOr (ids : List Nat) : parseIds (commaOr (ids.map toString)) = some ids := readDashList_nats ids

theorem commaOr_nats_sp (ids : List Nat) : ' ' ∉ (commaOr (ids.map toString)).toList := dashList_nats_sp ids

theorem parseAnsH_ansToks (a : Ans) : parseAnsH (ansToks a) = some a := by
  -- `rw [parseAnsH]`: the reader's equation for the shape at hand; for `min <number>` it asks that the number is not `none`
  rcases a with _ | e | (_ | e) | _ | _ | ids <;> simp only [ansToks, showOptNat] <;> rw [parseAnsH]
  · rw [nat_rt]; rfl
  · rw [nat_rt]; rfl
  · exact nat_ne_none e
  · rw [parseIds_commaOr]; rfl

theorem parseAnsT_tansToks (a : TAns) : parseAnsT (tansToks a) = some (tl1 (.ans a)) := by
  rcases a with _ | _ | _ | (_ | ⟨s, u⟩) | (_ | ⟨r, p⟩) <;> simp only [tansToks] <;> rw [parseAnsT] <;> try rfl
  · rw [int_rt, int_rt]; rfl
  · rw [nat_rt]; rfl
  · exact nat_ne_none p

theorem parseAnsT_l1Toks (o : TOut) : parseAnsT (l1Toks (.t o)) = some (tl1 o.ans) := by
  obtain ⟨ans, l2⟩ := o
  cases ans with
  | ans a => exact parseAnsT_tansToks a
  | drained ps => rw [l1Toks, parseAnsT, parseIds_commaOr]; rfl

/-- **what `pmodel heapmon` reads of the L1 tokens `pmodel heap` prints is `XOut.l1`**: for every typed output and
every operation of the same object -/
theorem parseAns_l1Toks_h (op : Op) (o : HOut) : parseAns (.h op) (l1Toks (.h o)) = some (XOut.l1 (.h o)) := by
  simp only [parseAns, l1Toks, parseAnsH_ansToks, Option.map_some, XOut.l1]

theorem parseAns_l1Toks_t (op : TOpI) (o : TOut) : parseAns (.t op) (l1Toks (.t o)) = some (XOut.l1 (.t o)) := by
  simp only [parseAns, parseAnsT_l1Toks, Option.map_some, XOut.l1]

def sameKind : XOpI → XOut → Prop
  | .h _, .h _ => True
  | .t _, .t _ => True
  | _, _ => False

theorem parseAns_l1Toks (op : XOpI) (o : XOut) (h : sameKind op o) : parseAns op (l1Toks o) = some o.l1 := by
  cases op <;> cases o <;> first | exact parseAns_l1Toks_h _ _ | exact parseAns_l1Toks_t _ _ | cases h

theorem stepOp_sameKind (s : St) (op : XOp) : sameKind op.toI (stepOp s op).2 := by
  cases op with
  | h o => trivial
  | t o => cases o <;> trivial

theorem nat_sp (n : Nat) : ' ' ∉ (toString n).toList := (atom_nat n).sp

theorem vocab : Atom "min" ∧ Atom "precondition" ∧ Atom "drain" ∧ Atom "tmin" ∧ Atom "rel" ∧ Atom "tdrain" := by
  decide +kernel

theorem ansToks_line (a : Ans) : Line (ansToks a) := by
  rcases a with _ | e | (_ | e) | _ | _ | ids <;>
    simp only [ansToks, showOptNat, line_one, line_more, Atom.sp, vocab, words, atom_nat, commaOr_nats_sp,
      not_false_eq_true, and_self]

theorem tansToks_line (a : TAns) : Line (tansToks a) := by
  rcases a with _ | _ | _ | (_ | ⟨s, u⟩) | (_ | ⟨r, p⟩) <;>
    simp only [tansToks, line_one, line_more, Atom.sp, vocab, words, atom_nat, atom_int, not_false_eq_true, and_self]

theorem l1Toks_line (o : XOut) : Line (l1Toks o) := by
  cases o with
  | h o => exact ansToks_line o.ans
  | t o =>
    obtain ⟨ans, l2⟩ := o
    cases ans with
    | ans a => exact tansToks_line a
    | drained ps =>
      simp only [l1Toks, line_one, line_more, Atom.sp, vocab, commaOr_nats_sp, not_false_eq_true, and_self]

theorem split_l1 (o : XOut) : Heapmon.splitCh ' ' (" ".intercalate (l1Toks o)) = l1Toks o := (l1Toks_line o).cut

theorem parsePairs_eq : @Heapmon.parsePairs = @Heap.parsePairs := rfl

/-- `pmodel heapmon` reads an operation line as `pmodel heap` does (the drain time is the protocol's constant) -/
theorem parseOp_eq (toks : List String) : Heapmon.parseOp toks = (Heap.parse toks).map XOp.toI := by
  unfold Heapmon.parseOp
  -- `rw [Heap.parse]` uses the equation of `Heap.parse` for the shape at hand (`simp [Heap.parse]` would evaluate
  -- the string comparisons of its `match` in every case)
  split
  case h_16 => rw [Heap.parse] <;> first | rfl | assumption
  all_goals
    rw [Heap.parse]
    simp only [parsePairs_eq, XOp.toI, Option.map_bind, Function.comp_def, Option.map_some, Option.pure_def,
      Option.bind_eq_bind]

/-- the verdict lines `pmodel heapmon` prints on a case: `Heapmon.step` along the (operation line, answer line) pairs -/
def verdicts (m : XMSt) : List (List String × List String) → List String
  | [] => []
  | (op, ans) :: rest => (Heapmon.step m op ans).2 :: verdicts (Heapmon.step m op ans).1 rest

/-- the lines `pmodel heap` prints on a case: `Heap.step` along the operation lines -/
def printed (s : St) : List (List String) → List String
  | [] => []
  | l :: rest => (Heap.step s l).2 :: printed (Heap.step s l).1 rest

theorem step_l1Toks (s : St) (m : XMSt) (line : List String) (op : XOp) (hp : Heap.parse line = some op) :
    Heapmon.step m line (l1Toks (stepOp s op).2) =
      ((monStepX m op.toI (stepOp s op).2.l1).1,
       if (monStepX m op.toI (stepOp s op).2.l1).2 then "ok" else "bad " ++ whyX m op.toI (stepOp s op).2.l1) := by
  simp only [Heapmon.step, parseOp_eq, hp, Option.map_some, parseAns_l1Toks _ _ (stepOp_sameKind s op)]

theorem verdicts_ok : ∀ (lines : List (List String)) (ops : List XOp) (s : St) (m : XMSt),
    lines.mapM Heap.parse = some ops →
    acceptsX m ((ops.map XOp.toI).zip ((runOps s ops).2.map XOut.l1)) = true →
    verdicts m (lines.zip ((runOps s ops).2.map l1Toks)) = List.replicate lines.length "ok"
  | [], _, _, _, _, _ => rfl
  | line :: lines, ops, s, m, hp, hacc => by
    obtain ⟨op, ops', h1, h2, rfl⟩ := mapM_cons_some hp
    simp only [runOps, List.map_cons, List.zip_cons_cons, acceptsX, Bool.and_eq_true] at hacc
    simp only [runOps, List.map_cons, List.zip_cons_cons, verdicts, step_l1Toks s m line op h1, hacc.1, if_true,
      List.length_cons, List.replicate_succ]
    rw [verdicts_ok lines ops' _ _ h2 hacc.2]

theorem printed_eq : ∀ (lines : List (List String)) (ops : List XOp) (s : St),
    lines.mapM Heap.parse = some ops → printed s lines = (runOps s ops).2.map Heap.render
  | [], _, _, hp => by cases hp; rfl
  | line :: lines, ops, s, hp => by
    obtain ⟨op, ops', h1, h2, rfl⟩ := mapM_cons_some hp
    simp only [printed, Heap.step, h1, runOps, List.map_cons, printed_eq lines ops' _ h2]

end Percival.Proofs.HeapAns
