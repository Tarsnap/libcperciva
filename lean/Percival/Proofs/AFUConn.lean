import Percival.Proofs.AFUCalc
/-!
# C14, upper layers: `network_connect` / `network_connect_timeo` / `network_connect_cancel`

`network_connect_internal` allocates the cookie and calls `tryconnect(C)`, which either runs out of addresses and
schedules an immediate callback, or registers the socket of the first address that does not fail at once — after
setting a timer, if a timeout was asked for.  With and without the timer the code from "Wait until this socket connects
or fails to do so." on is the same, down to the ladder
`err2: if (C->cookie_timeo != NULL) events_timer_cancel(C->cookie_timeo); err1: … free(C);`.  So the model equations
`tryconnect_imm` / `tryconnect_sock` cut `tryconnect` into `immTail` and one `sockTail wa c s tb`, where `tb` says
whether the timer is set, and that tail is followed once, for both (`Trying.sockTail`).

`Trying w wa c tb` is the state in which `tryconnect` runs: the call, begun in `w`, holds the cookie's block and, if
`tb`, its timer (`At`); and what a failed call has to restore exactly — `live`, the tables, the three lists of the
registry — is known of `wa` as equations to `w`.  Every path ends in one of two ways: a registration succeeded, and the
cookie enters the table with what was registered for it (`Trying.enter`); or it failed with the registry as it was,
and the timer is cancelled again and the cookie freed (`Trying.giveUp`).  `Tried` is what the caller gets either way.

The cancel takes the entry out of its table, so that the call holds what the entry held, and gives that up piece by
piece in the C's order: timer, immediate event, socket, cookie.
-/
namespace Percival.Proofs.AllocFailUpper
open Percival.Model Percival.Model.EvReg Percival.Model.AllocFail
open Percival.Proofs.EvRegNet (regNet netRegistered NetInv)
open Percival.Proofs.EvRegTimer (regImm regTimers TmInv Step Granted)
open Percival.Proofs.EArray (free_facts)

/-! ## `network_connect` -/

/-- out of addresses: "Schedule a callback.", or err1 -/
def immTail (wa : World) (c : Nat) : Bool × World :=
  match immReg wa.ev c 0 wa.m with
  | (true, e', m') => (true, { setEv wa e' m' with conns := ⟨c, none, false, true⟩ :: wa.conns })
  | (false, e', m') => (false, release (setEv wa e' m') c)

/-- the rest of `tryconnect` once the optional timer is set: wait for the socket, or err2 / err1 -/
def sockTail (wa : World) (c s : Nat) (tb : Bool) : Bool × World :=
  match netReg wa.ev c s true wa.m with
  | (.ok, e', m') => (true, { setEv wa e' m' with conns := ⟨c, some s, tb, false⟩ :: wa.conns })
  | (_, e', m') => (false, release (if tb then timerCancel (setEv wa e' m') c else setEv wa e' m') c)

theorem tryconnect_imm (wa : World) (c : Nat) (addrs : List Connect.AddrOutcome) (timeo : Option Int) (s : Nat)
    (hs : skipFailNow addrs = []) : tryconnect wa c addrs timeo s = immTail wa c := by
  unfold tryconnect immTail
  rw [hs]
  rcases immReg wa.ev c 0 wa.m with ⟨ok, e', m'⟩
  cases ok <;> rfl

theorem tryconnect_sock (wa : World) (c : Nat) (addrs : List Connect.AddrOutcome) (timeo : Option Int) (s : Nat)
    {a : Connect.AddrOutcome} {rest : List Connect.AddrOutcome} (hs : skipFailNow addrs = a :: rest) :
    tryconnect wa c addrs timeo s =
      match timeo with
      | none => sockTail wa c s false
      | some t =>
        match tmReg wa.ev c t wa.now wa.m with
        | (true, e', m') => sockTail (setEv wa e' m') c s true
        | (false, e', m') => (false, release (setEv wa e' m') c) := by
  unfold tryconnect sockTail
  rw [hs]
  cases timeo with
  | none =>
    dsimp only
    rcases netReg wa.ev c s true wa.m with ⟨res, e', m'⟩
    cases res <;> rfl
  | some t =>
    dsimp only
    rcases tmReg wa.ev c t wa.now wa.m with ⟨ok, e', m'⟩
    cases ok
    · rfl
    · dsimp only
      rcases netReg (setEv wa e' m').ev c s true (setEv wa e' m').m with ⟨res, e'', m''⟩
      cases res <;> rfl

theorem sockTail_eq {wa : World} {c s : Nat} {tb : Bool} {res : NetRes} {e' : Ev} {m' : Mem}
    (hnr : netReg wa.ev c s true wa.m = (res, e', m')) :
    sockTail wa c s tb =
      if res = .ok then (true, { setEv wa e' m' with conns := ⟨c, some s, tb, false⟩ :: wa.conns })
      else (false, release (if tb then timerCancel (setEv wa e' m') c else setEv wa e' m') c) := by
  simp only [sockTail, hnr]
  cases res <;> rfl

/-- what `tryconnect(C)` promises on every path: `k` is the table entry a success makes for the cookie `c`, `prog` the
condition under which a failure is due to a refused request -/
structure Tried (w : World) (c : Nat) (k : Conn) (prog : Prop) (R : Bool × World) : Prop where
  arr : Arrives w R.2
  fail : R.1 = false → Same w R.2 ∧ (prog → w.m.refusals < R.2.m.refusals)
  ok : R.1 = true → R.2.live = ⟨c, .connCookie, connCookieSize⟩ :: w.live ∧
    tables R.2 = { tables w with conns := k :: w.conns } ∧ R.2.m.refusals = w.m.refusals

/-- `tryconnect(C)` under way in `wa`: the cookie `c` is allocated and in no table, only the event layer moved since,
no request was refused, and the registrations are those of `w` and, if `tb`, the cookie's timer -/
structure Trying (w wa : World) (c : Nat) (tb : Bool) : Prop where
  bad0 : w.bad = 0
  fresh : c ∉ regTimers w.ev
  held : At w wa ({ tm := if tb then [c] else [] } ++ (Foot.key (c, .connCookie) ++ foot (tables w)))
  live : wa.live = ⟨c, .connCookie, connCookieSize⟩ :: w.live
  tabs : tables wa = tables w
  ref : wa.m.refusals = w.m.refusals
  regNet : regNet wa.ev = regNet w.ev
  regImm : regImm wa.ev = regImm w.ev
  regTm : regTimers wa.ev = (if tb then [c] else []) ++ regTimers w.ev

namespace Trying
variable {w wa : World} {c : Nat} {tb : Bool} {k : Conn} {prog : Prop} {e' : Ev} {m' : Mem}

/-- "Bake a cookie.": its block is new, and timers bear ids of blocks the objects hold, so none bears its id -/
theorem start (h : Inv0 w) (ha : alloc w .connCookie connCookieSize = (some c, wa)) : Trying w wa c false := by
  obtain ⟨h1, hr⟩ := h.at.malloc ha
  obtain ⟨rfl, rfl, -⟩ := alloc_some ha
  exact ⟨h.bad0, fun hx => (foot_fresh h1.owns.nodupE).1 (h.regTm.mem_iff.1 hx), h1, rfl, rfl, hr, rfl, rfl, rfl⟩

/-- a registration succeeded: the cookie enters the table with what was registered for it -/
theorem enter (hm : Trying w wa c tb) (sock : Option Nat) (imm : Bool)
    (h : At w (setEv wa e' m') (footConn ⟨c, sock, tb, imm⟩ ++ foot (tables w)))
    (href : m'.refusals = wa.m.refusals) :
    Tried w c ⟨c, sock, tb, imm⟩ prog (true, { setEv wa e' m' with conns := ⟨c, sock, tb, imm⟩ :: wa.conns }) := by
  refine ⟨?_, nofun, fun _ => ⟨hm.live, ?_, href.trans hm.ref⟩⟩
  · refine h.put Tab.conns (_ :: wa.conns) ?_
    rw [← hm.tabs]
    exact (Tab.conns.cons (tables wa) _ wa.conns).symm
  · show ({ tables wa with conns := _ :: wa.conns } : Tables) = _
    rw [hm.tabs, show wa.conns = w.conns from congrArg Tables.conns hm.tabs]

/-- a registration failed and left the registry as it was: err2 (the timer, if one was set, is cancelled again), then
err1 (`free(C)`) -/
theorem giveUp (hm : Trying w wa c tb)
    (h : At w (setEv wa e' m') ({ tm := if tb then [c] else [] } ++ (Foot.key (c, .connCookie) ++ foot (tables w))))
    (hreg : registry e' = registry wa.ev) (hp : prog → wa.m.refusals < m'.refusals) :
    Tried w c k prog (false, release (if tb then timerCancel (setEv wa e' m') c else setEv wa e' m') c) := by
  obtain ⟨r1, r2, r3⟩ := (registry_eq_iff _ _).1 hreg
  have hlt : prog → w.m.refusals < m'.refusals := fun hpr => hm.ref ▸ hp hpr
  cases tb with
  | false =>
    obtain ⟨h3, hsame, href⟩ := h.giveBack hm.bad0 hm.live hm.tabs
      ((registry_eq_iff _ _).2 ⟨r1.trans hm.regImm, r2.trans hm.regTm, r3.trans hm.regNet⟩)
    exact ⟨h3, fun _ => ⟨hsame, fun hpr => Nat.lt_of_lt_of_eq (hlt hpr) href.symm⟩, nofun⟩
  | true =>
    have hle := (timerCancel_step (setEv wa e' m') c).r
    obtain ⟨e2, m2, htc, h2, t2, i2, n2⟩ := h.timerCancel
    simp only [if_true, htc] at hle ⊢
    -- the timer taken out is the one just set, so the list of timers is the one `w` had
    obtain ⟨h3, hsame, href⟩ := h2.giveBack hm.bad0 hm.live hm.tabs ((registry_eq_iff _ _).2
      ⟨(i2.trans r1).trans hm.regImm,
       (t2.trans (congrArg _ (r2.trans hm.regTm))).trans (filter_ne_cons_self hm.fresh), (n2.trans r3).trans hm.regNet⟩)
    exact ⟨h3, fun _ => ⟨hsame, fun hpr => Nat.lt_of_lt_of_le (hlt hpr) (Nat.le_trans hle (Nat.le_of_eq href.symm))⟩, nofun⟩

theorem immTail (hm : Trying w wa c false) : Tried w c ⟨c, none, false, true⟩ prog (immTail wa c) := by
  rcases hir : immReg wa.ev c 0 wa.m with ⟨ok, e', m'⟩
  obtain ⟨hok, hno⟩ := hm.held.immReg hir
  simp only [AllocFailUpper.immTail, hir]
  cases ok with
  | false =>
    -- `goto err1`
    obtain ⟨h2, hreg, hlt⟩ := hno rfl
    exact hm.giveUp h2 hreg fun _ => hlt
  | true =>
    -- "Failure successfully handled."
    obtain ⟨h2, href⟩ := hok rfl
    exact hm.enter none true h2 href

theorem sockTail (hm : Trying w wa c tb) (s : Nat)
    (hp : prog → fdOk w s true) :
    Tried w c ⟨c, some s, tb, false⟩ prog (sockTail wa c s tb) := by
  rcases hnr : netReg wa.ev c s true wa.m with ⟨res, e', m'⟩
  obtain ⟨hok, hno⟩ := hm.held.netReg hnr
  rw [sockTail_eq hnr]
  by_cases hres : res = .ok
  · -- "Success!"
    rw [if_pos hres]
    obtain ⟨h2, href⟩ := hok hres
    exact hm.enter (some s) false h2 href
  · -- `goto err2`
    rw [if_neg hres]
    obtain ⟨h2, hreg, hprog⟩ := hno hres
    exact hm.giveUp h2 hreg fun hpr => hprog ⟨by simp only [netRegistered, hm.regNet]; exact (hp hpr).1, (hp hpr).2⟩

/-- `tryconnect(C)`, called with the cookie just allocated -/
theorem tryconnect (hm : Trying w wa c false) (addrs : List Connect.AddrOutcome) (timeo : Option Int) (s : Nat) :
    Tried w c (connEntry c addrs timeo s)
      (connReady w addrs s) (tryconnect wa c addrs timeo s) := by
  cases hsk : skipFailNow addrs with
  | nil =>
    -- "Did we run out of addresses to try?": `goto failed`
    rw [tryconnect_imm _ _ _ _ _ hsk, show connEntry c addrs timeo s = ⟨c, none, false, true⟩ by simp only [connEntry, hsk]]
    exact hm.immTail
  | cons a rest =>
    rw [tryconnect_sock _ _ _ _ _ hsk,
      show connEntry c addrs timeo s = ⟨c, some s, timeo.isSome, false⟩ by simp only [connEntry, hsk]]
    cases timeo with
    | none => exact hm.sockTail s fun hr => hr.1 (hsk ▸ List.cons_ne_nil _ _)
    | some t =>
      -- "If we've been asked to have a timeout, set one.": the cookie just allocated has no timer yet
      simp only
      rcases htr : tmReg wa.ev c t wa.now wa.m with ⟨ok, e', m'⟩
      have hc : c ∉ regTimers wa.ev := by rw [hm.regTm]; exact hm.fresh
      obtain ⟨hok, hno⟩ := hm.held.tmReg (fun hx => hc (hm.held.tm.mem_iff.2 hx)) htr
      cases ok with
      | false =>
        -- `goto err1`
        obtain ⟨h2, hreg, hlt⟩ := hno rfl
        have hlen : wa.ev.timers.length = w.ev.timers.length := by
          simpa [regTimers, registry] using congrArg List.length hm.regTm
        exact hm.giveUp h2 hreg fun hr => hlt (hlen ▸ hr.2)
      | true =>
        obtain ⟨h2, hrt, hri, hrn, href⟩ := hok rfl
        have hm2 : Trying w (setEv wa e' m') c true := ⟨hm.bad0, hm.fresh, h2, hm.live, hm.tabs, href.trans hm.ref,
          hrn.trans hm.regNet, hri.trans hm.regImm, hrt.trans (congrArg _ hm.regTm)⟩
        exact hm2.sockTail s fun hr => hr.1 (hsk ▸ List.cons_ne_nil _ _)

end Trying

/-- `network_connect` / `network_connect_timeo` -/
theorem networkConnect_spec (w : World) (addrs : List Connect.AddrOutcome) (timeo : Option Int) (s : Nat) (h : Inv0 w) :
    NewPost w (networkConnect w addrs timeo s)
      (fun c W => W.live = ⟨c, .connCookie, connCookieSize⟩ :: w.live ∧
        tables W = { tables w with conns := connEntry c addrs timeo s :: w.conns } ∧ W.m.refusals = w.m.refusals)
      (connReady w addrs s) := by
  unfold networkConnect
  rcases ha : alloc w .connCookie connCookieSize with ⟨_ | c, w1⟩
  · -- `goto err0`
    exact NewPost.of_refused h ha
  · -- "Try to connect to the first address."
    have ht := (Trying.start h ha).tryconnect addrs timeo s
    simp only
    generalize AllocFail.tryconnect w1 c addrs timeo s = R at ht ⊢
    rcases R with ⟨_ | _, w2⟩
    · exact ⟨ht.arr, fun _ => (ht.fail rfl).1, nofun, fun _ => rfl, fun _ => (ht.fail rfl).2⟩
    · exact ⟨ht.arr, nofun, fun _ hc => Option.some.inj hc ▸ ht.ok rfl, fun hne => absurd (ht.ok rfl).2.2 hne, nofun⟩

/-! ## `network_connect_cancel` -/

/-- "Cancel any timer." -/
def ccTimer (w : World) (k : Conn) (c : Nat) : World := if k.timer then timerCancel w c else w

/-- "Cancel any immediate callback." -/
def ccImm (w : World) (k : Conn) (c : Nat) : World := if k.imm then immediateCancel w c else w

/-- "Close any socket." (its registration goes) -/
def ccSock (w : World) (k : Conn) : World :=
  match k.sock with
  | some s =>
    match netCancel w.ev s true w.m with
    | (res, e', m') => if res = .ok then setEv w e' m' else { setEv w e' m' with bad := (setEv w e' m').bad + 1 }
  | none => w

theorem networkConnectCancel_eq {w : World} {c : Nat} {k : Conn} (hfind : w.conns.find? (·.cookie == c) = some k) :
    networkConnectCancel w c =
      some { release (ccSock (ccImm (ccTimer w k c) k c) k) c with
               conns := (release (ccSock (ccImm (ccTimer w k c) k c) k) c).conns.filter (·.cookie != c) } := by
  unfold networkConnectCancel
  rw [hfind]
  rfl

/-- only the event layer, the oracle and the ghost counter differ -/
def EvOnly (w w' : World) : Prop := ∃ e m l, w' = { w with ev := e, m := m, evLive := l }

theorem EvOnly.refl (w : World) : EvOnly w w := ⟨_, _, _, rfl⟩
theorem EvOnly.trans {a b c : World} (h : EvOnly a b) (h' : EvOnly b c) : EvOnly a c := by
  obtain ⟨_, _, _, rfl⟩ := h
  obtain ⟨_, _, _, rfl⟩ := h'
  exact ⟨_, _, _, rfl⟩
theorem EvOnly.setEv (w : World) (e : Ev) (m : Mem) : EvOnly w (setEv w e m) := ⟨_, _, _, rfl⟩

/-- what a connection attempt holds, in the order in which `network_connect_cancel` gives it up -/
theorem footConn_split (k : Conn) (R : Foot) : (footConn k ++ R).Equiv
    ({ tm := if k.timer then [k.cookie] else [] } ++ ({ imm := if k.imm then [k.cookie] else [] } ++
      ({ net := (k.sock.map (fun s => (s, true, k.cookie))).toList } ++ (Foot.key (k.cookie, .connCookie) ++ R)))) :=
  ⟨.refl _, .refl _, .refl _, .refl _⟩

theorem At.ccTimer {w0 w : World} {G : Foot} {k : Conn} {c : Nat}
    (h : At w0 w ({ tm := if k.timer then [c] else [] } ++ G)) : At w0 (ccTimer w k c) G ∧ EvOnly w (ccTimer w k c) := by
  unfold AllocFailUpper.ccTimer
  cases ht : k.timer with
  | false => rw [ht] at h; exact ⟨h, .refl w⟩
  | true =>
    rw [ht] at h
    obtain ⟨e2, m2, htc, h2, -⟩ := At.timerCancel h
    simp only [if_true, htc]
    exact ⟨h2, .setEv _ _ _⟩

theorem At.ccImm {w0 w : World} {G : Foot} {k : Conn} {c : Nat}
    (h : At w0 w ({ imm := if k.imm then [c] else [] } ++ G)) (hc : c ∉ G.imm) (hnd : G.imm.Nodup) :
    At w0 (ccImm w k c) G ∧ EvOnly w (ccImm w k c) := by
  unfold AllocFailUpper.ccImm
  cases ht : k.imm with
  | false => rw [ht] at h; exact ⟨h, .refl w⟩
  | true =>
    rw [ht] at h
    obtain ⟨e2, m2, htc, h2, -⟩ := At.immediateCancel h hc hnd
    simp only [if_true, htc]
    exact ⟨h2, .setEv _ _ _⟩

theorem At.ccSock {w0 w : World} {G : Foot} {k : Conn}
    (h : At w0 w ({ net := (k.sock.map (fun s => (s, true, k.cookie))).toList } ++ G)) :
    At w0 (ccSock w k) G ∧ EvOnly w (ccSock w k) := by
  unfold AllocFailUpper.ccSock
  cases hs : k.sock with
  | none => rw [hs] at h; exact ⟨h, .refl w⟩
  | some s =>
    rw [hs] at h
    simp only
    rcases hnc : EvReg.netCancel w.ev s true w.m with ⟨res, e', m'⟩
    obtain ⟨rfl, h2, -⟩ := At.netCancel h hnc
    simp only [if_true]
    exact ⟨h2, .setEv _ _ _⟩

/-- `network_connect_cancel`: cannot fail, under every oracle -/
theorem networkConnectCancel_spec (w : World) (k : Conn) (h : Inv0 w) (hk : k ∈ w.conns) :
    ∃ w', networkConnectCancel w k.cookie = some w' ∧ Arrives w w' ∧
      w'.live = eraseId w.live k.cookie ∧ w'.cache = w.cache ∧
      tables w' = { tables w with conns := w.conns.filter (fun x => x.cookie != k.cookie) } := by
  have hnd := h.ids Tab.conns
  -- the entry leaves its table: the call holds what it held
  have h0 := h.at.equiv (Tab.conns.foot_drop (t := tables w) hk hnd)
  obtain ⟨-, hc, hnd'⟩ := foot_fresh h0.owns.nodupE
  obtain ⟨h1, f1⟩ := (h0.equiv (footConn_split k _)).ccTimer
  obtain ⟨h2, f2⟩ := h1.ccImm hc hnd'
  obtain ⟨h3, f3⟩ := h2.ccSock
  -- "Free the cookie."
  obtain ⟨hrel, h4⟩ := h3.free
  obtain ⟨e, m, l, hw⟩ := (f1.trans f2).trans f3
  rw [networkConnectCancel_eq (Keys.find hnd hk), hrel]
  rw [hrel] at h4
  rw [hw] at h4 ⊢
  exact ⟨_, rfl, h4.put Tab.conns _ (.refl _), rfl, rfl, rfl⟩

end Percival.Proofs.AllocFailUpper
