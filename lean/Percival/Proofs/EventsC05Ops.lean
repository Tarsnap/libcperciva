import Percival.Proofs.EventsC05Rel
/-!
# C05: clock, flag, timer and callback steps keep the monitor/model relation; the socket part of an answered poll
  (`rnet_poll`; the poll step itself is `ok_post` in `EventsC05Run`) (helper lemmas)
-/
namespace Percival.Proofs.EventsC05
open Percival.Spec.Events Percival.Model.Events Percival.Model
open Percival.Proofs.EventsNet Percival.Proofs.EventsImm Percival.Proofs.EventsTQ Percival.Proofs.EventsNetAbs
open Percival.Proofs.EventsC04 (TmOk TmView mem_map_update not_timer_of_not_live timerOf_some_mem tmView_of_mem tmView_remove tm_add tm_delete tm_getptr_some tm_reset)

variable {C : TQContract} {m : C05.M} {s : State}

theorem rel_clock (r : Rel C m s) (a : Nat) :
    Rel C { m with clock := m.clock + a } { s with clock := s.clock + a } :=
  { r with clock := by show m.clock + a = s.clock + a; rw [r.clock]
           tm := { r.tm with dl := fun t ht => by have := r.tm.dl t ht; show t.deadline ≤ m.clock + a + t.usec; omega } }

theorem rel_intr (r : Rel C m s) (b : Bool) : Rel C { m with intr := b } { s with intr := b } :=
  { r with intr := rfl }

theorem rel_done (r : Rel C m s) (b : Bool) : Rel C { m with done := b } { s with done := b } :=
  { r with done := rfl }

theorem rel_rescan (r : Rel C m s) : Rel C m { s with net := { s.net with scan := topScan s.net } } :=
  { r with net := { r.net with inv := rescan_inv _ r.net.inv.inv0 } }

/-- the monitor's new socket list after an answered poll -/
def pollNets (fds : List PollEntry) (nets : List C05.Net) : List C05.Net :=
  nets.map (fun n => { n with ready := (revOf fds n.fd).dir n.d || (revOf fds n.fd).errhup })

theorem mem_ids_pollNets {fds : List PollEntry} {nets : List C05.Net} {id : Nat}
    (h : id ∈ (pollNets fds nets).map (·.id)) : id ∈ nets.map (·.id) := by
  unfold pollNets at h
  rwa [List.map_map] at h

theorem rnet_poll {nets : List C05.Net} {n n' : Net} {fds : List PollEntry} (r : RNet nets n) (hp : Polled n n' fds) :
    RNet (pollNets fds nets) n' := by
  obtain ⟨hinv, hslot, hrev⟩ := hp
  refine .of_rev hinv ?_ ?_ ?_
  · unfold pollNets
    rw [List.map_map]
    exact r.ids
  · intro id fd d
    rw [hslot, ← r.iff id fd d]
    unfold pollNets
    constructor
    · rintro ⟨rd, hx0⟩
      obtain ⟨x, hx, hxe⟩ := List.mem_map.mp hx0
      simp only [C05.Net.mk.injEq] at hxe
      obtain ⟨rfl, rfl, rfl, _⟩ := hxe
      exact ⟨x.ready, hx⟩
    · rintro ⟨rd, hx⟩
      exact ⟨_, List.mem_map.mpr ⟨_, hx, rfl⟩⟩
  · intro x' hx' hrdy
    unfold pollNets at hx'
    obtain ⟨x, hx, rfl⟩ := List.mem_map.mp hx'
    rw [hrev]
    exact Bool.or_eq_true_iff.mp hrdy

/-- timer `id` is (re)armed: the monitor's list `tms'` holds `⟨id, us, clock + us⟩` and, of the other ids, what `tms` held -/
theorem RTm.set {tms tms' : List C05.Tm} {clock : Nat} {tq tq' : TimerQueue.TQ} {timers timers' : List (Nat × TimerRec)}
    {n n' id us : Nat} (r : RTm C tms clock tq timers n) (hok : TmOk C tq' timers' n')
    (hview : ∀ id' us' dl', TmView tq' timers' id' us' dl' ↔
      (id' = id ∧ us' = us ∧ dl' = clock + us) ∨ (id' ≠ id ∧ TmView tq timers id' us' dl'))
    (hnd : (tms'.map (·.id)).Nodup) (hmem : ∀ y, y ∈ tms' ↔ y = ⟨id, us, clock + us⟩ ∨ (y.id ≠ id ∧ y ∈ tms)) :
    RTm C tms' clock tq' timers' n' := by
  refine ⟨hok, hnd, fun id' us' dl' => ?_, fun y hy => ?_⟩
  · rw [hview, hmem, ← r.iff]
    simp only [C05.Tm.mk.injEq]
  · rcases (hmem y).mp hy with rfl | ⟨_, hy⟩
    · exact Nat.le_refl _
    · exact r.dl y hy

theorem rel_regTimer (r : Rel C m s) (id usec : Nat) (t : TimerRec) (sec us : Int)
    (hl : isLive s id = false) (hq : t.qrec = s.nextRec) (ho : TV (t.osec, t.ousec) usec)
    (hgt : gettimeout s.clock t.osec t.ousec = (sec, us)) :
    ∃ m', C05.step m (.op (.regTimer id usec) .ok) = .ok m' ∧
      Rel C m' { s with tq := TimerQueue.add s.tq s.nextRec sec us id, timers := (id, t) :: s.timers,
                        nextRec := s.nextRec + 1 } := by
  obtain ⟨f1, f2, f3⟩ := fresh_of_not_live r id hl
  obtain ⟨hok, hview⟩ := tm_add r.tm.ok s.clock id usec t sec us (not_timer_of_not_live s id hl) hq ho hgt
  refine ⟨{ m with tms := ⟨id, usec, m.clock + usec⟩ :: m.tms }, ?_, ?_⟩
  · delta C05.step
    simp only [dropId_of_fresh m id f1 f2 f3]; rfl
  · refine { r with tm := r.tm.set hok (r.clock ▸ hview) (List.nodup_cons.mpr ⟨f3, r.tm.ids⟩) fun y => ?_,
                    disjIT := ?_, disjNT := ?_ }
    · show y ∈ (⟨id, usec, m.clock + usec⟩ : C05.Tm) :: m.tms ↔ _
      rw [List.mem_cons]
      exact or_congr_right ⟨fun h => ⟨fun e => f3 (e ▸ List.mem_map_of_mem h), h⟩, And.right⟩
    · intro id' hid' hmem
      rcases List.mem_cons.mp hmem with rfl | h
      · exact f1 hid'
      · exact r.disjIT id' hid' h
    · intro id' hid' hmem
      rcases List.mem_cons.mp hmem with rfl | h
      · exact f2 hid'
      · exact r.disjNT id' hid' h

/-- registration `id` (a timer) leaves: cancelled, or released by `events_timer_get` -/
theorem rel_remove_tm (r : Rel C m s) (id : Nat) (hin : id ∈ m.tms.map (·.id)) (tq' : TimerQueue.TQ)
    (hok : TmOk C tq' (s.timers.filter (fun p => p.1 != id)) s.nextRec) (hrecs : tq'.recs = s.tq.recs) :
    C05.dropId m id = { m with tms := m.tms.filter (fun x => x.id != id) } ∧
    Rel C { m with tms := m.tms.filter (fun x => x.id != id) }
      { s with tq := tq', timers := s.timers.filter (fun p => p.1 != id) } := by
  have e1 : m.imms.filter (fun x => x.id != id) = m.imms :=
    filter_id_self m.imms (·.id) id (fun h => r.disjIT id h hin)
  have e2 : m.nets.filter (fun x => x.id != id) = m.nets :=
    filter_id_self m.nets (·.id) id (fun h => r.disjNT id h hin)
  refine ⟨by unfold C05.dropId; rw [e1, e2], ?_⟩
  refine { r with tm := ⟨hok, Keys.filter _ r.tm.ids, ?_, ?_⟩, disjIT := ?_, disjNT := ?_ }
  · intro id' us' dl'
    rw [tmView_remove hrecs, ← r.tm.iff, List.mem_filter]
    simp only [bne_iff_ne, ne_eq, and_comm]
  · intro x hx; exact r.tm.dl x (List.mem_filter.mp hx).1
  · exact fun id' hid' hmem => r.disjIT _ hid' (mem_ids_of_filter hmem)
  · exact fun id' hid' hmem => r.disjNT _ hid' (mem_ids_of_filter hmem)

theorem rel_cancelTimer (r : Rel C m s) (id : Nat) (t : TimerRec)
    (ht : timerOf s id = some t) :
    ∃ q' m', TimerQueue.delete s.tq t.qrec = some q' ∧ C05.step m (.op (.cancelTimer id) .ok) = .ok m' ∧
      Rel C m' { s with tq := q', timers := s.timers.filter (fun p => p.1 != id) } := by
  have hm := timerOf_some_mem s id t ht
  obtain ⟨us, dl, hv, _⟩ := tmView_of_mem r.tm.ok id t hm
  obtain ⟨q', hd, hok, hrecs⟩ := tm_delete r.tm.ok id t hm
  obtain ⟨hdrop, hr⟩ := rel_remove_tm r id (List.mem_map.mpr ⟨_, (r.tm.iff id us dl).mpr hv, rfl⟩) q' hok hrecs
  refine ⟨q', _, hd, ?_, hr⟩
  delta C05.step
  simp only [hdrop]; rfl

theorem rel_resetTimer (r : Rel C m s) (id : Nat) (t : TimerRec) (sec us : Int)
    (ht : timerOf s id = some t) (hgt : gettimeout s.clock t.osec t.ousec = (sec, us)) :
    ∃ q' m', TimerQueue.increase s.tq t.qrec sec us = some q' ∧ C05.step m (.op (.resetTimer id) .ok) = .ok m' ∧
      Rel C m' { s with tq := q' } := by
  have hm := timerOf_some_mem s id t ht
  obtain ⟨us0, dl0, hv, _⟩ := tmView_of_mem r.tm.ok id t hm
  have hmem0 : (⟨id, us0, dl0⟩ : C05.Tm) ∈ m.tms := (r.tm.iff id us0 dl0).mpr hv
  have hdl := r.tm.dl _ hmem0
  simp only at hdl
  obtain ⟨q', hinc, hok, hview⟩ := tm_reset r.tm.ok s.clock id t sec us us0 dl0 hm hv (by rw [← r.clock]; exact hdl) hgt
  refine ⟨q', { m with tms := m.tms.map (fun t => if t.id == id then { t with deadline := m.clock + t.usec } else t) },
    hinc, rfl, ?_⟩
  have hids : (m.tms.map (fun t => if t.id == id then { t with deadline := m.clock + t.usec } else t)).map (·.id) = m.tms.map (·.id) := by
    rw [List.map_map]
    exact List.map_congr_left fun t _ => by simp only [Function.comp]; split <;> rfl
  exact { r with tm := r.tm.set hok (r.clock ▸ hview) (by rw [hids]; exact r.tm.ids)
                   (mem_map_update m.tms (·.id) r.tm.ids (fun t => { t with deadline := m.clock + t.usec }) hmem0)
                 disjIT := by rw [hids]; exact r.disjIT
                 disjNT := by rw [hids]; exact r.disjNT }

/-- the monitor's state after `cb id` -/
def firedM (m : C05.M) (id : Nat) : C05.M :=
  { C05.dropId m id with fired := m.fired + 1, mustFire := false, looked := false }

/-- the order clauses of the monitor allow the callback `id` next: it is the immediate `nextImm` picks; or no immediate
    is pending and it is a registered socket; or no immediate is pending, no socket is flagged ready, no socket is
    registered or the descriptors have been looked at since the latest callback, and no timer is due before it (of an id the monitor does not know
    nothing is asked, as in `C05.step`).  Whether a socket is flagged or a timer due is not asked here. -/
def Next (m : C05.M) (id : Nat) : Prop :=
  (∃ j, C05.nextImm m.imms = some j ∧ j.id = id) ∨
  (m.imms = [] ∧ (id ∈ m.nets.map (·.id) ∨
    (m.nets.any (·.ready) = false ∧ (m.nets = [] ∨ m.looked = true) ∧
      ∀ t ∈ m.tms, t.id = id → ∀ u ∈ m.tms, t.deadline ≤ u.deadline)))

/-- when the monitor accepts a callback -/
theorem step_cb (m : C05.M) (id : Nat) (hstop : m.stop = none) (h : Next m id) :
    C05.step m (.cb id) = .ok (firedM m id) := by
  delta C05.step
  simp only [hstop, Option.isSome_none, Bool.false_eq_true, if_false]
  rcases h with ⟨j, hn, rfl⟩ | ⟨himm, h⟩
  · split
    · next i hf =>
      have hi : i.id = j.id := by simpa using List.find?_some hf
      simp only [hn, hi, beq_self_eq_true, if_true]; rfl
    · next hf => exact absurd (List.find?_eq_none.mp hf j (nextImm_spec m.imms j hn).1) (by simp)
  · simp only [himm, List.find?_nil, List.isEmpty_nil, Bool.not_true, Bool.false_eq_true, if_false]
    split
    · rfl
    · next hfn =>
      rcases h with h | ⟨hnr, hlook, hmin⟩
      · obtain ⟨x, hx, rfl⟩ := List.mem_map.mp h
        exact absurd (List.find?_eq_none.mp hfn x hx) (by simp)
      · split
        · next t hft =>
          have hless : m.tms.any (fun u => decide (u.deadline < t.deadline)) = false :=
            List.any_eq_false.mpr fun u hu => by
              have := hmin t (List.mem_of_find?_eq_some hft) (by simpa using List.find?_some hft) u hu
              simp only [decide_eq_true_eq]; omega
          have hl : (!m.nets.isEmpty && !m.looked) = false := by rcases hlook with h | h <;> simp [h]
          simp only [hnr, hless, hl, Bool.false_eq_true, if_false]; rfl
        · rfl

/-- a `get` has taken the record of `id` out of the model's state, leaving `s'`: the order clauses allow `cb id` -/
def Took (C : TQContract) (m : C05.M) (s' : State) (id : Nat) : Prop :=
  Next m id ∧ Rel C (firedM m id) s'

/-- `events_immediate_get` returned the record of `j = nextImm` -/
theorem took_imm (r : Rel C m s) (j : C05.Imm) (q' : Imm)
    (hn : C05.nextImm m.imms = some j) (hj : j ∈ m.imms) (hq' : RQ q' (m.imms.filter (fun i => i.id != j.id))) :
    Took C m { s with imm := q' } j.id := by
  obtain ⟨hdrop, hr⟩ := rel_remove_imm r j.id j.prio q' hj hq'
  exact ⟨Or.inl ⟨j, hn, rfl⟩, (hdrop ▸ hr).congr rfl rfl⟩

/-- `events_network_get` returned the record of socket registration `id` -/
theorem took_net {n' : Net} {id fd : Nat} {d : Dir} (r : Rel C m s) (hd : Dropped s.net n' id fd d) (himm : m.imms = []) :
    Took C m { s with net := n' } id := by
  obtain ⟨rd, hx⟩ := (r.net.iff id fd d).mpr hd.held
  obtain ⟨hdrop, hr⟩ := rel_remove_net r hd
  exact ⟨Or.inr ⟨himm, Or.inl (List.mem_map.mpr ⟨_, hx, rfl⟩)⟩, (hdrop ▸ hr).congr rfl rfl⟩

/-- `events_timer_get` released timer `id` -/
theorem took_timer (r : Rel C m s) (q' : TimerQueue.TQ) (rr id : Nat)
    (hg : TimerQueue.getptr s.tq ((s.clock / 1000000 : Nat) : Int) ((s.clock % 1000000 : Nat) : Int) = (q', some (rr, id)))
    (himm : m.imms = []) (hnr : m.nets.any (·.ready) = false) (hlook : m.looked = true) :
    Took C m { s with tq := q', timers := s.timers.filter (fun p => p.1 != id) } id := by
  obtain ⟨us, dl, hv, _, hmin, hok, hrecs⟩ := tm_getptr_some r.tm.ok s.clock q' rr id hg
  have hmem : (⟨id, us, dl⟩ : C05.Tm) ∈ m.tms := (r.tm.iff id us dl).mpr hv
  obtain ⟨hdrop, hr⟩ := rel_remove_tm r id (List.mem_map.mpr ⟨_, hmem, rfl⟩) q' hok hrecs
  refine ⟨Or.inr ⟨himm, Or.inr ⟨hnr, Or.inr hlook, fun t ht hid u hu => ?_⟩⟩, (hdrop ▸ hr).congr rfl rfl⟩
  rw [Keys.inj (f := C05.Tm.id) r.tm.ids ht hmem hid]
  exact hmin u.id u.usec u.deadline ((r.tm.iff _ _ _).mp hu)

end Percival.Proofs.EventsC05
