import Percival.Model.Http
import Percival.Spec.HttpResp
import Percival.Proofs.Digits
/-! Numerals: what `Spec.HttpResp.dec`/`hex` write is what the model's `strtoumax`/`%d` read back. -/
namespace Percival.Proofs.HttpNum
open Percival.Model.Http Percival.Spec.HttpResp

/-- value of a digit list, most significant first -/
def ofDigits (b : Nat) (ds : List Nat) (v0 : Nat) : Nat := ds.foldl (fun v d => v * b + d) v0

theorem natDigits_eq (b : Nat) (hb : 2 ≤ b) : ∀ (fuel n : Nat) (acc : List Nat), n < fuel →
    natDigits b fuel n acc = digs b n ++ acc := by
  intro fuel
  induction fuel with
  | zero => intro n acc h; omega
  | succ fuel ih =>
    intro n acc hn
    rw [natDigits]
    split
    · rename_i hlt; rw [digs_of_lt hlt]; rfl
    · rename_i hge
      have : n / b < n := Nat.div_lt_self (by omega) (by omega)
      rw [ih (n / b) _ (by omega), digs_of_ge (n := n) hb (by omega), List.append_assoc]
      rfl

theorem digitVal10 : ∀ d : Fin 10, digitVal 10 (digitChar d.val) = some d.val := by decide
theorem digitVal16 : ∀ d : Fin 16, digitVal 16 (digitChar d.val) = some d.val := by decide
theorem digitChar_plain : ∀ d : Fin 16, isSpace (digitChar d.val) = false ∧ digitChar d.val ≠ 45 ∧ digitChar d.val ≠ 43 ∧
    digitChar d.val ≠ 120 ∧ digitChar d.val ≠ 88 ∧ digitChar d.val ≠ 13 ∧ digitChar d.val ≠ 10 ∧ digitChar d.val ≠ 0 := by
  decide

theorem digitVal_digitChar (b : Nat) (hb : b = 10 ∨ b = 16) (d : Nat) (hd : d < b) :
    digitVal b (digitChar d) = some d := by
  rcases hb with rfl | rfl
  · exact digitVal10 ⟨d, hd⟩
  · exact digitVal16 ⟨d, hd⟩

theorem accDigits_digits (b : Nat) (hb : b = 10 ∨ b = 16) (ds : List Nat) (hds : ∀ d ∈ ds, d < b) (rest : List UInt8)
    (cnt v : Nat) :
    accDigits b (ds.map digitChar ++ rest) cnt v = accDigits b rest (cnt + ds.length) (ofDigits b ds v) := by
  induction ds generalizing cnt v with
  | nil => simp [ofDigits]
  | cons d t ih =>
    simp only [List.map_cons, List.cons_append, accDigits]
    rw [digitVal_digitChar b hb d (hds d (by simp))]
    simp only []
    rw [ih (fun d' hd' => hds d' (by simp [hd']))]
    simp only [ofDigits, List.foldl_cons, List.length_cons]
    congr 1
    omega

theorem accDigits_stop (b : Nat) (rest : List UInt8) (cnt v : Nat)
    (h : ∀ c, rest.head? = some c → digitVal b c = none) : accDigits b rest cnt v = (cnt, v, rest) := by
  cases rest with
  | nil => simp [accDigits]
  | cons c t =>
    simp only [accDigits]
    rw [h c (by simp)]

theorem ofDigits_digs (b : Nat) (hb : 2 ≤ b) (n : Nat) : ofDigits b (digs b n) 0 = n := by
  have := digs_val hb n
  simpa only [ofDigits, Nat.mul_comm] using this

theorem dec_eq (n : Nat) : dec n = (digs 10 n).map digitChar := by
  rw [dec, natDigits_eq 10 (by decide) _ _ _ (Nat.lt_succ_self n), List.append_nil]

theorem hex_eq (n : Nat) : hex n = (digs 16 n).map digitChar := by
  rw [hex, natDigits_eq 16 (by decide) _ _ _ (Nat.lt_succ_self n), List.append_nil]

theorem numeral_bytes (b : Nat) (hb : b = 10 ∨ b = 16) (n : Nat) :
    ∀ c ∈ (digs b n).map digitChar, isSpace c = false ∧ c ≠ 45 ∧ c ≠ 43 ∧ c ≠ 120 ∧ c ≠ 88 ∧ c ≠ 13 ∧ c ≠ 10 ∧
      c ≠ 0 := by
  intro c hc
  simp only [List.mem_map] at hc
  obtain ⟨d, hd, rfl⟩ := hc
  have hlt := digs_lt (B := b) (by rcases hb with rfl | rfl <;> omega) n d hd
  have : d < 16 := by rcases hb with rfl | rfl <;> omega
  exact digitChar_plain ⟨d, this⟩

theorem numeral_safe (b : Nat) (hb : b = 10 ∨ b = 16) (n : Nat) (c : UInt8) (hc : c ∈ (digs b n).map digitChar) :
    c ≠ 13 ∧ c ≠ 10 ∧ c ≠ 0 :=
  have h := numeral_bytes b hb n c hc
  h.2.2.2.2.2

theorem numeral_ne_nil (b n : Nat) : (digs b n).map digitChar ≠ [] := by
  simpa using digs_ne_nil b n

theorem dropWhile_head {p : UInt8 → Bool} (l : List UInt8) (h : ∀ c, l.head? = some c → p c = false) :
    l.dropWhile p = l := by
  cases l with
  | nil => rfl
  | cons c t => simp [h c (by simp)]

theorem takeSign_plain (l : List UInt8) (h : ∀ c, l.head? = some c → c ≠ 45 ∧ c ≠ 43) : takeSign l = (false, l) := by
  cases l with
  | nil => rfl
  | cons c t =>
    have := h c (by simp)
    unfold takeSign
    split
    · rename_i heq; simp at heq; exact absurd heq.1 this.1
    · rename_i heq; simp at heq; exact absurd heq.1 this.2
    · rfl

theorem skipHexPrefix_plain (l : List UInt8) (h : ∀ x, l[1]? = some x → x ≠ 120 ∧ x ≠ 88) : skipHexPrefix l = l := by
  unfold skipHexPrefix
  split
  · rename_i x d t
    have := h x (by simp)
    have h1 : (x == 120) = false := by simp [this.1]
    have h2 : (x == 88) = false := by simp [this.2]
    simp [h1, h2]
  · rfl

/-- a numeral followed by something which is not a digit (and, for hex, not an `x`) -/
structure After (b : Nat) (rest : List UInt8) : Prop where
  nodigit : ∀ c, rest.head? = some c → digitVal b c = none
  nox : b = 16 → ∀ c, rest.head? = some c → c ≠ 120 ∧ c ≠ 88

theorem head_numeral_append (b n : Nat) (rest : List UInt8) :
    ∃ c, ((digs b n).map digitChar ++ rest).head? = some c ∧ c ∈ (digs b n).map digitChar := by
  have hne := numeral_ne_nil b n
  obtain ⟨c, t, hct⟩ := List.exists_cons_of_ne_nil hne
  exact ⟨c, by rw [hct]; simp, by rw [hct]; simp⟩

theorem second_numeral_append (b : Nat) (hb : b = 10 ∨ b = 16) (n : Nat) (rest : List UInt8) (ha : After b rest)
    (h16 : b = 16) :
    ∀ x, ((digs b n).map digitChar ++ rest)[1]? = some x → x ≠ 120 ∧ x ≠ 88 := by
  intro x hx
  have hne := numeral_ne_nil b n
  obtain ⟨c, t, hct⟩ := List.exists_cons_of_ne_nil hne
  rw [hct] at hx
  simp only [List.cons_append, List.getElem?_cons_succ] at hx
  cases t with
  | nil =>
    simp only [List.nil_append] at hx
    exact ha.nox h16 x (by rw [List.head?_eq_getElem?]; exact hx)
  | cons c2 t2 =>
    simp at hx
    have hm : c2 ∈ (digs b n).map digitChar := by rw [hct]; simp
    have := numeral_bytes b hb n c2 hm
    subst hx
    exact ⟨this.2.2.2.1, this.2.2.2.2.1⟩

/-- what every reader of a numeral meets: no white space, no sign, then the digits up to `rest` -/
theorem numeral_read (b : Nat) (hb : b = 10 ∨ b = 16) (n : Nat) (rest : List UInt8) (ha : After b rest)
    (s : List UInt8) (hs : s = (digs b n).map digitChar ++ rest) :
    s.dropWhile isSpace = s ∧ takeSign s = (false, s) ∧ ∃ k, 0 < k ∧ accDigits b s 0 0 = (k, n, rest) := by
  subst hs
  obtain ⟨c, hc, hcm⟩ := head_numeral_append b n rest
  have hcb := numeral_bytes b hb n c hcm
  have hb2 : 2 ≤ b := by rcases hb with rfl | rfl <;> omega
  refine ⟨dropWhile_head _ (fun c' hc' => by rw [hc] at hc'; cases hc'; exact hcb.1),
    takeSign_plain _ (fun c' hc' => by rw [hc] at hc'; cases hc'; exact ⟨hcb.2.1, hcb.2.2.1⟩),
    _, List.length_pos_iff.mpr (digs_ne_nil b n), ?_⟩
  rw [accDigits_digits b hb _ (digs_lt hb2 n), accDigits_stop b rest _ _ ha.nodigit, ofDigits_digs b hb2, Nat.zero_add]

theorem strtoumax_numeral (b : Nat) (hb : b = 10 ∨ b = 16) (n : Nat) (rest : List UInt8) (ha : After b rest) :
    strtoumax b ((digs b n).map digitChar ++ rest) =
      { digits := true, neg := false, mag := n, rest := rest } := by
  obtain ⟨h1, h2, k, hk, h4⟩ := numeral_read b hb n rest ha _ rfl
  have h5 : (if (b == 16) = true then skipHexPrefix ((digs b n).map digitChar ++ rest)
      else (digs b n).map digitChar ++ rest) = (digs b n).map digitChar ++ rest := by
    split
    · rename_i h16
      exact skipHexPrefix_plain _ (second_numeral_append b hb n rest ha (by simpa using h16))
    · rfl
  simp only [strtoumax, h1, h2]
  rw [h5, h4]
  simp [hk]

theorem parsenumSize_numeral (b : Nat) (hb : b = 10 ∨ b = 16) (n : Nat) (rest : List UInt8) (ha : After b rest)
    (trailing : Bool) (htr : trailing = true ∨ rest = []) (hn : n ≤ SIZE_MAX) :
    parsenumSize b trailing ((digs b n).map digitChar ++ rest) = some n := by
  simp only [parsenumSize, strtoumax_numeral b hb n rest ha]
  rcases htr with h | h
  · subst h; simp; omega
  · subst h; simp; omega

theorem scanInt_numeral (ovf : Bool → Nat → Int) (n : Nat) (rest : List UInt8) (ha : After 10 rest)
    (hn : (n : Int) ≤ INT_MAX) :
    scanInt ovf ((digs 10 n).map digitChar ++ rest) = some ((n : Int), rest) := by
  obtain ⟨h1, h2, k, hk, h4⟩ := numeral_read 10 (Or.inl rfl) n rest ha _ rfl
  have hz : (k == 0) = false := by cases k with
    | zero => omega
    | succ k => rfl
  have hmin : INT_MIN ≤ (n : Int) := by simp only [INT_MIN]; omega
  simp [scanInt, h1, h2, h4, hz, hmin, hn]

end Percival.Proofs.HttpNum
