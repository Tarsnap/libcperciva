import Percival.Model.ParsenumStep
import Percival.Proofs.IeeeStrtod
import Percival.Proofs.ParsenumFloat
import Percival.Proofs.HumansizeExec
/-! Helper lemmas for C16: the functions of `Model/ParsenumStep.lean` (what `pmodel parsenum` runs). -/
namespace Percival.Proofs.ParsenumStep
open Percival.Model.ParsenumStep Percival.Spec.Ieee Percival.Spec.Parsenum
open Percival.Proofs.Ieee

theorem oddPartAux_spec : ∀ (f n k : Nat), n ≤ f → n ≠ 0 →
    ∃ j, (oddPartAux f n k).2 = k + j ∧ n = (oddPartAux f n k).1 * 2 ^ j ∧ (oddPartAux f n k).1 % 2 = 1 := by
  intro f
  induction f with
  | zero => intro n k h1 h2; omega
  | succ f ih =>
    intro n k h1 h2
    unfold oddPartAux
    split
    · rename_i he
      obtain ⟨j, e1, e2, e3⟩ := ih (n / 2) (k + 1) (by omega) (by omega)
      refine ⟨j + 1, by omega, ?_, e3⟩
      rw [Nat.pow_succ, ← Nat.mul_assoc, ← e2]; omega
    · exact ⟨0, rfl, by simp, by omega⟩

theorem oddPart_spec (n : Nat) (hn : n ≠ 0) : n = (oddPart n).1 * 2 ^ (oddPart n).2 ∧ (oddPart n).1 % 2 = 1 := by
  obtain ⟨j, e1, e2, e3⟩ := oddPartAux_spec n n 0 (Nat.le_refl _) hn
  unfold oddPart
  rw [e1, Nat.zero_add]; exact ⟨e2, e3⟩

theorem flTok_toFl (x : Fl) (h : FlNonneg x) : (flTok x).toFl = x := by
  cases x with
  | nan => rfl
  | inf neg => rfl
  | fin neg q =>
    have hq : 0 ≤ q := h
    have hnum : 0 ≤ q.num := Rat.num_nonneg.mpr hq
    simp only [flTok]
    split
    · rename_i h0
      have : q.num = 0 := by omega
      rw [Rat.num_eq_zero] at this
      subst this; rfl
    · rename_i h0
      have hn : ((q.num.toNat : Nat) : Rat) = (q.num : Rat) := by
        rw [← Rat.intCast_natCast, Int.toNat_of_nonneg hnum]
      have hq' := rat_eq_num_div_den q
      split
      · rename_i hd
        obtain ⟨e1, -⟩ := oddPart_spec q.num.toNat (by omega)
        simp only [FlTok.toFl]
        rw [← Rat.natCast_mul, ← e1, hn]
        rw [hd] at hq'
        congr 1
        calc (q.num : Rat) = (q.num : Rat) / ((1 : Nat) : Rat) := by simp; grind
          _ = q := hq'.symm
      · rename_i hd
        split
        · rename_i hd1
          obtain ⟨e1, -⟩ := oddPart_spec q.den q.den_nz
          rw [hd1, Nat.one_mul] at e1
          simp only [FlTok.toFl]
          rw [← e1, hn, ← hq']
        · simp only [FlTok.toFl]
          rw [hn, ← hq']

open Percival.Model.Strtod Percival.Model.ParsenumFloat Percival.Proofs.ParsenumFloat Percival.Proofs.FloatNumeral in
theorem strtod_val_nonneg (s : List UInt8) : FlNonneg (strtod s).val := by
  cases hs : scanF s with
  | none => rw [strtod_of_none hs]; exact Rat.le_refl
  | some r =>
    obtain ⟨neg, sub, e⟩ := r
    rw [strtod_of_scanF hs]
    have hacc : Spec.FloatNumeral.FAccepts true s neg sub := (faccepts_iff_scan true s neg sub).mpr ⟨e, hs, Or.inl rfl⟩
    exact converts_nonneg (toDouble_converts neg sub (faccepts_nonneg hacc))

open Percival.Model.ParsenumFloat in
theorem fstore_nonneg (t : FTy) {d : Fl} (h : FlNonneg d) : FlNonneg (fstore t d) := by
  cases t with
  | f64 => exact h
  | f32 => exact narrows_nonneg (toBinary32_narrows d h)

open Percival.Model.ParsenumFloat in
theorem ex6_done_nonneg {t : FTy} {s : List UInt8} {mn mx : Fl} {base : Nat} {tr : Bool} {x : Fl} {e : Model.Strto.Errno}
    (h : parsenumEx6 t s mn mx base tr = .done x e) : FlNonneg x := by
  by_cases hb : base = 0
  · subst hb
    rw [Percival.Proofs.ParsenumFloat.ex6_float] at h
    cases h
    exact fstore_nonneg t (strtod_val_nonneg s)
  · rw [Percival.Proofs.ParsenumFloat.ex6_float_abort _ _ _ _ _ _ hb] at h
    cases h

theorem fout_of_ex6 {t : Model.ParsenumFloat.FTy} {s : List UInt8} {mn mx : Fl} {base : Nat} {tr : Bool} :
    match Model.ParsenumFloat.parsenumEx6 t s mn mx base tr with
    | .done x e => FOut.of (Model.ParsenumFloat.parsenumEx6 t s mn mx base tr) = .done (flTok x) e ∧ (flTok x).toFl = x
    | .abort => FOut.of (Model.ParsenumFloat.parsenumEx6 t s mn mx base tr) = .abort := by
  split
  · rename_i x e h; rw [h]; exact ⟨rfl, flTok_toFl x (ex6_done_nonneg h)⟩
  · rename_i h; rw [h]; rfl

theorem isOoc_iff (t : IntTy) (mn mx : CVal) :
    isOoc t mn mx = true ↔ t.signed = true ∧ ¬ (InType t mn.toInt ∧ InType t mx.toInt) := by
  unfold isOoc InType
  simp only [Bool.and_eq_true, Bool.not_eq_true', Bool.and_eq_false_iff, decide_eq_false_iff_not]
  constructor
  · rintro ⟨h1, h2⟩; exact ⟨h1, by omega⟩
  · rintro ⟨h1, h2⟩; exact ⟨h1, by omega⟩

theorem isOoc_of_boundsOk {t : IntTy} {mn mx : CVal} (h : BoundsOk t mn mx) : isOoc t mn mx = false := by
  cases ho : isOoc t mn mx with
  | false => rfl
  | true =>
    obtain ⟨h1, h2⟩ := (isOoc_iff t mn mx).mp ho
    exact absurd (h.2.2 h1) h2

theorem flTok_up_odd {x : Fl} {neg : Bool} {m k : Nat} (h : flTok x = .up neg m k) : m % 2 = 1 := by
  cases x with
  | nan => cases h
  | inf n => cases h
  | fin n q =>
    simp only [flTok] at h
    split at h
    · cases h
    · rename_i h0
      split at h
      · injection h with _ h2 h3
        rw [← h2]
        exact (oddPart_spec q.num.toNat (by omega)).2
      · split at h <;> cases h

/-! ### `hs_fmt` from the model's answer (for concrete instances: the enumeration is too deep for the kernel's evaluator) -/

theorem hsFmt_of_model {n : Nat} {str : List UInt8} (hn : n < 2 ^ 64) (hm : Model.Humansize.format n = .str str) :
    stepOp (.hsFmt n) = .hsFmt (some str) (.str str) := by
  obtain ⟨str', h1, h2⟩ := Percival.Proofs.HumansizeExec.format_eq_spec n (by omega)
  rw [hm] at h2
  have h3 : str = str' := by injection h2
  rw [← h3] at h1
  have : stepOp (.hsFmt n) = .hsFmt (Spec.HumansizeExec.specFormat n) (Model.Humansize.format n) := by
    simp only [stepOp, if_pos hn]
  rw [this, h1, hm]

end Percival.Proofs.ParsenumStep
