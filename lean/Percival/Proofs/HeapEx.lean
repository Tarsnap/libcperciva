import Percival.Proofs.TimerQueueRun
/-!
# C13: concrete states used by the non-vacuity examples in `Properties/C13.lean`,
and the "handles stay valid" corollaries for the timer queue
-/
namespace Percival.Proofs.Heap
open Percival.Model Percival.Model.Heap Percival.Spec.PQ Percival.Model.HeapRun

/-- keys with duplicates: 3 ↦ 0, 1 ↦ 1, 9 ↦ 0, 5 ↦ 2, 4 ↦ 1, 7 ↦ 1 -/
def exKey : Nat → Int := fun n => ((n % 3 : Nat) : Int)

/-- `#[3, 1, 9, 5, 4, 7]` with keys `0 1 0 2 1 1` -/
def exHeap : Heap := create exKey [5, 3, 7, 1, 4, 9]

theorem exHeap_inv : Inv exKey exHeap := create_inv _ _ (by decide +kernel)

/-- a sequence that exercises every operation, with equal keys -/
def exOps : List Op :=
  [.create [(1,5),(2,5),(3,1)], .add 4 0, .add 5 7, .getmin, .dec 2 (-1), .getmin, .del 1,
   .inc 4 9, .incmin 6, .delmin, .add 9 2, .add 7 2, .getmin, .drain, .add 1 1]

end Percival.Proofs.Heap

namespace Percival.Proofs.TQ
open Percival.Model Percival.Model.TimerQueue Percival.Proofs.Heap Percival.Spec.PQ

/-- equal and distinct times, a deletion by handle, an increase, releases and refusals -/
def exTOps : List TOp :=
  [.add 1 5 0 101, .add 2 5 0 102, .add 3 2 7 103, .add 4 9 1 104, .getmin, .get 2 6, .inc 3 5 0, .del 2,
   .get 5 0, .get 5 0, .get 5 0, .getmin]

/-- three timers, two with the same time -/
def exQ : TQ := add (add (add TimerQueue.empty 1 5 0 101) 2 5 0 102) 3 2 7 103

theorem exQ_inv : TQInv exQ := by
  have h1 := (tq_add TimerQueue.empty 1 5 0 101 tq_inv_empty (by decide +kernel)).1
  have h2 := (tq_add _ 2 5 0 102 h1 (by decide +kernel)).1
  exact (tq_add _ 3 2 7 103 h2 (by decide +kernel)).1

theorem tq_handle_valid (q : TQ) (hi : TQInv q) (r : Nat) (hr : r ∈ q.h.a.toList) :
    ∃ rc, Heap.posOf q.h r = some rc ∧ q.h.a[rc]? = some r :=
  hi.inv.handle_valid hr

end Percival.Proofs.TQ
