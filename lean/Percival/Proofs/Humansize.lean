import Percival.Model.Humansize
import Percival.Proofs.Numeral
/-! Helper lemmas for C16: `humansize` and `humansize_parse` against `Spec/Humansize.lean`. -/
namespace Percival.Proofs.Humansize
open Percival.Spec.Humansize Percival.Model.Humansize Percival.Gen Percival.Spec.Numeral
open Percival.Proofs.Numeral (runVal run_denotes digitsVal_eq_some)

theorem prefixes_eq : HumansizeC.prefixes = siPrefixes := rfl

/-- the loop makes `j` divisions, `j` least with `s / 1000^j < 10000` -/
theorem shiftLoop_eq (s c : Nat) :
    ∃ j, shiftLoop s c = (s / 1000 ^ j, c + j) ∧ s / 1000 ^ j < 10000 ∧ ∀ i < j, 10000 ≤ s / 1000 ^ i := by
  induction s using Nat.strongRecOn generalizing c with
  | _ s ih =>
    rw [shiftLoop]
    split
    · rename_i h
      simp only [HumansizeC.loopLimit, HumansizeC.loopDiv] at h ⊢
      obtain ⟨j, hj, hlt, hge⟩ := ih (s / 1000) (by omega) (c + 1)
      simp only [Nat.div_div_eq_div_mul, ← Nat.pow_succ'] at hj hlt hge
      refine ⟨j + 1, by rw [hj, Nat.add_right_comm, Nat.add_assoc], hlt, fun i hi => ?_⟩
      cases i with
      | zero => simpa using h
      | succ i => exact hge i (by omega)
    · rename_i h
      simp only [HumansizeC.loopLimit] at h
      exact ⟨0, by simp, by simpa using h, by omega⟩

/-! The documented forms by magnitude.

Ten times the value of a form is `tenths · 1000^exp` with `tenths < 10000`, and `10 ≤ tenths` unless the form is in
plain bytes; so the valid forms are ordered by `(exp, tenths)`.  `Form.exp` and `Form.tenths` are declared in the
namespace of `Form` (so that one can write `f.exp`, `f.tenths`) and serve the proofs about `humansize` only. -/

def _root_.Percival.Spec.Humansize.Form.exp : Form → Nat
  | .bytes _ => 0
  | .dec _ _ k => k
  | .int _ k => k

def _root_.Percival.Spec.Humansize.Form.tenths : Form → Nat
  | .bytes n => 10 * n
  | .dec a b _ => 10 * a + b
  | .int x _ => 10 * x

theorem ten_mul_value {g : Form} (hg : g.Valid) : 10 * g.value = g.tenths * 1000 ^ g.exp := by
  cases g with
  | bytes n => simp [Form.value, Form.tenths, Form.exp]
  | dec a b k =>
    obtain ⟨j, rfl⟩ := Nat.exists_eq_add_of_le' hg.2.2.2.1
    simp only [Form.value, Form.tenths, Form.exp, Nat.add_sub_cancel, Nat.pow_succ]
    rw [Nat.mul_assoc, Nat.mul_left_comm]
    congr 1
    omega
  | int x k => simp only [Form.value, Form.tenths, Form.exp, Nat.mul_assoc]

theorem tenths_lt {g : Form} (hg : g.Valid) : g.tenths < 10000 := by
  cases g <;> simp only [Form.Valid, Form.tenths] at * <;> omega

theorem le_tenths {g : Form} (hg : g.Valid) (h : g.exp ≠ 0) : 10 ≤ g.tenths := by
  cases g <;> simp only [Form.Valid, Form.tenths, Form.exp] at * <;> omega

/-- a number of at least ten tenths of the larger unit is beyond every four-digit number of tenths of the smaller -/
theorem scale_le {t e e' : Nat} (ht : 10 ≤ t) (he : e < e') : 10000 * 1000 ^ e ≤ t * 1000 ^ e' :=
  calc 10000 * 1000 ^ e = 10 * 1000 ^ (e + 1) := by rw [Nat.pow_succ]; omega
    _ ≤ 10 * 1000 ^ e' := Nat.mul_le_mul_left _ (Nat.pow_le_pow_right (by omega) he)
    _ ≤ t * 1000 ^ e' := Nat.mul_le_mul_right _ ht

theorem value_lt_of_exp_lt {f g : Form} (hf : f.Valid) (hg : g.Valid) (h : f.exp < g.exp) : f.value < g.value := by
  have h1 := Nat.mul_lt_mul_of_pos_right (tenths_lt hf) (Nat.pow_pos (n := f.exp) (show 0 < 1000 by omega))
  have h2 := scale_le (le_tenths hg (by omega)) h
  rw [← ten_mul_value hf] at h1
  rw [← ten_mul_value hg] at h2
  omega

theorem value_inj {f g : Form} (hf : f.Valid) (hg : g.Valid) (h : f.value = g.value) : f = g := by
  have he : f.exp = g.exp := by
    have h1 := mt (value_lt_of_exp_lt hf hg)
    have h2 := mt (value_lt_of_exp_lt hg hf)
    omega
  have ht : f.tenths = g.tenths := by
    have := ten_mul_value hf
    rw [h, ten_mul_value hg, he] at this
    exact (Nat.eq_of_mul_eq_mul_right (Nat.pow_pos (by omega)) this).symm
  cases f <;> cases g <;> simp only [Form.Valid, Form.tenths, Form.exp] at hf hg he ht <;> first | omega | (congr 1 <;> omega)

/-- `n` lies in the range of the prefix `k`, and `q` is `n` in tenths of `1000^k`, truncated: the chosen form is the
    largest valid one not above `n` -/
theorem form_largest {n k q : Nat} (hk1 : 1 ≤ k) (hk6 : k ≤ 6) (hq : q = 10 * n / 1000 ^ k)
    (hlo : 10 ≤ q) (hhi : q < 10000) :
    IsLargestBelow (if q < 100 then .dec (q / 10) (q % 10) k else .int (q / 10) k) n := by
  generalize hf : (if q < 100 then Form.dec (q / 10) (q % 10) k else Form.int (q / 10) k) = f
  have hdiv (t : Nat) : t ≤ q ↔ t * 1000 ^ k ≤ 10 * n := by
    rw [hq, Nat.le_div_iff_mul_le (Nat.pow_pos (by omega))]
  have hfv : f.Valid := by subst hf; split <;> simp only [Form.Valid] <;> omega
  have hfe : f.exp = k := by subst hf; split <;> rfl
  have hft : f.tenths ≤ q := by subst hf; split <;> simp only [Form.tenths] <;> omega
  -- `f` has the most tenths among the valid forms of exponent `k` with at most `q`
  have hmax : ∀ g : Form, g.Valid → g.exp = k → g.tenths ≤ q → g.tenths ≤ f.tenths := by
    subst hf; intro g hg he ht
    split <;> cases g <;> simp only [Form.Valid, Form.tenths, Form.exp] at hg he ht ⊢ <;> omega
  have hf10 := ten_mul_value hfv
  rw [hfe] at hf10
  refine ⟨hfv, ?_, fun g hg hgn => ?_⟩
  · have := (hdiv _).mp hft
    omega
  · have hg10 := ten_mul_value hg
    rcases Nat.lt_trichotomy g.exp k with he | he | he
    · exact Nat.le_of_lt (value_lt_of_exp_lt hg hfv (hfe ▸ he))
    · rw [he] at hg10
      have := Nat.mul_le_mul_right (1000 ^ k) (hmax g hg he ((hdiv _).mpr (by omega)))
      omega
    · have := scale_le (le_tenths hg (by omega)) he
      have := mt (hdiv 10000).mpr (by omega)
      omega

theorem format_spec (n : Nat) (hn : n < 1000 ^ 7) :
    ∃ f str, IsLargestBelow f n ∧ f.render = some str ∧ format n = .str str := by
  by_cases hs : n < 1000
  · exact ⟨.bytes n, _, ⟨Nat.le_of_lt_succ hs, Nat.le_refl _, fun _ _ h => h⟩, rfl,
      by simp only [format, HumansizeC.smallLimit, hs, if_true]⟩
  · obtain ⟨j, hloop, hlt, hge⟩ := shiftLoop_eq (n / 100) 1
    -- the size the loop ends with is `n` in tenths of `1000^(1+j)`
    have hq : n / 100 / 1000 ^ j = 10 * n / 1000 ^ (1 + j) := by
      rw [Nat.div_div_eq_div_mul, Nat.add_comm, Nat.pow_succ, ← Nat.mul_div_mul_left n _ (show 0 < 10 by omega)]
      congr 1
      omega
    have hlo : 10 ≤ n / 100 / 1000 ^ j := by
      cases j with
      | zero => rw [Nat.pow_zero, Nat.div_one]; omega
      | succ i =>
        have := hge i (by omega)
        rw [Nat.pow_succ, ← Nat.div_div_eq_div_mul]
        omega
    have hk6 : 1 + j ≤ 6 := by
      have := (Nat.le_div_iff_mul_le (Nat.pow_pos (by omega))).mp (hq ▸ hlo)
      have : 1000 ^ (1 + j) < 1000 ^ 7 := by omega
      have := (Nat.pow_lt_pow_iff_right (by omega)).mp this
      omega
    have hbig := form_largest (by omega) hk6 hq hlo hlt
    obtain ⟨p, hp⟩ : ∃ p, siPrefixes[1 + j]? = some p :=
      ⟨siPrefixes[1 + j]'(by simp only [siPrefixes, List.length_cons, List.length_nil]; omega), by simp⟩
    simp only [format, HumansizeC.smallLimit, hs, if_false, HumansizeC.firstDiv, HumansizeC.firstShift, hloop,
      prefixes_eq, hp, HumansizeC.decimalLimit]
    split at hbig
    · rename_i hd
      rw [if_pos hd]
      exact ⟨_, _, hbig, by simp only [Form.render, hp, Option.map_some], rfl⟩
    · rename_i hd
      rw [if_neg hd]
      exact ⟨_, _, hbig, by simp only [Form.render, hp, Option.map_some], rfl⟩

/-- the final multiplication with its overflow check -/
def checkedMul (n m : Nat) : ParseResult := if n > U64MAX / m then .fail else .ok (n * m)

theorem finish_checkedMul {st : St} {n m : Nat} (hst : st ≠ .err) (hm : m ≠ 0) : finish ⟨st, n, m⟩ = checkedMul n m := by
  unfold finish checkedMul
  simp only [hm, if_false]
  split <;> simp

theorem finish_err {n m : Nat} (hm : m ≠ 0) : finish ⟨.err, n, m⟩ = .fail := by
  unfold finish
  simp only [hm, if_false]
  split <;> simp

def siExp (c : UInt8) : Option Nat :=
  if c = 0x6b then some 1 else if c = 0x4d then some 2 else if c = 0x47 then some 3
  else if c = 0x54 then some 4 else if c = 0x50 then some 5 else if c = 0x45 then some 6 else none

theorem siSwitch_one (c : UInt8) :
    siSwitch 1 c = match siExp c with | some k => 1000 ^ k | none => 1 := by
  unfold siSwitch siExp
  simp only [HumansizeC.siCases]
  by_cases h1 : c = 0x45
  · subst h1; decide
  by_cases h2 : c = 0x50
  · subst h2; decide
  by_cases h3 : c = 0x54
  · subst h3; decide
  by_cases h4 : c = 0x47
  · subst h4; decide
  by_cases h5 : c = 0x4d
  · subst h5; decide
  by_cases h6 : c = 0x6b
  · subst h6; decide
  have e1 : (0x45 != c) = true := by simp; exact fun h => h1 h.symm
  have e2 : (0x50 != c) = true := by simp; exact fun h => h2 h.symm
  have e3 : (0x54 != c) = true := by simp; exact fun h => h3 h.symm
  have e4 : (0x47 != c) = true := by simp; exact fun h => h4 h.symm
  have e5 : (0x4d != c) = true := by simp; exact fun h => h5 h.symm
  have e6 : (0x6b != c) = true := by simp; exact fun h => h6 h.symm
  simp [List.dropWhile, e1, e2, e3, e4, e5, e6, h1, h2, h3, h4, h5, h6]

theorem siPrefixes_lt {k : Nat} {c : UInt8} (h : siPrefixes[k]? = some c) : k < 7 :=
  (List.getElem?_eq_some_iff.mp h).1

theorem ite_some_eq {α : Type} {p : Prop} [Decidable p] {a b : α} {o : Option α}
    (h : (if p then some a else o) = some b) : (p ∧ a = b) ∨ o = some b := by
  split at h
  · exact Or.inl ⟨‹p›, Option.some.inj h⟩
  · exact Or.inr h

theorem siExp_eq_some_iff {c : UInt8} {k : Nat} : siExp c = some k ↔ 1 ≤ k ∧ siPrefixes[k]? = some c := by
  constructor
  · intro h
    unfold siExp at h
    iterate 6
      rcases ite_some_eq h with ⟨rfl, rfl⟩ | h
      · exact ⟨by omega, rfl⟩
    cases h
  · rintro ⟨hk1, hc⟩
    have : k = 1 ∨ k = 2 ∨ k = 3 ∨ k = 4 ∨ k = 5 ∨ k = 6 := by have := siPrefixes_lt hc; omega
    rcases this with rfl | rfl | rfl | rfl | rfl | rfl <;> (cases hc; rfl)

theorem siExp_space : siExp 0x20 = none := by decide

theorem siExp_B : siExp 0x42 = none := by decide

theorem siExp_not_dec {c : UInt8} {k : Nat} (h : siExp c = some k) : isDec c = false :=
  (by decide : ∀ c ∈ siPrefixes, isDec c = false) c (List.mem_of_getElem? (siExp_eq_some_iff.mp h).2)

theorem run_err (n m : Nat) (r : List UInt8) : run ⟨.err, n, m⟩ r = ⟨.err, n, m⟩ := by
  cases r <;> simp [run, step]

theorem finish_run_s5 (n m : Nat) (hm : m ≠ 0) (r : List UInt8) :
    finish (run ⟨.s5, n, m⟩ r) = if r = [] then checkedMul n m else .fail := by
  cases r with
  | nil => simp [run, finish_checkedMul, hm]
  | cons c r' => simp [run, step, case5, finish_err hm]

theorem finish_run_s4 (n m : Nat) (hm : m ≠ 0) (r : List UInt8) :
    finish (run ⟨.s4, n, m⟩ r) = if r = [] ∨ r = [0x42] then checkedMul n m else .fail := by
  cases r with
  | nil => simp [run, finish_checkedMul, hm]
  | cons c r' =>
    by_cases hc : c = 0x42
    · subst hc
      simp only [run, step, case4, if_true]
      simp only [reduceCtorEq, if_false]
      rw [finish_run_s5 n m hm]; simp
    · simp [run, step, case4, case5, hc, finish_err hm]

/-- The suffix language ` ?[kMGTPE]?B?` as the state machine reads it, without the number in front: the exponent of
    what follows the optional space (state 3) … -/
def afterSpace : List UInt8 → Option Nat
  | [] => some 0
  | c :: r' =>
    match siExp c with
    | some k => if r' = [] ∨ r' = [0x42] then some k else none
    | none => if c = 0x42 ∧ r' = [] then some 0 else none

/-- … and of what follows the digits (state 1 at the first non-digit) -/
def suffixExp : List UInt8 → Option Nat
  | 0x20 :: r' => afterSpace r'
  | r => afterSpace r

/-- the answer for `n` followed by a suffix of exponent `k`, or by something that is no suffix -/
def answer (n : Nat) : Option Nat → ParseResult
  | some k => checkedMul n (1000 ^ k)
  | none => .fail

theorem pow1000_pos (k : Nat) : 0 < 1000 ^ k := Nat.pow_pos (by omega)

theorem finish_run_s3 (n : Nat) (r : List UInt8) : finish (run ⟨.s3, n, 1⟩ r) = answer n (afterSpace r) := by
  cases r with
  | nil => simp [run, afterSpace, answer, finish_checkedMul]
  | cons c r' =>
    simp only [run, step, case3, siSwitch_one, afterSpace]
    cases hk : siExp c with
    | some k =>
      have hne : (1000 : Nat) ^ k ≠ 1 := by
        have := Nat.pow_le_pow_right (n := 1000) (by omega) (siExp_eq_some_iff.mp hk).1
        omega
      simp only [hne, ne_eq, not_false_eq_true, if_true, reduceCtorEq, if_false]
      rw [finish_run_s4 n _ (Nat.ne_of_gt (pow1000_pos k)) r']
      split <;> rfl
    | none =>
      simp only [ne_eq, not_true_eq_false, if_false]
      by_cases hc : c = 0x42
      · subst hc
        simp only [case4, if_true, reduceCtorEq, if_false, true_and]
        rw [finish_run_s5 n 1 (by omega)]
        split <;> rfl
      · simp [case4, case5, hc, finish_err, answer]

theorem suffixExp_of_ne {r : List UInt8} (h : ∀ r', r ≠ 0x20 :: r') : suffixExp r = afterSpace r := by
  unfold suffixExp
  split
  · exact absurd rfl (h _)
  · rfl

theorem finish_run_s1 (n : Nat) (r : List UInt8) (hr : ∀ c r', r = c :: r' → isDec c = false) :
    finish (run ⟨.s1, n, 1⟩ r) = answer n (suffixExp r) := by
  cases r with
  | nil => simp [run, suffixExp, afterSpace, answer, finish_checkedMul]
  | cons c r' =>
    have hc := hr c r' rfl
    by_cases hsp : c = 0x20
    · subst hsp
      simp only [run, step, case1, hc, Bool.false_eq_true, if_false, case2, if_true, reduceCtorEq, suffixExp]
      exact finish_run_s3 n r'
    · rw [suffixExp_of_ne (fun r'' h => hsp (List.cons.inj h).1), ← finish_run_s3]
      simp only [run, step, case1, hc, Bool.false_eq_true, if_false, case2, hsp]
      rfl

theorem checkedMul_ok_iff {n m v : Nat} (hm : 0 < m) : checkedMul n m = .ok v ↔ v = n * m ∧ v ≤ U64MAX := by
  unfold checkedMul
  have := @Nat.div_lt_iff_lt_mul m U64MAX n hm
  split
  · rename_i h
    constructor
    · intro h'; cases h'
    · rintro ⟨rfl, h2⟩; have := this.mp h; omega
  · rename_i h
    constructor
    · intro h'; injection h' with h'; subst h'; exact ⟨rfl, by have := mt this.mpr h; omega⟩
    · rintro ⟨rfl, _⟩; rfl

theorem answer_ok_iff {n v : Nat} {o : Option Nat} :
    answer n o = .ok v ↔ ∃ k, o = some k ∧ v = n * 1000 ^ k ∧ v ≤ U64MAX := by
  cases o with
  | none => exact ⟨nofun, fun ⟨_, h, _⟩ => nomatch h⟩
  | some k =>
    rw [answer, checkedMul_ok_iff (pow1000_pos k)]
    exact ⟨fun h => ⟨k, rfl, h⟩, fun ⟨_, e, h⟩ => Option.some.inj e ▸ h⟩

theorem checkedMul_cases (n m : Nat) : checkedMul n m = .fail ∨ checkedMul n m = .ok (n * m) := by
  unfold checkedMul; split <;> simp

theorem answer_cases (n : Nat) (o : Option Nat) : answer n o = .fail ∨ ∃ v, answer n o = .ok v := by
  cases o with
  | none => exact Or.inl rfl
  | some k => exact (checkedMul_cases n _).imp_right fun h => ⟨_, h⟩

theorem afterSpace_eq_some_iff {r : List UInt8} {k : Nat} :
    afterSpace r = some k ↔ ∃ pre b, r = pre ++ b ∧ SiPrefix pre k ∧ (b = [] ∨ b = [0x42]) := by
  constructor
  · intro h
    cases r with
    | nil => cases h; exact ⟨[], [], rfl, Or.inl ⟨rfl, rfl⟩, Or.inl rfl⟩
    | cons c r' =>
      simp only [afterSpace] at h
      cases hk : siExp c with
      | some j =>
        simp only [hk] at h
        split at h
        · rename_i hb
          cases h
          obtain ⟨hk1, hp⟩ := siExp_eq_some_iff.mp hk
          exact ⟨[c], r', rfl, Or.inr ⟨hk1, c, hp, rfl⟩, hb⟩
        · cases h
      | none =>
        simp only [hk] at h
        split at h
        · rename_i hb
          obtain ⟨rfl, rfl⟩ := hb
          cases h
          exact ⟨[], [0x42], rfl, Or.inl ⟨rfl, rfl⟩, Or.inr rfl⟩
        · cases h
  · rintro ⟨pre, b, rfl, hpre, hb⟩
    rcases hpre with ⟨rfl, rfl⟩ | ⟨hk1, c, hc, rfl⟩
    · rcases hb with rfl | rfl
      · rfl
      · simp [afterSpace, siExp_B]
    · simp only [List.cons_append, List.nil_append, afterSpace, siExp_eq_some_iff.mpr ⟨hk1, hc⟩, if_pos hb]

theorem tail_head {pre b : List UInt8} {k : Nat} {c : UInt8} {r' : List UInt8} (hpre : SiPrefix pre k)
    (hb : b = [] ∨ b = [0x42]) (h : pre ++ b = c :: r') : c = 0x42 ∨ siExp c = some k := by
  rcases hpre with ⟨rfl, -⟩ | ⟨hk1, p, hp, rfl⟩
  · rcases hb with rfl | rfl
    · cases h
    · exact Or.inl (List.cons.inj h).1.symm
  · obtain rfl := (List.cons.inj h).1
    exact Or.inr (siExp_eq_some_iff.mpr ⟨hk1, hp⟩)

theorem suffixExp_eq_some_iff {r : List UInt8} {k : Nat} : suffixExp r = some k ↔ Suffix r k := by
  constructor
  · intro h
    unfold suffixExp at h
    split at h
    · obtain ⟨pre, b, rfl, hp, hb⟩ := afterSpace_eq_some_iff.mp h
      exact ⟨[0x20], pre, b, rfl, Or.inr rfl, hp, hb⟩
    · obtain ⟨pre, b, rfl, hp, hb⟩ := afterSpace_eq_some_iff.mp h
      exact ⟨[], pre, b, rfl, Or.inl rfl, hp, hb⟩
  · rintro ⟨sp, pre, b, rfl, hsp, hpre, hb⟩
    have key := afterSpace_eq_some_iff.mpr ⟨pre, b, rfl, hpre, hb⟩
    rcases hsp with rfl | rfl
    · rw [List.nil_append, suffixExp_of_ne]
      · exact key
      · intro r' h
        rcases tail_head hpre hb h with h | h
        · cases h
        · rw [siExp_space] at h; cases h
    · exact key

theorem isDec_iff {c : UInt8} : isDec c = true ↔ ¬ (c < 0x30 ∨ c > 0x39) := by
  simp only [isDec, Bool.and_eq_true, decide_eq_true_eq, not_or, UInt8.not_lt, gt_iff_lt]

theorem digitOf10_eq (c : UInt8) : digitOf 10 c = if isDec c then some (c.toNat - 0x30) else none := by
  unfold digitOf digitVal isDec
  by_cases h : 0x30 ≤ c ∧ c ≤ 0x39
  · have h1 := UInt8.le_iff_toNat_le.mp h.1
    have h2 := UInt8.le_iff_toNat_le.mp h.2
    simp only [h.1, h.2, decide_true, Bool.and_self, if_true]
    exact if_pos (by simp at h1 h2; omega)
  · have : (decide (0x30 ≤ c) && decide (c ≤ 0x39)) = false := by simpa using h
    simp only [if_neg h, this, Bool.false_eq_true, if_false]
    by_cases h2 : 0x61 ≤ c ∧ c ≤ 0x7a
    · simp only [if_pos h2]
      exact if_neg (by omega)
    · by_cases h3 : 0x41 ≤ c ∧ c ≤ 0x5a
      · simp only [if_neg h2, if_pos h3]
        exact if_neg (by omega)
      · simp only [if_neg h2, if_neg h3]

theorem digitOf10_some {c : UInt8} {d : Nat} (h : digitOf 10 c = some d) : isDec c = true ∧ d = c.toNat - 0x30 := by
  rw [digitOf10_eq] at h
  split at h
  · exact ⟨‹_›, (Option.some.inj h).symm⟩
  · cases h

theorem isDigit10_eq : isDigit 10 = isDec := by
  funext c
  rw [isDigit, digitOf10_eq]
  cases isDec c <;> rfl

theorem step_digit {c : UInt8} {d n0 : Nat} (hd : digitOf 10 c = some d) :
    (n0 * 10 + d ≤ U64MAX → step ⟨.s1, n0, 1⟩ c = ⟨.s1, n0 * 10 + d, 1⟩) ∧
    (¬ n0 * 10 + d ≤ U64MAX → ∃ sz, step ⟨.s1, n0, 1⟩ c = ⟨.err, sz, 1⟩) := by
  have hdle : d ≤ 9 := by have := Percival.Proofs.Numeral.digitOf_lt hd; omega
  obtain ⟨h1, rfl⟩ := digitOf10_some hd
  simp only [step, case1, h1, if_true, U64MAX]
  by_cases ha : n0 > (2 ^ 64 - 1) / 10
  · simp only [ha, if_true]
    exact ⟨fun h => by omega, fun _ => by split <;> exact ⟨_, rfl⟩⟩
  · simp only [ha, if_false]
    by_cases hb : n0 * 10 > 2 ^ 64 - 1 - (c.toNat - 48)
    · simp only [hb, if_true]
      exact ⟨fun h => by omega, fun _ => ⟨_, rfl⟩⟩
    · simp only [hb, if_false]
      exact ⟨fun _ => trivial, fun h => by omega⟩

theorem run_digits (rest : List UInt8) : ∀ (ds : List UInt8) (n0 n : Nat), n0 ≤ U64MAX →
    digitsVal 10 n0 ds = some n →
    (n ≤ U64MAX → run ⟨.s1, n0, 1⟩ (ds ++ rest) = run ⟨.s1, n, 1⟩ rest) ∧
    (n > U64MAX → finish (run ⟨.s1, n0, 1⟩ (ds ++ rest)) = .fail) := by
  intro ds
  induction ds with
  | nil =>
    intro n0 n h0 h
    simp [digitsVal] at h; subst h
    exact ⟨fun _ => rfl, fun h => by omega⟩
  | cons c cs ih =>
    intro n0 n h0 h
    simp only [digitsVal] at h
    cases hd : digitOf 10 c with
    | none => simp [hd] at h
    | some d =>
      simp only [hd] at h
      have hmono := Numeral.digitsVal_mono cs _ _ (by omega) h
      obtain ⟨hs1, hs2⟩ := @step_digit c d n0 hd
      simp only [List.cons_append, run]
      by_cases hle : n0 * 10 + d ≤ U64MAX
      · rw [hs1 hle]
        simp only [reduceCtorEq, if_false]
        exact ih _ _ hle h
      · obtain ⟨sz, hsz⟩ := hs2 hle
        rw [hsz]
        simp only [if_true]
        exact ⟨fun h => by omega, fun _ => finish_err (by omega)⟩

theorem run_init_digit {c : UInt8} (hc : isDec c = true) (cs : List UInt8) :
    run init (c :: cs) = run ⟨.s1, 0, 1⟩ (c :: cs) := by
  simp only [run, step, init, case0, isDec_iff.mp hc, if_false]
  rfl

theorem dropWhile_head (s : List UInt8) (c : UInt8) (r' : List UInt8) (h : s.dropWhile isDec = c :: r') :
    isDec c = false := by
  have := List.head?_dropWhile_not isDec s
  rwa [h] at this

theorem suffix_head {r : List UInt8} {k : Nat} (h : Suffix r k) : ∀ c r', r = c :: r' → isDec c = false := by
  obtain ⟨sp, pre, b, rfl, hsp, hpre, hb⟩ := h
  intro c r' heq
  rcases hsp with rfl | rfl
  · rcases tail_head hpre hb heq with rfl | h
    · decide
    · exact siExp_not_dec h
  · obtain rfl := (List.cons.inj heq).1
    decide

theorem parse_nil : parse [] = .fail := by decide

theorem parse_nondigit {c : UInt8} (cs : List UInt8) (hc : ¬ isDec c = true) : parse (c :: cs) = .fail := by
  simp only [parse, run, step, init, case0, Classical.not_not.mp (mt isDec_iff.mpr hc), if_true]
  exact finish_err (by omega)

theorem parse_digits {c : UInt8} (cs : List UInt8) (hc : isDec c = true) :
    parse (c :: cs) = if runVal 10 0 ((c :: cs).takeWhile isDec) ≤ U64MAX
      then answer (runVal 10 0 ((c :: cs).takeWhile isDec)) (suffixExp ((c :: cs).dropWhile isDec)) else .fail := by
  obtain ⟨h1, h2⟩ := run_digits ((c :: cs).dropWhile isDec) _ 0 _ (by simp [U64MAX])
    (isDigit10_eq ▸ run_denotes 10 0 (c :: cs))
  have key : parse (c :: cs) = finish (run ⟨.s1, 0, 1⟩ ((c :: cs).takeWhile isDec ++ (c :: cs).dropWhile isDec)) := by
    rw [List.takeWhile_append_dropWhile]
    simp only [parse]
    rw [run_init_digit hc]
  rw [key]
  split
  · rename_i hle
    rw [h1 hle, finish_run_s1 _ _ (dropWhile_head _)]
  · rename_i hle
    rw [h2 (by omega)]

theorem parse_cases (s : List UInt8) : parse s = .fail ∨ ∃ v, parse s = .ok v := by
  cases s with
  | nil => exact Or.inl parse_nil
  | cons c cs =>
    by_cases hc : isDec c = true
    · rw [parse_digits cs hc]
      split
      · exact answer_cases _ _
      · exact Or.inl rfl
    · exact Or.inl (parse_nondigit cs hc)

/-- the language in terms of the string's own run of digits -/
theorem parses_iff (s : List UInt8) (v : Nat) :
    Parses s v ↔ s.takeWhile isDec ≠ [] ∧
      ∃ k, Suffix (s.dropWhile isDec) k ∧ v = runVal 10 0 (s.takeWhile isDec) * 1000 ^ k := by
  constructor
  · rintro ⟨ds, r, n, k, rfl, hne, hn, hsuf, rfl⟩
    obtain ⟨hall, rfl⟩ := digitsVal_eq_some.mp hn
    obtain ⟨e1, e2⟩ := Numeral.takeWhile_append_stop ds r (isDigit10_eq ▸ hall) (suffix_head hsuf)
    rw [e1, e2]
    exact ⟨hne, k, hsuf, rfl⟩
  · rintro ⟨hne, k, hsuf, rfl⟩
    exact ⟨_, _, _, k, List.takeWhile_append_dropWhile.symm, hne, isDigit10_eq ▸ run_denotes 10 0 s, hsuf, rfl⟩

theorem parse_ok_iff (s : List UInt8) (v : Nat) :
    parse s = .ok v ↔ Parses s v ∧ v ≤ U64MAX := by
  rw [parses_iff]
  cases s with
  | nil => rw [parse_nil]; exact ⟨nofun, fun h => absurd rfl h.1.1⟩
  | cons c cs =>
    by_cases hc : isDec c = true
    · rw [parse_digits cs hc]
      have hne : (c :: cs).takeWhile isDec ≠ [] := by simp [hc]
      generalize runVal 10 0 ((c :: cs).takeWhile isDec) = n at *
      split
      · simp only [answer_ok_iff, suffixExp_eq_some_iff]
        exact ⟨fun ⟨k, h1, h2, h3⟩ => ⟨⟨hne, k, h1, h2⟩, h3⟩, fun ⟨⟨_, k, h1, h2⟩, h3⟩ => ⟨k, h1, h2, h3⟩⟩
      · rename_i hle
        refine ⟨nofun, fun ⟨⟨_, k, _, h2⟩, h3⟩ => absurd ?_ hle⟩
        have : n * 1 ≤ n * 1000 ^ k := Nat.mul_le_mul_left _ (pow1000_pos k)
        omega
    · rw [parse_nondigit cs hc]
      exact ⟨nofun, fun h => absurd (by simp [hc]) h.1.1⟩

theorem parse_fail_iff (s : List UInt8) :
    parse s = .fail ↔ ¬ ∃ v, Parses s v ∧ v ≤ U64MAX := by
  constructor
  · rintro h ⟨v, hv⟩
    rw [(parse_ok_iff s v).mpr hv] at h; cases h
  · intro h
    rcases parse_cases s with hf | ⟨v, hv⟩
    · exact hf
    · exact absurd ⟨v, (parse_ok_iff s v).mp hv⟩ h

theorem parse_ne_divzero (s : List UInt8) : parse s ≠ .divzero := by
  rcases parse_cases s with hf | ⟨v, hv⟩ <;> simp [*]

end Percival.Proofs.Humansize
