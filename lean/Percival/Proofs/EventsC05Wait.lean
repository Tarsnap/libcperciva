import Percival.Proofs.EventsC05Rel
/-!
# C05: the timeout of a poll: what the monitor's check asks (`checkPoll_ok`) and the invariant of the poll loop of
  `events_network_select` that gives it (`WaitOk`)
-/
namespace Percival.Proofs.EventsC05
open Percival.Spec.Events Percival.Model.Events Percival.Model
open Percival.Proofs.EventsTQ
open Percival.Proofs.EventsC04 (TmOk TmView tm_getmin)

theorem minDeadline_spec : ∀ (l : List C05.Tm) (d : Nat), C05.minDeadline l = some d →
    (∃ t ∈ l, t.deadline = d) ∧ ∀ t ∈ l, d ≤ t.deadline := by
  intro l
  induction l with
  | nil => intro d h; simp [C05.minDeadline] at h
  | cons a as ih =>
    intro d h
    simp only [C05.minDeadline] at h
    cases hm : C05.minDeadline as with
    | none =>
      rw [hm] at h; simp only [Option.some.injEq] at h; subst h
      have has : as = [] := by
        cases as with
        | nil => rfl
        | cons b bs => simp only [C05.minDeadline] at hm; split at hm <;> cases hm
      subst has
      exact ⟨⟨a, by simp, rfl⟩, by simp⟩
    | some d' =>
      rw [hm] at h; simp only [Option.some.injEq] at h; subst h
      obtain ⟨⟨t, ht, htd⟩, hall⟩ := ih d' hm
      refine ⟨?_, ?_⟩
      · by_cases hle : a.deadline ≤ d'
        · exact ⟨a, by simp, by rw [Nat.min_eq_left hle]⟩
        · exact ⟨t, List.mem_cons_of_mem _ ht, by rw [htd, Nat.min_eq_right (by omega)]⟩
      · intro x hx
        rcases List.mem_cons.mp hx with rfl | hx
        · exact Nat.min_le_left _ _
        · exact Nat.le_trans (Nat.min_le_right _ _) (hall x hx)

theorem minDeadline_none (l : List C05.Tm) : C05.minDeadline l = none ↔ l = [] := by
  cases l with
  | nil => simp [C05.minDeadline]
  | cons a as => simp only [C05.minDeadline]; split <;> simp

theorem expired_iff (m : C05.M) : C05.expired m = true ↔ ∃ t ∈ m.tms, t.deadline ≤ m.clock := by
  simp only [C05.expired, List.any_eq_true, decide_eq_true_eq]

theorem ceilMs_nonneg (us : Nat) : 0 ≤ C05.ceilMs us := by
  unfold C05.ceilMs; omega

theorem ceilMs_zero : C05.ceilMs 0 = 0 := by decide

theorem satMs_zero : satMs 0 = 0 := by decide

theorem selectTimeout_zero : selectTimeout (some (0, 0)) = 0 := by decide

/-- what the monitor asks of the timeout of a poll, said of the timers themselves: not below −1; a poll that can
    wait only while no immediate is pending and no timer has expired; with a timer registered neither forever nor
    longer than `ceilMs` of the time to any deadline -/
theorem checkPoll_ok (m : C05.M) (t : Int) (h1 : -1 ≤ t)
    (h2 : t ≠ 0 → m.imms = [] ∧ ∀ x ∈ m.tms, m.clock < x.deadline)
    (h3 : ∀ x ∈ m.tms, t ≠ -1 ∧ t ≤ C05.ceilMs (x.deadline - m.clock)) : C05.checkPoll m t = .ok () := by
  have hr : (decide (t ≠ 0) && C05.runnable m) = false := by
    by_cases ht : t = 0
    · simp [ht]
    · obtain ⟨himm, hex⟩ := h2 ht
      have : C05.runnable m = false := by
        cases hrn : C05.runnable m with
        | false => rfl
        | true =>
          simp only [C05.runnable, himm, List.isEmpty_nil, Bool.not_true, Bool.false_or] at hrn
          obtain ⟨x, hx, hle⟩ := (expired_iff m).mp hrn
          have := hex x hx
          omega
      simp [this]
  unfold C05.checkPoll
  simp only [show ¬ t < -1 by omega, if_false, hr, Bool.false_eq_true]
  cases hd : C05.minDeadline m.tms with
  | none => rfl
  | some d =>
    obtain ⟨⟨x, hx, rfl⟩, _⟩ := minDeadline_spec m.tms d hd
    obtain ⟨h4, h5⟩ := h3 x hx
    simp only [h4, show ¬ t > C05.ceilMs (x.deadline - m.clock) by omega, if_false]
    rfl

variable {C : TQContract} {m : C05.M} {s : State}

/-! ### the timeout of every poll of one `events_network_select`

`WaitOk` says why the loop may poll with `timeout`: it is 0; or it is −1 and neither a timer nor an immediate is
registered; or a finite wait is in progress — the requested time `tv` is a normalised `struct timeval` of `u` µs (`TV`),
nothing but timers can become runnable, the wait ends, counted from the clock reading `tstart` taken before the first
poll, no later than any deadline — and `timeout` is `satMs` (= `tv2ms`) of what is left of it by the clock.  After an
EINTR the same holds of `nextTimeout` (`waitOk_eintr`): `timeLeft` recomputes exactly that. -/

def WaitOk (m : C05.M) (timeout : Int) (wait : Option ((Int × Int) × Nat)) : Prop :=
  timeout = 0 ∨ (timeout = -1 ∧ wait = none ∧ m.tms = [] ∧ m.imms = []) ∨
  ∃ (tv : Int × Int) (tstart u : Nat), wait = some (tv, tstart) ∧ TV tv u ∧
    m.imms = [] ∧ (∀ t ∈ m.tms, tstart + u ≤ t.deadline) ∧ timeout = satMs (tstart + u - m.clock)

theorem WaitOk.check {m : C05.M} {timeout : Int} {wait : Option ((Int × Int) × Nat)} (h : WaitOk m timeout wait) :
    C05.checkPoll m timeout = .ok () := by
  rcases h with rfl | ⟨rfl, _, htms, himm⟩ | ⟨tv, tstart, u, _, _, himm, hdl, rfl⟩
  · exact checkPoll_ok m 0 (by omega) (fun h => absurd rfl h) fun _ _ => ⟨by omega, ceilMs_nonneg _⟩
  · exact checkPoll_ok m (-1) (by omega) (fun _ => ⟨himm, by rw [htms]; nofun⟩) (by rw [htms]; nofun)
  · -- `satMs` of a time that is no longer than the time to any deadline (0 for a timer that has expired)
    have hnn := satMs_nonneg (tstart + u - m.clock)
    refine checkPoll_ok m _ (by omega) (fun hne => ⟨himm, fun x hx => ?_⟩) fun x hx =>
      ⟨by omega, Int.le_trans (satMs_le _) (ceilMs_mono (by have := hdl x hx; omega))⟩
    have := hdl x hx
    have : tstart + u - m.clock ≠ 0 := fun h0 => hne ((satMs_eq_zero _).mpr h0)
    omega

/-- after an EINTR during which `adv` µs passed: an infinite wait and a zero timeout are repeated, a finite wait is
    cut down to what is left of it; a poll that can wait follows only a poll that could (what `MayBlock` and the
    `stop`/`mf` fields of `SelPost`, which speak of the first timeout of the select, need) -/
theorem waitOk_eintr {m : C05.M} {timeout : Int} {wait : Option ((Int × Int) × Nat)} (adv : Nat)
    (h : WaitOk m timeout wait) :
    WaitOk { m with clock := m.clock + adv } (nextTimeout wait timeout (m.clock + adv)) wait ∧
    (nextTimeout wait timeout (m.clock + adv) ≠ 0 → timeout ≠ 0) := by
  rcases h with rfl | ⟨rfl, rfl, htms, himm⟩ | ⟨tv, tstart, u, rfl, htv, himm, hdl, rfl⟩
  · have : nextTimeout wait 0 (m.clock + adv) = 0 := by unfold nextTimeout; split <;> rfl
    rw [this]; exact ⟨Or.inl rfl, fun h => h⟩
  · exact ⟨Or.inr (Or.inl ⟨rfl, rfl, htms, himm⟩), fun _ => by decide⟩
  · by_cases hpos : satMs (tstart + u - m.clock) > 0
    · have hnt : nextTimeout (some (tv, tstart)) (satMs (tstart + u - m.clock)) (m.clock + adv) =
          satMs (tstart + u - (m.clock + adv)) := by
        simp only [nextTimeout, hpos, if_true]
        exact htv.timeLeft tstart (m.clock + adv)
      rw [hnt]
      exact ⟨Or.inr (Or.inr ⟨tv, tstart, u, rfl, htv, himm, hdl, rfl⟩), fun _ => Int.ne_of_gt hpos⟩
    · have hnt : nextTimeout (some (tv, tstart)) (satMs (tstart + u - m.clock)) (m.clock + adv) =
          satMs (tstart + u - m.clock) := by
        simp only [nextTimeout, hpos, if_false]
      have hz : satMs (tstart + u - m.clock) = 0 := by have := satMs_nonneg (tstart + u - m.clock); omega
      rw [hnt, hz]; exact ⟨Or.inl rfl, fun h => h⟩

/-- the first (possibly blocking) poll of a call: −1 without timers; else `events_timer_min`'s answer is a wait that
    ends at the earliest deadline, and the clock is read at the same instant -/
theorem waitOk_first (r : Rel C m s) (himm : m.imms = []) :
    WaitOk m (selectTimeout (timerMin s)) (waitStart s (timerMin s)) := by
  unfold waitStart timerMin
  rcases tm_getmin r.tm.ok with ⟨hg, hnil⟩ | ⟨id, us, dl, hg, hv, hmin⟩
  · have htms : m.tms = [] := List.eq_nil_iff_forall_not_mem.mpr fun t ht => by
      obtain ⟨t', _, hmem, _⟩ := (r.tm.iff t.id t.usec t.deadline).mp ht
      rw [hnil] at hmem; cases hmem
    rw [hg]
    exact Or.inr (Or.inl ⟨rfl, rfl, htms, himm⟩)
  · rw [hg]
    simp only [Option.map_some]
    rw [selectTimeout_timerDiff s.clock dl]
    by_cases hpos : satMs (dl - s.clock) > 0
    · rw [if_pos hpos]
      have hlt : s.clock < dl := Nat.lt_of_sub_pos (Nat.pos_of_ne_zero fun h => by rw [h, satMs_zero] at hpos; omega)
      refine Or.inr (Or.inr ⟨_, s.clock, dl - s.clock, rfl, (TV.split dl).timerDiff s.clock, himm, fun t ht => ?_, ?_⟩)
      · have := hmin t.id t.usec t.deadline ((r.tm.iff _ _ _).mp ht)
        omega
      · rw [r.clock]; congr 1; omega
    · have := satMs_nonneg (dl - s.clock)
      exact Or.inl (by omega)

/-! ### the common core of the two timeout theorems of `Properties/C05`

Both timeouts are `satMs` of the time left to the deadline (`selectTimeout_timerDiff`, `TV.timeLeft`). -/

/-- a timeout that is `satMs` of the `u` µs left: never more than `ceilMs u`; exactly that below 2147483 s; 2147483000 ms
    from there on; never negative; 0 exactly when nothing is left -/
theorem timeout_spec {t : Int} {u : Nat} (e : t = satMs u) :
    t ≤ C05.ceilMs u ∧ (u < 2147483000000 → t = C05.ceilMs u) ∧ (2147483000000 ≤ u → t = 2147483000) ∧
    0 ≤ t ∧ (t = 0 ↔ u = 0) :=
  e ▸ ⟨satMs_le _, fun h => satMs_lt h, fun h => satMs_ge h, satMs_nonneg _, satMs_eq_zero _⟩

end Percival.Proofs.EventsC05
