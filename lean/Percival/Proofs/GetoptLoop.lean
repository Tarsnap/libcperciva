import Percival.Proofs.GetoptProgress
/-! The user loop of the model against `Spec.Getopt.parse` (C18): one `getopt` call reports the next event the Spec
expects from the cursor (`getopt_event`), every reporting call moves the cursor on (`getopt_progress`), so the loop
reports exactly what `parse` says (`loop_ahead`). -/
namespace Percival.Proofs.Getopt
open Percival.Spec.Getopt Percival.Model.Getopt

theorem parse_stop {T : Table} {w : Str} {c : Bool} (rest : List Str)
    (h : word T w = .stop c) : parse T (w :: rest) = ([], if c then 1 else 0) := by
  simp [parse, h]

def fromWords (T : Table) (i : Nat) (rest : List Str) : List Ev × Nat :=
  ((parse T rest).1, i + (parse T rest).2)

/-- the events and the final `optind` once the word at index `i` has contributed `r.1` and left `r.2` waiting for its
    argument -/
def fromWord (T : Table) (i : Nat) (r : List Ev × Option Str) (rest : List Str) : List Ev × Nat :=
  match r.2, rest with
  | none, _ => (r.1 ++ (fromWords T (i + 1) rest).1, (fromWords T (i + 1) rest).2)
  | some n, [] => (r.1 ++ [Ev.missing n], i + 1)
  | some n, a :: rest' => (r.1 ++ Ev.opt n (some a) :: (fromWords T (i + 2) rest').1, (fromWords T (i + 2) rest').2)

theorem fromWords_options {T : Table} {w : Str} {evs : List Ev} {pend : Option Str} (i : Nat) (rest : List Str)
    (h : word T w = .options evs pend) : fromWords T i (w :: rest) = fromWord T i (evs, pend) rest := by
  cases pend with
  | none => simp [fromWords, parse, h, fromWord, Nat.add_assoc, Nat.add_comm 1]
  | some n => cases rest <;> simp [fromWords, parse, h, fromWord, Nat.add_assoc, Nat.add_comm 2]

theorem fromWords_stop {T : Table} {w : Str} {c : Bool} (i : Nat) (rest : List Str) (h : word T w = .stop c) :
    fromWords T i (w :: rest) = ([], i + if c then 1 else 0) := by
  rw [fromWords, parse_stop rest h]

theorem fromWord_cons (T : Table) (i : Nat) (e : Ev) (r : List Ev × Option Str) (rest : List Str) :
    fromWord T i (e :: r.1, r.2) rest = (e :: (fromWord T i r rest).1, (fromWord T i r rest).2) := by
  unfold fromWord
  cases r.2 with
  | none => rfl
  | some n => cases rest <;> rfl

/-- what the Spec still expects at a cursor (`packedopts`, `optind`): inside a pack the rest of the word and the
    following words, at a word boundary the words from `optind` on -/
def ahead (T : Table) (argv : List Str) (pk : Option (Nat × Nat)) (oi : Nat) : List Ev × Nat :=
  match argv.drop oi, pk with
  | w :: rest, some (_, j) => fromWord T oi (pack T (w.drop j)) rest
  | rest, _ => fromWords T oi rest

theorem ahead_boundary (T : Table) (argv : List Str) (i : Nat) :
    ahead T argv none i = fromWords T i (argv.drop i) := by
  unfold ahead
  cases argv.drop i <;> rfl

theorem drop_cons {α : Type} {l : List α} {i : Nat} {x : α} {rest : List α} (h : l.drop i = x :: rest) :
    l[i]? = some x ∧ l.drop (i + 1) = rest := by
  have h0 := congrArg (fun l => l[0]?) h
  have h1 := congrArg (fun l => l.drop 1) h
  exact ⟨by simpa using h0, by simpa [List.drop_drop, Nat.add_comm] using h1⟩

/-- after a character of a pack in the word at index `i` has been fetched (`cs` = what follows it), the Spec
    expects the rest of the pack -/
theorem ahead_after_char {T : Table} {argv : List Str} {i : Nat} {p cs : Str} {c : UInt8} {rest : List Str}
    (hd : argv.drop i = (p ++ c :: cs) :: rest) :
    ahead T argv (if cs = [] then none else some (i, p.length + 1)) (if cs = [] then i + 1 else i) =
      fromWord T i (pack T cs) rest := by
  cases cs with
  | nil => simp only [if_true, ahead, (drop_cons hd).2]; rfl
  | cons d cs => simp [ahead, hd]

/-- from state `t`, `finishOpt` on `os` reports the Spec event `e` to user code and leaves state `t'` -/
def FReports (lines : List Line) (argv : List Str) (t : St) (os : Str) (e : Ev) (t' : St) : Prop :=
  ∃ ch lbl, finishOpt argv t os = pure (.os ch, t') ∧ dispatch lines t' ch = pure lbl ∧
    observe lbl ch t' = route (tableOf lines).hasMissing e

section
variable {lines : List Line} {argv : List Str} {t : St} {os : Str}

theorem fr_unknown (h : Inv lines t) (hf : searchopt t os = pure (lines.length + 1)) :
    FReports lines argv t os (.unknown os) { t with optFound := lines.length + 1 } :=
  ⟨os, .dflt, finishOpt_unknown h hf,
    dispatch_default (inv_update h t.optarg t.optind t.packed _) os rfl, rfl⟩

theorem fr_noarg (h : Inv lines t) {j : Nat} {n : Str} (hf : Finds lines t os j n false none) :
    FReports lines argv t os (.opt n none) { t with optFound := j } :=
  ⟨n, .opt, finishOpt_noarg h hf, dispatch_opt (inv_update h t.optarg t.optind t.packed _) rfl hf.line, rfl⟩

theorem fr_unwanted (h : Inv lines t) {j : Nat} {n val : Str}
    (hf : Finds lines t os j n false (some val)) :
    FReports lines argv t os (.unwanted n) { t with optFound := lines.length + 1 } :=
  ⟨n, .dflt, finishOpt_noarg h hf,
    dispatch_default (inv_update h t.optarg t.optind t.packed _) n rfl, rfl⟩

/-- an option with its argument: whichever way `takeArg` found it -/
theorem fr_arg (h : Inv lines t) {j : Nat} {n a : Str} {v : Option Str} (hf : Finds lines t os j n true v) {t' : St}
    (hta : takeArg argv { t with optFound := j } os ⟨n, n.length, true⟩ = pure t') (hinv : Inv lines t')
    (hfd : t'.optFound = j) (hoa : t'.optarg = some a) : FReports lines argv t os (.opt n (some a)) t' :=
  ⟨n, .optarg, by rw [finishOpt_arg h hf, hta]; rfl, dispatch_optarg hinv hfd hf.line hoa,
    by simp [observe, route, hoa]⟩

theorem fr_argpacked (h : Inv lines t) {j i : Nat} {x c : UInt8} {p cs : Str}
    (hf : Finds lines t [dash, x] j [dash, x] true none)
    (hp : t.packed = some (i, p.length)) (hw : argv[i]? = some (p ++ c :: cs)) :
    FReports lines argv t [dash, x] (.opt [dash, x] (some (c :: cs)))
      { t with optFound := j, optarg := some (c :: cs), packed := none, optind := t.optind + 1 } :=
  fr_arg h hf (takeArg_packed (s := { t with optFound := j }) (x := x) hp hw rfl)
    (inv_update h _ _ _ _) rfl rfl

theorem fr_argeq (h : Inv lines t) {j : Nat} {n val : Str}
    (hf : Finds lines t os j n true (some val)) (hp : t.packed = none) :
    FReports lines argv t os (.opt n (some val)) { t with optFound := j, optarg := some val } := by
  have hrd := matchOpt_rd hf.val
  refine fr_arg h hf ?_ (inv_update h _ _ _ _) rfl rfl
  rw [takeArg_eq (s := { t with optFound := j }) (e := ⟨n, n.length, true⟩) hp (by simpa using hrd.1), hrd.2 val rfl]

theorem fr_argnext (h : Inv lines t) {j : Nat} {n a : Str}
    (hf : Finds lines t os j n true none) (hp : t.packed = none) (hoa : t.optarg = none)
    (hw : argv[t.optind]? = some a) :
    FReports lines argv t os (.opt n (some a))
      { t with optFound := j, optarg := some a, optind := t.optind + 1 } :=
  fr_arg h hf
    (takeArg_next (s := { t with optFound := j }) hp hoa (by simpa using (matchOpt_rd hf.val).1) hw)
    (inv_update h _ _ _ _) rfl rfl

theorem fr_missing (h : Inv lines t) {j : Nat} {n : Str}
    (hf : Finds lines t os j n true none) (hp : t.packed = none) (hoa : t.optarg = none)
    (hend : argv.length ≤ t.optind) :
    FReports lines argv t os (.missing n) { t with optFound := t.optMissing } := by
  refine ⟨n, if (tableOf lines).hasMissing then .missingArg else .dflt, ?_, ?_, ?_⟩
  · rw [finishOpt_arg h hf, takeArg_missing (s := { t with optFound := j }) (e := ⟨n, n.length, true⟩) hp hoa
      (by simpa using (matchOpt_rd hf.val).1) hend]
    rfl
  · exact dispatch_missing (inv_update h _ _ _ _) n rfl
  · cases (tableOf lines).hasMissing <;> simp [observe, route]

end

/-- `getopt argv s` reports the first of the events `A` that are still to come, and leaves the rest to come -/
def Reports (lines : List Line) (argv : List Str) (s : St) (A : List Ev × Nat) : Prop :=
  ∃ ch s' lbl e, Model.Getopt.getopt argv s = pure (.os ch, s') ∧ dispatch lines s' ch = pure lbl ∧
    observe lbl ch s' = route (tableOf lines).hasMissing e ∧
    A = (e :: (ahead (tableOf lines) argv s'.packed s'.optind).1, (ahead (tableOf lines) argv s'.packed s'.optind).2)

section
variable {lines : List Line} {argv : List Str}

theorem reports_of {s t t' : St} {os : Str} {e : Ev} {A : List Ev × Nat} {pk : Option (Nat × Nat)} {oi : Nat}
    (hg : Model.Getopt.getopt argv s = finishOpt argv t os) (hr : FReports lines argv t os e t')
    (hp : t'.packed = pk) (hi : t'.optind = oi)
    (hA : A = (e :: (ahead (tableOf lines) argv pk oi).1, (ahead (tableOf lines) argv pk oi).2)) :
    Reports lines argv s A := by
  obtain ⟨ch, lbl, h1, h2, h3⟩ := hr
  subst hp hi
  exact ⟨ch, t', lbl, e, hg.trans h1, h2, h3, hA⟩

/-- an option that takes its argument from the next word, found at the end of the word at index `i` -/
theorem pending_event {s t : St} {os n : Str} {i j : Nat} {rest : List Str}
    (hg : Model.Getopt.getopt argv s = finishOpt argv t os) (hinv : Inv lines t)
    (hf : Finds lines t os j n true none) (hp : t.packed = none) (hoa : t.optarg = none) (hi : t.optind = i + 1)
    (hd : argv.drop (i + 1) = rest) :
    Reports lines argv s (fromWord (tableOf lines) i ([], some n) rest) := by
  cases rest with
  | nil =>
    have hend : argv.length ≤ t.optind := by rw [hi]; exact List.drop_eq_nil_iff.mp hd
    refine reports_of hg (fr_missing hinv hf hp hoa hend) hp hi ?_
    simp only [ahead, hd]
    rfl
  | cons a rest' =>
    obtain ⟨ha, hd'⟩ := drop_cons hd
    refine reports_of hg (fr_argnext hinv hf hp hoa (by rw [hi]; exact ha)) hp (congrArg (· + 1) hi) ?_
    simp only [ahead, hd']
    rfl

/-- the call that handles character `c` of a pack in the word at index `i` (`p` = what is before it in the word) -/
theorem char_event (hn : NamesOK lines) {s t : St} {i : Nat} {p cs : Str} {c : UInt8} {rest : List Str}
    (hd : argv.drop i = (p ++ c :: cs) :: rest) (hc0 : c ≠ 0)
    (hg : Model.Getopt.getopt argv s = finishOpt argv t [dash, c]) (hinv : Inv lines t) (hoa : t.optarg = none)
    (hpk : t.packed = if cs = [] then none else some (i, p.length + 1))
    (hoi : t.optind = if cs = [] then i + 1 else i) :
    Reports lines argv s (fromWord (tableOf lines) i (pack (tableOf lines) (c :: cs)) rest) := by
  have hfs := finds_short hn hinv hc0
  cases hs : lookupShort (tableOf lines).opts c with
  | none =>
    rw [hs] at hfs
    refine reports_of hg (fr_unknown hinv hfs) hpk hoi ?_
    rw [ahead_after_char hd, ← fromWord_cons, pack, hs]
  | some o =>
    rw [hs] at hfs
    obtain ⟨j, hf⟩ := hfs
    have hname := lookupShort_name hs
    cases ha : o.hasArg with
    | false =>
      rw [ha] at hf
      refine reports_of hg (fr_noarg hinv hf) hpk hoi ?_
      rw [ahead_after_char hd, ← fromWord_cons, pack, hs]
      simp only [ha, Bool.false_eq_true, if_false]
    | true =>
      rw [ha] at hf
      cases cs with
      | nil =>
        have := pending_event hg hinv hf hpk hoa hoi (drop_cons hd).2
        simpa only [pack, hs, ha, if_true] using this
      | cons d cs =>
        simp only [reduceCtorEq, if_false] at hpk hoi
        rw [hname] at hf
        have hw : argv[i]? = some ((p ++ [c]) ++ d :: cs) := by simpa using (drop_cons hd).1
        refine reports_of hg (fr_argpacked hinv hf (by simpa using hpk) hw) rfl (congrArg (· + 1) hoi) ?_
        simp only [ahead, (drop_cons hd).2, pack, hs, ha, hname, if_true, reduceCtorEq, if_false]
        rfl

/-- the call that handles the long option word `w` at index `i` -/
theorem long_event (hn : NamesOK lines) {s : St} {w : Str} {rest : List Str}
    (hd : argv.drop s.optind = w :: rest) (hnul : NulFree w)
    (hg : Model.Getopt.getopt argv s = finishOpt argv { s with optarg := none, optind := s.optind + 1 } w)
    (hinv : Inv lines s) (hp : s.packed = none) :
    Reports lines argv s (fromWord (tableOf lines) s.optind (long (tableOf lines) w) rest) := by
  have hinv' : Inv lines { s with optarg := none, optind := s.optind + 1 } := inv_update hinv _ _ _ _
  have hfl := finds_long hn hinv' hnul
  have hd1 := (drop_cons hd).2
  -- an event that leaves nothing pending: the Spec goes on with the next word
  have one : ∀ {e : Ev} {t' : St}, FReports lines argv { s with optarg := none, optind := s.optind + 1 } w e t' →
      t'.packed = none → t'.optind = s.optind + 1 →
      Reports lines argv s (fromWord (tableOf lines) s.optind ([e], none) rest) := by
    intro e t' hr h1 h2
    refine reports_of hg hr h1 h2 ?_
    simp only [ahead, hd1]
    rfl
  cases hl : lookupLong (tableOf lines).opts w with
  | none =>
    rw [hl] at hfl
    simpa only [long, hl] using one (fr_unknown hinv' hfl) hp rfl
  | some ov =>
    obtain ⟨o, v⟩ := ov
    rw [hl] at hfl
    obtain ⟨j, hf⟩ := hfl
    cases ha : o.hasArg with
    | false =>
      rw [ha] at hf
      cases v with
      | none => simpa only [long, hl, ha, Bool.false_eq_true, if_false] using one (fr_noarg hinv' hf) hp rfl
      | some val => simpa only [long, hl, ha, Bool.false_eq_true, if_false] using one (fr_unwanted hinv' hf) hp rfl
    | true =>
      rw [ha] at hf
      cases v with
      | some val => simpa only [long, hl, ha, if_true] using one (fr_argeq hinv' hf hp) hp rfl
      | none => simpa only [long, hl, ha, if_true] using pending_event hg hinv' hf hp rfl rfl hd1

/-- **One call against the Spec.**  At a cursor inside `argv`, `getopt` either returns NULL, and then the Spec
    expects no further event and the final `optind` is the one reached, or reports the next event the Spec expects. -/
theorem getopt_event (hn : NamesOK lines) {s : St} {w : Str} {rest : List Str} (hinv : Inv lines s)
    (hc : CursorOK argv s) (hd : argv.drop s.optind = w :: rest) (hwn : NulFree w) :
    (∃ s', Model.Getopt.getopt argv s = pure (.null, s') ∧
      ahead (tableOf lines) argv s.packed s.optind = ([], s'.optind)) ∨
    Reports lines argv s (ahead (tableOf lines) argv s.packed s.optind) := by
  cases getopt_fetch hinv hc (drop_cons hd).1 hwn with
  | stop c hp hw hg =>
    refine .inl ⟨_, hg, ?_⟩
    simp only [ahead, hd, hp]
    exact fromWords_stop _ _ (hw _)
  | long hp hw hg =>
    refine .inr ?_
    simp only [ahead, hd, hp]
    rw [fromWords_options _ _ (hw _)]
    exact long_event hn hd hwn hg hinv hp
  | char p c cs hsplit hc0 _ hcur hg =>
    refine .inr ?_
    subst hsplit
    have : ahead (tableOf lines) argv s.packed s.optind =
        fromWord (tableOf lines) s.optind (pack (tableOf lines) (c :: cs)) rest := by
      rcases hcur with ⟨hp, rfl, hc⟩ | hp
      · simp only [ahead, hd, hp]
        exact fromWords_options (evs := (pack (tableOf lines) (c :: cs)).1) (pend := (pack (tableOf lines) (c :: cs)).2)
          _ _ (by simp [word, hc])
      · simp [ahead, hd, hp]
    rw [this]
    exact char_event hn hd hc0 hg (inv_update hinv _ _ _ _) rfl rfl rfl

theorem loop_null {lines : List Line} {argv : List Str} {f : Nat} {s s' : St}
    (hg : Model.Getopt.getopt argv s = pure (.null, s')) :
    loop lines argv (f + 1) s = pure ([], s') := by
  simp [loop, hg]

theorem loop_dummy {lines : List Line} {argv : List Str} {f : Nat} {s s' s'' : St}
    (hg : Model.Getopt.getopt argv s = pure (.dummy, s')) (hi : initPass lines s' = pure s'') :
    loop lines argv (f + 1) s = loop lines argv f s'' := by
  simp [loop, hg, hi]

/-- fuel needed from a word boundary: one call per byte and one per word -/
def cost (rest : List Str) : Nat := rest.length + (rest.map List.length).sum

theorem cost_cons (a : Str) (rest : List Str) : cost (a :: rest) = 1 + a.length + cost rest := by
  simp [cost]; omega

/-- an upper bound on the `getopt` calls still to come: one per byte and one per word from the cursor on -/
def togo (argv : List Str) (s : St) : Nat := cost (argv.drop s.optind) - offset s

theorem cost_drop_mono (argv : List Str) {i k : Nat} (h : i ≤ k) : cost (argv.drop k) ≤ cost (argv.drop i) := by
  induction h with
  | refl => exact Nat.le_refl _
  | @step k _ ih =>
    refine Nat.le_trans ?_ ih
    cases hd : argv.drop k with
    | nil => rw [List.drop_eq_nil_of_le (by have := List.drop_eq_nil_iff.mp hd; omega)]; exact Nat.le_refl _
    | cons a rest => rw [(drop_cons hd).2, cost_cons]; omega

theorem togo_lt {s s' : St} (hc : CursorOK argv s) (hc' : CursorOK argv s')
    (h : s.optind < s'.optind ∨ (s.optind = s'.optind ∧ offset s < offset s')) : togo argv s' < togo argv s := by
  -- a pack cursor is strictly inside its word, which is counted in `cost`
  have inside : ∀ {t : St}, CursorOK argv t → ∀ {w rest}, argv.drop t.optind = w :: rest → offset t ≤ w.length := by
    intro t ht w rest hd
    unfold offset
    cases hp : t.packed with
    | none => exact Nat.zero_le _
    | some ij =>
      obtain ⟨hi, w', hw', _, hj⟩ := ht.2 ij.1 ij.2 hp
      rw [hi, (drop_cons hd).1] at hw'; cases hw'
      exact Nat.le_of_lt hj
  unfold togo
  rcases h with h | ⟨h1, h2⟩
  · have hlt : s.optind < argv.length := Nat.lt_of_lt_of_le h hc'.1
    cases hd : argv.drop s.optind with
    | nil => have := List.drop_eq_nil_iff.mp hd; omega
    | cons w rest =>
      have := inside hc hd
      have := cost_drop_mono argv (i := s.optind + 1) (k := s'.optind) h
      rw [(drop_cons hd).2] at this
      rw [cost_cons]; omega
  · rw [← h1]
    cases hd : argv.drop s.optind with
    | nil =>
      -- no word at `optind`, so no pack cursor either
      exfalso
      unfold offset at h2
      cases hp : s'.packed with
      | none => rw [hp] at h2; exact absurd h2 (Nat.not_lt_zero _)
      | some ij =>
        obtain ⟨hi, w', hw', _, _⟩ := hc'.2 ij.1 ij.2 hp
        have := List.drop_eq_nil_iff.mp hd
        have := lt_of_getElem? hw'
        omega
    | cons w rest =>
      have := inside hc' (h1 ▸ hd)
      rw [cost_cons]; omega

/-- **The whole loop.**  From a cursor inside `argv`, the loop reports what the Spec expects from there on and ends
    with the Spec's `optind`, on any fuel above the number of calls still to come. -/
theorem loop_ahead (hn : NamesOK lines) (hnul : ∀ a ∈ argv, NulFree a) :
    ∀ (n : Nat) (s : St), Inv lines s → (s.optind ≤ argv.length → CursorOK argv s) → togo argv s < n →
      ∃ evs sf, (∀ fuel, n ≤ fuel → loop lines argv fuel s = pure (evs, sf)) ∧
        evs.map (·.1) = (ahead (tableOf lines) argv s.packed s.optind).1.map (route (tableOf lines).hasMissing) ∧
        sf.optind = (ahead (tableOf lines) argv s.packed s.optind).2 := by
  intro n
  induction n with
  | zero => intro s _ _ h; exact absurd h (Nat.not_lt_zero _)
  | succ n ih =>
    intro s hinv hc htg
    have fuel_succ : ∀ {fuel}, n + 1 ≤ fuel → ∃ f, fuel = f + 1 ∧ n ≤ f := fun h => ⟨_, (Nat.sub_add_cancel (by omega)).symm, by omega⟩
    cases hd : argv.drop s.optind with
    | nil =>
      refine ⟨[], { s with optarg := none }, fun fuel hf => ?_, by simp only [ahead, hd]; rfl, by simp only [ahead, hd]; rfl⟩
      obtain ⟨f, rfl, _⟩ := fuel_succ hf
      exact loop_null (getopt_end hinv (List.drop_eq_nil_iff.mp hd))
    | cons w rest =>
      have hlt : s.optind < argv.length := lt_of_getElem? (drop_cons hd).1
      have hcs := hc (Nat.le_of_lt hlt)
      rcases getopt_event hn hinv hcs hd (hnul w (List.mem_of_getElem? (drop_cons hd).1)) with
        ⟨s', hg, ha⟩ | ⟨ch, s', lbl, e, hg, hdp, ho, ha⟩
      · refine ⟨[], s', fun fuel hf => ?_, by rw [ha]; rfl, by rw [ha]⟩
        obtain ⟨f, rfl, _⟩ := fuel_succ hf
        exact loop_null hg
      · obtain ⟨hc', hinv', hadv⟩ := getopt_progress hnul hinv hcs hg
        obtain ⟨evs, sf, h1, h2, h3⟩ := ih s' hinv' (fun _ => hc') (by have := togo_lt hcs hc' hadv; omega)
        refine ⟨(observe lbl ch s', s') :: evs, sf, fun fuel hf => ?_, by rw [ha]; simp [ho, h2], by rw [ha]; exact h3⟩
        obtain ⟨f, rfl, hf'⟩ := fuel_succ hf
        simp [loop, hg, hdp, h1 f hf']

end

end Percival.Proofs.Getopt
