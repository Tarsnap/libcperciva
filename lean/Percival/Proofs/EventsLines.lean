import Percival.Proofs.EventsStep
/-!
# The executables: the lines `pmodel events` prints pass `pmodel eventsmon` line by line when the monitors in use
  accept the model's whole trace
-/
namespace Percival.Proofs.EventsStep
open Percival.Spec.Events Percival.Model.Events

theorem lines_accepted (use4 use5 : Bool) (prog : List Top)
    (h4 : use4 = true → ∃ m, C04.run {} (Model.Events.run runFuel prog) = .ok m)
    (h5 : use5 = true → ∃ m, C05.run {} (Model.Events.run runFuel prog) = .ok m) :
    acceptsLines use4 use5 {} (runOps {} prog).2 = true := by
  apply acceptsLines_of_flatten
  · cases use4 with
    | false => exact ⟨{}, rfl⟩
    | true =>
      show IsOk (C04.run {} (runOps {} prog).2.flatten)
      rw [← run_eq_lines]
      exact h4 rfl
  · cases use5 with
    | false => exact ⟨{}, rfl⟩
    | true =>
      show IsOk (C05.run {} (runOps {} prog).2.flatten)
      rw [← run_eq_lines]
      exact h5 rfl

end Percival.Proofs.EventsStep
