import Percival.Proofs.Numeral
import Percival.Model.Strtod
/-! Helper lemmas for C16: the `strtod` scan computes the longest floating numeral of `Spec.FloatNumeral`. -/
namespace Percival.Proofs.FloatNumeral
open Percival.Spec.Numeral Percival.Spec.FloatNumeral Percival.Model.Strto Percival.Model.Strtod
open Percival.Proofs.Numeral

theorem scanDigits_stop {radix : Nat} {c : UInt8} (hc : digitOf radix c = none) (acc cnt : Nat) (t : List UInt8) :
    scanDigits radix acc cnt (c :: t) = (acc, cnt, c :: t) := by
  simp [scanDigits, hc]

theorem scanDigits_nil (radix acc cnt : Nat) : scanDigits radix acc cnt [] = (acc, cnt, []) := rfl

theorem lower_eq {c p : UInt8} (h : lower c = p) : c = p ∨ c = p - 0x20 := by
  unfold lower at h
  split at h
  · right; rw [← h, UInt8.add_sub_cancel]
  · left; exact h

theorem marker_e (c : UInt8) (h : lower c = 0x65) : digitOf 10 c = none ∧ c ≠ 0x2e := by
  rcases lower_eq h with rfl | rfl <;> decide

theorem marker_p (c : UInt8) (h : lower c = 0x70) : digitOf 16 c = none ∧ c ≠ 0x2e := by
  rcases lower_eq h with rfl | rfl <;> decide

theorem dot_not_digit : digitOf 10 0x2e = none ∧ digitOf 16 0x2e = none := by decide

theorem dec_digit_alnum {c : UInt8} {d : Nat} (h : digitOf 10 c = some d) : Alnum c :=
  digitVal_some_alnum (digitOf_some_digitVal h)

/-- completeness / maximality of `scanExp` -/
theorem scanExp_of_part (marker : UInt8) (x : ExpPart) (rest : List UInt8) (ev : Nat)
    (hm : lower x.mark = marker) (hne : x.digits ≠ []) (hev : digitsVal 10 0 x.digits = some ev) :
    ∃ ex n, scanExp marker (x.bytes ++ rest) = (ex, n) ∧ x.bytes.length ≤ n ∧
      (x.bytes.length = n → ex = x.sign.apply ev) := by
  obtain ⟨c, cs, hcs⟩ := List.exists_cons_of_ne_nil hne
  have hc : Alnum c := by
    cases hd : digitOf 10 c with
    | none => rw [hcs] at hev; simp [digitsVal, hd] at hev
    | some d => exact dec_digit_alnum hd
  have hsign := sign_step x.sign c (cs ++ rest) (alnum_not_sign hc).1 (alnum_not_sign hc).2.1
  rw [show c :: (cs ++ rest) = x.digits ++ rest by rw [hcs]; rfl] at hsign
  obtain ⟨acc', k, r3, h1, h2⟩ := scanDigits_prefix hev 0 rest
  have hpos : 0 + x.digits.length + k ≠ 0 := by
    have : 0 < x.digits.length := List.length_pos_iff.mpr hne
    omega
  simp only [ExpPart.bytes, List.length_cons, List.length_append]
  refine ⟨(if decide (x.sign = .minus) = true then -(acc' : Int) else (acc' : Int)),
    1 + x.sign.bytes.length + (0 + x.digits.length + k), ?_, by omega, fun hl => ?_⟩
  · simp only [List.cons_append, scanExp, hm, if_true, List.append_assoc, hsign, h1, hpos, if_false]
  · have : acc' = ev := h2 (by omega)
    subst this
    cases x.sign <;> simp [Sign.apply]

/-- the exponent part a mantissa may carry, with its value (`Mant.Denotes`) -/
def ExpDenotes (marker : UInt8) (exp : Option ExpPart) (e : Int) : Prop :=
  match exp with
  | none => e = 0
  | some x => lower x.mark = marker ∧ x.digits ≠ [] ∧ ∃ ev, digitsVal 10 0 x.digits = some ev ∧ e = x.sign.apply ev

theorem scanExp_sound (marker : UInt8) (r : List UInt8) :
    ∃ (exp : Option ExpPart) (rest : List UInt8) (e : Int), r = ExpPart.optBytes exp ++ rest ∧
      ExpDenotes marker exp e ∧ scanExp marker r = (e, (ExpPart.optBytes exp).length) := by
  cases r with
  | nil => exact ⟨none, _, 0, rfl, rfl, rfl⟩
  | cons c t =>
    by_cases hm : lower c = marker
    · obtain ⟨sg, hsign, hs1⟩ := scanSign_spec t
      obtain ⟨ds, rest, ev, hs2, hd, hval⟩ := scanDigits_spec 10 (t.drop sg.bytes.length) 0 0
      rw [Nat.zero_add] at hd
      by_cases hne : ds.length = 0
      · exact ⟨none, _, 0, rfl, rfl, by simp only [scanExp, hm, if_true, hsign, hd, hne]; rfl⟩
      · refine ⟨some ⟨c, sg, ds⟩, rest, _, ?_, ⟨hm, fun h0 => hne (congrArg List.length h0), ev, hval, rfl⟩, ?_⟩
        · simp only [ExpPart.optBytes, ExpPart.bytes, List.cons_append, List.append_assoc]; rw [← hs2, ← hs1]
        · simp only [scanExp, hm, if_true, hsign, hd, hne, if_false, ExpPart.optBytes, ExpPart.bytes, List.length_cons,
            List.length_append]
          congr 1
          · cases sg <;> simp [Sign.apply]
          · omega
    · exact ⟨none, _, 0, rfl, rfl, by simp [scanExp, hm, ExpPart.optBytes]⟩

theorem scanFrac_nodot {radix m1 : Nat} {c : UInt8} (hc : c ≠ 0x2e) (t : List UInt8) :
    scanFrac radix m1 (c :: t) = (m1, 0, 0, c :: t) := by
  unfold scanFrac
  split
  · rename_i heq; injection heq with h1 _; exact absurd h1 hc
  · rfl

theorem scanFrac_nil (radix m1 : Nat) : scanFrac radix m1 [] = (m1, 0, 0, []) := rfl

theorem scanFrac_dot (radix m1 : Nat) (t : List UInt8) :
    scanFrac radix m1 (0x2e :: t) = ((scanDigits radix m1 0 t).1, (scanDigits radix m1 0 t).2.1, 1, (scanDigits radix m1 0 t).2.2) := by
  simp [scanFrac]

theorem scanFrac_cases (radix m1 : Nat) (r1 : List UInt8) :
    scanFrac radix m1 r1 = (m1, 0, 0, r1) ∨ ∃ m2 n2 r2, scanFrac radix m1 r1 = (m2, n2, 1, r2) := by
  unfold scanFrac
  split
  · right; exact ⟨_, _, _, rfl⟩
  · left; rfl

theorem scanExp_zero {marker : UInt8} {r : List UInt8} {ex : Int} (h : scanExp marker r = (ex, 0)) : ex = 0 := by
  obtain ⟨exp, rest, e, _, hexp, h1⟩ := scanExp_sound marker r
  rw [h1] at h
  cases exp with
  | none => exact (Prod.mk.inj h).1 ▸ hexp
  | some x => simp [ExpPart.optBytes, ExpPart.bytes] at h

/-- the tail of `scanMantExp` from the end of the integer digits on -/
def afterIp (radix : Nat) (marker : UInt8) (m1 n1 : Nat) (r1 : List UInt8) : Option (Nat × Nat × Int × Nat) :=
  let (m2, n2, ndot, r2) := scanFrac radix m1 r1
  if n1 + n2 = 0 then none
  else
    let (ex, nexp) := scanExp marker r2
    some (m2, n2, ex, n1 + ndot + n2 + nexp)

theorem scanMantExp_eq (radix : Nat) (marker : UInt8) (s : List UInt8) :
    scanMantExp radix marker s =
      afterIp radix marker (scanDigits radix 0 0 s).1 (scanDigits radix 0 0 s).2.1 (scanDigits radix 0 0 s).2.2 := by
  rcases h : scanDigits radix 0 0 s with ⟨m1, n1, r1⟩
  simp only [scanMantExp, afterIp, h]

theorem afterIp_any (radix : Nat) (marker : UInt8) (m1 n1 : Nat) (r1 : List UInt8) (hn : n1 ≠ 0) :
    ∃ sig2 nf2 ex2 n, afterIp radix marker m1 n1 r1 = some (sig2, nf2, ex2, n) ∧ n1 ≤ n ∧
      (n1 = n → sig2 = m1 ∧ nf2 = 0 ∧ ex2 = 0) := by
  rcases scanFrac_cases radix m1 r1 with h | ⟨m2, n2, r2, h⟩
  · rcases he : scanExp marker r1 with ⟨ex, nexp⟩
    refine ⟨m1, 0, ex, n1 + 0 + 0 + nexp, ?_, by omega, ?_⟩
    · have : ¬ (n1 + 0 = 0) := by omega
      simp only [afterIp, h, he, this, if_false]
    · intro hl
      have : nexp = 0 := by omega
      subst this
      exact ⟨rfl, rfl, scanExp_zero he⟩
  · rcases he : scanExp marker r2 with ⟨ex, nexp⟩
    refine ⟨m2, n2, ex, n1 + 1 + n2 + nexp, ?_, by omega, fun hl => by omega⟩
    have : ¬ (n1 + n2 = 0) := by omega
    simp only [afterIp, h, he, this, if_false]

theorem stop_at_exp {radix : Nat} {marker : UInt8} {x : ExpPart}
    (hmark : ∀ c, lower c = marker → digitOf radix c = none ∧ c ≠ 0x2e) (hxm : lower x.mark = marker)
    (acc cnt : Nat) (rest : List UInt8) :
    scanDigits radix acc cnt (x.bytes ++ rest) = (acc, cnt, x.bytes ++ rest) ∧
    ∀ m1, scanFrac radix m1 (x.bytes ++ rest) = (m1, 0, 0, x.bytes ++ rest) := by
  obtain ⟨h1, h2⟩ := hmark x.mark hxm
  have hb2 : x.bytes ++ rest = x.mark :: (x.sign.bytes ++ x.digits ++ rest) := by
    simp [ExpPart.bytes, List.append_assoc]
  rw [hb2]
  exact ⟨scanDigits_stop h1 _ _ _, fun m1 => scanFrac_nodot h2 _⟩

/-- completeness / maximality of `scanMantExp` -/
theorem scanMant_of_mant (radix : Nat) (marker : UInt8) (m : Mant) (rest : List UInt8) (sig nfrac : Nat) (e : Int)
    (hmark : ∀ c, lower c = marker → digitOf radix c = none ∧ c ≠ 0x2e)
    (hdot : digitOf radix 0x2e = none)
    (h : m.Denotes radix marker sig nfrac e) :
    ∃ sig2 nf2 ex2 n, scanMantExp radix marker (m.bytes ++ rest) = some (sig2, nf2, ex2, n) ∧
      m.bytes.length ≤ n ∧ (m.bytes.length = n → sig2 = sig ∧ nf2 = nfrac ∧ ex2 = e) := by
  obtain ⟨ip, dot, fp, exp⟩ := m
  obtain ⟨hdf, hne, hsig, hnf, hexp⟩ := h
  simp only at hdf hne hsig hnf hexp
  rw [digitsVal_append] at hsig
  cases hip : digitsVal radix 0 ip with
  | none => simp [hip] at hsig
  | some m1 =>
  simp only [hip, Option.bind_some] at hsig
  have hlen : 0 < ip.length + fp.length := by
    have := List.length_pos_iff.mpr hne
    simpa using this
  rw [scanMantExp_eq]
  cases dot with
  | true =>
    have hb : Mant.bytes ⟨ip, true, fp, exp⟩ ++ rest = ip ++ (0x2e :: (fp ++ (ExpPart.optBytes exp ++ rest))) := by
      simp [Mant.bytes, List.append_assoc]
    rw [hb, scanDigits_append hip 0 _, scanDigits_stop hdot]
    simp only [afterIp, scanFrac_dot, scanDigits_append hsig 0 _]
    cases exp with
    | none =>
      simp only [ExpPart.optBytes, List.nil_append] at hexp ⊢
      obtain ⟨acc', k, r2, h1, h2⟩ := scanDigits_prefix (radix := radix) (ds := []) (acc := sig) rfl (0 + fp.length) rest
      simp only [List.nil_append, List.length_nil, Nat.add_zero] at h1
      rcases he : scanExp marker r2 with ⟨ex, nexp⟩
      have hnz : ¬ (0 + ip.length + (0 + fp.length + k) = 0) := by omega
      simp only [Mant.bytes, ExpPart.optBytes, List.length_append, List.length_cons, List.length_nil, if_true]
      refine ⟨acc', 0 + fp.length + k, ex, 0 + ip.length + 1 + (0 + fp.length + k) + nexp, ?_, ?_, ?_⟩
      · simp only [h1, he, hnz, if_false]
      · omega
      · intro hl
        have hk : k = 0 := by omega
        have hx : nexp = 0 := by omega
        subst hk hx
        exact ⟨h2 rfl, by omega, by rw [scanExp_zero he, hexp]⟩
    | some x =>
      obtain ⟨hxm, hxne, ev, hev, hee⟩ := hexp
      obtain ⟨hstop, _⟩ := stop_at_exp hmark hxm sig (0 + fp.length) rest
      obtain ⟨ex, nexp, hse, hle, heq⟩ := scanExp_of_part marker x rest ev hxm hxne hev
      have hnz : ¬ (0 + ip.length + (0 + fp.length) = 0) := by omega
      simp only [Mant.bytes, ExpPart.optBytes, List.length_append, List.length_cons, List.length_nil, if_true]
      refine ⟨sig, 0 + fp.length, ex, 0 + ip.length + 1 + (0 + fp.length) + nexp, ?_, ?_, ?_⟩
      · simp only [hstop, hse, hnz, if_false]
      · omega
      · intro hl
        exact ⟨rfl, by omega, by rw [heq (by omega), hee]⟩
  | false =>
    have hfp : fp = [] := hdf rfl
    subst hfp
    simp only [digitsVal, Option.some.injEq] at hsig
    subst hsig
    have hipn : ip.length ≠ 0 := by simp at hlen; omega
    cases exp with
    | none =>
      have hb : Mant.bytes ⟨ip, false, [], none⟩ ++ rest = ip ++ rest := by simp [Mant.bytes, ExpPart.optBytes]
      rw [hb]
      obtain ⟨acc', k, r1, h1, h2⟩ := scanDigits_prefix hip 0 rest
      rw [h1]
      obtain ⟨sig2, nf2, ex2, n, ha, hle, heq⟩ := afterIp_any radix marker acc' (0 + ip.length + k) r1 (by omega)
      simp only [Mant.bytes, ExpPart.optBytes, List.length_append, List.length_nil, Bool.false_eq_true, if_false]
      refine ⟨sig2, nf2, ex2, n, ha, ?_, ?_⟩
      · omega
      · intro hl
        have hk : k = 0 := by omega
        subst hk
        obtain ⟨a, b, c⟩ := heq (by omega)
        exact ⟨by rw [a, h2 rfl], by rw [b, hnf]; rfl, by rw [c, hexp]⟩
    | some x =>
      obtain ⟨hxm, hxne, ev, hev, hee⟩ := hexp
      obtain ⟨hstop, hfrac⟩ := stop_at_exp hmark hxm m1 (0 + ip.length) rest
      have hb : Mant.bytes ⟨ip, false, [], some x⟩ ++ rest = ip ++ (x.bytes ++ rest) := by
        simp [Mant.bytes, ExpPart.optBytes, List.append_assoc]
      obtain ⟨ex, nexp, hse, hle, heq⟩ := scanExp_of_part marker x rest ev hxm hxne hev
      rw [hb, scanDigits_append hip 0 _, hstop]
      have hnz : ¬ (0 + ip.length + 0 = 0) := by omega
      simp only [Mant.bytes, ExpPart.optBytes, List.length_append, List.length_nil, Bool.false_eq_true, if_false]
      refine ⟨m1, 0, ex, 0 + ip.length + 0 + 0 + nexp, ?_, ?_, ?_⟩
      · simp only [afterIp, hfrac, hse, hnz, if_false]
      · omega
      · intro hl
        exact ⟨rfl, by rw [hnf]; rfl, by rw [heq (by omega), hee]⟩

theorem scanMant_sound (radix : Nat) (marker : UInt8) (t : List UInt8) (sig nf : Nat) (ex : Int) (n : Nat)
    (h : scanMantExp radix marker t = some (sig, nf, ex, n)) :
    ∃ (m : Mant) (rest : List UInt8), t = m.bytes ++ rest ∧ m.Denotes radix marker sig nf ex ∧ n = m.bytes.length := by
  rw [scanMantExp_eq] at h
  obtain ⟨ds1, r1, m1, ht, hd1, hv1⟩ := scanDigits_spec radix t 0 0
  rw [Nat.zero_add] at hd1
  rw [hd1] at h
  simp only [afterIp] at h
  have hfrac : ∃ (dot : Bool) (ds2 r2 : List UInt8) (m2 : Nat),
      scanFrac radix m1 r1 = (m2, ds2.length, (if dot then 1 else 0), r2) ∧
      r1 = (if dot then [0x2e] else []) ++ ds2 ++ r2 ∧ digitsVal radix m1 ds2 = some m2 ∧ (dot = false → ds2 = []) := by
    cases r1 with
    | nil => exact ⟨false, [], [], m1, rfl, rfl, rfl, fun _ => rfl⟩
    | cons c u =>
      by_cases hc : c = 0x2e
      · subst hc
        obtain ⟨ds2, r2, m2, hu, hd2, hv2⟩ := scanDigits_spec radix u m1 0
        rw [Nat.zero_add] at hd2
        exact ⟨true, ds2, r2, m2, by rw [scanFrac_dot, hd2]; rfl, by simp [hu], hv2, fun h => by cases h⟩
      · exact ⟨false, [], c :: u, m1, scanFrac_nodot hc u, rfl, rfl, fun _ => rfl⟩
  obtain ⟨dot, ds2, r2, m2, hf, hr1, hv2, hnd⟩ := hfrac
  rw [hf] at h
  simp only at h
  split at h
  · cases h
  · rename_i hnz
    have hsigv : digitsVal radix 0 (ds1 ++ ds2) = some m2 := by
      rw [digitsVal_append, hv1]; exact hv2
    have hne : ds1 ++ ds2 ≠ [] := by
      intro h0
      have h1 : (ds1 ++ ds2).length = 0 := by rw [h0]; rfl
      rw [List.length_append] at h1
      exact hnz (by omega)
    obtain ⟨exp, rest, e, hr2, hexp, he⟩ := scanExp_sound marker r2
    rw [he] at h
    simp only [Option.some.injEq, Prod.mk.injEq] at h
    obtain ⟨rfl, rfl, rfl, rfl⟩ := h
    refine ⟨⟨ds1, dot, ds2, exp⟩, rest, ?_, ⟨hnd, hne, hsigv, rfl, hexp⟩, ?_⟩
    · rw [ht, hr1, hr2]; simp [Mant.bytes, List.append_assoc]
    · cases dot <;> simp [Mant.bytes] <;> omega

theorem stripCI_sound : ∀ (pat s r : List UInt8), stripCI pat s = some r →
    ∃ txt, s = txt ++ r ∧ txt.map lower = pat := by
  intro pat
  induction pat with
  | nil => intro s r h; simp [stripCI] at h; exact ⟨[], by simp [h], rfl⟩
  | cons p ps ih =>
    intro s r h
    cases s with
    | nil => simp [stripCI] at h
    | cons c cs =>
      simp only [stripCI] at h
      split at h
      · rename_i hc
        obtain ⟨txt, h1, h2⟩ := ih cs r h
        exact ⟨c :: txt, by simp [h1], by simp [hc, h2]⟩
      · cases h

theorem stripCI_of : ∀ (pat txt r : List UInt8), txt.map lower = pat → stripCI pat (txt ++ r) = some r := by
  intro pat
  induction pat with
  | nil => intro txt r h; simp at h; subst h; simp [stripCI]
  | cons p ps ih =>
    intro txt r h
    cases txt with
    | nil => simp at h
    | cons c cs =>
      simp only [List.map_cons, List.cons.injEq] at h
      simp only [List.cons_append, stripCI, h.1, if_true]
      exact ih cs r h.2

theorem stripCI_head_ne {p : UInt8} {ps : List UInt8} {c : UInt8} {cs : List UInt8} (h : lower c ≠ p) :
    stripCI (p :: ps) (c :: cs) = none := by
  simp [stripCI, h]

theorem close_not_nchar : isNChar 0x29 = false := by decide

theorem nanParen_of (cs rest : List UInt8) (hcs : ∀ c ∈ cs, isNChar c = true) :
    nanParen (0x28 :: (cs ++ 0x29 :: rest)) = cs.length + 2 := by
  obtain ⟨h1, h2⟩ := takeWhile_append_stop cs (0x29 :: rest) hcs (fun _ _ h => (List.cons.inj h).1 ▸ close_not_nchar)
  simp [nanParen, h1, h2]

theorem nanParen_sound (r : List UInt8) :
    nanParen r = 0 ∨ ∃ cs rest, r = 0x28 :: (cs ++ 0x29 :: rest) ∧ (∀ c ∈ cs, isNChar c = true) ∧ nanParen r = cs.length + 2 := by
  unfold nanParen
  split
  · rename_i t
    split
    · rename_i rest heq
      right
      refine ⟨t.takeWhile isNChar, rest, ?_, takeWhile_all t, rfl⟩
      rw [← heq, List.takeWhile_append_dropWhile]
    · left; rfl
  · left; rfl

theorem map_lower_length {txt pat : List UInt8} (h : txt.map lower = pat) : txt.length = pat.length := by
  rw [← h]; simp

theorem scanInf_sound (s : List UInt8) (sub : Subject) (n : Nat) (h : scanInf s = some (sub, n)) :
    ∃ (b : Body) (rest : List UInt8), s = b.bytes ++ rest ∧ b.Denotes sub ∧ n = b.bytes.length := by
  unfold scanInf at h
  split at h
  · rename_i r hr
    obtain ⟨txt, hs, ht⟩ := stripCI_sound _ _ _ hr
    split at h
    · rename_i r2 hr2
      obtain ⟨txt2, hs2, ht2⟩ := stripCI_sound _ _ _ hr2
      injection h with h; injection h with h1 h2; subst h1 h2
      refine ⟨.inf (txt ++ txt2), r2, by simp [Body.bytes, hs, hs2], ⟨Or.inr (by simp [ht, ht2]), rfl⟩, ?_⟩
      simp [Body.bytes, map_lower_length ht, map_lower_length ht2]
    · injection h with h; injection h with h1 h2; subst h1 h2
      exact ⟨.inf txt, r, by simp [Body.bytes, hs], ⟨Or.inl ht, rfl⟩, by simp [Body.bytes, map_lower_length ht]⟩
  · cases h

theorem scanNan_sound (s : List UInt8) (sub : Subject) (n : Nat) (h : scanNan s = some (sub, n)) :
    ∃ (b : Body) (rest : List UInt8), s = b.bytes ++ rest ∧ b.Denotes sub ∧ n = b.bytes.length := by
  unfold scanNan at h
  split at h
  · rename_i r hr
    obtain ⟨txt, hs, ht⟩ := stripCI_sound _ _ _ hr
    injection h with h; injection h with h1 h2; subst h1 h2
    rcases nanParen_sound r with h0 | ⟨cs, rest, hr2, hcs, hk⟩
    · refine ⟨.nan txt none, r, by simp [Body.bytes, hs], ⟨ht, (fun _ h => by cases h), rfl⟩, ?_⟩
      simp [Body.bytes, map_lower_length ht, h0]
    · refine ⟨.nan txt (some cs), rest, by simp [Body.bytes, hs, hr2], ⟨ht, (fun cs' h => by injection h with h; subst h; exact hcs), rfl⟩, ?_⟩
      simp [Body.bytes, map_lower_length ht, hk]
  · cases h

theorem scanHex_sound (s : List UInt8) (sub : Subject) (n : Nat) (h : scanHex s = some (sub, n)) :
    ∃ (b : Body) (rest : List UInt8), s = b.bytes ++ rest ∧ b.Denotes sub ∧ n = b.bytes.length := by
  unfold scanHex at h
  split at h
  · rename_i x t
    split at h
    · rename_i hx
      split at h
      · rename_i sig nf ex k hm
        obtain ⟨m, rest, ht, hden, hk⟩ := scanMant_sound 16 0x70 t sig nf ex k hm
        injection h with h; injection h with h1 h2; subst h1 h2
        have hx' : x = 0x78 ∨ x = 0x58 := by simpa [isX] using hx
        exact ⟨.hex x m, rest, by simp [Body.bytes, ht], ⟨hx', sig, nf, ex, hden, rfl⟩, by simp [Body.bytes, hk]; omega⟩
      · cases h
    · cases h
  · cases h

theorem scanDec_sound (s : List UInt8) (sub : Subject) (n : Nat) (h : scanDec s = some (sub, n)) :
    ∃ (b : Body) (rest : List UInt8), s = b.bytes ++ rest ∧ b.Denotes sub ∧ n = b.bytes.length := by
  unfold scanDec at h
  split at h
  · rename_i sig nf ex k hm
    obtain ⟨m, rest, ht, hden, hk⟩ := scanMant_sound 10 0x65 s sig nf ex k hm
    injection h with h; injection h with h1 h2; subst h1 h2
    exact ⟨.dec m, rest, by simp [Body.bytes, ht], ⟨sig, nf, ex, hden, rfl⟩, by simp [Body.bytes, hk]⟩
  · cases h

theorem scanBody_sound (s : List UInt8) (sub : Subject) (n : Nat) (h : scanBody s = some (sub, n)) :
    ∃ (b : Body) (rest : List UInt8), s = b.bytes ++ rest ∧ b.Denotes sub ∧ n = b.bytes.length := by
  unfold scanBody at h
  split at h
  · rename_i r hr; injection h with h; subst h; exact scanInf_sound s sub n hr
  · split at h
    · rename_i r hr; injection h with h; subst h; exact scanNan_sound s sub n hr
    · split at h
      · rename_i r hr; injection h with h; subst h; exact scanHex_sound s sub n hr
      · exact scanDec_sound s sub n h

theorem dec_head_not_in (c : UInt8) (hc : (digitOf 10 c).isSome = true ∨ c = 0x2e) : lower c ≠ 0x69 ∧ lower c ≠ 0x6e := by
  constructor <;> intro h <;> rcases lower_eq h with rfl | rfl <;> revert hc <;> decide

theorem n_not_i (c : UInt8) (h : lower c = 0x6e) : lower c ≠ 0x69 := by
  rw [h]; decide

theorem isX_facts (x : UInt8) (hx : isX x = true) : digitOf 10 x = none ∧ x ≠ 0x2e ∧ lower x ≠ 0x65 := by
  have : x = 0x78 ∨ x = 0x58 := by simpa [isX] using hx
  rcases this with rfl | rfl <;> decide

theorem scanInf_none_of_head {c : UInt8} (t : List UInt8) (h : lower c ≠ 0x69) : scanInf (c :: t) = none := by
  simp [scanInf, stripCI_head_ne h]

theorem scanNan_none_of_head {c : UInt8} (t : List UInt8) (h : lower c ≠ 0x6e) : scanNan (c :: t) = none := by
  simp [scanNan, stripCI_head_ne h]

theorem scanInf_of (txt rest : List UInt8)
    (h : txt.map lower = [0x69, 0x6e, 0x66] ∨ txt.map lower = [0x69, 0x6e, 0x66, 0x69, 0x6e, 0x69, 0x74, 0x79]) :
    ∃ n, scanInf (txt ++ rest) = some (.inf, n) ∧ txt.length ≤ n := by
  rcases h with h | h
  · have hl := map_lower_length h
    simp only [scanInf, stripCI_of _ txt rest h]
    split
    · exact ⟨8, rfl, by simp at hl; omega⟩
    · exact ⟨3, rfl, by simp at hl; omega⟩
  · have hl := map_lower_length h
    have h1 : (txt.take 3).map lower = [0x69, 0x6e, 0x66] := by
      rw [List.map_take, h]; rfl
    have h2 : (txt.drop 3).map lower = [0x69, 0x6e, 0x69, 0x74, 0x79] := by
      rw [List.map_drop, h]; rfl
    have hs : txt ++ rest = txt.take 3 ++ (txt.drop 3 ++ rest) := by
      rw [← List.append_assoc, List.take_append_drop]
    rw [hs]
    simp only [scanInf, stripCI_of _ _ _ h1, stripCI_of _ _ _ h2]
    exact ⟨8, rfl, by simp at hl; omega⟩

theorem scanNan_of (txt : List UInt8) (paren : Option (List UInt8)) (rest : List UInt8)
    (ht : txt.map lower = [0x6e, 0x61, 0x6e]) (hp : ∀ cs, paren = some cs → ∀ c ∈ cs, isNChar c = true) :
    ∃ n, scanNan ((Body.nan txt paren).bytes ++ rest) = some (.nan, n) ∧ (Body.nan txt paren).bytes.length ≤ n := by
  have hl := map_lower_length ht
  cases paren with
  | none =>
    simp only [Body.bytes, scanNan, stripCI_of _ txt rest ht]
    exact ⟨_, rfl, by simp at hl; omega⟩
  | some cs =>
    have hs : (Body.nan txt (some cs)).bytes ++ rest = txt ++ (0x28 :: (cs ++ 0x29 :: rest)) := by
      simp [Body.bytes, List.append_assoc]
    rw [hs]
    simp only [scanNan, stripCI_of _ txt _ ht, nanParen_of cs rest (hp cs rfl)]
    exact ⟨_, rfl, by simp [Body.bytes] at hl ⊢; omega⟩

theorem dec_head {m : Mant} {sig nf : Nat} {e : Int} (h : m.Denotes 10 0x65 sig nf e) :
    ∃ c t, m.bytes = c :: t ∧ ((digitOf 10 c).isSome = true ∨ c = 0x2e) := by
  obtain ⟨ip, dot, fp, exp⟩ := m
  obtain ⟨hdf, hne, hsig, _, _⟩ := h
  simp only at hdf hne hsig
  cases ip with
  | nil =>
    cases dot with
    | true => exact ⟨0x2e, fp ++ ExpPart.optBytes exp, by simp [Mant.bytes], Or.inr rfl⟩
    | false => simp [hdf rfl] at hne
  | cons c ip' =>
    refine ⟨c, ip' ++ ((if dot = true then [0x2e] else []) ++ (fp ++ ExpPart.optBytes exp)), by simp [Mant.bytes], Or.inl ?_⟩
    simp only [List.cons_append, digitsVal] at hsig
    cases hd : digitOf 10 c with
    | none => simp [hd] at hsig
    | some d => rfl

/-- a decimal numeral that is followed by `x` is just `0` -/
theorem dec_zero_x {m : Mant} {sig nf : Nat} {e : Int} (h : m.Denotes 10 0x65 sig nf e)
    {rest t : List UInt8} {x : UInt8} (heq : m.bytes ++ rest = 0x30 :: x :: t) (hx : isX x = true) :
    m.bytes.length = 1 := by
  obtain ⟨hx1, hx2, hx3⟩ := isX_facts x hx
  obtain ⟨ip, dot, fp, exp⟩ := m
  obtain ⟨hdf, hne, hsig, _, hexp⟩ := h
  simp only at hdf hne hsig hexp
  cases ip with
  | nil =>
    cases dot with
    | true => simp [Mant.bytes] at heq
    | false => simp [hdf rfl] at hne
  | cons c ip' =>
    cases ip' with
    | cons c2 ip'' =>
      simp only [Mant.bytes, List.cons_append, List.cons.injEq] at heq
      obtain ⟨_, rfl, _⟩ := heq
      simp only [List.cons_append, digitsVal] at hsig
      cases hd : digitOf 10 c with
      | none => simp [hd] at hsig
      | some d => simp [hd, hx1] at hsig
    | nil =>
      cases dot with
      | true =>
        simp only [Mant.bytes, if_true, List.cons_append, List.nil_append, List.cons.injEq] at heq
        exact absurd heq.2.1.symm hx2
      | false =>
        have hfp : fp = [] := hdf rfl
        subst hfp
        cases exp with
        | none => simp [Mant.bytes, ExpPart.optBytes]
        | some xp =>
          simp only [Mant.bytes, ExpPart.optBytes, ExpPart.bytes, Bool.false_eq_true, if_false, List.append_nil,
            List.cons_append, List.nil_append, List.cons.injEq] at heq
          obtain ⟨_, hm, _⟩ := heq
          simp only at hexp
          rw [hm] at hexp
          exact absurd hexp.1 hx3

theorem scanHex_shape {s : List UInt8} {r : Subject × Nat} (h : scanHex s = some r) :
    ∃ x t, s = 0x30 :: x :: t ∧ isX x = true ∧ 2 ≤ r.2 := by
  unfold scanHex at h
  split at h
  · rename_i x t
    split at h
    · rename_i hx
      split at h
      · injection h with h; subst h; exact ⟨x, t, rfl, hx, by simp⟩
      · cases h
    · cases h
  · cases h

/-- completeness / maximality of `scanBody` -/
theorem scanBody_of_body (b : Body) (sub : Subject) (rest : List UInt8) (h : b.Denotes sub) :
    ∃ sub2 n, scanBody (b.bytes ++ rest) = some (sub2, n) ∧ b.bytes.length ≤ n ∧
      (b.bytes.length = n → sub2 = sub) := by
  cases b with
  | inf txt =>
    obtain ⟨ht, rfl⟩ := h
    obtain ⟨n, hs, hle⟩ := scanInf_of txt rest ht
    exact ⟨.inf, n, by simp [scanBody, Body.bytes, hs], hle, fun _ => rfl⟩
  | nan txt paren =>
    obtain ⟨ht, hp, rfl⟩ := h
    obtain ⟨n, hs, hle⟩ := scanNan_of txt paren rest ht hp
    cases txt with
    | nil => cases ht
    | cons c t =>
      have hinf : scanInf ((Body.nan (c :: t) paren).bytes ++ rest) = none := by
        cases paren <;> exact scanInf_none_of_head _ (n_not_i c (List.cons.inj ht).1)
      exact ⟨.nan, n, by simp [scanBody, hinf, hs], hle, fun _ => rfl⟩
  | hex x m =>
    obtain ⟨hx, sig, nf, e, hden, rfl⟩ := h
    have hxx : isX x = true := by rcases hx with rfl | rfl <;> decide
    obtain ⟨sig2, nf2, ex2, n, hs, hle, heq⟩ := scanMant_of_mant 16 0x70 m rest sig nf e marker_p dot_not_digit.2 hden
    have h0i : lower 0x30 ≠ 0x69 := by decide
    have h0n : lower 0x30 ≠ 0x6e := by decide
    refine ⟨.num ((sig2 : Rat) * ratPow 2 (ex2 - 4 * (nf2 : Int))), 2 + n, ?_, by simp [Body.bytes]; omega, ?_⟩
    · simp only [Body.bytes, List.cons_append, scanBody, scanInf_none_of_head _ h0i, scanNan_none_of_head _ h0n,
        scanHex, hxx, if_true, hs]
    · simp only [Body.bytes, List.length_cons]
      intro hl
      obtain ⟨rfl, rfl, rfl⟩ := heq (by omega)
      rfl
  | dec m =>
    obtain ⟨sig, nf, e, hden, rfl⟩ := h
    obtain ⟨c, t, hct, hc⟩ := dec_head hden
    obtain ⟨hci, hcn⟩ := dec_head_not_in c hc
    have hb : (Body.dec m).bytes ++ rest = c :: (t ++ rest) := by simp [Body.bytes, hct]
    have hinf : scanInf ((Body.dec m).bytes ++ rest) = none := by rw [hb]; exact scanInf_none_of_head _ hci
    have hnan : scanNan ((Body.dec m).bytes ++ rest) = none := by rw [hb]; exact scanNan_none_of_head _ hcn
    cases hhex : scanHex ((Body.dec m).bytes ++ rest) with
    | some r =>
      obtain ⟨x, t', hshape, hx, h2⟩ := scanHex_shape hhex
      have h1 : m.bytes.length = 1 := dec_zero_x hden (by simpa [Body.bytes] using hshape) hx
      refine ⟨r.1, r.2, ?_, by simp [Body.bytes]; omega, fun hl => by simp [Body.bytes] at hl; omega⟩
      simp only [scanBody, hinf, hnan, hhex]
    | none =>
      obtain ⟨sig2, nf2, ex2, n, hs, hle, heq⟩ := scanMant_of_mant 10 0x65 m rest sig nf e marker_e dot_not_digit.1 hden
      refine ⟨.num ((sig2 : Rat) * ratPow 10 (ex2 - (nf2 : Int))), n, ?_, by simpa [Body.bytes] using hle, ?_⟩
      · simp only [scanBody, hinf, hnan, hhex, scanDec]
        simp only [Body.bytes, hs]
      · simp only [Body.bytes]
        intro hl
        obtain ⟨rfl, rfl, rfl⟩ := heq hl
        rfl

theorem body_start_facts (c : UInt8)
    (hc : lower c = 0x69 ∨ lower c = 0x6e ∨ (digitOf 10 c).isSome = true ∨ c = 0x2e) :
    c ≠ 0x2d ∧ c ≠ 0x2b ∧ isSpace c = false := by
  rcases hc with h | h | h | rfl
  · rcases lower_eq h with rfl | rfl <;> decide
  · rcases lower_eq h with rfl | rfl <;> decide
  · obtain ⟨d, hd⟩ := Option.isSome_iff_exists.mp h
    exact alnum_not_sign (digitVal_some_alnum (digitOf_some_digitVal hd))
  · decide

theorem body_head {b : Body} {sub : Subject} (h : b.Denotes sub) :
    ∃ c t, b.bytes = c :: t ∧ c ≠ 0x2d ∧ c ≠ 0x2b ∧ isSpace c = false := by
  cases b with
  | inf txt =>
    obtain ⟨ht, _⟩ := h
    cases txt with
    | nil => rcases ht with ht | ht <;> simp at ht
    | cons c t =>
      refine ⟨c, t, rfl, body_start_facts c (Or.inl ?_)⟩
      rcases ht with ht | ht <;> exact (List.cons.inj ht).1
  | nan txt paren =>
    obtain ⟨ht, _, _⟩ := h
    cases txt with
    | nil => simp at ht
    | cons c t =>
      have hc : lower c = 0x6e := (List.cons.inj ht).1
      cases paren with
      | none => exact ⟨c, t, rfl, body_start_facts c (Or.inr (Or.inl hc))⟩
      | some cs => exact ⟨c, t ++ [0x28] ++ cs ++ [0x29], by simp [Body.bytes], body_start_facts c (Or.inr (Or.inl hc))⟩
  | dec m =>
    obtain ⟨sig, nf, e, hden, _⟩ := h
    obtain ⟨c, t, hct, hc⟩ := dec_head hden
    exact ⟨c, t, by simp [Body.bytes, hct], body_start_facts c (Or.inr (Or.inr hc))⟩
  | hex x m =>
    exact ⟨0x30, x :: m.bytes, rfl, by decide, by decide, by decide⟩

theorem scanF_of_numeral (n : FNumeral) (neg : Bool) (sub : Subject) (rest : List UInt8) (h : n.Denotes neg sub) :
    ∃ neg2 sub2 e, scanF (n.bytes ++ rest) = some (neg2, sub2, e) ∧ n.bytes.length ≤ e ∧
      (n.bytes.length = e → neg2 = neg ∧ sub2 = sub) := by
  obtain ⟨ws, sg, b⟩ := n
  obtain ⟨hws, hneg, hb⟩ := h
  simp only at hws hneg hb
  obtain ⟨c, t, hct, h1, h2, h3⟩ := body_head hb
  obtain ⟨sub2, k, hs, hle, heq⟩ := scanBody_of_body b sub rest hb
  obtain ⟨htw, hsign⟩ := frame_scan ws sg c (t ++ rest) hws ⟨h1, h2, h3⟩
  have hbr : b.bytes ++ rest = c :: (t ++ rest) := by rw [hct]; rfl
  have hsplit : FNumeral.bytes ⟨ws, sg, b⟩ ++ rest = ws ++ sg.bytes ++ c :: (t ++ rest) := by
    simp only [FNumeral.bytes, List.append_assoc, hbr]
  refine ⟨decide (sg = .minus), sub2, ws.length + sg.bytes.length + k, ?_, ?_, ?_⟩
  · simp only [scanF, hsplit, htw, hsign]
    rw [← hbr, hs]
  · simp only [FNumeral.bytes, List.length_append]; omega
  · simp only [FNumeral.bytes, List.length_append]
    intro hl
    exact ⟨hneg.symm, heq (by omega)⟩

theorem scanF_sound (s : List UInt8) (neg : Bool) (sub : Subject) (e : Nat) (h : scanF s = some (neg, sub, e)) :
    ∃ (n : FNumeral) (rest : List UInt8), s = n.bytes ++ rest ∧ n.Denotes neg sub ∧ e = n.bytes.length := by
  obtain ⟨sg, hsign, hs1⟩ := scanSign_spec (s.dropWhile isSpace)
  simp only [scanF, hsign] at h
  split at h
  · cases h
  · rename_i sub' k hb
    injection h with h
    simp only [Prod.mk.injEq] at h
    obtain ⟨rfl, rfl, rfl⟩ := h
    obtain ⟨b, rest, hbs, hbd, hk⟩ := scanBody_sound _ _ _ hb
    refine ⟨⟨s.takeWhile isSpace, sg, b⟩, rest, ?_, ⟨takeWhile_all s, rfl, hbd⟩, ?_⟩
    · simp only [FNumeral.bytes, List.append_assoc]
      rw [← hbs, ← hs1, List.takeWhile_append_dropWhile]
    · simp only [FNumeral.bytes, List.length_append]; omega

theorem faccepts_iff_scan (tr : Bool) (s : List UInt8) (neg : Bool) (sub : Subject) :
    FAccepts tr s neg sub ↔ ∃ e, scanF s = some (neg, sub, e) ∧ (tr = true ∨ e = s.length) := by
  obtain ⟨h1, h2⟩ := longest_iff_scan (Den := fun (n : FNumeral) (v : Bool × Subject) => n.Denotes v.1 v.2)
    (val := fun r : Bool × Subject × Nat => (r.1, r.2.1)) (endOff := fun r => r.2.2)
    (fun s r h => scanF_sound s r.1 r.2.1 r.2.2 h)
    (fun n v rest h => by
      obtain ⟨neg2, sub2, e, hr, hle, heq⟩ := scanF_of_numeral n v.1 v.2 rest h
      exact ⟨_, hr, hle, fun hl => by obtain ⟨rfl, rfl⟩ := heq hl; rfl⟩) s (neg, sub)
  cases tr with
  | true => simpa [FAccepts, LongestFNumeral, Prod.forall, Prod.exists] using h1
  | false =>
    simp only [FAccepts, IsFNumeral, Bool.false_eq_true, if_false, false_or]
    refine h2.trans ⟨?_, ?_⟩
    · rintro ⟨⟨neg', sub', e⟩, hr, he, hv⟩
      cases hv
      exact ⟨e, hr, he⟩
    · rintro ⟨e, hr, he⟩
      exact ⟨_, hr, he, rfl⟩

theorem scanF_endOff_pos {s : List UInt8} {neg : Bool} {sub : Subject} {e : Nat}
    (h : scanF s = some (neg, sub, e)) : 0 < e := by
  obtain ⟨n, rest, _, hden, hend⟩ := scanF_sound s neg sub e h
  obtain ⟨c, t, hct, _⟩ := body_head hden.2.2
  simp only [FNumeral.bytes, List.length_append, hct, List.length_cons] at hend
  omega

end Percival.Proofs.FloatNumeral
