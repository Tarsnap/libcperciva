import Percival.Proofs.EventsNetReg
import Percival.Proofs.EventsNetGet
/-!
# sockets: what `events_network.c` does to `slot` and `rev`; no monitor occurs in a statement here

What an observer can know of `S[]` and `fds[]` is two maps: which registration holds direction `d` of descriptor `fd`
(`slot n fd d`), and what the latest poll reported for `fd` that the scan of `events_network_get` has not consumed yet
(`rev n fd`, the `revents` of the descriptor's pollfd).  Both monitor relations keep their socket entries equal to the
graph of `slot` and tie their readiness flags to `rev` (C04: a reported bit is known to the monitor; C05: a flag of
the monitor is still reported).  Each operation is described by what it does to the two maps: a registration fills a
slot and leaves `rev` alone (`Added`); a drop (cancel, or the event `events_network_get` returns) empties a slot and clears its
bit (`Dropped`), and the ERR/HUP expansion only turns ERR/HUP into the registered directions (`Expanded`): after either,
no slot and no ERR/HUP is new and a registration that remains may run exactly if it might before (`Shrunk`); a poll
sets `rev` to what the monitor is shown (`Polled`).
-/
namespace Percival.Proofs.EventsNetAbs
open Percival.Spec.Events Percival.Model.Events
open Percival.Proofs.EventsNet

/-- the `revents` of the pollfd of descriptor `fd` (nothing if it has none) -/
def rev (n : Net) (fd : Nat) : Bits := ((entry n fd).map (·.rev)).getD {}

/-- a report that lets the callback of direction `d` run: the direction itself, or ERR/HUP -/
def hot (b : Bits) (d : Dir) : Prop := b.dir d = true ∨ b.errhup = true

variable {n n' n1 : Net} {fd : Nat} {d : Dir} {e : PollFd}

theorem rev_of_entry (he : entry n fd = some e) : rev n fd = e.rev := by simp only [rev, he, Option.map_some, Option.getD_some]

theorem rev_of_none (he : entry n fd = none) : rev n fd = {} := by simp only [rev, he, Option.map_none, Option.getD_none]

theorem rev_of_get (h : Inv0 n) {j : Nat} (he : n.fds[j]? = some e) : rev n e.fd = e.rev := rev_of_entry (h.entry_of_get he)

/-- a property that fails of the empty report holds of `rev n fd` exactly when it holds of the `revents` of a pollfd
    of `fd` -/
theorem rev_iff (h : Inv0 n) {P : Bits → Prop} (h0 : ¬ P {}) (fd : Nat) :
    P (rev n fd) ↔ ∃ (j : Nat) (e : PollFd), n.fds[j]? = some e ∧ e.fd = fd ∧ P e.rev := by
  constructor
  · intro hp
    cases he : entry n fd with
    | none => rw [rev_of_none he] at hp; exact absurd hp h0
    | some e =>
      obtain ⟨hfd, j, hj⟩ := h.get_of_entry he
      exact ⟨j, e, hj, hfd, rev_of_entry he ▸ hp⟩
  · rintro ⟨j, e, hj, rfl, hp⟩
    rw [rev_of_get h hj]; exact hp

theorem not_dir_empty (d : Dir) : ¬ (({} : Bits).dir d = true) := by cases d <;> nofun

theorem not_hot_empty (d : Dir) : ¬ hot {} d := fun h => h.elim (not_dir_empty d) nofun

theorem any_of_hot {b : Bits} {d : Dir} (h : hot b d) : b.any = true := by
  rcases h with h | h
  · cases d <;> simp only [Bits.dir] at h <;> simp [Bits.any, h]
  · simp only [Bits.errhup, Bool.or_eq_true] at h
    rcases h with h | h <;> simp [Bits.any, h]

/-- a reported direction is a registered one (invariants 4 and 5 of the comment block of `events_network.c`) -/
theorem rev_slot (h : Inv0 n) (hr : (rev n fd).dir d = true) : (slot n fd d).isSome = true := by
  cases he : entry n fd with
  | none => rw [rev_of_none he] at hr; exact absurd hr (not_dir_empty d)
  | some e => rw [rev_of_entry he] at hr; rw [h.slot_ev he d]; exact h.rev_ev he d hr

/-- `events_network_register` leaves every report as it is (a new pollfd has none) -/
theorem rev_armed {id : Nat} (h : Adds n n' id fd d) (i : Nat) : rev n' i = rev n i := by
  unfold rev
  rw [h.entry]
  split
  · rename_i hi; subst hi; cases entry n i <;> rfl
  · rfl

theorem dir_setDir (b : Bits) (d d' : Dir) : (setDir b d false).dir d' = (if d' = d then false else b.dir d') := by
  cases d <;> cases d' <;> rfl

theorem errhup_setDir (b : Bits) (d : Dir) (v : Bool) : (setDir b d v).errhup = b.errhup := by cases d <;> rfl

/-- what `events_network_cancel` and `events_network_get` can do to the two maps: `n'` keeps the invariants, has no
    new slot (`sub`) and no new ERR/HUP (`eh`), and a registration that remains may run exactly if it might before (`run`) -/
structure Shrunk (n n' : Net) : Prop where
  inv : Inv n'
  sub : ∀ i d id, slot n' i d = some id → slot n i d = some id
  eh : ∀ i, (rev n' i).errhup = true → (rev n i).errhup = true
  run : ∀ i d, (slot n' i d).isSome = true → (hot (rev n' i) d ↔ hot (rev n i) d)

theorem Shrunk.trans {a b c : Net} (h1 : Shrunk a b) (h2 : Shrunk b c) : Shrunk a c where
  inv := h2.inv
  sub := fun i d id h => h1.sub i d id (h2.sub i d id h)
  eh := fun i h => h1.eh i (h2.eh i h)
  run := fun i d hreg => by
    obtain ⟨id, hs⟩ := Option.isSome_iff_exists.mp hreg
    exact (h2.run i d hreg).trans (h1.run i d (by rw [h2.sub i d id hs]; rfl))

/-- only ERR/HUP expansions happened -/
structure Expanded (n n' : Net) : Prop extends Shrunk n n' where
  slots : ∀ i d, slot n' i d = slot n i d

/-- the registration `id` in `slot n fd d` is dropped: cancelled, or returned by `events_network_get` -/
structure Dropped (n n' : Net) (id fd : Nat) (d : Dir) : Prop extends Shrunk n n' where
  held : slot n fd d = some id
  slots : ∀ i d', slot n' i d' = if i = fd ∧ d' = d then none else slot n i d'

/-- the registration `id` is added on the free slot of direction `d` of `fd`; no report changes (a new pollfd has none) -/
structure Added (n n' : Net) (id fd : Nat) (d : Dir) : Prop where
  inv : Inv n'
  free : slot n fd d = none
  slots : ∀ i d', slot n' i d' = if i = fd ∧ d' = d then some id else slot n i d'
  revs : ∀ i, rev n' i = rev n i

theorem hot_setDir (b : Bits) {d d' : Dir} (h : d' ≠ d) : hot (setDir b d false) d' ↔ hot b d' := by
  unfold hot; rw [dir_setDir, if_neg h, errhup_setDir]

theorem hot_expand (e : PollFd) (d : Dir) (hev : e.ev.dir d = true) : hot (expandErrHup e).rev d ↔ hot e.rev d := by
  unfold expandErrHup
  split
  · rename_i h
    cases d <;> simp only [Bits.dir] at hev <;> simp [hot, Bits.dir, Bits.errhup, hev, h]
  · exact Iff.rfl

theorem errhup_expand (e : PollFd) (h : (expandErrHup e).rev.errhup = true) : e.rev.errhup = true := by
  unfold expandErrHup at h
  split at h
  · cases h
  · exact h

/-- a registered direction has a pollfd (invariant 2) -/
theorem entry_of_slot (h : Inv0 n) (hr : (slot n fd d).isSome = true) : (entry n fd).isSome = true := by
  unfold slot at hr
  cases hs : n.S[fd]? with
  | none => rw [hs] at hr; cases hr
  | some s =>
    rw [hs] at hr
    refine ((inv0_iff.mp h).2 fd s hs).1.mpr ?_
    cases d
    · exact Or.inl hr
    · exact Or.inr hr

theorem Shrunk.of_drop (h' : Inv n') (he : entry n fd = some e) (hd : Drops n n' fd d e) : Shrunk n n' := by
  obtain ⟨hslot, hE⟩ := hd
  have hother : ∀ i, i ≠ fd → rev n' i = rev n i := fun i hi => by unfold rev; rw [hE, if_neg hi]
  -- the pollfd of `fd` afterwards: gone, or the old one with the bit of `d` cleared
  have hfd : entry n' fd = none ∨ rev n' fd = setDir (rev n fd) d false := by
    unfold rev
    rw [hE, if_pos rfl, he]
    unfold dropped
    split
    · exact Or.inl rfl
    · exact Or.inr rfl
  refine ⟨h', fun i d' id hs => ?_, fun i hr => ?_, fun i d' hreg => ?_⟩
  · rw [hslot] at hs
    split at hs
    · cases hs
    · exact hs
  · by_cases hi : i = fd
    · subst hi
      rcases hfd with h0 | h1
      · rw [rev_of_none h0] at hr; cases hr
      · rwa [h1, errhup_setDir] at hr
    · rwa [hother i hi] at hr
  · by_cases hi : i = fd
    · subst hi
      rcases hfd with h0 | h1
      · have := entry_of_slot h'.inv0 hreg
        rw [h0] at this; cases this
      · rw [hslot] at hreg
        rw [h1]; exact hot_setDir _ fun hd => by rw [if_pos ⟨rfl, hd⟩] at hreg; cases hreg
    · rw [hother i hi]

theorem Expanded.of_scanned (h : Inv0 n) (h' : Inv n1) (hx : Scanned n n1) : Expanded n n1 := by
  have hcase : ∀ i, rev n1 i = rev n i ∨ ∃ e, entry n i = some e ∧ rev n1 i = (expandErrHup e).rev := by
    intro i
    rcases hx.entry i with h1 | h1
    · exact Or.inl (by unfold rev; rw [h1])
    · cases he : entry n i with
      | none => exact Or.inl (by unfold rev; rw [h1, he]; rfl)
      | some e => exact Or.inr ⟨e, rfl, by unfold rev; rw [h1, he]; rfl⟩
  have hslot : ∀ i d, slot n1 i d = slot n i d := fun i d => by unfold slot; rw [hx.S]
  refine ⟨⟨h', fun i d id hs => hslot i d ▸ hs, fun i hr => ?_, fun i d hreg => ?_⟩, hslot⟩
  · rcases hcase i with h1 | ⟨e, he, h1⟩
    · exact h1 ▸ hr
    · rw [rev_of_entry he]; exact errhup_expand e (h1 ▸ hr)
  · rcases hcase i with h1 | ⟨e, he, h1⟩
    · rw [h1]
    · rw [h1, rev_of_entry he]
      exact hot_expand e d (by rw [← h.slot_ev he d, ← hslot]; exact hreg)

/-- an answered poll that showed the monitors `fds`: the slots stay, every report becomes what `fds` has for that descriptor -/
structure Polled (n n' : Net) (fds : List PollEntry) : Prop where
  inv : Inv n'
  slots : ∀ i d, slot n' i d = slot n i d
  revs : ∀ i, rev n' i = revOf fds i

theorem netPoll_abs (n : Net) (a : List (Nat × Bits)) (h : Inv0 n) :
    Polled n { polled n a with scan := topScan (polled n a) } (pollEntries n.fds (maskAns a)) := by
  refine ⟨polled_inv n a h, fun _ _ => rfl, fun i => ?_⟩
  rw [h.revOf_pollEntries]
  show ((entry (polled n a) i).map (·.rev)).getD {} = _
  rw [polled_entry]
  cases entry n i <;> rfl

theorem netRegister_abs (n : Net) (id fd : Nat) (d : Dir) (h : Inv n) :
    (∃ id0, slot n fd d = some id0 ∧ netRegister n id fd d = some (n, .eexist)) ∨
    (∃ n', netRegister n id fd d = some (n', .ok) ∧ Added n n' id fd d) :=
  (netRegister_upd n id fd d h).imp_right fun ⟨hfree, n', heq, hinv, _, ha⟩ =>
    ⟨n', heq, hinv, hfree, ha.slot, rev_armed ha⟩

theorem netCancel_abs (n : Net) (fd : Nat) (d : Dir) (h : Inv n) :
    (slot n fd d = none ∧ netCancel n fd d = some (n, .enoent)) ∨
    (∃ id n', netCancel n fd d = some (n', .ok) ∧ Dropped n n' id fd d) :=
  (netCancel_upd n fd d h).imp_right fun ⟨id, _, n', hs, he, heq, hinv, _, hd⟩ =>
    ⟨id, n', heq, .of_drop hinv he hd, hs, hd.slot⟩

/-- `events_network_get()`.  Nothing found: only ERR/HUP expansions happened, and after a scan from the top no report is
    left.  Otherwise a direction `d` of a descriptor `fd` had a report that lets it run (its own, or ERR/HUP); the
    record in that slot is returned and the registration dropped. -/
theorem netGet_abs (n : Net) (h : Inv n) :
    (∃ n', netGet n = some (n', none) ∧ Expanded n n' ∧ (n.scan = topScan n → ∀ i, (rev n' i).any = false)) ∨
    (∃ id n' fd d, netGet n = some (n', some id) ∧ hot (rev n fd) d ∧ Dropped n n' id fd d) := by
  rcases netGet_upd n h with ⟨n', heq, hinv, hx, hall⟩ | ⟨id, n1, n', fd, d, e, heq, ht⟩
  · refine Or.inl ⟨n', heq, .of_scanned h.inv0 hinv hx, fun htop i => ?_⟩
    cases he : entry n' i with
    | none => rw [rev_of_none he]; rfl
    | some e =>
      rw [rev_of_entry he]
      -- `n'` has a pollfd, so `n` has one, and the scan started at the last of them
      have hpos : 0 < n.fds.size := by
        obtain ⟨_, j, hj⟩ := hinv.inv0.get_of_entry he
        obtain ⟨e0, he0, _⟩ := hx.of_get hj
        exact Nat.zero_lt_of_lt (lt_of_get he0)
      exact hall (n.fds.size - 1) (by rw [htop, topScan, if_neg (by omega)]) (by omega) i e he
  · have hx := Expanded.of_scanned h.inv0 ht.inv1 ht.scanned
    exact Or.inr ⟨id, n', fd, d, heq, (hx.run fd d (by rw [ht.slot]; rfl)).mp (Or.inl (by rw [rev_of_entry ht.entry]; exact ht.rev)),
      hx.toShrunk.trans (.of_drop ht.inv ht.entry ht.drops), hx.slots fd d ▸ ht.slot,
      fun i d' => by rw [ht.drops.slot, hx.slots]⟩

/-! ### the graph of `slot`

Both monitors keep the set of socket registrations `R id fd d` equal to the graph of `slot`; a registration on
a free slot adds one triple, a drop removes the triples of one id. -/

theorem slotGraph_insert {R R' : Nat → Nat → Dir → Prop} {n n' : Net} {id fd : Nat} {d : Dir}
    (h : ∀ id fd d, R id fd d ↔ slot n fd d = some id) (hfree : slot n fd d = none)
    (hslot : ∀ i d', slot n' i d' = if i = fd ∧ d' = d then some id else slot n i d')
    (hR : ∀ id' fd' d', R' id' fd' d' ↔ (id' = id ∧ fd' = fd ∧ d' = d) ∨ R id' fd' d') :
    ∀ id' fd' d', R' id' fd' d' ↔ slot n' fd' d' = some id' := by
  intro id' fd' d'
  rw [hR, hslot, h]
  by_cases hc : fd' = fd ∧ d' = d
  · obtain ⟨rfl, rfl⟩ := hc
    rw [if_pos ⟨rfl, rfl⟩, hfree]
    exact ⟨fun h => h.elim (fun h => h.1 ▸ rfl) nofun, fun h => Or.inl ⟨(Option.some.inj h).symm, rfl, rfl⟩⟩
  · rw [if_neg hc]
    exact ⟨fun h => h.elim (fun h => absurd h.2 hc) (fun h => h), Or.inr⟩

theorem slotGraph_drop {R R' : Nat → Nat → Dir → Prop} {n n' : Net} {id fd : Nat} {d : Dir}
    (h : ∀ id fd d, R id fd d ↔ slot n fd d = some id) (hs : slot n fd d = some id)
    (hslot : ∀ i d', slot n' i d' = if i = fd ∧ d' = d then none else slot n i d')
    (huniq : ∀ fd' d', R id fd' d' → fd' = fd ∧ d' = d)
    (hR : ∀ id' fd' d', R' id' fd' d' ↔ id' ≠ id ∧ R id' fd' d') :
    ∀ id' fd' d', R' id' fd' d' ↔ slot n' fd' d' = some id' := by
  intro id' fd' d'
  rw [hR, hslot, h]
  by_cases hc : fd' = fd ∧ d' = d
  · obtain ⟨rfl, rfl⟩ := hc
    rw [if_pos ⟨rfl, rfl⟩, hs]
    exact ⟨fun h => absurd (Option.some.inj h.2).symm h.1, nofun⟩
  · rw [if_neg hc]
    exact ⟨fun h => h.2, fun h' => ⟨fun hid => hc (huniq fd' d' ((h _ _ _).mpr (hid ▸ h'))), h'⟩⟩

theorem netHolds_iff (n : Net) (id : Nat) : netHolds n id = true ↔ ∃ fd d, slot n fd d = some id := by
  unfold netHolds slot
  rw [Array.any_eq_true]
  constructor
  · rintro ⟨i, hi, h⟩
    simp only [Bool.or_eq_true, beq_iff_eq] at h
    rcases h with h | h
    · exact ⟨i, .rd, by simp [hi, Sock.get, h]⟩
    · exact ⟨i, .wr, by simp [hi, Sock.get, h]⟩
  · rintro ⟨fd, d, h⟩
    cases hS : n.S[fd]? with
    | none => simp [hS] at h
    | some s =>
      obtain ⟨hlt, hs⟩ := Array.getElem?_eq_some_iff.mp hS
      simp only [hS, Option.bind_some] at h
      refine ⟨fd, hlt, ?_⟩
      rw [hs]
      cases d <;> simp only [Sock.get] at h <;> simp [h]

end Percival.Proofs.EventsNetAbs
