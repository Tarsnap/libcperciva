import Percival.Model.AfStep
import Percival.Proofs.EvRegAcct
/-!
# C14: the relation between the state of `pmodel af` and the state of the monitor `pmodel afmon` (event layer)

`ansOf s op` is the model's answer as the monitor reads it, `next s ms op` the pair of states after the model has answered
`op` and the monitor has judged that answer, `Accepts s ms op`: the monitor accepts it (`next_of`: both from the model's
line and the monitor's verdict on what it printed).  The relation between the model's
event layer and the monitor's ideal registry (`Spec.Reg`) comes in three pieces:

* `RegRel s ms`: the registry `ms.reg` is what is registered in `s.ev` (`EvReg.registry`), the clocks agree, and the event
  layer satisfies the invariants its contract lemmas need (`Proofs/EvRegNet.lean`, `Proofs/EvRegTimer.lean`);
* `DlRel s ms`: the shape of the immediate queues (`ImmInv`: 32 queues, every queue below `minq` empty), and every timer's
  record in the timer queue carries `(secOf d, usecOf d)` of the deadline `d` the monitor remembers and the timer's `tid` as
  pointer, `tid`s distinct (`TmRel e m D` says this of an event state and a list `D` of (id, deadline));
* `AcctRel s`: the oracle's ghost counter is exactly what the event layer holds (`EvRegAcct.evBlocks`) plus what the pointer
  heap holds (`heapBlocks`), and every descriptor registration of the event layer is in the harness' list `s.net`.

`Proofs/AfMonAbs.lean` reads the three together as "`ms.reg` describes `s.ev`".
-/
namespace Percival.Proofs.AfMonRel
open Percival.Model Percival.Model.EvReg Percival.Model.AfStep
open Percival.Spec.AfMon (Op Ans MState monStep MAXID)
open Percival.Proofs.EvRegNet (regNet NetInv)
open Percival.Proofs.EvRegTimer (regImm regTimers TmInv)

def ansOf (s : S) (op : Op) : Ans := (stepOp s op).2.ans

def Accepts (s : S) (ms : MState) (op : Op) : Prop := (monStep ms op (ansOf s op)).2 = none

def next (s : S) (ms : MState) (op : Op) : S × MState := ((stepOp s op).1, (monStep ms op (ansOf s op)).1)

theorem next_of {s s' : S} {ms ms' : MState} {op : Op} {out : Out} (h1 : stepOp s op = (s', out))
    (h2 : monStep ms op out.ans = (ms', none)) : Accepts s ms op ∧ next s ms op = (s', ms') := by
  unfold Accepts next ansOf
  rw [h1, h2]
  exact ⟨rfl, rfl⟩

structure RegRel (s : S) (ms : MState) : Prop where
  now : ms.now = s.now
  /-- immediate events: per priority, the ids in registration order -/
  imm : ms.reg.imm = regImm s.ev
  /-- timers: the same ids in the same order (the monitor also keeps each deadline) -/
  tm : ms.reg.timers.map (·.1) = regTimers s.ev
  /-- descriptor registrations: the same set -/
  net : ∀ fd w id, (fd, w, id) ∈ ms.reg.net ↔ (fd, w, id) ∈ regNet s.ev
  netInv : NetInv s.ev
  tmInv : TmInv s.ev s.m
  /-- an id is registered at most once: not twice as immediate event, not as immediate event and timer
  (`TmInv.nodup`: not twice as timer) -/
  immNd : (regImm s.ev).flatten.Nodup
  disj : ∀ i, i ∈ (regImm s.ev).flatten → i ∉ regTimers s.ev
  /-- ids the harness can name -/
  tmSmall : ∀ i ∈ regTimers s.ev, i < MAXID

end Percival.Proofs.AfMonRel

namespace Percival.Proofs.AfMonRun
open Percival.Model Percival.Model.EvReg Percival.Model.TimerQueue Percival.Model.AfStep
open Percival.Proofs.EvRegTimer (TmInv)
open Percival.Spec.AfMon (MState)

structure ImmInv (e : Ev) : Prop where
  len : e.heads.length = 32
  minq : e.minq ≤ 32
  below : ∀ j, j < e.minq → e.heads[j]? = some []

def dl (D : List (Nat × Int)) (i : Nat) : Option Int := (D.find? (·.1 == i)).map (·.2)

structure TmRel (e : Ev) (m : Mem) (D : List (Nat × Int)) : Prop where
  inv : TmInv e m
  ids : D.map (·.1) = e.timers.map (·.id)
  tidNd : (e.timers.map (·.tid)).Nodup
  tidTqr : ∀ x ∈ e.timers, x.tid < x.tqr
  recs : ∀ t, e.tq = some t → ∀ x ∈ e.timers, ∃ rc d, lookup t.q.recs x.tqr = some rc ∧ rc.ptr = x.tid ∧
    dl D x.id = some d ∧ rc.sec = secOf d ∧ rc.usec = usecOf d

structure DlRel (s : S) (ms : MState) : Prop where
  imm : ImmInv s.ev
  tidNd : (s.ev.timers.map (·.tid)).Nodup
  tidTqr : ∀ x ∈ s.ev.timers, x.tid < x.tqr
  recs : ∀ t, s.ev.tq = some t → ∀ x ∈ s.ev.timers, ∃ rc d, lookup t.q.recs x.tqr = some rc ∧ rc.ptr = x.tid ∧
    dl ms.reg.timers x.id = some d ∧ rc.sec = secOf d ∧ rc.usec = usecOf d

end Percival.Proofs.AfMonRun

namespace Percival.Proofs.AfMonEnd
open Percival.Model Percival.Model.EvReg Percival.Model.AfStep Percival.Proofs.EvRegAcct
open Percival.Spec.AfMon (Op)
open Percival.Proofs.EvRegNet (NetInv netRegistered)
open Percival.Proofs.EvRegTimer (regImm regTimers TmInv)
open Percival.Proofs.TQ (TQInv)

/-- blocks held by the harness' pointer heap: `struct ptrheap`, `struct elasticarray`, the buffer -/
def heapBlocks : Option HeapAlloc.HeapA → Int
  | none => 0
  | some ha => 2 + bb ha.alloc

/-- the accounting piece of the state relation (it does not mention the monitor's state) -/
structure AcctRel (s : S) : Prop where
  live : s.m.live = evBlocks s.ev + heapBlocks s.h
  acct : AcctInv s.ev
  /-- the 32 immediate queues exist (`events_immediate_register` asserts `prio < 32`) -/
  heads : s.ev.heads.length = 32
  net : ∀ fd w, netRegistered s.ev fd w → (fd, w) ∈ s.net

/-- the invariants of the registry piece (`RegRel`) used here -/
structure Side (s : S) : Prop where
  netInv : NetInv s.ev
  tmInv : TmInv s.ev s.m
  immNd : (regImm s.ev).flatten.Nodup
  disj : ∀ i, i ∈ (regImm s.ev).flatten → i ∉ regTimers s.ev

/-- what the timer loop of `events_run` needs: the queue's invariant, its records are the timers' cookies, the pointer
stored with a timer's cookie is the timer's `struct timerrec`, and those are distinct -/
structure TmLink (e : Ev) : Prop where
  tq : ∀ t, e.tq = some t → TQInv t.q ∧ t.q.h.a.toList.Perm (e.timers.map (·.tqr))
  tidNd : (e.timers.map (·.tid)).Nodup
  recs : ∀ t, e.tq = some t → ∀ x ∈ e.timers, ∃ rc, TimerQueue.lookup t.q.recs x.tqr = some rc ∧ rc.ptr = x.tid

/-- `reg_imm` must name one of the 32 queues (`events_immediate_register` asserts it; for `prio ≥ 32` the model
`EvReg.immReg` takes a record and a queue node, answers `ok` and registers nothing — two blocks nobody can release) -/
def OpOk : Op → Prop
  | .regImm _ prio => prio < 32
  | _ => True

end Percival.Proofs.AfMonEnd
