import Percival.Model.Events
import Percival.Proofs.Keys
/-!
# `events_immediate.c`: the 32 queues + `minq` refine one stable priority queue (C04/C05 helper lemmas)
-/
namespace Percival.Proofs.EventsImm
open Percival.Spec.Events Percival.Model.Events

/-- the queue for priority `p` is the sub-sequence of `l` with that priority -/
def proj (l : List C05.Imm) (p : Nat) : List Nat := (l.filter (fun i => i.prio == p)).map (·.id)

structure RQ (q : Imm) (l : List C05.Imm) : Prop where
  size : q.heads.size = 32
  prio : ∀ i ∈ l, i.prio < 32
  heads : ∀ p, p < 32 → q.heads[p]? = some (proj l p)
  minq : ∀ i ∈ l, q.minq ≤ i.prio
  minq32 : q.minq ≤ 32

section
variable (q : Imm) (l : List C05.Imm)

theorem rq_init : RQ {} [] := by
  refine ⟨by simp, by simp, ?_, by simp, by simp⟩
  intro p hp
  simp [proj, hp]

theorem proj_append (i : C05.Imm) (p : Nat) :
    proj (l ++ [i]) p = if i.prio = p then proj l p ++ [i.id] else proj l p := by
  unfold proj
  rw [List.filter_append, List.map_append]
  by_cases h : i.prio = p <;> simp [h]

theorem mem_proj (id p : Nat) : id ∈ proj l p ↔ (⟨id, p⟩ : C05.Imm) ∈ l := by
  unfold proj
  simp only [List.mem_map, List.mem_filter]
  constructor
  · rintro ⟨i, ⟨hi, hp⟩, rfl⟩
    have : i.prio = p := by simpa using hp
    subst this; exact hi
  · intro h; exact ⟨⟨id, p⟩, ⟨h, by simp⟩, rfl⟩

theorem immRegister_rq (id prio : Nat) (h : RQ q l) (hp : prio < 32) :
    ∃ q', immRegister q id prio = some q' ∧ RQ q' (l ++ [⟨id, prio⟩]) := by
  unfold immRegister
  rw [h.heads prio hp]
  refine ⟨_, rfl, ⟨by simp [h.size], ?_, ?_, ?_, ?_⟩⟩
  · intro i hi
    simp only [List.mem_append, List.mem_singleton] at hi
    rcases hi with hi | rfl
    · exact h.prio i hi
    · exact hp
  · intro p hp'
    rw [Array.getElem?_setIfInBounds, proj_append]
    by_cases hpp : prio = p
    · subst hpp; simp [h.size, hp]
    · simp only [hpp, if_false]; exact h.heads p hp'
  · intro i hi
    simp only [List.mem_append, List.mem_singleton] at hi
    rcases hi with hi | rfl
    · have := h.minq i hi
      show (if prio < q.minq then prio else q.minq) ≤ i.prio
      split <;> omega
    · show (if prio < q.minq then prio else q.minq) ≤ prio
      split <;> omega
  · show (if prio < q.minq then prio else q.minq) ≤ 32
    have := h.minq32
    split <;> omega


theorem proj_cons (i : C05.Imm) (l : List C05.Imm) (p : Nat) :
    proj (i :: l) p = if i.prio = p then i.id :: proj l p else proj l p := by
  unfold proj
  by_cases h : i.prio = p <;> simp [h]

/-- removing a registration from the list removes its id from the queue of its priority (the first occurrence in
    both: an earlier equal id in that queue would be an earlier equal registration) -/
theorem proj_erase (j : C05.Imm) : ∀ (l : List C05.Imm) (p : Nat),
    proj (l.erase j) p = if p = j.prio then (proj l p).erase j.id else proj l p := by
  intro l
  induction l with
  | nil => intro p; split <;> rfl
  | cons i is ih =>
    intro p
    by_cases hij : i = j
    · subst hij
      rw [List.erase_cons_head, proj_cons]
      by_cases hp : p = i.prio
      · rw [if_pos hp, if_pos hp.symm, List.erase_cons_head]
      · rw [if_neg hp, if_neg (Ne.symm hp)]
    · rw [List.erase_cons_tail (by simpa using hij), proj_cons, proj_cons, ih]
      by_cases hp : p = j.prio
      · rw [if_pos hp, if_pos hp]
        by_cases hip : i.prio = p
        · have hid : ¬ i.id = j.id := fun hh => hij (by cases i; cases j; simp_all)
          rw [if_pos hip, if_pos hip, List.erase_cons_tail (by simpa using hid)]
        · rw [if_neg hip, if_neg hip]
      · rw [if_neg hp, if_neg hp]

/-- a registration leaves: the queue of its priority loses its id, nothing else changes -/
theorem RQ.erase {q : Imm} {l : List C05.Imm} (h : RQ q l) (j : C05.Imm) (hj : j ∈ l) :
    RQ { q with heads := q.heads.setIfInBounds j.prio ((proj l j.prio).erase j.id) } (l.erase j) := by
  have hp := h.prio j hj
  refine ⟨by simp [h.size], fun i hi => h.prio i (List.mem_of_mem_erase hi), fun p hp' => ?_,
    fun i hi => h.minq i (List.mem_of_mem_erase hi), h.minq32⟩
  rw [Array.getElem?_setIfInBounds, proj_erase]
  by_cases hpp : j.prio = p
  · subst hpp; simp [h.size, hp]
  · rw [if_neg hpp, if_neg (Ne.symm hpp)]; exact h.heads p hp'

theorem nextImm_none : C05.nextImm l = none ↔ l = [] := by
  cases l with
  | nil => simp [C05.nextImm]
  | cons i is =>
    simp only [C05.nextImm]
    split <;> simp
    split <;> simp

/-- `nextImm` picks an element of least priority value which is the oldest of that priority -/
theorem nextImm_spec : ∀ (l : List C05.Imm) (j : C05.Imm), C05.nextImm l = some j →
    j ∈ l ∧ (∀ i ∈ l, j.prio ≤ i.prio) ∧ ∃ rest, proj l j.prio = j.id :: rest ∧
      ∀ p, proj (l.erase j) p = if p = j.prio then rest else proj l p := by
  have key : ∀ (l : List C05.Imm) (j : C05.Imm), C05.nextImm l = some j →
      j ∈ l ∧ (∀ i ∈ l, j.prio ≤ i.prio) ∧ ∃ rest, proj l j.prio = j.id :: rest := by
    intro l
    induction l with
    | nil => intro j h; simp [C05.nextImm] at h
    | cons i is ih =>
      intro j h
      simp only [C05.nextImm] at h
      cases hn : C05.nextImm is with
      | none =>
        rw [hn] at h; simp only [Option.some.injEq] at h; subst h
        have his : is = [] := (nextImm_none is).mp hn
        subst his
        exact ⟨by simp, by simp, [], by simp [proj]⟩
      | some k =>
        rw [hn] at h
        simp only at h
        obtain ⟨hk, hmin, rest, hrest⟩ := ih k hn
        by_cases hlt : k.prio < i.prio
        · simp only [hlt, if_true, Option.some.injEq] at h; subst h
          refine ⟨List.mem_cons_of_mem _ hk, fun x hx => ?_, rest, ?_⟩
          · rcases List.mem_cons.mp hx with rfl | hx
            · omega
            · exact hmin x hx
          · rw [proj_cons, if_neg (by omega)]; exact hrest
        · simp only [hlt, if_false, Option.some.injEq] at h; subst h
          refine ⟨by simp, fun x hx => ?_, proj is i.prio, by rw [proj_cons, if_pos rfl]⟩
          rcases List.mem_cons.mp hx with rfl | hx
          · exact Nat.le_refl _
          · have := hmin x hx; omega
  intro l j h
  obtain ⟨h1, h2, rest, h3⟩ := key l j h
  refine ⟨h1, h2, rest, h3, fun p => ?_⟩
  rw [proj_erase]
  split
  · next hp => rw [hp, h3, List.erase_cons_head]
  · rfl

/-- the `minq` loop keeps the relation and stops at a non-empty queue (or at 32) -/
theorem immAdvance_rq : ∀ (f : Nat) (q : Imm) (l : List C05.Imm), RQ q l → 32 - q.minq ≤ f →
    RQ (immAdvance f q) l ∧ (immAdvance f q).heads = q.heads ∧
      ((immAdvance f q).minq = 32 ∨ ∃ x xs, (immAdvance f q).heads[(immAdvance f q).minq]? = some (x :: xs)) := by
  intro f
  induction f with
  | zero =>
    intro q l h hf
    have := h.minq32
    refine ⟨h, rfl, Or.inl ?_⟩
    show q.minq = 32
    omega
  | succ f ih =>
    intro q l h hf
    unfold immAdvance
    by_cases h32 : q.minq = 32
    · have : q.heads[q.minq]? = none := by
        rw [h32]; exact Array.getElem?_eq_none_iff.mpr (by rw [h.size]; omega)
      simp only [this]
      exact ⟨h, trivial, Or.inl h32⟩
    · have hlt : q.minq < 32 := by have := h.minq32; omega
      have hh := h.heads q.minq hlt
      rw [hh]
      cases hpl : proj l q.minq with
      | nil =>
        simp only
        have h' : RQ { q with minq := q.minq + 1 } l := by
          refine ⟨h.size, h.prio, h.heads, ?_, by show q.minq + 1 ≤ 32; omega⟩
          intro i hi
          have h1 := h.minq i hi
          show q.minq + 1 ≤ i.prio
          by_cases he : i.prio = q.minq
          · exfalso
            have : i.id ∈ proj l q.minq := (mem_proj l i.id q.minq).mpr (by rw [← he]; exact hi)
            rw [hpl] at this; cases this
          · omega
        exact ih { q with minq := q.minq + 1 } l h' (by show 32 - (q.minq + 1) ≤ f; omega)
      | cons x xs =>
        simp only
        exact ⟨h, trivial, Or.inr ⟨x, xs, by rw [hh, hpl]⟩⟩

/-- **the 32 queues + `minq` behave as one stable priority queue**: `events_immediate_get` returns
    exactly `nextImm` (least priority value, oldest first) and removes it -/
theorem immGet_rq (h : RQ q l) :
    (l = [] ∧ (immGet q).2 = none ∧ RQ (immGet q).1 []) ∨
    (∃ j, C05.nextImm l = some j ∧ (immGet q).2 = some j.id ∧ RQ (immGet q).1 (l.erase j)) := by
  obtain ⟨h1, hheads, hstop⟩ := immAdvance_rq 32 q l h (by omega)
  unfold immGet
  simp only
  rcases hstop with h32 | ⟨x, xs, hx⟩
  · -- no queue is non-empty
    have hnone : (immAdvance 32 q).heads[(immAdvance 32 q).minq]? = none := by
      rw [h32]; exact Array.getElem?_eq_none_iff.mpr (by rw [h1.size]; omega)
    have hl : l = [] := by
      cases l with
      | nil => rfl
      | cons i is =>
        have := h1.minq i (by simp)
        have := h1.prio i (by simp)
        omega
    left
    simp only [hnone]
    subst hl
    exact ⟨rfl, trivial, h1⟩
  · right
    have hmlt : (immAdvance 32 q).minq < 32 := by
      have := (Array.getElem?_eq_some_iff.mp hx).1
      rw [h1.size] at this; exact this
    have hproj : proj l (immAdvance 32 q).minq = x :: xs := by
      have := h1.heads _ hmlt
      rw [hx] at this; simp only [Option.some.injEq] at this; exact this.symm
    -- some element has priority minq, so the list is non-empty and nextImm picks priority minq
    have hi0 : (⟨x, (immAdvance 32 q).minq⟩ : C05.Imm) ∈ l := (mem_proj l x _).mp (by rw [hproj]; simp)
    cases hn : C05.nextImm l with
    | none => rw [(nextImm_none l).mp hn] at hi0; simp at hi0
    | some j =>
      obtain ⟨hj, hmin, rest, hrest, her⟩ := nextImm_spec l j hn
      have hjp : j.prio = (immAdvance 32 q).minq := by
        have a : j.prio ≤ (immAdvance 32 q).minq := hmin _ hi0
        have b := h1.minq j hj
        omega
      rw [hjp, hproj] at hrest
      simp only [List.cons.injEq] at hrest
      refine ⟨j, rfl, ?_, ?_⟩
      · simp only [hx]; rw [hrest.1]
      · simp only [hx]
        have := h1.erase j hj
        rw [hjp, hproj, ← hrest.1, List.erase_cons_head] at this
        exact this


end

def IdsNodup (l : List C05.Imm) : Prop := (l.map (·.id)).Nodup


section
variable (q : Imm) (l : List C05.Imm)

theorem ids_inj {l : List C05.Imm} (h : IdsNodup l) {x y : C05.Imm} (hx : x ∈ l) (hy : y ∈ l) (hid : x.id = y.id) : x = y :=
  Keys.inj h hx hy hid

theorem erase_eq_filter_id {l : List C05.Imm} (h : IdsNodup l) {j : C05.Imm} (hj : j ∈ l) :
    l.erase j = l.filter (fun i => i.id != j.id) := by
  have hnd : l.Nodup := Keys.nodup h
  rw [List.Nodup.erase_eq_filter hnd]
  apply List.filter_congr
  intro x hx
  by_cases hxe : x = j
  · subst hxe; simp
  · have : x.id ≠ j.id := fun hid => hxe (ids_inj h hx hj hid)
    show (x != j) = (x.id != j.id)
    rw [bne_iff_ne.mpr hxe, bne_iff_ne.mpr this]

/-- `immGet_rq` for a list without repeated ids: the returned registration leaves as by a cancel -/
theorem immGet_rq_filter (h : RQ q l) (hn : IdsNodup l) :
    (l = [] ∧ (immGet q).2 = none ∧ RQ (immGet q).1 []) ∨
    ∃ j, C05.nextImm l = some j ∧ j ∈ l ∧ (immGet q).2 = some j.id ∧ RQ (immGet q).1 (l.filter (fun i => i.id != j.id)) := by
  rcases immGet_rq q l h with h0 | ⟨j, hj, hid, hq⟩
  · exact .inl h0
  · have hm := (nextImm_spec l j hj).1
    exact .inr ⟨j, hj, hm, hid, erase_eq_filter_id hn hm ▸ hq⟩

theorem filter_idsNodup {l : List C05.Imm} (h : IdsNodup l) (id : Nat) : IdsNodup (l.filter (fun i => i.id != id)) :=
  Keys.filter _ h

theorem immCancel_rq (id p : Nat) (h : RQ q l) (hn : IdsNodup l)
    (hm : (⟨id, p⟩ : C05.Imm) ∈ l) :
    ∃ q', immCancel q id p = some q' ∧ RQ q' (l.filter (fun i => i.id != id)) := by
  unfold immCancel
  rw [h.heads p (h.prio _ hm)]
  refine ⟨_, rfl, ?_⟩
  rw [← erase_eq_filter_id hn hm]
  exact h.erase ⟨id, p⟩ hm

theorem immPrioOf_some (id p : Nat) (h : RQ q l) (hq : immPrioOf q id = some p) :
    (⟨id, p⟩ : C05.Imm) ∈ l := by
  unfold immPrioOf at hq
  have h1 := List.find?_some hq
  have h2 := List.mem_of_find?_eq_some hq
  rw [h.size, List.mem_range] at h2
  rw [h.heads p h2] at h1
  simp only [List.contains_eq_mem, decide_eq_true_eq] at h1
  exact (mem_proj l id p).mp h1

theorem immPrioOf_none (id : Nat) (h : RQ q l) (hq : immPrioOf q id = none) (p : Nat) :
    (⟨id, p⟩ : C05.Imm) ∉ l := by
  intro hm
  have hp : p < 32 := h.prio _ hm
  unfold immPrioOf at hq
  rw [List.find?_eq_none] at hq
  have := hq p (by rw [h.size, List.mem_range]; exact hp)
  rw [h.heads p hp] at this
  simp only [List.contains_eq_mem, decide_eq_true_eq] at this
  exact this ((mem_proj l id p).mpr hm)

end

end Percival.Proofs.EventsImm
