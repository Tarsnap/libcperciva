import Percival.Proofs.AfMonRel
import Percival.Proofs.AfStep
import Percival.Proofs.Keys
/-!
# C14: the event layer as a refinement of the ideal registry

`EvAbs e m r`: the ideal registry `r` (`Spec.Reg`) describes the event layer `e` under the oracle `m`.  It is the
conjunction of three independent pieces, one per part of `Ev` — the immediate queues (`heads`, `minq`), the timers
(`tq`, `timers`) and the descriptors (`sAlloc`, `socks`, `fds`, `fdsAlloc`) — and the one fact that links two of them
(an id is not both an immediate event and a timer).  A call of `Model/EvReg.lean` moves one part; the other two are
carried over by their `congr` lemma.  Between related states `EvAbs s.ev s.m ms.reg` is `RegRel`, `DlRel` and the
event-layer half of `AcctRel` (`evAbs_of`, `regDl_of`).

`EvLine s ms op` is the normal form of a line of the protocol that goes to the event layer; what such a line does to
each piece of the state relation is read off it once.  (`TmRel.sub` / `TmRel.drop`: a timer that leaves keeps the
relation between the model's timers and the monitor's deadlines.)
-/
namespace Percival.Proofs.AfMonRun
open Percival.Model Percival.Model.EvReg

/-- the parts of the event state a call that moves the immediate queues never touches (`EvRegQuiet.Outside .imm`) -/
def ImmFrame (e e' : Ev) : Prop :=
  e'.tq = e.tq ∧ e'.timers = e.timers ∧ e'.sAlloc = e.sAlloc ∧ e'.socks = e.socks ∧ e'.fds = e.fds ∧
    e'.fdsAlloc = e.fdsAlloc

theorem ImmFrame.refl (e : Ev) : ImmFrame e e := ⟨rfl, rfl, rfl, rfl, rfl, rfl⟩

theorem dl_cons (D : List (Nat × Int)) (j i : Nat) (d : Int) :
    dl ((j, d) :: D) i = if j = i then some d else dl D i :=
  (Keys.lookup_cons j i d D).trans (ite_congr (propext eq_comm) (fun _ => rfl) fun _ => rfl)

theorem dl_mem (D : List (Nat × Int)) (i : Nat) (d : Int) (h : dl D i = some d) : (i, d) ∈ D :=
  Keys.lookup_mem h

theorem dl_of_mem (D : List (Nat × Int)) (i : Nat) (d : Int) (hnd : (D.map (·.1)).Nodup) (h : (i, d) ∈ D) :
    dl D i = some d :=
  (Keys.lookup_iff hnd).2 h

theorem dl_filter (f : Nat × Int → Bool) (i : Nat) : ∀ (D : List (Nat × Int)), (∀ p ∈ D, p.1 = i → f p = true) →
    dl (D.filter f) i = dl D i
  | [], _ => rfl
  | (j, d) :: D, h => by
    have ih := dl_filter f i D (fun p hp => h p (List.mem_cons_of_mem _ hp))
    by_cases hj : j = i
    · have := h (j, d) List.mem_cons_self hj
      rw [List.filter_cons_of_pos this, dl_cons, dl_cons]
      simp [hj]
    · rw [dl_cons]
      simp only [hj, if_false]
      by_cases hf : f (j, d) = true
      · rw [List.filter_cons_of_pos hf, dl_cons]; simp [hj, ih]
      · rw [List.filter_cons_of_neg hf]; exact ih

theorem dl_some_of_mem_map (D : List (Nat × Int)) (i : Nat) (h : i ∈ D.map (·.1)) : ∃ d, dl D i = some d := by
  obtain ⟨p, hp, rfl⟩ := List.mem_map.mp h
  cases hf : D.find? (·.1 == p.1) with
  | none => exact absurd (List.find?_eq_none.mp hf p hp) (by simp)
  | some q => exact ⟨q.2, by simp [dl, hf]⟩

theorem immInv_init : ImmInv ({} : Ev) := by
  refine ⟨by simp, by decide, ?_⟩
  intro j hj
  have : j < 32 := hj
  show (List.replicate 32 ([] : List ImmEnt))[j]? = some []
  rw [List.getElem?_replicate]
  simp [this]

theorem tmRel_init (m : Mem) : TmRel ({} : Ev) m [] :=
  ⟨Percival.Proofs.EvRegTimer.tmInv_init m, rfl, List.nodup_nil, fun x h => (by cases h), fun t h => (by cases h)⟩

theorem TmRel.sub {e e' : Ev} {m m' : Mem} {D D' : List (Nat × Int)} (h : TmRel e m D) (hinv : Percival.Proofs.EvRegTimer.TmInv e' m')
    (hids : D'.map (·.1) = e'.timers.map (·.id)) (hsl : e'.timers.Sublist e.timers)
    (hdl : ∀ x ∈ e'.timers, dl D' x.id = dl D x.id)
    (hrecs : ∀ t t', e.tq = some t → e'.tq = some t' → t'.q.recs = t.q.recs) : TmRel e' m' D' := by
  refine ⟨hinv, hids, (hsl.map _).nodup h.tidNd, fun x hx => h.tidTqr x (hsl.subset hx), fun t' ht' x hx => ?_⟩
  have hx' := hsl.subset hx
  cases hq : e.tq with
  | none => rw [h.inv.noq hq] at hx'; cases hx'
  | some t =>
    rw [hrecs t t' hq ht', hdl x hx]
    exact h.recs t hq x hx'

theorem TmRel.drop {e e' : Ev} {m m' : Mem} {D : List (Nat × Int)} (h : TmRel e m D) (i : Nat) (hinv : Percival.Proofs.EvRegTimer.TmInv e' m')
    (htm : e'.timers = e.timers.filter (·.id != i))
    (hrecs : ∀ t t', e.tq = some t → e'.tq = some t' → t'.q.recs = t.q.recs) :
    TmRel e' m' (D.filter (·.1 != i)) := by
  refine h.sub hinv ?_ (htm ▸ List.filter_sublist) (fun x hx => ?_) hrecs
  · have e1 : (D.filter (·.1 != i)).map (·.1) = (D.map (·.1)).filter (· != i) := by rw [List.filter_map]; rfl
    have e2 : (e.timers.filter (·.id != i)).map (·.id) = (e.timers.map (·.id)).filter (· != i) := by
      rw [List.filter_map]; rfl
    rw [htm, e1, e2, h.ids]
  · rw [htm] at hx
    have hne : x.id ≠ i := by simpa using (List.mem_filter.mp hx).2
    exact dl_filter _ _ D (fun p _ hp => by simp [hp, hne])

end Percival.Proofs.AfMonRun

namespace Percival.Proofs.AfMonAbs
open Percival.Model Percival.Model.EvReg Percival.Model.AfStep Percival.Proofs.AfMonRel Percival.Proofs.EvRegAcct
open Percival.Spec.AfMon (Op Ans MState monStep MAXID)
open Percival.Spec.Reg (Reg)
open Percival.Proofs.EvRegNet (regNet NetInv netRegistered regNet_of_socks netInv_congr)
open Percival.Proofs.EvRegTimer (regImm regTimers TmInv regImm_of_heads regTimers_of_timers tmInv_congr)
open Percival.Proofs.AfMonRun (ImmInv TmRel DlRel dl)
open Percival.Proofs.EvRegQuiet (Outside Quiet)
open Percival.Proofs.AfMonEnd (AcctRel heapBlocks OpOk)
open Percival.Proofs.AfStep (evCall isEvOp netAfter stepOp_evCall_eq stepOp_ev_nocall)

theorem immInv_congr {e e' : Ev} (h : ImmInv e) (h1 : e'.heads = e.heads) (h2 : e'.minq = e.minq) : ImmInv e' :=
  ⟨by rw [h1]; exact h.len, by rw [h2]; exact h.minq, fun j hj => by rw [h1]; exact h.below j (by rw [← h2]; exact hj)⟩

theorem tmRel_congr {e e' : Ev} {m m' : Mem} {D : List (Nat × Int)} (h : TmRel e m D) (h1 : e'.tq = e.tq)
    (h2 : e'.timers = e.timers) (hn : m.n ≤ m'.n) : TmRel e' m' D :=
  ⟨tmInv_congr e e' m m' h.inv h1 h2 hn, by rw [h2]; exact h.ids, by rw [h2]; exact h.tidNd,
   fun x hx => h.tidTqr x (h2 ▸ hx),
   fun t ht x hx => h.recs t (h1 ▸ ht) x (h2 ▸ hx)⟩

structure ImmAbs (e : Ev) (r : Reg) : Prop where
  imm : r.imm = regImm e
  inv : ImmInv e
  nd : (regImm e).flatten.Nodup

/-- the timers (`e.tq`, `e.timers`; of `m` only `m.n`) -/
structure TmAbs (e : Ev) (m : Mem) (r : Reg) : Prop where
  rel : TmRel e m r.timers
  small : ∀ i ∈ regTimers e, i < MAXID

structure NetAbs (e : Ev) (r : Reg) : Prop where
  net : ∀ fd w id, (fd, w, id) ∈ r.net ↔ (fd, w, id) ∈ regNet e
  inv : NetInv e
  acct : AcctInv e

structure EvAbs (e : Ev) (m : Mem) (r : Reg) : Prop where
  imm : ImmAbs e r
  tm : TmAbs e m r
  net : NetAbs e r
  disj : ∀ i, i ∈ (regImm e).flatten → i ∉ regTimers e

theorem ImmAbs.congr {e e' : Ev} {r r' : Reg} (h : ImmAbs e r) (h1 : e'.heads = e.heads) (h2 : e'.minq = e.minq)
    (hr : r'.imm = r.imm) : ImmAbs e' r' := by
  have hi := regImm_of_heads h1
  exact ⟨by rw [hr, hi]; exact h.imm, immInv_congr h.inv h1 h2, by rw [hi]; exact h.nd⟩

theorem TmAbs.congr {e e' : Ev} {m m' : Mem} {r r' : Reg} (h : TmAbs e m r) (h1 : e'.tq = e.tq)
    (h2 : e'.timers = e.timers) (hn : m.n ≤ m'.n) (hr : r'.timers = r.timers) : TmAbs e' m' r' :=
  ⟨by rw [hr]; exact tmRel_congr h.rel h1 h2 hn, by rw [regTimers_of_timers h2]; exact h.small⟩

theorem NetAbs.congr {e e' : Ev} {r r' : Reg} (h : NetAbs e r) (h1 : e'.sAlloc = e.sAlloc) (h2 : e'.socks = e.socks)
    (h3 : e'.fds = e.fds) (h4 : e'.fdsAlloc = e.fdsAlloc) (hr : r'.net = r.net) : NetAbs e' r' :=
  ⟨by rw [hr, regNet_of_socks h2]; exact h.net, netInv_congr e e' h.inv h1 h2 h3 h4, acctInv_congr h.acct h1 h2 h4⟩

theorem evAbs_init (m : Mem) : EvAbs ({} : Ev) m {} :=
  ⟨⟨rfl, AfMonRun.immInv_init, by decide⟩, ⟨AfMonRun.tmRel_init m, fun i hi => by simp [regTimers, registry] at hi⟩,
   ⟨fun _ _ _ => Iff.rfl, EvRegNet.netInv_init, acctInv_init⟩, fun i _ => by simp [regTimers, registry]⟩

/-- the oracle is read only through "every timer cookie was handed out before `m.n`" -/
theorem EvAbs.mono {e : Ev} {m m' : Mem} {r : Reg} (h : EvAbs e m r) (hn : m.n ≤ m'.n) : EvAbs e m' r :=
  ⟨h.imm, h.tm.congr rfl rfl hn rfl, h.net, h.disj⟩

/-- a call that moved only the immediate queues; `hd`: no id in them is a timer's -/
theorem EvAbs.immMoved {e e' : Ev} {m m' : Mem} {r r' : Reg} (h : EvAbs e m r) (o : Outside .imm e e') (hn : m.n ≤ m'.n)
    (hi : ImmAbs e' r') (ht : r'.timers = r.timers) (hnet : r'.net = r.net)
    (hd : ∀ i, i ∈ (regImm e').flatten → i ∉ regTimers e) : EvAbs e' m' r' := by
  obtain ⟨o1, o2⟩ := o.tm nofun
  obtain ⟨o3, o4, o5, o6⟩ := o.net nofun
  exact ⟨hi, h.tm.congr o1 o2 hn ht, h.net.congr o3 o4 o5 o6 hnet, by rw [regTimers_of_timers o2]; exact hd⟩

/-- a call that moved only the timers; `hd`: no immediate event's id is among them -/
theorem EvAbs.tmMoved {e e' : Ev} {m m' : Mem} {r r' : Reg} (h : EvAbs e m r) (o : Outside .tm e e') (ht : TmAbs e' m' r')
    (hi : r'.imm = r.imm) (hnet : r'.net = r.net) (hd : ∀ i, i ∈ (regImm e).flatten → i ∉ regTimers e') :
    EvAbs e' m' r' := by
  obtain ⟨o1, o2, _⟩ := o.imm nofun
  obtain ⟨o3, o4, o5, o6⟩ := o.net nofun
  exact ⟨h.imm.congr o1 o2 hi, ht, h.net.congr o3 o4 o5 o6 hnet, by rw [regImm_of_heads o1]; exact hd⟩

theorem EvAbs.quiet_imm {e e' : Ev} {m m' : Mem} {r : Reg} {k : Int} (h : EvAbs e m r)
    (q : Quiet .imm k e m e' m') : EvAbs e' m' r := by
  have hi := regImm_of_heads q.same.1
  exact h.immMoved q.out q.step.n ⟨h.imm.imm.trans hi.symm, immInv_congr h.imm.inv q.same.1 q.same.2.1,
    by rw [hi]; exact h.imm.nd⟩ rfl rfl (by rw [hi]; exact h.disj)

theorem EvAbs.netMoved {e e' : Ev} {m m' : Mem} {r r' : Reg} (h : EvAbs e m r) (o : Outside .net e e')
    (hn : m.n ≤ m'.n) (hnet : NetAbs e' r') (hi : r'.imm = r.imm) (ht : r'.timers = r.timers) : EvAbs e' m' r' := by
  obtain ⟨o1, o2, _⟩ := o.imm nofun
  obtain ⟨o3, o4⟩ := o.tm nofun
  exact ⟨h.imm.congr o1 o2 hi, h.tm.congr o3 o4 hn ht, hnet,
    by rw [regImm_of_heads o1, regTimers_of_timers o4]; exact h.disj⟩

theorem EvAbs.netKept {e e' : Ev} {m m' : Mem} {r : Reg} (h : EvAbs e m r)
    (hk : EvRegQuiet.Call .net 0 e m e' m') (hn : NetInv e') (hreg : registry e' = registry e) : EvAbs e' m' r :=
  h.netMoved hk.out hk.step.n ⟨by rw [show regNet e' = regNet e from congrArg Registry.net hreg]; exact h.net.net,
    hn, hk.pre h.net.acct⟩ rfl rfl

theorem evAbs_of {s : S} {ms : MState} (hr : RegRel s ms) (hd : DlRel s ms) (ha : AcctInv s.ev) :
    EvAbs s.ev s.m ms.reg :=
  ⟨⟨hr.imm, hd.imm, hr.immNd⟩, ⟨⟨hr.tmInv, hr.tm, hd.tidNd, hd.tidTqr, hd.recs⟩, hr.tmSmall⟩,
   ⟨hr.net, hr.netInv, ha⟩, hr.disj⟩

theorem regDl_of {s : S} {ms : MState} (hnow : ms.now = s.now) (h : EvAbs s.ev s.m ms.reg) :
    RegRel s ms ∧ DlRel s ms :=
  ⟨⟨hnow, h.imm.imm, h.tm.rel.ids, h.net.net, h.net.inv, h.tm.rel.inv, h.imm.nd, h.disj, h.tm.small⟩,
   ⟨h.imm.inv, h.tm.rel.tidNd, h.tm.rel.tidTqr, h.tm.rel.recs⟩⟩

def Covers (r : Reg) (net : List (Nat × Bool)) : Prop := ∀ fd w id, (fd, w, id) ∈ r.net → (fd, w) ∈ net

/-- what a line of the event layer does from states whose registries correspond: the monitor accepts the answer; the
model has moved to `(e', m')` (and its list of descriptors to `net'`), the monitor to the registry `r'` that describes
`e'`; the oracle's counter has moved with `evBlocks` (for `reg_imm` if the priority names a queue), and `net'` still
covers the descriptor registrations -/
def EvLine (s : S) (ms : MState) (op : Op) : Prop :=
  Accepts s ms op ∧ ∃ e' m' r' net', next s ms op = ({ s with m := m', ev := e', net := net' }, { ms with reg := r' }) ∧
    EvAbs e' m' r' ∧ (OpOk op → m'.live - s.m.live = evBlocks e' - evBlocks s.ev) ∧
    (Covers ms.reg s.net → Covers r' net')

/-- the line of a call that `AfStep.evCall` names: it is enough that the monitor, reading the printed outcome, moves to a
registry that describes the call's result -/
theorem EvLine.of_call {s : S} {ms : MState} {op : Op} {st : NetRes} {ran : Option (List Nat)} {e' : Ev} {m' : Mem}
    {r' : Reg} (hc : evCall s op = some (st, ran, e', m'))
    (hm : monStep ms op (Out.ev st (DsStep.rf s.m m') ran (evView e' s.m m')).ans = ({ ms with reg := r' }, none))
    (habs : EvAbs e' m' r') (hlv : OpOk op → m'.live - s.m.live = evBlocks e' - evBlocks s.ev)
    (hcov : Covers ms.reg s.net → Covers r' (netAfter s op st)) : EvLine s ms op := by
  obtain ⟨ha, hn⟩ := next_of (stepOp_evCall_eq s op st ran e' m' hc) hm
  exact ⟨ha, e', m', r', _, hn, habs, hlv, hcov⟩

theorem EvLine.of_skip {s : S} {ms : MState} {op : Op} (h : EvAbs s.ev s.m ms.reg) (hop : isEvOp op = true)
    (hc : evCall s op = none) (hm : monStep ms op { head := .skip, ntoks := 1 } = (ms, none)) : EvLine s ms op := by
  obtain ⟨ha, hn⟩ := next_of (stepOp_ev_nocall s op hop hc) hm
  exact ⟨ha, s.ev, s.m, ms.reg, s.net, hn, h, fun _ => by omega, fun hcv => hcv⟩

theorem EvLine.sched {s : S} {ms : MState} {op : Op} (h : EvAbs s.ev s.m ms.reg) (f : Nat → Nat → Bool)
    (hn : Accepts s ms op ∧ next s ms op = ({ s with m := { s.m with f := f } }, ms)) : EvLine s ms op :=
  ⟨hn.1, s.ev, _, ms.reg, s.net, hn.2, h.mono (Nat.le_refl _),
   fun _ => by show s.m.live - s.m.live = _; omega, fun hc => hc⟩

end Percival.Proofs.AfMonAbs
