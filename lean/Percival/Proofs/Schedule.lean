import Percival.Spec.MD
/-! The message schedule, twice: `Spec.extendSchedule` builds a newest-first list with `next`, the C
extends an array in place with `W[n] = f(W[n-1-a], W[n-1-b], W[n-1-c], W[n-1-d])`.  `sched_refines`
says the array holds the list (shared by SHA-256 and SHA-1). -/
namespace Percival.Proofs.Schedule
open Percival.Spec

def wf {N : Nat} (W : Vector UInt32 N) (t : Nat) : UInt32 := W[t]?.getD 0

theorem wf_lt {N : Nat} (W : Vector UInt32 N) (t : Nat) (h : t < N) : wf W t = W[t] := by
  simp [wf, h]

theorem wf_set_ne {N : Nat} (W : Vector UInt32 N) (n t : Nat) (v : UInt32) (hn : n < N) (h : t ≠ n) :
    wf (W.set n v hn) t = wf W t := by
  simp [wf, Ne.symm h]

theorem wf_set_self {N : Nat} (W : Vector UInt32 N) (n : Nat) (v : UInt32) (hn : n < N) :
    wf (W.set n v hn) n = v := by
  simp [wf, hn]

/-- `be32dec_vect` / `le32dec_vect` into an array of `N` words whose tail the model fills with zeros -/
theorem wf_mk_pad (l : List UInt32) (N : Nat) (h) (t : Nat) (ht : t < l.length) (hl : l.length ≤ N) :
    wf (⟨((l ++ List.replicate N 0).take N).toArray, h⟩ : Vector UInt32 N) t = l.getD t 0 := by
  have : t < N := by omega
  simp [wf, List.getD_eq_getElem?_getD, this, ht]

theorem wf_of_toList {N : Nat} (W : Vector UInt32 N) (l : List UInt32) (h : W.toList = l) (t : Nat) :
    wf W t = l.getD t 0 := by
  subst h
  simp [wf, List.getD_eq_getElem?_getD]

theorem wf_foldl_lt {N : Nat} (upd : Vector UInt32 N → Nat → Vector UInt32 N)
    (hne : ∀ W n t, t ≠ n → wf (upd W n) t = wf W t) (t : Nat) :
    ∀ (m s : Nat) (W : Vector UInt32 N), t < s → wf ((List.range' s m).foldl upd W) t = wf W t
  | 0, _, _, _ => rfl
  | m + 1, s, W, h => by
    rw [List.range'_succ, List.foldl_cons, wf_foldl_lt upd hne t m (s + 1) _ (by omega), hne W s t (by omega)]

/-- a list that is long enough starts with its first `n` entries read by `getD` (what a `next` function
matching on the first sixteen entries sees) -/
theorem eq_map_getD_append_drop (l : List UInt32) (n : Nat) (h : n ≤ l.length) :
    l = (List.range n).map (l.getD · 0) ++ l.drop n := by
  have : l.take n = (List.range n).map (l.getD · 0) := by
    apply List.ext_getElem
    · simp; omega
    · intro i h1 h2
      simp only [List.length_take] at h1
      simp [List.getD_eq_getElem?_getD, List.getElem?_eq_getElem (show i < l.length by omega)]
  rw [← this, List.take_append_drop]

variable (next : List UInt32 → Option UInt32) (F : List UInt32 → UInt32)

theorem extend_succ (hnext : ∀ l, 16 ≤ l.length → next l = some (F l)) (n : Nat) (ws : List UInt32)
    (h : 16 ≤ ws.length) :
    extendSchedule next (n + 1) ws = F (extendSchedule next n ws) :: extendSchedule next n ws ∧
    (extendSchedule next n ws).length = ws.length + n := by
  induction n generalizing ws with
  | zero => simp [extendSchedule, hnext ws h]
  | succ n ih =>
    have h' : 16 ≤ (F ws :: ws).length := by simp; omega
    obtain ⟨i1, i2⟩ := ih (F ws :: ws) h'
    have e : ∀ m, extendSchedule next (m + 1) ws = extendSchedule next m (F ws :: ws) := by
      intro m; simp [extendSchedule, hnext ws h]
    refine ⟨?_, ?_⟩
    · rw [e (n + 1), i1, e n]
    · rw [e n, i2]; simp; omega

/-- the schedule in oldest-first order -/
def R (M : List UInt32) (n : Nat) : List UInt32 := (extendSchedule next n M.reverse).reverse

theorem R_succ (hnext : ∀ l, 16 ≤ l.length → next l = some (F l)) (M : List UInt32) (hM : M.length = 16) (n : Nat) :
    R next M (n + 1) = R next M n ++ [F (extendSchedule next n M.reverse)] ∧ (R next M n).length = 16 + n := by
  obtain ⟨i1, i2⟩ := extend_succ next F hnext n M.reverse (by simp [hM])
  unfold R
  rw [i1]
  simp [i2, hM]

theorem getD_newest (l : List UInt32) (a : Nat) (ha : a < l.length) :
    l.getD a 0 = l.reverse.getD (l.length - 1 - a) 0 := by
  simp only [List.getD_eq_getElem?_getD]
  rw [List.getElem?_reverse (by omega)]
  congr 2; omega

theorem sched_refines {N : Nat} (f : UInt32 → UInt32 → UInt32 → UInt32 → UInt32) (a b c d : Nat)
    (ha : a < 16) (hb : b < 16) (hc : c < 16) (hd : d < 16)
    (hnext : ∀ l, 16 ≤ l.length →
      next l = some (f (l.getD a 0) (l.getD b 0) (l.getD c 0) (l.getD d 0)))
    (upd : Vector UInt32 N → Nat → Vector UInt32 N)
    (hne : ∀ W n t, t ≠ n → wf (upd W n) t = wf W t)
    (hself : ∀ W n, 16 ≤ n → n < N → wf (upd W n) n =
      f (wf W (n - 1 - a)) (wf W (n - 1 - b)) (wf W (n - 1 - c)) (wf W (n - 1 - d)))
    (M : List UInt32) (hM : M.length = 16) (W0 : Vector UInt32 N) (h0 : ∀ t, t < 16 → wf W0 t = M.getD t 0)
    (m : Nat) (hm : 16 + m ≤ N) :
    (R next M m).length = 16 + m ∧
    ∀ t, t < 16 + m → wf ((List.range' 16 m).foldl upd W0) t = (R next M m).getD t 0 := by
  induction m with
  | zero => exact ⟨by simp [R, extendSchedule, hM], fun t ht => by simpa [R, extendSchedule] using h0 t ht⟩
  | succ m ih =>
    obtain ⟨il, ih⟩ := ih (by omega)
    obtain ⟨e1, _⟩ := R_succ next _ hnext M hM m
    have elen : (extendSchedule next m M.reverse).length = 16 + m := by simpa [R] using il
    have pre : ∀ s, s < 16 + m → (R next M (m + 1)).getD s 0 = (R next M m).getD s 0 := by
      intro s hs
      simp only [e1, List.getD_eq_getElem?_getD]
      rw [List.getElem?_append_left (by omega)]
    refine ⟨by rw [e1]; simp [il]; omega, fun t ht => ?_⟩
    rw [List.range'_concat, List.foldl_append, List.foldl_cons, List.foldl_nil, Nat.one_mul]
    by_cases hlt : t < 16 + m
    · rw [hne _ _ _ (by omega), ih t hlt, pre t hlt]
    · obtain rfl : t = 16 + m := by omega
      have hlast : (R next M (m + 1)).getD (16 + m) 0 =
          f ((extendSchedule next m M.reverse).getD a 0) ((extendSchedule next m M.reverse).getD b 0)
            ((extendSchedule next m M.reverse).getD c 0) ((extendSchedule next m M.reverse).getD d 0) := by
        rw [e1, List.getD_eq_getElem?_getD, List.getElem?_append_right (by omega)]
        simp [il]
      rw [hself _ _ (by omega) (by omega), ih _ (by omega), ih _ (by omega), ih _ (by omega), ih _ (by omega), hlast,
        getD_newest _ a (by omega), getD_newest _ b (by omega), getD_newest _ c (by omega),
        getD_newest _ d (by omega), elen]
      rfl

end Percival.Proofs.Schedule
