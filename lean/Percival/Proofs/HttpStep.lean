import Percival.Model.HttpStep
import Percival.Proofs.HttpRun
import Percival.Proofs.HttpSeg
import Percival.Proofs.HttpRequest
import Percival.Proofs.HttpSamples
/-! Helper lemmas for the `exec_*` theorems of C08/C09: the scripted reader of `Model/HttpStep.lean`
    (`recvOne`, `fill`, `readerWait`, `readerTurn`) delivers the stream completely, and the run of
    `Model.HttpRes.runAllR` over it decodes a well-formed response exactly. -/
namespace Percival.Proofs.HttpStep
open Percival.Model Percival.Model.Http Percival.Model.HttpRes Percival.Model.HttpStep

-- what the platform's `sscanf` stores for a `%d` out of `int` range (`Model.Http.scanInt`): everything holds for any such
variable (ovf : Bool → Nat → Int)

/-- a segment list which is not empty and has no two EAGAINs in a row (cyclically) -/
def NoTwoZeros (l : Array Nat) : Prop := 0 < l.size ∧ ∀ i, segAt l i = 0 → segAt l (i + 1) ≠ 0

def SegOK : SegSpec → Prop
  | .whole => True
  | .sizes l => NoTwoZeros l

/-- executable form of `SegOK` -/
def segOKb : SegSpec → Bool
  | .whole => true
  | .sizes l => decide (0 < l.size) && (List.range l.size).all fun i => segAt l i != 0 || segAt l (i + 1) != 0

theorem segAt_mod (l : Array Nat) (i : Nat) : segAt l (i % l.size) = segAt l i := by
  unfold segAt
  split
  · simp
  · rfl

theorem segAt_succ_mod (l : Array Nat) (i : Nat) : segAt l (i % l.size + 1) = segAt l (i + 1) := by
  unfold segAt
  split
  · congr 1
    rw [Nat.add_mod, Nat.mod_mod, ← Nat.add_mod]
  · rfl

theorem segOK_of_b (s : SegSpec) (h : segOKb s = true) : SegOK s := by
  cases s with
  | whole => trivial
  | sizes l =>
    simp only [segOKb, Bool.and_eq_true, decide_eq_true_eq, List.all_eq_true, List.mem_range, Bool.or_eq_true,
      bne_iff_ne, ne_eq] at h
    obtain ⟨h0, hall⟩ := h
    refine ⟨h0, fun i hi => ?_⟩
    have := hall (i % l.size) (Nat.mod_lt _ h0)
    rw [segAt_mod, segAt_succ_mod] at this
    rcases this with h1 | h1
    · exact absurd hi h1
    · exact h1

/-- the next `recv` will not answer EAGAIN -/
def readyb (r : Reader) : Bool :=
  match r.seg with
  | .whole => true
  | .sizes l => r.curseg != 0 || segAt l r.idx != 0

/-- bound on the number of `recv` calls which do not end the stream -/
def mu (r : Reader) : Nat := 2 * r.remaining + (if readyb r then 0 else 1)

/-- buffered, unconsumed bytes -/
def avail (r : Reader) : Nat := r.datalen - r.bufpos

/-- the fields a `recv` does not touch -/
structure Same (r r' : Reader) : Prop where
  cap : r'.cap = r.cap
  bufpos : r'.bufpos = r.bufpos
  datalen : r'.datalen = r.datalen
  seg : r'.seg = r.seg
  endReset : r'.endReset = r.endReset
  nq : r'.nq = r.nq
  cancelWait : r'.cancelWait = r.cancelWait
  cancelRecv : r'.cancelRecv = r.cancelRecv
  failWrote : r'.failWrote = r.failWrote

/-- `r1` is `r` after the network was asked: only the script's own fields differ -/
def Recvd (r r1 : Reader) : Prop :=
  ∃ n rem idx cur, r1 = { r with nrecv := n, remaining := rem, idx := idx, curseg := cur }

theorem recvOne_recvd (r : Reader) (space : Nat) : Recvd r (recvOne r space).1 := by
  unfold recvOne
  dsimp only
  repeat' split
  all_goals exact ⟨_, _, _, _, rfl⟩

theorem recvOne_same (r : Reader) (space : Nat) : Same r (recvOne r space).1 := by
  obtain ⟨_, _, _, _, e⟩ := recvOne_recvd r space
  rw [e]
  exact ⟨rfl, rfl, rfl, rfl, rfl, rfl, rfl, rfl, rfl⟩

theorem recvOne_spec (r : Reader) (space : Nat) (hs : 1 ≤ space) (hok : SegOK r.seg) :
    Recvd r (recvOne r space).1 ∧
    ((r.remaining = 0 ∧ (recvOne r space).2 = some 0 ∧ (recvOne r space).1.remaining = 0) ∨
     (r.remaining ≠ 0 ∧ (recvOne r space).2 = none ∧ (recvOne r space).1.remaining = r.remaining ∧
        mu (recvOne r space).1 + 1 ≤ mu r) ∨
     (r.remaining ≠ 0 ∧ ∃ n, (recvOne r space).2 = some (n + 1) ∧ n + 1 ≤ space ∧ n + 1 ≤ r.remaining ∧
        (recvOne r space).1.remaining = r.remaining - (n + 1) ∧ mu (recvOne r space).1 + 1 ≤ mu r)) := by
  refine ⟨recvOne_recvd r space, ?_⟩
  by_cases h0 : r.remaining = 0
  · exact Or.inl (by simp [recvOne, h0])
  · cases hseg : r.seg with
    | whole =>
      obtain ⟨n, hn'⟩ : ∃ n, min space r.remaining = n + 1 := ⟨min space r.remaining - 1, by omega⟩
      refine Or.inr (Or.inr ⟨h0, n, ?_⟩)
      simp only [recvOne, hseg, beq_iff_eq, h0, if_false, mu, readyb, hn', if_true]
      exact ⟨trivial, by omega, by omega, trivial, by omega⟩
    | sizes l =>
      rw [hseg] at hok
      obtain ⟨hsz, hnz⟩ := hok
      by_cases hc : r.curseg = 0
      · by_cases hz : segAt l r.idx = 0
        · have := hnz r.idx hz
          refine Or.inr (Or.inl ⟨h0, ?_⟩)
          simp only [recvOne, hseg, beq_iff_eq, h0, if_false, hc, if_true, hz, mu, readyb]
          simp [this]
        · obtain ⟨n, hn'⟩ : ∃ n, min (min (segAt l r.idx) space) r.remaining = n + 1 :=
            ⟨min (min (segAt l r.idx) space) r.remaining - 1, by omega⟩
          refine Or.inr (Or.inr ⟨h0, n, ?_⟩)
          simp only [recvOne, hseg, beq_iff_eq, h0, if_false, hc, if_true, hz, mu, hn']
          refine ⟨trivial, by omega, by omega, trivial, ?_⟩
          split <;> split <;> omega
      · obtain ⟨n, hn'⟩ : ∃ n, min (min r.curseg space) r.remaining = n + 1 :=
          ⟨min (min r.curseg space) r.remaining - 1, by omega⟩
        refine Or.inr (Or.inr ⟨h0, n, ?_⟩)
        simp only [recvOne, hseg, beq_iff_eq, h0, if_false, hc, mu, hn']
        refine ⟨trivial, by omega, by omega, trivial, ?_⟩
        split <;> split <;> omega

/-- the configuration fields of the environment: untouched by a wait -/
structure Kept (r r' : Reader) : Prop where
  seg : r'.seg = r.seg
  endReset : r'.endReset = r.endReset
  cancelWait : r'.cancelWait = r.cancelWait
  cancelRecv : r'.cancelRecv = r.cancelRecv
  failWrote : r'.failWrote = r.failWrote

theorem Kept.refl (r : Reader) : Kept r r := ⟨rfl, rfl, rfl, rfl, rfl⟩

theorem Kept.trans {a b c : Reader} (h1 : Kept a b) (h2 : Kept b c) : Kept a c :=
  ⟨h2.seg.trans h1.seg, h2.endReset.trans h1.endReset, h2.cancelWait.trans h1.cancelWait,
   h2.cancelRecv.trans h1.cancelRecv, h2.failWrote.trans h1.failWrote⟩

theorem Same.kept {a b : Reader} (h : Same a b) : Kept a b :=
  ⟨h.seg, h.endReset, h.cancelWait, h.cancelRecv, h.failWrote⟩

/-- the answer of a completed wait for `k` on the final reader state -/
def Answer (k : Nat) (endReset : Bool) (r' : Reader) (a : Arrival) : Prop :=
  (k ≤ avail r' ∧ a = .more (avail r' - k)) ∨
  (avail r' < k ∧ r'.remaining = 0 ∧ a = if endReset then .err else .eof)

/-- there is room to fill a wait for `k`, and nothing will cancel it -/
structure Room (k : Nat) (r : Reader) : Prop where
  g1 : r.bufpos ≤ r.datalen
  g2 : r.datalen ≤ r.cap
  room : k ≤ r.cap - r.bufpos
  cr : r.cancelRecv = none
  seg : SegOK r.seg

theorem Room.recv {k : Nat} {r r1 : Reader} (g : Room k r) (h : Recvd r r1) (n : Nat) (hn : r.datalen + n ≤ r.cap) :
    Room k { r1 with datalen := r1.datalen + n } := by
  obtain ⟨_, _, _, _, rfl⟩ := h
  exact ⟨Nat.le_trans g.g1 (Nat.le_add_right _ _), hn, g.room, g.cr, g.seg⟩

theorem fill_done {k f : Nat} {r : Reader} (hf : 0 < f) (h : k ≤ r.datalen - r.bufpos) :
    fill k f r = (r, some (.more (r.datalen - r.bufpos - k))) := by
  obtain ⟨f, rfl⟩ := Nat.exists_eq_succ_of_ne_zero (Nat.ne_of_gt hf)
  rw [fill]
  exact if_pos h

theorem fill_recv {k : Nat} (f : Nat) {r : Reader} (hlt : r.datalen - r.bufpos < k) (hcr : r.cancelRecv = none) :
    fill k (f + 1) r =
      match recvOne r (r.cap - r.datalen) with
      | (r', none) => fill k f r'
      | (r', some 0) => (r', some (if r.endReset then .err else .eof))
      | (r', some n) => fill k f { r' with datalen := r'.datalen + n } := by
  have harm : armed r = false := by rw [armed, hcr]
  rw [fill, if_neg (Nat.not_le.2 hlt), harm]
  rfl

theorem mu_fuel (r : Reader) (k : Nat) : mu r + 2 ≤ 2 * (r.remaining + k) + 1000000 := by
  have h : (if readyb r then 0 else 1) ≤ 1 := by split <;> decide
  unfold mu
  omega

/-- a wait touches no configuration field, and ends unanswered only by a cancellation between two `recv`s -/
theorem fill_kept (k : Nat) : ∀ (f : Nat) (r : Reader),
    Kept r (fill k f r).1 ∧ (r.cancelRecv = none → ∃ a, (fill k f r).2 = some a) := by
  intro f
  induction f with
  | zero => exact fun r => ⟨Kept.refl r, fun _ => ⟨_, rfl⟩⟩
  | succ f ih =>
    intro r
    simp only [fill]
    split
    · exact ⟨Kept.refl r, fun _ => ⟨_, rfl⟩⟩
    · split
      · rename_i ha
        exact ⟨Kept.refl r, fun h => by simp [armed, h] at ha⟩
      · have hs := (recvOne_same r (r.cap - r.datalen)).kept
        generalize recvOne r (r.cap - r.datalen) = p at hs
        obtain ⟨r1, ans⟩ := p
        have step : ∀ r2 : Reader, Kept r1 r2 → Kept r (fill k f r2).1 ∧ (r.cancelRecv = none → ∃ a, (fill k f r2).2 = some a) :=
          fun r2 h2 => ⟨(hs.trans h2).trans (ih r2).1, fun h => (ih r2).2 ((hs.trans h2).cancelRecv.trans h)⟩
        cases ans with
        | none => exact step r1 (Kept.refl r1)
        | some n =>
          cases n with
          | zero => exact ⟨hs, fun _ => ⟨_, rfl⟩⟩
          | succ n => exact step _ ⟨rfl, rfl, rfl, rfl, rfl⟩

/-- the reader state `readerWait` hands to its event loop when the wait is not immediate: read pointer advanced,
    then `netbuf_read_wait`'s resize and compaction -/
def _root_.Percival.Proofs.HttpReader.prep (r : Reader) (c k : Nat) : Reader :=
  let r := { r with bufpos := r.bufpos + c }
  let r := if r.cap < k then
      { r with cap := max (r.cap * 2) k, datalen := r.datalen - r.bufpos, bufpos := 0 } else r
  if r.cap - r.bufpos < k then { r with datalen := r.datalen - r.bufpos, bufpos := 0 } else r

theorem _root_.Percival.Proofs.HttpReader.readerWait_eq (r : Reader) (c k : Nat) :
    readerWait r c k =
      if r.datalen - (r.bufpos + c) ≥ k then ({ r with bufpos := r.bufpos + c }, some (.more (r.datalen - (r.bufpos + c) - k)))
      else fill k (2 * ((Percival.Proofs.HttpReader.prep r c k).remaining + k) + 1000000) (Percival.Proofs.HttpReader.prep r c k) := rfl

open Percival.Proofs.HttpReader (prep readerWait_eq) in
/-- the geometry `readerWait` prepares when the wait is not immediate: the configuration and the stream are untouched,
    the unconsumed bytes are kept, and there is room for `k` behind the read pointer -/
theorem prep_spec (r : Reader) (c k : Nat) :
    Kept r (prep r c k) ∧ (prep r c k).remaining = r.remaining ∧
    (r.bufpos + c ≤ r.datalen → r.datalen ≤ r.cap → (prep r c k).bufpos ≤ (prep r c k).datalen ∧
      (prep r c k).datalen ≤ (prep r c k).cap ∧ k ≤ (prep r c k).cap - (prep r c k).bufpos ∧
      avail (prep r c k) = r.datalen - (r.bufpos + c)) := by
  unfold prep avail
  dsimp only
  split <;> split <;> rename_i h1 h2 <;> dsimp only at h1 h2 ⊢ <;> exact ⟨⟨rfl, rfl, rfl, rfl, rfl⟩, rfl, fun _ _ => by omega⟩

open Percival.Proofs.HttpReader (prep readerWait_eq) in
theorem readerWait_kept (r : Reader) (c k : Nat) :
    Kept r (readerWait r c k).1 ∧ (r.cancelRecv = none → ∃ a, (readerWait r c k).2 = some a) := by
  rw [readerWait_eq]
  split
  · exact ⟨⟨rfl, rfl, rfl, rfl, rfl⟩, fun _ => ⟨_, rfl⟩⟩
  · have hp := (prep_spec r c k).1
    exact ⟨hp.trans (fill_kept k _ _).1, fun h0 => (fill_kept k _ _).2 (hp.cancelRecv.trans h0)⟩

/-- **The event loop of one wait.**  With enough fuel (`mu r + 2`: every `recv` but at most every second
    delivers at least one byte), room for `k` bytes behind the read pointer and nobody cancelling, `fill`
    ends with `k` bytes buffered, or with the whole stream received and fewer than `k` buffered; no byte is
    lost or invented (`datalen + remaining` is kept). -/
theorem fill_spec (k : Nat) : ∀ (f : Nat) (r : Reader), mu r + 2 ≤ f → Room k r →
    ∃ r' a, fill k f r = (r', some a) ∧ r'.cap = r.cap ∧ r'.bufpos = r.bufpos ∧
      r.datalen ≤ r'.datalen ∧ r'.datalen ≤ r'.cap ∧ r'.datalen + r'.remaining = r.datalen + r.remaining ∧
      Answer k r.endReset r' a := by
  intro f
  induction f with
  | zero => intro r h; omega
  | succ f ih =>
    intro r hf g
    by_cases hk : r.datalen - r.bufpos ≥ k
    · rw [fill_done (Nat.succ_pos f) hk]
      exact ⟨r, _, rfl, rfl, rfl, Nat.le_refl _, g.g2, rfl, Or.inl ⟨hk, rfl⟩⟩
    · rw [fill_recv f (Nat.lt_of_not_le hk) g.cr]
      have hroom := g.room
      have hg1 := g.g1
      have hsp := recvOne_spec r (r.cap - r.datalen) (by omega) g.seg
      generalize recvOne r (r.cap - r.datalen) = p at hsp
      obtain ⟨r1, ans⟩ := p
      obtain ⟨hrec, hcase⟩ := hsp
      simp only at hrec hcase
      rcases hcase with ⟨h0, hans, hrem⟩ | ⟨h0, hans, hrem, hmu⟩ | ⟨h0, n, hans, hn1, hn2, hrem, hmu⟩
      · subst hans
        obtain ⟨_, _, _, _, rfl⟩ := hrec
        exact ⟨_, _, rfl, rfl, rfl, Nat.le_refl _, g.g2, by rw [hrem, h0],
          Or.inr ⟨by show r.datalen - r.bufpos < k; omega, hrem, rfl⟩⟩
      · subst hans
        obtain ⟨r', a, e, h1, h2, h3, h4, h5, h6⟩ := ih r1 (by omega) (g.recv hrec 0 g.g2)
        obtain ⟨_, _, _, _, rfl⟩ := hrec
        exact ⟨r', a, e, h1, h2, h3, h4, by rw [h5, hrem], h6⟩
      · subst hans
        obtain ⟨r', a, e, h1, h2, h3, h4, h5, h6⟩ := ih _ (by show mu r1 + 2 ≤ f; omega)
          (g.recv hrec (n + 1) (by omega))
        obtain ⟨_, _, _, _, rfl⟩ := hrec
        refine ⟨r', a, e, h1, h2, Nat.le_trans (Nat.le_add_right _ _) h3, h4, ?_, h6⟩
        have : r'.datalen + r'.remaining = r.datalen + (n + 1) + _ := h5
        rw [this, hrem]; omega

/-- **One `netbuf_read_wait` of the scripted reader** (consume `c`, wait for `k`). -/
theorem readerWait_spec (r : Reader) (c k : Nat) (hc : c ≤ avail r) (hg1 : r.bufpos ≤ r.datalen) (hg2 : r.datalen ≤ r.cap)
    (hcr : r.cancelRecv = none) (hok : SegOK r.seg) :
    ∃ r' a, readerWait r c k = (r', some a) ∧ Kept r r' ∧ r'.bufpos ≤ r'.datalen ∧ r'.datalen ≤ r'.cap ∧
      avail r' + r'.remaining = avail r - c + r.remaining ∧ avail r - c ≤ avail r' ∧
      Answer k r.endReset r' a := by
  have hK := (readerWait_kept r c k).1
  suffices h : ∃ r' a, readerWait r c k = (r', some a) ∧ r'.bufpos ≤ r'.datalen ∧ r'.datalen ≤ r'.cap ∧
      avail r' + r'.remaining = avail r - c + r.remaining ∧ avail r - c ≤ avail r' ∧ Answer k r.endReset r' a by
    obtain ⟨r', a, e, h⟩ := h
    rw [e] at hK
    exact ⟨r', a, e, hK, h⟩
  unfold avail at hc
  rw [Percival.Proofs.HttpReader.readerWait_eq]
  by_cases hk : r.datalen - (r.bufpos + c) ≥ k
  · rw [if_pos hk]
    refine ⟨_, _, rfl, ?_, hg2, ?_, ?_, Or.inl ⟨hk, rfl⟩⟩
    · show r.bufpos + c ≤ r.datalen; omega
    · show r.datalen - (r.bufpos + c) + r.remaining = _; unfold avail; omega
    · show r.datalen - r.bufpos - c ≤ r.datalen - (r.bufpos + c); omega
  · rw [if_neg hk]
    obtain ⟨hkept, q5, hgeo⟩ := prep_spec r c k
    obtain ⟨q1, q2, q3, q4⟩ := hgeo (by omega) hg2
    generalize Percival.Proofs.HttpReader.prep r c k = r2 at hkept q1 q2 q3 q4 q5 ⊢
    obtain ⟨r', a, e, h1, h2, h3, h4, h5, h6⟩ := fill_spec k _ r2 (mu_fuel r2 k)
      ⟨q1, q2, q3, hkept.cancelRecv.trans hcr, hkept.seg ▸ hok⟩
    unfold avail at q4
    refine ⟨r', a, e, by omega, h4, ?_, ?_, ?_⟩
    · unfold avail; omega
    · unfold avail; omega
    · rw [← hkept.endReset]; exact h6

/-- nobody cancels, no `send` fails -/
structure Quiet (r : Reader) : Prop where
  cw : r.cancelWait = none
  cr : r.cancelRecv = none
  fw : r.failWrote = none

/-- **One turn of the environment** when nobody cancels and no `send` fails, from any state: the reader's wait, which
    completes; the request buffers are written while the first wait is pending. -/
theorem readerTurn_eq (r : Reader) (c k : Nat) (hq : Quiet r) :
    ∃ a, readerTurn r c k = ((readerWait { r with nq := r.nq + 1 } c k).1, { wrote := if r.nq == 0 then 2 else 0, arrival := a }) ∧
      (readerWait { r with nq := r.nq + 1 } c k).2 = some a := by
  obtain ⟨a, ha⟩ := (readerWait_kept { r with nq := r.nq + 1 } c k).2 hq.cr
  refine ⟨a, ?_, ha⟩
  simp only [readerTurn, armed, hq.cw, hq.cr, hq.fw]
  obtain ⟨cap, bufpos, datalen, remaining, seg, idx, curseg, endReset, nq, nrecv, cw, cr, fw⟩ := r
  obtain ⟨q1, q2, q3⟩ := hq
  simp only at q1 q2 q3
  subst q1 q2 q3
  generalize readerWait _ c k = p at ha
  obtain ⟨r', x⟩ := p
  cases ha
  simp

theorem readerTurn_quiet : Percival.Proofs.HttpRes.QuietFrom readerTurn Quiet := by
  intro r c k hq
  obtain ⟨a, e, _⟩ := readerTurn_eq r c k hq
  have hk := (readerWait_kept { r with nq := r.nq + 1 } c k).1
  rw [e]
  exact ⟨rfl, rfl, hk.cancelWait.trans hq.cw, hk.cancelRecv.trans hq.cr, hk.failWrote.trans hq.fw⟩

theorem readerTurn_spec (r : Reader) (c k : Nat) (hq : Quiet r) (hc : c ≤ avail r) (hg1 : r.bufpos ≤ r.datalen)
    (hg2 : r.datalen ≤ r.cap) (hok : SegOK r.seg) :
    ∃ r' a w, readerTurn r c k = (r', { wrote := w, wfail := false, cancel := false, arrival := a }) ∧ Kept r r' ∧
      r'.bufpos ≤ r'.datalen ∧ r'.datalen ≤ r'.cap ∧
      avail r' + r'.remaining = avail r - c + r.remaining ∧ avail r - c ≤ avail r' ∧
      Answer k r.endReset r' a := by
  obtain ⟨a, e, ha⟩ := readerTurn_eq r c k hq
  obtain ⟨r', a', e', hk, h1, h2, h3, h4, h5⟩ := readerWait_spec { r with nq := r.nq + 1 } c k hc hg1 hg2 hq.cr hok
  rw [e'] at e ha
  cases ha
  exact ⟨r', a, _, e, ⟨hk.seg, hk.endReset, hk.cancelWait, hk.cancelRecv, hk.failWrote⟩, h1, h2, h3, h4, h5⟩

/-- the reader at a moment when the run has `b` bytes buffered of `rlen` unconsumed ones -/
structure RInv (rd : Reader) (rlen b : Nat) : Prop where
  quiet : Quiet rd
  seg : SegOK rd.seg
  noReset : rd.endReset = false
  g1 : rd.bufpos ≤ rd.datalen
  g2 : rd.datalen ≤ rd.cap
  av : avail rd = b
  rem : b + rd.remaining = rlen

open Percival.Proofs.HttpSeg Percival.Proofs.HttpDecode Percival.Proofs.HttpRes Percival.Proofs.Http

/-- **The scripted reader delivers the stream**: in step with the run, when nobody cancels and no `send` fails, a wait the
    stream can satisfy is answered with data and leaves the reader in step; one it cannot satisfy is answered with EOF. -/
theorem reader_delivers : Delivers (arrivals readerTurn) RInv := by
  intro rd rlen b c k hinv hcb _ _
  obtain ⟨rd', a, w, e, hkept, g1, g2, hsum, _, hans⟩ :=
    readerTurn_spec rd c k hinv.quiet (by rw [hinv.av]; exact hcb) hinv.g1 hinv.g2 hinv.seg
  have hav := hinv.av
  have hrem := hinv.rem
  have hsum' : avail rd' + rd'.remaining = rlen - c := by omega
  rw [hinv.noReset] at hans
  simp only [arrivals, e]
  refine ⟨fun hkr => ?_, fun hkr => ?_⟩
  · rcases hans with ⟨h1, h2⟩ | ⟨h1, h2, _⟩
    · refine ⟨_, h2, ?_⟩
      rw [if_neg (by omega), Nat.add_sub_cancel' h1]
      exact ⟨⟨hkept.cancelWait.trans hinv.quiet.cw, hkept.cancelRecv.trans hinv.quiet.cr, hkept.failWrote.trans hinv.quiet.fw⟩,
        by rw [hkept.seg]; exact hinv.seg, hkept.endReset.trans hinv.noReset, g1, g2, rfl, hsum'⟩
    · omega
  · rcases hans with ⟨h1, _⟩ | ⟨_, _, h3⟩
    · omega
    · exact .inr (by simpa using h3)

/-- **A whole connected request over the scripted reader**: a well-formed response within the client's limits is decoded
    exactly, whatever the script — the resource run is the plain run (`runAllR_erase`), which decodes it (`decode_run`). -/
theorem runAllR_sync (rd0 : Reader) (C : Ctx) (hok : C.OK) (hasBody : Bool)
    (hrd : RInv rd0 (Percival.Spec.HttpResp.serialize C.r C.ishead).length 0) :
    ∃ r' tr', runAllR ovf readerTurn rd0 C.ishead C.max (Percival.Spec.HttpResp.serialize C.r C.ishead) hasBody .connected =
      .ended [some C.resp] false r' tr' := by
  obtain ⟨ws, h⟩ := decode_run ovf (arrivals readerTurn) RInv reader_delivers rd0 C hok.toWF (fun _ _ _ _ => .inl hok.toLim) hrd
  exact eraseOut_callback ((runAllR_erase ovf readerTurn Quiet readerTurn_quiet rd0 _ _ _ hasBody hrd.quiet).trans
    (congrArg some h))

theorem rangeOk_of_respOK (max : Nat) (resp : Option Http.Resp) (h : RespOK max resp) : rangeOk max resp = true := by
  cases resp with
  | none => rfl
  | some x =>
    obtain ⟨h1, h2, h3⟩ := h
    simp only [rangeOk, Bool.and_eq_true, decide_eq_true_eq]
    refine ⟨⟨h1, h2⟩, ?_⟩
    cases hb : x.body with
    | none => rfl
    | some b => rw [hb] at h3; simpa using h3

/-- what a `run` line can answer -/
def RunOK (c : Cfg) (g : Bool) : RunOut → Prop
  | .specMismatch _ => c.wf.isSome = true
  | .fin g' early cb resp _ rok rs _ => g' = g ∧ early = c.early ∧ rok = true ∧ rs.live = [] ∧ rs.fds = 0 ∧ rs.regs = 0 ∧
      (match resp with
       | none => cb = 0
       | some x => cb = 1 ∧ RespOK c.limit x)
  | _ => False

/-- **Every `run` line**, whatever the configuration (any stream, script, end, request, limit, connect / cancel /
    send-failure option): the model never aborts, faults or calls back twice; the line reports a cancelled
    request without callback or exactly one callback whose argument is within the promised ranges, nothing live,
    no descriptor, no registration.  A `spec-mismatch` can only be printed when a response value was given. -/
theorem runCase_ok (c : Cfg) (g : Bool) : RunOK c g (runCase c g) := by
  obtain ⟨cbs, cancelled, r, tr, _, e, he, hc, hn⟩ :=
    Percival.Proofs.HttpRun.runAllR_ended glibcOvf readerTurn (initReader c (Percival.Proofs.HttpRequest.toSpec c.req).wire)
      (HttpRequest.isHead c.req) c.limit c.data (!c.req.body.isEmpty) (preOf c)
  obtain ⟨hlive, _, hregs⟩ := he.clean
  simp only [runCase, Percival.Proofs.HttpRequest.serializeRequest_eq, outcome, e, he.ok]
  cases cancelled with
  | true => exact ⟨rfl, rfl, rfl, hlive, he.fds, hregs, by rw [(hc rfl).1]; rfl⟩
  | false =>
    obtain ⟨resp, rfl, hr, _⟩ := hn rfl
    simp only [Bool.false_eq_true, if_false]
    by_cases hsa : specAgrees c resp = true
    · simp only [hsa, Bool.not_true, Bool.false_eq_true, if_false]
      exact ⟨rfl, rfl, rangeOk_of_respOK _ _ hr, hlive, he.fds, hregs, rfl, hr⟩
    · have hsa' : specAgrees c resp = false := by simpa using hsa
      simp only [hsa', Bool.not_false, if_true, RunOK]
      cases hw : c.wf with
      | none => simp [specAgrees, hw] at hsa
      | some _ => rfl

/-- the environment of a case in which nobody cancels, no `send` fails and the stream ends with EOF is in
    step with the run at its start -/
theorem initReader_inv (c : Cfg) (reqb : List UInt8) (hc : c.cancel = none) (hcr : c.cancelRecv = none)
    (hsf : c.sndfail = none) (hend : c.endReset = false) (hseg : SegOK (segOf c)) :
    RInv (initReader c reqb) c.data.length 0 := by
  refine ⟨⟨hc, hcr, ?_⟩, hseg, hend, Nat.le_refl _, Nat.zero_le _, rfl, by simp [initReader]⟩
  simp [initReader, failAt, hsf]

open Percival.Spec.HttpResp in
/-- **A `run` line of a well-formed case.**  When the case carries a response value `r` whose wire format is the
    server's stream, `r` is well-formed and within the client's limits, its body fits the caller's limit, the
    connection is made, nobody cancels, no `send` fails, the stream ends with EOF, and the `recv` script has no two
    EAGAINs in a row: the line reports exactly one callback with exactly `r`'s status, headers and body. -/
theorem runCase_wellformed (c : Cfg) (g : Bool) (r : Percival.Spec.HttpResp.Resp)
    (hval : c.wf = some r) (hdata : c.data = serialize r (HttpRequest.isHead c.req))
    (hwf : r.WF (HttpRequest.isHead c.req)) (hmax : (expectedBody r (HttpRequest.isHead c.req)).length ≤ c.limit)
    (hsz : r.framing.body.length + 2 ≤ SIZE_MAX)
    (hblocks : (∀ b ∈ r.interim, b.serialize.length ≤ Percival.Gen.Http.MAXHDR + 1) ∧
      r.final.serialize.length ≤ Percival.Gen.Http.MAXHDR + 1)
    (hlines : ∀ cs le tail, r.framing = .chunked cs le tail →
      (∀ c ∈ cs, (hex c.1.length ++ c.2).length + 1 < Percival.Gen.Http.MAXCHLEN) ∧
      ([48] ++ le).length + 1 < Percival.Gen.Http.MAXCHLEN)
    (hc : c.cancel = none) (hcr : c.cancelRecv = none) (hsf : c.sndfail = none) (hconn : c.conn < 2)
    (hend : c.endReset = false) (hseg : SegOK (segOf c)) :
    ∃ sent rs tr, runCase c g = .fin g c.early 1
      (some (some { status := (r.final.status : Int), headers := expectedHeaders r, body := some (expectedBody r (HttpRequest.isHead c.req)) }))
      sent true rs tr := by
  have hpre : preOf c = .connected := by
    simp only [preOf, hc]
    rw [if_neg (by simp), if_neg (by omega)]
  have hinv := initReader_inv c (Percival.Proofs.HttpRequest.toSpec c.req).wire hc hcr hsf hend hseg
  rw [hdata] at hinv
  have hctx : Ctx.OK { r, ishead := HttpRequest.isHead c.req, max := c.limit } := ⟨⟨hwf, hmax, hsz⟩, ⟨hblocks, hlines⟩⟩
  obtain ⟨r', tr', e⟩ := runAllR_sync glibcOvf (initReader c (Percival.Proofs.HttpRequest.toSpec c.req).wire) _ hctx
    (!c.req.body.isEmpty) hinv
  simp only [Ctx.resp, Ctx.status, Ctx.hdrs, Ctx.body] at e
  obtain ⟨_, _, _, _, _, e9, he, _, hn⟩ :=
    Percival.Proofs.HttpRun.runAllR_ended glibcOvf readerTurn (initReader c (Percival.Proofs.HttpRequest.toSpec c.req).wire)
      (HttpRequest.isHead c.req) c.limit (serialize r (HttpRequest.isHead c.req)) (!c.req.body.isEmpty) .connected
  cases e.symm.trans e9
  obtain ⟨resp, e9, hr, _⟩ := hn rfl
  cases e9
  have hsa : specAgrees c (some { status := (r.final.status : Int), headers := expectedHeaders r, body := some (expectedBody r (HttpRequest.isHead c.req)) }) = true := by
    simp only [specAgrees, hval]
    rw [if_neg (by omega)]
    simp
  simp only [runCase, Percival.Proofs.HttpRequest.serializeRequest_eq, outcome, hpre, hdata, e, he.ok, Bool.false_eq_true,
    if_false, hsa, Bool.not_true, rangeOk_of_respOK _ _ hr]
  exact ⟨_, _, _, rfl⟩

/-- a response value kept by `mkWf` has the generated stream as its wire format -/
theorem mkWf_sound (c : Cfg) (f : Percival.Spec.HttpResp.Framing) (r : Percival.Spec.HttpResp.Resp)
    (hne : c.wfBlocks ≠ []) (h : (mkWf c f).1.wf = some r) :
    (mkWf c f).1.data = Percival.Spec.HttpResp.serialize r (HttpRequest.isHead (mkWf c f).1.req) := by
  unfold mkWf at h ⊢
  cases hb : c.wfBlocks with
  | nil => exact absurd hb hne
  | cons final rest =>
    simp only [hb] at h ⊢
    split at h
    · rename_i heq
      simp only [Option.some.injEq] at h
      subst h
      rw [if_pos heq]
      exact (eq_of_beq heq).symm
    · simp at h

open Percival.Proofs.HttpSamples (sample sampleStream)

theorem sample_wf : sample.WF false := by
  refine ⟨?_, ?_, ?_⟩
  · intro b hb
    simp only [sample, List.mem_singleton] at hb
    subst hb
    refine ⟨by decide, by decide, by decide, by decide, by decide, ?_⟩
    intro h hh; simp at hh
  · refine ⟨by decide, by decide, by decide, by decide, by decide, ?_⟩
    intro h hh
    simp only [sample, List.mem_cons, List.mem_nil_iff, or_false] at hh
    rcases hh with rfl | rfl <;> (refine ⟨by decide, by decide, by decide, by decide, by decide, by decide⟩)
  · intro _
    refine ⟨by decide, ?_, by decide, by decide⟩
    intro c hc
    simp only [List.mem_cons, List.mem_nil_iff, or_false] at hc
    rcases hc with rfl | rfl <;> (refine ⟨by decide, by decide, by decide⟩)

/-- the sample response as a well-formed case: `recv` hands over 2 bytes, EAGAIN, 5 bytes, … -/
def exWf : Cfg :=
  { chunks := [Percival.Spec.HttpResp.serialize sample false], seg := .sizes #[2, 0, 5], limit := 3, wf := some sample }

/-- a hostile case: the sample stream cut after 40 bytes, then a connection reset; the caller's limit is 2 -/
def exMal : Cfg := { chunks := [sampleStream.take 40], seg := .sizes #[3], endReset := true, limit := 2 }

/-- One kernel run for the examples of `Properties/C08.lean` about one and the same request (the sample response delivered
    bytewise, a request with a body, nobody cancels, no write fails): everything they read off it. -/
theorem exRun_facts :
    (match runAllR (fun _ _ => 0) (Percival.Proofs.HttpRes.exOracle 1000 1000) 0 false 2 sampleStream true .connected with
     | .ended [some x] false r tr => r.live.isEmpty && r.err.isNone && r.handedBody == 1 && x.body == some [104, 105] &&
         (tr.all (fun s => s.regs == 2) && r.regs == 0 && (cancelR r).err.isSome) && decide (x.status = 200)
     | _ => false) = true := by decide +kernel

/-- `exRun_facts` with the shape of the outcome named -/
theorem exRun_ended :
    ∃ x r tr, runAllR (fun _ _ => 0) (Percival.Proofs.HttpRes.exOracle 1000 1000) 0 false 2 sampleStream true .connected =
        .ended [some x] false r tr ∧
      (r.live.isEmpty && r.err.isNone && r.handedBody == 1 && x.body == some [104, 105] &&
        (tr.all (fun s => s.regs == 2) && r.regs == 0 && (cancelR r).err.isSome) && decide (x.status = 200)) = true := by
  have h := exRun_facts
  generalize runAllR (fun _ _ => 0) (Percival.Proofs.HttpRes.exOracle 1000 1000) 0 false 2 sampleStream true .connected = out at h ⊢
  split at h
  · exact ⟨_, _, _, rfl, h⟩
  · cases h

end Percival.Proofs.HttpStep
