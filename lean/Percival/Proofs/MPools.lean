import Percival.Proofs.DsFrame
/-!
# Several pools of one process (C12): interleaved runs project onto single-pool runs

A source file may instantiate `MPOOL` several times; the pools share nothing but the allocator.  `run` below is the
interleaved run of a family of pools (each operation names the pool it goes to) under one oracle `Mem`.

The allocator *is* shared: between two operations of a pool the other pools make requests, so the request counter
(which names new objects and indexes the oracle) and the ghost counters move.  A pool sees of this exactly `Ext`:
the same decision function, counters not decreased.  `RunI` is the single-pool run `MPool.run` in such an environment
(every step is `MPool.step`; before each step and at the end the environment may have used the allocator); with an idle
environment it is `MPool.run` (`runI_of_run`).

* `run_proj` — **projection**: for every pool `k`, the operations addressed to `k` with the answers they got in the
  interleaved run, and `k`'s final state, are a `RunI` of pool `k` alone from its initial state.
* `runI_refines` — `RunI` keeps the simulation relation `MPool.R` and its trace is admitted by "the set of objects in
  use" (the proof is `MPool.step_ok`, step by step): so `malloc` never hands out an object in use and NULL comes only
  with a refused request, in every pool of every interleaving (`run_refines`), and each pool's exit handler empties its
  cache and releases exactly what the pool holds (`run_exit`).
-/
namespace Percival.Proofs.MPools
open Percival.Model Percival.Model.MPool Percival.Spec.DS
open Percival.Proofs.DsStep (Ext R_transport mp_step_ext)

abbrev Pools := Nat → MP

def upd (ps : Pools) (k : Nat) (p : MP) : Pools := fun j => if j = k then p else ps j

/-- the interleaved run of the pools `ps` under one allocator: `(k, op)` is `op` on pool `k` -/
def run (sz : Nat) (ps : Pools) : List (Nat × MpOp) → Mem → List (Nat × MpOp × MpAns) × Pools × Mem
  | [], m => ([], ps, m)
  | (k, op) :: rest, m =>
    ((k, op, (step sz (ps k) op m).1) :: (run sz (upd ps k (step sz (ps k) op m).2.1) rest (step sz (ps k) op m).2.2).1,
     (run sz (upd ps k (step sz (ps k) op m).2.1) rest (step sz (ps k) op m).2.2).2)

/-- the operations of pool `k` and their answers -/
def proj (k : Nat) (tr : List (Nat × MpOp × MpAns)) : List (MpOp × MpAns) :=
  tr.filterMap fun x => if x.1 = k then some x.2 else none

/-- the single-pool run in an environment that also uses the allocator -/
inductive RunI (sz : Nat) : MP → Mem → List (MpOp × MpAns) → MP → Mem → Prop
  | done {p : MP} {m m' : Mem} : Ext m m' → RunI sz p m [] p m'
  | step {p : MP} {m m1 : Mem} {op : MpOp} {tr : List (MpOp × MpAns)} {p'' : MP} {m'' : Mem} :
      Ext m m1 → RunI sz (MPool.step sz p op m1).2.1 (MPool.step sz p op m1).2.2 tr p'' m'' →
      RunI sz p m ((op, (MPool.step sz p op m1).1) :: tr) p'' m''

theorem RunI.weaken {sz : Nat} {p p' : MP} {m0 m m' : Mem} {tr : List (MpOp × MpAns)} (e : Ext m0 m)
    (h : RunI sz p m tr p' m') : RunI sz p m0 tr p' m' := by
  cases h with
  | done e' => exact .done (e.trans e')
  | step e' h' => exact .step (e.trans e') h'

/-- with an idle environment `RunI` is `MPool.run` -/
theorem runI_of_run (sz : Nat) : ∀ (ops : List MpOp) (p : MP) (m : Mem),
    RunI sz p m (MPool.run sz p ops m).1 (MPool.run sz p ops m).2.1 (MPool.run sz p ops m).2.2
  | [], _, m => .done (Ext.refl m)
  | op :: rest, p, m => by
    have ih := runI_of_run sz rest (MPool.step sz p op m).2.1 (MPool.step sz p op m).2.2
    simp only [MPool.run]
    exact .step (Ext.refl m) ih

/-- **projection**: in an interleaved run, pool `k` makes a single-pool run of its own operations -/
theorem run_proj (sz : Nat) (k : Nat) : ∀ (ops : List (Nat × MpOp)) (ps : Pools) (m : Mem),
    RunI sz (ps k) m (proj k (run sz ps ops m).1) ((run sz ps ops m).2.1 k) (run sz ps ops m).2.2
  | [], _, m => .done (Ext.refl m)
  | (j, op) :: rest, ps, m => by
    have ih := run_proj sz k rest (upd ps j (step sz (ps j) op m).2.1) (step sz (ps j) op m).2.2
    simp only [run, proj, List.filterMap_cons]
    by_cases hj : j = k
    · subst hj
      simp only [if_true]
      simp only [upd, if_true] at ih
      exact .step (Ext.refl m) ih
    · simp only [hj, if_false]
      have hk : upd ps j (step sz (ps j) op m).2.1 k = ps k := by
        simp only [upd]; rw [if_neg (fun h => hj h.symm)]
      rw [hk] at ih
      exact RunI.weaken (mp_step_ext sz (ps j) op m) ih

/-- a pool the operations never name is left alone -/
theorem run_frame (sz : Nat) (k : Nat) : ∀ (ops : List (Nat × MpOp)) (ps : Pools) (m : Mem),
    (∀ x ∈ ops, x.1 ≠ k) → (run sz ps ops m).2.1 k = ps k
  | [], _, _, _ => rfl
  | (j, op) :: rest, ps, m, h => by
    have hj : j ≠ k := h (j, op) List.mem_cons_self
    simp only [run]
    rw [run_frame sz k rest _ _ (fun x hx => h x (List.mem_cons_of_mem _ hx))]
    simp only [upd]; rw [if_neg (fun e => hj e.symm)]

/-- the caller's contract along a trace: only objects held are freed -/
def Held : List Nat → List (MpOp × MpAns) → Prop
  | _, [] => True
  | u, (op, an) :: rest =>
    (match op with | .free x => x ∈ u | .malloc => True) ∧ ∀ u', mpAdmit u op an = some u' → Held u' rest

/-- **a single-pool run in an environment refines "the set of objects in use"** and keeps `MPool.R` (with the
environment's blocks as part of the base) -/
theorem runI_refines {sz : Nat} {p p' : MP} {m m' : Mem} {tr : List (MpOp × MpAns)} (h : RunI sz p m tr p' m') :
    ∀ (u : List Nat) (base : Int), MPool.R p m u base → Held u tr →
    ∃ u' base', mpAdmitAll u tr = some u' ∧ MPool.R p' m' u' base' := by
  induction h with
  | @done p m m' e =>
    intro u base hR _
    exact ⟨u, base + (m'.live - m.live), rfl, R_transport hR e (by omega)⟩
  | @step p m m1 op tr p'' m'' e _ ih =>
    intro u base hR hH
    have hR1 : MPool.R p m1 u (base + (m1.live - m.live)) := R_transport hR e (by omega)
    obtain ⟨u1, ha, hR2⟩ := MPool.step_ok sz p op m1 u _ hR1 hH.1
    obtain ⟨u', b', ha', hR'⟩ := ih u1 _ hR2 (hH.2 u1 ha)
    exact ⟨u', b', by simp only [mpAdmitAll, ha]; exact ha', hR'⟩

/-- **every pool of every interleaving**: from pools in their load-time state (any cache sizes), the answers pool `k`
gave are admitted by `k`'s own set of objects in use — `malloc` never returns an object that is still in use — and `k`
ends in a state satisfying `R` -/
theorem run_refines (sz : Nat) (sizes : Nat → Nat) (k : Nat) (ops : List (Nat × MpOp)) (m : Mem)
    (hH : Held [] (proj k (run sz (fun j => MPool.init (sizes j)) ops m).1)) :
    ∃ u' base', mpAdmitAll [] (proj k (run sz (fun j => MPool.init (sizes j)) ops m).1) = some u' ∧
      MPool.R ((run sz (fun j => MPool.init (sizes j)) ops m).2.1 k) (run sz (fun j => MPool.init (sizes j)) ops m).2.2
        u' base' :=
  runI_refines (run_proj sz k ops (fun j => MPool.init (sizes j)) m) [] m.live (MPool.init_R (sizes k) m) hH

/-- … and at exit pool `k`'s handler leaves nothing cached: the cache is empty and what stays allocated of the pool
is exactly its objects in use -/
theorem run_exit (sz : Nat) (sizes : Nat → Nat) (k : Nat) (ops : List (Nat × MpOp)) (m : Mem)
    (hH : Held [] (proj k (run sz (fun j => MPool.init (sizes j)) ops m).1)) :
    ∃ u' base', mpAdmitAll [] (proj k (run sz (fun j => MPool.init (sizes j)) ops m).1) = some u' ∧
      (MPool.atexit ((run sz (fun j => MPool.init (sizes j)) ops m).2.1 k)
        (run sz (fun j => MPool.init (sizes j)) ops m).2.2).1.stack = [] ∧
      (MPool.atexit ((run sz (fun j => MPool.init (sizes j)) ops m).2.1 k)
        (run sz (fun j => MPool.init (sizes j)) ops m).2.2).2.live = base' + u'.length := by
  obtain ⟨u', b', ha, hR⟩ := run_refines sz sizes k ops m hH
  have he := MPool.atexit_spec _ _ u' b' hR
  exact ⟨u', b', ha, he.1, he.2.2⟩

end Percival.Proofs.MPools
