import Percival.Model.Heap
/-!
# C13: the heap's primitives, the order predicates, sift-up

The order predicates are stated for a *prefix* `N ≤ h.a.size` of the array, as `heapify` takes the number of
slots it works on; `ptrheap_delete` calls it on an array whose last slot holds a stale copy of the element that was
moved into the hole (`Proofs/HeapDelete.lean` shows that this slot may as well be dropped first, so the operations
use the predicates with `N = h.a.size`).
-/
namespace Percival.Proofs.Heap
open Percival.Model.Heap

theorem posOf_cons (a : Array Nat) (l : List (Nat × Nat)) (x i e : Nat) :
    posOf { a := a, log := (x, i) :: l } e = if e = x then some i else posOf { a := a, log := l } e := by
  unfold posOf
  simp only [List.find?_cons]
  by_cases h : e = x
  · subst h; simp
  · have : (x == e) = false := by simp; omega
    simp [this, h]

theorem posOf_congr (h h' : Heap) (hl : h.log = h'.log) (e : Nat) : posOf h e = posOf h' e := by
  unfold posOf; rw [hl]

theorem lt_of_get {a : Array Nat} {i x : Nat} (h : a[i]? = some x) : i < a.size :=
  (Array.getElem?_eq_some_iff.mp h).1

theorem mem_iff_get (a : Array Nat) (e : Nat) : e ∈ a.toList ↔ ∃ i : Nat, a[i]? = some e := by
  rw [Array.mem_toList_iff, Array.mem_iff_getElem?]

theorem parent_lt {i : Nat} (h0 : 0 < i) : (i-1)/2 < i := by omega

theorem parent_le (i : Nat) : (i-1)/2 ≤ i := by omega

theorem child_cases {i x : Nat} (h0 : 0 < i) (hp : (i-1)/2 = x) : i = 2*x+1 ∨ i = 2*x+2 := by omega

theorem swap_eq (b : Bool) (h : Heap) (i j : Nat) (hi : i < h.a.size) (hj : j < h.a.size) :
    swap b h i j = ⟨h.a.swap i j hi hj, if b then (h.a[i], j) :: (h.a[j], i) :: h.log else h.log⟩ := by
  simp only [swap, hi, hj, dite_true]
  cases b <;> rfl

theorem swap_a (b : Bool) (h : Heap) (i j : Nat) (hi : i < h.a.size) (hj : j < h.a.size) :
    (swap b h i j).a = h.a.swap i j hi hj :=
  congrArg Heap.a (swap_eq b h i j hi hj)

theorem swap_of_not (b : Bool) (h : Heap) (i j : Nat) (hij : ¬ (i < h.a.size ∧ j < h.a.size)) :
    swap b h i j = h := by
  unfold swap
  split
  · split
    · exact absurd ⟨‹_›, ‹_›⟩ hij
    · rfl
  · rfl

theorem swap_get (b : Bool) (h : Heap) (i j k : Nat) (hi : i < h.a.size) (hj : j < h.a.size) :
    (swap b h i j).a[k]? = if k = i then h.a[j]? else if k = j then h.a[i]? else h.a[k]? := by
  rw [swap_a b h i j hi hj, Array.getElem?_swap]
  by_cases h1 : k = i
  · subst h1
    by_cases h2 : j = k
    · subst h2; simp only [eq_self, ↓reduceIte, Array.getElem?_eq_getElem hj]
    · simp only [h2, eq_self, ↓reduceIte, Array.getElem?_eq_getElem hj]
  · by_cases h2 : k = j
    · subst h2; simp only [h1, eq_self, ↓reduceIte, Array.getElem?_eq_getElem hi]
    · simp only [h1, h2, Ne.symm h1, Ne.symm h2, ↓reduceIte]

theorem swap_log_false (h : Heap) (i j : Nat) : (swap false h i j).log = h.log := by
  by_cases hij : i < h.a.size ∧ j < h.a.size
  · rw [swap_eq false h i j hij.1 hij.2]; rfl
  · rw [swap_of_not false h i j hij]

theorem swap_posOf (h : Heap) (i j x y : Nat) (hx : h.a[i]? = some x) (hy : h.a[j]? = some y) (e : Nat) :
    posOf (swap true h i j) e = if e = x then some j else if e = y then some i else posOf h e := by
  obtain ⟨hi, rfl⟩ := Array.getElem?_eq_some_iff.mp hx
  obtain ⟨hj, rfl⟩ := Array.getElem?_eq_some_iff.mp hy
  rw [swap_eq true h i j hi hj, if_pos rfl, posOf_cons, posOf_cons]
  rfl

theorem swap_perm (b : Bool) (h : Heap) (i j : Nat) : (swap b h i j).a.toList.Perm h.a.toList := by
  by_cases hij : i < h.a.size ∧ j < h.a.size
  · rw [swap_a b h i j hij.1 hij.2]
    exact Array.perm_iff_toList_perm.mp (Array.swap_perm hij.1 hij.2)
  · rw [swap_of_not b h i j hij]

theorem swap_size (b : Bool) (h : Heap) (i j : Nat) : (swap b h i j).a.size = h.a.size := by
  simpa using (swap_perm b h i j).length_eq

/-- How an edge `(i-1)/2 — i` of the array reads after the edge `(c-1)/2 — c` was exchanged: it is that
    edge itself, the edge above it, an edge below `c`, the edge to the sibling of `c`, or untouched. -/
theorem swap_edge (b : Bool) (h : Heap) (c i u v : Nat) (hc0 : 0 < c) (hc : c < h.a.size) (hi0 : 0 < i)
    (hu : (swap b h c ((c-1)/2)).a[i]? = some u) (hv : (swap b h c ((c-1)/2)).a[(i-1)/2]? = some v) :
    (i = c ∧ h.a[(c-1)/2]? = some u ∧ h.a[c]? = some v) ∨
    (i = (c-1)/2 ∧ h.a[c]? = some u ∧ h.a[(i-1)/2]? = some v) ∨
    ((i-1)/2 = c ∧ h.a[i]? = some u ∧ h.a[(c-1)/2]? = some v) ∨
    ((i-1)/2 = (c-1)/2 ∧ i ≠ c ∧ h.a[i]? = some u ∧ h.a[c]? = some v) ∨
    (i ≠ c ∧ (i-1)/2 ≠ c ∧ (i-1)/2 ≠ (c-1)/2 ∧ h.a[i]? = some u ∧ h.a[(i-1)/2]? = some v) := by
  have hpc := parent_lt hc0
  have hpi := parent_lt hi0
  rw [swap_get b h _ _ _ hc (Nat.lt_trans hpc hc)] at hu hv
  by_cases h1 : i = c
  · subst h1
    rw [if_pos rfl] at hu
    rw [if_neg (Nat.ne_of_lt hpi), if_pos rfl] at hv
    exact .inl ⟨rfl, hu, hv⟩
  · rw [if_neg h1] at hu
    by_cases h2 : i = (c-1)/2
    · rw [if_pos h2] at hu
      rw [if_neg (Nat.ne_of_lt (Nat.lt_trans hpi (h2 ▸ hpc))), if_neg (h2 ▸ Nat.ne_of_lt hpi)] at hv
      exact .inr (.inl ⟨h2, hu, hv⟩)
    · rw [if_neg h2] at hu
      by_cases h3 : (i-1)/2 = c
      · rw [if_pos h3] at hv
        exact .inr (.inr (.inl ⟨h3, hu, hv⟩))
      · rw [if_neg h3] at hv
        by_cases h4 : (i-1)/2 = (c-1)/2
        · rw [if_pos h4] at hv
          exact .inr (.inr (.inr (.inl ⟨h4, h1, hu, hv⟩)))
        · rw [if_neg h4] at hv
          exact .inr (.inr (.inr (.inr ⟨h1, h3, h4, hu, hv⟩)))

def DistinctN (h : Heap) (N : Nat) : Prop :=
  ∀ i j x, i < N → j < N → h.a[i]? = some x → h.a[j]? = some x → i = j

structure Handles (h : Heap) : Prop where
  distinct : ∀ i j x : Nat, h.a[i]? = some x → h.a[j]? = some x → i = j
  pos : ∀ i x : Nat, h.a[i]? = some x → posOf h x = some i

variable (key : Nat → Int)

def OrderedFrom (h : Heap) (N lo : Nat) : Prop :=
  ∀ i c q, 0 < i → i < N → lo ≤ (i-1)/2 → h.a[i]? = some c → h.a[(i-1)/2]? = some q → key q ≤ key c

def OrderedN (h : Heap) (N : Nat) : Prop :=
  ∀ i c q, 0 < i → i < N → h.a[i]? = some c → h.a[(i-1)/2]? = some q → key q ≤ key c

def OrderedExcept (h : Heap) (N x : Nat) : Prop :=
  ∀ i c q, 0 < i → i < N → i ≠ x → h.a[i]? = some c → h.a[(i-1)/2]? = some q → key q ≤ key c

/-- while sifting up: the children of `x` are `≥` the parent of `x` -/
def GrandOK (h : Heap) (N x : Nat) : Prop :=
  ∀ c e q, 0 < x → 0 < c → c < N → (c - 1) / 2 = x → h.a[c]? = some e → h.a[(x-1)/2]? = some q → key q ≤ key e

def OrderedBelowExcept (h : Heap) (N lo x : Nat) : Prop :=
  ∀ i c q, 0 < i → i < N → lo ≤ (i-1)/2 → (i-1)/2 ≠ x → h.a[i]? = some c → h.a[(i-1)/2]? = some q → key q ≤ key c

/-- while sifting down: the children of `x` are `≥` the parent of `x` (if that edge is in scope) -/
def ParentOK (h : Heap) (N lo x : Nat) : Prop :=
  ∀ c e q, 0 < x → lo ≤ (x-1)/2 → c < N → 0 < c → (c - 1) / 2 = x → h.a[c]? = some e → h.a[(x-1)/2]? = some q → key q ≤ key e

theorem orderedFrom_zero (h : Heap) (N : Nat) : OrderedFrom key h N 0 ↔ OrderedN key h N :=
  ⟨fun H i c q h1 h2 => H i c q h1 h2 (Nat.zero_le _), fun H i c q h1 h2 _ => H i c q h1 h2⟩

theorem swap_distinct (b : Bool) (h : Heap) (N i j : Nat) (hN : N ≤ h.a.size) (hi : i < N) (hj : j < N)
    (hd : DistinctN h N) : DistinctN (swap b h i j) N := by
  intro k l x hk hl hkx hlx
  rw [swap_get b h _ _ _ (by omega) (by omega)] at hkx hlx
  have d1 := hd k l x hk hl
  have d2 := hd k i x hk hi; have d3 := hd k j x hk hj
  have d4 := hd l i x hl hi; have d5 := hd l j x hl hj
  have d6 := hd i j x hi hj; have d7 := hd j i x hj hi
  grind

theorem swap_handles (h : Heap) (i j : Nat) (hi : i < h.a.size) (hj : j < h.a.size) (hh : Handles h) :
    Handles (swap true h i j) := by
  refine ⟨fun k l x hk hl => ?_, fun k e hke => ?_⟩
  · have hs := swap_size true h i j
    exact swap_distinct true h _ i j (Nat.le_refl _) hi hj (fun i j x _ _ => hh.distinct i j x) k l x
      (hs ▸ lt_of_get hk) (hs ▸ lt_of_get hl) hk hl
  · obtain ⟨x, hx⟩ : ∃ x, h.a[i]? = some x := ⟨_, Array.getElem?_eq_getElem hi⟩
    obtain ⟨y, hy⟩ : ∃ y, h.a[j]? = some y := ⟨_, Array.getElem?_eq_getElem hj⟩
    rw [swap_posOf h i j _ _ hx hy]
    rw [swap_get true h _ _ _ hi hj] at hke
    have d2 := hh.distinct k i e; have d3 := hh.distinct k j e
    have d6 := hh.distinct i j e
    have p1 := hh.pos k e
    grind

theorem siftUp_succ (b : Bool) (f : Nat) (h : Heap) (x : Nat) :
    siftUp key b (f+1) h x =
      match h.a[x]?, h.a[(x-1)/2]? with
      | some c, some q =>
        if x ≠ 0 ∧ key c < key q then siftUp key b f (swap b h x ((x-1)/2)) ((x-1)/2) else h
      | _, _ => h := by
  rw [siftUp]
  by_cases h0 : x = 0
  · rw [if_pos h0]; subst h0; split <;> simp
  · rw [if_neg h0]
    by_cases hx : x < h.a.size
    · have hp : (x-1)/2 < h.a.size := Nat.lt_of_le_of_lt (parent_le x) hx
      rw [dif_pos hx, Array.getElem?_eq_getElem hx, Array.getElem?_eq_getElem hp]
      simp only [ge_iff_le, ne_eq, h0, not_false_eq_true, true_and, Int.not_le.symm, ite_not]
    · rw [dif_neg hx, Array.getElem?_eq_none (Nat.le_of_not_lt hx)]

theorem siftUp_perm (b : Bool) (f : Nat) (h : Heap) (x : Nat) :
    (siftUp key b f h x).a.toList.Perm h.a.toList := by
  fun_induction siftUp key b f h x with
  | case4 f h x _ _ _ _ ih => exact ih.trans (swap_perm b h _ _)
  | _ => exact List.Perm.refl _

theorem siftUp_size (b : Bool) (f : Nat) (h : Heap) (x : Nat) : (siftUp key b f h x).a.size = h.a.size := by
  simpa using (siftUp_perm key b f h x).length_eq

theorem siftUp_handles (f : Nat) (h : Heap) (x : Nat) (hh : Handles h) : Handles (siftUp key true f h x) := by
  fun_induction siftUp key true f h x with
  | case4 f h x _ hx hp _ ih => exact ih (swap_handles h _ _ hx hp hh)
  | _ => exact hh

/-- Where `heapifyup` stops, the one edge that was in doubt is in order. -/
theorem orderedN_of_except (h : Heap) (N x : Nat) (hex : OrderedExcept key h N x)
    (hx : ∀ c q, 0 < x → h.a[x]? = some c → h.a[(x-1)/2]? = some q → key q ≤ key c) : OrderedN key h N := by
  intro i c q hi hiN hc hq
  by_cases hix : i = x
  · subst hix; exact hx c q hi hc hq
  · exact hex i c q hi hiN hix hc hq

/-- One step of `heapifyup`: the element at `x` is smaller than its parent; after the exchange the edge
    in doubt is the one above the parent. -/
theorem swap_up_ordered (b : Bool) (h : Heap) (N x c q : Nat) (hx0 : 0 < x)
    (hc : h.a[x]? = some c) (hq : h.a[(x-1)/2]? = some q) (hlt : key c < key q)
    (hex : OrderedExcept key h N x) (hg : GrandOK key h N x) :
    OrderedExcept key (swap b h x ((x-1)/2)) N ((x-1)/2) ∧ GrandOK key (swap b h x ((x-1)/2)) N ((x-1)/2) := by
  have hx := lt_of_get hc
  have hp := lt_of_get hq
  have hpx := parent_lt hx0
  constructor
  · intro i u v hi0 hiN hip hu hv
    rcases swap_edge b h x i u v hx0 hx hi0 hu hv with
      ⟨rfl, hu, hv⟩ | ⟨h2, _⟩ | ⟨h3, hu, hv⟩ | ⟨h4, h1, hu, hv⟩ | ⟨h1, _, _, hu, hv⟩
    · cases hq.symm.trans hu; cases hc.symm.trans hv; exact Int.le_of_lt hlt
    · exact absurd h2 hip
    · exact hg i u v hx0 hi0 hiN h3 hu hv
    · cases hc.symm.trans hv
      exact Int.le_trans (Int.le_of_lt hlt) (hex i u q hi0 hiN h1 hu (h4 ▸ hq))
    · exact hex i u v hi0 hiN h1 hu hv
  · intro i u v hp0 hi0 hiN hip hu hv
    have hpp := parent_lt hp0
    have hpi : (x-1)/2 < i := hip ▸ parent_lt hi0
    rw [swap_get b h _ _ _ hx hp, if_neg (Nat.ne_of_lt (Nat.lt_trans hpp hpx)), if_neg (Nat.ne_of_lt hpp)] at hv
    have hqv := hex _ q v hp0 (Nat.lt_trans hpi hiN) (Nat.ne_of_lt hpx) hq hv
    rw [swap_get b h _ _ _ hx hp] at hu
    split at hu
    · cases hq.symm.trans hu; exact hqv
    · rw [if_neg (Nat.ne_of_gt hpi)] at hu
      exact Int.le_trans hqv (hex i u q hi0 hiN ‹_› hu (hip ▸ hq))

theorem siftUp_ordered (b : Bool) (f : Nat) (h : Heap) (N x : Nat) (hN : N ≤ h.a.size) (hfuel : x ≤ 2 * f)
    (hex : OrderedExcept key h N x) (hg : GrandOK key h N x) : OrderedN key (siftUp key b f h x) N := by
  fun_induction siftUp key b f h x with
  | case1 h x => exact orderedN_of_except key h N x hex (fun _ _ h0 => absurd h0 (by omega))
  | case2 f h => exact orderedN_of_except key h N 0 hex (fun _ _ h0 => absurd h0 (Nat.lt_irrefl 0))
  | case3 f h x _ hx hp hge =>
    refine orderedN_of_except key h N x hex fun c q _ hc hq => ?_
    rw [Array.getElem?_eq_getElem hx] at hc
    rw [Array.getElem?_eq_getElem hp] at hq
    cases hc; cases hq; exact hge
  | case4 f h x hx0 hx hp hlt ih =>
    obtain ⟨hex', hg'⟩ := swap_up_ordered key b h N x _ _ (Nat.pos_of_ne_zero hx0) (Array.getElem?_eq_getElem hx)
      (Array.getElem?_eq_getElem hp) (Int.lt_of_not_ge hlt) hex hg
    exact ih (by rw [swap_size]; exact hN) (by omega) hex' hg'
  | case5 f h x _ hx =>
    refine orderedN_of_except key h N x hex fun c q _ hc _ => ?_
    exact absurd (lt_of_get hc) hx

end Percival.Proofs.Heap
