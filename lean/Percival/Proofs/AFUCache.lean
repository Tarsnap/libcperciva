import Percival.Proofs.AllocFailUpper
/-!
# C14, upper layers: the cache of the cookie pools of `network_read.c` / `network_write.c`, and the pools' exit handlers

A cancelled cookie is *parked*: its block moves from `live` to `cache`, and its id goes onto the stack of its pool
(`mpool.h`).  The invariant's clause about a pool and the cache, `PoolOk`, is seven statements about membership.  This
file puts a representation of its own beside it, which a walk through `mpool_malloc` / `mpool_free` / `mpool_atexit`
can carry from step to step: site by site, a fact about the list of the cache's blocks of that site (`ofSite u c`).

* `PoolRep p s t c`: the ids of the blocks of the cookies' site `s` are, up to order, the pool's stack, and there is one
  block of the stack array's site `t` or none, as the pool's flag says.  Under distinct block ids this is `PoolOk`
  (`PoolOk.rep`, `PoolRep.ok`); `CacheOk` is what the invariant says about the cache, in these terms.
* Every step of a pool takes one block out of the cache (`c.Perm (b :: c1)`) or puts one in (`b :: c`), and filtering
  such an equation by site says what happens to each `ofSite u`: the two sites of the pool change by that block, every
  other site keeps its blocks (`CacheFrame`), which is all that the other pool's `PoolRep` reads (`PoolRep.frame`).
* `poolMalloc_rep` / `poolFree_rep` / `poolAtexit_rep` say, once and generically in the pool, its site and its stack
  array's site, what the three calls do to the block lists, the oracle, `PoolRep` and the frame.
-/
namespace Percival.Proofs.AllocFailUpper
open Percival.Model Percival.Model.EvReg Percival.Model.AllocFail
open Percival.Proofs.EvRegTimer (Step)
open Percival.Proofs.EArray (malloc_ok malloc_fail free_facts)

/-! ## lists of blocks -/

theorem perm_eraseSite {l : List Block} {s : Site} {b : Block} (h : l.find? (·.site == s) = some b) :
    l.Perm (b :: eraseSite l s) :=
  eraseSite_eq s l ▸ perm_eraseP h

theorem perm_park {l : List Block} {id : Nat} {b : Block} (hf : findId l id = some b) (X : List Block) :
    (eraseId l id ++ b :: X).Perm (l ++ X) :=
  List.perm_middle.trans ((perm_eraseId hf).symm.append_right X)

/-! ## the blocks of one site -/

abbrev ofSite (u : Site) (c : List Block) : List Block := c.filter (·.site == u)

theorem ofSite_cons_eq {u : Site} {b : Block} (c : List Block) (h : b.site = u) : ofSite u (b :: c) = b :: ofSite u c :=
  List.filter_cons_of_pos (by simpa using h)

theorem ofSite_cons_ne {u : Site} {b : Block} (c : List Block) (h : b.site ≠ u) : ofSite u (b :: c) = ofSite u c :=
  List.filter_cons_of_neg (by simpa using h)

theorem mem_ofSite {u : Site} {b : Block} {c : List Block} : b ∈ ofSite u c ↔ b ∈ c ∧ b.site = u := by
  simp only [List.mem_filter, beq_iff_eq]

/-- a block of another site taken out -/
theorem ofSite_drop {u : Site} {b : Block} {c c1 : List Block} (hp : c.Perm (b :: c1)) (hs : b.site ≠ u) :
    (ofSite u c1).Perm (ofSite u c) := by
  have : (ofSite u c).Perm (ofSite u (b :: c1)) := hp.filter _
  rw [ofSite_cons_ne c1 hs] at this
  exact this.symm

/-- a block of this site taken out -/
theorem ofSite_take {u : Site} {b : Block} {c c1 : List Block} (hp : c.Perm (b :: c1)) (hs : b.site = u) :
    (ofSite u c).Perm (b :: ofSite u c1) := by
  have : (ofSite u c).Perm (ofSite u (b :: c1)) := hp.filter _
  rw [ofSite_cons_eq c1 hs] at this
  exact this

/-! ## a pool and the cache -/

/-- a cookie pool and the cache agree: the parked cookies of its site are the ids on its stack, and its stack array
is in the cache iff it was allocated -/
structure PoolRep (p : MPool.MP) (s t : Site) (c : List Block) : Prop where
  len : p.stacklen = p.stack.length
  ids : ((ofSite s c).map (·.id)).Perm p.stack
  arr : (ofSite t c).length = if p.dyn then 1 else 0

/-- the sites of the blocks that can be in the cache: the two pools' cookies and stack arrays -/
abbrev poolSite (u : Site) : Prop := u = .rdCookie ∨ u = .wrCookie ∨ u = .rdStack ∨ u = .wrStack

/-- what the invariant says about the cache -/
structure CacheOk (rd wr : MPool.MP) (c : List Block) : Prop where
  sites : ∀ b ∈ c, poolSite b.site
  rd : PoolRep rd .rdCookie .rdStack c
  wr : PoolRep wr .wrCookie .wrStack c

theorem eq_of_length_le_one {α : Type} : ∀ {l : List α} {a b : α}, l.length ≤ 1 → a ∈ l → b ∈ l → a = b
  | [x], _, _, _, ha, hb => (List.mem_singleton.1 ha).trans (List.mem_singleton.1 hb).symm
  | _ :: _ :: _, _, _, h, _, _ => absurd h (by simp)

theorem nodup_ofSite {c : List Block} (hcn : (c.map (·.id)).Nodup) (u : Site) : ((ofSite u c).map (·.id)).Nodup :=
  (List.filter_sublist.map _).nodup hcn

variable {p : MPool.MP} {s t : Site} {c : List Block}

theorem PoolOk.rep (h : PoolOk p s t c) (hcn : (c.map (·.id)).Nodup) : PoolRep p s t c := by
  refine ⟨h.len, (List.perm_ext_iff_of_nodup (nodup_ofSite hcn s) h.nodup).2 fun x => ⟨fun hx => ?_, fun hx => ?_⟩, ?_⟩
  · obtain ⟨b, hb, rfl⟩ := List.mem_map.1 hx
    exact h.fromCache b (mem_ofSite.1 hb).1 (mem_ofSite.1 hb).2
  · obtain ⟨b, hb, rfl, hs⟩ := h.inCache x hx
    exact List.mem_map_of_mem (mem_ofSite.2 ⟨hb, hs⟩)
  · cases hd : p.dyn with
    | false => exact List.length_eq_zero_iff.2 (List.eq_nil_iff_forall_not_mem.2 fun b hb =>
        h.arr1 hd b (mem_ofSite.1 hb).1 (mem_ofSite.1 hb).2)
    | true =>
      obtain ⟨b, hb, hs⟩ := h.arr hd
      -- the blocks of the array's site have distinct ids and are all equal to `b`
      have hn := nodup_ofSite hcn t
      rw [List.eq_replicate_of_mem fun y hy => h.arrU y (mem_ofSite.1 hy).1 b hb (mem_ofSite.1 hy).2 hs, List.map_replicate,
        List.nodup_replicate] at hn
      have := List.length_pos_of_mem (mem_ofSite.2 ⟨hb, hs⟩)
      show (ofSite t c).length = 1
      omega

theorem PoolRep.ok (h : PoolRep p s t c) (hcn : (c.map (·.id)).Nodup) : PoolOk p s t c := by
  refine ⟨h.len, h.ids.nodup_iff.1 (nodup_ofSite hcn s), fun x hx => ?_, fun b hb hs => ?_, fun hd => ?_, fun hd b hb hs => ?_,
    fun b hb b' hb' hs hs' => ?_⟩
  · obtain ⟨b, hb, rfl⟩ := List.mem_map.1 (h.ids.mem_iff.2 hx)
    exact ⟨b, (mem_ofSite.1 hb).1, rfl, (mem_ofSite.1 hb).2⟩
  · exact h.ids.mem_iff.1 (List.mem_map_of_mem (mem_ofSite.2 ⟨hb, hs⟩))
  · obtain ⟨b, hb⟩ := List.exists_mem_of_length_pos (l := ofSite t c) (by rw [h.arr, hd]; exact Nat.one_pos)
    exact ⟨b, (mem_ofSite.1 hb).1, (mem_ofSite.1 hb).2⟩
  · have := h.arr
    rw [hd] at this
    exact absurd (mem_ofSite.2 ⟨hb, hs⟩) (by rw [List.length_eq_zero_iff.1 this]; exact List.not_mem_nil)
  · exact eq_of_length_le_one (l := ofSite t c) (by rw [h.arr]; split <;> omega) (mem_ofSite.2 ⟨hb, hs⟩) (mem_ofSite.2 ⟨hb', hs'⟩)

/-! ## what a call into one pool leaves alone -/

/-- outside the sites `s`, `t` the cache `c1` has the blocks of `c` -/
def CacheFrame (s t : Site) (c c1 : List Block) : Prop := ∀ u, u ≠ s → u ≠ t → (ofSite u c1).Perm (ofSite u c)

theorem CacheFrame.refl (s t : Site) (c : List Block) : CacheFrame s t c c := fun _ _ _ => .refl _

/-- a pool does not notice what happens to the blocks of another pool -/
theorem PoolRep.frame {s' t' : Site} {c1 : List Block} (h : PoolRep p s' t' c) (hf : CacheFrame s t c c1)
    (h1 : s' ≠ s) (h2 : s' ≠ t) (h3 : t' ≠ s) (h4 : t' ≠ t) : PoolRep p s' t' c1 :=
  ⟨h.len, ((hf s' h1 h2).map _).trans h.ids, (hf t' h3 h4).length_eq.trans h.arr⟩

theorem CacheFrame.sites {c1 : List Block} (hf : CacheFrame s t c c1) (hc : ∀ b ∈ c, poolSite b.site)
    (hs : poolSite s) (ht : poolSite t) : ∀ b ∈ c1, poolSite b.site := by
  intro b hb
  by_cases h1 : b.site = s
  · rw [h1]; exact hs
  · by_cases h2 : b.site = t
    · rw [h2]; exact ht
    · exact hc b (mem_ofSite.1 ((hf b.site h1 h2).mem_iff.1 (mem_ofSite.2 ⟨hb, rfl⟩))).1

/-- when no block of the two sites is left: every block is one the cache had before, of another site -/
theorem CacheFrame.rest {c1 : List Block} (hf : CacheFrame s t c c1) (h1 : ofSite s c1 = []) (h2 : ofSite t c1 = []) :
    ∀ b ∈ c1, b ∈ c ∧ b.site ≠ s ∧ b.site ≠ t := by
  intro b hb
  have hs : b.site ≠ s := fun e => absurd (mem_ofSite.2 ⟨hb, e⟩) (by rw [h1]; exact List.not_mem_nil)
  have ht : b.site ≠ t := fun e => absurd (mem_ofSite.2 ⟨hb, e⟩) (by rw [h2]; exact List.not_mem_nil)
  exact ⟨(mem_ofSite.1 ((hf b.site hs ht).mem_iff.1 (mem_ofSite.2 ⟨hb, rfl⟩))).1, hs, ht⟩

theorem CacheOk.rdStep {rd rd' wr : MPool.MP} {c1 : List Block} (h : CacheOk rd wr c)
    (hf : CacheFrame .rdCookie .rdStack c c1) (hp : PoolRep rd' .rdCookie .rdStack c1) : CacheOk rd' wr c1 :=
  ⟨hf.sites h.sites (.inl rfl) (.inr (.inr (.inl rfl))), hp,
   h.wr.frame hf (by decide) (by decide) (by decide) (by decide)⟩

theorem CacheOk.wrStep {rd wr wr' : MPool.MP} {c1 : List Block} (h : CacheOk rd wr c)
    (hf : CacheFrame .wrCookie .wrStack c c1) (hp : PoolRep wr' .wrCookie .wrStack c1) : CacheOk rd wr' c1 :=
  ⟨hf.sites h.sites (.inr (.inl rfl)) (.inr (.inr (.inr rfl))),
   h.rd.frame hf (by decide) (by decide) (by decide) (by decide), hp⟩

/-! ## a block leaves the cache, or enters it -/

/-- the block of site `s` whose id heads the pool's stack is in the cache; what is left when it is taken out -/
theorem cache_take {x : Nat} {rest : List Nat} (hcn : (c.map (·.id)).Nodup)
    (hi : ((ofSite s c).map (·.id)).Perm (x :: rest)) :
    ∃ sz, findId c x = some ⟨x, s, sz⟩ ∧ c.Perm (⟨x, s, sz⟩ :: eraseId c x) ∧
      ((ofSite s (eraseId c x)).map (·.id)).Perm rest ∧ ∀ u, u ≠ s → (ofSite u (eraseId c x)).Perm (ofSite u c) := by
  obtain ⟨⟨_, _, sz⟩, hb, rfl⟩ := List.mem_map.1 (hi.mem_iff.2 List.mem_cons_self)
  obtain ⟨hbc, rfl⟩ := mem_ofSite.1 hb
  have hf := findId_eq hcn hbc
  have hp := perm_eraseId hf
  exact ⟨sz, hf, hp, (((ofSite_take hp rfl).map _).symm.trans hi).cons_inv, fun u hu => ofSite_drop hp hu.symm⟩

/-- the pool's stack array is the one block of site `t` in the cache; what is left when it is taken out -/
theorem array_take {t : Site} {c : List Block} (h : (ofSite t c).length = 1) :
    ∃ b1, c.find? (·.site == t) = some b1 ∧ c.Perm (b1 :: eraseSite c t) ∧ ofSite t (eraseSite c t) = [] ∧
      ∀ u, u ≠ t → (ofSite u (eraseSite c t)).Perm (ofSite u c) := by
  cases hf : c.find? (·.site == t) with
  | none => exact absurd h (by rw [show ofSite t c = [] from List.filter_eq_nil_iff.2 (List.find?_eq_none.1 hf)]; nofun)
  | some b1 =>
    have hp := perm_eraseSite hf
    have hs : b1.site = t := by simpa using List.find?_some hf
    refine ⟨b1, rfl, hp, ?_, fun u hu => ofSite_drop hp (by rw [hs]; exact hu.symm)⟩
    have := (ofSite_take hp hs).length_eq
    rw [h] at this
    simpa using this.symm

/-- a cookie goes onto the pool's stack and into the cache -/
theorem PoolRep.push (hp : PoolRep p s t c) (hss : s ≠ t) {b : Block} (hbs : b.site = s) :
    PoolRep { p with stack := b.id :: p.stack, stacklen := p.stacklen + 1 } s t (b :: c) :=
  ⟨by show p.stacklen + 1 = (b.id :: p.stack).length; rw [List.length_cons, hp.len],
   by show ((ofSite s (b :: c)).map (·.id)).Perm (b.id :: p.stack); rw [ofSite_cons_eq c hbs]; exact hp.ids.cons _,
   by show (ofSite t (b :: c)).length = _; rw [ofSite_cons_ne c (hbs ▸ hss)]; exact hp.arr⟩

theorem CacheFrame.cons {c1 : List Block} (hf : CacheFrame s t c c1) {b : Block} (hb : b.site = s ∨ b.site = t) :
    CacheFrame s t c (b :: c1) := fun u hs ht => by
  rw [ofSite_cons_ne c1 (by rcases hb with hb | hb <;> rw [hb] <;> exact Ne.symm ‹_›)]
  exact hf u hs ht

/-! ## `mpool_malloc` -/

/-- `poolMalloc`: a refused request changes only the oracle; otherwise the block of the cookie (fresh, or unparked from
the cache) is at the head of `live`, and nothing was refused -/
theorem poolMalloc_rep {p' : MPool.MP} {len : Nat} {w w' : World} {o : Option Nat}
    (hss : s ≠ t) (hb : Blk w) (hp : PoolRep p s t w.cache) (h : poolMalloc p s len w = (o, p', w')) :
    ∃ m1 l1 c1, w' = withBlocks w m1 l1 c1 ∧ Blk w' ∧ PoolRep p' s t c1 ∧ CacheFrame s t w.cache c1 ∧ Step w.m m1 ∧
      (o = none → l1 = w.live ∧ w.m.refusals < m1.refusals) ∧
      (∀ c, o = some c → (∃ sz, l1 = ⟨c, s, sz⟩ :: w.live) ∧ m1.refusals = w.m.refusals) := by
  unfold poolMalloc at h
  simp only at h
  split at h
  · -- "If we have an object on the stack, use that.": its block is in the cache, and goes back to `live`
    rename_i _ x rest hst
    simp only [Prod.mk.injEq] at h
    obtain ⟨rfl, rfl, rfl⟩ := h
    obtain ⟨sz, hf, hperm, hids, hfr⟩ := cache_take hb.cache_nodup (hst ▸ hp.ids)
    refine ⟨w.m, ⟨x, s, sz⟩ :: w.live, eraseId w.cache x, by simp only [unpark, hf, withBlocks], ?_, ⟨?_, hids, ?_⟩,
      fun u hu _ => hfr u hu, Step.refl _, nofun, fun c hc => ⟨⟨sz, by cases hc; rfl⟩, rfl⟩⟩
    · simp only [unpark, hf]
      exact hb.of_perm (List.perm_middle.symm.trans (hperm.symm.append_left w.live)) (Nat.le_refl _) rfl
    · show p.stacklen - 1 = rest.length
      have := hp.len; rw [hst] at this; simp only [List.length_cons] at this; omega
    · exact (hfr t hss.symm).length_eq.trans hp.arr
  · -- "Allocate a new object.": the cache is not touched, the pool only counts
    rcases ha : alloc w s len with ⟨o1, w1⟩
    rw [ha] at h
    simp only [Prod.mk.injEq] at h
    obtain ⟨rfl, rfl, rfl⟩ := h
    have hs := EvRegTimer.step_malloc w.m len
    cases o1 with
    | none =>
      obtain ⟨rfl, hm⟩ := alloc_none ha
      exact ⟨_, w.live, w.cache, rfl, hb.refused hm, ⟨hp.len, hp.ids, hp.arr⟩, .refl _ _ _, hs,
        fun _ => ⟨rfl, by rw [(malloc_fail hm).1]; omega⟩, nofun⟩
    | some c =>
      obtain ⟨hb', -, -, hr⟩ := hb.alloc ha
      obtain ⟨rfl, rfl, -⟩ := alloc_some ha
      exact ⟨_, _, w.cache, rfl, hb', ⟨hp.len, hp.ids, hp.arr⟩, .refl _ _ _, hs, nofun,
        fun c hc => ⟨⟨len, by cases hc; rfl⟩, hr⟩⟩

/-! ## `mpool_free` -/

/-- `poolFree` of a live block of the pool's site: the block leaves `live`, whichever branch is taken; the
stack may grow (one request, whose refusal only means the cookie is freed instead of parked) -/
theorem poolFree_rep {p' : MPool.MP} {w w' : World} {b : Block}
    (hss : s ≠ t) (hb : Blk w) (hp : PoolRep p s t w.cache) (hbl : b ∈ w.live) (hbs : b.site = s)
    (h : poolFree p t b.id w = (p', w')) :
    ∃ m1 c1, w' = withBlocks w m1 (eraseId w.live b.id) c1 ∧ Blk w' ∧ PoolRep p' s t c1 ∧ CacheFrame s t w.cache c1 ∧
      Step w.m m1 ∧ (p.stacklen < p.allocsize → m1 = w.m) := by
  have hfb : findId w.live b.id = some b := findId_eq hb.live_nodup hbl
  have hrel : ∀ m0 : Mem, release { w with m := m0 } b.id = withBlocks w (m0.free false) (eraseId w.live b.id) w.cache := by
    intro m0; simp only [release, hfb, withBlocks]
  have hpr : PoolRep (MPool.resetStats p) s t w.cache := ⟨hp.len, hp.ids, hp.arr⟩
  -- `free(p)` instead of parking, whatever the oracle `m0` has seen before
  have hfreed : ∀ m0 : Mem, Blk { w with m := m0 } → Blk (withBlocks w (m0.free false) (eraseId w.live b.id) w.cache) :=
    fun m0 h0 => h0.freed b ((perm_eraseId hfb).symm.append_right _)
  unfold poolFree at h
  by_cases hfast : p.stacklen < p.allocsize
  · -- "If we have space in the stack, cache the object.": `M->allocs[M->stacklen++] = p`
    simp only [hfast, ↓reduceIte, Prod.mk.injEq] at h
    obtain ⟨rfl, rfl⟩ := h
    have hpark : park w b.id = withBlocks w w.m (eraseId w.live b.id) (b :: w.cache) := by simp only [park, hfb, withBlocks]
    refine ⟨w.m, b :: w.cache, hpark, ?_, hp.push hss hbs, (CacheFrame.refl _ _ _).cons (.inl hbs), Step.refl _, fun _ => rfl⟩
    rw [hpark]
    exact hb.of_perm (perm_park hfb _) (Nat.le_refl _) rfl
  · simp only [hfast, ↓reduceIte] at h
    cases hwd : MPool.wantsDouble p with
    | false =>
      -- not `M->nempties > (M->nallocs >> 8)`: `free(p)`
      simp only [hwd, Bool.false_eq_true, ↓reduceIte, Prod.mk.injEq] at h
      obtain ⟨rfl, rfl⟩ := h
      refine ⟨w.m.free false, w.cache, hrel w.m, ?_, hpr, .refl _ _ _, EvRegTimer.step_free _ _, fun hc => absurd hc hfast⟩
      rw [hrel w.m]
      exact hfreed w.m hb
    | true =>
      -- "double the stack": `allocs_new = (void **)malloc(M->allocsize * 2 * sizeof(void *));`
      simp only [hwd, ↓reduceIte] at h
      have hs := EvRegTimer.step_malloc w.m ((p.allocsize * 2 * 8) % EArray.SZ)
      rcases ha : alloc w t ((p.allocsize * 2 * 8) % EArray.SZ) with ⟨o1, w1⟩
      rw [ha] at h
      cases o1 with
      | none =>
        -- not `if (allocs_new)`: `free(p)`
        obtain ⟨rfl, hm⟩ := alloc_none ha
        simp only [Prod.mk.injEq] at h
        obtain ⟨rfl, rfl⟩ := h
        refine ⟨_, w.cache, hrel _, ?_, hpr, .refl _ _ _, hs.trans (EvRegTimer.step_free _ _), fun hc => absurd hc hfast⟩
        rw [hrel]
        exact hfreed _ (hb.refused hm)
      | some a =>
        obtain ⟨rfl, rfl, hm⟩ := alloc_some ha
        have hok := malloc_ok hm
        simp only [Prod.mk.injEq] at h
        obtain ⟨rfl, rfl⟩ := h
        generalize hW : (ite (p.dyn = true) _ _ : World) = W
        -- "if (M->allocs != M->allocs_static) free(M->allocs)": either way no block of the array's site is left
        have hinner : ∃ m2 c2, W = withBlocks w m2 (⟨w.m.n, t, (p.allocsize * 2 * 8) % EArray.SZ⟩ :: w.live) c2 ∧
            Blk (withBlocks w m2 w.live (⟨w.m.n, t, (p.allocsize * 2 * 8) % EArray.SZ⟩ :: c2)) ∧ Step w.m m2 ∧
            ofSite t c2 = [] ∧ ∀ u, u ≠ t → (ofSite u c2).Perm (ofSite u w.cache) := by
          subst hW
          have hA : Blk (withBlocks w (w.m.malloc ((p.allocsize * 2 * 8) % EArray.SZ)).2 w.live
              (⟨w.m.n, t, (p.allocsize * 2 * 8) % EArray.SZ⟩ :: w.cache)) :=
            hb.granted hm ⟨w.m.n, t, _⟩ rfl List.perm_middle
          have harr := hp.arr
          cases hd : p.dyn with
          | false =>
            simp only [Bool.false_eq_true, ↓reduceIte]
            exact ⟨_, w.cache, rfl, hA, hs, List.length_eq_zero_iff.1 (by rw [harr, hd]; rfl), fun _ _ => .refl _⟩
          | true =>
            rw [hd] at harr
            obtain ⟨b1, hf1, hperm, h0, hfr⟩ := array_take harr
            simp only [↓reduceIte, hf1]
            exact ⟨_, eraseSite w.cache t, rfl, hA.freed b1 (List.perm_middle.symm.trans
              (((hperm.cons _).trans (.swap _ _ _)).symm.append_left w.live)), hs.trans (EvRegTimer.step_free _ _), h0, hfr⟩
        obtain ⟨m2, c2, rfl, hB, hs2, h0, hfr2⟩ := hinner
        have hp1 : park (withBlocks w m2 (⟨w.m.n, t, (p.allocsize * 2 * 8) % EArray.SZ⟩ :: w.live) c2) w.m.n =
            withBlocks w m2 w.live (⟨w.m.n, t, (p.allocsize * 2 * 8) % EArray.SZ⟩ :: c2) := by
          simp [park, withBlocks, findId, eraseId]
        have hp2 : park (withBlocks w m2 w.live (⟨w.m.n, t, (p.allocsize * 2 * 8) % EArray.SZ⟩ :: c2)) b.id =
            withBlocks w m2 (eraseId w.live b.id) (b :: ⟨w.m.n, t, (p.allocsize * 2 * 8) % EArray.SZ⟩ :: c2) := by
          simp only [park, withBlocks, hfb]
        rw [hp1, hp2]
        -- `M->allocs = allocs_new` (the new array is the pool's: it is parked), then `M->allocs[M->stacklen++] = p`
        have hq : PoolRep { p with dyn := true, allocsize := (p.allocsize * 2) % EArray.SZ } s t
            (⟨w.m.n, t, (p.allocsize * 2 * 8) % EArray.SZ⟩ :: c2) :=
          ⟨hp.len, by rw [ofSite_cons_ne c2 hss.symm]; exact ((hfr2 s hss).map _).trans hp.ids,
           by rw [ofSite_cons_eq (b := ⟨w.m.n, t, _⟩) c2 rfl, h0]; rfl⟩
        have hq := hq.push hss hbs
        exact ⟨m2, _, rfl, hB.of_perm (perm_park hfb _) (Nat.le_refl _) rfl, ⟨hq.len, hq.ids, hq.arr⟩,
          (CacheFrame.cons (CacheFrame.cons (c1 := c2) (fun u _ ht => hfr2 u ht) (.inr rfl)) (.inl hbs)), hs2,
          fun hc => absurd hc hfast⟩

/-! ## the pools' exit handlers -/

/-- "Free all items on the stack.": one after the other the blocks of the cookies' site leave the cache -/
theorem dropCached_all : ∀ (stack : List Nat) (w : World), Blk w → ((ofSite s w.cache).map (·.id)).Perm stack →
    ∃ m1 c1, stack.foldl dropCached w = withBlocks w m1 w.live c1 ∧ Blk (withBlocks w m1 w.live c1) ∧ Step w.m m1 ∧
      m1.n = w.m.n ∧ ofSite s c1 = [] ∧ ∀ u, u ≠ s → (ofSite u c1).Perm (ofSite u w.cache)
  | [], w, hb, hi => ⟨w.m, w.cache, rfl, hb, Step.refl _, rfl, List.map_eq_nil_iff.1 hi.eq_nil, fun _ _ => .refl _⟩
  | x :: rest, w, hb, hi => by
    obtain ⟨sz, hf, hperm, hids, hfr⟩ := cache_take hb.cache_nodup hi
    have hdc : dropCached w x = withBlocks w (w.m.free false) w.live (eraseId w.cache x) := by
      simp only [dropCached, hf, withBlocks]
    have hb' : Blk (withBlocks w (w.m.free false) w.live (eraseId w.cache x)) :=
      hb.freed ⟨x, s, sz⟩ (List.perm_middle.symm.trans (hperm.symm.append_left w.live))
    obtain ⟨m1, c1, heq, hb1, hs1, hn1, hnil, hfr1⟩ := dropCached_all rest _ hb' hids
    exact ⟨m1, c1, by rw [List.foldl_cons, hdc, heq]; rfl, hb1, (EvRegTimer.step_free w.m false).trans hs1,
      hn1.trans (free_facts w.m false).2.2.2, hnil, fun u hu => (hfr1 u hu).trans (hfr u hu)⟩

/-- `mpool_atexit`: every block of the pool's two sites leaves the cache, nothing else happens -/
theorem poolAtexit_rep {p' : MPool.MP} {w w' : World} (hss : s ≠ t) (hb : Blk w) (hp : PoolRep p s t w.cache)
    (h : poolAtexit p t w = (p', w')) :
    ∃ m1 c1, w' = withBlocks w m1 w.live c1 ∧ Blk w' ∧ Step w.m m1 ∧ m1.n = w.m.n ∧
      (∀ b ∈ c1, b ∈ w.cache ∧ b.site ≠ s ∧ b.site ≠ t) ∧ CacheFrame s t w.cache c1 ∧
      p' = { p with stack := [], stacklen := 0 } := by
  obtain ⟨m1, c1, heq, hb1, hs1, hn1, hnil, hfr⟩ := dropCached_all p.stack w hb hp.ids
  unfold poolAtexit at h
  simp only [heq, Prod.mk.injEq] at h
  obtain ⟨rfl, rfl⟩ := h
  -- "If we allocated a stack, free it."
  have harr := (hfr t hss.symm).length_eq.trans hp.arr
  cases hd : p.dyn with
  | false =>
    simp only [Bool.false_eq_true, ↓reduceIte]
    rw [hd] at harr
    have hf : CacheFrame s t w.cache c1 := fun u hu _ => hfr u hu
    exact ⟨m1, c1, rfl, hb1, hs1, hn1, hf.rest hnil (List.length_eq_zero_iff.1 harr), hf, trivial⟩
  | true =>
    rw [hd] at harr
    obtain ⟨b1, hf1, hperm, h0, hfr1⟩ := array_take harr
    have hf1' : List.find? (fun x => x.site == t) (withBlocks w m1 w.live c1).cache = some b1 := hf1
    simp only [↓reduceIte, hf1']
    have hf : CacheFrame s t w.cache (eraseSite c1 t) := fun u hu ht => (hfr1 u ht).trans (hfr u hu)
    exact ⟨m1.free false, eraseSite c1 t, rfl,
      hb1.freed b1 (List.perm_middle.symm.trans (hperm.symm.append_left w.live)), hs1.trans (EvRegTimer.step_free _ _),
      (free_facts m1 false).2.2.2.trans hn1, hf.rest ((hfr1 s hss).trans (.of_eq hnil)).eq_nil h0, hf, trivial⟩

theorem atexitPools_eq {w w1 w2 : World} {p1 p2 : MPool.MP} (h1 : poolAtexit w.rdPool .rdStack w = (p1, w1))
    (h2 : poolAtexit w1.wrPool .wrStack { w1 with rdPool := p1 } = (p2, w2)) :
    atexitPools w = { w2 with wrPool := p2 } := by
  simp only [atexitPools, h1, h2]

theorem poolOk_nil {p : MPool.MP} (s t : Site) (hs : p.stack = []) (hl : p.stacklen = 0) (hd : p.dyn = false) :
    PoolOk p s t [] :=
  ⟨by rw [hl, hs]; rfl, by rw [hs]; exact List.nodup_nil, by rw [hs]; simp, by simp, (by rw [hd]; intro h; cases h),
   by simp, by simp⟩

/-- the pools' state with the flag "the stack array was allocated" cleared -/
def forgetDyn (w : World) : World :=
  { w with rdPool := { w.rdPool with dyn := false }, wrPool := { w.wrPool with dyn := false } }

/-- The pools' exit handlers.

`Inv0 (atexitPools w)` itself is **false** when a pool's stack array was allocated: `mpool_atexit` frees the array
but leaves `M->allocs` pointing at it (`poolAtexit` keeps `dyn`, as the C does), so `PoolOk.arr` (`dyn = true → the
array's block is in the cache`) fails on the empty cache — see `atexitPools_inv0_iff`.  What holds: everything in
`Inv0` that is not about the flag (first conjunct), the cache is empty, nothing else moved, both stacks are empty,
and `Inv0` itself if neither pool had grown its stack. -/
theorem atexitPools_partial (w : World) (h : Inv0 w) :
    Inv0 (forgetDyn (atexitPools w)) ∧ (atexitPools w).cache = [] ∧ (atexitPools w).live = w.live ∧
    tables (atexitPools w) = tables w ∧ (atexitPools w).ev = w.ev ∧ (atexitPools w).m.n = w.m.n ∧
    (atexitPools w).bad = 0 ∧ (atexitPools w).evLive = w.evLive ∧ Step w.m (atexitPools w).m ∧
    (atexitPools w).rdPool = { w.rdPool with stack := [], stacklen := 0 } ∧
    (atexitPools w).wrPool = { w.wrPool with stack := [], stacklen := 0 } ∧
    (w.rdPool.dyn = false → w.wrPool.dyn = false → Inv0 (atexitPools w)) := by
  rcases h1 : poolAtexit w.rdPool .rdStack w with ⟨p1, w1⟩
  have hcn := h.blk.cache_nodup
  obtain ⟨m1, c1, rfl, hb1, hs1, hn1, hc1, hf1, rfl⟩ :=
    poolAtexit_rep (s := .rdCookie) (by decide) h.blk (h.rd.rep hcn) h1
  rcases h2 : poolAtexit w.wrPool .wrStack
    { withBlocks w m1 w.live c1 with rdPool := { w.rdPool with stack := [], stacklen := 0 } } with ⟨p2, w2⟩
  have hbW : Blk { withBlocks w m1 w.live c1 with rdPool := { w.rdPool with stack := [], stacklen := 0 } } :=
    hb1.congr rfl rfl rfl rfl
  obtain ⟨m2, c2, rfl, hb2, hs2, hn2, hc2, -, rfl⟩ := poolAtexit_rep (s := .wrCookie) (by decide) hbW
    ((h.wr.rep hcn).frame hf1 (by decide) (by decide) (by decide) (by decide)) h2
  have hnil : c2 = [] := by
    refine List.eq_nil_iff_forall_not_mem.2 (fun b hbc => ?_)
    obtain ⟨hb1', hw1, hw2⟩ := hc2 b hbc
    obtain ⟨hb0, hr1, hr2⟩ := hc1 b hb1'
    rcases h.cacheSites b hb0 with hx | hx | hx | hx
    · exact hr1 hx
    · exact hw1 hx
    · exact hr2 hx
    · exact hw2 hx
  subst hnil
  rw [atexitPools_eq h1 h2]
  have hst : Step w.m m2 := hs1.trans hs2
  have hev : EvOk w.ev m2 := evOk_step h.ev hst.n
  refine ⟨?_, rfl, rfl, rfl, rfl, by show m2.n = w.m.n; rw [hn2]; exact hn1, h.bad0, rfl, hst, rfl, rfl, fun hd1 hd2 => ?_⟩
  · exact inv0_mk hev h.bad0 (hb2.congr rfl rfl rfl rfl) h.owns (by intro b hb; cases hb)
      (poolOk_nil _ _ rfl rfl rfl) (poolOk_nil _ _ rfl rfl rfl) h.regNet h.regTm h.regImm
  · exact inv0_mk hev h.bad0 (hb2.congr rfl rfl rfl rfl) h.owns (by intro b hb; cases hb)
      (poolOk_nil _ _ rfl rfl hd1) (poolOk_nil _ _ rfl rfl hd2) h.regNet h.regTm h.regImm

/-- `Inv0` survives the pools' exit handlers exactly when neither pool had allocated a stack array -/
theorem atexitPools_inv0_iff (w : World) (h : Inv0 w) :
    Inv0 (atexitPools w) ↔ w.rdPool.dyn = false ∧ w.wrPool.dyn = false := by
  obtain ⟨_, hc, _, _, _, _, _, _, _, hrd, hwr, hall⟩ := atexitPools_partial w h
  refine ⟨fun hi => ⟨?_, ?_⟩, fun hd => hall hd.1 hd.2⟩
  · cases hd : w.rdPool.dyn with
    | false => rfl
    | true =>
      obtain ⟨b, hb, _⟩ := hi.rd.arr (by rw [hrd]; exact hd)
      rw [hc] at hb; cases hb
  · cases hd : w.wrPool.dyn with
    | false => rfl
    | true =>
      obtain ⟨b, hb, _⟩ := hi.wr.arr (by rw [hwr]; exact hd)
      rw [hc] at hb; cases hb

end Percival.Proofs.AllocFailUpper
