import Percival.Model.Mem
/-!
# What a call does to the allocation oracle (C12 / C14)

`Step m m'`: `m'` is `m` after some requests — the oracle was only advanced.  `Calls m m' d`: moreover the requests and
releases of the call left `d` more blocks allocated.  Both compose (`trans`), and `malloc`, `realloc`, `free` are the
three generators; a function that threads a `Mem` through gets one lemma saying which `d` it has.
-/
namespace Percival.Proofs.EvRegTimer
open Percival.Model

def Granted (m : Mem) : Prop := ∀ n sz, m.n ≤ n → m.f n sz = true

structure Step (m m' : Mem) : Prop where
  f : m'.f = m.f
  n : m.n ≤ m'.n
  r : m.refusals ≤ m'.refusals
  g : Granted m → m'.refusals = m.refusals

theorem Step.refl (m : Mem) : Step m m := ⟨rfl, Nat.le_refl _, Nat.le_refl _, fun _ => rfl⟩

theorem Granted.step {m m' : Mem} (hg : Granted m) (h : Step m m') : Granted m' := by
  intro n sz hn; rw [h.f]; exact hg n sz (Nat.le_trans h.n hn)

theorem Step.trans {a b c : Mem} (h1 : Step a b) (h2 : Step b c) : Step a c :=
  ⟨by rw [h2.f, h1.f], Nat.le_trans h1.n h2.n, Nat.le_trans h1.r h2.r,
   fun hg => by rw [h2.g (hg.step h1), h1.g hg]⟩

theorem step_malloc (m : Mem) (sz : Nat) : Step m (m.malloc sz).2 := by
  refine ⟨rfl, by simp [Mem.malloc], ?_, ?_⟩
  · simp only [Mem.malloc]; split <;> omega
  · intro hg; simp [Mem.malloc, hg m.n sz (Nat.le_refl _)]

theorem step_realloc (m : Mem) (w : Bool) (sz : Nat) : Step m (m.realloc w sz).2 := by
  refine ⟨rfl, by simp [Mem.realloc], ?_, ?_⟩
  · simp only [Mem.realloc]; split <;> omega
  · intro hg; simp [Mem.realloc, hg m.n sz (Nat.le_refl _)]

theorem step_free (m : Mem) (b : Bool) : Step m (m.free b) := by
  cases b <;> exact ⟨rfl, Nat.le_refl _, Nat.le_refl _, fun _ => rfl⟩

theorem malloc_granted {m : Mem} (hg : Granted m) (sz : Nat) : (m.malloc sz).1 = true := by
  simp [Mem.malloc, hg m.n sz (Nat.le_refl _)]

theorem malloc_n (m : Mem) (sz : Nat) : (m.malloc sz).2.n = m.n + 1 := rfl

end Percival.Proofs.EvRegTimer

namespace Percival.Proofs.EvRegAcct
open Percival.Model

theorem malloc_live (m : Mem) (sz : Nat) :
    (m.malloc sz).2.live = m.live + (if (m.malloc sz).1 then 1 else 0) := by
  cases h : m.f m.n sz <;> simp [Mem.malloc, h]

theorem realloc_live (m : Mem) (w : Bool) (sz : Nat) :
    (m.realloc w sz).2.live = m.live + (if (m.realloc w sz).1 && w then 1 else 0) := by
  cases h : m.f m.n sz <;> cases w <;> simp [Mem.realloc, h]

theorem free_live (m : Mem) (b : Bool) : (m.free b).live = m.live - (if b then 0 else 1) := by
  cases b <;> simp [Mem.free]

end Percival.Proofs.EvRegAcct

namespace Percival.Proofs.MemCalls
open Percival.Model
open Percival.Proofs.EvRegTimer (Step step_malloc step_realloc step_free)
open Percival.Proofs.EvRegAcct (malloc_live realloc_live free_live)

structure Calls (m m' : Mem) (d : Int) : Prop where
  step : Step m m'
  live : m'.live = m.live + d

theorem Calls.refl (m : Mem) : Calls m m 0 := ⟨Step.refl m, by omega⟩

theorem Calls.trans {a b c : Mem} {d d' : Int} (h1 : Calls a b d) (h2 : Calls b c d') : Calls a c (d + d') :=
  ⟨h1.step.trans h2.step, by rw [h2.live, h1.live]; omega⟩

theorem Calls.cast {m m' : Mem} {d d' : Int} (h : Calls m m' d) (e : d = d') : Calls m m' d' := e ▸ h

theorem calls_malloc (m : Mem) (sz : Nat) : Calls m (m.malloc sz).2 (if (m.malloc sz).1 then 1 else 0) :=
  ⟨step_malloc m sz, malloc_live m sz⟩

theorem calls_realloc (m : Mem) (w : Bool) (sz : Nat) :
    Calls m (m.realloc w sz).2 (if (m.realloc w sz).1 && w then 1 else 0) :=
  ⟨step_realloc m w sz, realloc_live m w sz⟩

theorem calls_free (m : Mem) (b : Bool) : Calls m (m.free b) (if b then 0 else -1) :=
  ⟨step_free m b, by rw [free_live]; cases b <;> simp; omega⟩

end Percival.Proofs.MemCalls
