import Percival.Model.CpuAesni
import Percival.Spec.Aes
import Percival.Proofs.ListLen
import Percival.Proofs.ByteDecide
import Percival.Proofs.AesEval
/-!
# The FIPS-197 transcription of `Model.CpuAesni` is `Spec.Aes` (C03)

`Model.CpuAesni.Fips` (S-box by inversion in GF(2⁸) + affine map, state as four lanes of four bytes, key schedule
kept newest first) and `Spec.Aes` (S-box as the table of Figure 7, state as 16 bytes, key schedule by a sliding
window) are two independent transcriptions of the standard.  Here they are proved to be the same function:
`encrypt_eq_spec`.  The view of a register as bytes is `R.bytes` (memory order).
-/
namespace Percival.Proofs.CpuAesSpec
open Percival Percival.Model.CpuAesni Percival.Spec
open Percival.Proofs.AesEval (xtimeN gmulAuxN gmulN gmulN_eq)

/-! ## the S-box

`Fips.sbox` is thirteen multiplications in GF(2⁸) of eight shift-and-add steps each, and it is compared with the
table of Figure 7 on all 256 bytes.  The kernel computes with `Nat` literals directly but with `UInt8` only through
`BitVec` and `Fin`; so the inversion is restated on `Nat` (`fipsGinvN`), proved equal to `Fips.ginv` step by step, and
evaluated there. -/

/-- `Fips.ginv` on `Nat`: `b¹²⁸·(b⁶⁴·(…·(b⁴·b²)))` (`AesEval.ginvN`, for `KAT.AesSbox`, multiplies in the opposite order) -/
def fipsGinvN (b : Nat) : Nat :=
  let b2 := gmulN b b
  let b4 := gmulN b2 b2
  let b8 := gmulN b4 b4
  let b16 := gmulN b8 b8
  let b32 := gmulN b16 b16
  let b64 := gmulN b32 b32
  let b128 := gmulN b64 b64
  gmulN b128 (gmulN b64 (gmulN b32 (gmulN b16 (gmulN b8 (gmulN b4 b2)))))

theorem xtime_toNat : ∀ a : UInt8, (Fips.xtime a).toNat = xtimeN a.toNat := by decide +kernel

theorem and_one_eq_zero : ∀ b : UInt8, b &&& 1 = 0 ↔ b.toNat % 2 = 0 := by decide +kernel

theorem gmulAux_toNat : ∀ (n : Nat) (a b acc : UInt8),
    (Fips.gmulAux n a b acc).toNat = gmulAuxN n a.toNat b.toNat acc.toNat
  | 0, _, _, _ => rfl
  | n+1, a, b, acc => by
    rw [Fips.gmulAux, gmulAux_toNat n, gmulAuxN, xtime_toNat, UInt8.toNat_shiftRight]
    congr 1
    by_cases h : b.toNat % 2 = 0
    · rw [if_pos ((and_one_eq_zero b).2 h), h, Nat.zero_mul, Nat.xor_zero]
    · rw [if_neg (mt (and_one_eq_zero b).1 h), UInt8.toNat_xor, show b.toNat % 2 = 1 by omega, Nat.one_mul]

theorem ginv_toNat (b : UInt8) : (Fips.ginv b).toNat = fipsGinvN b.toNat := by
  simp only [Fips.ginv, fipsGinvN, Fips.gmul, gmulN_eq, gmulAux_toNat]
  rfl

/-- §5.1.1 on the byte `n`: the affine map applied to the inverse -/
def sboxN (n : Nat) : UInt8 :=
  let x := UInt8.ofNat (fipsGinvN n)
  x ^^^ Fips.rotl8 x 1 ^^^ Fips.rotl8 x 2 ^^^ Fips.rotl8 x 3 ^^^ Fips.rotl8 x 4 ^^^ 0x63

theorem sbox_rows : Aes.sboxTable.toList.map (·.toList) =
    (List.range 16).map fun r => (List.range 16).map fun c => sboxN (16 * r + c) := by decide +kernel

theorem sbox_eq (b : UInt8) : Fips.sbox b = Aes.sbox b := by
  rw [AesEval.sbox_of_rows sboxN sbox_rows, sboxN, ← ginv_toNat, UInt8.ofNat_toNat]; rfl

theorem xtime_eq (b : UInt8) : Fips.xtime b = Aes.xtime b := by
  unfold Fips.xtime Aes.xtime
  split <;> simp

theorem rconByte_eq : ∀ j, Fips.rconByte j = Aes.rconByte j
  | 0 => rfl
  | 1 => by decide +kernel
  | j+2 => by
    show Fips.xtime (Fips.rconByte (j + 1)) = Aes.xtime (Aes.rconByte (j + 1))
    rw [xtime_eq, rconByte_eq (j + 1)]

theorem W4.bytes_length (a : W4) : a.bytes.length = 4 := rfl
theorem R.bytes_length (a : R) : a.bytes.length = 16 := rfl

theorem W4.bytes_xor (a b : W4) : (a ^^^ b).bytes = Aes.xorBytes a.bytes b.bytes := rfl

theorem R.bytes_xor (a b : R) : (a ^^^ b).bytes = Aes.xorBytes a.bytes b.bytes := rfl

theorem subWord_bytes (w : W4) : (Fips.subWord w).bytes = Aes.subWord w.bytes := by
  simp [Fips.subWord, W4.map, W4.bytes, Aes.subWord, sbox_eq]

theorem rotWord_bytes (w : W4) : (Fips.rotWord w).bytes = Aes.rotWord w.bytes := rfl

theorem rcon_bytes (j : Nat) : (Fips.rcon j).bytes = Aes.rcon j := by
  simp [Fips.rcon, W4.bytes, Aes.rcon, rconByte_eq]

theorem subBytes_bytes (s : R) : (Fips.subBytes s).bytes = Aes.subBytes s.bytes := by
  simp [Fips.subBytes, R.map, Fips.subWord, W4.map, R.bytes, W4.bytes, Aes.subBytes, sbox_eq]

theorem shiftRows_bytes (s : R) : (Fips.shiftRows s).bytes = Aes.shiftRows s.bytes := rfl

theorem mixColumns_bytes (s : R) : (Fips.mixColumns s).bytes = Aes.mixColumns s.bytes := by
  simp [Fips.mixColumns, R.map, Fips.mixColumn, R.bytes, W4.bytes, Aes.mixColumns, Aes.mixColumn, Fips.mul2, Fips.mul3,
    Aes.mul2, Aes.mul3, xtime_eq]

theorem addRoundKey_bytes (s k : R) : (Fips.addRoundKey s k).bytes = Aes.addRoundKey s.bytes k.bytes :=
  R.bytes_xor s k

theorem round_bytes (s k : R) :
    (Fips.addRoundKey (Fips.mixColumns (Fips.shiftRows (Fips.subBytes s))) k).bytes = Aes.round s.bytes k.bytes := by
  rw [addRoundKey_bytes, mixColumns_bytes, shiftRows_bytes, subBytes_bytes]; rfl

theorem finalRound_bytes (s k : R) :
    (Fips.addRoundKey (Fips.shiftRows (Fips.subBytes s)) k).bytes = Aes.finalRound s.bytes k.bytes := by
  rw [addRoundKey_bytes, shiftRows_bytes, subBytes_bytes]; rfl

theorem rounds_bytes : ∀ (rks : List R) (s : R), rks ≠ [] →
    (Fips.rounds s rks).bytes = Aes.rounds (rks.map R.bytes) s.bytes
  | [], _, h => absurd rfl h
  | [k], s, _ => by
    rw [Fips.rounds, finalRound_bytes]; rfl
  | k :: k' :: rest, s, _ => by
    rw [Fips.rounds, rounds_bytes (k' :: rest) _ (by simp), round_bytes]
    · rfl
    · intro h; cases h

/-- Figure 5 over the same `Nr + 1 ≥ 2` round keys -/
theorem cipher_bytes (rks : List R) (inp : R) (h : 2 ≤ rks.length) :
    (Fips.cipher rks inp).map R.bytes = some (Aes.cipher (rks.map R.bytes) inp.bytes) := by
  match rks, h with
  | k0 :: k1 :: rest, _ =>
    simp only [Fips.cipher, Option.map_some, List.map_cons, Aes.cipher, R.bytes_length, if_true]
    rw [rounds_bytes (k1 :: rest) _ (by simp), addRoundKey_bytes]; rfl

theorem keyWords_bytes : ∀ (key : List UInt8), (Fips.keyWords key).map W4.bytes = Aes.chunks 4 (key.length / 4) key
  | a :: b :: c :: d :: rest => by
    have : (a :: b :: c :: d :: rest).length / 4 = rest.length / 4 + 1 := by simp only [List.length_cons]; omega
    rw [this]
    simp only [Fips.keyWords, List.map_cons, Aes.chunks, keyWords_bytes rest]
    rfl
  | [] => rfl
  | [_] => by simp [Fips.keyWords, Aes.chunks]
  | [_, _] => by simp [Fips.keyWords, Aes.chunks]
  | [_, _, _] => by simp [Fips.keyWords, Aes.chunks]

theorem chunks_length (k : Nat) : ∀ (n : Nat) (bs : List UInt8), (Aes.chunks k n bs).length = n
  | 0, _ => rfl
  | n+1, bs => by rw [Aes.chunks, List.length_cons, chunks_length k n]

theorem keyWords_length (key : List UInt8) : (Fips.keyWords key).length = key.length / 4 := by
  rw [← List.length_map (f := W4.bytes), keyWords_bytes, chunks_length]

theorem expandLoop_succ (nk n i : Nat) (back prev : List UInt8) (rest : List (List UInt8))
    (h : (back :: rest).getLast? = some prev) :
    Aes.expandLoop nk (n + 1) i (back :: rest) =
      Aes.nextWord nk i prev back :: Aes.expandLoop nk n (i + 1) (rest ++ [Aes.nextWord nk i prev back]) := by
  simp only [Aes.expandLoop, h]

/-- one step of Figure 11 -/
theorem nextWord_bytes (m i : Nat) (prev back : W4) (t : List W4) (hb : (prev :: t)[m]? = some back) :
    ∃ w, Fips.nextWord (m + 1) i (prev :: t) = some w ∧
      w.bytes = Aes.nextWord (m + 1) i prev.bytes back.bytes := by
  unfold Fips.nextWord
  rw [show m + 1 - 1 = m from rfl, hb]
  refine ⟨_, rfl, ?_⟩
  simp only [Aes.nextWord]
  rw [W4.bytes_xor]
  congr 1
  split
  · rw [W4.bytes_xor, subWord_bytes, rotWord_bytes, rcon_bytes]
  · split
    · rw [subWord_bytes]
    · rfl

/-- the schedule kept newest first (`Fips.extend`) and the sliding window (`Aes.expandLoop`) produce the same words -/
theorem extend_bytes (m : Nat) : ∀ (n i : Nat) (ws : List W4), m + 1 ≤ ws.length →
    ((Fips.extend (m + 1) n i ws).reverse).map W4.bytes =
      (ws.reverse).map W4.bytes ++ Aes.expandLoop (m + 1) n i (((ws.take (m + 1)).reverse).map W4.bytes)
  | 0, _, _, _ => by simp [Fips.extend, Aes.expandLoop]
  | n+1, i, ws, h => by
    match ws, h with
    | prev :: t, h =>
      have hm : m < (prev :: t).length := by omega
      have hb : (prev :: t)[m]? = some (prev :: t)[m] := List.getElem?_eq_getElem hm
      obtain ⟨w, hw, hwb⟩ := nextWord_bytes m i prev _ t hb
      have ih := extend_bytes m n (i + 1) (w :: prev :: t) (by simp only [List.length_cons] at h ⊢; omega)
      have htake : (((prev :: t).take (m + 1)).reverse).map W4.bytes =
          (prev :: t)[m].bytes :: (((prev :: t).take m).reverse).map W4.bytes := by
        rw [List.take_add_one, hb]
        simp only [Option.toList_some, List.reverse_append, List.reverse_cons, List.reverse_nil, List.nil_append,
          List.singleton_append, List.map_cons]
      have hlast : ((prev :: t)[m].bytes :: (((prev :: t).take m).reverse).map W4.bytes).getLast? = some prev.bytes := by
        rw [← htake, List.getLast?_map, List.getLast?_reverse]; rfl
      simp only [Fips.extend, hw]
      rw [ih, htake, expandLoop_succ _ _ _ _ _ _ hlast, ← hwb]
      simp

theorem keyExpansion_words (key : List UInt8) (h : 4 ≤ key.length) :
    (Fips.keyExpansion (Fips.keyWords key)).map W4.bytes = Aes.keyWords key := by
  have hl := keyWords_length key
  obtain ⟨m, hm⟩ : ∃ m, key.length / 4 = m + 1 := ⟨key.length / 4 - 1, by omega⟩
  unfold Fips.keyExpansion Aes.keyWords
  simp only [hl, hm]
  rw [extend_bytes m _ _ _ (by rw [List.length_reverse, hl, hm]; omega), List.reverse_reverse,
    List.take_of_length_le (by rw [List.length_reverse, hl, hm]; omega), List.reverse_reverse, keyWords_bytes, hm]

theorem roundKeys_bytes : ∀ (ws : List W4),
    (Fips.roundKeys ws).map R.bytes = Aes.chunks 16 (ws.length / 4) (ws.map W4.bytes).flatten
  | a :: b :: c :: d :: rest => by
    have : (a :: b :: c :: d :: rest).length / 4 = rest.length / 4 + 1 := by simp only [List.length_cons]; omega
    rw [this]
    simp only [Fips.roundKeys, List.map_cons, Aes.chunks, roundKeys_bytes rest]
    rfl
  | [] => rfl
  | [_] => by simp [Fips.roundKeys, Aes.chunks]
  | [_, _] => by simp [Fips.roundKeys, Aes.chunks]
  | [_, _, _] => by simp [Fips.roundKeys, Aes.chunks]

theorem extend_length (m : Nat) : ∀ (n i : Nat) (ws : List W4), m + 1 ≤ ws.length →
    (Fips.extend (m + 1) n i ws).length = ws.length + n
  | 0, _, _, _ => rfl
  | n+1, i, prev :: t, h => by
    obtain ⟨w, hw, _⟩ := nextWord_bytes m i prev _ t (List.getElem?_eq_getElem (Nat.lt_of_succ_le h))
    rw [Fips.extend, hw, extend_length m n (i + 1) (w :: prev :: t) (Nat.le_succ_of_le h), List.length_cons,
      Nat.add_right_comm, Nat.add_assoc]

theorem keyExpansion_length (key : List UInt8) (h : key.length = 16 ∨ key.length = 32) :
    (Fips.keyExpansion (Fips.keyWords key)).length = 4 * (key.length / 4 + 7) := by
  have hl := keyWords_length key
  obtain ⟨m, hm⟩ : ∃ m, key.length / 4 = m + 1 := ⟨key.length / 4 - 1, by omega⟩
  rw [Fips.keyExpansion, List.length_reverse, hl, hm,
    extend_length m _ _ _ (by rw [List.length_reverse, hl, hm]; exact Nat.le_refl _), List.length_reverse, hl, hm]
  omega

theorem roundKeys_eq_spec (key : List UInt8) (h : key.length = 16 ∨ key.length = 32) :
    (Fips.roundKeys (Fips.keyExpansion (Fips.keyWords key))).map R.bytes = Aes.keyExpansion key := by
  rw [roundKeys_bytes, keyExpansion_words key (by omega), keyExpansion_length key h]
  unfold Aes.keyExpansion
  rw [if_pos h]
  simp only []
  congr 1
  omega

theorem roundKeys_count (key : List UInt8) (h : key.length = 16 ∨ key.length = 32) :
    (Fips.roundKeys (Fips.keyExpansion (Fips.keyWords key))).length = key.length / 4 + 7 := by
  rw [← List.length_map (f := R.bytes), roundKeys_bytes, chunks_length, keyExpansion_length key h]
  omega

theorem encrypt_eq_spec (key : List UInt8) (h : key.length = 16 ∨ key.length = 32) (inp : R) :
    (Fips.encrypt (Fips.keyWords key) inp).map R.bytes = some (Aes.encryptBlock key inp.bytes) := by
  unfold Fips.encrypt
  rw [cipher_bytes _ _ (by rw [roundKeys_count key h]; omega), roundKeys_eq_spec key h]
  rfl

theorem ofBytes_bytes (blk : List UInt8) (h : blk.length = 16) : ∃ b, R.ofBytes blk = some b ∧ b.bytes = blk := by
  obtain ⟨a0, a1, a2, a3, a4, a5, a6, a7, a8, a9, a10, a11, a12, a13, a14, a15, rfl⟩ := Proofs.len16 blk h
  exact ⟨_, rfl, rfl⟩

theorem ofBytes_none (blk : List UInt8) (h : blk.length ≠ 16) : R.ofBytes blk = none := by
  unfold R.ofBytes
  split
  · simp at h
  · rfl

end Percival.Proofs.CpuAesSpec
