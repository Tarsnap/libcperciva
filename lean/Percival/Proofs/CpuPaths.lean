import Percival.Model.CpuPaths
import Percival.Proofs.Sha256Extend
import Percival.Proofs.Words
import Percival.Proofs.ListLen
import Percival.Proofs.CrcMain
/-! Helper lemmas for C03 (index arithmetic of `CRC32C_Update_SSE42`, GF(2) algebra of the `CRC32`
instruction, SSE2 lane identities). -/
namespace Percival.Proofs.CpuPaths
open Percival Percival.Spec Percival.Model.CpuPaths
open Percival.Spec.Crc32c (Poly addFront reduce mod castagnoli bitsLSB)

/-! ## constants of the current source (listed as obligations in `Properties/C03.lean`) -/

theorem minLen_eq : Gen.CpuPaths.sse42MinLen = 8 := by decide
theorem i0_eq : Gen.CpuPaths.sse42I0 = 0 := by decide
theorem stride_eq : Gen.CpuPaths.sse42Stride = 8 := by decide
theorem tailBound_eq : Gen.CpuPaths.sse42TailBound = 8 := by decide
theorem preMask_eq : Gen.CpuPaths.sse42PreMask = 7 := by decide
theorem dispatch_eq : Gen.CpuPaths.crcDispatchMinLen = 8 := by decide

theorem cmp_eq (i b : Nat) : cmpBy Gen.CpuPaths.sse42BodyCmp i b = decide (i < b) := by
  simp [cmpBy, Gen.CpuPaths.sse42BodyCmp]

theorem preBlock_eq (addr : Nat) : preBlock addr = (8 - addr % 8) % 8 := by
  unfold preBlock
  rw [show Gen.CpuPaths.sse42PreSub = 8 from rfl, preMask_eq]
  omega

theorem inBlock_eq (addr len : Nat) :
    inBlock addr len = (len - preBlock addr) - (len - preBlock addr) % 8 := rfl

theorem bodyEnd_succ (inBlk f i : Nat) :
    bodyEnd inBlk (f+1) i = if i < inBlk then bodyEnd inBlk f (i + 8) else i := by
  simp [bodyEnd, cmp_eq, stride_eq]

theorem bodyEnd_ge (inBlk f i : Nat) : i ≤ bodyEnd inBlk f i := by
  induction f generalizing i with
  | zero => simp [bodyEnd]
  | succ f ih =>
    rw [bodyEnd_succ]
    split
    · have := ih (i + 8); omega
    · omega

/-- closed form of the loop exit: the body runs `⌈(in_block − i)/8⌉` times -/
theorem bodyEnd_closed (inBlk f i : Nat) (hf : inBlk ≤ i + 8 * f) :
    bodyEnd inBlk f i = if i < inBlk then i + 8 * ((inBlk - i + 7) / 8) else i := by
  induction f generalizing i with
  | zero => simp [bodyEnd]; omega
  | succ f ih =>
    rw [bodyEnd_succ]
    split
    · rw [ih (i + 8) (by omega)]
      split <;> omega
    · rfl

theorem preBlock_lt (addr : Nat) : preBlock addr < 8 := by
  rw [preBlock_eq]; omega

/-- `in_block` is the largest multiple of 8 that fits after the head -/
theorem inBlock_spec (addr len : Nat) :
    inBlock addr len % 8 = 0 ∧ inBlock addr len ≤ len - preBlock addr ∧ len - preBlock addr < inBlock addr len + 8 := by
  rw [inBlock_eq]; omega

theorem bodyEnd_block (blk f pre : Nat) (hb : blk % 8 = 0) (hp : pre < 8) (hf : blk ≤ pre + 8 * f) :
    bodyEnd blk f pre = pre + blk := by
  rw [bodyEnd_closed _ _ _ hf]
  split <;> omega

theorem stop_eq (addr len : Nat) :
    bodyEnd (inBlock addr len) (len + 1) (preBlock addr) = preBlock addr + inBlock addr len := by
  have := inBlock_spec addr len
  exact bodyEnd_block _ _ _ this.1 (preBlock_lt addr) (by omega)

def Consec : List (Nat × Nat) → Nat → Nat → Prop
  | [], a, b => a = b
  | ow :: r, a, b => ow.1 = a ∧ Consec r (a + ow.2) b

theorem consec_append {l1 l2 : List (Nat × Nat)} {a m b : Nat}
    (h1 : Consec l1 a m) (h2 : Consec l2 m b) : Consec (l1 ++ l2) a b := by
  induction l1 generalizing a with
  | nil => simp only [Consec] at h1; subst h1; simpa using h2
  | cons ow r ih => exact ⟨h1.1, ih h1.2⟩

theorem consec_le {l : List (Nat × Nat)} {a b : Nat} (h : Consec l a b) : a ≤ b := by
  induction l generalizing a with
  | nil => simp only [Consec] at h; omega
  | cons ow r ih => have := ih h.2; omega

theorem consec_range {a b : Nat} (h : a ≤ b) : Consec ((List.range' a (b - a)).map fun i => (i, 1)) a b := by
  induction hn : b - a generalizing a with
  | zero => exact show a = b by omega
  | succ n ih =>
    rw [List.range'_succ, List.map_cons]
    exact ⟨rfl, ih (a := a + 1) (by omega) (by omega)⟩

theorem bodyAcc_succ (v : Variant) (inBlk f i : Nat) :
    bodyAcc v inBlk (f+1) i =
      if i < inBlk then (bodyLoads v).map (fun ow => (i + ow.1, ow.2)) ++ bodyAcc v inBlk f (i + 8) else [] := by
  simp [bodyAcc, cmp_eq, stride_eq]

theorem loads_x64 (i : Nat) : (bodyLoads .x64).map (fun ow => (i + ow.1, ow.2)) = [(i, 8)] := by
  simp [bodyLoads, Gen.CpuPaths.sse42Loads64]

theorem loads_x32 (i : Nat) : (bodyLoads .x32).map (fun ow => (i + ow.1, ow.2)) = [(i, 4), (i + 4, 4)] := by
  simp [bodyLoads, Gen.CpuPaths.sse42Loads32]

theorem consec_loads (v : Variant) (i : Nat) :
    Consec ((bodyLoads v).map (fun ow => (i + ow.1, ow.2))) i (i + 8) := by
  cases v
  · rw [loads_x64]; simp [Consec]
  · rw [loads_x32]; simp [Consec]

theorem consec_body (v : Variant) (inBlk f i : Nat) :
    Consec (bodyAcc v inBlk f i) i (bodyEnd inBlk f i) := by
  induction f generalizing i with
  | zero => simp [bodyAcc, bodyEnd, Consec]
  | succ f ih =>
    rw [bodyAcc_succ, bodyEnd_succ]
    split
    · exact consec_append (consec_loads v i) (ih (i + 8))
    · simp [Consec]

theorem accesses_eq (v : Variant) (addr len : Nat) :
    accesses v addr len =
      headAcc 0 (preBlock addr) ++ bodyAcc v (inBlock addr len) (len + 1) (preBlock addr) ++
        tailAcc (bodyEnd (inBlock addr len) (len + 1) (preBlock addr)) len := by
  simp [accesses, i0_eq]

/-- **the three loops tile `[0, len)`** -/
theorem consec_accesses (v : Variant) (addr len : Nat) (h : 8 ≤ len) :
    Consec (accesses v addr len) 0 len := by
  have hb := consec_body v (inBlock addr len) (len + 1) (preBlock addr)
  have hle : preBlock addr + inBlock addr len ≤ len := by
    have := inBlock_spec addr len; have := preBlock_lt addr; omega
  rw [accesses_eq, stop_eq] at *
  exact consec_append (consec_append (consec_range (Nat.zero_le _)) hb) (consec_range hle)

theorem consec_flatMap {l : List (Nat × Nat)} {a b : Nat} (h : Consec l a b) :
    l.flatMap (fun ow => List.range' ow.1 ow.2) = List.range' a (b - a) := by
  induction l generalizing a with
  | nil => simp only [Consec] at h; subst h; simp
  | cons ow r ih =>
    obtain ⟨h1, h2⟩ := h
    have hle := consec_le h2
    rw [List.flatMap_cons, ih h2, h1]
    rw [show b - a = ow.2 + (b - (a + ow.2)) by omega, ← List.range'_append_1]

theorem body_aligned (v : Variant) (inBlk f i a : Nat) (ha : (a + i) % 8 = 0) :
    ∀ ow ∈ bodyAcc v inBlk f i,
      ow.2 = (match v with | .x64 => 8 | .x32 => 4) ∧ (a + ow.1) % ow.2 = 0 := by
  induction f generalizing i with
  | zero => simp [bodyAcc]
  | succ f ih =>
    rw [bodyAcc_succ]
    split
    · intro ow how
      rw [List.mem_append] at how
      rcases how with how | how
      · cases v
        · rw [loads_x64] at how; simp at how; subst how; simp; omega
        · rw [loads_x32] at how; simp at how
          rcases how with how | how <;> (subst how; simp; omega)
      · exact ih (i + 8) (by omega) ow how
    · simp

theorem addFront_cons (a g : Bool) (as gs : Poly) :
    addFront (a :: as) (g :: gs) = (a ^^ g) :: addFront as gs := rfl

theorem length_addFront (a g : Poly) : (addFront a g).length = a.length := CrcPoly.addFront_length a g

/-- low 32 coefficients of the Castagnoli polynomial -/
abbrev gt : Poly := castagnoli.tail

theorem length_gt : gt.length = 32 := CrcPoly.castagnoli_tail_length
theorem length_castagnoli : castagnoli.length = 33 := by decide +kernel

abbrev Z32 : Poly := List.replicate 32 false

/-- feed the bit string `d` (in transmission order) into the 32-coefficient remainder `r`:
    `(r·x^|d| + d·x³²) mod castagnoli` -/
def feed (r d : Poly) : Poly := reduce gt d.length (addFront (d ++ Z32) r)

theorem feed_eq_fold (r d : Poly) (h : r.length = 32) : feed r d = d.foldl (CrcPoly.lstep gt) r := by
  have e : (d ++ Z32).length - r.length = d.length := by
    rw [List.length_append, List.length_replicate, h, Nat.add_sub_cancel]
  rw [← CrcPoly.reduce_eq_fold gt (by decide +kernel) d r (h.trans length_gt.symm), feed,
    CrcPoly.addFront_eq_zx_pad _ _ (by rw [List.length_append, List.length_replicate, h]; omega), e, length_gt]

theorem natOfBits_eq_lsb (l : List Bool) : natOfBitsLSB l = Bits.lsb l := by
  induction l with
  | nil => rfl
  | cons b t ih => rw [natOfBitsLSB, ih, Bits.lsb_cons, Nat.add_comm]

theorem length_polyOfState (s : UInt32) : (polyOfState s).length = 32 := by simp [polyOfState]

theorem natOfBits_testBits (x n : Nat) :
    natOfBitsLSB ((List.range n).map fun i => x.testBit i) = x % 2 ^ n := by
  rw [natOfBits_eq_lsb, List.range_eq_range', Bits.lsb_testBits, Nat.pow_zero, Nat.div_one]

theorem stateOfPoly_polyOfState (s : UInt32) : stateOfPoly (polyOfState s) = s := by
  simp only [stateOfPoly, polyOfState, natOfBits_testBits]
  apply UInt32.toNat_inj.mp
  rw [UInt32.toNat_ofNat']
  have := s.toNat_lt
  omega

theorem crc32Insn_eq_feed (s : UInt32) (src : Bytes) :
    crc32Insn s src = stateOfPoly (feed (polyOfState s) (bitsLSB src)) := by
  simp only [crc32Insn, mod, feed, length_addFront, List.length_append, List.length_replicate,
    length_castagnoli]
  rfl

theorem crc32Insn_eq_bits (s : UInt32) (src : Bytes) :
    crc32Insn s src = (bitsLSB src).foldl CrcWord.bitStep s := by
  rw [crc32Insn_eq_feed, feed_eq_fold _ _ (length_polyOfState s), show polyOfState s = CrcWord.coeffs s from rfl,
    ← CrcWord.coeffs_fold]
  exact stateOfPoly_polyOfState _

theorem crc32Insn_append (s : UInt32) (a b : Bytes) :
    crc32Insn s (a ++ b) = crc32Insn (crc32Insn s a) b := by
  rw [crc32Insn_eq_bits, crc32Insn_eq_bits _ b, crc32Insn_eq_bits _ a, CrcMain.bitsLSB_append, List.foldl_append]

theorem crc32Insn_nil (s : UInt32) : crc32Insn s [] = s := crc32Insn_eq_bits s []

theorem crc32Insn_eq_fold (s : UInt32) (bs : Bytes) : crc32Insn s bs = bs.foldl byteStep s := by
  induction bs generalizing s with
  | nil => simp [crc32Insn_nil]
  | cons b bs ih =>
    rw [show b :: bs = [b] ++ bs from rfl, crc32Insn_append, ih]
    rfl

/-- the byte-step fold on `Nat` (C01's `crcN`), the form the examples evaluate -/
theorem fold_byteStep_crcN (s : UInt32) (data : Bytes) :
    data.foldl byteStep s = UInt32.ofNat (CrcMain.crcN s.toNat data) := by
  rw [← crc32Insn_eq_fold, crc32Insn_eq_bits, ← CrcMain.update_bits, CrcMain.update_eq_crcN]

theorem readAt_ok (buf : Bytes) (off w : Nat) (h : off + w ≤ buf.length) :
    readAt buf off w = some ((buf.drop off).take w) := by
  simp only [readAt, List.length_take, List.length_drop]
  rw [if_pos (by omega)]

theorem runAcc_consec (buf : Bytes) (l : List (Nat × Nat)) (a b : Nat) (s : UInt32)
    (hc : Consec l a b) (hb : b ≤ buf.length) :
    runAcc buf l s = some (((buf.drop a).take (b - a)).foldl byteStep s) := by
  induction l generalizing a s with
  | nil => simp only [Consec] at hc; subst hc; simp [runAcc]
  | cons ow r ih =>
    obtain ⟨h1, h2⟩ := hc
    have hle := consec_le h2
    simp only [runAcc]
    rw [h1, readAt_ok buf a ow.2 (by omega)]
    simp only
    rw [ih (a + ow.2) _ h2, crc32Insn_eq_fold, ← List.foldl_append]
    congr 2
    rw [show b - a = ow.2 + (b - (a + ow.2)) by omega, List.take_add, List.drop_drop]

theorem preBlock_aligned (addr : Nat) : (addr + preBlock addr) % 8 = 0 := by
  rw [preBlock_eq]; omega

/-- no `assert` fails, no load leaves the buffer, and the result is the byte-at-a-time CRC -/
theorem updateSse42_eq (v : Variant) (addr : Nat) (s : UInt32) (buf : Bytes) (h : 8 ≤ buf.length) :
    updateSse42 v addr s buf = some (buf.foldl byteStep s) := by
  have hstop := stop_eq addr buf.length
  have hpre := preBlock_lt addr
  have hal := preBlock_aligned addr
  have hin := inBlock_spec addr buf.length
  simp only [updateSse42, i0_eq, minLen_eq, preMask_eq, tailBound_eq, Nat.zero_max]
  rw [if_neg (by omega), if_neg (by omega), hstop, if_neg (by omega)]
  rw [runAcc_consec buf _ 0 buf.length s (consec_accesses v addr buf.length h) (Nat.le_refl _)]
  simp

theorem crcUpdate_eq (hw : Option Variant) (addr : Nat) (s : UInt32) (buf : Bytes) :
    crcUpdate hw addr s buf = some (buf.foldl byteStep s) := by
  cases hw with
  | none => rfl
  | some v =>
    simp only [crcUpdate, dispatch_eq]
    split
    · exact updateSse42_eq v addr s buf (by assumption)
    · rfl

theorem crcStream_eq (calls : List Call) (s : UInt32) :
    crcStream calls s = some ((calls.flatMap (·.data)).foldl byteStep s) := by
  induction calls generalizing s with
  | nil => rfl
  | cons c rest ih =>
    simp only [crcStream, crcUpdate_eq, List.flatMap_cons, List.foldl_append]
    exact ih _

theorem polyOfState_fold (s : UInt32) (data : Bytes) :
    polyOfState (data.foldl byteStep s) = feed (polyOfState s) (bitsLSB data) := by
  rw [← crc32Insn_eq_fold, crc32Insn_eq_bits, feed_eq_fold _ _ (length_polyOfState s)]
  exact CrcWord.coeffs_fold _ s

theorem length_bitsLSB (d : Bytes) : (bitsLSB d).length = 8 * d.length := CrcPoly.bitsLSB_length d

/-- `CRC32C_Final` stores the register as C01's `final` does: its `& 0xff` before the narrowing store changes
    nothing -/
theorem crcFinal_eq (s : UInt32) : crcFinal s = Model.Crc32c.final s := by
  have hff (x : UInt32) : (x &&& 0xff).toUInt8 = x.toUInt8 := by
    apply UInt8.toNat_inj.mp
    rw [UInt32.toNat_toUInt8, UInt32.toNat_toUInt8, UInt32.toNat_and, show (0xff : UInt32).toNat = 2 ^ 8 - 1 from rfl,
      Nat.and_two_pow_sub_one_eq_mod, Nat.mod_mod]
  rw [crcFinal, le32enc, Model.Crc32c.final, hff, hff, hff, hff]

theorem fold_eq_spec (data : Bytes) :
    crcFinal (data.foldl byteStep Gen.CpuPaths.crcInitState) = Spec.Crc32c.crc32c data := by
  rw [← crc32Insn_eq_fold, crc32Insn_eq_bits, CrcMain.crc32c_eq_bitStep, crcFinal_eq]
  rfl

theorem lane64 (x : BitVec 32) (a : Nat) (ha : 0 < a) (ha' : a < 32) :
    BitVec.setWidth 32 ((BitVec.setWidth 64 x <<< 32 ||| BitVec.setWidth 64 x) >>> a) = x >>> a ||| x <<< (32 - a) := by
  ext i hi
  simp [BitVec.getElem_or, BitVec.getElem_shiftLeft, BitVec.getElem_ushiftRight, BitVec.getLsbD_setWidth]
  by_cases h : i < 32 - a
  · have h1 : a + i < 32 := by omega
    have h2 : a + i < 64 := by omega
    simp [h, h1, h2]
  · have h1 : ¬ a + i < 32 := by omega
    have h2 : a + i < 64 := by omega
    have e : a + i - 32 = i - (32 - a) := by omega
    have h4 : x.getLsbD (a + i) = false := BitVec.getLsbD_of_ge _ _ (by omega)
    have h5 : i - (32 - a) < 32 := by omega
    simp [h, h1, h2, e, h4, BitVec.getLsbD_eq_getElem h5]
    intro _; omega

/-- `PSRLQ` by `0 < a < 32` on a lane pair holding `x` twice leaves `ROTR^a x` in the low lane (the `s1` trick of
    `sha256_sse2.c`) -/
theorem srli64Lane_rot (x : UInt32) (a : Nat) (ha : 0 < a) (ha' : a < 32) :
    (srli64Lane x x a).1 = Sha256.rotr x (UInt32.ofNat a) := by
  have h64 : a < 64 := by omega
  simp only [srli64Lane, h64, if_true, Sha256.rotr]
  apply UInt32.eq_of_toBitVec_eq
  simp
  rw [Nat.mod_eq_of_lt h64, Nat.mod_eq_of_lt ha', Nat.mod_eq_of_lt (by omega : a < 4294967296),
    show (4294967296 - a) % 32 = 32 - a by omega]
  exact lane64 x.toBitVec a ha ha'

@[simp] theorem get0 (a : V4) : a.get 0 = a.x0 := rfl
@[simp] theorem get1 (a : V4) : a.get 1 = a.x1 := rfl
@[simp] theorem get2 (a : V4) : a.get 2 = a.x2 := rfl
@[simp] theorem get3 (a : V4) : a.get 3 = a.x3 := rfl

theorem s1_lane (x : UInt32) :
    ((srli64Lane x x 17).1 ^^^ (srli64Lane x x 19).1) ^^^ shr32 x 10 = Sha256.smallSigma1 x := by
  rw [srli64Lane_rot x 17 (by decide) (by decide), srli64Lane_rot x 19 (by decide) (by decide)]; rfl

theorem s1_low_eq (a : V4) : s1_128_low a = ⟨Sha256.smallSigma1 a.x2, Sha256.smallSigma1 a.x3, 0, 0⟩ := by
  simp only [s1_128_low, mm_shuffle_epi32, mm_xor_si128, mm_srli_epi64, mm_srli_epi32, mm_srli_si128_8,
    V4.zip, V4.map, get0, get2, get3, s1_lane]

theorem s1_high_eq (a : V4) : s1_128_high a = ⟨0, 0, Sha256.smallSigma1 a.x0, Sha256.smallSigma1 a.x1⟩ := by
  simp only [s1_128_high, mm_shuffle_epi32, mm_xor_si128, mm_srli_epi64, mm_srli_epi32, mm_slli_si128_8,
    V4.zip, V4.map, get0, get1, get2, s1_lane]

theorem s0_eq (a : V4) : s0_128 a = V4.map Sha256.smallSigma0 a := rfl

theorem span_eq (a b : V4) : spanOneThree a b = ⟨a.x1, a.x2, a.x3, b.x0⟩ := rfl

/-- `MSG4` lane by lane: with `X0 … X3 = W[j-16 … j-1]` the result is `W[j … j+3]` of FIPS 180-4
    §6.2.2 (the last two lanes use the first two, which is what the "second half of s1" does) -/
theorem msg4_lanes (X0 X1 X2 X3 : V4) :
    msg4 X0 X1 X2 X3 =
      let a := Sha256.smallSigma1 X3.x2 + X2.x1 + Sha256.smallSigma0 X0.x1 + X0.x0
      let b := Sha256.smallSigma1 X3.x3 + X2.x2 + Sha256.smallSigma0 X0.x2 + X0.x1
      ⟨a, b, Sha256.smallSigma1 a + X2.x3 + Sha256.smallSigma0 X0.x3 + X0.x2,
        Sha256.smallSigma1 b + X3.x0 + Sha256.smallSigma0 X1.x0 + X0.x3⟩ := by
  simp only [msg4, s1_low_eq, s1_high_eq, s0_eq, span_eq, mm_add_epi32, V4.zip, V4.map, UInt32.add_zero,
    V4.mk.injEq]
  refine ⟨?_, ?_, ?_, ?_⟩ <;> ac_rfl

/-- four more schedule words from the sixteen newest = one `MSG4` -/
theorem extend4 (n : Nat) (X0 X1 X2 X3 : V4) (rest : List UInt32) :
    Sha256.extend (n + 4) (X3.x3 :: X3.x2 :: X3.x1 :: X3.x0 :: X2.x3 :: X2.x2 :: X2.x1 :: X2.x0 ::
        X1.x3 :: X1.x2 :: X1.x1 :: X1.x0 :: X0.x3 :: X0.x2 :: X0.x1 :: X0.x0 :: rest) =
      Sha256.extend n
        ((msg4 X0 X1 X2 X3).x3 :: (msg4 X0 X1 X2 X3).x2 :: (msg4 X0 X1 X2 X3).x1 :: (msg4 X0 X1 X2 X3).x0 ::
        (X3.x3 :: X3.x2 :: X3.x1 :: X3.x0 :: X2.x3 :: X2.x2 :: X2.x1 :: X2.x0 ::
        X1.x3 :: X1.x2 :: X1.x1 :: X1.x0 :: X0.x3 :: X0.x2 :: X0.x1 :: X0.x0 :: rest)) := by
  rw [msg4_lanes]; rfl

theorem extend4_lanes (n : Nat) (X0 X1 X2 X3 : V4) (rest : List UInt32) :
    Sha256.extend (n + 4)
        (X3.lanes.reverse ++ (X2.lanes.reverse ++ (X1.lanes.reverse ++ (X0.lanes.reverse ++ rest)))) =
      Sha256.extend n ((msg4 X0 X1 X2 X3).lanes.reverse ++
        (X3.lanes.reverse ++ (X2.lanes.reverse ++ (X1.lanes.reverse ++ (X0.lanes.reverse ++ rest))))) :=
  extend4 n X0 X1 X2 X3 rest

/-- sixteen more schedule words = the four `MSG4` calls of one loop iteration -/
theorem extend16 (n : Nat) (y : Y4) (rest : List UInt32) :
    Sha256.extend (n + 16) (y.lanes.reverse ++ rest) =
      Sha256.extend n ((msgStep y).lanes.reverse ++ (y.lanes.reverse ++ rest)) := by
  have hy (y : Y4) (rest : List UInt32) : y.lanes.reverse ++ rest =
      y.y3.lanes.reverse ++ (y.y2.lanes.reverse ++ (y.y1.lanes.reverse ++ (y.y0.lanes.reverse ++ rest))) := rfl
  rw [show n + 16 = n + 4 + 4 + 4 + 4 from rfl, hy y rest, extend4_lanes, extend4_lanes, extend4_lanes,
    extend4_lanes, hy (msgStep y)]
  rfl

theorem loadBswap_eq (b0 b1 b2 b3 b4 b5 b6 b7 b8 b9 b10 b11 b12 b13 b14 b15 : UInt8) :
    loadBswap [b0, b1, b2, b3, b4, b5, b6, b7, b8, b9, b10, b11, b12, b13, b14, b15] =
      some ⟨be32 b0 b1 b2 b3, be32 b4 b5 b6 b7, be32 b8 b9 b10 b11, be32 b12 b13 b14 b15⟩ := by
  simp only [loadBswap, mm_or_bytes, mm_slli_epi16_8, mm_srli_epi16_8, List.zipWith_cons_cons, UInt8.zero_or,
    UInt8.or_zero]
  rfl

theorem loadBswap_lanes (p : Bytes) (h : p.length = 16) : ∃ v, loadBswap p = some v ∧ v.lanes = wordsBE p := by
  obtain ⟨b0, b1, b2, b3, b4, b5, b6, b7, b8, b9, b10, b11, b12, b13, b14, b15, rfl⟩ := len16 p h
  exact ⟨_, loadBswap_eq .., rfl⟩

theorem wordsBE_append (p q : Bytes) (h : p.length % 4 = 0) : wordsBE (p ++ q) = wordsBE p ++ wordsBE q := by
  rw [Words.wordsBE_eq]
  exact Words.words_append be32 (p.length / 4) p q (by omega)

/-- the shape shared by `loadBlock` and `loadBlockNi`: loads of sixteen bytes at offsets 0, 16, 32, 48 -/
def load4 (ld : Bytes → Option V4) (block : Bytes) : Option Y4 :=
  if block.length ≠ 64 then none else do
    let y0 ← ld ((block.drop 0).take 16)
    let y1 ← ld ((block.drop 16).take 16)
    let y2 ← ld ((block.drop 32).take 16)
    let y3 ← ld ((block.drop 48).take 16)
    pure ⟨y0, y1, y2, y3⟩

theorem load4_lanes (ld : Bytes → Option V4) (hld : ∀ p, p.length = 16 → ∃ v, ld p = some v ∧ v.lanes = wordsBE p)
    (block : Bytes) (h : block.length = 64) : ∃ y, load4 ld block = some y ∧ y.lanes = wordsBE block := by
  have hlen (n : Nat) (hn : n + 16 ≤ 64) : ((block.drop n).take 16).length = 16 := by
    rw [List.length_take, List.length_drop]; omega
  have split (n : Nat) (hn : n + 16 ≤ 64) :
      wordsBE (block.drop n) = wordsBE ((block.drop n).take 16) ++ wordsBE (block.drop (n + 16)) := by
    rw [← wordsBE_append _ _ (by rw [hlen n hn]), ← List.drop_drop, List.take_append_drop]
  obtain ⟨v0, e0, l0⟩ := hld _ (hlen 0 (by omega))
  obtain ⟨v1, e1, l1⟩ := hld _ (hlen 16 (by omega))
  obtain ⟨v2, e2, l2⟩ := hld _ (hlen 32 (by omega))
  obtain ⟨v3, e3, l3⟩ := hld _ (hlen 48 (by omega))
  refine ⟨⟨v0, v1, v2, v3⟩, by rw [load4, if_neg (by omega), e0, e1, e2, e3]; rfl, ?_⟩
  rw [Y4.lanes, l0, l1, l2, l3, show wordsBE block = wordsBE (block.drop 0) from rfl, split 0 (by omega),
    split 16 (by omega), split 32 (by omega), split 48 (by omega), List.drop_of_length_le (Nat.le_of_eq h)]
  simp only [wordsBE, List.append_nil, List.append_assoc]

theorem schedule_lanes (y : Y4) (block : Bytes) (hy : y.lanes = wordsBE block) :
    Sha256.schedule block =
      y.lanes ++ (msgStep y).lanes ++ (msgStep (msgStep y)).lanes ++ (msgStep (msgStep (msgStep y))).lanes := by
  unfold Sha256.schedule
  rw [← Sha256.extend_eq, ← hy, ← List.append_nil y.lanes.reverse, show (48 : Nat) = 0 + 16 + 16 + 16 from rfl,
    extend16, extend16, extend16]
  simp [Sha256.extend, List.reverse_append]

theorem sse2W_eq (block : Bytes) (h : block.length = 64) :
    sse2W block = some (Sha256.schedule block) := by
  obtain ⟨y, hy, hl⟩ := load4_lanes loadBswap loadBswap_lanes block h
  rw [sse2W, show loadBlock block = some y from hy, Option.map_some, schedule_lanes y block hl]

theorem transformSse2_eq (H : Sha256.Regs) (block : Bytes) (h : block.length = 64) :
    transformSse2 H block = some (Sha256.compress H block) := by
  simp [transformSse2, sse2W_eq block h, Sha256.compress]

theorem be32dec_128_eq (b0 b1 b2 b3 b4 b5 b6 b7 b8 b9 b10 b11 b12 b13 b14 b15 : UInt8) :
    be32dec_128 [b0, b1, b2, b3, b4, b5, b6, b7, b8, b9, b10, b11, b12, b13, b14, b15] =
      some ⟨be32 b0 b1 b2 b3, be32 b4 b5 b6 b7, be32 b8 b9 b10 b11, be32 b12 b13 b14 b15⟩ := rfl

/-- the SDM's round on `WK = W + K` is the FIPS 180-4 round -/
theorem sdmRound_eq (r : Sha256.Regs) (k w : UInt32) : sdmRound r (w + k) = Sha256.round r k w := by
  simp only [sdmRound, Sha256.round, Sha256.Regs.mk.injEq, and_true, true_and]
  refine ⟨?_, ?_⟩ <;> ac_rfl

/-- the register `ABEF` (`A` in the top lane) and `CDGH` of a set of working variables -/
def abef (r : Sha256.Regs) : V4 := ⟨r.f, r.e, r.b, r.a⟩
def cdgh (r : Sha256.Regs) : V4 := ⟨r.h, r.g, r.d, r.c⟩

theorem rnd4_eq (r : Sha256.Regs) (w : V4) (k0 k1 k2 k3 : UInt32) :
    rnd4 ⟨abef r, cdgh r⟩ w k0 k1 k2 k3 =
      ⟨abef (Sha256.round (Sha256.round (Sha256.round (Sha256.round r k0 w.x0) k1 w.x1) k2 w.x2) k3 w.x3),
       cdgh (Sha256.round (Sha256.round (Sha256.round (Sha256.round r k0 w.x0) k1 w.x1) k2 w.x2) k3 w.x3)⟩ := by
  simp only [rnd4, sha256rnds2, abef, cdgh, mm_add_epi32, mm_srli_si128_8, V4.zip, sdmRound_eq]
  rfl

/-- `MSG4` of `sha256_shani.c` (`SHA256MSG1`, `PALIGNR`, `SHA256MSG2`) and `MSG4` of
    `sha256_sse2.c` compute the same four words -/
theorem msg4ni_eq (X0 X1 X2 X3 : V4) : msg4ni X0 X1 X2 X3 = msg4 X0 X1 X2 X3 := by
  have ha : X0.x0 + Sha256.smallSigma0 X0.x1 + X2.x1 + Sha256.smallSigma1 X3.x2 =
      Sha256.smallSigma1 X3.x2 + X2.x1 + Sha256.smallSigma0 X0.x1 + X0.x0 := by ac_rfl
  have hb : X0.x1 + Sha256.smallSigma0 X0.x2 + X2.x2 + Sha256.smallSigma1 X3.x3 =
      Sha256.smallSigma1 X3.x3 + X2.x2 + Sha256.smallSigma0 X0.x2 + X0.x1 := by ac_rfl
  rw [msg4_lanes]
  simp only [msg4ni, sha256msg1, sha256msg2, mm_add_epi32, mm_alignr_epi8_4, V4.zip, V4.mk.injEq, ha, hb,
    true_and]
  refine ⟨?_, ?_⟩ <;> ac_rfl

def rounds16 (r : Sha256.Regs) (k : List UInt32) (y : Y4) : Sha256.Regs :=
  (k.zip y.lanes).foldl (fun r kw => Sha256.round r kw.1 kw.2) r

theorem rndmsgQuad_eq (r : Sha256.Regs) (y : Y4) (k : List UInt32) (hk : k.length = 16) :
    rndmsgQuad ⟨abef r, cdgh r⟩ y k = some (⟨abef (rounds16 r k y), cdgh (rounds16 r k y)⟩, msgStep y) := by
  obtain ⟨k0, k1, k2, k3, k4, k5, k6, k7, k8, k9, k10, k11, k12, k13, k14, k15, rfl⟩ := len16 k hk
  simp only [rndmsgQuad, rnd4_eq, msg4ni_eq]
  rfl

theorem rndQuad_eq (r : Sha256.Regs) (y : Y4) (k : List UInt32) (hk : k.length = 16) :
    rndQuad ⟨abef r, cdgh r⟩ y k = some ⟨abef (rounds16 r k y), cdgh (rounds16 r k y)⟩ := by
  obtain ⟨k0, k1, k2, k3, k4, k5, k6, k7, k8, k9, k10, k11, k12, k13, k14, k15, rfl⟩ := len16 k hk
  simp only [rndQuad, rnd4_eq]
  rfl

theorem shaniK_eq : Gen.CpuPaths.shaniK = Sha256.K := by decide +kernel

theorem length_lanes (y : Y4) : y.lanes.length = 16 := rfl

theorem rounds_split (H : Sha256.Regs) (y a b c : Y4) :
    Sha256.rounds H (y.lanes ++ a.lanes ++ b.lanes ++ c.lanes) =
      rounds16 (rounds16 (rounds16 (rounds16 H (Sha256.K.take 16) y) ((Sha256.K.drop 16).take 16) a)
        ((Sha256.K.drop 32).take 16) b) (Sha256.K.drop 48) c := by
  have hk : Sha256.K = Sha256.K.take 16 ++ (Sha256.K.drop 16).take 16 ++ (Sha256.K.drop 32).take 16 ++
      Sha256.K.drop 48 := by decide +kernel
  unfold Sha256.rounds rounds16
  conv => lhs; rw [hk]
  rw [List.zip_append (by rw [List.length_append, List.length_append, List.length_append,
        List.length_append, length_lanes, length_lanes, length_lanes]; decide +kernel),
    List.zip_append (by rw [List.length_append, List.length_append, length_lanes, length_lanes]; decide +kernel),
    List.zip_append (by rw [length_lanes]; decide +kernel),
    List.foldl_append, List.foldl_append, List.foldl_append]

theorem be32dec_128_lanes (p : Bytes) (h : p.length = 16) : ∃ v, be32dec_128 p = some v ∧ v.lanes = wordsBE p := by
  obtain ⟨b0, b1, b2, b3, b4, b5, b6, b7, b8, b9, b10, b11, b12, b13, b14, b15, rfl⟩ := len16 p h
  exact ⟨_, be32dec_128_eq .., rfl⟩

theorem stateIn_eq (H : Sha256.Regs) : stateIn H = ⟨abef H, cdgh H⟩ := rfl

theorem stateOut_eq (H r : Sha256.Regs) : stateOut ⟨abef H, cdgh H⟩ ⟨abef r, cdgh r⟩ = Sha256.addRegs H r := by
  simp only [stateOut, Sha256.addRegs, abef, cdgh, mm_add_epi32, mm_unpackhi_epi64, mm_unpacklo_epi64,
    mm_shuffle_epi32, V4.zip, get0, get1, get2, get3, Sha256.Regs.mk.injEq]
  refine ⟨?_, ?_, ?_, ?_, ?_, ?_, ?_, ?_⟩ <;> exact UInt32.add_comm _ _

theorem shaniRounds_eq (r : Sha256.Regs) (y : Y4) :
    shaniRounds ⟨abef r, cdgh r⟩ y Sha256.K =
      some ⟨abef (Sha256.rounds r (y.lanes ++ (msgStep y).lanes ++ (msgStep (msgStep y)).lanes ++
              (msgStep (msgStep (msgStep y))).lanes)),
            cdgh (Sha256.rounds r (y.lanes ++ (msgStep y).lanes ++ (msgStep (msgStep y)).lanes ++
              (msgStep (msgStep (msgStep y))).lanes))⟩ := by
  rw [rounds_split]
  unfold shaniRounds
  rw [rndmsgQuad_eq _ _ _ rfl, Option.bind_some, rndmsgQuad_eq _ _ _ rfl, Option.bind_some,
    rndmsgQuad_eq _ _ _ rfl, Option.bind_some, rndQuad_eq _ _ _ rfl]

/-- **`SHA256_Transform_shani` is the FIPS 180-4 compression function** (given the SDM semantics
    of `SHA256RNDS2/MSG1/MSG2`, `PSHUFB`, `PALIGNR`, `PUNPCK*QDQ`, `PSHUFD`) -/
theorem transformShani_eq (H : Sha256.Regs) (block : Bytes) (h : block.length = 64) :
    transformShani H block = some (Sha256.compress H block) := by
  obtain ⟨y, hy, hl⟩ := load4_lanes be32dec_128 be32dec_128_lanes block h
  unfold transformShani Sha256.compress
  rw [show loadBlockNi block = some y from hy, schedule_lanes y block hl, shaniK_eq, stateIn_eq]
  simp only [Option.bind_eq_bind, Option.bind_some, shaniRounds_eq, stateOut_eq, Option.pure_def]

theorem transformAccel_eq (p : ShaPath) (H : Sha256.Regs) (block : Bytes) (h : block.length = 64) :
    transformAccel p H block = some (Sha256.compress H block) := by
  cases p
  · exact transformSse2_eq H block h
  · exact transformShani_eq H block h

theorem absorbAccel_eq (H : Sha256.Regs) (calls : List (ShaPath × Bytes)) (h : ∀ pb ∈ calls, pb.2.length = 64) :
    absorbAccel H calls = some ((calls.map (·.2)).foldl Sha256.compress H) := by
  induction calls generalizing H with
  | nil => rfl
  | cons pb rest ih =>
    simp only [absorbAccel, transformAccel_eq pb.1 H pb.2 (h pb (by simp)), List.map_cons, List.foldl_cons]
    exact ih _ (fun b' hb' => h b' (by simp [hb']))

end Percival.Proofs.CpuPaths
