import Percival.Proofs.EventsTmAbs
/-!
# C05: the relation between the monitor's state and the model's state; immediate and socket steps (helper lemmas)

`Rel` ties the monitor's picture of the registrations (`imms`, `nets`, `tms`), its clock and the flags `intr`, `done`
to the model.  The control fields (`stop`, `fired`, `mustFire`, `polled`, `looked`, …) are left out on purpose: what
holds of them depends on where the loop is, and is carried as the predicate `P` of `Good` (`EventsC05Run`).  Readiness
is tied from the monitor to the model (`RNet.ready`: a socket the monitor flags ready still has its report in the
model, so a scan from the top that finds nothing shows that no flagged socket is waiting); in the C04 relation it is
the other way round.
-/
namespace Percival.Proofs.EventsC05
open Percival.Spec.Events Percival.Model.Events Percival.Model
open Percival.Proofs.EventsNet Percival.Proofs.EventsImm Percival.Proofs.EventsTQ Percival.Proofs.EventsNetAbs
open Percival.Proofs.EventsC04 (TmOk TmView idsNodup_snoc notLive_views)

/-- some pollfd entry of `fd` reports direction `d`, or ERR/HUP (per position of `fds[]`; `hot_iff` reads it per
    descriptor, as `hot (rev n fd) d`) -/
def Hot (n : Net) (fd : Nat) (d : Dir) : Prop :=
  ∃ (j : Nat) (e : PollFd), n.fds[j]? = some e ∧ e.fd = fd ∧ (e.rev.dir d = true ∨ e.rev.errhup = true)

/-- sockets: the monitor's list is the graph of `slot` (`iff`); a `ready` flag has its report in the model (`ready`) -/
structure RNet (nets : List C05.Net) (n : Net) : Prop where
  inv : Inv n
  ids : (nets.map (·.id)).Nodup
  iff : ∀ id fd d, (∃ rd, (⟨id, fd, d, rd⟩ : C05.Net) ∈ nets) ↔ slot n fd d = some id
  ready : ∀ x ∈ nets, x.ready = true → Hot n x.fd x.d

/-- timers: the monitor's list is the set of `TmView`s (`iff`); no deadline is further away than its timeout (`dl`: a
    reset never moves a deadline backwards, which `timerqueue_increase` needs) -/
structure RTm (C : TQContract) (tms : List C05.Tm) (clock : Nat) (tq : TimerQueue.TQ)
    (timers : List (Nat × TimerRec)) (nextRec : Nat) : Prop where
  ok : TmOk C tq timers nextRec
  ids : (tms.map (·.id)).Nodup
  iff : ∀ id us dl, (⟨id, us, dl⟩ : C05.Tm) ∈ tms ↔ TmView tq timers id us dl
  dl : ∀ t ∈ tms, t.deadline ≤ clock + t.usec

/-- the monitor's `imms` IS the list the 32 queues hold, in order; an id is in one of the three lists only (`disjIN`,
    `disjIT`, `disjNT`), so that the monitor's `dropId` touches the list the model's operation touches -/
structure Rel (C : TQContract) (m : C05.M) (s : State) : Prop where
  clock : m.clock = s.clock
  intr : m.intr = s.intr
  imm : RQ s.imm m.imms
  immIds : IdsNodup m.imms
  net : RNet m.nets s.net
  tm : RTm C m.tms m.clock s.tq s.timers s.nextRec
  disjIN : ∀ id, id ∈ m.imms.map (·.id) → id ∉ m.nets.map (·.id)
  disjIT : ∀ id, id ∈ m.imms.map (·.id) → id ∉ m.tms.map (·.id)
  disjNT : ∀ id, id ∈ m.nets.map (·.id) → id ∉ m.tms.map (·.id)
  done : m.done = s.done

/-- what the relation reads of the monitor's state and of the model's state -/
def mcore (m : C05.M) : List C05.Imm × List C05.Net × List C05.Tm × Nat × Bool × Bool :=
  (m.imms, m.nets, m.tms, m.clock, m.intr, m.done)

def score (s : State) : Net × Imm × TimerQueue.TQ × List (Nat × TimerRec) × Nat × Nat × Bool × Bool :=
  (s.net, s.imm, s.tq, s.timers, s.nextRec, s.clock, s.intr, s.done)

theorem Rel.congr {C : TQContract} {m m' : C05.M} {s s' : State} (r : Rel C m s) (hm : mcore m' = mcore m)
    (hs : score s' = score s) : Rel C m' s' := by
  simp only [mcore, score, Prod.mk.injEq] at hm hs
  obtain ⟨m1, m2, m3, m4, m5, m6⟩ := hm
  obtain ⟨s1, s2, s3, s4, s5, s6, s7, s8⟩ := hs
  refine ⟨by rw [m4, s6]; exact r.clock, by rw [m5, s7]; exact r.intr, by rw [m1, s2]; exact r.imm, by rw [m1]; exact r.immIds,
    by rw [m2, s1]; exact r.net, by rw [m3, m4, s3, s4, s5]; exact r.tm, ?_, ?_, ?_, by rw [m6, s8]; exact r.done⟩
  · rw [m1, m2]; exact r.disjIN
  · rw [m1, m3]; exact r.disjIT
  · rw [m2, m3]; exact r.disjNT

theorem filter_id_self {α : Type} (l : List α) (f : α → Nat) (id : Nat) (h : id ∉ l.map f) :
    l.filter (fun x => f x != id) = l := by
  apply List.filter_eq_self.mpr
  intro x hx
  simp only [bne_iff_ne, ne_eq]
  intro hh; exact h (List.mem_map.mpr ⟨x, hx, hh⟩)

theorem dropId_of_fresh (m : C05.M) (id : Nat) (h1 : id ∉ m.imms.map (·.id)) (h2 : id ∉ m.nets.map (·.id))
    (h3 : id ∉ m.tms.map (·.id)) : C05.dropId m id = m := by
  unfold C05.dropId
  rw [filter_id_self m.imms (·.id) id h1, filter_id_self m.nets (·.id) id h2, filter_id_self m.tms (·.id) id h3]

theorem mem_ids_of_filter {α : Type} {l : List α} {f : α → Nat} {p : α → Bool} {id : Nat}
    (h : id ∈ (l.filter p).map f) : id ∈ l.map f :=
  (List.Sublist.map f List.filter_sublist).subset h

variable {C : TQContract} {m : C05.M} {s : State}

theorem fresh_of_not_live (r : Rel C m s) (id : Nat)
    (h : isLive s id = false) :
    id ∉ m.imms.map (·.id) ∧ id ∉ m.nets.map (·.id) ∧ id ∉ m.tms.map (·.id) := by
  obtain ⟨h1, h2, h3⟩ := notLive_views h
  refine ⟨fun hm => ?_, fun hm => ?_, fun hm => ?_⟩ <;> obtain ⟨x, hx, rfl⟩ := List.mem_map.mp hm
  · exact h1 _ r.imm x.prio hx
  · exact h2 x.fd x.d ((r.net.iff x.id x.fd x.d).mp ⟨x.ready, hx⟩)
  · exact h3 x.usec x.deadline ((r.tm.iff x.id x.usec x.deadline).mp hx)

theorem rel_regImm (r : Rel C m s) (id prio : Nat)
    (hl : isLive s id = false) (hp : prio < 32) :
    ∃ q' m', immRegister s.imm id prio = some q' ∧ C05.step m (.op (.regImm id prio) .ok) = .ok m' ∧
      Rel C m' { s with imm := q' } := by
  obtain ⟨f1, f2, f3⟩ := fresh_of_not_live r id hl
  obtain ⟨q', heq, hq'⟩ := immRegister_rq s.imm m.imms id prio r.imm hp
  refine ⟨q', { m with imms := m.imms ++ [⟨id, prio⟩] }, heq, ?_, ?_⟩
  · delta C05.step
    simp only [dropId_of_fresh m id f1 f2 f3]; rfl
  · have hids : ∀ id', id' ∈ (m.imms ++ [(⟨id, prio⟩ : C05.Imm)]).map (·.id) → id' ∈ m.imms.map (·.id) ∨ id' = id := by
      intro id' h
      simpa using h
    refine { r with imm := hq', immIds := idsNodup_snoc r.immIds id prio f1, disjIN := ?_, disjIT := ?_ }
    · intro id' hid'
      rcases hids id' hid' with h | rfl
      · exact r.disjIN id' h
      · exact f2
    · intro id' hid'
      rcases hids id' hid' with h | rfl
      · exact r.disjIT id' h
      · exact f3

/-- removing registration `id` that is an immediate (cancelled, or taken by `events_immediate_get`) -/
theorem rel_remove_imm (r : Rel C m s) (id p : Nat) (q' : Imm)
    (hm : (⟨id, p⟩ : C05.Imm) ∈ m.imms) (hq' : RQ q' (m.imms.filter (fun i => i.id != id))) :
    C05.dropId m id = { m with imms := m.imms.filter (fun i => i.id != id) } ∧
    Rel C { m with imms := m.imms.filter (fun i => i.id != id) } { s with imm := q' } := by
  have hin : id ∈ m.imms.map (·.id) := List.mem_map.mpr ⟨_, hm, rfl⟩
  have e2 := filter_id_self m.nets (·.id) id (r.disjIN id hin)
  have e3 := filter_id_self m.tms (·.id) id (r.disjIT id hin)
  refine ⟨by unfold C05.dropId; rw [e2, e3], ?_⟩
  exact { r with imm := hq', immIds := filter_idsNodup r.immIds id
                 disjIN := fun id' h => r.disjIN id' (mem_ids_of_filter h)
                 disjIT := fun id' h => r.disjIT id' (mem_ids_of_filter h) }

theorem rel_cancelImm (r : Rel C m s) (id p : Nat)
    (hp : immPrioOf s.imm id = some p) :
    ∃ q' m', immCancel s.imm id p = some q' ∧ C05.step m (.op (.cancelImm id) .ok) = .ok m' ∧
      Rel C m' { s with imm := q' } := by
  have hm := immPrioOf_some s.imm m.imms id p r.imm hp
  obtain ⟨q', heq, hq'⟩ := immCancel_rq s.imm m.imms id p r.imm r.immIds hm
  obtain ⟨hd, hr⟩ := rel_remove_imm r id p q' hm hq'
  refine ⟨q', _, heq, ?_, hr⟩
  delta C05.step
  simp only [hd]; rfl

theorem netLive_eq (r : Rel C m s) (fd : Nat) (d : Dir) :
    C05.netLive m fd d = (slot s.net fd d).isSome := by
  rw [Bool.eq_iff_iff, Option.isSome_iff_exists]
  unfold C05.netLive
  rw [List.any_eq_true]
  constructor
  · rintro ⟨x, hx, hc⟩
    simp only [Bool.and_eq_true, beq_iff_eq] at hc
    obtain ⟨rfl, rfl⟩ := hc
    exact ⟨x.id, (r.net.iff x.id x.fd x.d).mp ⟨x.ready, hx⟩⟩
  · rintro ⟨id, hs⟩
    obtain ⟨rd, hx⟩ := (r.net.iff id fd d).mpr hs
    exact ⟨_, hx, by simp⟩

theorem mem_ids_net {l : List C05.Net} {id : Nat} : id ∈ l.map (·.id) ↔ ∃ fd d rd, (⟨id, fd, d, rd⟩ : C05.Net) ∈ l := by
  simp only [List.mem_map]
  constructor
  · rintro ⟨x, hx, rfl⟩; exact ⟨x.fd, x.d, x.ready, hx⟩
  · rintro ⟨fd, d, rd, hp⟩; exact ⟨_, hp, rfl⟩

/-- `Hot` speaks of positions in `fds[]`; the operations are described by the report per descriptor (`rev`) -/
theorem hot_iff {n : Net} (h : Inv0 n) (fd : Nat) (d : Dir) : Hot n fd d ↔ hot (rev n fd) d :=
  (rev_iff h (P := fun b => hot b d) (not_hot_empty d) fd).symm

theorem RNet.report {nets : List C05.Net} {n : Net} (r : RNet nets n) (x : C05.Net) (hx : x ∈ nets) (hrdy : x.ready = true) :
    hot (rev n x.fd) x.d :=
  (hot_iff r.inv.inv0 x.fd x.d).mp (r.ready x hx hrdy)

theorem RNet.of_rev {nets : List C05.Net} {n : Net} (hinv : Inv n) (hids : (nets.map (·.id)).Nodup)
    (hiff : ∀ id fd d, (∃ rd, (⟨id, fd, d, rd⟩ : C05.Net) ∈ nets) ↔ slot n fd d = some id)
    (hr : ∀ x ∈ nets, x.ready = true → hot (rev n x.fd) x.d) : RNet nets n :=
  ⟨hinv, hids, hiff, fun x hx hrdy => (hot_iff hinv.inv0 x.fd x.d).mpr (hr x hx hrdy)⟩

theorem rel_regNet_ok {id fd : Nat} {d : Dir} {n' : Net} (r : Rel C m s) (hl : isLive s id = false)
    (ha : Added s.net n' id fd d) :
    ∃ m', C05.step m (.op (.regNet id fd d) .ok) = .ok m' ∧ Rel C m' { s with net := n' } := by
  obtain ⟨f1, f2, f3⟩ := fresh_of_not_live r id hl
  obtain ⟨hinv, hfree, hslot, hrev⟩ := ha
  have hnl : C05.netLive m fd d = false := by rw [netLive_eq r, hfree]; rfl
  refine ⟨{ m with nets := ⟨id, fd, d, false⟩ :: m.nets }, ?_, ?_⟩
  · delta C05.step
    simp only [hnl, Bool.false_eq_true, if_false, dropId_of_fresh m id f1 f2 f3]; rfl
  · refine { r with net := .of_rev hinv ?_ ?_ ?_, disjIN := ?_, disjNT := ?_ }
    · show (List.map (·.id) (⟨id, fd, d, false⟩ :: m.nets)).Nodup
      simp only [List.map_cons, List.nodup_cons]
      exact ⟨f2, r.net.ids⟩
    · refine slotGraph_insert r.net.iff hfree hslot fun id' fd' d' => ?_
      show (∃ rd, (⟨id', fd', d', rd⟩ : C05.Net) ∈ (⟨id, fd, d, false⟩ : C05.Net) :: m.nets) ↔ _
      simp only [List.mem_cons, C05.Net.mk.injEq, exists_or, exists_and_left, exists_eq, and_true]
    · intro x hx hrdy
      have hx' : x ∈ (⟨id, fd, d, false⟩ : C05.Net) :: m.nets := hx
      rcases List.mem_cons.mp hx' with rfl | hx'
      · cases hrdy
      · exact hrev x.fd ▸ r.net.report x hx' hrdy
    · intro id' hid' hmem
      rcases List.mem_cons.mp hmem with rfl | h
      · exact f1 hid'
      · exact r.disjIN id' hid' h
    · intro id' hmem
      rcases List.mem_cons.mp hmem with rfl | h
      · exact f3
      · exact r.disjNT id' h

theorem rel_regNet_eexist (r : Rel C m s) (id fd : Nat) (d : Dir) (id0 : Nat)
    (hs : slot s.net fd d = some id0) :
    C05.step m (.op (.regNet id fd d) .eexist) = .ok m := by
  have : C05.netLive m fd d = true := by rw [netLive_eq r, hs]; rfl
  show (if C05.netLive m fd d = true then _ else _) = _
  rw [if_pos this]; rfl

theorem rel_cancelNet_enoent (r : Rel C m s) (fd : Nat) (d : Dir)
    (hs : slot s.net fd d = none) :
    C05.step m (.op (.cancelNet fd d) .enoent) = .ok m := by
  have : C05.netLive m fd d = false := by rw [netLive_eq r, hs]; rfl
  show (if C05.netLive m fd d = true then _ else _) = _
  rw [if_neg (by rw [this]; nofun)]; rfl

theorem holder_unique {nets : List C05.Net} {n : Net} (r : RNet nets n) (id fd : Nat) (d : Dir)
    (hs : slot n fd d = some id) (x : C05.Net) (hx : x ∈ nets) : (x.fd = fd ∧ x.d = d) ↔ x.id = id := by
  constructor
  · rintro ⟨h1, h2⟩
    have := (r.iff x.id x.fd x.d).mp ⟨x.ready, hx⟩
    rw [h1, h2, hs] at this; cases this; rfl
  · intro hid
    obtain ⟨rd0, h0⟩ := (r.iff id fd d).mpr hs
    have := Keys.inj (f := C05.Net.id) r.ids hx h0 hid
    rw [this]; exact ⟨rfl, rfl⟩

theorem rnet_drop {nets : List C05.Net} {n n' : Net} {id fd : Nat} {d : Dir} (r : RNet nets n) (hd : Dropped n n' id fd d) :
    RNet (nets.filter (fun x => x.id != id)) n' := by
  have hsub : ∀ x, x ∈ nets.filter (fun x => x.id != id) ↔ x ∈ nets ∧ x.id ≠ id :=
    fun x => by rw [List.mem_filter]; simp only [bne_iff_ne, ne_eq]
  have hiff : ∀ id' fd' d', (∃ rd, (⟨id', fd', d', rd⟩ : C05.Net) ∈ nets.filter (fun x => x.id != id)) ↔
      slot n' fd' d' = some id' := by
    refine slotGraph_drop r.iff hd.held hd.slots ?_ fun id' fd' d' => by simp only [hsub, and_comm, exists_and_left]
    rintro fd' d' ⟨rd, hx⟩
    exact (holder_unique r id fd d hd.held _ hx).mpr rfl
  exact .of_rev hd.inv (Keys.filter _ r.ids) hiff fun x hx hrdy =>
    (hd.run x.fd x.d (by rw [(hiff x.id x.fd x.d).mp ⟨x.ready, hx⟩]; rfl)).mpr (r.report x ((hsub x).mp hx).1 hrdy)

/-- the socket registration `id` in `slot s.net fd d` leaves: cancelled, or returned by `events_network_get` -/
theorem rel_remove_net {id fd : Nat} {d : Dir} {n' : Net} (r : Rel C m s) (hd : Dropped s.net n' id fd d) :
    C05.dropId m id = { m with nets := m.nets.filter (fun x => x.id != id) } ∧
    Rel C { m with nets := m.nets.filter (fun x => x.id != id) } { s with net := n' } := by
  obtain ⟨rd, hx⟩ := (r.net.iff id fd d).mpr hd.held
  have hin : id ∈ m.nets.map (·.id) := List.mem_map.mpr ⟨_, hx, rfl⟩
  have e1 := filter_id_self m.imms (·.id) id (fun h => r.disjIN id h hin)
  have e3 := filter_id_self m.tms (·.id) id (r.disjNT id hin)
  exact ⟨by unfold C05.dropId; rw [e1, e3],
    { r with net := rnet_drop r.net hd
             disjIN := fun id' h hm => r.disjIN id' h (mem_ids_of_filter hm)
             disjNT := fun id' hm => r.disjNT id' (mem_ids_of_filter hm) }⟩

/-- the monitor's `cancelNet` filters by `(fd, d)`, which is the id in that slot -/
theorem cancelNet_filter_eq {nets : List C05.Net} {n : Net} (r : RNet nets n) {id fd : Nat} {d : Dir} (hsl : slot n fd d = some id) :
    nets.filter (fun x => !(x.fd == fd && x.d == d)) = nets.filter (fun x => x.id != id) := by
  refine List.filter_congr fun x hx => ?_
  rw [Bool.eq_iff_iff, Bool.not_eq_true', bne_iff_ne, ← Bool.not_eq_true, Bool.and_eq_true, beq_iff_eq, beq_iff_eq,
    holder_unique r id fd d hsl x hx]

theorem rel_cancelNet_ok {id fd : Nat} {d : Dir} {n' : Net} (r : Rel C m s) (hd : Dropped s.net n' id fd d) :
    ∃ m', C05.step m (.op (.cancelNet fd d) .ok) = .ok m' ∧ Rel C m' { s with net := n' } := by
  have hnl : C05.netLive m fd d = true := by rw [netLive_eq r, hd.held]; rfl
  refine ⟨{ m with nets := m.nets.filter (fun n => !(n.fd == fd && n.d == d)) }, ?_,
    cancelNet_filter_eq r.net hd.held ▸ (rel_remove_net r hd).2⟩
  delta C05.step
  simp only [hnl, if_true]; rfl

/-- `events_network_get` found nothing: only ERR/HUP expansions happened -/
theorem rel_net_expanded {n1 : Net} (r : Rel C m s) (hx : Expanded s.net n1) : Rel C m { s with net := n1 } := by
  have hiff : ∀ id fd d, (∃ rd, (⟨id, fd, d, rd⟩ : C05.Net) ∈ m.nets) ↔ slot n1 fd d = some id :=
    fun id fd d => by rw [hx.slots]; exact r.net.iff id fd d
  exact { r with net := .of_rev hx.inv r.net.ids hiff fun x hm hrdy =>
            (hx.run x.fd x.d (by rw [(hiff x.id x.fd x.d).mp ⟨x.ready, hm⟩]; rfl)).mpr (r.net.report x hm hrdy) }

end Percival.Proofs.EventsC05
