import Percival.Proofs.DsOut
import Percival.Proofs.EArray
/-!
# `Model.DsStep.stepOp` (the function `pmodel ds` runs) = the proved step functions (C12, C14)

For each family of protocol operations: the container operation a protocol line stands for (`eaOpOf`, `eqOpOf`,
`smOpOf`, `mpOpOf`), the typed output built from the container step's observable answer (`eaOutOf`, …) and the
equation `stepOp s op = (state with the component replaced by the step's, that output)`.  What `stepOp` adds to
the container step is visible in these definitions and nowhere else:

* the caller's data are `patBytes seed n` (for `ea_resize`: the bytes written into the grown part; for an
  `ea_append` no allocation can hold: a one-byte dummy buffer);
* `rf` / `req` / `live` are read off the allocation oracle before and after the step;
* after a successful `ea_dup` the harness frees the copy; `mp_malloc` / `mp_free` keep the harness' list of objects in use;
* an access the container step reports as out of contract (`oob`) on `ea_get` / `ea_set` / `eq_set` beyond the end
  is the protocol answer `skip`; on the other operations it is the answer `oob` (never reached from a state that
  satisfies the containers' invariants: `C12.ea_step_refines` …);
* a failed `assert` of `seqptrmap_add` is the answer `assert` and leaves the protocol state alone.
-/

namespace Percival.Proofs.DsStep
open Percival.Model Percival.Model.DsStep Percival.Spec.DS Percival.Spec.DSMon
open Percival.Proofs.EArray

/-- the array operation a protocol line stands for, on an array that holds `size` bytes; `none`: not one of the
eight operations of `EArray.step`, or record length 0 -/
def eaOpOf (size : Nat) : Op → Option EaOp
  | .eaResize n reclen seed => (mkRecLen reclen).map fun r => .resize n r (patBytes seed (n * r.val - size))
  | .eaAppend n reclen seed => (mkRecLen reclen).map fun r =>
      .append (if n ≤ dataMax / r.val then patBytes seed (n * r.val) else [0]) n r
  | .eaShrink n reclen => (mkRecLen reclen).map fun r => .shrink n r
  | .eaTrunc => some .truncate
  | .eaGet pos reclen => (mkRecLen reclen).map fun r => .get pos r
  | .eaSet pos reclen seed => (mkRecLen reclen).map fun r => .set pos r (patBytes seed r.val)
  | .eaGetsize reclen => (mkRecLen reclen).map fun r => .getsize r
  | .eaDup reclen => (mkRecLen reclen).map fun r => .exportdup r
  | _ => none

/-- the oracle after the harness' own frees: the copy made by a successful `exportdup` -/
def eaHarnessFree (e : EaOp) (an : EaAns) (m' : Mem) : Mem :=
  match e, an.st, an.out with
  | .exportdup _, .ok, some _ => m'.free false
  | _, _, _ => m'

/-- the printed line for an observed array answer (`m`: oracle before, `m'` after the step, `mEnd` after the
harness' frees) -/
def eaOutOf (an : EaAns) (m m' mEnd : Mem) : Out :=
  .ea an.st an.size an.alloc (rf m m') (an.out.map fun p => (p.2, p.1)) (l2c m mEnd)

theorem S_eta (s : DsStep.S) (a : EArray.EA) (hs : s.ea = some a) : { s with m := s.m, ea := some a } = s := by
  cases s; simp only at hs; subst hs; rfl

/-- **the eight array operations of the protocol are `EArray.step`** on the array component (when the step
does not report an access outside storage) -/
theorem ea_stepOp (s : DsStep.S) (a : EArray.EA) (hs : s.ea = some a) (op : Op) (e : EaOp)
    (he : eaOpOf a.size op = some e) (hno : (EArray.step a e s.m).1.st ≠ .oob) :
    stepOp s op =
      ({ s with m := eaHarnessFree e (EArray.step a e s.m).1 (EArray.step a e s.m).2.2,
                ea := some (EArray.step a e s.m).2.1 },
       eaOutOf (EArray.step a e s.m).1 s.m (EArray.step a e s.m).2.2
         (eaHarnessFree e (EArray.step a e s.m).1 (EArray.step a e s.m).2.2)) := by
  revert hno
  cases op <;> simp only [eaOpOf, Option.map_eq_some_iff, reduceCtorEq] at he
  case eaResize n reclen seed =>
    obtain ⟨r, hr, rfl⟩ := he
    simp only [stepOp, onEa, hs, hr, EArray.step]
    have hsz := fun h => ((resizeRec_acct a n r s.m).2.1 h).2
    rcases hres : EArray.resizeRec a n r s.m with ⟨ok, a', m'⟩
    rw [hres] at hsz
    cases ok
    · exact fun _ => rfl
    · simp only at hsz ⊢
      rw [hsz trivial]
      cases hf : EArray.fillFrom a' a.size (patBytes seed (n * r.val - a.size))
      · exact fun h => absurd rfl h
      · exact fun _ => rfl
  case eaAppend n reclen seed =>
    obtain ⟨r, hr, rfl⟩ := he
    simp only [stepOp, onEa, hs, hr, EArray.step]
    rcases hres : EArray.append a (if n ≤ dataMax / r.val then patBytes seed (n * r.val) else [0]) n r s.m with ⟨st, a', m'⟩
    exact fun _ => rfl
  case eaShrink n reclen =>
    obtain ⟨r, hr, rfl⟩ := he
    simp only [stepOp, onEa, hs, hr, EArray.step]
    rcases hres : EArray.shrink a n r s.m with ⟨a', m'⟩
    exact fun _ => rfl
  case eaTrunc =>
    cases he
    simp only [stepOp, onEa, hs, EArray.step]
    rcases hres : EArray.truncate a s.m with ⟨ok, a', m'⟩
    cases ok <;> exact fun _ => rfl
  case eaGet pos reclen =>
    obtain ⟨r, hr, rfl⟩ := he
    simp only [stepOp, onEa, hs, hr, EArray.step]
    cases hg : EArray.getRec a pos r
    · exact fun h => absurd rfl h
    · intro _
      simp [eaHarnessFree, eaOutOf, eaOut, EArray.ans, S_eta s a hs]
  case eaSet pos reclen seed =>
    obtain ⟨r, hr, rfl⟩ := he
    simp only [stepOp, onEa, hs, hr, EArray.step]
    cases hg : EArray.setRec a pos r (patBytes seed r.val)
    · exact fun h => absurd rfl h
    · exact fun _ => rfl
  case eaGetsize reclen =>
    obtain ⟨r, hr, rfl⟩ := he
    simp only [stepOp, onEa, hs, hr, EArray.step]
    simp [eaHarnessFree, eaOutOf, eaOut, EArray.ans, S_eta s a hs]
  case eaDup reclen =>
    obtain ⟨r, hr, rfl⟩ := he
    simp only [stepOp, onEa, hs, hr, EArray.step]
    intro _
    unfold EArray.exportdup
    cases hm : (s.m.malloc a.size).1
    · rw [pair_eta _ hm]; rfl
    · rw [pair_eta _ hm]
      cases hrd : EArray.readAt a.buf 0 a.size <;> rfl

/-- `ea_get` / `ea_set` of a record that is not inside the contents: the answer is `skip`, nothing changes -/
theorem ea_stepOp_skip (s : DsStep.S) (a : EArray.EA) (hs : s.ea = some a) (pos reclen seed : Nat) (r : RecLen)
    (hr : mkRecLen reclen = some r) :
    ((EArray.step a (.get pos r) s.m).1.st = .oob → stepOp s (.eaGet pos reclen) = (s, .word .skip)) ∧
    ((EArray.step a (.set pos r (patBytes seed r.val)) s.m).1.st = .oob →
      stepOp s (.eaSet pos reclen seed) = (s, .word .skip)) := by
  constructor
  · simp only [stepOp, onEa, hs, hr, EArray.step]
    cases hg : EArray.getRec a pos r <;> simp [EArray.ans]
  · simp only [stepOp, onEa, hs, hr, EArray.step]
    cases hg : EArray.setRec a pos r (patBytes seed r.val) <;> simp [EArray.ans]

/-- the queue operation a protocol line stands for, on a queue of `reclen`-byte records -/
def eqOpOf (reclen : Nat) : Op → Option EqOp
  | .eqAdd seed => some (.add (patBytes seed reclen))
  | .eqDel => some .delete
  | .eqLen => some .getlen
  | .eqGet pos => some (.get pos)
  | .eqSet pos seed => some (.set pos (patBytes seed reclen))
  | _ => none

/-- what the line shows of the record seen through `elasticqueue_get` -/
def eqExtraOf (e : EqOp) (an : EqAns) : EqExtra :=
  match e, an.got with
  | .get _, none => .null
  | _, some b => .record b
  | _, none => .none

def eqOutOf (e : EqOp) (an : EqAns) (q' : EQueue.EQ) (m m' : Mem) : Out :=
  .eq an.st an.len (rf m m') (eqExtraOf e an) (eqL2 q' m m')

theorem rf_self (m : Mem) : rf m m = 0 := by simp [rf]

/-- **the five queue operations of the protocol are `EQueue.step`** on the queue component -/
theorem eq_stepOp (s : DsStep.S) (q : EQueue.EQ) (hs : s.eq = some q) (op : Op) (e : EqOp)
    (he : eqOpOf q.reclen.val op = some e) (hno : (EQueue.step q e s.m).1.st ≠ .oob) :
    stepOp s op =
      ({ s with m := (EQueue.step q e s.m).2.2, eq := some (EQueue.step q e s.m).2.1 },
       eqOutOf e (EQueue.step q e s.m).1 (EQueue.step q e s.m).2.1 s.m (EQueue.step q e s.m).2.2) := by
  have eta : { s with m := s.m, eq := some q } = s := by cases s; simp only at hs; subst hs; rfl
  revert hno
  cases op <;> simp only [eqOpOf, Option.some.injEq, reduceCtorEq] at he <;> subst he
  case eqAdd seed =>
    simp only [stepOp, hs, EQueue.step]
    rcases hres : EQueue.add q (patBytes seed q.reclen.val) s.m with ⟨st, q', m'⟩
    simp [eqOutOf, eqExtraOf, EQueue.ans]
  case eqDel =>
    simp only [stepOp, hs, EQueue.step]
    rcases hres : EQueue.delete q s.m with ⟨st, q', m'⟩
    simp [eqOutOf, eqExtraOf, EQueue.ans]
  case eqLen =>
    simp [stepOp, hs, EQueue.step, eqOutOf, eqExtraOf, EQueue.ans, rf_self, eta, EQueue.getlen]
  case eqGet pos =>
    simp only [stepOp, hs, EQueue.step]
    cases hg : EQueue.get q pos <;> simp [eqOutOf, eqExtraOf, EQueue.ans, rf_self, eta]
  case eqSet pos seed =>
    simp only [stepOp, hs, EQueue.step]
    by_cases hp : pos ≥ q.len
    · simp [EQueue.set, hp, EQueue.ans]
    · simp only [hp, if_false]
      cases hg : EQueue.set q pos (patBytes seed q.reclen.val) <;> simp [eqOutOf, eqExtraOf, EQueue.ans, rf_self]

/-- an access `EQueue.step` reports as outside storage: `eq_set` beyond the end is answered `skip`, anything else
`oob`; nothing changes -/
theorem eq_stepOp_oob (s : DsStep.S) (q : EQueue.EQ) (hs : s.eq = some q) (pos seed : Nat) :
    ((EQueue.step q (.get pos) s.m).1.st = .oob → stepOp s (.eqGet pos) = (s, .word .oob)) ∧
    ((EQueue.step q (.set pos (patBytes seed q.reclen.val)) s.m).1.st = .oob →
      stepOp s (.eqSet pos seed) = (s, .word (if pos ≥ q.len then .skip else .oob))) := by
  constructor
  · simp only [stepOp, hs, EQueue.step]
    cases hg : EQueue.get q pos <;> simp [EQueue.ans]
  · simp only [stepOp, hs, EQueue.step]
    by_cases hp : pos ≥ q.len
    · simp [hp]
    · simp only [hp, if_false]
      cases hg : EQueue.set q pos (patBytes seed q.reclen.val) <;> simp [EQueue.ans]

def smOpOf : Op → Option SmOp
  | .smAdd p => some (.add p)
  | .smGet i => some (.get i)
  | .smDel i => some (.delete i)
  | .smMin => some .getmin
  | _ => none

/-- the line shows `num=` for `add` and `getmin`, `ptr=` for `get` -/
def smOutOf (e : SmOp) (an : SmAns) (x' : SeqMap.SM) (m m' : Mem) : Out :=
  .sm an.st (rf m m')
    (match e with | .add _ | .getmin => some an.num | _ => none)
    (match e with | .get _ => some an.ptr | _ => none)
    (smL2 x' m m')

/-- **the four map operations of the protocol are `SeqMap.step`** on the map component -/
theorem sm_stepOp (s : DsStep.S) (x : SeqMap.SM) (hs : s.sm = some x) (op : Op) (e : SmOp)
    (he : smOpOf op = some e) (hno : (SeqMap.step x e s.m).1.st ≠ .oob) :
    stepOp s op =
      ({ s with m := (SeqMap.step x e s.m).2.2, sm := some (SeqMap.step x e s.m).2.1 },
       smOutOf e (SeqMap.step x e s.m).1 (SeqMap.step x e s.m).2.1 s.m (SeqMap.step x e s.m).2.2) := by
  have eta : { s with m := s.m, sm := some x } = s := by cases s; simp only at hs; subst hs; rfl
  revert hno
  cases op <;> simp only [smOpOf, Option.some.injEq, reduceCtorEq] at he <;> subst he
  case smAdd p =>
    simp only [stepOp, hs, SeqMap.step]
    rcases hres : SeqMap.add x p s.m with ⟨r, x', m'⟩
    cases r <;> simp [smOutOf, SeqMap.ans]
  case smGet i =>
    simp only [stepOp, hs, SeqMap.step]
    cases hg : SeqMap.get x i <;> simp [smOutOf, SeqMap.ans, rf_self, eta]
  case smDel i =>
    simp only [stepOp, hs, SeqMap.step]
    rcases hres : SeqMap.delete x i s.m with ⟨st, x', m'⟩
    simp [smOutOf, SeqMap.ans]
  case smMin =>
    simp [stepOp, hs, SeqMap.step, smOutOf, SeqMap.ans, rf_self, eta]

/-- where `SeqMap.step` answers `oob` on `add` / `get` (an `assert` of `seqptrmap_add` fired, or an access outside
storage), the protocol answer is the word `assert` / `oob` and the protocol state is left alone -/
theorem sm_stepOp_oob (s : DsStep.S) (x : SeqMap.SM) (hs : s.sm = some x) (p : Nat) (i : Int) :
    ((SeqMap.step x (.add p) s.m).1.st = .oob →
      stepOp s (.smAdd p) = (s, .word (if (SeqMap.add x p s.m).1 = .assertFail then .assert else .oob))) ∧
    ((SeqMap.step x (.get i) s.m).1.st = .oob → stepOp s (.smGet i) = (s, .word .oob)) := by
  constructor
  · simp only [stepOp, hs, SeqMap.step]
    rcases hres : SeqMap.add x p s.m with ⟨r, x', m'⟩
    cases r <;> simp [SeqMap.ans]
  · simp only [stepOp, hs, SeqMap.step]
    cases hg : SeqMap.get x i <;> simp [SeqMap.ans]

/-- the pool operation a protocol line stands for when `inUse` are the objects the harness holds: `mp_free` of an
object it does not hold and `mp_freenth` with nothing held are no pool operation (answer `skip`) -/
def mpOpOf (inUse : List Nat) : Op → Option MpOp
  | .mpMalloc => some .malloc
  | .mpFree x => if inUse.contains x then some (.free x) else none
  | .mpFreenth j => (inUse.mergeSort (· ≤ ·))[j % (inUse.mergeSort (· ≤ ·)).length]?.map .free
  | _ => none

/-- the harness' list of objects in use after the pool step -/
def mpInUse (inUse : List Nat) (e : MpOp) (an : MpAns) : List Nat :=
  match e, an.obj with
  | .malloc, some x => x :: inUse
  | .malloc, none => inUse
  | .free x, _ => inUse.erase x

/-- what the line shows of the object: the one handed out, `null`, the one `mp_freenth` chose -/
def mpObjOf (op : Op) (e : MpOp) (an : MpAns) : MpObj :=
  match op, e, an.obj with
  | .mpMalloc, _, some x => .obj x
  | .mpMalloc, _, none => .null
  | .mpFreenth _, .free x, _ => .obj x
  | _, _, _ => .none

/-- **`mp_malloc` / `mp_free` / `mp_freenth` are `MPool.step`** (objects of `objSize` bytes) on the pool component -/
theorem mp_stepOp (s : DsStep.S) (op : Op) (e : MpOp) (he : mpOpOf s.inUse op = some e) :
    stepOp s op =
      ({ s with m := (MPool.step objSize s.mp e s.m).2.2, mp := (MPool.step objSize s.mp e s.m).2.1,
                inUse := mpInUse s.inUse e (MPool.step objSize s.mp e s.m).1 },
       .mp (rf s.m (MPool.step objSize s.mp e s.m).2.2) (mpObjOf op e (MPool.step objSize s.mp e s.m).1)
          (mpL2 (MPool.step objSize s.mp e s.m).2.1 s.m (MPool.step objSize s.mp e s.m).2.2)) := by
  cases op <;> simp only [mpOpOf, Option.some.injEq, reduceCtorEq] at he
  case mpMalloc =>
    subst he
    simp only [stepOp, MPool.step]
    rcases hres : MPool.malloc s.mp objSize s.m with ⟨o, p', m'⟩
    cases o <;> simp [mpInUse, mpObjOf]
  case mpFree x =>
    split at he
    · rename_i hx
      cases he
      simp only [stepOp, MPool.step, hx]
      rcases hres : MPool.free s.mp x s.m with ⟨p', m'⟩
      simp [mpInUse, mpObjOf]
    · cases he
  case mpFreenth j =>
    simp only [Option.map_eq_some_iff] at he
    obtain ⟨x, hx, rfl⟩ := he
    simp only [stepOp, MPool.step, hx]
    rcases hres : MPool.free s.mp x s.m with ⟨p', m'⟩
    simp [mpInUse, mpObjOf]

/-- the pool lines that are no pool operation -/
theorem mp_stepOp_skip (s : DsStep.S) (op : Op) (hop : ∃ x, op = .mpFree x ∨ op = .mpFreenth x)
    (he : mpOpOf s.inUse op = none) : stepOp s op = (s, .word .skip) := by
  obtain ⟨x, rfl | rfl⟩ := hop
  · simp only [mpOpOf] at he
    split at he
    · cases he
    · rename_i hx; simp only [stepOp, hx]; simp
  · simp only [mpOpOf, Option.map_eq_none_iff] at he
    simp only [stepOp, he]

end Percival.Proofs.DsStep
