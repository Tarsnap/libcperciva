import Percival.Proofs.MDStream
import Percival.Proofs.Words
import Percival.Proofs.Endian
/-! The three ways the C keeps the bit count all implement `(· + 8·len) mod 2^64` (carry lemmas). -/
namespace Percival.Proofs.Counters
open Percival.Spec Percival.Model.Hash Percival.Proofs.MDStream

theorem and63 (x : Nat) : x &&& 63 = x % 64 := Nat.and_two_pow_sub_one_eq_mod x 6

theorem add64 (c : UInt64) (len : Nat) :
    (c + ((UInt64.ofNat len) <<< 3)).toNat = (c.toNat + 8 * len) % 2^64 := by
  simp [UInt64.toNat_add, UInt64.toNat_shiftLeft, Nat.shiftLeft_eq]
  omega

theorem r64 (c : UInt64) : ((c >>> 3) &&& 0x3f).toNat = c.toNat / 8 % 64 := by
  simp [UInt64.toNat_and, UInt64.toNat_shiftRight, Nat.shiftRight_eq_div_pow, and63]

theorem enc64 (x : UInt64) :
    [(x >>> 56).toUInt8, (x >>> 48).toUInt8, (x >>> 40).toUInt8, (x >>> 32).toUInt8,
     (x >>> 24).toUInt8, (x >>> 16).toUInt8, (x >>> 8).toUInt8, x.toUInt8] = be64enc x.toNat :=
  (Endian.shifts64 x).trans (Endian.beBytes8 _)

/-- SHA-256's `uint64_t count` -/
def cnt64OK : CounterOK cnt64 be64enc where
  val c := UInt64.toNat c
  zero := rfl
  add c len := add64 c len
  r c := r64 c
  enc c := enc64 c

def val2 (hi lo : UInt32) : Nat := hi.toNat * 2^32 + lo.toNat

theorem addLoHi_val (lo hi : UInt32) (len : Nat) :
    val2 (addLoHi lo hi len).2 (addLoHi lo hi len).1 = (val2 hi lo + 8 * len) % 2^64 := by
  unfold addLoHi val2
  simp only
  have hlo := lo.toNat_lt
  have hhi := hi.toNat_lt
  have hbl : ((UInt32.ofNat len) <<< 3).toNat = 8 * len % 2^32 := by
    simp [UInt32.toNat_shiftLeft, Nat.shiftLeft_eq]; omega
  have hbh : (UInt32.ofNat (len >>> 29)).toNat = len / 2^29 % 2^32 := by
    simp [Nat.shiftRight_eq_div_pow]
  generalize (UInt32.ofNat len) <<< 3 = bl at *
  generalize UInt32.ofNat (len >>> 29) = bh at *
  by_cases hc : lo + bl < bl
  · have hc' : (lo + bl).toNat < bl.toNat := UInt32.lt_iff_toNat_lt.mp hc
    simp only [hc, if_true, UInt32.toNat_add, UInt32.toNat_one] at hc' ⊢
    omega
  · have hc' : ¬ (lo + bl).toNat < bl.toNat := fun h => hc (UInt32.lt_iff_toNat_lt.mpr h)
    simp only [hc, if_false, UInt32.toNat_add] at hc' ⊢
    omega

theorem r32 (lo hi : UInt32) : ((lo >>> 3) &&& 0x3f).toNat = val2 hi lo / 8 % 64 := by
  unfold val2
  simp [UInt32.toNat_and, UInt32.toNat_shiftRight, Nat.shiftRight_eq_div_pow, and63]
  omega

theorem be32enc_pair (hi lo : UInt32) : be32enc hi ++ be32enc lo = be64enc (val2 hi lo) := by
  rw [Words.be32enc_eq, Words.be32enc_eq, Words.encBE_eq, Words.encBE_eq, Endian.beBytes_append 4 4 _ _ lo.toNat_lt]
  exact Endian.beBytes8 _

theorem le32enc_pair (lo hi : UInt32) : le32enc lo ++ le32enc hi = le64enc (val2 hi lo) := by
  unfold le64enc
  rw [← be32enc_pair]
  simp [be32enc, le32enc]

/-- SHA-1's `uint32_t count[2]`, `count[0]` high -/
def cntSha1OK : CounterOK cntSha1 be64enc where
  val c := val2 c.c0 c.c1
  zero := rfl
  add c len := addLoHi_val c.c1 c.c0 len
  r c := r32 c.c1 c.c0
  enc c := be32enc_pair c.c0 c.c1

/-- MD5's `uint32_t count[2]`, `count[0]` low -/
def cntMd5OK : CounterOK cntMd5 le64enc where
  val c := val2 c.c1 c.c0
  zero := rfl
  add c len := addLoHi_val c.c0 c.c1 len
  r c := r32 c.c0 c.c1
  enc c := le32enc_pair c.c0 c.c1

end Percival.Proofs.Counters
