import Percival.Proofs.AFUOp
import Percival.Proofs.AFURefs
/-!
# C14, upper layers: sequences of calls keep the invariant; releasing every object leaves nothing

`stepR` is `step` together with the call's outcome.  Read off `stepR_post` (`Proofs/AFUOp.lean`): every call keeps
`Inv` (the references between objects through `refs_tabStep`), moves the oracle forward (`Step`), and a call outside the
usage contract leaves the world as it was.  `teardown` (every object released with its normal call) ends
with all tables empty, hence no live block and no registration.
-/
namespace Percival.Proofs.AllocFailUpper
open Percival.Model Percival.Model.EvReg Percival.Model.AllocFail
open Percival.Proofs.EvRegNet (regNet netRegistered NetInv)
open Percival.Proofs.EvRegTimer (regImm regTimers TmInv Step Granted)
open Percival.Proofs.EArray (malloc_ok malloc_fail free_facts)
open Percival.Model.Connect (AddrOutcome)

/-! ## the empty world; empty tables -/

/-- the world before any call -/
theorem inv_init (m : Mem) (hm : m.live = 0) : Inv ({ m := m } : World) := by
  refine ⟨⟨⟨EvRegNet.netInv_init, EvRegTimer.tmInv_init m, (by show 0 < (regImm ({} : Ev)).length; decide)⟩, rfl, by simp, by simp, ?_, by simp,
    poolOk_nil _ _ rfl rfl rfl, poolOk_nil _ _ rfl rfl rfl, ?_, ?_, ?_, by simp [hm]⟩, ?_⟩
  · exact ⟨by simp [expLive, tables], by simp, by simp [expLive, tables]⟩
  · exact List.Perm.refl _
  · exact List.Perm.refl _
  · exact List.Perm.refl _
  · exact ⟨by simp [tables], by simp [tables], by simp [tables], by simp [tables], by simp [tables], by simp [tables]⟩

/-- no object in any table: no live block, nothing registered -/
theorem empty_tables_nothing (w : World) (h : Inv0 w) (ht : tables w = ⟨[], [], [], [], [], [], []⟩) :
    w.live = [] ∧ regNet w.ev = [] ∧ regTimers w.ev = [] ∧ (regImm w.ev).flatten = [] := by
  have h1 := h.owns; have h2 := h.regNet; have h3 := h.regTm; have h4 := h.regImm
  rw [ht] at h1 h2 h3 h4
  exact ⟨Owns.nil_iff h1, List.Perm.eq_nil h2, List.Perm.eq_nil h3, List.Perm.eq_nil h4⟩

/-! ## every call: the invariant, the oracle, the contract -/

theorem step_eq (w : World) (op : Op) : step w op = (stepR w op).2 := by
  cases op <;> dsimp only [step, stepR, orSame]
  case read fd => rcases networkRead w fd with ⟨_ | _, _⟩ <;> rfl
  case write fd => rcases networkWrite w fd with ⟨_ | _, _⟩ <;> rfl
  case accept fd => rcases networkAccept w fd with ⟨_ | _, _⟩ <;> rfl
  case connect a t s => rcases networkConnect w a t s with ⟨_ | _, _⟩ <;> rfl
  case nbrInit fd => rcases netbufReadInit w fd with ⟨_ | _, _⟩ <;> rfl
  case nbwInit fd => rcases netbufWriteInit w fd with ⟨_ | _, _⟩ <;> rfl
  case http a l s => rcases httpRequest w a l s with ⟨_ | _, _⟩ <;> rfl
  case https a l s hl => rcases httpsRequest w a l s hl with ⟨_ | _, _⟩ <;> rfl
  case readCancel c => cases readOwned w c <;> cases networkReadCancel w c <;> rfl
  case writeCancel c => cases writeOwned w c <;> cases networkWriteCancel w c <;> rfl
  case connectCancel c => cases connOwned w c <;> cases networkConnectCancel w c <;> rfl
  case acceptCancel c => cases networkAcceptCancel w c <;> rfl
  case nbrCancel c => cases netbufReadWaitCancel w c <;> rfl
  case nbrFree c => cases netbufReadFree w c <;> rfl
  case nbwFree c => cases netbufWriteFree w c <;> rfl
  case httpCancel c => cases httpRequestCancel w c <;> rfl

/-- every call keeps the invariant, the references between objects included (the tables change as `TabStep` says) -/
theorem stepR_inv (w : World) (op : Op) (h : Inv w) : Inv (stepR w op).2 := by
  have hp := stepR_post w op h
  refine ⟨hp.arr.inv0, ?_⟩
  by_cases hc : (stepR w op).1 = .contract
  · rw [hp.contract hc]; exact h.refs
  · exact refs_tabStep (hp.tab hc) h.owns.nodupE h.refs

/-- every call moves the oracle forward only -/
theorem stepR_step (w : World) (op : Op) (h : Inv w) : Step w.m (stepR w op).2.m := (stepR_post w op h).arr.step

/-- a call outside the usage contract is not made -/
theorem stepR_contract (w : World) (op : Op) (h : Inv w) (hc : (stepR w op).1 = .contract) : (stepR w op).2 = w :=
  (stepR_post w op h).contract hc

theorem step_inv (w : World) (op : Op) (h : Inv w) : Inv (step w op) := by
  rw [step_eq]; exact stepR_inv w op h

theorem run_inv (w : World) (ops : List Op) (h : Inv w) : Inv (run w ops) := by
  induction ops generalizing w with
  | nil => exact h
  | cons op rest ih => exact ih (step w op) (step_inv w op h)

theorem run_step (w : World) (ops : List Op) (h : Inv w) : Step w.m (run w ops).m := by
  induction ops generalizing w with
  | nil => exact Step.refl _
  | cons op rest ih =>
    have h1 : Step w.m (step w op).m := by rw [step_eq]; exact stepR_step w op h
    exact h1.trans (ih (step w op) (step_inv w op h))

/-! ## teardown: every object released with its normal call -/
namespace Run

theorem mu_le_objects (w : World) : mu (tables w) ≤ objects w := by
  have := (wt_bounds w.readers).2
  simp only [mu, tables, objects]
  omega

/-- `nextRelease`: no object is left, or it names a release call that is `Present` and due -/
theorem nextRelease_spec (w : World) (h : Inv0 w) :
    match nextRelease w with
    | none => tables w = noTables
    | some op => isRelease op = true ∧ Present w op ∧ Due (tables w) op := by
  have head : ∀ {α : Type} {x : α} {rest l : List α}, l = x :: rest → x ∈ l := fun e => e ▸ List.mem_cons_self
  generalize hr : nextRelease w = r
  unfold nextRelease at hr
  split at hr
  · rename_i x _ hx; subst hr; exact ⟨rfl, ⟨x, head hx, rfl⟩, trivial⟩
  split at hr
  · rename_i x _ hx; subst hr
    exact ⟨rfl, ⟨⟨x, head hx, rfl⟩, by simp only [connOwned, ‹w.https = []›, List.any_nil]⟩, x, head hx, rfl⟩
  split at hr
  · rename_i x _ hx; subst hr; exact ⟨rfl, ⟨x, head hx, rfl⟩, x, head hx, rfl⟩
  split at hr
  · rename_i x _ hx; subst hr
    have hm := head hx
    cases hb : (x.readCookie.isSome || x.immediate) with
    | true =>
      refine ⟨rfl, ⟨x, hm, rfl⟩, fun rd hrd hid => ?_⟩
      obtain rfl := Keys.inj (h.ids Tab.readers) hrd hm hid
      exact hb
    | false =>
      have hc : x.readCookie = none := by cases hc : x.readCookie <;> simp [hc] at hb ⊢
      have hi : x.immediate = false := by cases hi : x.immediate <;> simp [hi] at hb ⊢
      exact ⟨rfl, ⟨x, hm, rfl, hc, hi⟩, trivial⟩
  split at hr
  · rename_i x _ hx; subst hr; exact ⟨rfl, ⟨x, head hx, rfl⟩, trivial⟩
  split at hr
  · rename_i x _ hx; subst hr
    exact ⟨rfl, ⟨⟨x, head hx, rfl⟩, by simp only [readOwned, ‹w.readers = []›, List.any_nil]⟩, x, head hx, rfl⟩
  split at hr
  · rename_i x _ hx; subst hr
    exact ⟨rfl, ⟨⟨x, head hx, rfl⟩, by simp only [writeOwned, ‹w.writers = []›, List.any_nil]⟩, x, head hx, rfl⟩
  · subst hr; simp only [tables, noTables, *]

/-- a release call that is `Present` and due brings the end of the teardown nearer -/
theorem dec_of_present (w : World) (h : Inv w) (op : Op) (hrel : isRelease op = true) (hp : Present w op)
    (hd : Due (tables w) op) : mu (tables (step w op)) < mu (tables w) := by
  have post := stepR_post w op h
  have hok := post.made hp
  have ht := post.tab (by rw [hok]; nofun)
  rw [hok] at ht
  rw [step_eq]
  exact mu_tabStep ht hrel h.owns.nodupE hd

theorem teardownN_spec : ∀ (n : Nat) (w : World), Inv w → mu (tables w) ≤ n →
    Inv (teardownN n w) ∧ tables (teardownN n w) = noTables ∧ Step w.m (teardownN n w).m
  | 0, w, h, hn => ⟨h, mu_zero (Nat.le_zero.1 hn), Step.refl _⟩
  | n + 1, w, h, hn => by
    unfold teardownN
    have hn := nextRelease_spec w h.toInv0
    cases hop : nextRelease w with
    | none => rw [hop] at hn; exact ⟨h, hn, Step.refl _⟩
    | some op =>
      rw [hop] at hn
      simp only
      have hd := dec_of_present w h op hn.1 hn.2.1 hn.2.2
      have hi := step_inv w op h
      have hs : Step w.m (step w op).m := by rw [step_eq]; exact stepR_step w op h
      obtain ⟨a, b, c⟩ := teardownN_spec n (step w op) hi (by omega)
      exact ⟨a, b, hs.trans c⟩

end Run

/-- every object released with its normal call: nothing is left -/
theorem teardown_spec (w : World) (h : Inv w) :
    Inv (teardown w) ∧ tables (teardown w) = ⟨[], [], [], [], [], [], []⟩ ∧ Step w.m (teardown w).m :=
  Run.teardownN_spec (objects w) w h (Run.mu_le_objects w)

end Percival.Proofs.AllocFailUpper
