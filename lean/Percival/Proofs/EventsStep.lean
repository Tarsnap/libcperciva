import Percival.Model.Events
/-!
# The event-loop model does not read its event log

`Model.Events.State.trace` is only ever prepended to (`emit`, `faulted`): running any function of the model on a
state whose log has older events `T` below gives the same state and the same new events on top of `T`
(`*_app`).  Hence cutting the log after every input line, as `Model.Events.stepOp` does, changes nothing:
the lines `pmodel events` prints, concatenated, are `Model.Events.run` (`runOps_concat`).
-/
namespace Percival.Proofs.EventsStep
open Percival.Spec.Events Percival.Model.Events

/-- the same state with older events `T` below its event log -/
abbrev app (s : State) (T : List Ev) : State := { s with trace := s.trace ++ T }

theorem emit_app (s : State) (T) (e : Ev) : emit (app s T) e = app (emit s e) T := rfl
theorem faulted_app (s : State) (T) : faulted (app s T) = app (faulted s) T := rfl
theorem isLive_app (s : State) (T) (id : Nat) : isLive (app s T) id = isLive s id := rfl
@[simp] theorem app_fault (s : State) (T) : (app s T).fault = s.fault := rfl
@[simp] theorem app_imm (s : State) (T) : (app s T).imm = s.imm := rfl
@[simp] theorem app_net (s : State) (T) : (app s T).net = s.net := rfl
@[simp] theorem app_tq (s : State) (T) : (app s T).tq = s.tq := rfl
@[simp] theorem app_timers (s : State) (T) : (app s T).timers = s.timers := rfl
@[simp] theorem app_nextRec (s : State) (T) : (app s T).nextRec = s.nextRec := rfl
@[simp] theorem app_intr (s : State) (T) : (app s T).intr = s.intr := rfl
@[simp] theorem app_scripts (s : State) (T) : (app s T).scripts = s.scripts := rfl
@[simp] theorem app_clock (s : State) (T) : (app s T).clock = s.clock := rfl
@[simp] theorem app_pollq (s : State) (T) : (app s T).pollq = s.pollq := rfl
@[simp] theorem app_cbcount (s : State) (T) : (app s T).cbcount = s.cbcount := rfl
@[simp] theorem app_done (s : State) (T) : (app s T).done = s.done := rfl
@[simp] theorem app_trace (s : State) (T) : (app s T).trace = s.trace ++ T := rfl

theorem applyOp_app (s : State) (T) (o : Op) : applyOp (app s T) o = app (applyOp s o) T := by
  unfold applyOp
  simp only [isLive_app]
  by_cases h : s.fault = true
  · simp only [h, if_true]
  · simp only [h]
    cases o with
    | regImm id prio =>
      simp only
      by_cases hc : (isLive s id || decide (prio ≥ 32)) = true
      · rw [if_pos hc, if_pos hc]; rfl
      · rw [if_neg hc, if_neg hc]
        cases immRegister s.imm id prio <;> rfl
    | cancelImm id =>
      simp only
      cases immPrioOf s.imm id with
      | none => rfl
      | some p =>
        simp only
        cases immCancel s.imm id p <;> rfl
    | regNet id fd d =>
      simp only
      by_cases hc : isLive s id = true
      · rw [if_pos hc, if_pos hc]; rfl
      · rw [if_neg hc, if_neg hc]
        cases netRegister s.net id fd d with
        | none => rfl
        | some x => rfl
    | cancelNet fd d =>
      simp only
      cases netCancel s.net fd d with
      | none => rfl
      | some x => rfl
    | regTimer id usec =>
      simp only
      by_cases hc : isLive s id = true
      · rw [if_pos hc, if_pos hc]; rfl
      · rw [if_neg hc, if_neg hc]; rfl
    | cancelTimer id =>
      simp only
      have ht : timerOf (app s T) id = timerOf s id := rfl
      rw [ht]
      cases timerOf s id with
      | none => rfl
      | some t =>
        simp only
        cases Percival.Model.TimerQueue.delete s.tq t.qrec <;> rfl
    | resetTimer id =>
      simp only
      have ht : timerOf (app s T) id = timerOf s id := rfl
      rw [ht]
      cases timerOf s id with
      | none => rfl
      | some t =>
        simp only
        cases Percival.Model.TimerQueue.increase s.tq t.qrec (gettimeout s.clock t.osec t.ousec).1 (gettimeout s.clock t.osec t.ousec).2 <;> rfl
    | interrupt => rfl
    | clock us => rfl
    | done => rfl

theorem foldl_applyOp_app (ops : List Op) : ∀ (s : State) (T), ops.foldl applyOp (app s T) = app (ops.foldl applyOp s) T := by
  induction ops with
  | nil => intro s T; rfl
  | cons o ops ih => intro s T; simp only [List.foldl_cons, applyOp_app, ih]

theorem doevent_app (s : State) (T) (id : Nat) : doevent (app s T) id = (app (doevent s id).1 T, (doevent s id).2) := by
  have h1 : emit { app s T with cbcount := (app s T).cbcount + 1 } (.cb id) =
      app (emit { s with cbcount := s.cbcount + 1 } (.cb id)) T := rfl
  have hs : ∀ x : State, scriptOf (app x T) id = scriptOf x id := fun _ => rfl
  unfold doevent
  rw [h1]
  simp only [hs, foldl_applyOp_app, emit_app]
  by_cases hc : (emit { s with cbcount := s.cbcount + 1 } (.cb id)).cbcount > cbCap
  · rw [if_pos hc, if_pos hc]
  · rw [if_neg hc, if_neg hc]

theorem answer_app (s : State) (T) (timeout : Int) (adv : Nat) (a : List (Nat × Bits)) (rest : List PollAns) :
    pollLoop.answer (app s T) timeout adv a rest = app (pollLoop.answer s timeout adv a rest) T := by
  unfold pollLoop.answer
  refine Eq.trans ?_ (apply_ite (fun x => app x T) _ _ _).symm
  rfl

theorem pollLoop_app (wait : Option ((Int × Int) × Nat)) : ∀ (q : List PollAns) (s : State) (T) (timeout : Int),
    pollLoop (app s T) wait timeout q = app (pollLoop s wait timeout q) T := by
  intro q
  induction q with
  | nil => intro s T timeout; simp only [pollLoop, answer_app]
  | cons x rest ih =>
    intro s T timeout
    cases x with
    | ans adv a => simp only [pollLoop, answer_app]
    | eintr adv =>
      simp only [pollLoop]
      have h1 : emit { app s T with clock := (app s T).clock + adv, pollq := rest }
            (.poll timeout adv (pollEntries (app s T).net.fds (fun _ => {})) .eintr) =
          app (emit { s with clock := s.clock + adv, pollq := rest }
            (.poll timeout adv (pollEntries s.net.fds (fun _ => {})) .eintr)) T := rfl
      rw [h1]
      simp only []
      split
      · rfl
      · exact ih _ _ _
    | intr adv => simp only [pollLoop]; rfl

theorem netSelect_app (s : State) (T) (tv : Option (Int × Int)) : netSelect (app s T) tv = app (netSelect s tv) T := by
  unfold netSelect
  have hw : waitStart (app s T) tv = waitStart s tv := rfl
  simp only [hw, pollLoop_app]

theorem timerGet_app (s : State) (T) : timerGet (app s T) = (app (timerGet s).1 T, (timerGet s).2) := by
  unfold timerGet
  simp only []
  split <;> rfl

theorem immGetS_app (s : State) (T) : immGetS (app s T) = (app (immGetS s).1 T, (immGetS s).2) := by
  unfold immGetS
  simp only []

theorem netGetS_app (s : State) (T) : netGetS (app s T) = (app (netGetS s).1 T, (netGetS s).2) := by
  unfold netGetS
  simp only []
  split <;> rfl

theorem immLoop_app : ∀ (f : Nat) (s : State) (T) (id : Nat),
    immLoop f (app s T) id = (app (immLoop f s id).1 T, (immLoop f s id).2) := by
  intro f
  induction f with
  | zero => intro s T id; rfl
  | succ f ih =>
    intro s T id
    simp only [immLoop, doevent_app]
    split
    · rfl
    · split
      · rfl
      · split
        · rfl
        · simp only [immGetS_app]
          cases hg : immGetS (doevent s id).1 with
          | mk s2 r =>
            cases r with
            | none => rfl
            | some id' => simp only [ih]

theorem mainLoop_app : ∀ (f : Nat) (s : State) (T),
    mainLoop f (app s T) = (app (mainLoop f s).1 T, (mainLoop f s).2) := by
  intro f
  induction f with
  | zero => intro s T; rfl
  | succ f ih =>
    intro s T
    simp only [mainLoop]
    by_cases hf : s.fault = true
    · rw [if_pos hf, if_pos hf]
    rw [if_neg hf, if_neg hf]
    by_cases hi : s.intr = true
    · rw [if_pos hi, if_pos hi]
    rw [if_neg hi, if_neg hi]
    have hde : ∀ (s1 : State) (id : Nat),
        (if (doevent (app s1 T) id).2 ≠ 0 then ((doevent (app s1 T) id).1, (doevent (app s1 T) id).2)
          else mainLoop f (doevent (app s1 T) id).1) =
        (app (if (doevent s1 id).2 ≠ 0 then ((doevent s1 id).1, (doevent s1 id).2) else mainLoop f (doevent s1 id).1).1 T,
         (if (doevent s1 id).2 ≠ 0 then ((doevent s1 id).1, (doevent s1 id).2) else mainLoop f (doevent s1 id).1).2) := by
      intro s1 id
      rw [doevent_app]
      by_cases hrc : (doevent s1 id).2 ≠ 0
      · simp only [hrc, if_true, ne_eq, not_false_eq_true]
      · simp only [hrc, if_false]
        exact ih _ _
    rw [immGetS_app]
    cases h1 : immGetS s with
    | mk s1 r1 =>
    cases r1 with
    | some id => exact hde s1 id
    | none =>
    simp only []
    rw [netGetS_app]
    cases h2 : netGetS s1 with
    | mk s2 r2 =>
    cases r2 with
    | some id => exact hde s2 id
    | none =>
    simp only []
    by_cases hf2 : s2.fault = true
    · rw [if_pos hf2, if_pos hf2]
    rw [if_neg hf2, if_neg hf2]
    rw [netSelect_app, netGetS_app]
    cases h4 : netGetS (netSelect s2 (some (0, 0))) with
    | mk s4 r4 =>
    cases r4 with
    | some id => exact hde s4 id
    | none =>
    simp only []
    by_cases hf4 : s4.fault = true
    · rw [if_pos hf4, if_pos hf4]
    rw [if_neg hf4, if_neg hf4]
    rw [timerGet_app]
    cases h5 : timerGet s4 with
    | mk s5 r5 =>
    cases r5 with
    | some id => exact hde s5 id
    | none => rfl

theorem runInternal_app (fuel : Nat) (s : State) (T) :
    runInternal fuel (app s T) = (app (runInternal fuel s).1 T, (runInternal fuel s).2) := by
  unfold runInternal
  simp only [immGetS_app]
  cases h1 : immGetS s with
  | mk s1 r1 =>
    cases r1 with
    | some id => simp only [immLoop_app]
    | none =>
      have ht : timerMin (app s1 T) = timerMin s1 := rfl
      simp only [ht, netSelect_app, mainLoop_app]

theorem eventsRun_app (fuel : Nat) (s : State) (T) : eventsRun fuel (app s T) = app (eventsRun fuel s) T := by
  unfold eventsRun
  have h0 : emit { app s T with cbcount := 0 } .runBegin = app (emit { s with cbcount := 0 } .runBegin) T := rfl
  simp only [h0, runInternal_app, app_fault]
  split <;> rfl

theorem spinLoop_app (fuel : Nat) : ∀ (n : Nat) (s : State) (T) (rc : Int),
    spinLoop fuel n (app s T) rc = (app (spinLoop fuel n s rc).1 T, (spinLoop fuel n s rc).2) := by
  intro n
  induction n with
  | zero => intro s T rc; rfl
  | succ n ih =>
    intro s T rc
    simp only [spinLoop, runInternal_app]
    split
    · exact ih _ _ _
    · rfl

theorem eventsSpin_app (fuel : Nat) (s : State) (T) : eventsSpin fuel (app s T) = app (eventsSpin fuel s) T := by
  unfold eventsSpin
  have h0 : emit { app s T with cbcount := 0 } .spinBegin = app (emit { s with cbcount := 0 } .spinBegin) T := rfl
  simp only [h0, spinLoop_app, app_fault]
  split <;> rfl

/-- **the step does not read the log** -/
theorem stepTop_app (fuel : Nat) (s : State) (T) (t : Top) : stepTop fuel (app s T) t = app (stepTop fuel s t) T := by
  cases t with
  | api o => exact applyOp_app s T o
  | script id sc => rfl
  | pollAns a => rfl
  | run =>
    simp only [stepTop]
    split
    · rfl
    · exact eventsRun_app fuel s T
  | spin =>
    simp only [stepTop]
    split
    · rfl
    · exact eventsSpin_app fuel s T


/-! ## the lines `pmodel events` prints, concatenated, are the model's trace -/

abbrev cut (s : State) : State := { s with trace := [] }

theorem app_cut (s : State) : app (cut s) s.trace = s := rfl

/-- one line: the full-log step is the cut-log step with the old log below; the line shows the new events -/
theorem stepOp_spec (s : State) (t : Top) :
    stepTop runFuel s t = app (stepTop runFuel (cut s) t) s.trace ∧
    (stepOp s t).1 = cut (stepTop runFuel s t) ∧
    (stepTop runFuel s t).trace = (stepOp s t).2.reverse ++ s.trace := by
  have h : stepTop runFuel s t = app (stepTop runFuel (cut s) t) s.trace := by
    rw [← stepTop_app, app_cut]
  refine ⟨h, ?_, ?_⟩
  · rw [h]; rfl
  · rw [h]; simp [stepOp]

theorem stepOp_cut (s : State) (t : Top) : stepOp (cut s) t = stepOp s t := rfl

theorem runOps_cut (prog : List Top) : ∀ s : State, runOps (cut s) prog = (cut (runOps s prog).1, (runOps s prog).2) := by
  induction prog with
  | nil => intro s; rfl
  | cons t ts ih =>
    intro s
    simp only [runOps, stepOp_cut]
    have : (stepOp s t).1 = cut (stepOp s t).1 := rfl
    rw [this, ih]

/-- **Whole programs**: the full-log run of the model (`Model.Events.run`, the object of `run_admissible_C04` /
`run_admissible_C05`) has, as its trace, the old trace followed by the lines `runOps` prints, and ends in the
state `runOps` ends in (log cut). -/
theorem runOps_concat (prog : List Top) : ∀ s : State,
    (prog.foldl (stepTop runFuel) s).trace.reverse = s.trace.reverse ++ (runOps s prog).2.flatten ∧
    cut (prog.foldl (stepTop runFuel) s) = cut (runOps s prog).1 := by
  induction prog with
  | nil => intro s; simp [runOps]
  | cons t ts ih =>
    intro s
    obtain ⟨h1, h2, h3⟩ := stepOp_spec s t
    obtain ⟨i1, i2⟩ := ih (stepTop runFuel s t)
    have hr := runOps_cut ts (stepTop runFuel s t)
    rw [← h2] at hr
    simp only [List.foldl_cons, runOps]
    constructor
    · rw [i1, h3, hr]
      simp [List.reverse_append]
    · rw [i2, hr]

theorem run_eq_lines (prog : List Top) : Model.Events.run runFuel prog = (runOps {} prog).2.flatten := by
  have := (runOps_concat prog {}).1
  simpa [Model.Events.run] using this

/-! ## feeding a monitor line by line is feeding it the concatenation -/

/-- `run` feeds `step` the events of a trace one after the other: what `C04.run` and `C05.run` are -/
structure IsRun {M : Type} (step : M → Ev → Except String M) (run : M → Trace → Except String M) : Prop where
  nil : ∀ m, run m [] = .ok m
  cons : ∀ m e es, run m (e :: es) = (step m e).bind (fun m' => run m' es)

theorem isRun4 : IsRun C04.step C04.run := ⟨fun _ => rfl, fun _ _ _ => rfl⟩
theorem isRun5 : IsRun C05.step C05.run := ⟨fun _ => rfl, fun _ _ _ => rfl⟩

variable {M : Type} {step : M → Ev → Except String M} {run : M → Trace → Except String M}

theorem IsRun.append (h : IsRun step run) (m : M) (t1 t2 : Trace) :
    run m (t1 ++ t2) = (run m t1).bind (fun m' => run m' t2) := by
  induction t1 generalizing m with
  | nil => rw [h.nil]; rfl
  | cons e es ih =>
    rw [List.cons_append, h.cons, h.cons]
    cases step m e with
    | error err => rfl
    | ok m' => exact ih m'

/-- one more event, accepted by the monitor -/
theorem IsRun.emit (h : IsRun step run) {m0 m m' : M} {tr : List Ev} {e : Ev} (hm : run m0 tr.reverse = .ok m)
    (hs : step m e = .ok m') : run m0 (e :: tr).reverse = .ok m' := by
  rw [List.reverse_cons, h.append, hm]
  show run m [e] = _
  rw [h.cons, hs]
  exact h.nil m'

theorem feed4_append (m : Except String C04.M) (a b : Trace) : feed4 m (a ++ b) = feed4 (feed4 m a) b := by
  cases m with
  | error e => rfl
  | ok m =>
    simp only [feed4, bind, Except.bind, isRun4.append]

theorem feed5_append (m : Except String C05.M) (a b : Trace) : feed5 m (a ++ b) = feed5 (feed5 m a) b := by
  cases m with
  | error e => rfl
  | ok m =>
    simp only [feed5, bind, Except.bind, isRun5.append]

theorem feed4_error (e : String) (b : Trace) : feed4 (.error e) b = .error e := rfl
theorem feed5_error (e : String) (b : Trace) : feed5 (.error e) b = .error e := rfl

def IsOk {α : Type} (x : Except String α) : Prop := ∃ a, x = .ok a

theorem isOk_of_step {α : Type} {f : Except String α → Except String α} (hf : ∀ e, f (.error e) = .error e)
    {x : Except String α} (h : IsOk (f x)) : IsOk x := by
  cases x with
  | ok a => exact ⟨a, rfl⟩
  | error e => rw [hf] at h; obtain ⟨_, h⟩ := h; cases h

/-- if each monitor in use accepts the concatenation of the lines, the pair accepts every line -/
theorem acceptsLines_of_flatten (use4 use5 : Bool) : ∀ (lines : List (List Ev)) (s : MM),
    IsOk (if use4 then feed4 s.m4 lines.flatten else s.m4) →
    IsOk (if use5 then feed5 s.m5 lines.flatten else s.m5) →
    acceptsLines use4 use5 s lines = true := by
  intro lines
  induction lines with
  | nil => intro s _ _; rfl
  | cons l ls ih =>
    intro s h4 h5
    simp only [List.flatten_cons, feed4_append, feed5_append] at h4 h5
    obtain ⟨a4, e4⟩ : IsOk (if use4 then feed4 s.m4 l else s.m4) := by
      cases use4 with
      | false => exact h4
      | true => exact isOk_of_step (f := (feed4 · ls.flatten)) (fun e => feed4_error e _) h4
    obtain ⟨a5, e5⟩ : IsOk (if use5 then feed5 s.m5 l else s.m5) := by
      cases use5 with
      | false => exact h5
      | true => exact isOk_of_step (f := (feed5 · ls.flatten)) (fun e => feed5_error e _) h5
    simp only [acceptsLines, monStep, e4, e5, Bool.true_and]
    apply ih
    · simp only []; cases use4 <;> simp_all
    · simp only []; cases use5 <;> simp_all

end Percival.Proofs.EventsStep
