import Percival.Proofs.TokText
import Percival.Driver.Dsmon
import Percival.Driver.Dh
import Percival.Driver.Dhmon
/-!
# What `pmodel dhmon` reads of the lines `pmodel dh` prints (C10)

`C10.monitor_accepts_model` is about typed answers: `monStep (.pub priv) (.ok v)` with `v` the value the model of
crypto_dh.c computes (`generatePub priv b = some v`) — the *L2* part of `pmodel dh`'s line, which is what the
implementation prints as its L1 part (`ok <the value it computed>` / `fail`) when it behaves like the model.
The link from the model's typed output to the monitor's `MAns`:

* `ansOfOpt m` — the answer a call with outcome `m : Option Bytes` shows; `parseAns_optToks`:
  `Dhmon.parseAns (Dh.optToks m) = ansOfOpt m`;
* `Out.ans o` — what the monitor reads of the L1 part of `pmodel dh`'s own line (the *specified* value);
  `parseAns_l1Toks`: `Dhmon.parseAns (Dh.l1Toks o) = o.ans` for every typed output;
* `parseOp_pub` … : the operation line (hex printing and reading) round trips,

so that `Dhmon.mon` — the whole function the executable applies to the two token lists — is evaluated on the
printed tokens (`mon_optToks`, `mon_l1Toks_value`, `mon_l1Toks_failed`, `model_line`).  Hex lemmas from `Proofs/TokText.lean`.
-/
namespace Percival.Proofs.DhAns
open Percival Percival.Driver Percival.Model.DHStep Percival.Proofs.TokText
open Percival.Driver.Dh Percival.Driver.Dhmon

def ansOfOpt : Option Bytes → MAns
  | some v => .ok v
  | none => .fail

end Percival.Proofs.DhAns

namespace Percival.Model.DHStep
/-- what `pmodel dhmon` reads of the L1 part of the line `pmodel dh` prints for `o`: `fail`, `ok <specified value>`;
every other shape (`generate`, `sanity`, `g14`, `env` lines) is not an answer of the failure-injection protocol -/
def Out.ans : Out → MAns
  | .failed => .fail
  | .value spec _ => .ok spec
  | _ => .other
end Percival.Model.DHStep

namespace Percival.Proofs.DhAns
open Percival Percival.Driver Percival.Model.DHStep Percival.Proofs.TokText
open Percival.Driver.Dh Percival.Driver.Dhmon

theorem parseAns_ok (v : Bytes) : parseAns ["ok", hexOfBytes v] = .ok v := by
  simp only [parseAns, hex_rt]

theorem parseAns_optToks (m : Option Bytes) : parseAns (optToks m) = ansOfOpt m := by
  cases m with
  | none => rfl
  | some v => exact parseAns_ok v

/-- **what `pmodel dhmon` reads of the L1 tokens `pmodel dh` prints is `Out.ans`**, for every typed output -/
theorem parseAns_l1Toks (o : Out) : parseAns (l1Toks o) = o.ans := by
  cases o with
  | failed => rfl
  | value spec model => exact parseAns_ok spec
  | generated p spec model => rfl
  | sanity l1 l2 => cases l1 <;> rfl
  | g14 => rfl
  | env => rfl

theorem vocab : Atom "-1" ∧ Atom "g14" ∧ Atom "rfc3526" ∧ Atom "env" := by decide +kernel

theorem optToks_line (m : Option Bytes) : Line (optToks m) := by
  cases m <;>
    simp only [optToks, line_one, line_more, Atom.sp, words, atom_hex, not_false_eq_true, and_self]

theorem split_opt (m : Option Bytes) : Dsmon.splitCh ' ' (showOpt m) = optToks m := (optToks_line m).cut

theorem l1Toks_line (o : Out) : Line (l1Toks o) := by
  rcases o with _ | _ | _ | ⟨_ | _, _⟩ | _ | _ <;>
    simp only [l1Toks, line_one, line_more, Atom.sp, vocab, words, atom_hex, if_true, if_false, Bool.false_eq_true,
      not_false_eq_true, and_self]

theorem split_l1 (o : Out) : Dsmon.splitCh ' ' (" ".intercalate (l1Toks o)) = l1Toks o := (l1Toks_line o).cut

theorem parseOp_pub (priv : Bytes) (blind : String) :
    parseOp ["pub", hexOfBytes priv, blind] = some (.pub priv) := by
  simp only [parseOp, hex_rt, Option.map_some]

theorem parseOp_pubf (k : String) (priv : Bytes) (blind : String) :
    parseOp ["pubf", k, hexOfBytes priv, blind] = some (.pub priv) := by
  simp only [parseOp, hex_rt, Option.map_some]

theorem parseOp_compute (y priv : Bytes) (blind : String) :
    parseOp ["compute", hexOfBytes y, hexOfBytes priv, blind] = some (.compute y priv) := by
  simp [parseOp, hex_rt]

theorem parseOp_computef (k : String) (y priv : Bytes) (blind : String) :
    parseOp ["computef", k, hexOfBytes y, hexOfBytes priv, blind] = some (.compute y priv) := by
  simp [parseOp, hex_rt]

theorem mon_optToks (op : List String) (o : MOp) (m : Option Bytes) (hop : parseOp op = some o) :
    (mon () op (optToks m)).2 =
      if monStep o (ansOfOpt m) then "ok"
      else "bad a call that reported success returned a value other than a^(2^258+x) mod p" := by
  cases m with
  | none => simp only [mon, hop, optToks, parseAns, ansOfOpt]; rfl
  | some v => simp only [mon, hop, optToks, parseAns_ok, ansOfOpt]; rfl

theorem mon_l1Toks_value (op : List String) (o : MOp) (spec : Bytes) (model : Option Bytes)
    (hop : parseOp op = some o) :
    (mon () op (l1Toks (.value spec model))).2 =
      if monStep o (.ok spec) then "ok"
      else "bad a call that reported success returned a value other than a^(2^258+x) mod p" := by
  simp only [mon, hop, l1Toks, parseAns_ok]

theorem mon_l1Toks_failed (op : List String) (o : MOp) (hop : parseOp op = some o) :
    (mon () op (l1Toks .failed)).2 = "ok" := by
  simp only [mon, hop, l1Toks, parseAns, monStep, if_true]

/-- the line `pmodel dhmon model` prints is the tokens of the specified value -/
theorem model_line (op : List String) (o : MOp) (hop : parseOp op = some o) :
    (Dhmon.model () op).2 = " ".intercalate (optToks (some (want o))) := by
  simp only [Dhmon.model, hop, optToks]

end Percival.Proofs.DhAns
