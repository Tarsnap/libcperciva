import Percival.Proofs.TimerQueue
/-!
# C13: no operation reads the notification log

Running a heap or timer-queue operation on a heap whose log has older entries `L` below gives the same array and the
same new notifications on top of `L` (`*_under`).  For the two sifts this is `Heap.siftUp_blind` / `siftDown_blind` at
`blind_under`; the operations are compositions of those, of `swap` and of notified writes.
-/
namespace Percival.Proofs.HeapStep
open Percival.Model Percival.Model.Heap Percival.Spec.PQ
open Percival.Model.HeapRun (tqDrain)
open Percival.Proofs.Heap Percival.Proofs.TQ

def under (h : Heap) (L : List (Nat × Nat)) : Heap := { h with log := h.log ++ L }

@[simp] theorem under_a (h : Heap) (L) : (under h L).a = h.a := rfl
@[simp] theorem under_log (h : Heap) (L) : (under h L).log = h.log ++ L := rfl

theorem swap_under (n : Bool) (h : Heap) (L) (i j : Nat) : swap n (under h L) i j = under (swap n h i j) L := by
  by_cases hij : i < h.a.size ∧ j < h.a.size
  · rw [swap_eq n h i j hij.1 hij.2, swap_eq n (under h L) i j hij.1 hij.2]
    cases n <;> rfl
  · rw [swap_of_not n h i j hij, swap_of_not n (under h L) i j hij]

theorem blind_under (L : List (Nat × Nat)) (n N : Nat) : Blind n N (under · L) :=
  ⟨fun _ _ _ _ => rfl, fun b h i j _ _ _ => swap_under b h L i j⟩

theorem siftUp_under (key : Nat → Int) (n : Bool) (L) (f : Nat) (h : Heap) (i : Nat) :
    siftUp key n f (under h L) i = under (siftUp key n f h i) L :=
  siftUp_blind key (blind_under L _ (i+1)) n f h i rfl (Nat.lt_succ_self i)

theorem minChild_under (key : Nat → Int) (h : Heap) (L) (N i : Nat) :
    minChild key (under h L) N i = minChild key h N i := rfl

theorem siftDown_under (key : Nat → Int) (n : Bool) (N : Nat) (L) (f : Nat) (h : Heap) (i : Nat) (hi : i < N) :
    siftDown key n N f (under h L) i = under (siftDown key n N f h i) L :=
  siftDown_blind key (blind_under L _ N) n f h i rfl hi

theorem add_under (key : Nat → Int) (h : Heap) (L) (e : Nat) : add key (under h L) e = under (add key h e) L := by
  unfold add note
  simp only [under_a, under_log]
  exact siftUp_under key true L _ ⟨h.a.push e, (e, (h.a.push e).size - 1) :: h.log⟩ _

theorem under_mk (a : Array Nat) (l L : List (Nat × Nat)) : (⟨a, l ++ L⟩ : Heap) = under ⟨a, l⟩ L := rfl
theorem under_mk_cons (a : Array Nat) (x) (l L : List (Nat × Nat)) : (⟨a, x :: (l ++ L)⟩ : Heap) = under ⟨a, x :: l⟩ L := rfl

theorem repair_under (key : Nat → Int) (N f : Nat) (g : Heap) (L) (x : Nat) (hx : x < N) :
    repair key N f (under g L) x = under (repair key N f g x) L := by
  unfold repair
  rw [swap_under, siftUp_under, siftDown_under key true N L f g x hx]
  exact (apply_ite (under · L) _ _ _).symm

theorem delete_under (key : Nat → Int) (h : Heap) (L) (rc : Nat) :
    delete key (under h L) rc = (delete key h rc).map (under · L) := by
  by_cases hrc : rc < h.a.size - 1
  · have hl := Array.getElem?_eq_getElem (show h.a.size - 1 < h.a.size by omega)
    rw [delete_inner key (under h L) rc _ hrc hl, delete_inner key h rc _ hrc hl]
    exact congrArg some (repair_under key _ _ (put (dropLast h) rc _ _) L rc hrc)
  · by_cases hl : rc = h.a.size - 1 ∧ 0 < h.a.size
    · rw [hl.1, delete_last key h hl.2]; exact delete_last key (under h L) hl.2
    · rw [delete_none key (under h L) rc (by show ¬ rc < h.a.size; omega), delete_none key h rc (by omega)]; rfl

theorem decrease_under (key : Nat → Int) (h : Heap) (L) (rc : Nat) :
    decrease key (under h L) rc = (decrease key h rc).map (under · L) := by
  by_cases hrc : rc < h.a.size
  · simp [decrease, hrc, siftUp_under]
  · simp [decrease, hrc]

theorem increase_under (key : Nat → Int) (h : Heap) (L) (rc : Nat) :
    increase key (under h L) rc = (increase key h rc).map (under · L) := by
  by_cases hrc : rc < h.a.size
  · simp [increase, hrc, siftDown_under key true _ L _ h rc hrc]
  · simp [increase, hrc]

theorem increasemin_under (key : Nat → Int) (h : Heap) (L) :
    increasemin key (under h L) = under (increasemin key h) L := by
  unfold increasemin
  by_cases h0 : 0 < h.a.size
  · exact siftDown_under key true _ L _ h 0 h0
  · rw [under_a, Nat.eq_zero_of_not_pos h0]; rfl

theorem drainList_under (key : Nat → Int) (L) : ∀ (fuel : Nat) (h : Heap),
    HeapRun.drainList key fuel (under h L) = HeapRun.drainList key fuel h := by
  intro fuel
  induction fuel with
  | zero => intro h; rfl
  | succ f ih =>
    intro h
    simp only [HeapRun.drainList, deletemin, delete_under]
    have hg : getmin (under h L) = getmin h := rfl
    rw [hg]
    cases getmin h with
    | none => rfl
    | some e =>
      cases delete key h 0 with
      | none => rfl
      | some h' => simp only [Option.map_some]; rw [ih]

def underQ (q : TimerQueue.TQ) (L : List (Nat × Nat)) : TimerQueue.TQ := { q with h := under q.h L }

theorem getptr_under (q : TimerQueue.TQ) (L) (sec usec : Int) :
    TimerQueue.getptr (underQ q L) sec usec =
      (underQ (TimerQueue.getptr q sec usec).1 L, (TimerQueue.getptr q sec usec).2) := by
  unfold TimerQueue.getptr
  have hg2 : getmin (under q.h L) = getmin q.h := rfl
  have hr : (underQ q L).recs = q.recs := rfl
  have hh : (underQ q L).h = under q.h L := rfl
  simp only [hr, deletemin, hh, hg2, delete_under]
  cases getmin q.h with
  | none => rfl
  | some r =>
    simp only []
    cases TimerQueue.lookup q.recs r with
    | none => rfl
    | some x =>
      simp only []
      split
      · rfl
      · cases delete (TimerQueue.key q.recs) q.h 0 with
        | none => rfl
        | some g => rfl

theorem tqDrain_under (sec usec : Int) (L) : ∀ (fuel : Nat) (q : TimerQueue.TQ),
    tqDrain sec usec fuel (underQ q L) = tqDrain sec usec fuel q := by
  intro fuel
  induction fuel with
  | zero => intro q; rfl
  | succ n ih =>
    intro q
    simp only [tqDrain, getptr_under]
    cases hq : TimerQueue.getptr q sec usec with
    | mk q' res =>
      cases res with
      | none => rfl
      | some rp => simp only [ih]

end Percival.Proofs.HeapStep
