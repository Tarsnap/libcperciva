import Percival.Proofs.EventsC05Run
/-!
# C05: the loops of events_run_internal and the whole program (helper lemmas for `run_admissible_C05`)

Every function of `events.c` gets an assertion before and after it, for the loops each a `Good C P` (or `Weak`, when fuel
may run out); `doevent` starts from `Fireable`, the select goes from explicit hypotheses to `SelPost`:

| function | before | after |
|---|---|---|
| `doevent` | `Fireable b` (no stop, `Took`: the order clauses allow `id` (`Next`) and its record is out, `polled = b`) | `AfterCb b rc` (`doevent_good`) |
| `events_network_select` | `stop = none`, `MayBlock`, `WaitOk` | `SelPost` (`select_post`) |
| `mainLoop` (the `do … while (1)`) | `LoopTop` at the top of every pass | `Exit PollDone rc` |
| `immLoop` (immediate-only path) | `Fireable b` | `Exit (b = false → PollDone) rc` |
| `runInternal` | `BegunS`, `polled = b` | `Exit (b = false → PollDone) rc` |
| `eventsRun` | `Good` with `P = True` | `Weak` with `P = True` (`runBegin` gives `BegunS` with `b = false`; `ret_ok` takes `Exit PollDone`) |
| `spinLoop` | `SpinTop rc` at the test | `SpinExit rc` (`spinRet_ok` takes it) |

One pass of `mainLoop` from `LoopTop` (`mainLoop_weak`): a pending request ends it (`Exit`); else `stop = none`;
`immGetS_cases`: an immediate is fired, or `imms = []`; `netGetS_cases`: a socket is fired, or — if a callback is `Owed`
the scan started at the top, so — no socket is flagged ready, hence something is runnable; `select_post` for the
zero-timeout poll (`SelPost.owed` carries that across); `netGetS_cases` from the top: a socket is fired, or none is
flagged ready and the descriptors have been `looked` at; `timerGet_cases`: the earliest due timer is fired, or none
has expired, so nothing is owed and `PollDone`.  Firing is `doevent_good`: a status ends the loop with `Exit`
(`exit_afterCb`), status 0 goes round again (`top_afterCb`: right after a callback nothing is owed).  The assertions
about the stop flag (`AfterCb`, `LoopTop`, `Exit`, `SpinTop`, `SpinExit`) all have the shape `OnStop`.
-/
namespace Percival.Proofs.EventsC05
open Percival.Spec.Events Percival.Model.Events Percival.Model
open Percival.Proofs.EventsNet Percival.Proofs.EventsImm Percival.Proofs.EventsTQ
open Percival.Proofs.EventsC04 (TmOk TmView applyOp_fault tmOk_init)
open Percival.Proofs.EventsStep (isRun5)

/-- nothing the latest poll of the call reported is left outstanding: what `ret` checks and `spinRet` does not -/
def PollDone (m : C05.M) : Prop :=
  ¬ (m.polled = true ∧ m.nets.any (·.ready) = true) ∧ ¬ (m.polled = true ∧ C05.expired m = true)

/-- the monitor is owed a callback: the call started with something runnable and has run nothing so far, or a
    blocking poll woke up for a registered descriptor or an expired timer and nothing has run since -/
def Owed (m : C05.M) : Prop := (m.startRunnable = true ∧ m.fired = 0) ∨ m.mustFire = true

theorem not_owed {m : C05.M} (h1 : m.fired ≥ 1) (h2 : m.mustFire = false) : ¬ Owed m :=
  fun h => h.elim (fun h => by omega) fun h => by rw [h2] at h; cases h

theorem runnable_of_expired {m : C05.M} (h : C05.expired m = true) : C05.runnable m = true := by
  unfold C05.runnable; rw [h, Bool.or_true]

/-- what is owed after `events_network_select` was owed before it, or the poll was a blocking one that woke up for
    something -/
theorem SelPost.owed {C : TQContract} {m0 m' : C05.M} {timeout : Int} {s0 s' : State} (hp : SelPost C m0 timeout s0 s' m')
    (h : Owed m') : Owed m0 ∨ (timeout ≠ 0 ∧ (m'.nets.any (·.ready) = true ∨ C05.expired m' = true)) := by
  rcases h with ⟨h1, h2⟩ | h
  · exact Or.inl (Or.inl ⟨hp.sr ▸ h1, hp.fired ▸ h2⟩)
  · exact (hp.mf h).imp Or.inr id

/-- what `events_run_internal` leaves behind when it returns `rc`: a stop with that value (a stop with value 0 is
    an interrupt request, which is what `events_spin` tests before it calls `events_run_internal` again), or no
    stop, `rc = 0` and, unless interrupted, nothing owed and `Q`.  With `Q = PollDone` the monitor accepts
    `ret rc` (`ret_ok`). -/
def Exit (Q : C05.M → Prop) (rc : Int) (m : C05.M) : Prop :=
  OnStop m rc (fun c => c = 0 → m.intr = true) (m.intr = false → ¬ Owed m ∧ Q m)

theorem Exit.mono {Q Q' : C05.M → Prop} {rc : Int} {m : C05.M} (h : Exit Q rc m) (hq : Q m → Q' m) : Exit Q' rc m :=
  h.imp (fun _ _ h => h) fun _ h hi => ⟨(h hi).1, hq (h hi).2⟩

/-- after a callback the call may return at once: nothing is owed -/
theorem exit_afterCb {b : Bool} {Q : C05.M → Prop} {rc : Int} {m : C05.M} (h : AfterCb b rc m)
    (hq : m.stop = none → Q m) : Exit Q rc m :=
  h.2.2.2.imp (fun _ _ h => h) fun hs _ _ => ⟨not_owed h.1 h.2.1, hq hs⟩

theorem band_false {a b : Bool} (h : ¬ (a = true ∧ b = true)) : (a && b) = false := by
  cases a <;> cases b <;> simp at h ⊢

/-- when the monitor accepts the return value of `events_run` -/
theorem ret_ok (m : C05.M) (rc : Int) (h : Exit PollDone rc m) :
    C05.step m (.ret rc) = .ok { m with inRun := false, intr := false, stop := none, mustFire := false } := by
  cases hs : m.stop with
  | some c =>
    obtain ⟨rfl, _⟩ := h.1 c hs
    delta C05.step
    simp only [hs, ne_eq, not_true_eq_false, if_false]
    rfl
  | none =>
    obtain ⟨rfl, hrest⟩ := h.2 hs
    delta C05.step
    simp only [hs, ne_eq, not_true_eq_false, if_false]
    by_cases hc : (!m.startIntr && !m.intr) = true
    · have hc' : m.startIntr = false ∧ m.intr = false := by simpa using hc
      obtain ⟨hno, a3, a4⟩ := hrest hc'.2
      have a2 : m.mustFire = false := by
        cases hmf : m.mustFire with
        | false => rfl
        | true => exact absurd (Or.inr hmf) hno
      rw [if_pos hc, band_false (fun h => hno (Or.inl ⟨h.1, beq_iff_eq.mp h.2⟩)), a2, band_false a3, band_false a4]
      rfl
    · rw [if_neg hc]
      rfl

/-- the condition at the top of the `do { … } while (1)` loop: a stop is an interrupt request that stopped
    dispatching (the loop returns 0); with no stop, if a callback is owed (only in the first pass: after a callback
    nothing is), the scan of the descriptors is about to start from the top — so that "the scan found nothing" means
    "no socket is flagged ready" — and something is runnable or flagged ready -/
def LoopTop (m : C05.M) (s : State) : Prop :=
  OnStop m 0 (fun _ => m.intr = true)
    (Owed m → s.net.scan = topScan s.net ∧ (C05.runnable m = true ∨ m.nets.any (·.ready) = true))

theorem top_afterCb {b : Bool} {m : C05.M} (s : State) (h : AfterCb b 0 m) : LoopTop m s :=
  h.2.2.2.imp (fun _ hc hi => hi (h.2.2.2.1 _ hc).1.symm) fun _ _ ho => absurd ho (not_owed h.1 h.2.1)

/-- the loop: whatever it returns, the monitor will accept that return value -/
theorem mainLoop_weak (C : TQContract) : ∀ (f : Nat) (s : State), Good C LoopTop s →
    Weak C (fun m _ => Exit PollDone (mainLoop f s).2 m) (mainLoop f s).1 := by
  intro f
  induction f with
  | zero => intro s h; exact weak_faulted C _ h.adm
  | succ f ih =>
    intro s hg
    obtain ⟨hf, m, hm, hr, htop⟩ := hg
    -- a callback found by any of the `get`s: run it, then stop with its status or go round the loop again
    have fire : ∀ (s1 : State) (id : Nat) (b : Bool), Fireable C b s1 id →
        Weak C (fun m _ => Exit PollDone (if (doevent s1 id).2 ≠ 0 then ((doevent s1 id).1, (doevent s1 id).2) else mainLoop f (doevent s1 id).1).2 m)
          (if (doevent s1 id).2 ≠ 0 then ((doevent s1 id).1, (doevent s1 id).2) else mainLoop f (doevent s1 id).1).1 := by
      intro s1 id b hfire
      have h2 := doevent_good C b s1 id hfire
      cases hd : doevent s1 id with
      | mk s2 rc =>
        rw [hd] at h2
        simp only at h2 ⊢
        by_cases hrc : rc ≠ 0
        · rw [if_pos hrc]
          exact Or.inl (h2.mono fun m _ hp => exit_afterCb hp fun hs => absurd (hp.2.2.2.2 hs).1 hrc)
        · rw [if_neg hrc]
          obtain rfl : rc = 0 := by simpa using hrc
          exact ih s2 (h2.mono (fun m _ hp => top_afterCb s2 hp))
    have hfc : ¬ (s.fault = true) := by simp [hf]
    unfold mainLoop
    rw [if_neg hfc]
    by_cases hi : s.intr = true
    · -- interrupted
      rw [if_pos hi]
      exact Or.inl ⟨hf, m, hm, hr, htop.imp (fun _ _ h _ => h) fun _ _ h => by rw [hr.intr, hi] at h; cases h⟩
    · rw [if_neg hi]
      have hstop : m.stop = none := htop.stop_none (by rw [hr.intr]; exact hi)
      have hprog := (htop.2 hstop).2
      rcases immGetS_cases hr with ⟨q', heq, hr1, himm⟩ | ⟨q', id, heq, htk⟩
      · rw [heq]; dsimp only
        rcases netGetS_cases hr1 himm with ⟨n2, heq2, hr2, hclear2⟩ | ⟨n2, id, heq2, htk⟩
        · rw [heq2]; dsimp only
          rw [if_neg hfc]
          -- nothing found: if a callback is owed, an immediate is pending or a timer has expired
          have hrun : Owed m → C05.runnable m = true := fun ho => by
            obtain ⟨hsc, h | h⟩ := hprog ho
            · exact h
            · rw [hclear2 hsc] at h; cases h
          -- the zero-timeout poll
          obtain ⟨sp, m3, hs3, hp⟩ := select_post C { s with imm := q', net := n2 } (some (0, 0)) m hf hm hr2 hstop
            (fun h => absurd selectTimeout_zero h) (Or.inl selectTimeout_zero)
          rw [hs3]
          -- an interrupt request made by a signal handler during this non-blocking poll does not stop the pass
          have hstop3 : m3.stop = none := by
            rcases hp.stop with h | ⟨h, _⟩
            · exact h
            · exact absurd selectTimeout_zero h
          have himm3 : m3.imms = [] := by rw [hp.imms]; exact himm
          have hrun3 : Owed m3 → C05.runnable m3 = true := fun ho => by
            rcases hp.owed ho with h | ⟨h, _⟩
            · exact runnable_mono hp.imms hp.tms hp.clock (hrun h)
            · exact absurd selectTimeout_zero h
          -- second scan, from the top
          rcases netGetS_cases hp.rel himm3 with ⟨n4, heq4, hr4, hclear4⟩ | ⟨n4, id, heq4, htk⟩
          · rw [heq4]; dsimp only
            rw [if_neg (by simp [hp.fault])]
            have hnr : m3.nets.any (·.ready) = false := hclear4 rfl
            have hlook3 : m3.looked = true := by
              rcases hp.looked with h | h
              · exact h
              · exact absurd h hi
            rcases timerGet_cases hr4 himm3 hnr hlook3 with ⟨heq5, hexp⟩ | ⟨q5, id, heq5, htk⟩
            · -- nothing left to do
              rw [heq5]; dsimp only
              refine Or.inl ⟨hp.fault, m3, hp.run, hr4, ?_⟩
              refine onStop_none hstop3 fun _ => ⟨fun ho => ?_, ?_, ?_⟩
              · have := hrun3 ho
                simp [C05.runnable, himm3, hexp] at this
              · rintro ⟨_, h⟩; rw [hnr] at h; cases h
              · rintro ⟨_, h⟩; rw [hexp] at h; cases h
            · rw [heq5]; dsimp only
              exact fire _ id _ ⟨hp.fault, m3, hp.run, hstop3, htk, rfl⟩
          · rw [heq4]; dsimp only
            exact fire _ id _ ⟨hp.fault, m3, hp.run, hstop3, htk, rfl⟩
        · rw [heq2]; dsimp only
          exact fire _ id _ ⟨hf, m, hm, hstop, htk, rfl⟩
      · rw [heq]; dsimp only
        exact fire _ id _ ⟨hf, m, hm, hstop, htk, rfl⟩

/-- what a call of `events_run_internal` starts from (`Begun`, weakened so that it holds at a later turn of `events_spin` too): no stop pending,
    the call is allowed to wait in poll (it is not an `events_spin` whose `done` is set), and if a callback is owed something is runnable.  Right after `runBegin` this holds with `fired = 0` and
    `polled = false`; in a later turn of the loop of `events_spin` callbacks may have run and polls may have been
    answered. -/
structure BegunS (m : C05.M) : Prop where
  stop : m.stop = none
  run : Owed m → C05.runnable m = true
  blk : (m.spin && m.done) = false

/-- no poll has happened in this call: nothing a poll reported can be outstanding -/
theorem pollDone_of_noPoll {m : C05.M} (h : m.polled = false) : PollDone m := by
  unfold PollDone
  rw [h]
  exact ⟨fun h => Bool.noConfusion h.1, fun h => Bool.noConfusion h.1⟩

/-! `events_run_internal` is entered with the monitor's `polled` at some value `b` (false right after `runBegin`, anything
in a later turn of `events_spin`).  The immediate-only path leaves it there (API calls and callbacks do not poll), so
when that path returns after `runBegin` nothing can be outstanding; the path through the loop ends with `PollDone`
whatever `b` was.  Both give `b = false → PollDone m`, which is what `ret` needs and `spinRet` does not look at. -/

/-- the `while (r != NULL)` loop of the immediate-only path -/
theorem immLoop_weak (C : TQContract) (b : Bool) : ∀ (f : Nat) (s : State) (id : Nat), Fireable C b s id →
    Weak C (fun m _ => Exit (fun m => b = false → PollDone m) (immLoop f s id).2 m) (immLoop f s id).1 := by
  intro f
  induction f with
  | zero => intro s id h; exact weak_faulted C _ h.adm
  | succ f ih =>
    intro s id h
    have h1 := doevent_good C b s id h
    unfold immLoop
    cases hd : doevent s id with
    | mk s1 rc =>
      rw [hd] at h1
      dsimp only at h1
      obtain ⟨hf1, m, hm, hr, ha⟩ := h1
      -- the monitor's state stays `m` up to the return, whichever of the three it is, and `rc` is what is returned
      have hex : Exit (fun m => b = false → PollDone m) rc m :=
        exit_afterCb ha fun _ hb => pollDone_of_noPoll (hb ▸ ha.2.2.1)
      dsimp only at hex ⊢
      by_cases hrc : rc ≠ 0
      · rw [if_pos hrc]; exact Or.inl ⟨hf1, m, hm, hr, hex⟩
      · rw [if_neg hrc]
        obtain rfl : rc = 0 := by simpa using hrc
        by_cases hi : s1.intr = true
        · rw [if_pos hi]; exact Or.inl ⟨hf1, m, hm, hr, hex⟩
        · rw [if_neg hi, if_neg (by simp [hf1])]
          have hst : m.stop = none := ha.2.2.2.stop_none fun h => hi (hr.intr ▸ h rfl)
          rcases immGetS_cases hr with ⟨q', heq, hr1, himm⟩ | ⟨q', id', heq, htk⟩
          · rw [heq]; exact Or.inl ⟨hf1, m, hm, hr1, hex⟩
          · rw [heq]; exact ih _ _ ⟨hf1, m, hm, hst, htk, ha.2.2.1⟩

theorem runInternal_weak (C : TQContract) (b : Bool) (fuel : Nat) (s : State)
    (h : Good C (fun m _ => BegunS m ∧ m.polled = b) s) :
    Weak C (fun m _ => Exit (fun m => b = false → PollDone m) (runInternal fuel s).2 m) (runInternal fuel s).1 := by
  obtain ⟨hf, m, hm, hr, hb, hx⟩ := h
  unfold runInternal
  rcases immGetS_cases hr with ⟨q', heq, hr1, himm⟩ | ⟨q', id, heq, htk⟩
  · rw [heq]; dsimp only
    -- the first, possibly blocking, poll
    have hw := waitOk_first hr1 himm
    obtain ⟨sp, m2, hs2, hp⟩ := select_post C { s with imm := q' } (timerMin { s with imm := q' }) m hf hm hr1 hb.stop
      (fun _ => hb.blk) hw
    rw [hs2]
    refine Weak.mono (mainLoop_weak C fuel _ ?_) (fun m _ h => h.mono fun hd _ => hd)
    refine ⟨hp.fault, m2, hp.run, hp.rel, ?_⟩
    rcases hp.stop with h | ⟨_, h, hi⟩
    · refine onStop_none h fun ho => ⟨rfl, ?_⟩
      rcases hp.owed ho with h | ⟨_, h | h⟩
      · exact Or.inl (runnable_mono hp.imms hp.tms hp.clock (hb.run h))
      · exact Or.inr h
      · exact Or.inl (runnable_of_expired h)
    · -- an interrupt request made during the first poll, which could wait: dispatching has stopped, the loop returns 0 at its top
      exact onStop_some h hi
  · rw [heq]; dsimp only
    exact immLoop_weak C b _ _ _ ⟨hf, m, hm, hb.stop, htk, hx⟩

/-- the monitor's state right after `runBegin` -/
structure Begun (m : C05.M) : Prop where
  stop : m.stop = none
  fired : m.fired = 0
  mf : m.mustFire = false
  polled : m.polled = false
  sr : m.startRunnable = C05.runnable m
  blk : (m.spin && m.done) = false

/-- `C05.step m .runBegin`, as a term -/
def begunM (m : C05.M) : C05.M :=
  { m with inRun := true, fired := 0, polled := false, looked := false, startRunnable := C05.runnable m, startIntr := m.intr, mustFire := false, stop := none, spin := false }

/-- the model's guard `if s.fault then s else …`: what follows it is entered `Good` -/
theorem weak_guard {C : TQContract} {P Q : C05.M → State → Prop} {s s' : State} (hw : Weak C Q s)
    (h : Good C Q s → Weak C P s') : Weak C P (if s.fault then s else s') := by
  rcases hw with hg | ⟨hf, ha⟩
  · rw [if_neg (by simp [hg.1])]; exact h hg
  · rw [if_pos hf]; exact Or.inr ⟨hf, ha⟩

theorem eventsRun_weak (C : TQContract) (fuel : Nat) (s : State) (h : Good C (fun _ _ => True) s) :
    Weak C (fun _ _ => True) (eventsRun fuel s) := by
  obtain ⟨hf, m, hm, hr, _⟩ := h
  unfold eventsRun
  dsimp only
  have hb : Begun (begunM m) := ⟨rfl, rfl, rfl, rfl, rfl, rfl⟩
  have h0 : Good C (fun m _ => BegunS m ∧ m.polled = false) (emit { s with cbcount := 0 } .runBegin) :=
    ⟨hf, begunM m, isRun5.emit hm rfl, hr.congr rfl rfl,
      ⟨hb.stop, fun ho => ho.elim (fun h => hb.sr ▸ h.1) fun h => (by rw [hb.mf] at h; cases h), hb.blk⟩, hb.polled⟩
  have h1 := runInternal_weak C false fuel _ h0
  cases hri : runInternal fuel (emit { s with cbcount := 0 } .runBegin) with
  | mk s1 rc =>
    rw [hri] at h1
    refine weak_guard h1 fun ⟨hf1, m1, hm1, hr1, hex⟩ => ?_
    exact Or.inl ⟨hf1, { m1 with inRun := false, intr := false, stop := none, mustFire := false },
      isRun5.emit hm1 (ret_ok m1 rc (hex.mono fun h => h rfl)), (rel_intr hr1 false).congr rfl rfl, trivial⟩

/-- the invariant of the loop of `events_spin`, `rc` being the C variable when the condition is tested: either
    dispatching has to stop with that value (a status; 0 for an interrupt request or because `done` was set
    before the call), or `rc = 0` and, unless interrupted, a callback is owed only if something is runnable (before the
    first turn: the call started with it; after a turn nothing is owed) -/
def SpinTop (rc : Int) (m : C05.M) : Prop :=
  OnStop m rc (fun c => c = 0 → m.intr = true ∨ m.done = true) (m.intr = false → Owed m → C05.runnable m = true)

theorem spinTop_of_exit {Q : C05.M → Prop} {rc : Int} {m : C05.M} (h : Exit Q rc m) : SpinTop rc m :=
  h.imp (fun _ _ h hc => Or.inl (h hc)) fun _ h hi ho => absurd ho (h hi).1

/-- the monitor will accept `spinRet rc` -/
def SpinExit (rc : Int) (m : C05.M) : Prop :=
  OnStop m rc (fun _ => True) (m.done = true ∨ m.intr = true)

theorem spinRet_ok (m : C05.M) (rc : Int) (h : SpinExit rc m) :
    C05.step m (.spinRet rc) =
      .ok { m with inRun := false, intr := false, stop := none, mustFire := false, spin := false, done := false } := by
  cases hs : m.stop with
  | some c =>
    obtain ⟨rfl, _⟩ := h.1 c hs
    delta C05.step
    simp only [hs, ne_eq, not_true_eq_false, if_false]
    rfl
  | none =>
    obtain ⟨rfl, hd⟩ := h.2 hs
    have hb : (!m.done && !m.intr) = false := by
      rcases hd with h | h <;> simp [h]
    delta C05.step
    simp only [hs, ne_eq, not_true_eq_false, if_false, hb, Bool.false_eq_true]
    rfl

/-- the loop of `events_spin`: whatever it returns, the monitor will accept that return value.  It is entered with `Weak`:
    a turn of `events_run_internal` that ran out of fuel leaves the loop at the next test -/
theorem spinLoop_weak (C : TQContract) (fuel : Nat) : ∀ (n : Nat) (s : State) (rc : Int),
    Weak C (fun m _ => SpinTop rc m) s →
    Weak C (fun m _ => SpinExit (spinLoop fuel n s rc).2 m) (spinLoop fuel n s rc).1 := by
  intro n
  induction n with
  | zero => intro s rc h; exact weak_faulted C _ h.adm
  | succ n ih =>
    intro s rc h
    unfold spinLoop
    rcases h with ⟨hf, m, hm, hr, ht⟩ | ⟨hf, ha⟩
    · by_cases hc : s.done = false ∧ rc = 0 ∧ s.intr = false ∧ s.fault = false
      · rw [if_pos hc]
        obtain ⟨hd, rfl, hi, _⟩ := hc
        have hmd : m.done = false := by rw [hr.done]; exact hd
        have hmi : m.intr = false := by rw [hr.intr]; exact hi
        have hs : m.stop = none := ht.stop_none fun h => by rcases h rfl with h | h <;> simp [hmi, hmd] at h
        have hb : BegunS m := ⟨hs, (ht.2 hs).2 hmi, by rw [hmd]; simp⟩
        exact ih _ _ ((runInternal_weak C m.polled fuel s ⟨hf, m, hm, hr, hb, rfl⟩).mono fun _ _ hp => spinTop_of_exit hp)
      · rw [if_neg hc]
        refine Or.inl ⟨hf, m, hm, hr, ?_⟩
        refine ht.imp (fun _ _ _ => trivial) fun hs _ => ?_
        rw [hr.done, hr.intr]
        cases hd : s.done with
        | true => exact Or.inl rfl
        | false =>
          cases hi : s.intr with
          | true => exact Or.inr rfl
          | false => exact absurd ⟨hd, (ht.2 hs).1, hi, hf⟩ hc
    · rw [if_neg (by simp [hf])]
      exact Or.inr ⟨hf, ha⟩

/-- the monitor's state after `spinBegin` -/
def spunM (m : C05.M) : C05.M :=
  { m with inRun := true, fired := 0, polled := false, looked := false, startRunnable := C05.runnable m, startIntr := m.intr,
           mustFire := false, stop := if m.done then some 0 else none, spin := true }

theorem eventsSpin_weak (C : TQContract) (fuel : Nat) (s : State) (h : Good C (fun _ _ => True) s) :
    Weak C (fun _ _ => True) (eventsSpin fuel s) := by
  obtain ⟨hf, m, hm, hr, _⟩ := h
  unfold eventsSpin
  dsimp only
  have h0 : Good C (fun m _ => SpinTop 0 m) (emit { s with cbcount := 0 } .spinBegin) := by
    refine ⟨hf, spunM m, ?_, ?_, ?_⟩
    · exact isRun5.emit hm rfl
    · exact hr.congr rfl rfl
    · cases hd : m.done with
      | true => exact onStop_some (by simp [spunM, hd]) fun _ => Or.inr hd
      | false =>
        exact onStop_none (by simp [spunM, hd]) fun _ ho =>
          ho.elim (fun h => h.1) fun h => Bool.noConfusion h
  refine weak_guard (spinLoop_weak C fuel spinFuel _ 0 (Or.inl h0)) fun ⟨hf1, m1, hm1, hr1, hex⟩ => ?_
  exact Or.inl ⟨hf1, { m1 with inRun := false, intr := false, stop := none, mustFire := false, spin := false, done := false },
    isRun5.emit hm1 (spinRet_ok m1 _ hex), (rel_done (rel_intr hr1 false) false).congr rfl rfl, trivial⟩

theorem stepTop_weak (C : TQContract) (fuel : Nat) (s : State) (t : Top) (h : Weak C (fun _ _ => True) s) :
    Weak C (fun _ _ => True) (stepTop fuel s t) := by
  cases t with
  | api o =>
    show Weak C _ (applyOp s o)
    rcases h with hg | ⟨hf, ha⟩
    · exact Or.inl (applyOp_good C (fun _ => True) (fun _ _ _ _ => trivial) s o hg)
    · rw [applyOp_fault s o hf]; exact Or.inr ⟨hf, ha⟩
  | script id sc =>
    show Weak C _ { s with scripts := (id, sc) :: s.scripts }
    rcases h with ⟨hf, m, hm, hr, _⟩ | ⟨hf, ha⟩
    · exact Or.inl ⟨hf, m, hm, hr.congr rfl rfl, trivial⟩
    · exact Or.inr ⟨hf, ha⟩
  | pollAns a =>
    show Weak C _ { s with pollq := s.pollq ++ [a] }
    rcases h with ⟨hf, m, hm, hr, _⟩ | ⟨hf, ha⟩
    · exact Or.inl ⟨hf, m, hm, hr.congr rfl rfl, trivial⟩
    · exact Or.inr ⟨hf, ha⟩
  | run => exact weak_guard h (eventsRun_weak C fuel s)
  | spin => exact weak_guard h (eventsSpin_weak C fuel s)

theorem rel_init (C : TQContract) : Rel C {} {} := by
  refine ⟨rfl, rfl, rq_init, by simp [IdsNodup], ⟨inv_init, by simp, ?_, by simp⟩,
    ⟨tmOk_init C, by simp, ?_, by simp⟩, by simp, by simp, by simp, rfl⟩
  · intro id fd d; simp [slot]
  · intro id us dl; simp [TmView]

theorem foldl_weak (C : TQContract) (fuel : Nat) (prog : List Top) (s : State) (h : Weak C (fun _ _ => True) s) :
    Weak C (fun _ _ => True) (prog.foldl (stepTop fuel) s) :=
  List.foldlRecOn prog (stepTop fuel) h fun s hs t _ => stepTop_weak C fuel s t hs

theorem run_admissible (C : TQContract) (fuel : Nat) (prog : List Top) :
    C05.admissible (Model.Events.run fuel prog) = true := by
  have h0 : Weak C (fun _ _ => True) ({} : State) :=
    Or.inl ⟨rfl, {}, rfl, rel_init C, trivial⟩
  obtain ⟨m, hm⟩ := (foldl_weak C fuel prog {} h0).adm
  unfold C05.admissible Model.Events.run
  rw [hm]

theorem run_ok_of_admissible {t : Trace} (h : C05.admissible t = true) : ∃ m, C05.run {} t = .ok m := by
  unfold C05.admissible at h
  cases hr : C05.run {} t with
  | ok m => exact ⟨m, rfl⟩
  | error e => rw [hr] at h; cases h

end Percival.Proofs.EventsC05
