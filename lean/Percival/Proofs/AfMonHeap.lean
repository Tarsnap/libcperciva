import Percival.Proofs.AfMonReg
import Percival.Proofs.HeapRun
/-!
# C14: the pointer-heap piece of the relation between `pmodel af` and the monitor `pmodel afmon`

`HeapRel s ms`: the monitor's ideal heap `ms.heap` (the list of live ids) and keys `ms.keys` are the harness'
bookkeeping `s.hlive` / `s.keys` of the model state; the model's heap `s.h` exists exactly when the monitor's
does, holds exactly the live ids, satisfies C13's invariant under the current keys (`Proofs.Heap.Inv`) and the
storage invariant `AllocFail.HInv`.

`HeapLine s ms op` is the normal form of a line of the protocol that goes to the pointer heap, the counterpart of
`AfMonAbs.EvLine`: the model has stored the result of the call `AfStep.heapCall` names, the monitor has accepted the
printed outcome and moved its heap and keys, `HeapRel` holds again, and the oracle has only advanced, its counter with
the blocks of the heap; everything else in both states is untouched.  One lemma per heap line (`hInit_line` …
`hCreate_line`) from `HeapRel` alone; `heapRel_next`: `HeapRel` is kept by every line but `end` (the other lines touch
neither side of it, `heapRel_frame`).
-/
namespace Percival.Proofs.AfMonHeap
open Percival.Model Percival.Model.AfStep Percival.Model.HeapAlloc
open Percival.Model.DsStep (rf)
open Percival.Spec Percival.Spec.AfMon
open Percival.Proofs.AfMonRel (ansOf Accepts next next_of)
open Percival.Proofs.AllocFail (HInv heap_add_spec shape_inv)
open Percival.Proofs.Heap (Inv)
open Percival.Proofs.AfMonReg (isHeapOp nodup_bound)
open Percival.Proofs.AfStep (heapCall evCall stepOp_heapCall_eq stepOp_heap_nocall keysAfter liveAfter)
open Percival.Proofs.AfMonEnd (heapBlocks)
open Percival.Proofs.MemCalls (Calls)
open Percival.Proofs.AllocCalls (heapFree_calls heapInit_calls create_calls heapAdd_calls heapDelete_calls)

/-- the heap part of a state of `stepOp` that has a heap, against the monitor's list of live ids -/
structure HeapOk (keys : List (Nat × Int)) (ha : HeapA) (live : List Nat) : Prop where
  nodup : live.Nodup
  small : ∀ e ∈ live, e < MAXID
  perm : ha.h.a.toList.Perm live
  inv : Inv (keyFn keys) ha.h
  hinv : HInv ha

structure HeapRel (s : S) (ms : MState) : Prop where
  keys : ms.keys = s.keys
  noHeap : s.h = none → ms.heap = none
  heap : ∀ ha, s.h = some ha → ms.heap = some s.hlive ∧ HeapOk s.keys ha s.hlive

theorem heapRel_init : HeapRel {} {} := ⟨rfl, fun _ => rfl, fun _ h => by cases h⟩

theorem frame_model (s : S) (op : Op) (hh : isHeapOp op = false) (he : op ≠ .end_) :
    (stepOp s op).1.h = s.h ∧ (stepOp s op).1.keys = s.keys ∧ (stepOp s op).1.hlive = s.hlive := by
  have h2 : heapCall s op = none := by cases op <;> first | rfl | cases hh
  cases h1 : evCall s op with
  | some r =>
    obtain ⟨st, ran, e', m'⟩ := r
    obtain ⟨_, _, _, a, b, c, _⟩ := Percival.Proofs.AfStep.stepOp_evCall s op st ran e' m' h1
    exact ⟨a, b, c⟩
  | none =>
    rw [Percival.Proofs.AfStep.stepOp_nocall_eq s op h1 h2]
    cases op <;> first | exact ⟨rfl, rfl, rfl⟩ | exact absurd rfl he | cases hh

theorem frame_mon (ms : MState) (op : Op) (a : Ans) (hh : isHeapOp op = false) (he : op ≠ .end_) :
    (monStep ms op a).1.heap = ms.heap ∧ (monStep ms op a).1.keys = ms.keys := by
  cases op <;> simp only [isHeapOp] at hh <;> try (cases hh)
  case end_ => exact absurd rfl he
  all_goals (simp only [monStep]; repeat' split) <;> (refine ⟨?_, ?_⟩ <;> first | rfl | trivial)

theorem heapRel_frame (s : S) (ms : MState) (op : Op) (hh : isHeapOp op = false) (he : op ≠ .end_)
    (h : HeapRel s ms) : HeapRel (next s ms op).1 (next s ms op).2 := by
  obtain ⟨m1, m2, m3⟩ := frame_model s op hh he
  obtain ⟨f1, f2⟩ := frame_mon ms op (ansOf s op) hh he
  simp only [next]
  exact ⟨by rw [f2, m2]; exact h.keys, fun hn => by rw [f1]; exact h.noHeap (m1 ▸ hn),
    fun ha hha => by rw [f1, m2, m3]; exact h.heap ha (m1 ▸ hha)⟩

theorem heapFree_blocks (ha : HeapA) (m : Mem) : Calls m (HeapAlloc.free ha m) (- heapBlocks (some ha)) :=
  (heapFree_calls ha m).cast (by simp only [heapBlocks]; omega)

theorem initMem_calls (s : S) : Calls s.m (AfStep.initMem s) (- heapBlocks s.h) := by
  unfold AfStep.initMem
  cases s.h with
  | none => exact Calls.refl _
  | some ha => exact heapFree_blocks _ _

theorem heapInit_blocks (m : Mem) : Calls m (HeapAlloc.init m).2 (heapBlocks (HeapAlloc.init m).1) := by
  have h := heapInit_calls m
  split at h <;> rename_i heq <;> rw [heq] <;> exact h.1

/-- `ptrheap_create`: the structure, the list structure and — for a non-empty list — its buffer; nothing if it fails -/
theorem heapCreate_blocks (key : Nat → Int) (ptrs : List Nat) (m : Mem) :
    Calls m (HeapAlloc.create key ptrs m).2 (heapBlocks (HeapAlloc.create key ptrs m).1) := by
  have h := create_calls key ptrs m
  split at h <;> rename_i heq <;> rw [heq] <;> exact h.1

theorem heapAdd_blocks (key : Nat → Int) (ha : HeapA) (e : Nat) (m : Mem) :
    Calls m (HeapAlloc.add key ha e m).2.2 (heapBlocks (some (HeapAlloc.add key ha e m).2.1) - heapBlocks (some ha)) :=
  (heapAdd_calls key ha e m).cast (by simp only [heapBlocks]; omega)

theorem heapDelete_blocks (key : Nat → Int) (ha ha' : HeapA) (m m' : Mem)
    (hd : HeapAlloc.delete key ha 0 m = some (ha', m')) : Calls m m' (heapBlocks (some ha') - heapBlocks (some ha)) :=
  (heapDelete_calls key hd).cast (by simp only [heapBlocks]; omega)

/-- what a heap line does from states whose heap pieces correspond: the monitor accepts the answer; the model has moved
its heap, keys and list of live elements under the oracle `m'`, the monitor its heap and keys, and the heap pieces
correspond again; the oracle has only advanced, its counter with the blocks of the heap; the event layer, the clocks,
the registry and the harness' list of descriptors are untouched -/
def HeapLine (s : S) (ms : MState) (op : Op) : Prop :=
  Accepts s ms op ∧ ∃ m' h' keys' live' heap' mkeys',
    next s ms op = ({ s with m := m', h := h', keys := keys', hlive := live' }, { ms with heap := heap', keys := mkeys' }) ∧
    HeapRel { s with m := m', h := h', keys := keys', hlive := live' } { ms with heap := heap', keys := mkeys' } ∧
    Calls s.m m' (heapBlocks h' - heapBlocks s.h)

/-- the line of a call that `AfStep.heapCall` names: it is enough that the monitor, reading the printed outcome, moves
to a heap that corresponds to the call's result -/
theorem HeapLine.of_call {s : S} {ms : MState} {op : Op} {ok : Bool} {id : Option (Option Nat)} {h' : Option HeapA}
    {m0 m' : Mem} {heap' : Option (List Nat)} {mkeys' : List (Nat × Int)}
    (hc : heapCall s op = some (ok, id, h', m0, m'))
    (hm : monStep ms op (Out.heap ok (rf m0 m') id (hView h' m0 m')).ans = ({ ms with heap := heap', keys := mkeys' }, none))
    (hrel : HeapRel { s with m := m', h := h', keys := keysAfter s op, hlive := liveAfter s op ok id }
      { ms with heap := heap', keys := mkeys' })
    (hcalls : Calls s.m m' (heapBlocks h' - heapBlocks s.h)) : HeapLine s ms op := by
  obtain ⟨ha, hn⟩ := next_of (stepOp_heapCall_eq s op ok id h' m0 m' hc) hm
  exact ⟨ha, m', h', _, _, heap', mkeys', hn, hrel, hcalls⟩

theorem HeapLine.of_skip {s : S} {ms : MState} {op : Op} (h : HeapRel s ms) (hop : isHeapOp op = true)
    (hc : heapCall s op = none) (hm : monStep ms op { head := .skip, ntoks := 1 } = (ms, none)) : HeapLine s ms op := by
  obtain ⟨ha, hn⟩ := next_of (stepOp_heap_nocall s op hop hc) hm
  exact ⟨ha, s.m, s.h, s.keys, s.hlive, ms.heap, ms.keys, hn, h, (Calls.refl _).cast (by omega)⟩

theorem HeapLine.rel {s : S} {ms : MState} {op : Op} (hl : HeapLine s ms op) :
    HeapRel (next s ms op).1 (next s ms op).2 := by
  obtain ⟨_, _, _, _, _, _, _, hn, h, _⟩ := hl
  rw [hn]
  exact h

theorem failRefused_heap {rfn : Nat} (hrf : rfn > 0) (id : Option (Option Nat)) (l2 : HL2) :
    (Out.heap false rfn id l2).ans.failRefused = true := by
  simp [Out.ans, Ans.failRefused, Ans.rfn, hrf]

theorem hInit_line {s : S} {ms : MState} (h : HeapRel s ms) : HeapLine s ms .hInit := by
  have hcalls := (initMem_calls s).trans (heapInit_blocks (AfStep.initMem s))
  have hs := heapInit_calls (AfStep.initMem s)
  rcases hres : HeapAlloc.init (AfStep.initMem s) with ⟨_ | ha, m'⟩ <;> rw [hres] at hs hcalls <;> dsimp only at hs hcalls
  · have hrf : rf (AfStep.initMem s) m' > 0 := by have := hs.2; simp only [rf]; omega
    refine HeapLine.of_call (ok := false) (id := none) (h' := none) (heap' := none) (mkeys' := ms.keys)
      (by simp only [heapCall, hres]; rfl) ?_ ⟨h.keys, fun _ => rfl, fun _ hh => by cases hh⟩ (hcalls.cast (by omega))
    rw [monStep]
    simp only [failRefused_heap hrf none _, if_true]
    rfl
  · refine HeapLine.of_call (ok := true) (id := none) (h' := some ha) (heap' := some []) (mkeys' := ms.keys)
      (by simp only [heapCall, hres]; rfl) rfl ⟨h.keys, fun hh => (by cases hh), fun ha' hh => ?_⟩ (hcalls.cast (by omega))
    cases hh
    refine ⟨rfl, List.nodup_nil, fun _ hx => (by cases hx), ?_, ?_, hs.2.2.1⟩
    · rw [hs.2.1]; simp [Heap.empty, liveAfter]
    · rw [hs.2.1]; exact Percival.Proofs.Heap.inv_empty _

theorem keyFn_cons_ne (keys : List (Nat × Int)) (e x : Nat) (k : Int) (h : x ≠ e) :
    keyFn ((e, k) :: keys) x = keyFn keys x := by
  have : (e == x) = false := by simpa using fun h' => h h'.symm
  simp [keyFn, List.find?, this]

theorem hAdd_line {s : S} {ms : MState} (h : HeapRel s ms) (e : Nat) (k : Int) : HeapLine s ms (.hAdd e k) := by
  cases hsh : s.h with
  | none => exact HeapLine.of_skip h rfl (by simp only [heapCall, hsh]) (by rw [monStep, h.noHeap hsh]; rfl)
  | some ha =>
    obtain ⟨hm, hok⟩ := h.heap ha hsh
    by_cases hc : (decide (e ≥ MAXID) || s.hlive.contains e) = true
    · exact HeapLine.of_skip h rfl (by simp only [heapCall, hsh, hc, if_true])
        (by rw [monStep, hm]; simp only [hc, if_true]; rfl)
    · have hfresh : e ∉ s.hlive := fun hmem => hc (by simp [hmem])
      have hlen : s.hlive.length ≤ 4096 := nodup_bound 4096 _ hok.nodup hok.small
      have hsz : ha.h.a.size = s.hlive.length := by
        have := hok.perm.length_eq; simpa using this
      have hnotin : ∀ i : Nat, ha.h.a[i]? ≠ some e := by
        intro i hi
        exact hfresh (hok.perm.mem_iff.mp ((Percival.Proofs.Heap.mem_iff_get _ _).mpr ⟨i, hi⟩))
      have hinv2 : Inv (keyFn ((e, k) :: s.keys)) ha.h := by
        apply Percival.Proofs.Heap.inv_key_congr (keyFn s.keys) _ ha.h hok.inv
        intro i x hx
        apply keyFn_cons_ne
        intro hxe; subst hxe; exact hnotin i hx
      have hspec := heap_add_spec (keyFn ((e, k) :: s.keys)) ha e s.m hok.hinv (by
        rw [hsz]; simp only [Percival.Proofs.EArray.SIZE_MAX_eq]; omega)
      have hcalls := heapAdd_blocks (keyFn ((e, k) :: s.keys)) ha e s.m
      rcases hr : HeapAlloc.add (keyFn ((e, k) :: s.keys)) ha e s.m with ⟨ok, ha', m'⟩
      rw [hr] at hspec hcalls
      have hcall : heapCall s (.hAdd e k) = some (ok, none, some ha', s.m, m') := by
        rw [AfStep.heapCall_hAdd e k hsh (Bool.eq_false_iff.mpr hc), hr]
      rw [← hsh] at hcalls
      cases ok
      · obtain ⟨hh, hrf, _⟩ := hspec.2.1 rfl
        have hrf' : rf s.m m' > 0 := by simp only [rf]; dsimp only at hrf; omega
        refine HeapLine.of_call (heap' := ms.heap) (mkeys' := (e, k) :: ms.keys) hcall ?_
          ⟨by rw [h.keys]; rfl, nofun, fun ha'' hh'' => ?_⟩ hcalls
        · rw [monStep, hm]
          simp only [hc, failRefused_heap hrf' none _]
          rfl
        · cases hh''
          dsimp only at hh
          rw [hh]
          exact ⟨hm, hok.nodup, hok.small, hok.perm, hinv2, hok.hinv⟩
      · obtain ⟨hh, hhinv, _⟩ := hspec.1 rfl
        refine HeapLine.of_call (heap' := some (e :: s.hlive)) (mkeys' := (e, k) :: ms.keys) hcall ?_
          ⟨by rw [h.keys]; rfl, nofun, fun ha'' hh'' => ?_⟩ hcalls
        · rw [monStep, hm]
          simp only [hc]
          rfl
        · cases hh''
          dsimp only at hh hhinv
          refine ⟨rfl, List.nodup_cons.mpr ⟨hfresh, hok.nodup⟩, ?_, ?_, ?_, hhinv⟩
          · intro x hx
            rcases List.mem_cons.mp hx with rfl | hx
            · simp at hc; exact hc.1
            · exact hok.small x hx
          · rw [hh]
            exact (Percival.Proofs.Heap.add_perm _ _ _).trans ((List.perm_cons e).mpr hok.perm)
          · rw [hh]
            exact Percival.Proofs.Heap.add_inv _ _ _ hinv2 hnotin

theorem hMin_line {s : S} {ms : MState} (h : HeapRel s ms) : HeapLine s ms .hMin := by
  cases hsh : s.h with
  | none => exact HeapLine.of_skip h rfl (by simp only [heapCall, hsh, Option.map_none]) (by rw [monStep, h.noHeap hsh]; rfl)
  | some ha =>
    obtain ⟨hm, hok⟩ := h.heap ha hsh
    have hk := h.keys
    obtain ⟨heap, keys, reg, now⟩ := ms
    dsimp only at hm hk
    subst hm hk
    refine HeapLine.of_call (ok := true) (id := some (Heap.getmin ha.h)) (h' := some ha) (m0 := s.m)
      (heap' := some s.hlive) (mkeys' := s.keys) (by simp only [heapCall, hsh, Option.map_some]) ?_
      ⟨rfl, fun hh => (by cases hh), fun ha' hh => (by cases hh; exact ⟨rfl, hok⟩)⟩ ((Calls.refl _).cast (by rw [hsh]; omega))
    rw [monStep]
    cases hg : Heap.getmin ha.h with
    | none =>
      have hp := hok.perm
      rw [(Percival.Proofs.Heap.getmin_none_iff ha.h).mp hg] at hp
      have : s.hlive = [] := by simpa using hp
      simp [Out.ans, accept, PQ.getminOk, this]
    | some x =>
      have hl := Percival.Proofs.Heap.isLeast_perm hok.perm
        (Percival.Proofs.Heap.getmin_isLeast (keyFn s.keys) ha.h x hok.inv hg)
      simp [Out.ans, accept, PQ.getminOk, (PQ.isLeast_iff _ _ _).mpr hl]

theorem hDelmin_line {s : S} {ms : MState} (h : HeapRel s ms) : HeapLine s ms .hDelmin := by
  cases hsh : s.h with
  | none => exact HeapLine.of_skip h rfl (by simp only [heapCall, hsh]) (by rw [monStep, h.noHeap hsh]; rfl)
  | some ha =>
    obtain ⟨hm, hok⟩ := h.heap ha hsh
    by_cases hne : 0 < ha.h.a.size
    · obtain ⟨ha', m', x, hdel, hg, hi', hperm, hh'⟩ :=
        Percival.Proofs.AllocFail.heap_delete_root (keyFn s.keys) ha s.m hok.inv hok.hinv hne
      have hl := Percival.Proofs.Heap.isLeast_perm hok.perm
        (Percival.Proofs.Heap.getmin_isLeast (keyFn s.keys) ha.h x hok.inv hg)
      refine HeapLine.of_call (ok := true) (id := some (some x)) (h' := some ha') (m0 := s.m) (m' := m')
        (heap' := some (s.hlive.erase x)) (mkeys' := ms.keys) (by simp only [heapCall, hsh, hg, hdel]) ?_ ⟨h.keys, fun hh => (by cases hh), fun ha'' hh'' => ?_⟩
        (by rw [hsh]; exact heapDelete_blocks _ _ _ _ _ hdel)
      · rw [monStep, hm, h.keys]
        simp [Out.ans, Ans.isJust, (PQ.isLeast_iff _ _ _).mpr hl]
      · cases hh''
        refine ⟨rfl, hok.nodup.erase x, fun y hy => hok.small y (List.mem_of_mem_erase hy), ?_, hi', hh'⟩
        exact (Percival.Proofs.Heap.perm_erase_of_cons (hok.perm.symm.trans hperm)).symm
    · have hz : ha.h.a.size = 0 := by omega
      have hlive : s.hlive = [] := by
        have := hok.perm.length_eq
        simp only [Array.length_toList, hz] at this
        exact List.eq_nil_of_length_eq_zero this.symm
      have hg : Heap.getmin ha.h = none := by
        simp only [Heap.getmin]; rw [Array.getElem?_eq_none_iff]; omega
      refine HeapLine.of_skip h rfl (by simp only [heapCall, hsh, hg]) ?_
      rw [monStep, hm]
      simp [Ans.isJust, accept, hlive]

theorem hFree_line {s : S} {ms : MState} (h : HeapRel s ms) : HeapLine s ms .hFree := by
  cases hsh : s.h with
  | none => exact HeapLine.of_skip h rfl (by simp only [heapCall, hsh, Option.map_none]) (by rw [monStep, h.noHeap hsh]; rfl)
  | some ha =>
    refine HeapLine.of_call (ok := true) (id := none) (h' := none) (m0 := s.m) (m' := HeapAlloc.free ha s.m) (heap' := none)
      (mkeys' := ms.keys) (by simp only [heapCall, hsh, Option.map_some]) ?_
      ⟨h.keys, fun _ => rfl, fun _ hh => (by cases hh)⟩ (by rw [hsh]; exact (heapFree_blocks _ _).cast (by simp only [heapBlocks]; omega))
    rw [monStep, (h.heap ha hsh).1]
    rfl

theorem distinct_iff_nodup : ∀ l : List Nat, distinct l = true ↔ l.Nodup
  | [] => by simp [distinct]
  | x :: r => by
    simp only [distinct, Bool.and_eq_true, Bool.not_eq_true', List.nodup_cons, distinct_iff_nodup r]
    constructor
    · rintro ⟨h1, h2⟩; exact ⟨by intro hm; simp [hm] at h1, h2⟩
    · rintro ⟨h1, h2⟩; exact ⟨by simpa using h1, h2⟩

/-- a `h_create` line that is carried out names distinct ids the harness can name (so at most 4096 of them) -/
theorem createSkip_false (els : List (Nat × Int)) (h : createSkip els = false) :
    (els.map (·.1)).Nodup ∧ (∀ e ∈ els.map (·.1), e < MAXID) ∧ (els.map (·.1)).length ≤ 4096 := by
  simp only [createSkip, Bool.or_eq_false_iff, Bool.not_eq_false'] at h
  have hnd := (distinct_iff_nodup _).mp h.2
  have hsm : ∀ e ∈ els.map (·.1), e < MAXID := by
    intro e he
    obtain ⟨p, hp, rfl⟩ := List.mem_map.mp he
    have := h.1
    rw [List.any_eq_false] at this
    have := this p hp
    simpa using this
  exact ⟨hnd, hsm, nodup_bound 4096 _ hnd hsm⟩

theorem hCreate_line {s : S} {ms : MState} (h : HeapRel s ms) (els : List (Nat × Int)) :
    HeapLine s ms (.hCreate els) := by
  cases hc : createSkip els with
  | true =>
    exact HeapLine.of_skip h rfl (by simp only [heapCall, hc, if_true]) (by rw [monStep]; simp only [hc, if_true]; rfl)
  | false =>
    obtain ⟨hnd, hsm, hlen⟩ := createSkip_false els hc
    have hcalls := (initMem_calls s).trans (heapCreate_blocks (keyFn (els ++ s.keys)) (els.map (·.1)) (AfStep.initMem s))
    have hs := Percival.Proofs.HeapCreateAlloc.create_spec (keyFn (els ++ s.keys)) (els.map (·.1)) (AfStep.initMem s)
    rcases hres : HeapAlloc.create (keyFn (els ++ s.keys)) (els.map (·.1)) (AfStep.initMem s) with ⟨_ | ha, m'⟩ <;>
      rw [hres] at hs hcalls <;> dsimp only at hs hcalls
    · have hrf : rf (AfStep.initMem s) m' > 0 := by
        simp only [rf]
        rcases hs.2 with h1 | h1
        · omega
        · simp only [Percival.Proofs.EArray.SIZE_MAX_eq] at h1; omega
      refine HeapLine.of_call (ok := false) (id := none) (h' := none) (heap' := none) (mkeys' := els ++ ms.keys)
        (by rw [AfStep.heapCall_hCreate s hc, hres]; rfl) ?_ ⟨by rw [h.keys]; rfl, fun _ => rfl, fun _ hh => (by cases hh)⟩
        (hcalls.cast (by omega))
      rw [monStep]
      simp only [hc, failRefused_heap hrf none _]
      rfl
    · obtain ⟨hh, hhinv, _, hrf, _⟩ := hs
      have hrf0 : rf (AfStep.initMem s) m' = 0 := by simp only [rf]; omega
      refine HeapLine.of_call (ok := true) (id := none) (h' := some ha) (heap' := some (els.map (·.1)))
        (mkeys' := els ++ ms.keys) (by rw [AfStep.heapCall_hCreate s hc, hres]; rfl) ?_
        ⟨by rw [h.keys]; rfl, fun hh' => (by cases hh'), fun ha' hh' => ?_⟩ (hcalls.cast (by omega))
      · rw [monStep]
        simp only [hc, Out.ans, Ans.rfn, hrf0]
        rfl
      · cases hh'
        refine ⟨rfl, hnd, hsm, ?_, ?_, hhinv⟩
        · rw [hh]; exact Percival.Proofs.Heap.create_perm _ _
        · rw [hh]; exact Percival.Proofs.Heap.create_inv _ _ hnd

theorem heap_lines {s : S} {ms : MState} (h : HeapRel s ms) (op : Op) (hop : isHeapOp op = true) : HeapLine s ms op := by
  cases op with
  | hInit => exact hInit_line h
  | hAdd e k => exact hAdd_line h e k
  | hMin => exact hMin_line h
  | hDelmin => exact hDelmin_line h
  | hFree => exact hFree_line h
  | hCreate els => exact hCreate_line h els
  | _ => cases hop

theorem heapRel_next (s : S) (ms : MState) (op : Op) (hop : op ≠ .end_) (h : HeapRel s ms) :
    HeapRel (next s ms op).1 (next s ms op).2 := by
  cases hh : isHeapOp op with
  | false => exact heapRel_frame s ms op hh hop h
  | true => exact (heap_lines h op hh).rel

theorem heapRel_run (ops : List Op) (hops : ∀ op ∈ ops, op ≠ .end_) :
    ∀ (s : S) (ms : MState), HeapRel s ms →
      HeapRel (ops.foldl (fun p op => next p.1 p.2 op) (s, ms)).1 (ops.foldl (fun p op => next p.1 p.2 op) (s, ms)).2 := by
  induction ops with
  | nil => intro s ms h; exact h
  | cons op rest ih =>
    intro s ms h
    simp only [List.foldl_cons]
    exact ih (fun o ho => hops o (List.mem_cons_of_mem _ ho)) _ _
      (heapRel_next s ms op (hops op List.mem_cons_self) h)

/-- the allocator state `ptrheap_init` starts from: an existing heap is freed first -/
def initMem (s : S) : Mem := match s.h with | some ha => HeapAlloc.free ha s.m | none => s.m

theorem stepOp_hInit (s : S) : stepOp s .hInit =
    match HeapAlloc.init (initMem s) with
    | (some ha, m') => ({ s with m := m', h := some ha, hlive := [] },
        .heap true (rf (initMem s) m') none (hView (some ha) (initMem s) m'))
    | (none, m') => ({ s with m := m', h := none, hlive := [] },
        .heap false (rf (initMem s) m') none (hView none (initMem s) m')) := rfl

theorem hCreate_line_ok (s : S) (els : List (Nat × Int)) (hc : createSkip els = false) {rfn : Nat}
    {id : Option (Option Nat)} {l2 : HL2} (hok : (stepOp s (.hCreate els)).2 = .heap true rfn id l2) :
    ∃ ha, HeapAlloc.create (keyFn (els ++ s.keys)) (els.map (·.1)) (initMem s) = (some ha, (stepOp s (.hCreate els)).1.m) ∧
      (stepOp s (.hCreate els)).1.h = some ha ∧ (stepOp s (.hCreate els)).1.hlive = els.map (·.1) ∧
      rfn = rf (initMem s) (stepOp s (.hCreate els)).1.m := by
  rw [stepOp_heapCall_eq s _ _ _ _ _ _ (AfStep.heapCall_hCreate s hc)] at hok ⊢
  show ∃ ha, HeapAlloc.create (keyFn (els ++ s.keys)) (els.map (·.1)) (AfStep.initMem s) = _ ∧ _
  generalize HeapAlloc.create (keyFn (els ++ s.keys)) (els.map (·.1)) (AfStep.initMem s) = r at hok ⊢
  obtain ⟨_ | ha, m'⟩ := r
  · cases hok
  · cases hok; exact ⟨ha, rfl, rfl, rfl, rfl⟩

/-- the states after `h_init; h_add 5 7; h_add 3 2; h_add 9 2` (the allocator grants everything) -/
def exOps : List Op := [.hInit, .hAdd 5 7, .hAdd 3 2, .hAdd 9 2]
def exState : S × MState := exOps.foldl (fun p op => next p.1 p.2 op) ({}, {})

example : HeapRel exState.1 exState.2 := heapRel_run exOps (by decide) _ _ heapRel_init

-- a heap of three elements, `3` (key 2) at the root, and the monitor knows the same three
example : exState.1.h.map (·.h.a) = some #[3, 5, 9] ∧ exState.2.heap = some [9, 3, 5] ∧ exState.1.hlive = [9, 3, 5] ∧
    exState.2.keys = [(9, 2), (3, 2), (5, 7)] := by decide

-- `h_min` / `h_delmin` in that state answer `ok id=3`, which the monitor judges by `isLeast` (and accepts)
example : (ansOf exState.1 .hDelmin).id = .val 3 ∧ (ansOf exState.1 .hDelmin).head = .ok ∧
    (monStep exState.2 .hDelmin (ansOf exState.1 .hDelmin)).2 = none ∧
    (monStep exState.2 .hDelmin { ansOf exState.1 .hDelmin with id := .val 5 }).2 ≠ none := by decide

-- under a refusing allocator `h_init` and `h_add` answer `fail` with `rf > 0`, which is accepted only because of `rf`
example : let s := (stepOp {} (.failfrom 1)).1
    (ansOf s .hInit).head = .fail ∧ (ansOf s .hInit).rf = some 1 ∧ (monStep {} .hInit (ansOf s .hInit)).2 = none ∧
    (monStep {} .hInit { ansOf s .hInit with rf := some 0 }).2 ≠ none := by decide

example : let s := (stepOp (stepOp {} .hInit).1 (.failfrom 1)).1
    (ansOf s (.hAdd 1 1)).head = .fail ∧ (ansOf s (.hAdd 1 1)).rf = some 1 := by decide

end Percival.Proofs.AfMonHeap
