import Percival.Proofs.AllocFailUpper
/-!
# C14, upper layers: footprints

A `Foot` is what an object — or a call in progress — holds: blocks (by key) and registrations of the three kinds.
The four lists the invariant compares the world with are the footprint of the tables, `foot t`, and that is the sum
of the footprints of the entries, table by table (`segs`, `foot_eq_sum`).  `Tab` describes one table: how it is read and
written, the key and the footprint of an entry, and which segment of `segs` it writes.  That a new entry adds its own
footprint (`Tab.cons`), that the entries of a table have distinct ids (`Tab.nodup`), and what adding, dropping and
replacing an entry do to `foot` follow once for every table; that registrations bear ids of blocks (`foot_ids`) is seen
entry by entry.
-/
namespace Percival.Proofs.AllocFailUpper
open Percival.Model Percival.Model.EvReg Percival.Model.AllocFail
open Percival.Proofs.EvRegTimer (regImm)

structure Foot where
  keys : List (Nat × Site) := []
  net : List (Nat × Bool × Nat) := []
  tm : List Nat := []
  imm : List Nat := []

namespace Foot

instance : Append Foot := ⟨fun a b => ⟨a.keys ++ b.keys, a.net ++ b.net, a.tm ++ b.tm, a.imm ++ b.imm⟩⟩

/-- the same blocks and registrations, in any order -/
structure Equiv (a b : Foot) : Prop where
  keys : a.keys.Perm b.keys
  net : a.net.Perm b.net
  tm : a.tm.Perm b.tm
  imm : a.imm.Perm b.imm

theorem Equiv.refl (a : Foot) : Equiv a a := ⟨.refl _, .refl _, .refl _, .refl _⟩

theorem Equiv.symm {a b : Foot} (h : Equiv a b) : Equiv b a := ⟨h.keys.symm, h.net.symm, h.tm.symm, h.imm.symm⟩

theorem Equiv.trans {a b c : Foot} (h : Equiv a b) (h' : Equiv b c) : Equiv a c :=
  ⟨h.keys.trans h'.keys, h.net.trans h'.net, h.tm.trans h'.tm, h.imm.trans h'.imm⟩

theorem Equiv.append {a b c d : Foot} (h : Equiv a b) (h' : Equiv c d) : Equiv (a ++ c) (b ++ d) :=
  ⟨h.keys.append h'.keys, h.net.append h'.net, h.tm.append h'.tm, h.imm.append h'.imm⟩

/-- `a` moved to the front -/
theorem Equiv.rotate (a b c : Foot) : Equiv (b ++ (a ++ c)) (a ++ (b ++ c)) :=
  ⟨List.perm_append_comm_assoc _ _ _, List.perm_append_comm_assoc _ _ _, List.perm_append_comm_assoc _ _ _,
   List.perm_append_comm_assoc _ _ _⟩

theorem Equiv.assoc (a b c : Foot) : Equiv (a ++ b ++ c) (a ++ (b ++ c)) :=
  ⟨.of_eq (List.append_assoc _ _ _), .of_eq (List.append_assoc _ _ _), .of_eq (List.append_assoc _ _ _),
   .of_eq (List.append_assoc _ _ _)⟩

/-- one block -/
def key (k : Nat × Site) : Foot := { keys := [k] }

/-- the sum of footprints -/
def sum (l : List Foot) : Foot := ⟨l.flatMap (·.keys), l.flatMap (·.net), l.flatMap (·.tm), l.flatMap (·.imm)⟩

theorem sum_cons (a : Foot) (l : List Foot) : sum (a :: l) = a ++ sum l := rfl

theorem sum_perm {l l' : List Foot} (h : l.Perm l') : (sum l).Equiv (sum l') :=
  ⟨h.flatMap_right _, h.flatMap_right _, h.flatMap_right _, h.flatMap_right _⟩

/-- registrations bear ids of blocks held with them -/
structure Ids (F : Foot) : Prop where
  net : (F.net.map (·.2.2)).Sublist (F.keys.map (·.1))
  tm : F.tm.Sublist (F.keys.map (·.1))
  imm : F.imm.Sublist (F.keys.map (·.1))

theorem sum_ids : ∀ {l : List Foot}, (∀ F ∈ l, F.Ids) → (sum l).Ids
  | [], _ => ⟨.slnil, .slnil, .slnil⟩
  | a :: l, h => by
    have ha := h a List.mem_cons_self
    have ih := sum_ids fun F hF => h F (List.mem_cons_of_mem _ hF)
    exact ⟨by show ((a.net ++ (sum l).net).map _).Sublist ((a.keys ++ (sum l).keys).map _)
              rw [List.map_append, List.map_append]; exact ha.net.append ih.net,
           by show (a.tm ++ (sum l).tm).Sublist ((a.keys ++ (sum l).keys).map _)
              rw [List.map_append]; exact ha.tm.append ih.tm,
           by show (a.imm ++ (sum l).imm).Sublist ((a.keys ++ (sum l).keys).map _)
              rw [List.map_append]; exact ha.imm.append ih.imm⟩

end Foot

/-! ## what one entry holds, and what all entries hold -/

def footReq (site : Site) (wr : Bool) (a : NetReq) : Foot := { keys := [(a.cookie, site)], net := [(a.fd, wr, a.cookie)] }

def footConn (k : Conn) : Foot :=
  ⟨[(k.cookie, .connCookie)], (k.sock.map (fun s => (s, true, k.cookie))).toList, if k.timer then [k.cookie] else [],
   if k.imm then [k.cookie] else []⟩

def footReader (r : Reader) : Foot :=
  { keys := [(r.id, .nbrStruct), (r.buf, .nbrBuf)], imm := if r.immediate then [r.id] else [] }

def footWriter (x : Writer) : Foot := { keys := writerKeys x }

def footHttp (h : Http) : Foot := { keys := (h.cookie, .httpCookie) :: (h.head, .httpHead) :: hostKeys h }

/-- the entries of the seven tables, table by table, each as what it holds -/
def segs (t : Tables) : List (List Foot) :=
  [t.reads.map (footReq .rdCookie false), t.writes.map (footReq .wrCookie true), t.accepts.map (footReq .acceptCookie false),
   t.conns.map footConn, t.readers.map footReader, t.writers.map footWriter, t.https.map footHttp]

/-- what the objects of all tables hold: the four lists the invariant compares the world with -/
def foot (t : Tables) : Foot := ⟨expLive t, expNet t, expTimers t, expImm t⟩

theorem filter_map_eq_flatMap {α β : Type} (p : α → Bool) (f : α → β) (l : List α) :
    (l.filter p).map f = l.flatMap fun x => if p x then [f x] else [] := by
  induction l with
  | nil => rfl
  | cons a l ih => rw [List.flatMap_cons, ← ih, List.filter_cons]; split <;> rfl

theorem filterMap_eq_flatMap {α β : Type} (f : α → Option β) (l : List α) :
    l.filterMap f = l.flatMap fun x => (f x).toList := by
  induction l with
  | nil => rfl
  | cons a l ih => rw [List.flatMap_cons, ← ih, List.filterMap_cons]; cases f a <;> rfl

/-- … and that is the sum of what the entries hold -/
theorem foot_eq_sum (t : Tables) : foot t = Foot.sum (segs t).flatten := by
  have nil {α β : Type} (l : List α) : (l.flatMap fun _ => ([] : List β)) = [] := List.flatMap_eq_nil_iff.2 fun _ _ => rfl
  simp only [Foot.sum, segs, List.flatten_cons, List.flatten_nil, List.flatMap_append, List.flatMap_map, footReq, footConn,
    footReader, footWriter, footHttp, nil, List.append_nil, List.nil_append]
  simp only [foot, expLive, expNet, expTimers, expImm, filter_map_eq_flatMap]
  simp only [List.map_eq_flatMap, filterMap_eq_flatMap, List.append_assoc]

theorem foot_ids (t : Tables) : (foot t).Ids := by
  rw [foot_eq_sum]
  refine Foot.sum_ids fun F hF => ?_
  simp only [segs, List.flatten_cons, List.flatten_nil, List.append_nil, List.mem_append, List.mem_map] at hF
  rcases hF with ⟨a, -, rfl⟩ | ⟨a, -, rfl⟩ | ⟨a, -, rfl⟩ | ⟨k, -, rfl⟩ | ⟨r, -, rfl⟩ | ⟨x, -, rfl⟩ | ⟨y, -, rfl⟩
  · exact ⟨.refl _, List.nil_sublist _, List.nil_sublist _⟩
  · exact ⟨.refl _, List.nil_sublist _, List.nil_sublist _⟩
  · exact ⟨.refl _, List.nil_sublist _, List.nil_sublist _⟩
  · rcases k with ⟨c, _ | s, _ | _, _ | _⟩ <;> exact ⟨by simp [footConn], by simp [footConn], by simp [footConn]⟩
  · cases hi : r.immediate <;> exact ⟨List.nil_sublist _, List.nil_sublist _, by simp [footReader, hi]⟩
  · exact ⟨List.nil_sublist _, List.nil_sublist _, List.nil_sublist _⟩
  · exact ⟨List.nil_sublist _, List.nil_sublist _, List.nil_sublist _⟩

/-- timers and immediate events are registered with ids of blocks the objects hold: an id beside those blocks has neither -/
theorem foot_fresh {t : Tables} {c : Nat} (h : (c :: (foot t).keys.map (·.1)).Nodup) :
    c ∉ (foot t).tm ∧ c ∉ (foot t).imm ∧ (foot t).imm.Nodup :=
  ⟨fun hx => (List.nodup_cons.1 h).1 ((foot_ids t).tm.subset hx),
   fun hx => (List.nodup_cons.1 h).1 ((foot_ids t).imm.subset hx), (foot_ids t).imm.nodup (List.nodup_cons.1 h).2⟩

/-- the world without its tables -/
def blank (w : World) : World :=
  { w with reads := [], writes := [], accepts := [], conns := [], readers := [], writers := [], https := [] }

/-- one of the seven object tables; for each of them the laws hold by unfolding (the default proofs) -/
structure Tab (α : Type) where
  get : Tables → List α
  set : Tables → List α → Tables
  /-- `set`, in a world -/
  wset : World → List α → World
  id : α → Nat
  /-- what one entry holds -/
  holds : α → Foot
  /-- which of the seven -/
  idx : Nat
  idx_lt : idx < 7 := by decide
  set_get : ∀ t, set t (get t) = t := by intros; rfl
  tables_wset : ∀ w l, tables (wset w l) = set (tables w) l := by intros; rfl
  blank_wset : ∀ w l, blank (wset w l) = blank w := by intros; rfl
  /-- writing the table writes its segment of the entries -/
  segs_set : ∀ t l, segs (set t l) = (segs t).set idx (l.map holds) := by intros; rfl
  /-- the id of an entry is that of the first block it holds -/
  key : ∀ a, ∃ s r, (holds a).keys = (id a, s) :: r := by intro; exact ⟨_, _, rfl⟩

namespace Tab
variable {α : Type} (T : Tab α)

/-- the entries of this table stand together among the entries of all tables -/
theorem entries_set (t : Tables) : ∃ pre post, ∀ l, (segs (T.set t l)).flatten = pre ++ l.map T.holds ++ post :=
  ⟨((segs t).take T.idx).flatten, ((segs t).drop (T.idx + 1)).flatten, fun l => by
    rw [T.segs_set, List.set_eq_take_append_cons_drop, if_pos (show T.idx < (segs t).length from T.idx_lt), List.flatten_append,
      List.flatten_cons, List.append_assoc]⟩

/-- the law about footprints: a new entry adds its own -/
theorem cons (t : Tables) (a : α) (l : List α) : (foot (T.set t (a :: l))).Equiv (T.holds a ++ foot (T.set t l)) := by
  obtain ⟨pre, post, h⟩ := T.entries_set t
  rw [foot_eq_sum, foot_eq_sum, h, h, ← Foot.sum_cons]
  exact Foot.sum_perm (List.perm_middle.append_right post)

theorem map_sublist_heads {id : α → Nat} {ks : α → List (Nat × Site)} (hk : ∀ a, ∃ s r, ks a = (id a, s) :: r) :
    ∀ l : List α, (l.map id).Sublist ((l.flatMap ks).map (·.1))
  | [] => .slnil
  | a :: l => by
    obtain ⟨s, r, e⟩ := hk a
    rw [List.flatMap_cons, e, List.map_cons, List.cons_append, List.map_cons, List.map_append]
    exact ((map_sublist_heads hk l).trans (List.sublist_append_right _ _)).cons_cons _

/-- the entries of a table have distinct ids, as the blocks have -/
theorem nodup (t : Tables) (h : ((expLive t).map (·.1)).Nodup) : ((T.get t).map T.id).Nodup := by
  obtain ⟨pre, post, hs⟩ := T.entries_set t
  have he := hs (T.get t)
  rw [T.set_get] at he
  rw [show expLive t = (Foot.sum (segs t).flatten).keys from congrArg Foot.keys (foot_eq_sum t), he] at h
  simp only [Foot.sum, List.flatMap_append, List.map_append, List.flatMap_map] at h
  exact (map_sublist_heads T.key _).nodup (List.nodup_append.1 (List.nodup_append.1 h).1).2.1

theorem foot_perm (t : Tables) {l l' : List α} (h : l.Perm l') : (foot (T.set t l)).Equiv (foot (T.set t l')) := by
  obtain ⟨pre, post, hs⟩ := T.entries_set t
  rw [foot_eq_sum, foot_eq_sum, hs, hs]
  exact Foot.sum_perm (((h.map _).append_left pre).append_right post)

/-- an entry and the rest -/
theorem foot_drop {t : Tables} {a : α} (ha : a ∈ T.get t) (hnd : ((T.get t).map T.id).Nodup) :
    (foot t).Equiv (T.holds a ++ foot (T.set t ((T.get t).filter (fun x => T.id x != T.id a)))) := by
  have h := T.foot_perm t (Keys.perm_filter hnd ha)
  rw [T.set_get] at h
  exact h.trans (T.cons t a _)

/-- an entry replaced: the new one and the rest -/
theorem foot_upd {t : Tables} {a a' : α} (ha : a ∈ T.get t) (hnd : ((T.get t).map T.id).Nodup) (hid : T.id a' = T.id a) :
    (foot (T.set t (Run.upd T.id (T.get t) a'))).Equiv
      (T.holds a' ++ foot (T.set t ((T.get t).filter (fun x => T.id x != T.id a)))) :=
  (T.foot_perm t (Run.upd_perm T.id (T.get t) a a' hnd ha hid)).trans (T.cons t a' _)

/-- an entry replaced, when the new entry and the rest of the footprint share out anew what the old entry and the rest held -/
theorem foot_exchange {t : Tables} {a a' : α} (F F' : Foot) (ha : a ∈ T.get t) (hnd : ((T.get t).map T.id).Nodup)
    (hid : T.id a' = T.id a) (he : (F ++ T.holds a).Equiv (F' ++ T.holds a')) :
    (F ++ foot t).Equiv (F' ++ foot (T.set t (Run.upd T.id (T.get t) a'))) :=
  (((Foot.Equiv.refl F).append (T.foot_drop ha hnd)).trans (Foot.Equiv.assoc _ _ _).symm).trans
    (((he.append (.refl _)).trans (Foot.Equiv.assoc _ _ _)).trans ((Foot.Equiv.refl F').append (T.foot_upd ha hnd hid).symm))

/-- the entry that heads a table, and the rest -/
theorem foot_head {t : Tables} {a : α} {l : List α} (h : T.get t = a :: l) :
    (foot t).Equiv (T.holds a ++ foot (T.set t l)) := by
  have := T.cons t a l
  rw [← h, T.set_get] at this
  exact this

theorem wset_live (w : World) (l : List α) : (T.wset w l).live = w.live :=
  show (blank (T.wset w l)).live = (blank w).live from congrArg World.live (T.blank_wset w l)

theorem wset_m (w : World) (l : List α) : (T.wset w l).m = w.m :=
  show (blank (T.wset w l)).m = (blank w).m from congrArg World.m (T.blank_wset w l)

end Tab

abbrev Tab.reads : Tab NetReq where
  get := (·.reads)
  set t l := { t with reads := l }
  wset w l := { w with reads := l }
  id := (·.cookie)
  holds := footReq .rdCookie false
  idx := 0

abbrev Tab.writes : Tab NetReq where
  get := (·.writes)
  set t l := { t with writes := l }
  wset w l := { w with writes := l }
  id := (·.cookie)
  holds := footReq .wrCookie true
  idx := 1

abbrev Tab.accepts : Tab NetReq where
  get := (·.accepts)
  set t l := { t with accepts := l }
  wset w l := { w with accepts := l }
  id := (·.cookie)
  holds := footReq .acceptCookie false
  idx := 2

abbrev Tab.conns : Tab Conn where
  get := (·.conns)
  set t l := { t with conns := l }
  wset w l := { w with conns := l }
  id := (·.cookie)
  holds := footConn
  idx := 3

abbrev Tab.readers : Tab Reader where
  get := (·.readers)
  set t l := { t with readers := l }
  wset w l := { w with readers := l }
  id := (·.id)
  holds := footReader
  idx := 4

abbrev Tab.writers : Tab Writer where
  get := (·.writers)
  set t l := { t with writers := l }
  wset w l := { w with writers := l }
  id := (·.id)
  holds := footWriter
  idx := 5

abbrev Tab.https : Tab Http where
  get := (·.https)
  set t l := { t with https := l }
  wset w l := { w with https := l }
  id := (·.cookie)
  holds := footHttp
  idx := 6

theorem tables_nodup {t : Tables} (h : ((expLive t).map (·.1)).Nodup) :
    (t.reads.map (·.cookie)).Nodup ∧ (t.writes.map (·.cookie)).Nodup ∧ (t.accepts.map (·.cookie)).Nodup ∧
    (t.conns.map (·.cookie)).Nodup ∧ (t.readers.map (·.id)).Nodup ∧ (t.writers.map (·.id)).Nodup ∧
    (t.https.map (·.cookie)).Nodup :=
  ⟨Tab.reads.nodup t h, Tab.writes.nodup t h, Tab.accepts.nodup t h, Tab.conns.nodup t h, Tab.readers.nodup t h,
   Tab.writers.nodup t h, Tab.https.nodup t h⟩

theorem expTimers_nodup {t : Tables} (h : ((expLive t).map (·.1)).Nodup) : (expTimers t).Nodup :=
  (List.filter_sublist.map _).nodup (Tab.conns.nodup t h)

theorem expNet_nodup {t : Tables} (h : ((expLive t).map (·.1)).Nodup) : (expNet t).Nodup :=
  Keys.nodup ((foot_ids t).net.nodup h)

/-- an immediate event is registered with the id of a block some object holds -/
theorem regImm_lt {w : World} (h : Inv0 w) {x : Nat} (hx : x ∈ (regImm w.ev).flatten) : x < w.m.n := by
  obtain ⟨k, hk, rfl⟩ := List.mem_map.1 ((foot_ids (tables w)).imm.subset (h.regImm.mem_iff.1 hx))
  exact expLive_lt h hk

end Percival.Proofs.AllocFailUpper
