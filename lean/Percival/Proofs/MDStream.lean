import Percival.Model.Hash
import Percival.Proofs.MDAbsorb
/-! The streaming context of `Model.Hash`: what a context means after absorbing a message (`Inv`), and that
`_Update` keeps it (`update_inv`); the `_Pad`/`_Final` theorems are in `MDFinal`. -/
namespace Percival.Proofs.MDStream
open Percival.Spec Percival.Spec.MD Percival.Model.Hash Percival.Proofs.MD

structure CounterOK (cnt : Counter) (lenEnc : Nat → Bytes) where
  val : cnt.C → Nat
  zero : val cnt.zero = 0
  add : ∀ c len, val (cnt.add c len) = (val c + 8 * len) % 2^64
  r : ∀ c, cnt.r c = val c / 8 % 64
  enc : ∀ c, cnt.enc c = lenEnc (val c)

/-- what has to be shown about a C file's pieces for its streaming interface to compute `p` -/
structure Refines (a : Alg) (p : Params) where
  R : a.St → p.St
  init : R a.init = p.init
  transform : ∀ s b, b.length = 64 → R (a.transform s b) = p.compress (R s) b
  digest : ∀ s, a.digest s = p.out (R s)
  PAD : a.PAD = 0x80 :: List.replicate 63 0
  cnt : CounterOK a.cnt p.lenEnc

variable {a : Alg} {p : Params} (rf : Refines a p)

structure Inv (c : Ctx a) (msg : Bytes) : Prop where
  buflen : c.buf.length = 64
  count : rf.cnt.val c.count = 8 * msg.length % 2^64
  state : rf.R c.state = absorb p p.init (msg.take (msg.length / 64 * 64))
  pending : c.buf.take (msg.length % 64) = msg.drop (msg.length / 64 * 64)

/-- `Inv` from any chaining value: `s0` was reached by `64·j` counted bytes, then `msg` was absorbed
(`Inv` is `s0 = H⁽⁰⁾`, `j = 0`; a context whose counter was moved by whole blocks is another case) -/
structure InvAt (s0 : p.St) (j : Nat) (c : Ctx a) (msg : Bytes) : Prop where
  buflen : c.buf.length = 64
  count : rf.cnt.val c.count = 8 * (64 * j + msg.length) % 2^64
  state : rf.R c.state = absorb p s0 (msg.take (msg.length / 64 * 64))
  pending : c.buf.take (msg.length % 64) = msg.drop (msg.length / 64 * 64)

theorem Inv.toAt {c : Ctx a} {msg : Bytes} (h : Inv rf c msg) : InvAt rf p.init 0 c msg :=
  ⟨h.buflen, by rw [h.count, Nat.mul_zero, Nat.zero_add], h.state, h.pending⟩

theorem InvAt.toInv {c : Ctx a} {msg : Bytes} (h : InvAt rf p.init 0 c msg) : Inv rf c msg :=
  ⟨h.buflen, by rw [h.count, Nat.mul_zero, Nat.zero_add], h.state, h.pending⟩

theorem r_eq (n : Nat) : (8 * n % 2^64) / 8 % 64 = n % 64 := by omega

theorem memcpy_length (dst src : Bytes) (off : Nat) (h : off + src.length ≤ dst.length) :
    (memcpy dst off src).length = dst.length := by
  simp [memcpy, List.length_take, List.length_drop]; omega

theorem memcpy_take (dst src : Bytes) (off : Nat) (h : off ≤ dst.length) :
    (memcpy dst off src).take (off + src.length) = dst.take off ++ src := by
  unfold memcpy
  have hl : (dst.take off ++ src).length = off + src.length := by simp [List.length_take]; omega
  rw [← hl, List.take_left']
  rfl

theorem memcpy_eq_of_take (dst src : Bytes) (off : Nat) (h : off + src.length = dst.length) :
    memcpy dst off src = dst.take off ++ src := by
  unfold memcpy
  rw [List.drop_of_length_le (by omega)]; simp

theorem init_inv : Inv rf (init a) [] := by
  constructor <;> simp [init, absorb_short, rf.init, rf.cnt.zero]

theorem InvAt.split {s0 : p.St} {j : Nat} {c : Ctx a} {msg : Bytes} (h : InvAt rf s0 j c msg) :
    ∃ m t k, msg = m ++ t ∧ m.length = 64 * k ∧ t.length < 64 ∧ a.cnt.r c.count = t.length ∧
      rf.R c.state = absorb p s0 m ∧ c.buf.take t.length = t := by
  have ht : (msg.drop (msg.length / 64 * 64)).length = msg.length % 64 := by rw [List.length_drop]; omega
  refine ⟨_, _, msg.length / 64, (List.take_append_drop _ _).symm, ?_, by omega, ?_, h.state, ht ▸ h.pending⟩
  · rw [List.length_take]; omega
  · rw [rf.cnt.r, h.count, ht]; omega

theorem InvAt.of_split {s0 : p.St} {j : Nat} {c : Ctx a} (m t : Bytes) (k : Nat) (hm : m.length = 64 * k)
    (ht : t.length < 64) (hbuf : c.buf.length = 64)
    (hcount : rf.cnt.val c.count = 8 * (64 * j + (m ++ t).length) % 2^64)
    (hstate : rf.R c.state = absorb p s0 m) (hpend : c.buf.take t.length = t) : InvAt rf s0 j c (m ++ t) := by
  have hdiv : (m ++ t).length / 64 * 64 = m.length := by rw [List.length_append]; omega
  have hmod : (m ++ t).length % 64 = t.length := by rw [List.length_append]; omega
  refine ⟨hbuf, hcount, ?_, ?_⟩
  · rw [hdiv, List.take_left' rfl, hstate]
  · rw [hdiv, hmod, List.drop_left' rfl, hpend]

theorem blocksLoop_spec (s : a.St) (src : Bytes) (n : Nat) (hn : src.length = n) :
    rf.R (blocksLoop a s src n).1 = absorb p (rf.R s) src ∧
    (blocksLoop a s src n).2 = src.drop (n / 64 * 64) := by
  induction n using Nat.strongRecOn generalizing s src with
  | _ n ih =>
    rw [blocksLoop]
    by_cases h : n ≥ 64
    · simp only [h, if_true]
      have h1 : (src.take 64).length = 64 := by rw [List.length_take]; omega
      obtain ⟨i1, i2⟩ := ih (n - 64) (by omega) (a.transform s (src.take 64)) (src.drop 64)
        (by rw [List.length_drop]; omega)
      refine ⟨?_, ?_⟩
      · rw [i1, rf.transform _ _ h1, ← absorb_block p _ _ _ h1, List.take_append_drop]
      · rw [i2, List.drop_drop]
        congr 1; omega
    · simp only [h, if_false]
      exact ⟨(absorb_short p _ _ (by omega)).symm, by rw [show n / 64 * 64 = 0 by omega, List.drop_zero]⟩

theorem update_invAt (s0 : p.St) (j : Nat) (c : Ctx a) (msg src : Bytes) (h : InvAt rf s0 j c msg) :
    InvAt rf s0 j (update a c src) (msg ++ src) := by
  obtain ⟨m, t, k, rfl, hm, ht, hr, hst, hpend⟩ := h.split
  have hbl := h.buflen
  unfold update
  by_cases h0 : src.length = 0
  · rw [List.eq_nil_of_length_eq_zero h0]
    simpa using h
  · have hcount : rf.cnt.val (a.cnt.add c.count src.length) = 8 * (64 * j + (m ++ t ++ src).length) % 2^64 := by
      rw [rf.cnt.add, h.count, List.length_append (bs := src)]; omega
    simp only [h0, if_false, hr]
    by_cases hsmall : src.length < 64 - t.length
    · -- the bytes join the rest in the buffer
      simp only [hsmall, if_true]
      rw [List.append_assoc] at hcount ⊢
      refine InvAt.of_split rf m (t ++ src) k hm (by rw [List.length_append]; omega) ?_ hcount hst ?_
      · exact (memcpy_length _ _ _ (by omega)).trans hbl
      · rw [List.length_append, memcpy_take _ _ _ (by omega), hpend]
    · -- `head` completes the buffered block; the loop absorbs the complete blocks of `rest`
      simp only [hsmall, if_false]
      have hsrc : src = src.take (64 - t.length) ++ src.drop (64 - t.length) := (List.take_append_drop _ _).symm
      have hhead : (src.take (64 - t.length)).length = 64 - t.length := by rw [List.length_take]; omega
      rw [← List.length_drop]
      generalize src.take (64 - t.length) = head at hsrc hhead ⊢
      generalize src.drop (64 - t.length) = rest at hsrc ⊢
      have hb1 : (t ++ head).length = 64 := by rw [List.length_append]; omega
      rw [memcpy_eq_of_take _ _ _ (by omega), hpend]
      obtain ⟨hl1, hl2⟩ := blocksLoop_spec rf (a.transform c.state (t ++ head)) rest rest.length rfl
      generalize blocksLoop a (a.transform c.state (t ++ head)) rest rest.length = res at hl1 hl2 ⊢
      obtain ⟨st2, tail⟩ := res
      subst hl2
      have hq : (rest.take (rest.length / 64 * 64)).length = 64 * (rest.length / 64) := by
        rw [List.length_take]; omega
      have hsplit : m ++ t ++ src = (m ++ (t ++ head) ++ rest.take (rest.length / 64 * 64)) ++
          rest.drop (rest.length / 64 * 64) := by
        rw [List.append_assoc _ (rest.take _), List.take_append_drop, hsrc]; simp only [List.append_assoc]
      rw [hsplit] at hcount ⊢
      refine InvAt.of_split rf _ _ (k + 1 + rest.length / 64) (by simp only [List.length_append, hm, hb1, hq]; omega)
        (by rw [List.length_drop]; omega) ?_ hcount ?_ ?_
      · exact (memcpy_length _ _ _ (by rw [List.length_drop]; omega)).trans hb1
      · show rf.R st2 = _
        rw [hl1, rf.transform _ _ hb1, hst, absorb_full p _ rest, ← absorb_block p _ _ _ hb1,
          ← absorb_append p _ _ _ k hm, ← List.append_assoc]
      · have := memcpy_take (t ++ head) (rest.drop (rest.length / 64 * 64)) 0 (Nat.zero_le _)
        rwa [Nat.zero_add, List.take_zero, List.nil_append] at this

theorem update_inv (c : Ctx a) (msg src : Bytes) (h : Inv rf c msg) :
    Inv rf (update a c src) (msg ++ src) :=
  (update_invAt rf p.init 0 c msg src h.toAt).toInv

theorem foldl_inv (c : Ctx a) (msg : Bytes) (chunks : List Bytes) (h : Inv rf c msg) :
    Inv rf (chunks.foldl (update a) c) (msg ++ chunks.flatten) := by
  induction chunks generalizing c msg with
  | nil => simpa using h
  | cons x xs ih =>
    simp only [List.foldl_cons, List.flatten_cons, ← List.append_assoc]
    exact ih _ _ (update_inv rf c msg x h)

end Percival.Proofs.MDStream
