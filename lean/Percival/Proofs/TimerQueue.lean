import Percival.Proofs.Keys
import Percival.Proofs.HeapRun
/-!
# C13: the timer queue on top of the heap
-/
namespace Percival.Proofs.TQ
open Percival.Model Percival.Model.TimerQueue Percival.Proofs.Heap Percival.Spec Percival.Spec.PQ

structure TQInv (q : TQ) : Prop where
  inv : Inv (key q.recs) q.h
  bound : ∀ r ∈ q.h.a.toList, ∃ x, lookup q.recs r = some x

theorem lookup_cons (recs : List (Nat × Rec)) (r r' : Nat) (x : Rec) :
    lookup ((r, x) :: recs) r' = if r' = r then some x else lookup recs r' :=
  Keys.lookup_cons r r' x recs

theorem tvKey_eq (s u : Int) : TimerQueue.tvKey s u = PQ.timeKey s u := rfl

theorem key_cons (recs : List (Nat × Rec)) (r : Nat) (x : Rec) :
    key ((r, x) :: recs) = upd (key recs) r (PQ.timeKey x.sec x.usec) := by
  funext y
  unfold key upd; rw [lookup_cons]
  by_cases h : y = r
  · simp [h, tvKey_eq]
  · simp [h]

theorem key_of_lookup (recs : List (Nat × Rec)) (r : Nat) (x : Rec) (h : lookup recs r = some x) :
    key recs r = tvKey x.sec x.usec := by
  unfold key; rw [h]

/-- `tvKey` orders `(sec, usec)` lexicographically for every `usec` that fits a 64-bit `long`,
    i.e. exactly as `tvcmp` in timerqueue.c does -/
theorem tvKey_le_iff (s u s' u' : Int) (hu : -2^63 ≤ u ∧ u < 2^63) (hu' : -2^63 ≤ u' ∧ u' < 2^63) :
    tvKey s u ≤ tvKey s' u' ↔ (s < s' ∨ (s = s' ∧ u ≤ u')) := by
  unfold tvKey; omega

theorem tq_inv_empty : TQInv TimerQueue.empty :=
  ⟨inv_empty _, by intro r hr; simp [TimerQueue.empty, Heap.empty] at hr⟩

theorem TQInv.leave {q : TQ} (hi : TQInv q) {h' : Heap.Heap} {r : Nat} (hi' : Inv (key q.recs) h')
    (hperm : q.h.a.toList.Perm (r :: h'.a.toList)) : TQInv { q with h := h' } :=
  ⟨hi', fun r' hr' => hi.bound r' (hperm.mem_iff.mpr (List.mem_cons_of_mem _ hr'))⟩

theorem tq_add (q : TQ) (r : Nat) (sec usec : Int) (ptr : Nat) (hi : TQInv q) (hf : r ∉ q.h.a.toList) :
    TQInv (add q r sec usec ptr) ∧ (add q r sec usec ptr).h.a.toList.Perm (r :: q.h.a.toList) ∧
    (add q r sec usec ptr).recs = (r, ⟨sec, usec, ptr⟩) :: q.recs := by
  have hfresh : ∀ i : Nat, q.h.a[i]? ≠ some r := by
    intro i hie; exact hf ((mem_iff_get _ _).mpr ⟨i, hie⟩)
  have hperm := add_perm (key ((r, ⟨sec, usec, ptr⟩) :: q.recs)) q.h r
  refine ⟨⟨add_inv_key _ _ _ _ hi.inv hfresh fun x hx => (congrFun (key_cons _ _ _) x).trans (upd_ne _ _ _ _ hx), ?_⟩, hperm, rfl⟩
  intro r' hr'
  have := hperm.mem_iff.mp hr'
  simp only [add, lookup_cons]
  by_cases h : r' = r
  · simp [h]
  · simp only [h, if_false]
    apply hi.bound
    simpa [h] using this

theorem tq_delete (q : TQ) (r : Nat) (hi : TQInv q) (hr : r ∈ q.h.a.toList) :
    ∃ q', delete q r = some q' ∧ TQInv q' ∧ q.h.a.toList.Perm (r :: q'.h.a.toList) ∧ q'.recs = q.recs := by
  obtain ⟨rc, hpos, hrc⟩ := hi.inv.handle_valid hr
  obtain ⟨h', hdel, hi', hperm⟩ := delete_at (key q.recs) q.h rc r hi.inv hrc
  exact ⟨{ q with h := h' }, by simp [delete, hpos, hdel], hi.leave hi' hperm, hperm, rfl⟩

theorem tq_increase (q : TQ) (r : Nat) (sec usec : Int) (old : Rec) (hi : TQInv q) (hr : r ∈ q.h.a.toList)
    (hold : lookup q.recs r = some old) (hge : tvKey old.sec old.usec ≤ tvKey sec usec) :
    ∃ q', increase q r sec usec = some q' ∧ TQInv q' ∧ q'.h.a.toList.Perm q.h.a.toList ∧
      q'.recs = (r, { old with sec, usec }) :: q.recs := by
  obtain ⟨rc, hpos, hrc⟩ := hi.inv.handle_valid hr
  generalize hrecs : (r, ({ old with sec, usec } : Rec)) :: q.recs = recs'
  have hsome := increase_eq (key recs') q.h rc (lt_of_get hrc)
  have hinv := inv_siftDown_of_key (key recs') (key q.recs) q.h rc r hi.inv hrc
    (fun x hx => by rw [← hrecs, key_cons]; exact upd_ne _ _ _ _ hx)
    (by rw [key_of_lookup _ _ _ hold, ← hrecs, key_cons, upd_eq]; exact hge)
  have hperm := siftDown_perm (key recs') true q.h.a.size q.h.a.size q.h rc
  refine ⟨⟨_, recs'⟩, ?_, ⟨hinv, ?_⟩, hperm, rfl⟩
  · simp [increase, hold, hpos, hrecs, hsome]
  · intro r' hr'
    have := hi.bound r' (hperm.mem_iff.mp hr')
    rw [← hrecs]; simp only [lookup_cons]
    by_cases h : r' = r
    · simp [h]
    · simpa [h] using this

theorem tq_getmin (q : TQ) (hi : TQInv q) :
    match getmin q with
    | none => q.h.a.toList = []
    | some (s, u) => ∃ r x, IsLeast (key q.recs) q.h.a.toList r ∧ lookup q.recs r = some x ∧ s = x.sec ∧ u = x.usec := by
  unfold getmin
  cases hg : Heap.getmin q.h with
  | none => simpa using (getmin_none_iff q.h).mp hg
  | some r =>
    have hl := getmin_isLeast _ q.h r hi.inv hg
    obtain ⟨x, hx⟩ := hi.bound r hl.1
    simp only [hx, Option.bind_eq_bind, Option.bind_some, Option.pure_def]
    exact ⟨r, x, hl, hx, rfl, rfl⟩

theorem tq_getptr (q : TQ) (sec usec : Int) (hi : TQInv q) :
    match getptr q sec usec with
    | (q', some (r, p)) =>
        IsLeast (key q.recs) q.h.a.toList r ∧ key q.recs r ≤ tvKey sec usec ∧
        (∃ x, lookup q.recs r = some x ∧ p = x.ptr) ∧
        TQInv q' ∧ q.h.a.toList.Perm (r :: q'.h.a.toList) ∧ q'.recs = q.recs
    | (q', none) => q' = q ∧ ∀ x ∈ q.h.a.toList, key q.recs x > tvKey sec usec := by
  unfold getptr
  cases hg : Heap.getmin q.h with
  | none =>
    have := (getmin_none_iff q.h).mp hg
    simp [this]
  | some r =>
    have hl := getmin_isLeast _ q.h r hi.inv hg
    obtain ⟨x, hx⟩ := hi.bound r hl.1
    simp only [hx]
    have hk := key_of_lookup _ _ _ hx
    by_cases hgt : tvKey x.sec x.usec > tvKey sec usec
    · simp only [hgt, if_true]
      refine ⟨trivial, ?_⟩
      intro y hy
      have := hl.2 y hy
      omega
    · simp only [hgt, if_false]
      obtain ⟨h', hdel, hi', hperm⟩ := delete_at (key q.recs) q.h 0 r hi.inv hg
      have hdm : Heap.deletemin (key q.recs) q.h = some h' := hdel
      simp only [hdm]
      exact ⟨hl, by omega, ⟨x, hx, rfl⟩, hi.leave hi' hperm, hperm, trivial⟩

theorem tq_drain (sec usec : Int) (fuel : Nat) (q : TQ) (hi : TQInv q) :
    let out := HeapRun.tqDrain sec usec fuel q
    out.Pairwise (fun a b => key q.recs a.1 ≤ key q.recs b.1) ∧
    ∀ a ∈ out, key q.recs a.1 ≤ tvKey sec usec ∧ a.1 ∈ q.h.a.toList ∧
      ∃ x, lookup q.recs a.1 = some x ∧ a.2 = x.ptr := by
  induction fuel generalizing q with
  | zero => simp [HeapRun.tqDrain]
  | succ fuel ih =>
    have hgp := tq_getptr q sec usec hi
    simp only [HeapRun.tqDrain]
    generalize getptr q sec usec = res at hgp
    obtain ⟨q', o⟩ := res
    cases o with
    | none => simp
    | some rp =>
      obtain ⟨r, p⟩ := rp
      simp only at hgp
      obtain ⟨hl, hdue, hptr, hi', hperm, hrecs⟩ := hgp
      have ih' := ih q' hi'
      simp only [hrecs] at ih'
      obtain ⟨ih1, ih2⟩ := ih'
      refine ⟨List.pairwise_cons.mpr ⟨?_, ih1⟩, ?_⟩
      · intro a ha
        exact hl.2 a.1 (hperm.mem_iff.mpr (List.mem_cons_of_mem _ (ih2 a ha).2.1))
      · intro a ha
        cases List.mem_cons.mp ha with
        | inl h => subst h; exact ⟨hdue, hl.1, hptr⟩
        | inr h =>
          obtain ⟨h1, h2, h3⟩ := ih2 a h
          exact ⟨h1, hperm.mem_iff.mpr (List.mem_cons_of_mem _ h2), h3⟩

end Percival.Proofs.TQ
