import Percival.Model.EntropyStep
import Percival.Proofs.Entropy
/-!
# The executable of C11 keeps the reference DRBG and the model in step

`Rel s`: the reference state is `abs` of the model's state and both have consumed the same of the oracle.  One line keeps it
and prints equal answers for reference and model (`stepOp_refines`); so does every run (`runOps_refines`).
-/
namespace Percival.Proofs.EntropyStep
open Percival Percival.Spec Percival.Proofs.Entropy Percival.Model.EntropyStep
open Percival.Spec.HmacDrbg (State Oracle Outcome getEntropy pieces std)
open Percival.Model.Entropy (Cfg Drbg)

/-- reference and model side of the executable's state agree -/
def Rel (s : Model.EntropyStep.St) : Prop := s.ref = abs s.m ∧ s.refOracle = s.mOracle

theorem read_source (st : Model.Entropy.St) (o : Oracle) (n : Nat) :
    mapSt abs (Model.Entropy.read Cfg.source st o n) = HmacDrbg.Service.read std (abs st) o n := by
  rw [show Cfg.source = Cfg.doc 256 65536 by decide]
  exact read_eq fits_source st o n

theorem stepOp_refines (s : Model.EntropyStep.St) (h : Rel s) (op : Model.EntropyStep.Op) :
    Rel (stepOp s op).1 ∧
    (∀ r1 r2 m q, (stepOp s op).2 = .read r1 r2 m q → r1 = r2) ∧
    (∀ n r1 r2 m q, (stepOp s op).2 = .bigfull n r1 r2 m q → r1 = r2) ∧
    (∀ n r1 r2, (stepOp s op).2 = .bigcmp n r1 r2 → r1 = r2) := by
  obtain ⟨h1, h2⟩ := h
  by_cases hd : s.dead = true
  · simp only [stepOp, hd, if_true]
    exact ⟨⟨h1, h2⟩, (by intro _ _ _ _ hq; cases hq), (by intro _ _ _ _ _ hq; cases hq), (by intro _ _ _ hq; cases hq)⟩
  have both : ∀ k, (Spec.HmacDrbg.Service.read std s.ref s.refOracle k) =
      mapSt abs (Model.Entropy.read Cfg.source s.m s.mOracle k) := by
    intro k; rw [h1, h2]; exact (read_source s.m s.mOracle k).symm
  cases op with
  | ent x =>
    simp only [stepOp, hd, Bool.false_eq_true, if_false, h2]
    exact ⟨⟨h1, rfl⟩, (by intro _ _ _ _ hq; cases hq), (by intro _ _ _ _ _ hq; cases hq), (by intro _ _ _ hq; cases hq)⟩
  | ents xs =>
    simp only [stepOp, hd, Bool.false_eq_true, if_false, h2]
    exact ⟨⟨h1, rfl⟩, (by intro _ _ _ _ hq; cases hq), (by intro _ _ _ _ _ hq; cases hq), (by intro _ _ _ hq; cases hq)⟩
  | read n =>
    simp only [stepOp, hd, Bool.false_eq_true, if_false, both n]
    rcases hm : Model.Entropy.read Cfg.source s.m s.mOracle n with ⟨r2, m', mo'⟩
    simp only [mapSt]
    refine ⟨⟨rfl, rfl⟩, ?_, (by intro _ _ _ _ _ hq; cases hq), (by intro _ _ _ hq; cases hq)⟩
    intro r1 r2' m q hq
    simp only [Model.EntropyStep.Out.read.injEq] at hq
    rw [← hq.1, ← hq.2.1]
  | bigread n full =>
    cases full with
    | true =>
      simp only [stepOp, hd, Bool.false_eq_true, if_false, both n]
      rcases hm : Model.Entropy.read Cfg.source s.m s.mOracle n with ⟨r2, m', mo'⟩
      simp only [mapSt]
      refine ⟨⟨rfl, rfl⟩, (by intro _ _ _ _ hq; cases hq), ?_, (by intro _ _ _ hq; cases hq)⟩
      intro n' r1 r2' m q hq
      simp only [Model.EntropyStep.Out.bigfull.injEq] at hq
      rw [← hq.2.1, ← hq.2.2.1]
    | false =>
      simp only [stepOp, hd, Bool.false_eq_true, if_false, both (firstPiece n)]
      rcases hm : Model.Entropy.read Cfg.source s.m s.mOracle (firstPiece n) with ⟨r2, m', mo'⟩
      simp only [mapSt]
      refine ⟨⟨rfl, rfl⟩, (by intro _ _ _ _ hq; cases hq), (by intro _ _ _ _ _ hq; cases hq), ?_⟩
      intro n' r1 r2' hq
      simp only [Model.EntropyStep.Out.bigcmp.injEq] at hq
      rw [← hq.2.1, ← hq.2.2]

theorem rel_init : Rel ({} : Model.EntropyStep.St) := ⟨rfl, rfl⟩

/-- every run from corresponding states keeps them corresponding and prints equal answers on every line -/
theorem runOps_refines (ops : List Model.EntropyStep.Op) : ∀ (s : Model.EntropyStep.St), Rel s →
    Rel (runOps s ops).1 ∧
    ∀ o ∈ (runOps s ops).2, (∀ r1 r2 m q, o = .read r1 r2 m q → r1 = r2) ∧
      (∀ n r1 r2 m q, o = .bigfull n r1 r2 m q → r1 = r2) ∧ (∀ n r1 r2, o = .bigcmp n r1 r2 → r1 = r2) := by
  induction ops with
  | nil => intro s hs; exact ⟨hs, fun o ho => by cases ho⟩
  | cons op ops ih =>
    intro s hs
    obtain ⟨h1, h2⟩ := stepOp_refines s hs op
    obtain ⟨i1, i2⟩ := ih _ h1
    refine ⟨i1, ?_⟩
    intro o ho
    simp only [runOps, List.mem_cons] at ho
    rcases ho with rfl | ho
    · exact h2
    · exact i2 o ho

end Percival.Proofs.EntropyStep
