import Percival.Proofs.AllocCalls
/-!
# C14, event layer: what is registered, what is held, and the stretches of a call

`regImm / regTimers / regNet` are the three parts of `EvReg.registry`; `evBlocks e` counts the heap blocks the event
layer holds in state `e`.  `Call P k e m e' m'` is a stretch of a call on part `P`: only part `P` and the record pool
change, the oracle is only advanced and the count of live blocks moves with `evBlocks` (plus the `k` blocks the call
holds itself).  `Quiet P k e m e' m'` is such a stretch in which nothing is registered or unregistered.  Every operation
of `Model/EvReg.lean` is one or more quiet stretches followed, when it succeeds, by one update of the state that
allocates nothing, and that update is a call too; so every operation as a whole is a `Call P 0` (`call_immReg` …
`call_netCancel`, next to the contracts).  Every error path is a quiet stretch as a whole, which is why a failed call
leaves nothing behind.
-/
namespace Percival.Proofs.EvRegTimer
open Percival.Model Percival.Model.EvReg

def regImm (e : Ev) : List (List Nat) := (registry e).imm
def regTimers (e : Ev) : List Nat := (registry e).timers

theorem regImm_of_heads {e e' : Ev} (h : e'.heads = e.heads) : regImm e' = regImm e := by
  simp only [regImm, registry, h]

theorem regTimers_of_timers {e e' : Ev} (h : e'.timers = e.timers) : regTimers e' = regTimers e := by
  simp only [regTimers, registry, h]

theorem mkrec_eq (e : Ev) (m : Mem) :
    mkrec e m = ((MPool.malloc e.recPool recSize m).1, { e with recPool := (MPool.malloc e.recPool recSize m).2.1 },
      (MPool.malloc e.recPool recSize m).2.2) := rfl

theorem freerec_eq (e : Ev) (rid : Nat) (m : Mem) :
    freerec e rid m = ({ e with recPool := (MPool.free e.recPool rid m).1 }, (MPool.free e.recPool rid m).2) := rfl

end Percival.Proofs.EvRegTimer

namespace Percival.Proofs.EvRegNet
open Percival.Model Percival.Model.EvReg

def regNet (e : Ev) : List (Nat × Bool × Nat) := (registry e).net

theorem regNet_of_socks {e e' : Ev} (h : e'.socks = e.socks) : regNet e' = regNet e := by
  simp only [regNet, registry, h]

theorem netOf_append_empty : ∀ (l : List SockRec) (fd k : Nat),
    netOf fd (l ++ List.replicate k SockRec.empty) = netOf fd l
  | [], fd, k => by
    induction k generalizing fd with
    | zero => rfl
    | succ k ih => simp only [List.nil_append, List.replicate_succ, netOf, SockRec.empty] at ih ⊢; simpa using ih (fd + 1)
  | r :: rest, fd, k => by
    simp only [List.cons_append, netOf, netOf_append_empty rest (fd + 1) k]

end Percival.Proofs.EvRegNet

namespace Percival.Proofs.EvRegAcct
open Percival.Model Percival.Model.EvReg
open Percival.Proofs.EvRegNet (regNet)
open Percival.Proofs.EvRegTimer (regImm regTimers)

/-- the socket list `S`: its structure and its buffer -/
def sBlocks : Option Nat → Int
  | none => 0
  | some a => 1 + bb a

/-- the number of blocks the event layer holds in state `e`: the pools' cached objects and stack arrays;
an event record and a queue node per immediate event; an event record, a `struct timerrec` of
events_timer.c and a timer-queue record per timer; an event record per network registration; the timer
queue's own blocks; `S`; the pollfd array -/
def evBlocks (e : Ev) : Int :=
  poolBlocks e.recPool + poolBlocks e.qPool +
  2 * (regImm e).flatten.length + 3 * (regTimers e).length + (regNet e).length +
  tqBlocks e.tq + sBlocks e.sAlloc + bb e.fdsAlloc

/-- the one structural fact the count needs: before `init()` of events_network.c there is no socket record
and no pollfd array (`init()` resets both without freeing anything).  The first half is `NetInv.uninit`. -/
def AcctInv (e : Ev) : Prop := e.sAlloc = none → e.socks = [] ∧ e.fdsAlloc = 0

theorem acctInv_init : AcctInv ({} : Ev) := fun _ => ⟨rfl, rfl⟩

theorem acctInv_of_some {e : Ev} (h : e.sAlloc ≠ none) : AcctInv e := fun h' => absurd h' h

theorem acctInv_congr {e e' : Ev} (h : AcctInv e) (h1 : e'.sAlloc = e.sAlloc) (h2 : e'.socks = e.socks)
    (h3 : e'.fdsAlloc = e.fdsAlloc) : AcctInv e' := by
  intro hs; rw [h2, h3]; exact h (by rw [← h1]; exact hs)

theorem evBlocks_init : evBlocks ({} : Ev) = 0 := by decide

theorem evBlocks_raw (e : Ev) : evBlocks e =
    poolBlocks e.recPool + poolBlocks e.qPool + 2 * e.heads.flatten.length + 3 * e.timers.length +
    (netOf 0 e.socks).length + tqBlocks e.tq + sBlocks e.sAlloc + bb e.fdsAlloc := by
  simp only [evBlocks, regImm, regTimers, regNet, registry, ← List.map_flatten, List.length_map]

theorem evBlocks_congr {e e' : Ev} (h1 : e'.recPool = e.recPool) (h2 : e'.qPool = e.qPool)
    (hI : regImm e' = regImm e) (hT : regTimers e' = regTimers e) (h4 : e'.tq = e.tq) (h5 : e'.sAlloc = e.sAlloc)
    (h6 : e'.fdsAlloc = e.fdsAlloc) : evBlocks e' + (regNet e).length = evBlocks e + (regNet e').length := by
  simp only [evBlocks, h1, h2, hI, hT, h4, h5, h6]
  omega

theorem flatten_modify_perm {α : Type} (x : α) : ∀ (l : List (List α)) (i : Nat), i < l.length →
    (l.modify i (· ++ [x])).flatten.Perm (x :: l.flatten)
  | [], i, h => by simp at h
  | a :: l, 0, _ => by
    rw [show ((a :: l).modify 0 (· ++ [x])).flatten = a ++ x :: l.flatten by simp, List.flatten_cons]
    exact List.perm_middle
  | a :: l, i + 1, h => by
    simp only [List.modify_succ_cons, List.flatten_cons]
    exact ((flatten_modify_perm x l i (by simpa using h)).append_left a).trans List.perm_middle

theorem flatten_modify_length {α : Type} (x : α) (l : List (List α)) (i : Nat) (h : i < l.length) :
    (l.modify i (· ++ [x])).flatten.length = l.flatten.length + 1 :=
  (flatten_modify_perm x l i h).length_eq

end Percival.Proofs.EvRegAcct

namespace Percival.Proofs.EvRegQuiet
open Percival.Model Percival.Model.EvReg
open Percival.Proofs.EvRegTimer (Step mkrec_eq freerec_eq)
open Percival.Proofs.EvRegAcct (evBlocks AcctInv evBlocks_raw)
open Percival.Proofs.AllocCalls Percival.Proofs.MemCalls

/-- `events_immediate.c`, `events_timer.c`, `events_network.c`; the record pool of `events.c` serves all three -/
inductive Part | imm | tm | net

structure Outside (P : Part) (e e' : Ev) : Prop where
  imm : P ≠ .imm → e'.heads = e.heads ∧ e'.minq = e.minq ∧ e'.qPool = e.qPool
  tm : P ≠ .tm → e'.tq = e.tq ∧ e'.timers = e.timers
  net : P ≠ .net → e'.sAlloc = e.sAlloc ∧ e'.socks = e.socks ∧ e'.fds = e.fds ∧ e'.fdsAlloc = e.fdsAlloc

theorem Outside.refl (P : Part) (e : Ev) : Outside P e e :=
  ⟨fun _ => ⟨rfl, rfl, rfl⟩, fun _ => ⟨rfl, rfl⟩, fun _ => ⟨rfl, rfl, rfl, rfl⟩⟩

theorem Outside.trans {P : Part} {a b c : Ev} (h1 : Outside P a b) (h2 : Outside P b c) : Outside P a c := by
  refine ⟨fun h => ?_, fun h => ?_, fun h => ?_⟩
  · obtain ⟨a1, a2, a3⟩ := h1.imm h; obtain ⟨b1, b2, b3⟩ := h2.imm h
    exact ⟨b1.trans a1, b2.trans a2, b3.trans a3⟩
  · obtain ⟨a1, a2⟩ := h1.tm h; obtain ⟨b1, b2⟩ := h2.tm h
    exact ⟨b1.trans a1, b2.trans a2⟩
  · obtain ⟨a1, a2, a3, a4⟩ := h1.net h; obtain ⟨b1, b2, b3, b4⟩ := h2.net h
    exact ⟨b1.trans a1, b2.trans a2, b3.trans a3, b4.trans a4⟩

theorem outside_imm {e e' : Ev} (h1 : e'.tq = e.tq) (h2 : e'.timers = e.timers) (h3 : e'.sAlloc = e.sAlloc)
    (h4 : e'.socks = e.socks) (h5 : e'.fds = e.fds) (h6 : e'.fdsAlloc = e.fdsAlloc) : Outside .imm e e' :=
  ⟨fun p => absurd rfl p, fun _ => ⟨h1, h2⟩, fun _ => ⟨h3, h4, h5, h6⟩⟩

theorem outside_tm {e e' : Ev} (h1 : e'.heads = e.heads) (h2 : e'.minq = e.minq) (h3 : e'.qPool = e.qPool)
    (h4 : e'.sAlloc = e.sAlloc) (h5 : e'.socks = e.socks) (h6 : e'.fds = e.fds) (h7 : e'.fdsAlloc = e.fdsAlloc) :
    Outside .tm e e' :=
  ⟨fun _ => ⟨h1, h2, h3⟩, fun p => absurd rfl p, fun _ => ⟨h4, h5, h6, h7⟩⟩

theorem outside_net {e e' : Ev} (h1 : e'.heads = e.heads) (h2 : e'.minq = e.minq) (h3 : e'.qPool = e.qPool)
    (h4 : e'.tq = e.tq) (h5 : e'.timers = e.timers) : Outside .net e e' :=
  ⟨fun _ => ⟨h1, h2, h3⟩, fun _ => ⟨h4, h5⟩, fun p => absurd rfl p⟩

theorem Outside.of_pool (P : Part) (e : Ev) (p : MPool.MP) : Outside P e { e with recPool := p } :=
  ⟨fun _ => ⟨rfl, rfl, rfl⟩, fun _ => ⟨rfl, rfl⟩, fun _ => ⟨rfl, rfl, rfl, rfl⟩⟩

/-- the socket list is empty before `init()` of events_network.c (half of `AcctInv`, and of `NetInv.uninit`) -/
def NoSocks (e : Ev) : Prop := e.sAlloc = none → e.socks = []

/-- a stretch of a call on part `P`, whatever it registers: only part `P` and the record pool change, the oracle is only
advanced, the count of live blocks moves with `evBlocks` plus the `k` blocks the call holds in local variables, and
`AcctInv` is kept.  A whole call has `k = 0`.  Only `init()` of events_network.c needs `AcctInv` for the count: it resets
the socket list and the pollfd array without releasing them.  (`MemCalls.Calls m m' d` is the part of this that speaks of
the oracle alone.) -/
structure Call (P : Part) (k : Int) (e : Ev) (m : Mem) (e' : Ev) (m' : Mem) : Prop where
  out : Outside P e e'
  step : Step m m'
  live : (P = .net → AcctInv e) → m'.live = m.live + (evBlocks e' - evBlocks e + k)
  pre : AcctInv e → AcctInv e'

theorem Call.refl (P : Part) (e : Ev) (m : Mem) : Call P 0 e m e m :=
  ⟨Outside.refl P e, Step.refl m, fun _ => by omega, id⟩

theorem Call.trans {P : Part} {k k' : Int} {a b c : Ev} {ma mb mc : Mem} (h1 : Call P k a ma b mb)
    (h2 : Call P k' b mb c mc) : Call P (k + k') a ma c mc :=
  ⟨h1.out.trans h2.out, h1.step.trans h2.step, fun h => by rw [h2.live fun p => h1.pre (h p), h1.live h]; omega,
    fun h => h2.pre (h1.pre h)⟩

theorem Call.cast {P : Part} {k k' : Int} {e e' : Ev} {m m' : Mem} (h : Call P k e m e' m') (hk : k = k') :
    Call P k' e m e' m' := hk ▸ h

/-- an update of part `P` that allocates nothing and hands the `k` blocks it takes out of the state to the call -/
theorem Call.pure {P : Part} {k : Int} {e e' : Ev} (m : Mem) (out : Outside P e e') (ha : AcctInv e → AcctInv e')
    (hb : evBlocks e = evBlocks e' + k) : Call P k e m e' m :=
  ⟨out, Step.refl m, fun _ => by omega, ha⟩

/-- a call's stretch that registers and unregisters nothing: the three lists of registrations are as they were (the
socket list may have grown by empty records; `init()` of events_network.c again needs a precondition) -/
structure Quiet (P : Part) (k : Int) (e : Ev) (m : Mem) (e' : Ev) (m' : Mem) : Prop extends Call P k e m e' m' where
  same : e'.heads = e.heads ∧ e'.minq = e.minq ∧ e'.timers = e.timers
  reg : (P = .net → NoSocks e) → registry e' = registry e
  noSocks : NoSocks e → NoSocks e'

theorem Quiet.call {P : Part} {k : Int} {e e' : Ev} {m m' : Mem} (q : Quiet P k e m e' m') : Call P k e m e' m' :=
  q.toCall

theorem Quiet.refl (P : Part) (e : Ev) (m : Mem) : Quiet P 0 e m e m :=
  ⟨Call.refl P e m, ⟨rfl, rfl, rfl⟩, fun _ => rfl, id⟩

theorem Quiet.trans {P : Part} {k k' : Int} {a b c : Ev} {ma mb mc : Mem} (h1 : Quiet P k a ma b mb)
    (h2 : Quiet P k' b mb c mc) : Quiet P (k + k') a ma c mc :=
  ⟨h1.toCall.trans h2.toCall,
    ⟨h2.same.1.trans h1.same.1, h2.same.2.1.trans h1.same.2.1, h2.same.2.2.trans h1.same.2.2⟩,
    fun h => (h2.reg fun p => h1.noSocks (h p)).trans (h1.reg h), fun h => h2.noSocks (h1.noSocks h)⟩

theorem Quiet.cast {P : Part} {k k' : Int} {e e' : Ev} {m m' : Mem} (h : Quiet P k e m e' m') (hk : k = k') :
    Quiet P k' e m e' m' := hk ▸ h

theorem Quiet.mk' {P : Part} {k : Int} {e e' : Ev} {m m' : Mem} (out : Outside P e e')
    (same : e'.heads = e.heads ∧ e'.minq = e.minq ∧ e'.timers = e.timers)
    (hn : e'.sAlloc = e.sAlloc ∧ e'.socks = e.socks ∧ e'.fdsAlloc = e.fdsAlloc) (hr : registry e' = registry e)
    (hc : Calls m m' (evBlocks e' - evBlocks e + k)) : Quiet P k e m e' m' :=
  ⟨⟨out, hc.step, fun _ => hc.live, fun h => by unfold AcctInv; rw [hn.1, hn.2.1, hn.2.2]; exact h⟩, same, fun _ => hr,
    fun h => by unfold NoSocks; rw [hn.1, hn.2.1]; exact h⟩

theorem quiet_mem (P : Part) (e : Ev) {m m' : Mem} {k : Int} (h : Calls m m' k) : Quiet P k e m e m' :=
  Quiet.mk' (Outside.refl P e) ⟨rfl, rfl, rfl⟩ ⟨rfl, rfl, rfl⟩ rfl (h.cast (by omega))

/-- `events_mkrec`, in any part: the caller holds the record it got -/
theorem quiet_mkrec (P : Part) (e : Ev) (m : Mem) :
    Quiet P (if (mkrec e m).1.isSome then 1 else 0) e m (mkrec e m).2.1 (mkrec e m).2.2 :=
  Quiet.mk' (Outside.of_pool P e _) ⟨rfl, rfl, rfl⟩ ⟨rfl, rfl, rfl⟩ rfl
    ((Percival.Proofs.MPool.malloc_calls e.recPool recSize m).1.cast (by rw [mkrec_eq]; simp only [evBlocks_raw, cached_eq]; omega))

/-- `events_mkrec` returns NULL exactly when a request was refused -/
theorem mkrec_refusals (e : Ev) (m : Mem) :
    (mkrec e m).2.2.refusals = m.refusals + (if (mkrec e m).1.isSome then 0 else 1) :=
  (Percival.Proofs.MPool.malloc_calls e.recPool recSize m).2

/-- `events_freerec` of a record the caller held -/
theorem quiet_freerec (P : Part) (e : Ev) (rid : Nat) (m : Mem) :
    Quiet P (-1) e m (freerec e rid m).1 (freerec e rid m).2 :=
  Quiet.mk' (Outside.of_pool P e _) ⟨rfl, rfl, rfl⟩ ⟨rfl, rfl, rfl⟩ rfl
    ((Percival.Proofs.MPool.free_calls e.recPool rid m).cast (by rw [freerec_eq]; simp only [evBlocks_raw, cached_eq]; omega))

end Percival.Proofs.EvRegQuiet
