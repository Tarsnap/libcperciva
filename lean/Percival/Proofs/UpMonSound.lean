import Percival.Proofs.UpRelease
/-!
# C14, component `upstart`: the monitor `Spec.UpMon.monStep` accepts every line of the model `Model.UpStep.stepOp`

`Model.UpStep.stepOp` moves the world only by `AllocFail.stepR` (`Proofs/UpStep.lean`, `stepOp_elim`), so the proved
invariants `Inv` / `EvAcct` of `Model/AllocFail.lean` are carried along every protocol line.

`uinv_step`: every line keeps `UInv` (and `CInv` with the bound `budget n op`); nothing is assumed of the line.
`acc_step`: the monitor's verdict on a line is reduced to two conditions on the call the line stands for:

* `NoFalseFail w c` — the call is within its contract and a failure comes with a refused request: the pre-checks of
  `callOf` give `Ready' w c` (`call_ready'`: `Ready` with the free descriptor asked for only where the call registers),
  and `Ready'` is enough (`ready'_noFalseFail`, from `stepR_post`);
* `Present w c` for the release calls (the harness' handle tables name existing, unowned objects);

and for `end` to `uinv_end`.  What `acc_step` assumes of a line (`WF`) is stated below, with the reason; it follows from
`CInv (tables s.w) n`, `n ≤ 60` (`wf_of_cinv`): `freshFd` — the lowest descriptor ≥ 3 that is not the socket of an
outstanding connect — is then below 64, and the registry (`Inv.regNet`: exactly the registrations the objects hold) has
no write registration there; the timers are those of the connects (`Inv.regTm`).  `OpsOk` (decidable on the op list): at
most 61 `nc_start` / `hq_start` / `hqs_start` lines between two `end`s.  The bound is needed: `freshFd` does not know about
the slot descriptors, so the 62nd outstanding connect would be given descriptor 64, and with a `network_write`
outstanding on slot 0 the registration fails with EEXIST — a failure without a refused request (the harness' `socket()`
would skip 64‥87; the model follows it only below 60).
-/
namespace Percival.Proofs.UpMonSound
open Percival.Model Percival.Model.EvReg Percival.Model.AllocFail Percival.Model.UpStep
open Percival.Proofs.AllocFailUpper
open Percival.Proofs.EvRegNet (regNet netRegistered NetInv)
open Percival.Proofs.EvRegTimer (regTimers)
open Percival.Model.Connect (AddrOutcome)
open Percival.Model.DsStep (sched rf)
open Percival.Spec.UpMon (monStep Kind Ans)

theorem callOf_isRelease (s : S) (op : UOp) (c : LOp) (h : callOf s op = some c) (hr : isRelease c = true) :
    ∃ k hh x, op = .rel k hh ∧ obj (relTab s k) hh = some x ∧ c = relCall k x := by
  cases stands_of_callOf h with
  | rel k hh x ho => exact ⟨k, hh, x, rfl, ho, rfl⟩
  | start k => cases k <;> cases hr
  | _ => cases hr

theorem mon_skip : (monStep () .call (Out.word .skip).ans).2 = none := rfl

theorem mon_line_ok (w0 w : World) : (monStep () .call (line true w0 w).ans).2 = none := rfl

theorem mon_line_fail (w0 w : World) (h : w0.m.refusals < w.m.refusals) :
    (monStep () .call (line false w0 w).ans).2 = none := by
  have h0 : rf w0.m w.m > 0 := by unfold rf; omega
  have : decide (rf w0.m w.m > 0) = true := decide_eq_true h0
  simp [monStep, line, Out.ans, Spec.UpMon.accept, this]

def NoFalseFail (w : World) (c : LOp) : Prop :=
  (stepR w c).1 ≠ .contract ∧ ((stepR w c).1 = .fail → w.m.refusals < (stepR w c).2.m.refusals)

theorem ready'_noFalseFail (w : World) (c : LOp) (hI : Inv w) (h : Ready' w c) : NoFalseFail w c :=
  ⟨(stepR_post w c hI).inContract h, fun hf => (stepR_post w c hI).cause hf h⟩

theorem mon_end (live : Int) (n : Nat) (left : Option (Nat × Nat)) (h : live = 0) :
    (monStep () .end_ (Out.end_ live n left).ans).2 = none := by
  subst h; rfl

theorem fdOk_of_slot (w : World) (fd : Nat) (isW : Bool) (hb : slotBusy w.ev fd isW = false) (hfd : fd < 88) :
    fdOk w fd isW := by
  refine ⟨fun hr => ?_, ?_⟩
  · obtain ⟨rec, h1, h2⟩ := (Percival.Proofs.EvRegNet.netRegistered_iff w.ev fd isW).1 hr
    simp only [slotBusy, h1] at hb
    rw [h2] at hb; cases hb
  · have : EArray.SIZE_MAX = 2^64 - 1 := rfl
    rw [this]; omega

/-- what is assumed of a line, beyond `UInv`:

* `conn` — for `nc_start` / `hq_start` / `hqs_start`: the descriptor `socket()` would return (`freshFd`: the lowest one not used
  by an outstanding connect) has no write registration and fits the socket list, and there are fewer than `2^32`
  timers.  `freshFd` avoids only the sockets of `w.conns`; it could reach a slot descriptor (64‥87) only with more
  than 60 connects outstanding; the harness has 32 + 32 handles, and the generator makes at most 60 connect lines per case.

`wf_of_cinv` derives it from a bound on the connects outstanding, so the final statements do not
assume it.  (For `end` nothing is assumed: `ReleaseCovers s` is proved from `UInv`, `releaseCovers`.) -/
structure WF (s : S) (op : UOp) : Prop where
  conn : ∀ a tm l fd, (callOf s op = some (.connect a tm fd) ∨ callOf s op = some (.http a l fd) ∨
      ∃ hl, callOf s op = some (.https a l fd hl)) →
    (skipFailNow a ≠ [] → fdOk s.w fd true) ∧ s.w.ev.timers.length < 2^32

theorem call_ready' (s : S) (op : UOp) (U : UInv s) (wf : WF s op) (c0 : LOp) (hc : callOf s op = some c0)
    (hr : isRelease c0 = false) : Ready' s.w c0 := by
  have hfd := callOf_fd hc
  cases stands_of_callOf hc with
  | start k h sl _ hsl _ hb =>
    have := (hfd _ (by cases k <;> rfl)).2
    cases k
    · exact fdOk_of_slot s.w _ false hb this
    · exact fdOk_of_slot s.w _ true hb this
    · exact fdOk_of_slot s.w _ false hb this
  | nbrInit | nbwInit => exact trivial
  | ncStart h a tm => exact wf.conn a tm 0 _ (Or.inl hc)
  | hqStart h a pl => exact wf.conn a none _ _ (Or.inr (Or.inl hc))
  | hqsStart h a pl hn => exact wf.conn a none _ _ (Or.inr (Or.inr ⟨hn, hc⟩))
  | nbrWait h len rid r _ hf hcr hi hslot =>
    obtain ⟨hrm, hid⟩ := Run.find_key (fun x : Reader => x.id) hf
    exact ⟨r, hrm, hid, hcr, hi, fun hlt => fdOk_of_slot s.w _ false (hslot (by omega)) (U.fds.1 r hrm)⟩
  | nbwReserve h len wid x _ hf hres =>
    obtain ⟨hxm, hid⟩ := Run.find_key (fun x : Writer => x.id) hf
    exact ⟨x, hxm, hid, hres⟩
  | nbwConsume h len wid x hobj hf hres hlen hslot =>
    obtain ⟨hxm, hid⟩ := Run.find_key (fun x : Writer => x.id) hf
    obtain ⟨wb, hq, hroom⟩ := U.resv (h, wid) (look_some (obj_some hobj).2) x hxm hid hres
    exact ⟨x, hxm, hid, ⟨hres, wb, hq, Nat.le_trans hlen hroom⟩,
      fun hcur => fdOk_of_slot s.w _ true (hslot hcur) (U.fds.2 x hxm)⟩
  | nbwWrite h len wid x _ hf hres hslot =>
    obtain ⟨hxm, hid⟩ := Run.find_key (fun x : Writer => x.id) hf
    exact ⟨x, hxm, hid, hres, fun hcur => fdOk_of_slot s.w _ true (hslot hcur) (U.fds.2 x hxm)⟩
  | rel k h c => rw [relCall_isRelease] at hr; cases hr

theorem call_noFalseFail (s : S) (op : UOp) (U : UInv s) (wf : WF s op) (c0 : LOp) (hc : callOf s op = some c0)
    (hr : isRelease c0 = false) : NoFalseFail s.w c0 :=
  ready'_noFalseFail _ _ U.inv (call_ready' s op U wf c0 hc hr)

theorem vis_of_obj {s : S} (H : HInv s) {k : K} {h c : Nat} (ho : obj (tab s k) h = some c) : Vis (tables s.w) k c :=
  (H.vis k c).1 (List.mem_map.2 ⟨(h, c), look_some (obj_some ho).2, rfl⟩)

theorem relTab_eq (s : S) (k : RelKind) : relTab s k = tab s (kOf k) := by cases k <;> rfl

theorem rel_present (s : S) (op : UOp) (U : UInv s) (c0 : LOp) (hc : callOf s op = some c0)
    (hr : isRelease c0 = true) : (∃ r, c0 = .nbrFree r) ∨ Present s.w c0 := by
  obtain ⟨k, h, c, rfl, ho, rfl⟩ := callOf_isRelease s op c0 hc hr
  by_cases hk : k = .nbrFree
  · subst hk; exact Or.inl ⟨c, rfl⟩
  · exact Or.inr (present_of_vis s.w k c (vis_of_obj U.tabs (relTab_eq s k ▸ ho)) hk)

theorem acc_step (s : S) (op : UOp) (U : UInv s) (wf : WF s op) :
    (monStep () (kindOf op) (stepOp s op).2.ans).2 = none := by
  refine stepOp_elim (motive := fun r => (monStep () (kindOf op) r.2.ans).2 = none) s op
    (fun hk f => by rw [hk]; rfl) (fun he left => ?_) (fun hk _ => by rw [hk]; exact mon_skip)
    (fun c hc hrc => ?_) (fun c hc hnc => ?_)
  · subst he
    exact mon_end _ _ _ (uinv_end U).1
  · rw [kindOf_of_callOf hc]
    cases hr : isRelease c with
    | false => exact absurd hrc (call_noFalseFail s op U wf c hc hr).1
    | true =>
      obtain ⟨k, hh, x, rfl, _, rfl⟩ := callOf_isRelease s op c hc hr
      rcases rel_present s _ U _ hc hr with ⟨r, hr'⟩ | hp
      · cases k <;> first | exact mon_skip | cases hr'
      · rw [(stepR_release_ok s.w _ U.inv hp).1] at hrc; cases hrc
  · rw [kindOf_of_callOf hc]
    cases hrc' : (stepR s.w c).1 with
    | contract => exact absurd hrc' hnc
    | ok => exact mon_line_ok _ _
    | fail =>
      cases hr : isRelease c with
      | false => exact mon_line_fail _ _ ((call_noFalseFail s op U wf c hc hr).2 hrc')
      | true => exact absurd hrc' (Top.release_not_fail s.w c U.inv hr)

/-- the bound on the outstanding connects after a line: `end` releases everything, a connect line may add one -/
def budget (n : Nat) (op : UOp) : Nat :=
  match op with
  | .end_ => 0
  | op => if isConn op then n + 1 else n

theorem budget_call {op : UOp} (n : Nat) (hk : kindOf op = .call) : budget n op = if isConn op then n + 1 else n := by
  cases op <;> first | rfl | cases hk

theorem uinv_step (s : S) (op : UOp) (U : UInv s) :
    UInv (stepOp s op).1 ∧ ∀ n, CInv (tables s.w) n → CInv (tables (stepOp s op).1.w) (budget n op) := by
  refine stepOp_elim (motive := fun r => UInv r.1 ∧ ∀ n, CInv (tables s.w) n → CInv (tables r.1.w) (budget n op)) s op
    (fun hk f => ⟨uinv_setF U f, fun n C => ?_⟩) (fun he left => ⟨(uinv_end U).2, fun n _ => ?_⟩)
    (fun hk _ => ⟨U, fun n C => ?_⟩) (fun c hc _ => ⟨U, fun n C => ?_⟩) (fun c hc hnc => ?_)
  · rw [show budget n op = n by cases op <;> first | rfl | cases hk]; exact C
  · subst he
    exact ⟨Nat.le_refl _, fun _ h => (nomatch h), fun _ h => (nomatch h)⟩
  · exact cinv_mono C (by rw [budget_call n hk]; split <;> omega)
  · exact cinv_mono C (by rw [budget_call n (kindOf_of_callOf hc)]; split <;> omega)
  · obtain ⟨hU, hC⟩ := uinv_call U hc hnc
    refine ⟨hU, fun n C => cinv_mono (hC n C) ?_⟩
    rw [budget_call n (kindOf_of_callOf hc)]
    by_cases h0 : connCost c = 0
    · rw [h0]; split <;> omega
    · rw [(callOf_conn hc h0).1]
      have : connCost c ≤ 1 := by cases c <;> simp [connCost]
      simp only [if_true]; omega

theorem up_step_sound (s : S) (op : UOp) (h : UInv s) (wf : WF s op) :
    (monStep () (kindOf op) (stepOp s op).2.ans).2 = none ∧ UInv (stepOp s op).1 :=
  ⟨acc_step s op h wf, (uinv_step s op h).1⟩

def WFRun : S → List UOp → Prop
  | _, [] => True
  | s, op :: rest => WF s op ∧ WFRun (stepOp s op).1 rest

theorem up_run_sound (s : S) (ops : List UOp) (h : UInv s) (wf : WFRun s ops) :
    ∀ p ∈ (runOps s ops).zip ops, (monStep () (kindOf p.2) p.1.2.ans).2 = none := by
  induction ops generalizing s with
  | nil => intro p hp; simp [runOps] at hp
  | cons op rest ih =>
    obtain ⟨hacc, hU⟩ := up_step_sound s op h wf.1
    intro p hp
    simp only [runOps, List.zip_cons_cons, List.mem_cons] at hp
    rcases hp with rfl | hp
    · exact hacc
    · exact ih _ hU wf.2 p hp

example : UInv ({} : S) := uinv_init

/-- under the schedule `failat 3`, `start read 0 0` (network_read on slot 0) fails at its third request:
the model prints `fail rf=1`, which the monitor accepts -/
example : (stepOp (stepOp {} (.failat 3)).1 (.start .read 0 0)).2.ans = { head := .fail, ntoks := 2, rf := some 1 } := by
  decide
example : (monStep () .call (stepOp (stepOp {} (.failat 3)).1 (.start .read 0 0)).2.ans).2 = none := by decide
/-- without a schedule the same line answers `ok rf=0` and the handle is booked -/
example : (stepOp {} (.start .read 0 0)).2.ans = { head := .ok, ntoks := 2, rf := some 0 } ∧
    (stepOp {} (.start .read 0 0)).1.rd = [(0, 0)] := by decide
/-- releasing it, then `end`: `end live=0` -/
example : (stepOp (stepOp (stepOp {} (.start .read 0 0)).1 (.rel .nrCancel 0)).1 .end_).2.ans =
    { head := .end_, ntoks := 3, live := some 0, leaked := some 0 } := by decide +kernel

/-- `WF` holds for the lines of a concrete run: a read on slot 0, a connect, `end` -/
example : WF {} (.start .read 0 0) :=
  ⟨fun a tm l fd h => (by rcases h with h | h | ⟨hl, h⟩ <;> cases h)⟩

example : WF {} (.ncStart 0 [.success] none) := by
  refine ⟨fun a tm l fd h => ?_⟩
  refine ⟨fun _ => ⟨?_, ?_⟩, by decide⟩
  · rintro ⟨id, hm⟩
    rcases h with h | h | ⟨hl, h⟩ <;> cases h
    simp [Percival.Proofs.EvRegNet.regNet, EvReg.registry, EvReg.netOf] at hm
  · rcases h with h | h | ⟨hl, h⟩ <;> cases h
    decide

example : ReleaseCovers (stepOp {} (.start .read 0 0)).1 :=
  releaseCovers _ (up_step_sound {} (.start .read 0 0) uinv_init
    ⟨fun a tm l fd h => (by rcases h with h | h | ⟨hl, h⟩ <;> cases h)⟩).2.inv
    (up_step_sound {} (.start .read 0 0) uinv_init
    ⟨fun a tm l fd h => (by rcases h with h | h | ⟨hl, h⟩ <;> cases h)⟩).2.tabs

/-- pigeonhole: among `b, …, b + n` one number is not in a list of length `n` -/
theorem exists_not_mem (n : Nat) : ∀ (l : List Nat), l.length = n → ∀ b, ∃ i, i ≤ n ∧ b + i ∉ l := by
  induction n with
  | zero =>
    intro l hl b
    exact ⟨0, Nat.le_refl _, by rw [List.length_eq_zero_iff.1 hl]; simp⟩
  | succ n ih =>
    intro l hl b
    by_cases hm : b + (n + 1) ∈ l
    · obtain ⟨i, hi, hni⟩ := ih (l.erase (b + (n + 1))) (by rw [List.length_erase_of_mem hm, hl]; rfl) b
      exact ⟨i, by omega, fun h => hni ((List.mem_erase_of_ne (by omega)).2 h)⟩
    · exact ⟨n + 1, Nat.le_refl _, hm⟩

theorem freshFd_spec (w : World) :
    3 ≤ freshFd w ∧ freshFd w ≤ w.conns.length + 3 ∧ ∀ k ∈ w.conns, k.sock ≠ some (freshFd w) := by
  have hlen : (w.conns.filterMap (·.sock)).length ≤ w.conns.length := List.length_filterMap_le _ _
  unfold freshFd
  simp only
  cases hf : (List.range ((w.conns.filterMap (·.sock)).length + 1)).find?
      (fun i => !(w.conns.filterMap (·.sock)).contains (i + 3)) with
  | none =>
    exfalso
    obtain ⟨i, hi, hni⟩ := exists_not_mem _ (w.conns.filterMap (·.sock)) rfl 3
    have := List.find?_eq_none.1 hf i (List.mem_range.2 (by omega))
    simp only [Bool.not_eq_false, List.contains_iff_mem, Bool.not_eq_eq_eq_not, Bool.not_true] at this
    exact hni (by rw [Nat.add_comm]; simpa using this)
  | some i =>
    have h1 := List.find?_some hf
    have h2 := List.mem_range.1 (List.mem_of_find?_eq_some hf)
    simp only [Bool.not_eq_true', List.contains_eq_mem, decide_eq_false_iff_not] at h1
    show 3 ≤ i + 3 ∧ i + 3 ≤ w.conns.length + 3 ∧ ∀ k ∈ w.conns, k.sock ≠ some (i + 3)
    refine ⟨by omega, by omega, fun k hk he => h1 ?_⟩
    exact List.mem_filterMap.2 ⟨k, hk, he⟩

theorem connect_ready (w : World) (n : Nat) (hI : Inv w) (C : CInv (tables w) n) (hn : n ≤ 60) :
    fdOk w (freshFd w) true ∧ w.ev.timers.length < 2^32 := by
  obtain ⟨h3, hle, hsock⟩ := freshFd_spec w
  have hc : w.conns.length ≤ n := C.conns
  refine ⟨⟨?_, ?_⟩, ?_⟩
  · rintro ⟨id, hm⟩
    have hm' := (hI.regNet.mem_iff).1 hm
    simp only [expNet, tables, List.mem_append, List.mem_map, List.mem_filterMap, Prod.mk.injEq, Option.map_eq_some_iff,
      Bool.false_eq_true, false_and, and_false, exists_false, false_or, or_false] at hm'
    rcases hm' with ⟨r, hr, hfd, _⟩ | ⟨k, hk, s, hs, hfd, _⟩
    · have := C.writes r hr
      omega
    · exact hsock k hk (hfd ▸ hs)
  · have : EArray.SIZE_MAX = 2^64 - 1 := rfl
    rw [this]; omega
  · have h1 : w.ev.timers.length = (regTimers w.ev).length := Top.timers_length w.ev
    have h2 := hI.regTm.length_eq
    have h3 : (expTimers (tables w)).length ≤ w.conns.length := by
      simp only [expTimers, tables, List.length_map]
      exact List.length_filter_le _ _
    omega

theorem wf_of_cinv (s : S) (op : UOp) (n : Nat) (U : UInv s) (C : CInv (tables s.w) n)
    (hn : isConn op = true → n ≤ 60) : WF s op := by
  refine ⟨fun a tm l fd h => ?_⟩
  obtain ⟨c0, hc, h0, h⟩ : ∃ c0, callOf s op = some c0 ∧ connCost c0 ≠ 0 ∧
      (c0 = .connect a tm fd ∨ c0 = .http a l fd ∨ ∃ hl, c0 = .https a l fd hl) := by
    rcases h with h | h | ⟨hl, h⟩
    · exact ⟨_, h, nofun, .inl rfl⟩
    · exact ⟨_, h, nofun, .inr (.inl rfl)⟩
    · exact ⟨_, h, nofun, .inr (.inr ⟨hl, rfl⟩)⟩
  obtain ⟨hconn, hfd⟩ := callOf_conn hc h0
  cases hfd a tm l fd h
  obtain ⟨h1, h2⟩ := connect_ready s.w n U.inv C (hn hconn)
  exact ⟨fun _ => h1, h2⟩

/-- `okFrom n ops`: starting with at most `n` connects outstanding, no connect line of `ops` is reached with more
than 60 of them counted (`end` resets the count) -/
def okFrom : Nat → List UOp → Bool
  | _, [] => true
  | n, op :: rest => (!isConn op || decide (n ≤ 60)) && okFrom (budget n op) rest

/-- **well-formedness of a case, decidable on the op list**: at most 61 `nc_start` / `hq_start` / `hqs_start` lines between two
`end`s.  (The generator of `tools/props/c14.py` makes at most 30 rounds per case with at most two such lines each;
nothing else is assumed — handles, slots, lengths, patterns and timeouts are arbitrary.) -/
def OpsOk (ops : List UOp) : Prop := okFrom 0 ops = true

instance (ops : List UOp) : Decidable (OpsOk ops) := inferInstanceAs (Decidable (_ = true))

theorem okFrom_of_count (n : Nat) (ops : List UOp) (h : n + ops.countP isConn ≤ 61) : okFrom n ops = true := by
  induction ops generalizing n with
  | nil => rfl
  | cons op rest ih =>
    rw [List.countP_cons] at h
    simp only [okFrom, Bool.and_eq_true, Bool.or_eq_true, Bool.not_eq_true', decide_eq_true_eq]
    cases hc : isConn op with
    | true =>
      rw [hc] at h
      simp only [if_true] at h
      refine ⟨Or.inr (by omega), ih _ ?_⟩
      have : budget n op = n + 1 := by cases op <;> first | rfl | cases hc
      omega
    | false =>
      rw [hc] at h
      refine ⟨Or.inl rfl, ih _ ?_⟩
      have : budget n op ≤ n := by
        cases op <;> first | exact Nat.zero_le _ | exact Nat.le_refl _ | cases hc
      simp only [Bool.false_eq_true, if_false] at h
      omega

theorem opsOk_of_count (ops : List UOp) (h : ops.countP isConn ≤ 61) : OpsOk ops :=
  okFrom_of_count 0 ops (by omega)

structure UInvC (s : S) (n : Nat) : Prop where
  u : UInv s
  c : CInv (tables s.w) n

theorem uinvC_init : UInvC ({} : S) 0 :=
  ⟨uinv_init, Nat.le_refl _, fun r hr => (by cases hr), fun x hx => (by cases hx)⟩

theorem up_step_sound_full (s : S) (op : UOp) (n : Nat) (h : UInvC s n) (hn : isConn op = true → n ≤ 60) :
    (monStep () (kindOf op) (stepOp s op).2.ans).2 = none ∧ UInvC (stepOp s op).1 (budget n op) :=
  ⟨acc_step s op h.u (wf_of_cinv s op n h.u h.c hn), (uinv_step s op h.u).1, (uinv_step s op h.u).2 n h.c⟩

theorem wfRun_of_ok (s : S) (ops : List UOp) (n : Nat) (h : UInvC s n) (hok : okFrom n ops = true) : WFRun s ops := by
  induction ops generalizing s n with
  | nil => trivial
  | cons op rest ih =>
    simp only [okFrom, Bool.and_eq_true, Bool.or_eq_true, Bool.not_eq_true', decide_eq_true_eq] at hok
    have hn : isConn op = true → n ≤ 60 := fun hc => by
      rcases hok.1 with h0 | h0
      · rw [hc] at h0; cases h0
      · exact h0
    exact ⟨wf_of_cinv s op n h.u h.c hn, ih _ _ (up_step_sound_full s op n h hn).2 hok.2⟩

theorem up_run_sound_full (ops : List UOp) (hok : OpsOk ops) :
    ∀ p ∈ (runOps {} ops).zip ops, (monStep () (kindOf p.2) p.1.2.ans).2 = none :=
  up_run_sound {} ops uinv_init (wfRun_of_ok {} ops 0 uinvC_init hok)

end Percival.Proofs.UpMonSound
