import Percival.Proofs.EArrayStep
import Percival.Proofs.Heap
import Percival.Proofs.MPool
import Percival.Proofs.HeapCreate
import Percival.Model.EvReg
import Percival.Proofs.MemCalls
/-!
# What the calls below the event layer do to the allocator (C14)

Each function of `ptrheap.c` and `timerqueue.c` that the event layer uses gets one lemma
`X_calls`: its `d` is the change of the blocks its own structure holds (`bb`, `poolBlocks`, `tqBlocks`), plus what it
hands to the caller; next to it stands when a request was refused.  None of them needs an invariant of the structure.
The heap's array grows and shrinks by one pointer at a time: `append_one`, `shrink_one` say that once, with what it means
for the storage invariant `HInv`.
Those of `elasticarray.c` are in `Proofs/EArray.lean` and `Proofs/EArrayStep.lean` (`resizeRec_acct`, `append_acct`,
`shrink_acct`, `init_calls`, `free_calls`), those of `mpool.h` in `Proofs/MPool.lean` (`malloc_calls`, `free_calls`,
`atexit_calls`).
-/
namespace Percival.Proofs.EvRegAcct
open Percival.Model

/-- a buffer of `alloc` bytes is a block iff `alloc ≠ 0` -/
def bb (alloc : Nat) : Int := if alloc = 0 then 0 else 1

/-- a pool holds its cached objects and, once grown, its stack array -/
def poolBlocks (p : MPool.MP) : Int := p.stack.length + (if p.dyn then 1 else 0)

/-- the timer queue: `struct timerqueue`, `struct ptrheap`, `struct elasticarray` and the array's buffer
(the per-timer records are counted with the timers) -/
def tqBlocks : Option HeapAlloc.TQA → Int
  | none => 0
  | some t => 3 + bb t.alloc

end Percival.Proofs.EvRegAcct

namespace Percival.Proofs.AllocFail
open Percival.Model Percival.Proofs.EArray

/-- the heap's storage invariant: the elastic array holds the `8 * nelems` bytes -/
def HInv (ha : HeapAlloc.HeapA) : Prop := 8 * ha.h.a.size ≤ ha.alloc ∧ ha.alloc < EArray.SZ

theorem shape_inv {n alloc : Nat} (h1 : 8 * n ≤ alloc) (h2 : alloc < EArray.SZ) : Inv (HeapAlloc.shape n alloc) :=
  ⟨h1, by simp [HeapAlloc.shape], h2⟩

theorem heap_add_size (key : Nat → Int) (h : Heap.Heap) (e : Nat) : (Heap.add key h e).a.size = h.a.size + 1 := by
  simp only [Heap.add, Heap.note]
  rw [Percival.Proofs.Heap.siftUp_size]; simp

end Percival.Proofs.AllocFail

namespace Percival.Proofs.AllocCalls
open Percival.Model
open Percival.Proofs.EvRegTimer (Step step_malloc step_realloc step_free)
open Percival.Proofs.EvRegAcct (bb poolBlocks tqBlocks malloc_live realloc_live free_live)
open Percival.Proofs.EArray (malloc_ok malloc_fail realloc_ok realloc_fail free_facts pair_eta)
open Percival.Proofs.AllocFail (HInv shape_inv heap_add_size)
open Percival.Proofs.MemCalls

/-- the array lemmas count a buffer with `bufBlocks` -/
theorem bufBlocks_eq (a : EArray.EA) : Percival.Proofs.EArray.bufBlocks a = bb a.alloc := rfl

/-- `ptrlist_shrink(H->elems, 1)`, which cannot fail: the count follows the buffer, and the buffer of a heap that
satisfied the storage invariant holds a heap with one element less -/
theorem shrink_one (ha : HeapAlloc.HeapA) (m : Mem) :
    ∀ a' m', EArray.shrink (HeapAlloc.shape ha.h.a.size ha.alloc) 1 SeqMap.ptrLen m = (a', m') →
    Calls m m' (bb a'.alloc - bb ha.alloc) ∧
    (HInv ha → ∀ h' : Heap.Heap, h'.a.size + 1 = ha.h.a.size → HInv { h := h', alloc := a'.alloc }) := by
  intro a' m' h
  have c := (Percival.Proofs.EArray.shrink_acct (HeapAlloc.shape ha.h.a.size ha.alloc) 1 SeqMap.ptrLen m).calls
  have hs := Percival.Proofs.EArray.shrink_spec (HeapAlloc.shape ha.h.a.size ha.alloc) 1 SeqMap.ptrLen m
  rw [h] at c hs
  dsimp only at c hs
  refine ⟨c, fun hh h' hsz => ?_⟩
  obtain ⟨hinv, hsize, _⟩ := hs (shape_inv hh.1 hh.2)
  have := hinv.le
  simp only [HeapAlloc.shape, SeqMap.ptrLen, Nat.one_mul] at hsize
  exact ⟨show 8 * h'.a.size ≤ a'.alloc by omega, hinv.lt⟩

/-- `ptrlist_append(H->elems, &ptr, 1)`: the count follows the buffer and success had no refusal.  For a heap that
satisfied the storage invariant: on success the buffer holds a heap with one element more; otherwise the buffer is as it
was, and a request was refused when the bytes of the larger heap fit `size_t` -/
theorem append_one (ha : HeapAlloc.HeapA) (e : Nat) (m : Mem) :
    ∀ st a' m', EArray.append (HeapAlloc.shape ha.h.a.size ha.alloc) (SeqMap.encPtr e) 1 SeqMap.ptrLen m = (st, a', m') →
    Calls m m' (bb a'.alloc - bb ha.alloc) ∧ (st = .ok → m'.refusals = m.refusals) ∧
    (HInv ha →
      (st = .ok → ∀ h' : Heap.Heap, h'.a.size = ha.h.a.size + 1 → HInv { h := h', alloc := a'.alloc }) ∧
      (st ≠ .ok → a'.alloc = ha.alloc ∧ (8 * (ha.h.a.size + 1) ≤ EArray.SIZE_MAX → m'.refusals = m.refusals + 1))) := by
  intro st a' m' h
  obtain ⟨⟨c, _⟩, hok, _⟩ := Percival.Proofs.EArray.append_acct (HeapAlloc.shape ha.h.a.size ha.alloc)
    (SeqMap.encPtr e) 1 SeqMap.ptrLen m
  have hs := fun hi => Percival.Proofs.EArray.append_spec (HeapAlloc.shape ha.h.a.size ha.alloc)
    (SeqMap.encPtr e) 1 SeqMap.ptrLen m hi (by intro _; simp [SeqMap.ptrLen, SeqMap.encPtr])
  rw [h] at c hok hs
  dsimp only at c hok hs
  refine ⟨c, hok, fun hh => ?_⟩
  obtain ⟨hinv, hno, hk, hf, _⟩ := hs (shape_inv hh.1 hh.2)
  refine ⟨fun hst h' hsz => ?_, fun hst => ?_⟩
  · have := hinv.le
    have hsize := (hk hst).2.1
    simp only [HeapAlloc.shape, SeqMap.ptrLen, Nat.one_mul] at hsize
    exact ⟨show 8 * h'.a.size ≤ a'.alloc by omega, hinv.lt⟩
  · cases st
    · exact absurd rfl hst
    · obtain ⟨ha', hrf⟩ := hf rfl
      refine ⟨by rw [show a' = _ from ha']; rfl, fun hsm => ?_⟩
      rcases hrf with h1 | ⟨_, h2⟩
      · exact h1
      · simp only [HeapAlloc.shape, SeqMap.ptrLen, Nat.one_mul] at h2; omega
    · exact absurd rfl hno

/-- the pool lemmas (`Proofs/MPool.lean`: `malloc_calls`, `free_calls`, `atexit_calls`) count with `cached` -/
theorem cached_eq (p : MPool.MP) : Percival.Proofs.MPool.cached p = poolBlocks p := rfl

theorem mpFree_calls (p : MPool.MP) (obj : Nat) (m : Mem) :
    Calls m (MPool.free p obj m).2 (poolBlocks (MPool.free p obj m).1 - poolBlocks p - 1) :=
  Percival.Proofs.MPool.free_calls p obj m

/-- `ptrheap_create`: the structure, the list structure and the list's buffer, without a refusal, holding C13's
`Heap.create` in a buffer that is large enough; or nothing, and a request was refused (or `8 * N` does not fit `size_t`) -/
theorem create_calls (key : Nat → Int) (ptrs : List Nat) (m : Mem) :
    match HeapAlloc.create key ptrs m with
    | (some ha, m') => Calls m m' (2 + bb ha.alloc) ∧ ha.h = Heap.create key ptrs ∧ HInv ha ∧
        8 * ptrs.length ≤ EArray.SIZE_MAX ∧ m'.refusals = m.refusals
    | (none, m') => Calls m m' 0 ∧ (m.refusals < m'.refusals ∨ 8 * ptrs.length > EArray.SIZE_MAX) := by
  unfold HeapAlloc.create
  have c1 := calls_malloc m HeapAlloc.structSize
  cases hr : (m.malloc HeapAlloc.structSize).1 <;> rw [hr] at c1 <;> rw [pair_eta _ hr] <;> dsimp only
  · exact ⟨c1, Or.inl (by rw [(malloc_fail hr).1]; exact Nat.lt_succ_self _)⟩
  · have c2 := Percival.Proofs.EArray.init_full ptrs.length SeqMap.ptrLen (m.malloc HeapAlloc.structSize).2
    generalize EArray.init ptrs.length SeqMap.ptrLen (m.malloc HeapAlloc.structSize).2 = R at c2
    simp only [bufBlocks_eq] at c2
    have hm := (malloc_ok hr).1
    have hv : SeqMap.ptrLen.val = 8 := rfl
    obtain ⟨_ | a, m2⟩ := R <;> dsimp only at c2 ⊢
    · refine ⟨((c1.trans c2.1).trans (calls_free m2 false)).cast (by simp), ?_⟩
      rw [(free_facts _ _).1]
      rcases c2.2 with h | h
      · exact Or.inl (by omega)
      · right
        rw [hv, Percival.Proofs.EArray.SIZE_MAX_eq] at h
        rw [Percival.Proofs.EArray.SIZE_MAX_eq]
        omega
    · obtain ⟨hinv, _, hsz, hle, c2, hrf, _⟩ := c2
      rw [hv] at hsz hle
      refine ⟨(c1.trans c2).cast (by simp <;> omega), rfl, ⟨?_, hinv.lt⟩, by omega, by rw [hrf, hm]⟩
      show 8 * (Heap.create key ptrs).a.size ≤ a.alloc
      have := (Percival.Proofs.Heap.create_perm key ptrs).length_eq
      have := hinv.le
      simp only [Array.length_toList] at *
      omega

/-- `ptrheap_init` is `ptrheap_create` of no element -/
theorem heapInit_calls (m : Mem) :
    match HeapAlloc.init m with
    | (some ha, m') => Calls m m' (2 + bb ha.alloc) ∧ ha.h = Heap.empty ∧ HInv ha ∧ m'.refusals = m.refusals
    | (none, m') => Calls m m' 0 ∧ m.refusals < m'.refusals := by
  have h := create_calls (fun _ => 0) [] m
  rw [show HeapAlloc.create (fun _ => 0) [] m = HeapAlloc.init m from rfl] at h
  split at h
  · exact ⟨h.1, h.2.1, h.2.2.1, h.2.2.2.2⟩
  · exact ⟨h.1, h.2.resolve_right (by simp)⟩

/-- `ptrheap_free`: the list's buffer, the list structure, the structure -/
theorem heapFree_calls (ha : HeapAlloc.HeapA) (m : Mem) : Calls m (HeapAlloc.free ha m) (-2 - bb ha.alloc) :=
  ((Percival.Proofs.EArray.free_calls _ m).trans (calls_free _ false)).cast (by simp [bufBlocks_eq, HeapAlloc.shape]; omega)

/-- `ptrheap_add`, whatever it answers: the array's buffer may appear -/
theorem heapAdd_calls (key : Nat → Int) (ha : HeapAlloc.HeapA) (e : Nat) (m : Mem) :
    Calls m (HeapAlloc.add key ha e m).2.2 (bb (HeapAlloc.add key ha e m).2.1.alloc - bb ha.alloc) := by
  unfold HeapAlloc.add
  rcases hR : EArray.append (HeapAlloc.shape ha.h.a.size ha.alloc) (SeqMap.encPtr e) 1 SeqMap.ptrLen m with ⟨st, a', m'⟩
  have c := (append_one ha e m st a' m' hR).1
  cases st <;> exact c

/-- `ptrheap_delete`: the array's buffer may go -/
theorem heapDelete_calls (key : Nat → Int) {ha ha' : HeapAlloc.HeapA} {rc : Nat} {m m' : Mem}
    (h : HeapAlloc.delete key ha rc m = some (ha', m')) : Calls m m' (bb ha'.alloc - bb ha.alloc) := by
  unfold HeapAlloc.delete at h
  split at h
  · cases h
  · rcases hR : EArray.shrink (HeapAlloc.shape ha.h.a.size ha.alloc) 1 SeqMap.ptrLen m with ⟨a', m1⟩
    have c := (shrink_one ha m a' m1 hR).1
    rw [hR] at h
    cases h
    exact c

theorem tqInit_calls (m : Mem) :
    match HeapAlloc.tqInit m with
    | (some t, m') => Calls m m' (tqBlocks (some t)) ∧ t.q = TimerQueue.empty ∧ HInv (HeapAlloc.heapOf t) ∧
        m'.refusals = m.refusals
    | (none, m') => Calls m m' 0 ∧ m.refusals < m'.refusals := by
  unfold HeapAlloc.tqInit
  have c1 := calls_malloc m HeapAlloc.tqStructSize
  cases hr : (m.malloc HeapAlloc.tqStructSize).1 <;> rw [hr] at c1 <;> rw [pair_eta _ hr] <;> dsimp only
  · exact ⟨c1, by rw [(malloc_fail hr).1]; exact Nat.lt_succ_self _⟩
  · have c2 := heapInit_calls (m.malloc HeapAlloc.tqStructSize).2
    generalize HeapAlloc.init (m.malloc HeapAlloc.tqStructSize).2 = R at c2
    have hm := (malloc_ok hr).1
    obtain ⟨_ | ha, m2⟩ := R <;> dsimp only at c2 ⊢
    · refine ⟨((c1.trans c2.1).trans (calls_free m2 false)).cast (by simp), ?_⟩
      rw [(free_facts _ _).1]; omega
    · obtain ⟨c, he, hh, hrf⟩ := c2
      exact ⟨(c1.trans c).cast (by simp [tqBlocks] <;> omega), by rw [he]; rfl, hh, by omega⟩

/-- `timerqueue_add`: the record if it succeeds, and the array's buffer may appear.  Success: the cookie is the index of
the record's request, the queue is C13's `add`, nothing was refused.  Failure: the queue's contents are as they were;
under the storage invariant so is its storage, and a request was refused when the heap's bytes fit `size_t`. -/
theorem tqAdd_calls (t : HeapAlloc.TQA) (sec usec : Int) (ptr : Nat) (m : Mem) :
    ∀ o t' m', HeapAlloc.tqAdd t sec usec ptr m = (o, t', m') →
    Calls m m' (bb t'.alloc - bb t.alloc + (if o.isSome then 1 else 0)) ∧
    (∀ r, o = some r → r = m.n ∧ m.n < m'.n ∧ t'.q = TimerQueue.add t.q r sec usec ptr ∧ m'.refusals = m.refusals ∧
      (HInv (HeapAlloc.heapOf t) → HInv (HeapAlloc.heapOf t'))) ∧
    (o = none → t'.q = t.q ∧ (HInv (HeapAlloc.heapOf t) → t' = t ∧
      (8 * (t.q.h.a.size + 1) ≤ EArray.SIZE_MAX → m'.refusals = m.refusals + 1))) := by
  intro o t' m' h
  unfold HeapAlloc.tqAdd at h
  have c1 := calls_malloc m HeapAlloc.tqRecSize
  cases hr : (m.malloc HeapAlloc.tqRecSize).1 <;> rw [hr] at c1 <;> rw [pair_eta _ hr] at h <;> dsimp only at h
  · cases h
    exact ⟨c1.cast (by simp), nofun, fun _ => ⟨rfl, fun _ => ⟨rfl, fun _ => (malloc_fail hr).1⟩⟩⟩
  · have hm := malloc_ok hr
    rcases hR : EArray.append (HeapAlloc.shape t.q.h.a.size t.alloc) (SeqMap.encPtr m.n) 1 SeqMap.ptrLen
      (m.malloc HeapAlloc.tqRecSize).2 with ⟨st, a', m2⟩
    obtain ⟨c2, hok, hinv⟩ := append_one (HeapAlloc.heapOf t) m.n _ st a' m2 hR
    rw [hR] at h
    by_cases hst : st = .ok
    · subst hst
      cases h
      refine ⟨(c1.trans c2).cast (by simp [HeapAlloc.heapOf]; omega), fun r hr' => ?_, nofun⟩
      cases hr'
      exact ⟨rfl, by have := c2.step.n; rw [hm.2.2.2] at this; omega, rfl, by rw [hok rfl, hm.1],
        fun hh => (hinv hh).1 rfl _ (by simp only [TimerQueue.add, heap_add_size]; rfl)⟩
    · have : (o, t', m') = (none, { t with alloc := a'.alloc }, m2.free false) := by
        cases st <;> first | exact absurd rfl hst | exact h.symm
      cases this
      refine ⟨((c1.trans c2).trans (calls_free m2 false)).cast (by simp [HeapAlloc.heapOf]; omega), nofun,
        fun _ => ⟨rfl, fun hh => ?_⟩⟩
      obtain ⟨ha', hrf⟩ := (hinv hh).2 hst
      refine ⟨by rw [show a'.alloc = t.alloc from ha'], fun hsm => ?_⟩
      rw [(free_facts _ _).1, hrf hsm, hm.1]

/-- `timerqueue_delete`: the record goes, the array's buffer may go; the record table is not touched -/
theorem tqDelete_calls {t t' : HeapAlloc.TQA} {r : Nat} {m m' : Mem} (h : HeapAlloc.tqDelete t r m = some (t', m')) :
    Calls m m' (bb t'.alloc - bb t.alloc - 1) ∧ t'.q.recs = t.q.recs := by
  unfold HeapAlloc.tqDelete at h
  split at h
  · cases h
  · rename_i q' hq
    rcases hR : EArray.shrink (HeapAlloc.shape t.q.h.a.size t.alloc) 1 SeqMap.ptrLen m with ⟨a', m1⟩
    have c := (shrink_one (HeapAlloc.heapOf t) m a' m1 hR).1
    rw [hR] at h
    cases h
    refine ⟨(c.trans (calls_free m1 false)).cast (by simp [HeapAlloc.heapOf]; omega), ?_⟩
    unfold TimerQueue.delete at hq
    cases h1 : Heap.posOf t.q.h r <;> simp only [h1, Option.bind_eq_bind, Option.bind] at hq
    · cases hq
    · split at hq
      · cases hq
      · cases hq; rfl

/-- `timerqueue_free` of a queue (its records are the timers') -/
theorem tqFree_live (t : HeapAlloc.TQA) (m : Mem) : (HeapAlloc.tqFree t m).live = m.live - tqBlocks (some t) := by
  simp only [HeapAlloc.tqFree, (heapFree_calls _ _).live, free_live, HeapAlloc.heapOf, tqBlocks]
  simp; omega

end Percival.Proofs.AllocCalls

namespace Percival.Proofs.EvRegTimer
open Percival.Model Percival.Model.EvReg Percival.Proofs.AllocCalls Percival.Proofs.MemCalls

theorem step_mkrec (e : Ev) (m : Mem) : Step m (mkrec e m).2.2 := (Percival.Proofs.MPool.malloc_calls _ _ _).1.step

end Percival.Proofs.EvRegTimer
