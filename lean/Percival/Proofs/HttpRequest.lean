import Percival.Model.HttpRequest
import Percival.Spec.HttpResp
/-! The request serialiser: the `stpcpy` sequence produces the wire format, and the length computed
    beforehand is exact (the C's sanity assertion holds). -/
namespace Percival.Proofs.HttpRequest
open Percival.Model.HttpRequest

theorem foldl_append_flatten {α : Type} (f : α → List UInt8) (l : List α) (s0 : List UInt8) :
    l.foldl (fun acc h => acc ++ f h) s0 = s0 ++ (l.map f).flatten := by
  induction l generalizing s0 with
  | nil => simp
  | cons a t ih => simp [List.foldl_cons, ih, List.append_assoc]

theorem foldl_add_sum {α : Type} (f : α → Nat) (l : List α) (n0 : Nat) :
    l.foldl (fun acc h => acc + f h) n0 = n0 + (l.map f).sum := by
  induction l generalizing n0 with
  | nil => simp
  | cons a t ih => simp [List.foldl_cons, ih, Nat.add_assoc]

theorem length_flatten_map {α : Type} (f : α → List UInt8) (l : List α) :
    ((l.map f).flatten).length = (l.map (fun a => (f a).length)).sum := by
  rw [List.length_flatten, List.map_map]; rfl

def toSpec (r : Request) : Percival.Spec.HttpResp.Request :=
  { method := r.method, path := r.path, headers := r.headers, body := r.body }

theorem buildHead_eq (r : Request) :
    buildHead r = r.method ++ sp ++ r.path ++ httpVer ++
      (r.headers.map (fun h => h.1 ++ colonSp ++ h.2 ++ crlf)).flatten ++ crlf := by
  simp only [buildHead]
  have := foldl_append_flatten (fun (h : Bytes × Bytes) => h.1 ++ colonSp ++ h.2 ++ crlf) r.headers
    (r.method ++ sp ++ r.path ++ httpVer)
  simp only [List.append_assoc] at this ⊢
  rw [this]
  simp only [List.append_assoc]

theorem headLen_exact (r : Request) : (buildHead r).length = headLen r := by
  rw [buildHead_eq]
  simp only [headLen]
  rw [foldl_add_sum (fun (h : Bytes × Bytes) => h.1.length + h.2.length + 4)]
  simp only [List.length_append, length_flatten_map]
  have : (r.headers.map (fun a => a.1.length + colonSp.length + a.2.length + crlf.length)) =
      r.headers.map (fun h => h.1.length + h.2.length + 4) := by
    apply List.map_congr_left
    intro a _
    simp [colonSp, crlf]; omega
  rw [this]
  simp [crlf]

theorem serializeRequest_eq (r : Request) :
    serializeRequest r = some (toSpec r).wire := by
  simp only [serializeRequest, headLen_exact, beq_self_eq_true, if_true]
  rw [buildHead_eq]
  simp [Percival.Spec.HttpResp.Request.wire, toSpec, sp, httpVer, crlf, colonSp,
    Percival.Spec.HttpResp.SP, Percival.Spec.HttpResp.spHttp11, Percival.Spec.HttpResp.crlf,
    Percival.Spec.HttpResp.CR, Percival.Spec.HttpResp.LF, Percival.Spec.HttpResp.COLON, List.append_assoc]

end Percival.Proofs.HttpRequest
