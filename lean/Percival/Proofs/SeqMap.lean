import Percival.Proofs.EQueue
import Percival.Model.SeqMap
import Percival.Proofs.Endian
/-!
# The sequential-pointer-map model refines the ideal map (C12, C14)

Pointers as 8 bytes, `liveFrom` (the live numbers of a record list), the invariant `MInv`, one `*_spec` per C
function, then `mstep_ok` and `run_ok`.
-/
namespace Percival.Proofs.SeqMap
open Percival.Model Percival.Model.EArray Percival.Model.EQueue Percival.Model.SeqMap Percival.Spec.DS
open Percival.Proofs.EArray Percival.Proofs.EQueue
open Percival.Proofs.MemCalls (Calls calls_malloc calls_free)

/-! ### The oracle's side of the map's functions (no invariant needed) -/

theorem add_acct (x : SM) (p : Nat) (m : Mem) :
    Acct x.q.ea m (SeqMap.add x p m).2.1.q.ea (SeqMap.add x p m).2.2 := by
  have hf := EQueue.add_acct x.q (SeqMap.encPtr p) m
  unfold SeqMap.add
  rcases hres : EQueue.add x.q (SeqMap.encPtr p) m with ⟨st, q', m'⟩
  rw [hres] at hf
  cases st
  · simp only; split <;> exact hf
  · exact hf
  · exact hf

theorem trimLoop_acct : ∀ (fuel : Nat) (x : SM) (m : Mem),
    Acct x.q.ea m (SeqMap.trimLoop fuel x m).2.1.q.ea (SeqMap.trimLoop fuel x m).2.2 := by
  intro fuel
  induction fuel with
  | zero =>
    intro x m
    unfold SeqMap.trimLoop
    split
    · exact .refl _ _
    · split
      · exact .refl _ _
      · split <;> exact .refl _ _
  | succ fuel ih =>
    intro x m
    unfold SeqMap.trimLoop
    split
    · exact .refl _ _
    · split
      · exact .refl _ _
      · split
        · exact .refl _ _
        · simp only
          have hf := EQueue.delete_acct x.q m
          rcases hres : EQueue.delete x.q m with ⟨st, q', m'⟩
          rw [hres] at hf
          cases st
          · exact hf.trans (ih { q := q', offset := x.offset + 1, len := x.len - 1 } m')
          · exact hf
          · exact hf

theorem delete_acct (x : SM) (i : Int) (m : Mem) :
    Acct x.q.ea m (SeqMap.delete x i m).2.1.q.ea (SeqMap.delete x i m).2.2 := by
  unfold SeqMap.delete
  split
  · exact .refl _ _
  · split
    · exact .refl _ _
    · split
      · exact .refl _ _
      · rename_i q hq
        exact ((Acct.refl x.q.ea m).data (EQueue.set_alloc hq)).trans (trimLoop_acct (x.len + 1) { x with q := q } m)

theorem step_acct (x : SM) (e : SmOp) (m : Mem) :
    Acct x.q.ea m (SeqMap.step x e m).2.1.q.ea (SeqMap.step x e m).2.2 := by
  cases e with
  | add p =>
    have hf := add_acct x p m
    simp only [SeqMap.step]
    rcases hres : SeqMap.add x p m with ⟨r, x', m'⟩
    rw [hres] at hf
    cases r <;> exact hf
  | get i => simp only [SeqMap.step]; split <;> exact .refl _ _
  | delete i => exact delete_acct x i m
  | getmin => exact .refl _ _

theorem free_calls (s : SM) (m : Mem) : Calls m (SeqMap.free s m) (-3 - bufBlocks s.q.ea) :=
  ((EQueue.free_calls s.q m).trans (calls_free _ false)).cast (by simp; omega)

theorem encPtr_length (p : Nat) : (encPtr p).length = 8 := rfl

/-- a pointer is stored as the eight little-endian octets of `Spec.Endian` and read back as their value -/
theorem encPtr_eq (p : Nat) : encPtr p = Spec.Endian.leBytes 8 p := by
  simp [encPtr, Spec.Endian.leBytes, Nat.div_div_eq_div_mul]

theorem decPtr_eq {b : List UInt8} (h : b.length = 8) : decPtr b = some (Spec.Endian.leVal b) := by
  match b, h with
  | [_, _, _, _, _, _, _, _], _ => simp only [decPtr, Spec.Endian.leVal]; congr 1; omega

theorem decPtr_encPtr (p : Nat) (hp : p < 2^64) : decPtr (encPtr p) = some p := by
  rw [encPtr_eq, decPtr_eq (Endian.leBytes_length 8 p), Endian.leVal_leBytes 8 p hp]

theorem decPtr_of_length {b : List UInt8} (h : b.length = 8) : ∃ p, decPtr b = some p := ⟨_, decPtr_eq h⟩

/-- pointer stored at position `k` of a record list (0 when absent) -/
def ptrAt (l : List (List UInt8)) (k : Nat) : Nat :=
  match l[k]? with
  | some b => match decPtr b with
    | some p => p
    | none => 0
  | none => 0

theorem liveFrom_num_ge : ∀ (l : List (List UInt8)) (base : Int) (e : Int × Nat), e ∈ liveFrom base l →
    base ≤ e.1 ∧ e.1 < base + l.length
  | [], _, _, h => by simp [liveFrom] at h
  | b :: rest, base, e, h => by
    simp only [liveFrom] at h
    have ih := liveFrom_num_ge rest (base + 1) e
    simp only [List.length_cons, Int.natCast_add, Int.natCast_one]
    split at h
    · split at h
      · have := ih h; omega
      · rcases List.mem_cons.1 h with h1 | h1
        · subst h1; simp; omega
        · have := ih h1; omega
    · have := ih h; omega

theorem lookup_liveFrom : ∀ (l : List (List UInt8)) (base i : Int),
    smLookup (liveFrom base l) i = if base ≤ i then ptrAt l (i - base).toNat else 0
  | [], base, i => by simp [liveFrom, smLookup, ptrAt]
  | b :: rest, base, i => by
    have ih := lookup_liveFrom rest (base + 1) i
    simp only [liveFrom]
    by_cases hbi : base = i
    · subst hbi
      have hz : smLookup (liveFrom (base + 1) rest) base = 0 := by rw [ih, if_neg (by omega)]
      simp only [Int.le_refl, if_true, Int.sub_self, Int.toNat_zero, ptrAt, List.getElem?_cons_zero]
      cases hd : decPtr b with
      | none => simpa using hz
      | some p =>
        by_cases hp : p = 0
        · simp only [hp, if_true]; simpa using hz
        · simp [hp, smLookup]
    · have hrest : (if base + 1 ≤ i then ptrAt rest (i - (base + 1)).toNat else 0)
          = if base ≤ i then ptrAt (b :: rest) (i - base).toNat else 0 := by
        by_cases hlt : base < i
        · rw [if_pos (by omega), if_pos (by omega)]
          have : (i - base).toNat = (i - (base + 1)).toNat + 1 := by omega
          rw [this]; simp [ptrAt]
        · rw [if_neg (by omega), if_neg (by omega)]
      cases hd : decPtr b with
      | none => simp only; rw [ih, hrest]
      | some p =>
        by_cases hp : p = 0
        · simp only [hp, if_true]; rw [ih, hrest]
        · simp only [hp, if_false]
          have : smLookup ((base, p) :: liveFrom (base + 1) rest) i = smLookup (liveFrom (base + 1) rest) i := by
            simp [smLookup, hbi]
          rw [this, ih, hrest]

theorem liveFrom_append : ∀ (l : List (List UInt8)) (base : Int) (b : List UInt8) (p : Nat),
    decPtr b = some p → p ≠ 0 → liveFrom base (l ++ [b]) = liveFrom base l ++ [(base + l.length, p)]
  | [], base, b, p, hd, hp => by simp [liveFrom, hd, hp]
  | c :: rest, base, b, p, hd, hp => by
    have ih := liveFrom_append rest (base + 1) b p hd hp
    have e : base + 1 + (rest.length : Int) = base + ((rest.length : Int) + 1) := by omega
    simp only [List.cons_append, liveFrom, ih, List.length_cons, Int.natCast_add, Int.natCast_one, e]
    split
    · split <;> simp
    · rfl

theorem liveFrom_set_null : ∀ (l : List (List UInt8)) (base : Int) (k : Nat) (z : List UInt8),
    decPtr z = some 0 → k < l.length →
    liveFrom base (l.set k z) = (liveFrom base l).filter (fun e => e.1 != base + k)
  | [], _, _, _, _, h => by simp at h
  | c :: rest, base, 0, z, hz, _ => by
    have hall : ∀ e ∈ liveFrom (base + 1) rest, (e.1 != base) = true := by
      intro e he; have := (liveFrom_num_ge rest (base + 1) e he).1; simp; omega
    simp only [List.set_cons_zero, liveFrom, hz, if_true, Int.natCast_zero, Int.add_zero]
    cases hd : decPtr c with
    | none => simp only; rw [List.filter_eq_self.2 hall]
    | some p =>
      by_cases hp : p = 0
      · simp only [hp, if_true]; rw [List.filter_eq_self.2 hall]
      · simp only [hp, if_false, List.filter_cons]; simp; rw [List.filter_eq_self.2 hall]
  | c :: rest, base, k+1, z, hz, hk => by
    have ih := liveFrom_set_null rest (base + 1) k z hz (by simpa using hk)
    have e : base + 1 + (k : Int) = base + ((k : Int) + 1) := by omega
    simp only [List.set_cons_succ, liveFrom, ih, Int.natCast_add, Int.natCast_one, e]
    cases hd : decPtr c with
    | none => rfl
    | some p =>
      by_cases hp : p = 0
      · simp only [hp, if_true]
      · simp only [hp, if_false, List.filter_cons]
        have : ((base, p).1 != base + ((k : Int) + 1)) = true := by simp; omega
        simp only [this, if_true]

theorem chunks_mem_length (r : Nat) : ∀ (n : Nat) (l : List UInt8), n * r ≤ l.length → ∀ b ∈ chunks r n l, b.length = r
  | 0, _, _, b, hb => by simp [chunks] at hb
  | n+1, l, hl, b, hb => by
    have hl' : n * r + r ≤ l.length := by rw [← Nat.succ_mul]; exact hl
    simp only [chunks, List.mem_cons] at hb
    rcases hb with rfl | hb
    · rw [List.length_take]; omega
    · exact chunks_mem_length r n (l.drop r) (by rw [List.length_drop]; omega) b hb

theorem abs_mem_length (q : EQ) (h : QInv q) : ∀ b ∈ EQueue.abs q, b.length = q.reclen.val := by
  apply chunks_mem_length
  rw [List.length_drop, contents_length h.ea, h.sz, Nat.add_mul]; omega

/-- invariant of `struct seqptrmap`, except for "the front entry is not NULL" -/
structure MInv0 (s : SM) : Prop where
  q : QInv s.q
  rl : s.q.reclen = ptrLen
  len : s.len = s.q.len
  off : 0 ≤ s.offset

/-- the front entry, if any, holds a non-NULL pointer (so `getmin` may return `offset`) -/
def FrontOk (s : SM) : Prop := ∀ b, (EQueue.abs s.q).head? = some b → decPtr b ≠ some 0

def MInv (s : SM) : Prop := MInv0 s ∧ FrontOk s

theorem abs_dec (s : SM) (h : MInv0 s) : ∀ b ∈ EQueue.abs s.q, ∃ p, decPtr b = some p := by
  intro b hb
  apply decPtr_of_length
  rw [abs_mem_length s.q h.q b hb, h.rl]; rfl

/-- `*(void **)elasticqueue_get(M->ptrs, pos)` for an existing position is the stored pointer -/
theorem deref_spec (s : SM) (pos : Nat) (h : MInv0 s) (hp : pos < s.len) :
    ∃ b, (EQueue.abs s.q)[pos]? = some b ∧ deref s pos = .ptr (ptrAt (EQueue.abs s.q) pos) := by
  obtain ⟨b, hb⟩ : ∃ b, (EQueue.abs s.q)[pos]? = some b :=
    ⟨_, List.getElem?_eq_getElem (by rw [EQueue.abs_length, ← h.len]; exact hp)⟩
  obtain ⟨p, hd⟩ := abs_dec s h _ (List.mem_of_getElem? hb)
  exact ⟨b, hb, by simp only [deref, get_eq s.q pos h.q, ptrAt, hb, hd]⟩

theorem get_lookup (s : SM) (i : Int) (h : MInv0 s) :
    SeqMap.get s i = .ptr (smLookup (SeqMap.abs s).live i) := by
  simp only [SeqMap.abs, lookup_liveFrom, SeqMap.get]
  by_cases h1 : i < s.offset
  · rw [if_pos h1, if_neg (show ¬ s.offset ≤ i by omega)]
  · rw [if_neg h1, if_pos (show s.offset ≤ i by omega)]
    by_cases h2 : (i - s.offset).toNat ≥ s.len
    · rw [if_pos h2]
      have : (EQueue.abs s.q)[(i - s.offset).toNat]? = none := by
        rw [List.getElem?_eq_none_iff, EQueue.abs_length, ← h.len]; exact h2
      simp [ptrAt, this]
    · rw [if_neg h2]
      obtain ⟨_, _, hd⟩ := deref_spec s (i - s.offset).toNat h (by omega)
      exact hd

theorem INT64_MAX_eq : INT64_MAX = 9223372036854775807 := by decide

theorem add_spec (s : SM) (p : Nat) (m : Mem) (h : MInv s) (hp0 : 0 < p) (hp : p < 2^64)
    (hq : (s.q.offset + s.q.len + 1) * 8 ≤ EArray.SIZE_MAX) (hn : s.offset + s.len + 1 ≤ INT64_MAX) :
    MInv (SeqMap.add s p m).2.1 ∧
    ((∃ i, (SeqMap.add s p m).1 = .num i ∧ i = s.offset + s.len ∧
        (SeqMap.abs (SeqMap.add s p m).2.1) =
          SmIdeal.mk ((SeqMap.abs s).live ++ [((SeqMap.abs s).next, p)]) ((SeqMap.abs s).next + 1) ∧
        (SeqMap.add s p m).2.1.offset = s.offset ∧ (SeqMap.add s p m).2.1.len = s.len + 1 ∧
        (SeqMap.add s p m).2.1.q.offset = s.q.offset ∧ (SeqMap.add s p m).2.1.q.len = s.q.len + 1) ∨
     ((SeqMap.add s p m).1 = .fail ∧ (SeqMap.add s p m).2.1 = s ∧ (SeqMap.add s p m).2.2.refusals = m.refusals + 1)) ∧
    (SeqMap.add s p m).2.2.live + bufBlocks s.q.ea = m.live + bufBlocks (SeqMap.add s p m).2.1.q.ea := by
  obtain ⟨h0, hfront⟩ := h
  have hrl : s.q.reclen.val = 8 := by rw [h0.rl]; rfl
  have hs := EQueue.add_spec s.q (encPtr p) m h0.q (by rw [hrl]; rfl)
    (by rw [h0.q.sz, hrl]; rw [Nat.succ_mul] at hq; exact hq)
  have hdec := decPtr_encPtr p hp
  unfold SeqMap.add
  rcases hres : EQueue.add s.q (encPtr p) m with ⟨st, q', m'⟩
  rw [hres] at hs
  obtain ⟨hinv', hno, ⟨hrl', hoff'⟩, hok, hfail, hlive⟩ := hs
  simp only at hinv' hno hrl' hoff' hok hfail hlive
  cases st
  · obtain ⟨habs, hlen, _⟩ := hok rfl
    have hnoassert : ¬ (((s.len + 1 : Nat) : Int) > INT64_MAX ∨ INT64_MAX - ((s.len + 1 : Nat) : Int) < s.offset) := by
      have := h0.off; omega
    simp only [hnoassert, if_false]
    refine ⟨⟨⟨hinv', by rw [hrl']; exact h0.rl, by simp [hlen, h0.len], h0.off⟩, ?_⟩, Or.inl ⟨_, rfl, by omega, ?_, by triv, by triv, hoff', hlen⟩, hlive⟩
    · intro b hb
      simp only at hb
      rw [habs] at hb
      cases hq0 : EQueue.abs s.q with
      | nil => rw [hq0] at hb; simp at hb; subst hb; rw [hdec]; simp; omega
      | cons c rest => rw [hq0] at hb; simp at hb; subst hb; exact hfront c (by rw [hq0]; rfl)
    · simp only [SeqMap.abs, habs]
      rw [liveFrom_append _ _ _ p hdec (by omega), EQueue.abs_length, h0.len]
      congr 1; simp; omega
  · obtain ⟨hq', hrf⟩ := hfail rfl
    subst hq'
    exact ⟨⟨h0, hfront⟩, Or.inr ⟨by triv, by triv, hrf⟩, hlive⟩
  · exact absurd rfl hno

theorem getmin_spec (s : SM) (h : MInv s) : smMinOk (SeqMap.abs s).live (getmin s) = true := by
  obtain ⟨h0, hfront⟩ := h
  simp only [getmin, getlen, SeqMap.abs]
  have hl := EQueue.abs_length s.q
  cases hq : EQueue.abs s.q with
  | nil =>
    have : s.q.len = 0 := by rw [← hl, hq]; rfl
    simp [this, liveFrom, smMinOk]
  | cons b rest =>
    have : s.q.len ≠ 0 := by rw [← hl, hq]; simp
    simp only [this, if_false]
    obtain ⟨p, hd⟩ := abs_dec s h0 b (by rw [hq]; exact List.mem_cons_self)
    have hp : p ≠ 0 := fun h' => hfront b (by rw [hq]; rfl) (by rw [hd, h'])
    simp only [liveFrom, hd, hp, if_false, smMinOk]
    simp
    intro a b' hm
    have := (liveFrom_num_ge rest (s.offset + 1) (a, b') hm).1
    simp at this; omega

theorem frontOk_of_len {s : SM} (h : s.q.len = 0) : FrontOk s := by
  intro b hb
  have : EQueue.abs s.q = [] := List.eq_nil_of_length_eq_zero (by rw [EQueue.abs_length, h])
  rw [this] at hb; cases hb

/-- the trim loop with more fuel than the queue has entries (`delete` gives it `len + 1`) never runs dry: it stops at
the first entry that is not NULL, or on the empty queue, and the map's abstraction is the same -/
theorem trimLoop_spec : ∀ (fuel : Nat) (s : SM) (m : Mem), MInv0 s → s.q.len < fuel →
    (trimLoop fuel s m).1 = .ok ∧ MInv (trimLoop fuel s m).2.1 ∧
    SeqMap.abs (trimLoop fuel s m).2.1 = SeqMap.abs s ∧
    (trimLoop fuel s m).2.1.q.offset + (trimLoop fuel s m).2.1.q.len ≤ s.q.offset + s.q.len ∧
    (trimLoop fuel s m).2.1.offset + (trimLoop fuel s m).2.1.len = s.offset + s.len := by
  intro fuel
  induction fuel with
  | zero => exact fun _ _ _ hf => nomatch hf
  | succ fuel ih =>
    intro s m h0 hf
    unfold trimLoop
    by_cases hlen0 : s.q.len = 0
    · simp only [getlen, hlen0, if_true]
      exact ⟨by triv, ⟨h0, frontOk_of_len hlen0⟩, by triv, Nat.le_refl _, by triv⟩
    · simp only [getlen, hlen0, if_false]
      obtain ⟨b, hb, hd⟩ := deref_spec s 0 h0 (by rw [h0.len]; omega)
      obtain ⟨p, hp⟩ := abs_dec s h0 b (List.mem_of_getElem? hb)
      have hpt : ptrAt (EQueue.abs s.q) 0 = p := by simp only [ptrAt, hb, hp]
      rw [hd, hpt]
      simp only
      have hhead : (EQueue.abs s.q).head? = some b := by rw [List.head?_eq_getElem?]; exact hb
      by_cases hp0 : p = 0
      · subst hp0
        simp only [ne_eq, not_true_eq_false, if_false]
        have hs := EQueue.delete_spec s.q m h0.q
        rcases hres : EQueue.delete s.q m with ⟨st, q', m'⟩
        rw [hres] at hs
        obtain ⟨hst, hinv', hrl', habs', hlen', hle', -⟩ := hs
        simp only at hst hinv' hrl' habs' hlen' hle'
        subst hst
        simp only
        have h0' : MInv0 { q := q', offset := s.offset + 1, len := s.len - 1 } :=
          ⟨hinv', by rw [hrl']; exact h0.rl, by simp [hlen', h0.len], by have := h0.off; simp; omega⟩
        have hi := ih { q := q', offset := s.offset + 1, len := s.len - 1 } m' h0' (by simp [hlen']; omega)
        obtain ⟨i1, i2, i3, i4, i5⟩ := hi
        refine ⟨i1, i2, ?_, by simp at i4; omega, ?_⟩
        · rw [i3]
          simp only [SeqMap.abs, habs']
          obtain ⟨rest, hrest⟩ : ∃ rest, EQueue.abs s.q = b :: rest := by
            cases hq : EQueue.abs s.q with
            | nil => rw [hq] at hhead; cases hhead
            | cons c rest => rw [hq] at hhead; simp at hhead; subst hhead; exact ⟨rest, rfl⟩
          rw [hrest]
          simp only [List.tail_cons, liveFrom, hp, if_true]
          congr 1
          have := h0.len; omega
        · simp at i5; have := h0.len; omega
      · simp only [ne_eq, hp0, not_false_eq_true, if_true]
        refine ⟨by triv, ⟨h0, ?_⟩, by triv, Nat.le_refl _, by triv⟩
        intro c hc
        rw [hhead] at hc; cases hc
        rw [hp]; simp; exact hp0

theorem delete_spec (s : SM) (i : Int) (m : Mem) (h : MInv s) :
    (SeqMap.delete s i m).1 = .ok ∧ MInv (SeqMap.delete s i m).2.1 ∧
    SeqMap.abs (SeqMap.delete s i m).2.1 =
      { SeqMap.abs s with live := (SeqMap.abs s).live.filter (fun e => e.1 != i) } ∧
    (SeqMap.delete s i m).2.1.q.offset + (SeqMap.delete s i m).2.1.q.len ≤ s.q.offset + s.q.len ∧
    (SeqMap.delete s i m).2.1.offset + (SeqMap.delete s i m).2.1.len = s.offset + s.len ∧
    (SeqMap.delete s i m).2.2.live + bufBlocks s.q.ea = m.live + bufBlocks (SeqMap.delete s i m).2.1.q.ea := by
  obtain ⟨h0, hfront⟩ := h
  have hl := EQueue.abs_length s.q
  have hnofilter : (i < s.offset ∨ s.offset + s.len ≤ i) →
      (SeqMap.abs s).live.filter (fun e => e.1 != i) = (SeqMap.abs s).live := by
    intro hi
    apply List.filter_eq_self.2
    intro e he
    have := liveFrom_num_ge _ _ e he
    rw [hl, ← h0.len] at this
    simp; omega
  unfold SeqMap.delete
  by_cases h1 : i < s.offset
  · rw [if_pos h1]
    refine ⟨rfl, ⟨h0, hfront⟩, ?_, Nat.le_refl _, rfl, rfl⟩
    rw [hnofilter (Or.inl h1)]
  · rw [if_neg h1]
    by_cases h2 : (i - s.offset).toNat ≥ s.len
    · rw [if_pos h2]
      refine ⟨rfl, ⟨h0, hfront⟩, ?_, Nat.le_refl _, rfl, rfl⟩
      rw [hnofilter (Or.inr (by omega))]
    · rw [if_neg h2]
      have hrl : s.q.reclen.val = 8 := by rw [h0.rl]; rfl
      obtain ⟨q1, hset, hinv1, hrl1, hlen1, hoff1, hsz1, hal1, habs1⟩ :=
        EQueue.set_spec s.q (i - s.offset).toNat (encPtr 0) h0.q (by rw [← h0.len]; omega) (by rw [hrl]; rfl)
      rw [hset]
      simp only
      have h01 : MInv0 { s with q := q1 } := ⟨hinv1, by rw [hrl1]; exact h0.rl, by simp [hlen1, h0.len], h0.off⟩
      have ht := trimLoop_spec (s.len + 1) { s with q := q1 } m h01 (by simp [hlen1, h0.len])
      obtain ⟨t1, t2, t3, t4, t5⟩ := ht
      have t6 := (trimLoop_acct (s.len + 1) { s with q := q1 } m).live
      refine ⟨t1, t2, ?_, by simp [hlen1, hoff1] at t4; exact t4, by simpa using t5, ?_⟩
      · rw [t3]
        simp only [SeqMap.abs, habs1]
        rw [liveFrom_set_null _ _ _ _ (decPtr_encPtr 0 (by decide)) (by rw [hl, ← h0.len]; omega)]
        have : s.offset + (((i - s.offset).toNat : Nat) : Int) = i := by omega
        rw [this]
      · have : bufBlocks q1.ea = bufBlocks s.q.ea := by simp [bufBlocks, hal1]
        simp only [this] at t6; exact t6

def MStepOk (s : SM) (op : SmOp) (m : Mem) : Prop :=
  MInv (SeqMap.step s op m).2.1 ∧
  smAdmit (SeqMap.abs s) op (SeqMap.step s op m).1 = some (SeqMap.abs (SeqMap.step s op m).2.1) ∧
  (SeqMap.step s op m).2.1.q.offset + (SeqMap.step s op m).2.1.q.len ≤ s.q.offset + s.q.len + 1 ∧
  (SeqMap.step s op m).2.1.offset + (SeqMap.step s op m).2.1.len ≤ s.offset + s.len + 1

theorem smAdmit_not_oob {i i' : SmIdeal} {op : SmOp} {a : SmAns} (h : smAdmit i op a = some i') : a.st ≠ .oob := by
  intro hst
  cases op <;> simp [smAdmit, hst] at h

/-- **every map step is admitted by the ideal map and `abs` commutes** -/
theorem mstep_ok (s : SM) (op : SmOp) (m : Mem) (h : MInv s) (hc : smContract op)
    (hq : (s.q.offset + s.q.len + 1) * 8 ≤ EArray.SIZE_MAX) (hn : s.offset + s.len + 1 ≤ INT64_MAX) :
    MStepOk s op m := by
  unfold MStepOk
  cases op with
  | add p =>
    simp only [smContract] at hc
    have hs := add_spec s p m h hc.1 hc.2 hq hn
    simp only [SeqMap.step]
    rcases hres : SeqMap.add s p m with ⟨r, s', m'⟩
    rw [hres] at hs
    obtain ⟨hinv', hcases, _⟩ := hs
    simp only at hinv' hcases
    rcases hcases with ⟨i, hr, hi, habs, ho, hl, hqo, hql⟩ | ⟨hr, hs', hrf⟩
    · subst hr
      simp only
      refine ⟨hinv', ?_, by omega, by omega⟩
      rw [habs]
      simp [smAdmit, SeqMap.ans, hi, SeqMap.abs]
    · subst hr; subst hs'
      simp only
      refine ⟨hinv', ?_, by omega, by omega⟩
      simp [smAdmit, SeqMap.ans, hrf]
  | get i =>
    simp only [SeqMap.step, get_lookup s i h.1]
    refine ⟨h, ?_, by omega, by omega⟩
    simp [smAdmit, SeqMap.ans]
  | delete i =>
    have hs := delete_spec s i m h
    simp only [SeqMap.step]
    rcases hres : SeqMap.delete s i m with ⟨st, s', m'⟩
    rw [hres] at hs
    obtain ⟨hst, hinv', habs, hle, hle2, _⟩ := hs
    simp only at hst hinv' habs hle hle2
    subst hst
    simp only
    refine ⟨hinv', ?_, by omega, by omega⟩
    rw [habs]
    simp [smAdmit, SeqMap.ans]
  | getmin =>
    simp only [SeqMap.step]
    refine ⟨h, ?_, by omega, by omega⟩
    simp [smAdmit, SeqMap.ans, getmin_spec s h]

/-- `seqptrmap_init`: the empty map with the three structures and the buffer allocated, or nothing -/
theorem init_full (m : Mem) :
    match SeqMap.init m with
    | (some s, m') => MInv s ∧ SeqMap.abs s = smEmpty ∧ s.offset = 0 ∧ s.len = 0 ∧ s.q.offset = 0 ∧ s.q.len = 0 ∧
        Calls m m' (3 + bufBlocks s.q.ea) ∧ m'.refusals = m.refusals ∧
        ∀ c, (∀ i sz, m.f i sz = true → sz ≤ c) → s.q.ea.alloc ≤ c
    | (none, m') => Calls m m' 0 ∧ m.refusals < m'.refusals := by
  unfold SeqMap.init
  have c1 := calls_malloc m SeqMap.structSize
  cases hr : (m.malloc SeqMap.structSize).1
  · rw [pair_eta _ hr]
    exact ⟨c1.cast (by simp [hr]), by rw [(malloc_fail hr).1]; exact Nat.lt_succ_self _⟩
  · rw [pair_eta _ hr]
    simp only
    have hm := malloc_ok hr
    have h := EQueue.init_full ptrLen (m.malloc SeqMap.structSize).2
    rcases hres : EQueue.init ptrLen (m.malloc SeqMap.structSize).2 with ⟨_ | q, m2⟩ <;> rw [hres] at h
    · refine ⟨((c1.trans h.1).trans (calls_free m2 false)).cast (by simp [hr]), ?_⟩
      rw [← hm.1]
      exact Nat.lt_of_lt_of_le h.2 (calls_free m2 false).step.r
    · obtain ⟨hinv, hrl, habs, hoff, hlen, hc, hrf, hb⟩ := h
      refine ⟨⟨⟨hinv, hrl, by simp [hlen], by simp⟩, ?_⟩, ?_, rfl, rfl, hoff, hlen, (c1.trans hc).cast (by simp [hr]; omega),
        by rw [hrf, hm.1], fun c hcc => hb c (fun i sz => hm.2.2.1 ▸ hcc i sz)⟩
      · intro b hb'; simp only at hb'; rw [habs] at hb'; cases hb'
      · simp [SeqMap.abs, habs, liveFrom, smEmpty]

theorem init_spec (m : Mem) :
    match SeqMap.init m with
    | (some s, m') => MInv s ∧ SeqMap.abs s = smEmpty ∧ s.offset = 0 ∧ s.len = 0 ∧ s.q.offset = 0 ∧ s.q.len = 0 ∧
        m'.live = m.live + 3 + bufBlocks s.q.ea ∧ m'.refusals = m.refusals
    | (none, m') => m'.live = m.live ∧ m'.refusals > m.refusals := by
  have h := init_full m
  generalize SeqMap.init m = p at h ⊢
  obtain ⟨_ | s, m'⟩ := p
  · exact ⟨by rw [h.1.live]; omega, h.2⟩
  · exact ⟨h.1, h.2.1, h.2.2.1, h.2.2.2.1, h.2.2.2.2.1, h.2.2.2.2.2.1, by rw [h.2.2.2.2.2.2.1.live]; omega,
      h.2.2.2.2.2.2.2.1⟩

/-- a `seqptrmap_add` that the step reports as failed returned -1, changed nothing, and a request was refused -/
theorem step_add_fail (s : SM) (p : Nat) (m : Mem) (h : MInv s) (hp0 : 0 < p) (hp : p < 2^64)
    (hq : (s.q.offset + s.q.len + 1) * 8 ≤ EArray.SIZE_MAX) (hn : s.offset + s.len + 1 ≤ INT64_MAX)
    (hf : (SeqMap.step s (.add p) m).1.st = .fail) :
    (SeqMap.step s (.add p) m).2.1 = s ∧ (SeqMap.step s (.add p) m).1.num = -1 ∧
    (SeqMap.step s (.add p) m).1.refused = true := by
  have ha := (add_spec s p m h hp0 hp hq hn).2.1
  simp only [SeqMap.step] at hf ⊢
  rcases hres : SeqMap.add s p m with ⟨r, s', m'⟩
  rw [hres] at ha hf
  rcases ha with ⟨j, hr, _⟩ | ⟨hr, hs', hrf⟩
  · simp only at hr; subst hr; simp [SeqMap.ans] at hf
  · simp only at hr hs' hrf; subst hr; subst hs'
    simp [SeqMap.ans, hrf]

theorem init_none {m m' : Mem} (h : SeqMap.init m = (none, m')) : m'.live = m.live ∧ m'.refusals > m.refusals := by
  have := init_spec m; rw [h] at this; exact this

theorem init_some {m m' : Mem} {s : SM} (h : SeqMap.init m = (some s, m')) :
    MInv s ∧ SeqMap.abs s = smEmpty ∧ s.offset = 0 ∧ s.len = 0 ∧ s.q.offset = 0 ∧ s.q.len = 0 ∧
    m'.live = m.live + 3 + bufBlocks s.q.ea ∧ m'.refusals = m.refusals := by
  have := init_spec m; rw [h] at this; exact this

theorem free_live (s : SM) (m : Mem) : (SeqMap.free s m).live = m.live - 3 - bufBlocks s.q.ea := by
  rw [(free_calls s m).live]; omega

theorem run_ok : ∀ (ops : List SmOp) (s : SM) (m : Mem), MInv s → (∀ op ∈ ops, smContract op) →
    (s.q.offset + s.q.len + ops.length) * 8 ≤ EArray.SIZE_MAX → s.offset + s.len + ops.length ≤ INT64_MAX →
    MInv (SeqMap.run s ops m).2.1 ∧
    smAdmitAll (SeqMap.abs s) (SeqMap.run s ops m).1 = some (SeqMap.abs (SeqMap.run s ops m).2.1)
  | [], s, m, h, _, _, _ => ⟨h, rfl⟩
  | op :: rest, s, m, h, hc, hq, hn => by
    simp only [List.length_cons, Int.natCast_add, Int.natCast_one] at hq hn
    have hs := mstep_ok s op m h (hc op List.mem_cons_self)
      (Nat.le_trans (Nat.mul_le_mul_right _ (by omega)) hq) (by omega)
    unfold MStepOk at hs
    obtain ⟨s1, s2, s3, s4⟩ := hs
    have ih := run_ok rest (SeqMap.step s op m).2.1 (SeqMap.step s op m).2.2 s1
      (fun o ho => hc o (List.mem_cons_of_mem _ ho))
      (Nat.le_trans (Nat.mul_le_mul_right _ (by omega)) hq) (by omega)
    simp only [SeqMap.run]
    rcases hst : SeqMap.step s op m with ⟨an, s', m'⟩
    rw [hst] at s2 ih
    simp only at s2 ih ⊢
    rcases hrun : SeqMap.run s' rest m' with ⟨tr, s'', m''⟩
    rw [hrun] at ih
    simp only at ih ⊢
    exact ⟨ih.1, by simp only [smAdmitAll, s2]; exact ih.2⟩

end Percival.Proofs.SeqMap
