import Percival.Model.NetbufRead
/-! C07, reader half: the window of `netbuf_read.c`'s buffer refines `received.drop consumed`.

Three layers.  What each operation of the model does to the buffer (its geometry and its window; the abstract
reader does not occur, `Proofs/HttpReader.lean` uses the same lemmas).  The refinement relation `Rel` to
`Spec.ByteStream.Reader`, one lemma per operation, and whole runs.  Last, `okRun`: the hypotheses of the
theorems of `Properties/C07.lean` about a concrete run are decided on the abstract reader and two sizes. -/
namespace Percival.Proofs.NetbufRead
open Percival.Spec.ByteStream Percival.Model.Netbuf Percival.Model.NetbufRead

theorem slice_eq (b : Bytes) (off len : Nat) (h : off + len ≤ b.length) :
    slice b off len = .ok ((b.drop off).take len) := if_pos h

theorem blit_eq (dst : Bytes) (off : Nat) (src : Bytes) (h : off + src.length ≤ dst.length) :
    blit dst off src = .ok (dst.take off ++ (src ++ dst.drop (off + src.length))) := if_pos h

theorem sub_eq (a b : Nat) (h : b ≤ a) : sub a b = .ok (a - b) := if_pos h

theorem window_blit (buf d : Bytes) (bp dl : Nat) (h1 : bp ≤ dl) (h2 : dl + d.length ≤ buf.length) :
    ((buf.take dl ++ (d ++ buf.drop (dl + d.length))).drop bp).take (dl + d.length - bp)
      = (buf.drop bp).take (dl - bp) ++ d := by
  have hl : ((buf.take dl).drop bp ++ d).length = dl + d.length - bp := by
    rw [List.length_append, List.length_drop, List.length_take]; omega
  rw [List.drop_append_of_le_length (by rw [List.length_take]; omega), ← List.append_assoc, ← hl,
    List.take_left, List.drop_take]

/-- the bytes between the read pointer and the write pointer: what `peek` points at -/
def window (r : R) : Bytes := (r.buf.drop r.bufpos).take (r.datalen - r.bufpos)

structure Geo (r : R) : Prop where
  len : r.buf.length = r.buflen
  pos : r.bufpos ≤ r.datalen
  dat : r.datalen ≤ r.buflen

theorem window_length {r : R} (g : Geo r) : (window r).length = r.datalen - r.bufpos := by
  have := g.len
  have := g.dat
  rw [window, List.length_take, List.length_drop]
  omega

theorem peek_eq {r : R} (g : Geo r) : peek r = .ok (window r) := by
  have := g.len
  have := g.pos
  have := g.dat
  rw [peek, sub_eq _ _ g.pos]
  exact slice_eq _ _ _ (by omega)

theorem newBuflen_ge (buflen len : Nat) : len ≤ newBuflen buflen len ∧ buflen ≤ newBuflen buflen len := by
  unfold newBuflen
  have h2 : Percival.Gen.Netbuf.growFactor = 2 := rfl
  rw [h2]
  split <;> omega

structure Moved (r r' : R) : Prop where
  geo : Geo r'
  bufpos : r'.bufpos = 0
  datalen : r'.datalen = r.datalen - r.bufpos
  win : window r' = window r
  pending : r'.pending = r.pending
  waitlen : r'.waitlen = r.waitlen

/-- The window stored at the front of a buffer `dst` that can hold it: what `netbuf_read_resize_buffer` (a fresh
buffer) and the `memmove` of `netbuf_read_wait` (the same buffer) have in common. -/
theorem moved_front {r : R} (g : Geo r) {dst : Bytes} {n : Nat} (hn : dst.length = n)
    (h : r.datalen - r.bufpos ≤ n) :
    Moved r { r with buf := dst.take 0 ++ (window r ++ dst.drop (0 + (window r).length)), buflen := n,
                     datalen := r.datalen - r.bufpos, bufpos := 0 } := by
  have hw := window_length g
  refine ⟨⟨?_, Nat.zero_le _, h⟩, rfl, rfl, ?_, rfl, rfl⟩
  · show (dst.take 0 ++ (window r ++ dst.drop (0 + (window r).length))).length = n
    rw [List.take_zero, List.nil_append, List.length_append, List.length_drop]
    omega
  · show ((dst.take 0 ++ (window r ++ dst.drop (0 + (window r).length))).drop 0).take (r.datalen - r.bufpos - 0)
      = window r
    rw [List.take_zero, List.nil_append, List.drop_zero, Nat.sub_zero, ← hw]
    exact List.take_left

theorem resize_spec {r : R} (g : Geo r) (len : Nat) :
    ∃ r', resize r len = .ok r' ∧ Moved r r' ∧ r'.buflen = newBuflen r.buflen len := by
  have hw : ((r.buf.drop r.bufpos).take (r.datalen - r.bufpos)).length = r.datalen - r.bufpos := window_length g
  have hn := (newBuflen_ge r.buflen len).2
  have := g.len
  have := g.pos
  have := g.dat
  simp only [resize]
  rw [sub_eq _ _ g.pos]
  simp only [Res.ok_bind]
  rw [slice_eq _ _ _ (by omega)]
  simp only [Res.ok_bind]
  rw [blit_eq _ _ _ (by rw [hw, List.length_replicate]; omega)]
  exact ⟨_, rfl, moved_front g List.length_replicate (by omega), rfl⟩

theorem compact_spec {r : R} (g : Geo r) :
    ∃ r', compact r = .ok r' ∧ Moved r r' ∧ r'.buflen = r.buflen := by
  have hw : ((r.buf.drop r.bufpos).take (r.datalen - r.bufpos)).length = r.datalen - r.bufpos := window_length g
  have := g.len
  have := g.pos
  have := g.dat
  simp only [compact]
  rw [sub_eq _ _ g.pos]
  simp only [Res.ok_bind]
  rw [slice_eq _ _ _ (by omega)]
  simp only [Res.ok_bind]
  rw [blit_eq _ _ _ (by rw [hw]; omega)]
  exact ⟨_, rfl, moved_front g g.len (by omega), rfl⟩

theorem doread_spec {r : R} (g : Geo r) (h : r.datalen < r.buflen) :
    doread r = .ok { r with pending := .read } := by
  obtain ⟨h1, h2, h3⟩ := g
  simp only [doread]
  rw [sub_eq _ _ h3]
  simp only [Res.ok_bind]
  rw [if_neg (by omega), slice_eq _ _ _ (by omega)]
  rfl

theorem consume_spec {r : R} (g : Geo r) {j : Nat} (hj : j ≤ r.datalen - r.bufpos) :
    consume r j = .ok { r with bufpos := r.bufpos + j } := by
  unfold consume
  rw [sub_eq _ _ g.pos]
  simp only [Res.ok_bind]
  rw [if_neg (by omega)]
  rfl

theorem window_consume (r : R) (j : Nat) : window { r with bufpos := r.bufpos + j } = (window r).drop j := by
  show (r.buf.drop (r.bufpos + j)).take (r.datalen - (r.bufpos + j))
    = ((r.buf.drop r.bufpos).take (r.datalen - r.bufpos)).drop j
  rw [List.drop_take, List.drop_drop, Nat.sub_sub]

theorem wait_immediate {r : R} (g : Geo r) (hp : r.pending = .none) {k : Nat} (hk : k ≤ r.datalen - r.bufpos) :
    wait r k = .ok { r with pending := .immediate } := by
  unfold wait
  rw [if_neg (by simp [hp]), sub_eq _ _ g.pos]
  simp only [Res.ok_bind]
  rw [if_pos hk]
  rfl

theorem growIfNeeded_spec {r : R} (g : Geo r) (k : Nat) :
    ∃ r1, growIfNeeded r k = .ok r1 ∧ Geo r1 ∧ window r1 = window r ∧
      r1.buflen = (if r.buflen < k then newBuflen r.buflen k else r.buflen) ∧
      r1.bufpos = (if r.buflen < k then 0 else r.bufpos) := by
  by_cases hb : r.buflen < k
  · simp only [growIfNeeded, if_pos hb]
    obtain ⟨r1, e, m, hbl⟩ := resize_spec g k
    exact ⟨r1, e, m.geo, m.win, hbl, m.bufpos⟩
  · simp only [growIfNeeded, if_neg hb]
    exact ⟨r, rfl, g, rfl, rfl, rfl⟩

theorem compactIfNeeded_spec {r : R} (g : Geo r) (k : Nat) :
    ∃ r2, compactIfNeeded r k = .ok r2 ∧ Geo r2 ∧ window r2 = window r ∧ r2.buflen = r.buflen ∧
      r2.bufpos = (if r.buflen - r.bufpos < k then 0 else r.bufpos) := by
  have := g.pos
  have := g.dat
  unfold compactIfNeeded
  rw [sub_eq _ _ (by omega)]
  simp only [Res.ok_bind]
  by_cases hc : r.buflen - r.bufpos < k
  · simp only [if_pos hc]
    obtain ⟨r2, e, m, hbl⟩ := compact_spec g
    exact ⟨r2, e, m.geo, m.win, hbl, m.bufpos⟩
  · simp only [if_neg hc]
    exact ⟨r, rfl, g, rfl, rfl, rfl⟩

/-- `netbuf_read_wait(k)` when fewer than `k` bytes are buffered: the window is kept, the buffer ends up with room
for `k` bytes behind the read pointer, and a transport read is outstanding. -/
theorem wait_read {r : R} (g : Geo r) (hp : r.pending = .none) {k : Nat} (hk : ¬ k ≤ r.datalen - r.bufpos) :
    ∃ r', wait r k = .ok r' ∧ Geo r' ∧ window r' = window r ∧ r'.pending = .read ∧ r'.waitlen = k ∧
      r'.buflen = (if r.buflen < k then newBuflen r.buflen k else r.buflen) ∧
      r'.bufpos = (if r.buflen - r.bufpos < k then 0 else r.bufpos) ∧ k ≤ r'.buflen - r'.bufpos := by
  obtain ⟨r1, e1, g1, w1, b1, q1⟩ := growIfNeeded_spec g k
  obtain ⟨r2, e2, g2, w2, b2, q2⟩ := compactIfNeeded_spec g1 k
  -- the window has the same length as before, so `datalen - bufpos` is what it was
  have hav := window_length g2
  rw [w2, w1, window_length g] at hav
  have hbig := (newBuflen_ge r.buflen k).1
  have := g2.pos
  have hbl : r2.buflen = (if r.buflen < k then newBuflen r.buflen k else r.buflen) := b2.trans b1
  have hbp : r2.bufpos = (if r.buflen - r.bufpos < k then 0 else r.bufpos) := by
    rw [q2, b1, q1]
    by_cases hb : r.buflen < k
    · simp only [if_pos hb, Nat.sub_zero]
      rw [if_neg (by omega), if_pos (by omega)]
    · simp only [if_neg hb]
  have hroom : k ≤ r2.buflen - r2.bufpos := by
    rw [hbl, hbp]
    by_cases hb : r.buflen < k
    · rw [if_pos hb, if_pos (by omega)]
      omega
    · rw [if_neg hb]
      split <;> omega
  unfold wait
  rw [if_neg (by simp [hp]), sub_eq _ _ g.pos]
  simp only [Res.ok_bind]
  rw [if_neg hk, e1]
  simp only [Res.ok_bind]
  rw [e2]
  simp only [Res.ok_bind]
  have g2' : Geo { r2 with waitlen := k } := ⟨g2.len, g2.pos, g2.dat⟩
  rw [doread_spec g2' (by show r2.datalen < r2.buflen; omega)]
  exact ⟨_, rfl, ⟨g2.len, g2.pos, g2.dat⟩, w2.trans w1, rfl, rfl, hbl, hbp, hroom⟩

/-- `callback_read` with data: the transport has stored `d` at `&buf[datalen]`; the bytes are appended to the window,
`datalen` grows by their number, and the wait completes (status 0) exactly when `waitlen` bytes are buffered. -/
theorem data_spec {r : R} (g : Geo r) (hp : r.pending = .read) (hroom : r.waitlen ≤ r.buflen - r.bufpos)
    {d : Bytes} (hd0 : d.length ≠ 0) (hfit : d.length ≤ r.buflen - r.datalen) :
    ∃ r', callbackRead r (.data d) =
        .ok (r', if r.datalen + d.length - r.bufpos < r.waitlen then none else some 0) ∧
      Geo r' ∧ window r' = window r ++ d ∧ r'.buflen = r.buflen ∧ r'.bufpos = r.bufpos ∧
      r'.datalen = r.datalen + d.length ∧ r'.waitlen = r.waitlen ∧
      r'.pending = (if r.datalen + d.length - r.bufpos < r.waitlen then .read else .none) := by
  obtain ⟨g1, g2, g3⟩ := g
  have geo' : Geo ⟨r.buf.take r.datalen ++ (d ++ r.buf.drop (r.datalen + d.length)), r.buflen, r.bufpos,
      r.datalen + d.length, r.waitlen, .none⟩ := by
    refine ⟨?_, ?_, ?_⟩
    · show (r.buf.take r.datalen ++ (d ++ r.buf.drop (r.datalen + d.length))).length = r.buflen
      rw [List.length_append, List.length_append, List.length_take, List.length_drop]
      omega
    · show r.bufpos ≤ r.datalen + d.length
      omega
    · show r.datalen + d.length ≤ r.buflen
      omega
  have win' : window ⟨r.buf.take r.datalen ++ (d ++ r.buf.drop (r.datalen + d.length)), r.buflen, r.bufpos,
      r.datalen + d.length, r.waitlen, .none⟩ = window r ++ d := window_blit _ _ _ _ g2 (by omega)
  unfold callbackRead
  rw [if_neg (by simp [hp])]
  simp only []
  rw [if_neg hd0, blit_eq _ _ _ (by omega)]
  simp only [Res.ok_bind]
  rw [sub_eq _ _ (by show r.bufpos ≤ r.datalen + d.length; omega)]
  simp only [Res.ok_bind]
  by_cases hlt : r.datalen + d.length - r.bufpos < r.waitlen
  · simp only [if_pos hlt]
    rw [doread_spec geo' (by show r.datalen + d.length < r.buflen; omega)]
    exact ⟨_, rfl, ⟨geo'.len, geo'.pos, geo'.dat⟩, win', rfl, rfl, rfl, rfl, rfl⟩
  · simp only [if_neg hlt]
    exact ⟨_, rfl, geo', win', rfl, rfl, rfl, rfl, rfl⟩

theorem end_spec {r : R} (hp : r.pending = .read) :
    callbackRead r .eof = .ok ({ r with pending := .none }, some 1) ∧
    callbackRead r .err = .ok ({ r with pending := .none }, some (-1)) := by
  simp [callbackRead, hp]

theorem fire_spec {r : R} (hp : r.pending = .immediate) :
    callbackSuccess r = .ok ({ r with pending := .none }, 0) := by
  simp [callbackSuccess, hp]

theorem step_wait {r r' : R} {k : Nat} (e : wait r k = .ok r') : step r (.wait k) = .ok (r', .none) := by
  simp [step, e]

theorem step_peek {r : R} {b : Bytes} (e : peek r = .ok b) : step r .peek = .ok (r, .bytes b) := by
  simp [step, e]

theorem step_consume {r r' : R} {j : Nat} (e : consume r j = .ok r') : step r (.consume j) = .ok (r', .none) := by
  simp [step, e]

theorem step_fire {r r' : R} {st : Int} (e : callbackSuccess r = .ok (r', st)) : step r .fire = .ok (r', .cb st) := by
  simp [step, e]

theorem step_net {r r' : R} {ev : REv} {st : Option Int} (e : callbackRead r ev = .ok (r', st)) :
    step r (.net ev) = .ok (r', outOfStatus st) := by
  simp [step, e]

/-- how the model's `pending` mirrors the outstanding `wait k` of the abstract reader -/
def PendRel (r : R) (a : Reader) : Prop :=
  match r.pending, a.waiting with
  | .none, none => True
  | .immediate, some k => k ≤ a.visible.length
  | .read, some k => r.waitlen = k ∧ a.visible.length < k ∧ k ≤ r.buflen - r.bufpos
  | _, _ => False

/-- the refinement relation: `bufpos ≤ datalen ≤ buflen = |buf|`, `buf[bufpos..datalen) = received.drop consumed`,
and the outstanding wait is the same on both sides (with room for it in the buffer) -/
structure Rel (r : R) (a : Reader) : Prop where
  geo : Geo r
  win : window r = a.visible
  pend : PendRel r a
  cons : a.consumed ≤ a.received.length

theorem pendRel_none {r : R} {a : Reader} (hw : a.waiting = none) : PendRel r a ↔ r.pending = .none := by
  unfold PendRel
  rw [hw]
  cases r.pending <;> simp

theorem pendRel_some {r : R} {a : Reader} {k : Nat} (hw : a.waiting = some k) :
    PendRel r a ↔ (r.pending = .immediate ∧ k ≤ a.visible.length) ∨
      (r.pending = .read ∧ r.waitlen = k ∧ a.visible.length < k ∧ k ≤ r.buflen - r.bufpos) := by
  unfold PendRel
  rw [hw]
  cases r.pending <;> simp

theorem Rel.avail {r : R} {a : Reader} (h : Rel r a) : a.visible.length = r.datalen - r.bufpos := by
  rw [← h.win]; exact window_length h.geo

theorem rel_init : Rel init Reader.init :=
  ⟨⟨List.length_replicate, Nat.le_refl _, Nat.zero_le _⟩, rfl, (pendRel_none rfl).2 rfl, Nat.le_refl _⟩

theorem pending_none_of {r : R} {a : Reader} (h : Rel r a) (hw : a.waiting = none) : r.pending = .none :=
  (pendRel_none hw).1 h.pend

theorem read_of {r : R} {a : Reader} (h : Rel r a) (k : Nat) (hw : a.waiting = some k)
    (hk : ¬ k ≤ a.visible.length) :
    r.pending = .read ∧ r.waitlen = k ∧ k ≤ r.buflen - r.bufpos := by
  rcases (pendRel_some hw).1 h.pend with ⟨_, hle⟩ | ⟨hp, hwl, _, hroom⟩
  · exact absurd hle hk
  · exact ⟨hp, hwl, hroom⟩

theorem Rel.idle {r : R} {a : Reader} (h : Rel r a) : Rel { r with pending := .none } { a with waiting := none } :=
  ⟨⟨h.geo.len, h.geo.pos, h.geo.dat⟩, h.win, (pendRel_none rfl).2 rfl, h.cons⟩

/-- Buffer size and read position after an operation the abstract reader `a` allows, from those before: only a
`wait` that cannot be answered from the buffer (growth to `newBuflen`, compaction) and `consume` move them. -/
def geoAfter (buflen bufpos : Nat) (a : Reader) : ROp → Nat × Nat
  | .wait k =>
    if k ≤ a.visible.length then (buflen, bufpos)
    else (if buflen < k then newBuflen buflen k else buflen, if buflen - bufpos < k then 0 else bufpos)
  | .consume j => (buflen, bufpos + j)
  | _ => (buflen, bufpos)

theorem wait_rel {r : R} {a : Reader} (h : Rel r a) (hw : a.waiting = none) (k : Nat) :
    ∃ r', wait r k = .ok r' ∧ Rel r' { a with waiting := some k } ∧
      (r'.buflen, r'.bufpos) = geoAfter r.buflen r.bufpos a (.wait k) := by
  have hp := pending_none_of h hw
  have hav := h.avail
  simp only [geoAfter]
  by_cases hk : k ≤ r.datalen - r.bufpos
  · rw [if_pos (by omega)]
    exact ⟨_, wait_immediate h.geo hp hk, ⟨⟨h.geo.len, h.geo.pos, h.geo.dat⟩, h.win,
      (pendRel_some rfl).2 (.inl ⟨rfl, by show k ≤ a.visible.length; omega⟩), h.cons⟩, rfl⟩
  · rw [if_neg (by omega)]
    obtain ⟨r', e, g', w', p', wl', hbl, hbp, room'⟩ := wait_read h.geo hp hk
    exact ⟨r', e, ⟨g', w'.trans h.win,
      (pendRel_some rfl).2 (.inr ⟨p', wl', by show a.visible.length < k; omega, room'⟩), h.cons⟩, Prod.ext hbl hbp⟩

theorem consume_rel {r : R} {a : Reader} (h : Rel r a) (hw : a.waiting = none) (j : Nat)
    (hj : j ≤ a.visible.length) :
    ∃ r', consume r j = .ok r' ∧ Rel r' { a with consumed := a.consumed + j } ∧
      (r'.buflen, r'.bufpos) = geoAfter r.buflen r.bufpos a (.consume j) := by
  have hav := h.avail
  have hvl : a.visible.length = a.received.length - a.consumed := List.length_drop
  have := h.geo.pos
  have := h.cons
  have hp := pending_none_of h hw
  refine ⟨_, consume_spec h.geo (by omega), ⟨⟨h.geo.len, by show r.bufpos + j ≤ r.datalen; omega, h.geo.dat⟩, ?_,
    (pendRel_none (a := { a with consumed := a.consumed + j }) hw).2 hp,
    by show a.consumed + j ≤ a.received.length; omega⟩, rfl⟩
  rw [window_consume, h.win]
  exact List.drop_drop

theorem fire_rel {r : R} {a : Reader} (h : Rel r a) (k : Nat) (hw : a.waiting = some k)
    (hk : k ≤ a.visible.length) :
    callbackSuccess r = .ok ({ r with pending := .none }, 0) ∧
      Rel { r with pending := .none } { a with waiting := none } := by
  rcases (pendRel_some hw).1 h.pend with ⟨hp, _⟩ | ⟨_, _, hlt, _⟩
  · exact ⟨fire_spec hp, h.idle⟩
  · omega

theorem net_end_rel {r : R} {a : Reader} (h : Rel r a) (k : Nat) (hw : a.waiting = some k)
    (hk : ¬ k ≤ a.visible.length) (ev : REv) (st : Int) (hev : (ev = .eof ∧ st = 1) ∨ (ev = .err ∧ st = -1)) :
    callbackRead r ev = .ok ({ r with pending := .none }, some st) ∧
      Rel { r with pending := .none } { a with waiting := none } := by
  obtain ⟨hp, _, _⟩ := read_of h k hw hk
  rcases hev with ⟨rfl, rfl⟩ | ⟨rfl, rfl⟩
  · exact ⟨(end_spec hp).1, h.idle⟩
  · exact ⟨(end_spec hp).2, h.idle⟩

theorem net_data_rel {r : R} {a : Reader} (h : Rel r a) (k : Nat) (hw : a.waiting = some k)
    (hk : ¬ k ≤ a.visible.length) (d : Bytes) (hd0 : d.length ≠ 0) (hfit : d.length ≤ r.buflen - r.datalen) :
    let a' : Reader := { a with received := a.received ++ d }
    ∃ r', callbackRead r (.data d) = .ok (r', if k ≤ a'.visible.length then some 0 else none) ∧
      Rel r' (if k ≤ a'.visible.length then { a' with waiting := none } else a') ∧
      (r'.buflen, r'.bufpos) = (r.buflen, r.bufpos) := by
  intro a'
  obtain ⟨hp, hwl, hroom⟩ := read_of h k hw hk
  obtain ⟨r', e, g', w', hbl, hbp, -, hwl', hp'⟩ := data_spec h.geo hp (by rw [hwl]; exact hroom) hd0 hfit
  have hav := h.avail
  have := h.geo.pos
  have := h.cons
  -- the abstract stream grows by `d`; at most `consumed ≤ |received|` bytes were dropped before
  have hvis' : a'.visible = a.visible ++ d := List.drop_append_of_le_length h.cons
  have hvl : a'.visible.length = r.datalen + d.length - r.bufpos := by
    rw [hvis', List.length_append]; omega
  have hwin' : window r' = a'.visible := by rw [w', h.win, hvis']
  have hcons' : a'.consumed ≤ a'.received.length := by
    show a.consumed ≤ (a.received ++ d).length
    rw [List.length_append]; omega
  by_cases hdone : k ≤ a'.visible.length
  · rw [if_neg (by omega)] at e hp'
    simp only [if_pos hdone]
    exact ⟨r', e, ⟨g', hwin', (pendRel_none rfl).2 hp', hcons'⟩, Prod.ext hbl hbp⟩
  · rw [if_pos (by omega)] at e hp'
    simp only [if_neg hdone]
    exact ⟨r', e, ⟨g', hwin', (pendRel_some (a := a') hw).2
      (.inr ⟨hp', hwl'.trans hwl, by omega, by rw [hbl, hbp]; exact hroom⟩), hcons'⟩, Prod.ext hbl hbp⟩

theorem cancel_wait {r : R} {a : Reader} (h : Rel r a) :
    peek (cancel r) = .ok a.visible ∧
    ∀ k, k ≤ a.visible.length →
      ∃ r1 r2, wait (cancel r) k = .ok r1 ∧ request r1 = none ∧ step r1 .fire = .ok (r2, .cb 0) ∧
        peek r2 = .ok a.visible := by
  have hc : Rel (cancel r) { a with waiting := none } := h.idle
  refine ⟨(peek_eq hc.geo).trans (congrArg _ hc.win), fun k hk => ?_⟩
  obtain ⟨r1, e1, h1, -⟩ := wait_rel hc rfl k
  obtain ⟨e2, h2⟩ := fire_rel h1 k rfl hk
  have hp : r1.pending = .immediate := by
    rcases (pendRel_some rfl).1 h1.pend with ⟨hp, _⟩ | ⟨_, _, hlt, _⟩
    · exact hp
    · exact absurd hk (Nat.not_le_of_lt hlt)
  exact ⟨r1, _, e1, by rw [request, hp], step_fire e2, (peek_eq h2.geo).trans (congrArg _ h2.win)⟩

theorem step_cases {a a' : Reader} {op : ROp} {o : ROut} (hs : a.step op = some (a', o)) :
    match op with
    | .wait k => a.waiting = none ∧ a' = { a with waiting := some k } ∧ o = .none
    | .peek => a' = a ∧ o = .bytes a.visible
    | .consume j =>
      a.waiting = none ∧ j ≤ a.visible.length ∧ a' = { a with consumed := a.consumed + j } ∧ o = .none
    | .cancel => a' = { a with waiting := none } ∧ o = .none
    | .fire => ∃ k, a.waiting = some k ∧ k ≤ a.visible.length ∧ a' = { a with waiting := none } ∧ o = .cb 0
    | .net ev => ∃ k, a.waiting = some k ∧ ¬ k ≤ a.visible.length ∧
      match ev with
      | .err => a' = { a with waiting := none } ∧ o = .cb (-1)
      | .eof => a' = { a with waiting := none } ∧ o = .cb 1
      | .data d => d.length ≠ 0 ∧
        a' = (if k ≤ ({ a with received := a.received ++ d } : Reader).visible.length
          then { a with received := a.received ++ d, waiting := none } else { a with received := a.received ++ d }) ∧
        o = (if k ≤ ({ a with received := a.received ++ d } : Reader).visible.length then .cb 0 else .none) := by
  cases op with
  | wait k =>
    simp only [Reader.step] at hs
    split at hs
    · simp at hs
    · rename_i hw
      simp only [Option.some.injEq, Prod.mk.injEq] at hs
      exact ⟨by simpa using hw, hs.1.symm, hs.2.symm⟩
  | consume j =>
    simp only [Reader.step] at hs
    split at hs
    · simp at hs
    · rename_i hw
      split at hs
      · simp at hs
      · rename_i hj
        simp only [Option.some.injEq, Prod.mk.injEq] at hs
        exact ⟨by simpa using hw, by omega, hs.1.symm, hs.2.symm⟩
  | peek | cancel =>
    simp only [Reader.step, Option.some.injEq, Prod.mk.injEq] at hs
    exact ⟨hs.1.symm, hs.2.symm⟩
  | fire =>
    simp only [Reader.step] at hs
    split at hs
    · rename_i k hw
      split at hs
      · rename_i hk
        simp only [Option.some.injEq, Prod.mk.injEq] at hs
        exact ⟨k, hw, hk, hs.1.symm, hs.2.symm⟩
      · simp at hs
    · simp at hs
  | net ev =>
    simp only [Reader.step] at hs
    split at hs
    · simp at hs
    · rename_i k hw
      split at hs
      · simp at hs
      · rename_i hk
        refine ⟨k, hw, hk, ?_⟩
        cases ev with
        | err | eof =>
          simp only [Option.some.injEq, Prod.mk.injEq] at hs
          exact ⟨hs.1.symm, hs.2.symm⟩
        | data d =>
          simp only at hs
          split at hs
          · simp at hs
          · rename_i hd0
            refine ⟨hd0, ?_⟩
            split at hs <;>
            · rename_i hdone
              simp only [Option.some.injEq, Prod.mk.injEq] at hs
              simp only [hdone, if_true, if_false]
              exact ⟨hs.1.symm, hs.2.symm⟩

theorem step_refines {r : R} {a a' : Reader} {op : ROp} {o : ROut} (h : Rel r a)
    (hs : a.step op = some (a', o)) (hf : fits r op) :
    ∃ r', step r op = .ok (r', o) ∧ Rel r' a' ∧ (r'.buflen, r'.bufpos) = geoAfter r.buflen r.bufpos a op := by
  have hc := step_cases hs
  cases op with
  | wait k =>
    obtain ⟨hw, rfl, rfl⟩ := hc
    obtain ⟨r', e, hr⟩ := wait_rel h hw k
    exact ⟨r', step_wait e, hr⟩
  | peek =>
    obtain ⟨rfl, rfl⟩ := hc
    exact ⟨r, step_peek ((peek_eq h.geo).trans (congrArg _ h.win)), h, rfl⟩
  | consume j =>
    obtain ⟨hw, hj, rfl, rfl⟩ := hc
    obtain ⟨r', e, hr⟩ := consume_rel h hw j hj
    exact ⟨r', step_consume e, hr⟩
  | cancel =>
    obtain ⟨rfl, rfl⟩ := hc
    exact ⟨cancel r, rfl, h.idle, rfl⟩
  | fire =>
    obtain ⟨k, hw, hk, rfl, rfl⟩ := hc
    obtain ⟨e, hr⟩ := fire_rel h k hw hk
    exact ⟨_, step_fire e, hr, rfl⟩
  | net ev =>
    obtain ⟨k, hw, hk, hc⟩ := hc
    cases ev with
    | err =>
      obtain ⟨rfl, rfl⟩ := hc
      obtain ⟨e, hr⟩ := net_end_rel h k hw hk .err (-1) (.inr ⟨rfl, rfl⟩)
      exact ⟨_, step_net e, hr, rfl⟩
    | eof =>
      obtain ⟨rfl, rfl⟩ := hc
      obtain ⟨e, hr⟩ := net_end_rel h k hw hk .eof 1 (.inl ⟨rfl, rfl⟩)
      exact ⟨_, step_net e, hr, rfl⟩
    | data d =>
      obtain ⟨hd0, rfl, rfl⟩ := hc
      obtain ⟨hp, _, _⟩ := read_of h k hw hk
      have hfit : d.length ≤ r.buflen - r.datalen :=
        (hf r.datalen (r.buflen - r.datalen) Percival.Gen.Netbuf.readMin (by simp [request, hp])).2
      obtain ⟨r', e, hr⟩ := net_data_rel h k hw hk d hd0 hfit
      refine ⟨r', ?_, hr⟩
      rw [step_net e]
      split <;> rfl

theorem run_cons {a a' : Reader} {op : ROp} {ops : List ROp} {outs : List ROut}
    (h : a.run (op :: ops) = some (a', outs)) :
    ∃ a1 o os, a.step op = some (a1, o) ∧ a1.run ops = some (a', os) ∧ outs = o :: os := by
  simp only [Reader.run] at h
  split at h
  · cases h
  · rename_i a1 o hs
    split at h
    · cases h
    · rename_i a2 os hr
      cases h
      exact ⟨a1, o, os, hs, hr, rfl⟩

theorem run_refines (ops : List ROp) : ∀ {r : R} {a a' : Reader} {outs : List ROut}, Rel r a →
    a.run ops = some (a', outs) → transportOK r ops →
    ∃ r', run r ops = .ok (r', outs) ∧ Rel r' a' := by
  induction ops with
  | nil =>
    intro r a a' outs h hr _
    simp only [Reader.run, Option.some.injEq, Prod.mk.injEq] at hr
    obtain ⟨rfl, rfl⟩ := hr
    exact ⟨r, rfl, h⟩
  | cons op ops ih =>
    intro r a a' outs h hr ht
    obtain ⟨a1, o, os, hs, hr2, rfl⟩ := run_cons hr
    obtain ⟨hf, hnext⟩ := ht
    obtain ⟨r1, e1, h1, -⟩ := step_refines h hs hf
    obtain ⟨r2, e2, h2⟩ := ih h1 hr2 (hnext r1 o e1)
    exact ⟨r2, by simp [run, e1, e2], h2⟩

theorem spec_history (ops : List ROp) : ∀ {a a' : Reader} {outs : List ROut}, a.run ops = some (a', outs) →
    a'.received = a.received ++ delivered ops ∧ a'.consumed = a.consumed + consumedBy ops := by
  induction ops with
  | nil =>
    intro a a' outs h
    simp only [Reader.run, Option.some.injEq, Prod.mk.injEq] at h
    obtain ⟨rfl, _⟩ := h
    simp [delivered, consumedBy]
  | cons op ops ih =>
    intro a a' outs h
    obtain ⟨a1, o, os, hs, hr, -⟩ := run_cons h
    obtain ⟨h3, h4⟩ := ih hr
    have hc := step_cases hs
    -- what `op` adds to `received` / `consumed` it adds to `delivered` / `consumedBy`
    cases op with
    | wait k => obtain ⟨_, rfl, _⟩ := hc; exact ⟨h3, h4⟩
    | peek | cancel => obtain ⟨rfl, _⟩ := hc; exact ⟨h3, h4⟩
    | fire => obtain ⟨k, _, _, rfl, _⟩ := hc; exact ⟨h3, h4⟩
    | consume j => obtain ⟨_, _, rfl, _⟩ := hc; exact ⟨h3, h4.trans (Nat.add_assoc _ _ _)⟩
    | net ev =>
      obtain ⟨k, _, _, hc⟩ := hc
      cases ev with
      | err | eof => obtain ⟨rfl, _⟩ := hc; exact ⟨h3, h4⟩
      | data d =>
        obtain ⟨_, e1, _⟩ := hc
        have e : a1.received = a.received ++ d ∧ a1.consumed = a.consumed := by
          rw [e1]; split <;> exact ⟨rfl, rfl⟩
        rw [e.1] at h3
        rw [e.2] at h4
        exact ⟨h3.trans (List.append_assoc _ _ _), h4⟩

theorem visible_of_run {ops : List ROp} {a : Reader} {outs : List ROut} (hs : Reader.init.run ops = some (a, outs)) :
    a.visible = (delivered ops).drop (consumedBy ops) := by
  obtain ⟨h1, h2⟩ := spec_history ops hs
  rw [Reader.visible, h1, h2]
  simp [Reader.init]

theorem transportOK_of_b (ops : List ROp) : ∀ (r : R), transportOKb r ops = true → transportOK r ops := by
  induction ops with
  | nil => intro _ _; trivial
  | cons op ops ih =>
    intro r h
    simp only [transportOKb, Bool.and_eq_true] at h
    obtain ⟨hf, hn⟩ := h
    refine ⟨?_, ?_⟩
    · cases op with
      | net ev =>
        cases ev with
        | data d =>
          intro off len min hreq
          simp only [fitsb, hreq, Bool.and_eq_true, decide_eq_true_eq] at hf
          exact hf
        | _ => trivial
      | _ => trivial
    · intro r' o e
      rw [e] at hn
      exact ih r' hn

/-- for concrete examples: the hypotheses of the property theorems from two evaluations -/
theorem hyps_of_eval {ops : List ROp} (h1 : (Reader.init.run ops).isSome = true)
    (h2 : transportOKb init ops = true) :
    (∃ a outs, Reader.init.run ops = some (a, outs)) ∧ transportOK init ops := by
  obtain ⟨⟨a, outs⟩, e⟩ := Option.isSome_iff_exists.1 h1
  exact ⟨⟨a, outs, e⟩, transportOK_of_b _ _ h2⟩

/-! ## Checking the hypotheses of a concrete run

Whether every completion fits the request outstanding when it arrives depends on the buffer through its size and read
position only, and `geoAfter` follows these beside the abstract reader: the hypotheses of the theorems of
`Properties/C07.lean` about a concrete sequence are decided without the model's buffers (4096 bytes and more). -/

def fitsIn (room : Nat) : ROp → Bool
  | .net (.data d) => decide (d.length ≤ room)
  | _ => true

def okRun (buflen bufpos : Nat) (a : Reader) : List ROp → Bool
  | [] => true
  | op :: ops =>
    fitsIn (buflen - bufpos - a.visible.length) op &&
    match a.step op with
    | some (a', _) => okRun (geoAfter buflen bufpos a op).1 (geoAfter buflen bufpos a op).2 a' ops
    | none => false

theorem okRun_sound (ops : List ROp) : ∀ {r : R} {a : Reader}, Rel r a → okRun r.buflen r.bufpos a ops = true →
    (∃ a' outs, a.run ops = some (a', outs)) ∧ transportOK r ops := by
  induction ops with
  | nil => intro r a _ _; exact ⟨⟨a, [], rfl⟩, trivial⟩
  | cons op ops ih =>
    intro r a h hs
    rw [okRun, Bool.and_eq_true] at hs
    obtain ⟨hroom, hs⟩ := hs
    cases hst : a.step op with
    | none => rw [hst] at hs; cases hs
    | some p =>
      obtain ⟨a1, o⟩ := p
      rw [hst] at hs
      have hf : fits r op := by
        cases op with
        | net ev =>
          cases ev with
          | data d =>
            intro off len min hreq
            obtain ⟨k, hw, hk, hd0, -⟩ := step_cases hst
            obtain ⟨hp, -, -⟩ := read_of h k hw hk
            simp only [request, hp, Option.some.injEq, Prod.mk.injEq] at hreq
            obtain ⟨-, rfl, rfl⟩ := hreq
            have := h.avail
            have := h.geo.pos
            have := of_decide_eq_true hroom
            exact ⟨by show 1 ≤ d.length; omega, by omega⟩
          | _ => trivial
        | _ => trivial
      obtain ⟨r1, e1, h1, hg⟩ := step_refines h hst hf
      rw [← hg] at hs
      obtain ⟨⟨a2, outs, e2⟩, ht⟩ := ih h1 hs
      exact ⟨⟨a2, o :: outs, by simp [Reader.run, hst, e2]⟩, hf, fun r' o' e' => by rw [e1] at e'; cases e'; exact ht⟩

/-- for concrete runs: the hypotheses of the theorems about the reader from one evaluation -/
theorem hyps_of_sizes {ops : List ROp} (h : okRun init.buflen init.bufpos Reader.init ops = true) :
    (∃ a outs, Reader.init.run ops = some (a, outs)) ∧ transportOK init ops :=
  okRun_sound ops rel_init h

end Percival.Proofs.NetbufRead
