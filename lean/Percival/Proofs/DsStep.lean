import Percival.Proofs.DsFrame
import Percival.Proofs.SeqMap
/-!
# The monitor accepts every answer of the model (C12, C14)

`Rel` relates the state of `Model.DsStep.stepOp` to the state of the monitor `Spec.DSMon.monStep`: every container
that exists satisfies its invariant, stays below the harness' allocation cap, and the monitor holds its abstraction;
the live blocks of the oracle are accounted for.  `mon_step`: from related states the monitor accepts the model's
answer to any operation the generators produce and the states are related again; `mon_run`: whole cases.  The
per-line equations `stepOp = container step` are in `Proofs/DsLines.lean`; what a container step does to the allocation
oracle is `EArray.Acct` (proved next to each container function), read under the harness' cap in `Proofs/DsFrame.lean`.
-/
namespace Percival.Proofs.DsStep
open Percival.Model Percival.Model.DsStep Percival.Spec.DS Percival.Spec.DSMon
open Percival.Proofs.EArray
open Percival.Proofs.MemCalls (Calls calls_free)

def eaBlk : Option EArray.EA → Int
  | some a => 1 + bufBlocks a | none => 0
def eqBlk : Option EQueue.EQ → Int
  | some q => 2 + bufBlocks q.ea | none => 0
def smBlk : Option SeqMap.SM → Int
  | some x => 3 + bufBlocks x.q.ea | none => 0

def EaRel : Option EArray.EA → Option EaIdeal → Prop
  | some a, i => Inv a ∧ a.alloc ≤ cap ∧ i = some (EArray.abs a)
  | none, i => i = none

def EqRel : Option EQueue.EQ → Option (List (List UInt8)) → Nat → Prop
  | some q, i, eqr => EQueue.QInv q ∧ q.ea.alloc ≤ cap ∧ q.reclen.val + cap ≤ SIZE_MAX ∧ i = some (EQueue.abs q) ∧
      eqr = q.reclen.val
  | none, i, _ => i = none

/-- `n`: an upper bound for the numbers the map has issued (the number of protocol operations so far) -/
def SmRel (n : Nat) : Option SeqMap.SM → Option SmIdeal → Prop
  | some x, i => SeqMap.MInv x ∧ x.q.ea.alloc ≤ cap ∧ x.offset + x.len ≤ n ∧ i = some (SeqMap.abs x)
  | none, i => i = none

/-- the library blocks a pool accounts for: its objects in use, its cache, its stack array once allocated -/
def poolBlk (pu : MPool.MP × List Nat) : Int := pu.2.length + pu.1.stack.length + (if pu.1.dyn then 1 else 0)

/-- the blocks of the pools that are not in use -/
def parkedBlk (cur : Nat) (parked : Nat → MPool.MP × List Nat) : Int :=
  ((otherSizes cur).map fun k => poolBlk (parked k)).sum

/-- **the pools of the process**: the pool in use satisfies the single-pool simulation relation `MPool.R`, the blocks
of the other pools being part of "what has nothing to do with this pool"; every parked entry satisfies it too (for
it everything else is its base) -/
structure PR (p : MPool.MP) (m : Mem) (u : List Nat) (cur : Nat) (parked : Nat → MPool.MP × List Nat) (base : Int) :
    Prop where
  here : MPool.R p m u (base + parkedBlk cur parked)
  size : poolSizes.contains cur = true
  parked : ∀ k, MPool.R (parked k).1 m (parked k).2 (m.live - poolBlk (parked k))

/-- **reachable pairs (model state, monitor state)** after `n` operations: the oracle never grants more than `cap`
bytes; each container that exists satisfies its invariant and the monitor holds exactly its abstraction; the number
of live blocks is accounted for: structure + buffer of each container, pool objects in use, cached objects, the pools' stacks (every pool of the process:
`PR`); the monitor's sets of objects in use are the harness', pool by pool. -/
structure Rel (n : Nat) (s : DsStep.S) (ms : Spec.DSMon.S) : Prop where
  capped : Capped s.m
  ea : EaRel s.ea ms.ea
  eq : EqRel s.eq ms.eq ms.eqr
  sm : SmRel n s.sm ms.sm
  mp : PR s.mp s.m s.inUse s.mpSize s.parked (eaBlk s.ea + eqBlk s.eq + smBlk s.sm)
  inUse : ms.inUse = s.inUse ∧ ms.mpSize = s.mpSize ∧ ∀ k, ms.parkedU k = (s.parked k).2

theorem SmRel.mono {n n' : Nat} (h : n ≤ n') {o : Option SeqMap.SM} {i : Option SmIdeal} (hr : SmRel n o i) :
    SmRel n' o i := by
  cases o with
  | none => exact hr
  | some x => exact ⟨hr.1, hr.2.1, by have := hr.2.2.1; omega, hr.2.2.2⟩

theorem R_self {p : MPool.MP} {m : Mem} {u : List Nat} {base : Int} (h : MPool.R p m u base) :
    MPool.R p m u (m.live - poolBlk (p, u)) :=
  ⟨h.nodup, h.unodup, h.disj, h.sfresh, h.ufresh, h.slen, by simp only [poolBlk]; omega⟩

theorem PR_transport {p : MPool.MP} {m m' : Mem} {u : List Nat} {cur : Nat} {pk : Nat → MPool.MP × List Nat}
    {base base' : Int} (h : PR p m u cur pk base) (e : Ext m m') (hl : m'.live + base = m.live + base') :
    PR p m' u cur pk base' :=
  ⟨R_transport h.here e (by omega), h.size, fun k => R_transport (h.parked k) e (by omega)⟩

/-- a step of the pool in use: the parked pools are not touched -/
theorem PR_step {p p' : MPool.MP} {m m' : Mem} {u u' : List Nat} {cur : Nat} {pk : Nat → MPool.MP × List Nat}
    {base : Int} (h : PR p m u cur pk base) (e : Ext m m') (hR : MPool.R p' m' u' (base + parkedBlk cur pk)) :
    PR p' m' u' cur pk base :=
  ⟨hR, h.size, fun k => R_transport (h.parked k) e (by omega)⟩

theorem init_parked_R (m : Mem) (k : Nat) :
    MPool.R (MPool.init k, ([] : List Nat)).1 m (MPool.init k, ([] : List Nat)).2
      (m.live - poolBlk (MPool.init k, [])) := by
  have := MPool.init_R k m
  exact R_self this

theorem parkedBlk_init (cur : Nat) : parkedBlk cur (fun k => (MPool.init k, [])) = 0 := by
  simp only [parkedBlk, poolBlk, MPool.init]
  induction otherSizes cur with
  | nil => rfl
  | cons a l ih => simpa using ih

theorem rel_init : Rel 0 {} {} :=
  ⟨by intro i sz h; simp [sched] at h; exact h, rfl, rfl, rfl,
   ⟨by rw [parkedBlk_init]; exact MPool.init_R 4 _, by decide, fun k => init_parked_R _ k⟩, rfl, rfl, fun _ => rfl⟩

variable {n : Nat} {s : DsStep.S} {ms : Spec.DSMon.S}

/-- the array component and the oracle change, the blocks left allocated being those of the array: the rest of `Rel`
stands (likewise `Rel.set_eq`, `Rel.set_sm`) -/
theorem Rel.set_ea (h : Rel n s ms) {m' : Mem} {oa : Option EArray.EA} {oi : Option EaIdeal}
    (c : Calls s.m m' (eaBlk oa - eaBlk s.ea)) (hr : EaRel oa oi) :
    Rel (n + 1) { s with m := m', ea := oa } { ms with ea := oi } :=
  ⟨h.capped.ext c.ext, hr, h.eq, h.sm.mono (Nat.le_succ _), PR_transport h.mp c.ext
    (by have := c.live; show m'.live + _ = _ + (eaBlk oa + eqBlk s.eq + smBlk s.sm); omega), h.inUse⟩

theorem Rel.set_eq (h : Rel n s ms) {m' : Mem} {oq : Option EQueue.EQ} {oi : Option (List (List UInt8))} {r : Nat}
    (c : Calls s.m m' (eqBlk oq - eqBlk s.eq)) (hr : EqRel oq oi r) :
    Rel (n + 1) { s with m := m', eq := oq } { ms with eq := oi, eqr := r } :=
  ⟨h.capped.ext c.ext, h.ea, hr, h.sm.mono (Nat.le_succ _), PR_transport h.mp c.ext
    (by have := c.live; show m'.live + _ = _ + (eaBlk s.ea + eqBlk oq + smBlk s.sm); omega), h.inUse⟩

theorem Rel.set_sm (h : Rel n s ms) {m' : Mem} {ox : Option SeqMap.SM} {oi : Option SmIdeal}
    (c : Calls s.m m' (smBlk ox - smBlk s.sm)) (hr : SmRel (n + 1) ox oi) :
    Rel (n + 1) { s with m := m', sm := ox } { ms with sm := oi } :=
  ⟨h.capped.ext c.ext, h.ea, h.eq, hr, PR_transport h.mp c.ext
    (by have := c.live; show m'.live + _ = _ + (eaBlk s.ea + eqBlk s.eq + smBlk ox); omega), h.inUse⟩

/-- the oracle and the pools change, the containers stay (none of `EaRel`, `EqRel`, `SmRel` mentions the oracle) -/
theorem Rel.set_pools (h : Rel n s ms) {m' : Mem} {p' : MPool.MP} {u' : List Nat} {cur' : Nat}
    {pk' : Nat → MPool.MP × List Nat} {pu : Nat → List Nat} (hc : Capped m')
    (hR : PR p' m' u' cur' pk' (eaBlk s.ea + eqBlk s.eq + smBlk s.sm)) (hpu : ∀ k, pu k = (pk' k).2) :
    Rel (n + 1) { s with m := m', mp := p', inUse := u', mpSize := cur', parked := pk' }
      { ms with inUse := u', mpSize := cur', parkedU := pu } :=
  ⟨hc, h.ea, h.eq, h.sm.mono (Nat.le_succ _), hR, rfl, rfl, hpu⟩

def eaF (o : Option EArray.EA) (m : Mem) : Mem := match o with | some a => EArray.free a m | none => m
def eqF (o : Option EQueue.EQ) (m : Mem) : Mem := match o with | some q => EQueue.free q m | none => m
def smF (o : Option SeqMap.SM) (m : Mem) : Mem := match o with | some x => SeqMap.free x m | none => m

theorem eaF_calls (o : Option EArray.EA) (m : Mem) : Calls m (eaF o m) (-eaBlk o) := by
  cases o with
  | none => exact Calls.refl m
  | some a => exact (EArray.free_calls a m).cast (by simp only [eaBlk]; omega)
theorem eqF_calls (o : Option EQueue.EQ) (m : Mem) : Calls m (eqF o m) (-eqBlk o) := by
  cases o with
  | none => exact Calls.refl m
  | some q => exact (EQueue.free_calls q m).cast (by simp only [eqBlk]; omega)
theorem smF_calls (o : Option SeqMap.SM) (m : Mem) : Calls m (smF o m) (-smBlk o) := by
  cases o with
  | none => exact Calls.refl m
  | some x => exact (SeqMap.free_calls x m).cast (by simp only [smBlk]; omega)

theorem rf_pos {m m' : Mem} (e : m.refusals ≤ m'.refusals) : decide (rf m m' > 0) = (m'.refusals != m.refusals) := by
  simp only [rf]
  by_cases h : m'.refusals = m.refusals
  · simp [h]
  · have : m'.refusals - m.refusals > 0 := by omega
    simp [h, this]

/-- reading the printed array line back gives the observed answer -/
theorem eaAns_out (an : EaAns) (m m' mEnd : Mem) (hst : an.st ≠ .oob) (hrf : an.refused = decide (rf m m' > 0)) :
    eaAns (eaOutOf an m m' mEnd).ans = some an := by
  obtain ⟨st, size, alloc, refused, out⟩ := an
  simp only at hst hrf
  subst hrf
  cases out with
  | none => cases st <;> first | rfl | exact absurd rfl hst
  | some p => cases st <;> first | rfl | exact absurd rfl hst

theorem eaOutOf_not_skip (an : EaAns) (m m' mEnd : Mem) : (eaOutOf an m m' mEnd).ans.isJust .skip = false := by
  obtain ⟨st, size, alloc, refused, out⟩ := an
  cases out <;> cases st <;> rfl

/-- the array operation the *monitor* judges (differs from `eaOpOf` only in the fill of a resize no allocation can
hold) -/
def monEaOpOf (len : Nat) : Op → Option EaOp
  | .eaResize n reclen seed => (mkRecLen reclen).map fun r =>
      .resize n r (if n * r.val ≤ dataMax then patBytes seed (n * r.val - len) else [])
  | op => eaOpOf len op

theorem mon_ea (ms : Spec.DSMon.S) (i : EaIdeal) (hms : ms.ea = some i) (op : Op) (e : EaOp)
    (he : monEaOpOf i.bytes.length op = some e) (A : Ans) (hskip : A.isJust .skip = false) :
    ∃ why, monStep ms op A = eaJudge ms i e A why := by
  cases op <;> simp only [monEaOpOf, eaOpOf, Option.map_eq_some_iff, reduceCtorEq, Option.some.injEq] at he
  case eaTrunc => subst he; exact ⟨_, by simp only [monStep, hms]; rfl⟩
  all_goals
    obtain ⟨r, hr, rfl⟩ := he
    exact ⟨_, by simp only [monStep, hms, hr, hskip, Bool.false_eq_true, if_false]; rfl⟩

theorem eaJudge_accept (ms : Spec.DSMon.S) (i i' : EaIdeal) (e : EaOp) (A : Ans) (why : String) (an : EaAns)
    (h1 : eaAns A = some an) (h2 : eaAdmit i e an = some i') :
    eaJudge ms i e A why = ({ ms with ea := some i' }, none) := by
  simp [eaJudge, h1, h2]

theorem ea_step_refused (a : EArray.EA) (e : EaOp) (m : Mem) :
    (EArray.step a e m).1.refused = ((EArray.step a e m).2.2.refusals != m.refusals) := by
  cases e <;> simp only [EArray.step] <;> (repeat' split) <;> rfl

theorem eaHarnessFree_refusals (e : EaOp) (an : EaAns) (m' : Mem) : (eaHarnessFree e an m').refusals = m'.refusals := by
  unfold eaHarnessFree; split <;> rfl

def StepGoal (n : Nat) (s : DsStep.S) (ms : Spec.DSMon.S) (op : Op) : Prop :=
  (monStep ms op (stepOp s op).2.ans).2 = none ∧
  Rel (n + 1) (stepOp s op).1 (monStep ms op (stepOp s op).2.ans).1

theorem ea_accept_core (h : Rel n s ms) {a : EArray.EA}
    (hs : s.ea = some a) {op : Op} {e emon : EaOp} (he : eaOpOf a.size op = some e)
    (hem : monEaOpOf a.size op = some emon)
    (hInv' : Inv (EArray.step a e s.m).2.1)
    (hadm : eaAdmit (EArray.abs a) emon (EArray.step a e s.m).1 = some (EArray.abs (EArray.step a e s.m).2.1)) :
    StepGoal n s ms op := by
  have hea := h.ea
  rw [hs] at hea
  obtain ⟨hinv, hcap, hms⟩ := hea
  have hno := eaAdmit_not_oob hadm
  have ac := ea_step_acct a e s.m hno
  have hrfs := ac.ext.2.2
  rw [eaHarnessFree_refusals] at hrfs
  unfold StepGoal
  rw [ea_stepOp s a hs op e he hno]
  obtain ⟨why, hmon⟩ := mon_ea ms (EArray.abs a) hms op emon (by rw [abs_length hinv]; exact hem)
    (eaOutOf (EArray.step a e s.m).1 s.m (EArray.step a e s.m).2.2
      (eaHarnessFree e (EArray.step a e s.m).1 (EArray.step a e s.m).2.2)).ans (eaOutOf_not_skip _ _ _ _)
  rw [hmon, eaJudge_accept ms _ _ emon _ why _
    (eaAns_out _ _ _ _ hno (by rw [ea_step_refused, rf_pos hrfs])) hadm]
  exact ⟨rfl, h.set_ea (ac.calls.cast (by rw [hs]; simp only [eaBlk]; omega)) ⟨hInv', ac.bound cap h.capped hcap, rfl⟩⟩

theorem patBytes_length (seed n : Nat) : (patBytes seed n).length = n := by simp [patBytes]

theorem mk_some {reclen : Nat} (hr : 0 < reclen) : mkRecLen reclen = some ⟨reclen, hr⟩ := by simp [mkRecLen, hr]

theorem ea_simple_accept (h : Rel n s ms) {a : EArray.EA}
    (hs : s.ea = some a) {op : Op} {e : EaOp} (he : eaOpOf a.size op = some e)
    (hem : monEaOpOf a.size op = eaOpOf a.size op) (hc : eaContract (EArray.abs a) e) : StepGoal n s ms op := by
  have hea := h.ea
  rw [hs] at hea
  have hst := EArray.step_ok a e s.m hea.1 hc
  exact ea_accept_core h hs he (hem.trans he) hst.1 hst.2

/-- a resize no allocation can hold fails, and the ideal array's verdict on a failure does not look at the bytes the
caller would have written: the monitor may judge it with no such bytes -/
theorem ea_resize_accept (h : Rel n s ms) {a : EArray.EA}
    (hs : s.ea = some a) (k reclen seed : Nat) (hr : 0 < reclen) : StepGoal n s ms (.eaResize k reclen seed) := by
  have hea := h.ea
  rw [hs] at hea
  obtain ⟨hinv, hcap, hms⟩ := hea
  have hmk := mk_some hr
  have hc : eaContract (EArray.abs a) (.resize k ⟨reclen, hr⟩ (patBytes seed (k * reclen - a.size))) := by
    intro _; rw [abs_length hinv, patBytes_length]
  by_cases hle : k * reclen ≤ dataMax
  · exact ea_simple_accept h hs (by simp [eaOpOf, hmk]) (by simp [monEaOpOf, eaOpOf, hmk, hle]) hc
  · have hst := EArray.step_ok a _ s.m hinv hc
    refine ea_accept_core h hs (e := .resize k ⟨reclen, hr⟩ (patBytes seed (k * reclen - a.size)))
      (emon := .resize k ⟨reclen, hr⟩ []) (by simp [eaOpOf, hmk]) (by simp [monEaOpOf, hmk, hle]) hst.1 ?_
    rw [← hst.2]
    simp only [eaAdmit, ea_step_resize_fail _ (resizeRec_big_fails a k ⟨reclen, hr⟩ s.m h.capped hcap
      (by rw [cap_eq]; rw [dataMax_eq] at hle; exact Nat.lt_of_not_le hle))]

/-- an append no allocation can hold: the harness passes a one-byte dummy buffer, which is never read -/
theorem ea_append_accept (h : Rel n s ms) {a : EArray.EA}
    (hs : s.ea = some a) (k reclen seed : Nat) (hr : 0 < reclen) : StepGoal n s ms (.eaAppend k reclen seed) := by
  have hea := h.ea
  rw [hs] at hea
  obtain ⟨hinv, hcap, hms⟩ := hea
  have hmk := mk_some hr
  have hc : eaContract (EArray.abs a) (.append (patBytes seed (k * reclen)) k ⟨reclen, hr⟩) := fun _ => patBytes_length _ _
  by_cases hle : k ≤ dataMax / reclen
  · exact ea_simple_accept h hs (by simp [eaOpOf, hmk, hle]) rfl hc
  · have hst := EArray.step_ok a _ s.m hinv hc
    have hbig := append_big_fails a k ⟨reclen, hr⟩ s.m h.capped hcap
      (by rw [cap_eq]; rw [dataMax_eq] at hle; exact (Nat.div_lt_iff_lt_mul hr).1 (Nat.lt_of_not_le hle))
    have hstep : EArray.step a (.append [0] k ⟨reclen, hr⟩) s.m =
        EArray.step a (.append (patBytes seed (k * reclen)) k ⟨reclen, hr⟩) s.m := by
      simp only [EArray.step, (hbig [0]).1, (hbig (patBytes seed (k * reclen))).1]
    refine ea_accept_core h hs (e := .append [0] k ⟨reclen, hr⟩) (emon := .append [0] k ⟨reclen, hr⟩)
      (by simp [eaOpOf, hmk, hle]) (by simp [monEaOpOf, eaOpOf, hmk, hle]) (by rw [hstep]; exact hst.1) ?_
    rw [hstep, ← hst.2]
    simp only [eaAdmit, show (EArray.step a (.append (patBytes seed (k * reclen)) k ⟨reclen, hr⟩) s.m).1.st = .fail from
      (hbig _).2]

theorem Rel.mono (h : Rel n s ms) : Rel (n + 1) s ms :=
  ⟨h.capped, h.ea, h.eq, h.sm.mono (Nat.le_succ _), h.mp, h.inUse⟩

/-- a line the model answers with a bare word, leaving its state alone, and the monitor accepts, leaving its
state alone -/
theorem word_accept (h : Rel n s ms) {op : Op} (w : Word)
    (h1 : stepOp s op = (s, .word w))
    (h2 : monStep ms op { head := headOfWord w, ntoks := 1 } = (ms, none)) : StepGoal n s ms op := by
  unfold StepGoal
  rw [h1, Out.ans_word, h2]
  exact ⟨rfl, h.mono⟩

theorem isJust_skip : ({ head := .skip, ntoks := 1 } : Ans).isJust .skip = true := by decide

/-- `ea_get` / `ea_set`: a record inside the contents is the container step, any other is answered `skip` by the model
(`ea_stepOp_skip`) and the monitor expects exactly that -/
theorem ea_inside_accept (h : Rel n s ms) {a : EArray.EA} (hs : s.ea = some a) (op : Op) (pos reclen seed : Nat)
    (hop : op = .eaGet pos reclen ∨ op = .eaSet pos reclen seed) : StepGoal n s ms op := by
  have hea := h.ea
  rw [hs] at hea
  obtain ⟨hinv, hcap, hms⟩ := hea
  have hlen := abs_length hinv
  by_cases hin : 0 < reclen ∧ pos * reclen + reclen ≤ a.size
  · have hmk := mk_some hin.1
    rcases hop with rfl | rfl
    · exact ea_simple_accept h hs (e := .get pos ⟨reclen, hin.1⟩) (by simp [eaOpOf, hmk]) rfl
        (by simp only [eaContract, hlen]; exact hin.2)
    · exact ea_simple_accept h hs (e := .set pos ⟨reclen, hin.1⟩ (patBytes seed reclen)) (by simp [eaOpOf, hmk]) rfl
        (by simp only [eaContract, hlen]; exact ⟨hin.2, patBytes_length _ _⟩)
  · refine word_accept h .skip ?_ ?_
    · by_cases hr : 0 < reclen
      · have hsk := ea_stepOp_skip s a hs pos reclen seed _ (mk_some hr)
        rcases hop with rfl | rfl
        · refine hsk.1 ?_
          simp only [EArray.step, EArray.getRec]; rw [if_neg fun hh => hin ⟨hr, hh⟩]; rfl
        · refine hsk.2 ?_
          simp only [EArray.step, EArray.setRec]; rw [if_neg fun hh => hin ⟨hr, hh.1⟩]; rfl
      · have : mkRecLen reclen = none := by simp [mkRecLen, hr]
        rcases hop with rfl | rfl <;> simp [stepOp, onEa, hs, this]
    · rcases hop with rfl | rfl <;>
        simp only [monStep, hms, headOfWord, isJust_skip, if_true, hlen, gt_iff_lt, hin, if_false]

theorem ea_free_accept (h : Rel n s ms) {a : EArray.EA}
    (hs : s.ea = some a) : StepGoal n s ms .eaFree := by
  have hea := h.ea
  rw [hs] at hea
  unfold StepGoal
  simp only [stepOp, onEa, hs, monStep, hea.2.2, Out.ans]
  exact ⟨by decide, h.set_ea ((EArray.free_calls a s.m).cast (by rw [hs]; simp only [eaBlk]; omega)) rfl⟩

theorem ea_dump_accept (h : Rel n s ms) {a : EArray.EA}
    (hs : s.ea = some a) : StepGoal n s ms .eaDump := by
  have hea := h.ea
  rw [hs] at hea
  obtain ⟨hinv, hcap, hms⟩ := hea
  have hsh := (eaCheck_some (shape_abs hinv .ok s.m s.m (some (a.buf.take a.size, a.size)))).2
  have hlen := abs_length hinv
  have e : eaOut .ok a s.m s.m (some (a.size, a.buf.take a.size)) s.m =
      eaOutOf (EArray.ans .ok a s.m s.m (some (a.buf.take a.size, a.size))) s.m s.m s.m := rfl
  have hA := eaAns_out (EArray.ans .ok a s.m s.m (some (a.buf.take a.size, a.size))) s.m s.m s.m (by simp [EArray.ans])
    (by simp [EArray.ans, rf_self])
  unfold StepGoal
  simp only [stepOp, onEa, hs, monStep, hms, e, hA, hsh]
  rw [if_pos ⟨rfl, by rw [hlen]; rfl, trivial⟩]
  exact ⟨rfl, h.mono⟩

theorem ea_export_accept (h : Rel n s ms) {a : EArray.EA}
    (hs : s.ea = some a) (reclen : Nat) (hr : 0 < reclen) : StepGoal n s ms (.eaExport reclen) := by
  have hea := h.ea
  rw [hs] at hea
  obtain ⟨hinv, hcap, hms⟩ := hea
  have hmk := mk_some hr
  have hlen := abs_length hinv
  have hts := truncate_spec a s.m hinv
  obtain ⟨ac, hrf, hfail⟩ := truncate_acct a s.m
  unfold StepGoal
  simp only [stepOp, onEa, hs, hmk, monStep, hms, EArray.exportBuf]
  rcases hres : EArray.truncate a s.m with ⟨ok, a', m'⟩
  rw [hres] at hts ac hrf hfail
  obtain ⟨hinv', hok⟩ := hts
  simp only at hinv' hok hfail hrf ac
  cases ok
  · -- refused: array unchanged
    obtain rfl := hfail rfl
    have e : eaOut .fail a' s.m m' none m' = eaOutOf (EArray.ans .fail a' s.m m' none) s.m m' m' := rfl
    have hA := eaAns_out (EArray.ans .fail a' s.m m' none) s.m m' m' (by simp [EArray.ans])
      (by rw [rf_pos ac.ext.2.2]; rfl)
    have hsh := (eaCheck_some (shape_abs hinv .fail s.m m' none)).2
    have hhead : (eaOutOf (EArray.ans St.fail a' s.m m' none) s.m m' m').ans.head = .fail := rfl
    simp only [e, hA, hhead, hsh]
    rw [if_pos ⟨rfl, by simp [EArray.ans, hrf], trivial⟩]
    exact ⟨rfl, h.set_ea (oi := ms.ea) (ac.calls.cast (by rw [hs]; omega)) ⟨hinv, hcap, hms⟩⟩
  · obtain ⟨hsz, hal, hbuf⟩ := hok rfl
    simp only [Out.ans]
    have hb : a'.buf.take a'.size = (EArray.abs a).bytes := by
      rw [hbuf, hsz, List.take_take, Nat.min_self]; rfl
    rw [if_pos ⟨hb, by rw [hlen]; simp [EArray.getsize, hsz]⟩]
    refine ⟨rfl, h.set_ea (((ac.calls.trans (calls_free m' false)).trans (calls_free _ (a'.alloc == 0))).cast ?_) rfl⟩
    rw [hs]
    simp only [eaBlk, bufBlocks]
    by_cases h0 : a'.alloc = 0 <;> simp [h0] <;> omega

theorem stepOp_eaInit (s : DsStep.S) (k reclen seed : Nat) (r : RecLen) (hmk : mkRecLen reclen = some r) :
    stepOp s (.eaInit k reclen seed) =
      match EArray.init k r (eaF s.ea s.m) with
      | (none, m') => ({ s with m := m', ea := none }, .initFail (rf (eaF s.ea s.m) m') (l2c (eaF s.ea s.m) m'))
      | (some a, m') =>
        let a := match EArray.fillFrom a 0 (patBytes seed a.size) with | some a' => a' | none => a
        ({ s with m := m', ea := some a }, eaOut .ok a (eaF s.ea s.m) m' none m') := by
  simp only [stepOp, hmk]; rfl

theorem ea_init_accept (h : Rel n s ms) (k reclen seed : Nat)
    (hr : 0 < reclen) : StepGoal n s ms (.eaInit k reclen seed) := by
  have c0 := eaF_calls s.ea s.m
  have hmk := mk_some hr
  unfold StepGoal
  rw [stepOp_eaInit s k reclen seed _ hmk]
  generalize eaF s.ea s.m = m0 at *
  have hsp := EArray.init_full k ⟨reclen, hr⟩ m0
  rcases hres : EArray.init k ⟨reclen, hr⟩ m0 with ⟨oa, m'⟩
  rw [hres] at hsp
  cases oa with
  | none =>
    dsimp only
    simp only [Out.ans]
    simp only [monStep]
    have : (some (rf m0 m')).getD 0 > 0 ∨ k * reclen > Percival.Spec.DS.SIZE_MAX := by
      rcases hsp.2 with h1 | h1
      · left; simp only [Option.getD_some, rf]; omega
      · right; rw [← SIZE_MAX_same]; exact (guard_iff k ⟨reclen, hr⟩).1 h1
    rw [if_pos this]
    exact ⟨rfl, h.set_ea ((c0.trans hsp.1).cast (by show _ = 0 - _; omega)) rfl⟩
  | some a =>
    obtain ⟨hinv, htight, hsz, -, hc, -, hb⟩ := hsp
    obtain ⟨a'', hfl, hsz'', hal'', hinv'', hbytes⟩ :=
      fillFrom_spec (a' := a) (old := 0) (fill := patBytes seed a.size) hinv (by rw [patBytes_length]; rfl)
    dsimp only
    simp only [hfl]
    have habs : ({ bytes := patBytes seed (k * reclen), loose := false } : EaIdeal) = EArray.abs a'' := by
      apply abs_eq
      · rw [hbytes]; simp [hsz]
      · simp only [Tight, hsz'', hal'']; exact htight
    have e : eaOut .ok a'' m0 m' none m' = eaOutOf (EArray.ans .ok a'' m0 m' none) m0 m' m' := rfl
    have hA := eaAns_out (EArray.ans .ok a'' m0 m' none) m0 m' m' (by simp [EArray.ans]) (by rw [rf_pos hc.step.r]; rfl)
    have hsh := (eaCheck_some (shape_abs hinv'' .ok m0 m' none)).2
    have hhead : (eaOutOf (EArray.ans St.ok a'' m0 m' none) m0 m' m').ans.head = .ok := rfl
    have hcap := hb cap (h.capped.ext c0.ext)
    have hsmall : ¬ k * reclen > dataMax := by
      have := hinv.le; simp only [cap_eq, dataMax_eq] at *; omega
    simp only [monStep, e, hhead, hA, hsmall, if_false, habs, hsh]
    rw [if_pos ⟨rfl, trivial⟩]
    have hbb : bufBlocks a'' = bufBlocks a := by simp only [bufBlocks, hal'']
    exact ⟨rfl, h.set_ea ((c0.trans hc).cast (by show _ = (1 + bufBlocks a'') - _; omega))
      ⟨hinv'', by rw [hal'']; exact hcap, rfl⟩⟩

theorem eqExtraOf_some (e : EqOp) (st : St) (rfd : Bool) (len : Nat) (b : List UInt8) :
    eqExtraOf e ⟨st, rfd, len, some b⟩ = .record b := by cases e <;> rfl

theorem eqExtraOf_none (e : EqOp) (st : St) (rfd : Bool) (len : Nat) :
    eqExtraOf e ⟨st, rfd, len, none⟩ = .null ∨ eqExtraOf e ⟨st, rfd, len, none⟩ = .none := by
  cases e
  case get => exact .inl rfl
  all_goals exact .inr rfl

/-- reading the printed queue line back gives the observed answer: once the shape of the line and the status are
known, both sides compute -/
theorem eqAns_out (e : EqOp) (an : EqAns) (q' : EQueue.EQ) (m m' : Mem) (hst : an.st ≠ .oob)
    (hrf : an.refused = decide (rf m m' > 0)) : eqAns (eqOutOf e an q' m m').ans = some an := by
  obtain ⟨st, refused, len, got⟩ := an
  simp only at hst hrf
  subst hrf
  have key : ∀ x, x = .null ∨ x = .none → eqAns (Out.eq st len (rf m m') x (eqL2 q' m m')).ans =
      some ⟨st, decide (rf m m' > 0), len, none⟩ := by
    rintro x (rfl | rfl) <;> cases st <;> first | rfl | exact absurd rfl hst
  cases got with
  | some b => rw [eqOutOf, eqExtraOf_some]; cases st <;> first | rfl | exact absurd rfl hst
  | none => exact key _ (eqExtraOf_none e st _ len)

theorem eqOutOf_not_skip (e : EqOp) (an : EqAns) (q' : EQueue.EQ) (m m' : Mem) :
    (eqOutOf e an q' m m').ans.isJust .skip = false := by
  obtain ⟨st, refused, len, got⟩ := an
  cases got with
  | some b => rw [eqOutOf, eqExtraOf_some]; cases st <;> rfl
  | none => rcases eqExtraOf_none e st refused len with h | h <;> rw [eqOutOf, h] <;> cases st <;> rfl

theorem mon_eq (ms : Spec.DSMon.S) (i : List (List UInt8)) (hms : ms.eq = some i) (op : Op) (e : EqOp)
    (he : eqOpOf ms.eqr op = some e) (A : Ans) (hskip : A.isJust .skip = false) :
    ∃ why, monStep ms op A = eqJudge ms i e A why := by
  cases op <;> simp only [eqOpOf, reduceCtorEq, Option.some.injEq] at he <;> subst he
  all_goals exact ⟨_, by simp only [monStep, hms, hskip, Bool.false_eq_true, if_false]; rfl⟩

theorem eqJudge_accept (ms : Spec.DSMon.S) (i i' : List (List UInt8)) (e : EqOp) (A : Ans) (why : String) (an : EqAns)
    (h1 : eqAns A = some an) (h2 : eqAdmit i e an = some i') :
    eqJudge ms i e A why = ({ ms with eq := some i' }, none) := by
  simp [eqJudge, h1, h2]

theorem eq_step_refused (q : EQueue.EQ) (e : EqOp) (m : Mem) :
    (EQueue.step q e m).1.refused = ((EQueue.step q e m).2.2.refusals != m.refusals) := by
  cases e <;> simp only [EQueue.step] <;> (repeat' split) <;> rfl

theorem eq_small {q : EQueue.EQ} (h : EQueue.QInv q) (hcap : q.ea.alloc ≤ cap) (hr : q.reclen.val + cap ≤ SIZE_MAX) :
    (q.offset + q.len + 1) * q.reclen.val ≤ EArray.SIZE_MAX := by
  have := h.sz; have := h.ea.le
  rw [Nat.succ_mul, ← SIZE_MAX_same] at *
  omega

theorem eq_accept_core (h : Rel n s ms) {q : EQueue.EQ}
    (hs : s.eq = some q) {op : Op} {e : EqOp} (he : eqOpOf q.reclen.val op = some e)
    (hc : eqContract q.reclen.val (EQueue.abs q) e) : StepGoal n s ms op := by
  have heq := h.eq
  rw [hs] at heq
  obtain ⟨hinv, hcap, hrl, hms, heqr⟩ := heq
  obtain ⟨hinv', hrl', hadm, _⟩ := EQueue.qstep_ok q e s.m hinv hc (eq_small hinv hcap hrl)
  have hno := EQueue.eqAdmit_not_oob hadm
  have ac := EQueue.step_acct q e s.m
  unfold StepGoal
  rw [eq_stepOp s q hs op e he hno]
  obtain ⟨why, hmon⟩ := mon_eq ms (EQueue.abs q) hms op e (by rw [heqr]; exact he)
    (eqOutOf e (EQueue.step q e s.m).1 (EQueue.step q e s.m).2.1 s.m (EQueue.step q e s.m).2.2).ans
    (eqOutOf_not_skip _ _ _ _ _)
  rw [hmon, eqJudge_accept ms _ _ e _ why _
    (eqAns_out _ _ _ _ _ hno (by rw [eq_step_refused, rf_pos ac.ext.2.2])) hadm]
  exact ⟨rfl, h.set_eq (ac.calls.cast (by rw [hs]; simp only [eqBlk]; omega))
    ⟨hinv', ac.bound cap h.capped hcap, by rw [hrl']; exact hrl, rfl, by rw [hrl']; exact heqr⟩⟩

theorem eq_set_accept (h : Rel n s ms) {q : EQueue.EQ}
    (hs : s.eq = some q) (pos seed : Nat) : StepGoal n s ms (.eqSet pos seed) := by
  have heq := h.eq
  rw [hs] at heq
  obtain ⟨hinv, hcap, hrl, hms, heqr⟩ := heq
  by_cases hp : pos < q.len
  · exact eq_accept_core h hs (e := .set pos (patBytes seed q.reclen.val)) rfl
      ⟨by rw [EQueue.abs_length]; exact hp, patBytes_length _ _⟩
  · refine word_accept h .skip (by simp [stepOp, hs]; omega) ?_
    simp only [monStep, hms, headOfWord, isJust_skip, if_true, EQueue.abs_length, hp, if_false]

theorem eq_free_accept (h : Rel n s ms) {q : EQueue.EQ}
    (hs : s.eq = some q) : StepGoal n s ms .eqFree := by
  have heq := h.eq
  rw [hs] at heq
  unfold StepGoal
  simp only [stepOp, hs, monStep, heq.2.2.2.1, Out.ans]
  exact ⟨by decide, h.set_eq ((EQueue.free_calls q s.m).cast (by rw [hs]; simp only [eqBlk]; omega)) rfl⟩

theorem map_getElem_range {α : Type} (l : List α) : (List.range l.length).map (fun i => l[i]?) = l.map some := by
  apply List.ext_getElem?
  intro i
  by_cases hi : i < l.length
  · simp [hi]
  · simp [hi]

theorem mapM_id_some {α : Type} (l : List α) : (l.map some).mapM id = some l := by
  induction l with
  | nil => rfl
  | cons x rest ih => simp [List.mapM_cons, ih]

theorem eq_dump_accept (h : Rel n s ms) {q : EQueue.EQ}
    (hs : s.eq = some q) : StepGoal n s ms .eqDump := by
  have heq := h.eq
  rw [hs] at heq
  obtain ⟨hinv, hcap, hrl, hms, heqr⟩ := heq
  have hne : (EQueue.abs q).map some ≠ [some []] := by
    intro hh
    have hm : ([] : List UInt8) ∈ EQueue.abs q := by
      have : some ([] : List UInt8) ∈ (EQueue.abs q).map some := by rw [hh]; simp
      simpa using this
    have := Percival.Proofs.SeqMap.abs_mem_length q hinv _ hm
    have := q.reclen.property
    simp at *; omega
  unfold StepGoal
  simp only [stepOp, hs]
  generalize hl : List.map _ (List.range q.len) = l
  have hrecs : l = (EQueue.abs q).map some := by
    rw [← hl, ← map_getElem_range, EQueue.abs_length]
    apply List.map_congr_left
    intro i _
    rw [EQueue.get_eq q i hinv]
    cases (EQueue.abs q)[i]? <;> rfl
  subst hrecs
  simp only [Out.ans, recsAns, hne, if_false, mapM_id_some]
  simp only [monStep, hms, headOfSt, EQueue.abs_length]
  simp only [beq_self_eq_true, and_self, if_true]
  exact ⟨trivial, h.mono⟩

theorem stepOp_eqInit (s : DsStep.S) (reclen : Nat) (r : RecLen) (hmk : mkRecLen reclen = some r) :
    stepOp s (.eqInit reclen) =
      match EQueue.init r (eqF s.eq s.m) with
      | (none, m') => ({ s with m := m', eq := none }, .initFail (rf (eqF s.eq s.m) m') (l2c (eqF s.eq s.m) m'))
      | (some q, m') => ({ s with m := m', eq := some q }, .eq .ok q.len (rf (eqF s.eq s.m) m') .none (eqL2 q (eqF s.eq s.m) m')) := by
  simp only [stepOp, hmk]; rfl

theorem eq_init_accept (h : Rel n s ms) (reclen : Nat)
    (hr : 0 < reclen) (hrl : reclen + cap ≤ SIZE_MAX) : StepGoal n s ms (.eqInit reclen) := by
  have c0 := eqF_calls s.eq s.m
  have hmk := mk_some hr
  unfold StepGoal
  rw [stepOp_eqInit s reclen _ hmk]
  generalize eqF s.eq s.m = m0 at *
  have hsp := EQueue.init_full ⟨reclen, hr⟩ m0
  rcases hres : EQueue.init ⟨reclen, hr⟩ m0 with ⟨oq, m'⟩
  rw [hres] at hsp
  cases oq with
  | none =>
    dsimp only
    simp only [Out.ans]
    simp only [monStep]
    have : (some (rf m0 m')).getD 0 > 0 := by simp only [Option.getD_some, rf]; omega
    rw [if_pos this]
    exact ⟨rfl, h.set_eq (r := ms.eqr) ((c0.trans hsp.1).cast (by show _ = 0 - _; omega)) rfl⟩
  | some q =>
    obtain ⟨hinv, hrl', habs, hoff, hlen, hc, -, hb⟩ := hsp
    dsimp only
    simp only [Out.ans, headOfSt, hlen]
    simp only [monStep, if_true]
    exact ⟨trivial, h.set_eq ((c0.trans hc).cast (by show _ = (2 + bufBlocks q.ea) - _; omega))
      ⟨hinv, hb cap (h.capped.ext c0.ext), by rw [hrl']; exact hrl, by rw [habs], by rw [hrl']⟩⟩

theorem sm_step_refused (x : SeqMap.SM) (e : SmOp) (m : Mem) :
    (SeqMap.step x e m).1.refused = ((SeqMap.step x e m).2.2.refusals != m.refusals) := by
  cases e <;> simp only [SeqMap.step] <;> (repeat' split) <;> rfl

def numShown : SmOp → Bool
  | .add _ | .getmin => true | _ => false
def ptrShown : SmOp → Bool
  | .get _ => true | _ => false

/-- fields of a map answer the line does not show are 0 -/
theorem sm_step_zero (x : SeqMap.SM) (e : SmOp) (m : Mem) :
    (numShown e = false → (SeqMap.step x e m).1.num = 0) ∧
    (ptrShown e = false → (SeqMap.step x e m).1.ptr = 0) := by
  cases e <;> simp only [SeqMap.step, numShown, ptrShown] <;> (repeat' split) <;> simp_all [SeqMap.ans]

theorem smJudge_out (ms : Spec.DSMon.S) (i i' : SmIdeal) (e : SmOp) (an : SmAns) (x' : SeqMap.SM) (m m' : Mem)
    (why : String) (hst : an.st ≠ .oob) (hrf : an.refused = decide (rf m m' > 0))
    (hz1 : numShown e = false → an.num = 0) (hz2 : ptrShown e = false → an.ptr = 0)
    (hadm : smAdmit i e an = some i') :
    smJudge ms i e (smOutOf e an x' m m').ans why = ({ ms with sm := some i' }, none) := by
  obtain ⟨st, refused, num, ptr⟩ := an
  simp only at hst hrf hz1 hz2
  subst hrf
  cases e <;> cases st <;> simp_all [smOutOf, Out.ans, smJudge, stOf, headOfSt, numShown, ptrShown]

theorem smOutOf_not_skip (e : SmOp) (an : SmAns) (x' : SeqMap.SM) (m m' : Mem) :
    (smOutOf e an x' m m').ans.isJust .skip = false := by
  obtain ⟨st, refused, num, ptr⟩ := an
  cases e <;> cases st <;> rfl

theorem mon_sm (ms : Spec.DSMon.S) (i : SmIdeal) (hms : ms.sm = some i) (op : Op) (e : SmOp)
    (he : smOpOf op = some e) (A : Ans) : ∃ why, monStep ms op A = smJudge ms i e A why := by
  cases op <;> simp only [smOpOf, reduceCtorEq, Option.some.injEq] at he <;> subst he
  all_goals exact ⟨_, by simp only [monStep, hms]; rfl⟩

theorem sm_accept_core (h : Rel n s ms)
    (hn : (n : Int) < SeqMap.INT64_MAX) {x : SeqMap.SM}
    (hs : s.sm = some x) {op : Op} {e : SmOp} (he : smOpOf op = some e) (hc : smContract e) : StepGoal n s ms op := by
  have hsm := h.sm
  rw [hs] at hsm
  obtain ⟨hinv, hcap, hnum, hms⟩ := hsm
  have hq : (x.q.offset + x.q.len + 1) * 8 ≤ EArray.SIZE_MAX := by
    have := eq_small hinv.1.q hcap (by rw [hinv.1.rl]; decide)
    rw [hinv.1.rl] at this; exact this
  obtain ⟨hinv', hadm, _, hnum'⟩ := SeqMap.mstep_ok x e s.m hinv hc hq (by omega)
  have hno := SeqMap.smAdmit_not_oob hadm
  have ac := SeqMap.step_acct x e s.m
  have hz := sm_step_zero x e s.m
  unfold StepGoal
  rw [sm_stepOp s x hs op e he hno]
  obtain ⟨why, hmon⟩ := mon_sm ms (SeqMap.abs x) hms op e he
    (smOutOf e (SeqMap.step x e s.m).1 (SeqMap.step x e s.m).2.1 s.m (SeqMap.step x e s.m).2.2).ans
  rw [hmon, smJudge_out ms _ _ e _ _ _ _ why hno (by rw [sm_step_refused, rf_pos ac.ext.2.2]) hz.1 hz.2 hadm]
  exact ⟨rfl, h.set_sm (ac.calls.cast (by rw [hs]; simp only [smBlk]; omega))
    ⟨hinv', ac.bound cap h.capped hcap, by omega, rfl⟩⟩

theorem sm_free_accept (h : Rel n s ms) {x : SeqMap.SM}
    (hs : s.sm = some x) : StepGoal n s ms .smFree := by
  have hsm := h.sm
  rw [hs] at hsm
  unfold StepGoal
  simp only [stepOp, hs, monStep, hsm.2.2.2, Out.ans]
  exact ⟨by decide, h.set_sm ((SeqMap.free_calls x s.m).cast (by rw [hs]; simp only [smBlk]; omega)) rfl⟩

theorem stepOp_smInit (s : DsStep.S) :
    stepOp s .smInit =
      match SeqMap.init (smF s.sm s.m) with
      | (none, m') => ({ s with m := m', sm := none }, .initFail (rf (smF s.sm s.m) m') (l2c (smF s.sm s.m) m'))
      | (some x, m') => ({ s with m := m', sm := some x }, .smInit (rf (smF s.sm s.m) m') (smL2 x (smF s.sm s.m) m')) := by
  simp only [stepOp]; rfl

theorem sm_init_accept (h : Rel n s ms) : StepGoal n s ms .smInit := by
  have c0 := smF_calls s.sm s.m
  unfold StepGoal
  rw [stepOp_smInit s]
  generalize smF s.sm s.m = m0 at *
  have hsp := SeqMap.init_full m0
  rcases hres : SeqMap.init m0 with ⟨ox, m'⟩
  rw [hres] at hsp
  cases ox with
  | none =>
    dsimp only
    simp only [Out.ans]
    simp only [monStep]
    have : (some (rf m0 m')).getD 0 > 0 := by simp only [Option.getD_some, rf]; omega
    rw [if_pos this]
    exact ⟨rfl, h.set_sm ((c0.trans hsp.1).cast (by show _ = 0 - _; omega)) rfl⟩
  | some x =>
    obtain ⟨hinv, habs, hoff, hlen, -, -, hc, -, hb⟩ := hsp
    dsimp only
    simp only [Out.ans]
    simp only [monStep]
    exact ⟨trivial, h.set_sm ((c0.trans hc).cast (by show _ = (3 + bufBlocks x.q.ea) - _; omega))
      ⟨hinv, hb cap (h.capped.ext c0.ext), by rw [hoff, hlen]; simp; omega, by rw [habs]⟩⟩

theorem mpAdmit_inUse {u u' : List Nat} {e : MpOp} {an : MpAns} (h : mpAdmit u e an = some u') :
    u' = mpInUse u e an := by
  obtain ⟨obj, refused⟩ := an
  cases e with
  | malloc =>
    cases obj with
    | none => simp only [mpAdmit] at h; split at h <;> simp_all [mpInUse]
    | some x => simp only [mpAdmit] at h; split at h <;> simp_all [mpInUse]
  | free x => simp only [mpAdmit] at h; split at h <;> simp_all [mpInUse]

theorem mp_step_refused (p : MPool.MP) (e : MpOp) (m : Mem) :
    (MPool.step objSize p e m).1.refused = ((MPool.step objSize p e m).2.2.refusals != m.refusals) := by
  cases e <;> rfl

theorem mp_malloc_accept (h : Rel n s ms) : StepGoal n s ms .mpMalloc := by
  obtain ⟨u', hadm, hR⟩ := MPool.step_ok objSize s.mp .malloc s.m s.inUse _ h.mp.here trivial
  have hu := mpAdmit_inUse hadm
  have hext := mp_step_ext objSize s.mp .malloc s.m
  have hrfd := mp_step_refused s.mp .malloc s.m
  rw [← rf_pos hext.2.2] at hrfd
  have hin := h.inUse.1
  unfold StepGoal
  rw [mp_stepOp s .mpMalloc .malloc rfl]
  simp only
  rw [← hu]
  generalize MPool.step objSize s.mp .malloc s.m = r at *
  obtain ⟨⟨obj, refused⟩, p', m'⟩ := r
  simp only at hadm hR hext hrfd ⊢
  rw [hrfd] at hadm
  cases obj
  all_goals
    simp only [mpObjOf, Out.ans, monStep, hin]
    simp only [Bool.false_eq_true, if_false, Option.isNone_none, Option.isNone_some, Bool.not_true, and_false,
      false_and, hadm]
    exact ⟨trivial, ⟨h.capped.ext hext, h.ea, h.eq, h.sm.mono (Nat.le_succ _), PR_step h.mp hext hR, rfl, h.inUse.2⟩⟩

/-- `mp_free x` / `mp_freenth` once the object is known -/
theorem mp_free_core (h : Rel n s ms) {op : Op} {x : Nat}
    (he : mpOpOf s.inUse op = some (.free x)) (hx : x ∈ s.inUse)
    (hmon : ∀ rfn l2, monStep ms op (Out.mp rfn (mpObjOf op (.free x) { obj := none, refused := false }) l2).ans =
      match mpAdmit ms.inUse (.free x) { obj := none, refused := false } with
      | some u => ({ ms with inUse := u }, none)
      | none => (ms, some "free of an object not in use")) : StepGoal n s ms op := by
  obtain ⟨u', hadm, hR⟩ := MPool.step_ok objSize s.mp (.free x) s.m s.inUse _ h.mp.here hx
  have hu := mpAdmit_inUse hadm
  have hext := mp_step_ext objSize s.mp (.free x) s.m
  have hin := h.inUse.1
  unfold StepGoal
  rw [mp_stepOp s op (.free x) he]
  simp only
  rw [← hu]
  have hobj : mpObjOf op (.free x) (MPool.step objSize s.mp (.free x) s.m).1 =
      mpObjOf op (.free x) { obj := none, refused := false } := by
    cases op <;> rfl
  rw [hobj, hmon, hin]
  have : mpAdmit s.inUse (.free x) { obj := none, refused := false } = some (s.inUse.erase x) := by
    simp [mpAdmit, hx]
  have hu' : u' = s.inUse.erase x := by rw [hu]; rfl
  rw [this]
  exact ⟨rfl, ⟨h.capped.ext hext, h.ea, h.eq, h.sm.mono (Nat.le_succ _), PR_step h.mp hext hR, by rw [hu'], h.inUse.2⟩⟩

theorem mp_free_accept (h : Rel n s ms) (x : Nat) :
    StepGoal n s ms (.mpFree x) := by
  have hin := h.inUse.1
  by_cases hx : x ∈ s.inUse
  · have hc : s.inUse.contains x = true := by simpa using hx
    refine mp_free_core h (x := x) (by simp [mpOpOf, hx]) hx ?_
    intro rfn l2
    simp only [mpObjOf, Out.ans, monStep, Ans.isJust]
    simp [hin, mpAdmit, hx]
  · have hc : s.inUse.contains x = false := by simpa using hx
    refine word_accept h .skip (by simp [stepOp, hx]) ?_
    simp only [monStep, headOfWord, isJust_skip, if_true, hin, hc]
    rfl

theorem mp_freenth_accept (h : Rel n s ms) (j : Nat) :
    StepGoal n s ms (.mpFreenth j) := by
  have hin := h.inUse.1
  cases hsel : (s.inUse.mergeSort (· ≤ ·))[j % (s.inUse.mergeSort (· ≤ ·)).length]? with
  | none =>
    have hemp : s.inUse = [] := by
      cases hl : s.inUse with
      | nil => rfl
      | cons y rest =>
        exfalso
        have hlen : (s.inUse.mergeSort (· ≤ ·)).length = rest.length + 1 := by rw [List.length_mergeSort, hl]; rfl
        rw [List.getElem?_eq_none_iff, hlen] at hsel
        have := Nat.mod_lt j (Nat.succ_pos rest.length)
        simp only [Nat.succ_eq_add_one] at this
        omega
    refine word_accept h .skip (by simp only [stepOp, hsel]) ?_
    simp only [monStep, headOfWord, isJust_skip, if_true, hin, hemp]
    rfl
  | some x =>
    have hx : x ∈ s.inUse := by
      have := List.mem_of_getElem? hsel
      exact List.mem_mergeSort.1 this
    refine mp_free_core h (x := x) (by simp only [mpOpOf, hsel, Option.map_some]) hx ?_
    intro rfn l2
    simp only [mpObjOf, Out.ans, monStep, Ans.isJust]
    simp [hin, mpAdmit, hx]

/-- the exit of one pool releases what the pool holds and its objects in use, whatever state the pool is in -/
theorem exitOne_calls (m : Mem) (pu : MPool.MP × List Nat) : Calls m (exitOne m pu) (-(poolBlk pu)) :=
  ((MPool.atexit_calls pu.1 m).trans (MPool.foldl_free_calls pu.2 _)).cast
    (by simp only [poolBlk, MPool.cached]; omega)

theorem exitParked_calls (pk : Nat → MPool.MP × List Nat) : ∀ (l : List Nat) (m : Mem),
    Calls m (l.foldl (fun m k => exitOne m (pk k)) m) (-((l.map fun k => poolBlk (pk k)).sum))
  | [], m => (Calls.refl m).cast (by simp)
  | a :: l, m => ((exitOne_calls m (pk a)).trans (exitParked_calls pk l _)).cast (by simp only [List.map_cons, List.sum_cons]; omega)

/-- `mp_exit` (and the pool part of `end`): **every** pool — the one in use and the parked ones — frees its cache and
its stack, the harness the objects still in use; fresh pools; exactly `base` blocks stay allocated -/
theorem poolExit_spec {s : DsStep.S} {base : Int} (hR : PR s.mp s.m s.inUse s.mpSize s.parked base) :
    Ext s.m (poolExit s).m ∧ (poolExit s).m.live = base ∧
    PR (poolExit s).mp (poolExit s).m (poolExit s).inUse (poolExit s).mpSize (poolExit s).parked base ∧
    (poolExit s).ea = s.ea ∧ (poolExit s).eq = s.eq ∧ (poolExit s).sm = s.sm := by
  have c : Calls s.m (poolExit s).m _ :=
    (exitOne_calls s.m (s.mp, s.inUse)).trans (exitParked_calls s.parked (otherSizes s.mpSize) _)
  have hlive : (poolExit s).m.live = base := by
    have := c.live; have := hR.here.live
    simp only [poolBlk, parkedBlk] at *; omega
  refine ⟨c.ext, hlive, ⟨?_, hR.size, fun k => init_parked_R _ k⟩, rfl, rfl, rfl⟩
  have := MPool.init_R s.mpSize (poolExit s).m
  rw [hlive] at this
  show MPool.R (MPool.init s.mpSize) (poolExit s).m [] (base + parkedBlk s.mpSize fun k => (MPool.init k, []))
  rw [parkedBlk_init, Int.add_zero]
  exact this

theorem mp_exit_accept (h : Rel n s ms) : StepGoal n s ms .mpExit := by
  obtain ⟨hext, _, hR, h1, h2, h3⟩ := poolExit_spec h.mp
  unfold StepGoal
  simp only [stepOp, Out.ans]
  simp only [monStep]
  exact ⟨rfl, h.inUse.2.1 ▸ h.set_pools (h.capped.ext hext) hR fun _ => rfl⟩

/-- `mp_init size` (one of the harness' pool sizes): the pools end like at `mp_exit`, a fresh pool of cache size
`size` is taken -/
theorem mp_init_accept (h : Rel n s ms) (size : Nat)
    (hok : poolSizes.contains size = true) : StepGoal n s ms (.mpInit size) := by
  obtain ⟨hext, hlive, _, h1, h2, h3⟩ := poolExit_spec h.mp
  have hR := MPool.init_R size (poolExit s).m
  rw [hlive] at hR
  unfold StepGoal
  simp only [stepOp, hok, Bool.not_true, Bool.false_eq_true, if_false, Out.ans]
  simp only [monStep]
  refine ⟨rfl, h.set_pools (h.capped.ext hext) ⟨?_, hok, fun k => init_parked_R _ k⟩ fun _ => rfl⟩
  show MPool.R (MPool.init size) (poolExit s).m [] (_ + parkedBlk size fun k => (MPool.init k, []))
  rw [parkedBlk_init, Int.add_zero]
  exact hR

theorem mem_poolSizes {k : Nat} (h : poolSizes.contains k = true) : k = 1 ∨ k = 2 ∨ k = 3 ∨ k = 4 := by
  simpa [poolSizes] using h

/-- the parked pools together with the pool of size `k` are all four pools -/
theorem parkedBlk_add {k : Nat} (hk : poolSizes.contains k = true) (pk : Nat → MPool.MP × List Nat) :
    parkedBlk k pk + poolBlk (pk k) = poolBlk (pk 1) + poolBlk (pk 2) + poolBlk (pk 3) + poolBlk (pk 4) := by
  rcases mem_poolSizes hk with rfl | rfl | rfl | rfl <;> simp [parkedBlk, otherSizes, poolSizes] <;> omega

/-- the accounting of a switch: the pool left joins the parked ones, the pool taken leaves them -/
theorem parkedBlk_swap {cur k : Nat} (hc : poolSizes.contains cur = true) (hk : poolSizes.contains k = true)
    (pk : Nat → MPool.MP × List Nat) (c : MPool.MP × List Nat) :
    parkedBlk k (fun j => if j = cur then c else pk j) + poolBlk ((fun j => if j = cur then c else pk j) k) =
      parkedBlk cur pk + poolBlk c := by
  have h1 := parkedBlk_add hk (fun j => if j = cur then c else pk j)
  have h2 := parkedBlk_add hc pk
  rcases mem_poolSizes hc with rfl | rfl | rfl | rfl <;> simp only [Nat.reduceEqDiff, ↓reduceIte] at h1 ⊢ <;> omega

/-- `mp_use size`: nothing is allocated or released; the pool taken satisfies the single-pool relation with the pool
left now among "the rest" -/
theorem mp_use_accept (h : Rel n s ms) (size : Nat)
    (hok : poolSizes.contains size = true) : StepGoal n s ms (.mpUse size) := by
  have hsw := parkedBlk_swap h.mp.size hok s.parked (s.mp, s.inUse)
  have hl := h.mp.here.live
  have hpk : ∀ j, MPool.R ((fun j => if j = s.mpSize then (s.mp, s.inUse) else s.parked j) j).1 s.m
      ((fun j => if j = s.mpSize then (s.mp, s.inUse) else s.parked j) j).2
      (s.m.live - poolBlk ((fun j => if j = s.mpSize then (s.mp, s.inUse) else s.parked j) j)) := by
    intro j
    by_cases hj : j = s.mpSize
    · simp only [hj, if_true]; exact R_self h.mp.here
    · simp only [hj, if_false]; exact h.mp.parked j
  obtain ⟨i1, i2, i3⟩ := h.inUse
  unfold StepGoal
  simp only [stepOp, hok, Bool.not_true, Bool.false_eq_true, if_false, Out.ans]
  simp only [monStep]
  refine ⟨rfl, ⟨h.capped, h.ea, h.eq, h.sm.mono (Nat.le_succ _), ⟨?_, hok, hpk⟩, ?_, rfl, ?_⟩⟩
  · refine R_transport (hpk size) (Ext.refl _) ?_
    simp only [poolBlk] at hsw hl ⊢
    omega
  · show (if size = ms.mpSize then ms.inUse else ms.parkedU size) =
      (if size = s.mpSize then (s.mp, s.inUse) else s.parked size).2
    rw [i2]; split
    · exact i1
    · exact i3 size
  · intro j
    show (if j = ms.mpSize then ms.inUse else ms.parkedU j) = (if j = s.mpSize then (s.mp, s.inUse) else s.parked j).2
    rw [i2]; split
    · exact i1
    · exact i3 j

theorem freeAll_eq (s : DsStep.S) :
    freeAll s = { s with m := smF s.sm (eqF s.eq (eaF s.ea s.m)), ea := none, eq := none, sm := none } := rfl

theorem freeAll_spec (h : Rel n s ms) :
    Ext s.m (freeAll s).m ∧ PR (freeAll s).mp (freeAll s).m (freeAll s).inUse (freeAll s).mpSize (freeAll s).parked 0 ∧
    (freeAll s).ea = none ∧ (freeAll s).eq = none ∧ (freeAll s).sm = none := by
  rw [freeAll_eq]
  have c := ((eaF_calls s.ea s.m).trans (eqF_calls s.eq _)).trans (smF_calls s.sm _)
  exact ⟨c.ext, PR_transport h.mp c.ext (by have := c.live; simp only at this ⊢; omega), rfl, rfl, rfl⟩

theorem end_accept (h : Rel n s ms) : StepGoal n s ms .end_ := by
  obtain ⟨hext1, hR1, e1, e2, e3⟩ := freeAll_spec h
  obtain ⟨hext2, hlive, hR2, f1, f2, f3⟩ := poolExit_spec hR1
  unfold StepGoal
  simp only [stepOp, Out.ans, hlive]
  simp only [monStep]
  refine ⟨rfl, ⟨h.capped.ext (hext1.trans hext2), by rw [f1, e1]; rfl, by rw [f2, e2]; rfl, by rw [f3, e3]; rfl, ?_, rfl, h.inUse.2.1, fun _ => rfl⟩⟩
  rw [f1, f2, f3, e1, e2, e3]
  exact hR2

theorem sched_capped (mode k base : Nat) (m : Mem) : Capped { m with f := sched mode k base } := by
  intro i sz hh
  simp only [sched, Bool.and_eq_true, decide_eq_true_eq] at hh
  exact hh.1.1

theorem R_setF {p : MPool.MP} {m : Mem} {u : List Nat} {base : Int} (h : MPool.R p m u base) (f : Nat → Nat → Bool) :
    MPool.R p { m with f := f } u base :=
  ⟨h.nodup, h.unodup, h.disj, h.sfresh, h.ufresh, h.slen, h.live⟩

/-- a line that only replaces the oracle's decision function by a capped one -/
theorem sched_accept (h : Rel n s ms) {op : Op} (mode k base : Nat)
    (h1 : stepOp s op = ({ s with m := { s.m with f := sched mode k base } }, .word .ok))
    (h2 : ∀ A, monStep ms op A = okOr ms (A.isJust .ok) "answer") : StepGoal n s ms op := by
  unfold StepGoal
  rw [h1, h2]
  exact ⟨rfl, ⟨sched_capped _ _ _ _, h.ea, h.eq, h.sm.mono (Nat.le_succ _),
    ⟨R_setF h.mp.here _, h.mp.size, fun k => R_setF (h.mp.parked k) _⟩, h.inUse⟩⟩

/-- a line on the array: `skip` when there is none, else what `k` shows (likewise for the queue and the map) -/
theorem ea_cases (h : Rel n s ms) (op : Op)
    (hop : match op with
      | .eaResize .. | .eaAppend .. | .eaShrink .. | .eaTrunc | .eaGet .. | .eaSet .. | .eaGetsize .. | .eaDump
      | .eaDup .. | .eaExport .. | .eaFree => True
      | _ => False) (k : ∀ a, s.ea = some a → StepGoal n s ms op) : StepGoal n s ms op := by
  cases hs : s.ea with
  | some a => exact k a hs
  | none =>
    have hms : ms.ea = none := by have := h.ea; rw [hs] at this; exact this
    cases op <;> first
      | exact hop.elim
      | exact word_accept h .skip (by cases s; cases hs; rfl) (by cases ms; cases hms; rfl)

theorem eq_cases (h : Rel n s ms) (op : Op)
    (hop : match op with
      | .eqAdd .. | .eqDel | .eqLen | .eqGet .. | .eqSet .. | .eqDump | .eqFree => True
      | _ => False) (k : ∀ q, s.eq = some q → StepGoal n s ms op) : StepGoal n s ms op := by
  cases hs : s.eq with
  | some q => exact k q hs
  | none =>
    have hms : ms.eq = none := by have := h.eq; rw [hs] at this; exact this
    cases op <;> first
      | exact hop.elim
      | exact word_accept h .skip (by cases s; cases hs; rfl) (by cases ms; cases hms; rfl)

theorem sm_cases (h : Rel n s ms) (op : Op)
    (hop : match op with
      | .smAdd .. | .smGet .. | .smDel .. | .smMin | .smFree => True
      | _ => False) (k : ∀ x, s.sm = some x → StepGoal n s ms op) : StepGoal n s ms op := by
  cases hs : s.sm with
  | some x => exact k x hs
  | none =>
    have hms : ms.sm = none := by have := h.sm; rw [hs] at this; exact this
    cases op <;> first
      | exact hop.elim
      | exact word_accept h .skip (by cases s; cases hs; rfl) (by cases ms; cases hms; rfl)

/-- **one protocol step**: from related states, for an operation the generators produce, after fewer than 2^63 - 1
operations: the monitor accepts the model's answer and the states are related again -/
theorem mon_step (h : Rel n s ms) (op : Op) (hok : OpOk op)
    (hn : (n : Int) < SeqMap.INT64_MAX) : StepGoal n s ms op := by
  cases op
  case failat k => exact sched_accept h 1 k s.m.n (stepOp_sched s k).1 fun A => (monStep_sched ms k A).1
  case failfrom k => exact sched_accept h 2 k s.m.n (stepOp_sched s k).2.1 fun A => (monStep_sched ms k A).2.1
  case failoff => exact sched_accept h 0 0 0 (stepOp_sched s 0).2.2 fun A => (monStep_sched ms 0 A).2.2
  case end_ => exact end_accept h
  case eaInit k reclen seed => exact ea_init_accept h k reclen seed hok
  case eaResize k reclen seed => exact ea_cases h _ trivial fun _ hs => ea_resize_accept h hs k reclen seed hok
  case eaAppend k reclen seed => exact ea_cases h _ trivial fun _ hs => ea_append_accept h hs k reclen seed hok
  case eaShrink k reclen =>
    exact ea_cases h _ trivial fun _ hs => ea_simple_accept h hs (e := .shrink k ⟨reclen, hok⟩)
      (by simp [eaOpOf, mk_some hok]) rfl trivial
  case eaTrunc => exact ea_cases h _ trivial fun _ hs => ea_simple_accept h hs (e := .truncate) rfl rfl trivial
  case eaGet pos reclen => exact ea_cases h _ trivial fun _ hs => ea_inside_accept h hs _ pos reclen 0 (.inl rfl)
  case eaSet pos reclen seed => exact ea_cases h _ trivial fun _ hs => ea_inside_accept h hs _ pos reclen seed (.inr rfl)
  case eaGetsize reclen =>
    exact ea_cases h _ trivial fun _ hs => ea_simple_accept h hs (e := .getsize ⟨reclen, hok⟩)
      (by simp [eaOpOf, mk_some hok]) rfl trivial
  case eaDump => exact ea_cases h _ trivial fun _ hs => ea_dump_accept h hs
  case eaDup reclen =>
    exact ea_cases h _ trivial fun _ hs => ea_simple_accept h hs (e := .exportdup ⟨reclen, hok⟩)
      (by simp [eaOpOf, mk_some hok]) rfl trivial
  case eaExport reclen => exact ea_cases h _ trivial fun _ hs => ea_export_accept h hs reclen hok
  case eaFree => exact ea_cases h _ trivial fun _ hs => ea_free_accept h hs
  case eqInit r => exact eq_init_accept h r hok.1 hok.2
  case eqAdd seed =>
    exact eq_cases h _ trivial fun q hs =>
      eq_accept_core h hs (e := .add (patBytes seed q.reclen.val)) rfl (patBytes_length _ _)
  case eqDel => exact eq_cases h _ trivial fun _ hs => eq_accept_core h hs (e := .delete) rfl trivial
  case eqLen => exact eq_cases h _ trivial fun _ hs => eq_accept_core h hs (e := .getlen) rfl trivial
  case eqGet pos => exact eq_cases h _ trivial fun _ hs => eq_accept_core h hs (e := .get pos) rfl trivial
  case eqSet pos seed => exact eq_cases h _ trivial fun _ hs => eq_set_accept h hs pos seed
  case eqDump => exact eq_cases h _ trivial fun _ hs => eq_dump_accept h hs
  case eqFree => exact eq_cases h _ trivial fun _ hs => eq_free_accept h hs
  case smInit => exact sm_init_accept h
  case smAdd p => exact sm_cases h _ trivial fun _ hs => sm_accept_core h hn hs (e := .add p) rfl hok
  case smGet i => exact sm_cases h _ trivial fun _ hs => sm_accept_core h hn hs (e := .get i) rfl trivial
  case smDel i => exact sm_cases h _ trivial fun _ hs => sm_accept_core h hn hs (e := .delete i) rfl trivial
  case smMin => exact sm_cases h _ trivial fun _ hs => sm_accept_core h hn hs (e := .getmin) rfl trivial
  case smFree => exact sm_cases h _ trivial fun _ hs => sm_free_accept h hs
  case mpInit size => exact mp_init_accept h size hok
  case mpUse size => exact mp_use_accept h size hok
  case mpMalloc => exact mp_malloc_accept h
  case mpFree x => exact mp_free_accept h x
  case mpFreenth j => exact mp_freenth_accept h j
  case mpExit => exact mp_exit_accept h

/-- the monitor over a whole case: one verdict per (operation, answer) pair, as `pmodel dsmon` prints them -/
def monRun (ms : Spec.DSMon.S) : List (Op × Ans) → List Verdict
  | [] => []
  | (op, a) :: rest => (monStep ms op a).2 :: monRun (monStep ms op a).1 rest

def monFinal (ms : Spec.DSMon.S) : List (Op × Ans) → Spec.DSMon.S
  | [] => ms
  | (op, a) :: rest => monFinal (monStep ms op a).1 rest

theorem mon_run (ops : List Op) : ∀ (n : Nat) (s : DsStep.S) (ms : Spec.DSMon.S), Rel n s ms →
    (∀ op ∈ ops, OpOk op) → ((n + ops.length : Nat) : Int) ≤ SeqMap.INT64_MAX →
    monRun ms (ops.zip ((runOps s ops).2.map Out.ans)) = List.replicate ops.length none ∧
    Rel (n + ops.length) (runOps s ops).1 (monFinal ms (ops.zip ((runOps s ops).2.map Out.ans))) := by
  induction ops with
  | nil => intro n s ms h _ _; exact ⟨rfl, h⟩
  | cons op ops ih =>
    intro n s ms h hok hn
    simp only [List.length_cons] at hn
    obtain ⟨hv, hr⟩ := mon_step h op (hok op List.mem_cons_self) (by omega)
    have ih' := ih (n + 1) (stepOp s op).1 _ hr (fun o ho => hok o (List.mem_cons_of_mem _ ho)) (by omega)
    simp only [runOps, List.map_cons, List.zip_cons_cons, monRun, monFinal, List.length_cons, List.replicate_succ, hv]
    refine ⟨by rw [ih'.1], ?_⟩
    have : n + (ops.length + 1) = n + 1 + ops.length := by omega
    rw [this]; exact ih'.2

/-- a case through every family: failures scheduled, re-initialisation, skips, export, pool exit, `end` -/
def demoOps : List Op :=
  [.eaInit 3 4 9, .eaAppend 2 3 5, .eaGet 1 4, .eaGet 99 4, .eaResize 1 2 3, .eaDump, .eaDup 1, .eaShrink 1 1,
   .eaTrunc, .eaSet 0 1 7, .eaGetsize 2, .eaExport 1, .eaFree,
   .eqInit 3, .eqAdd 1, .eqAdd 2, .eqGet 1, .eqGet 5, .eqSet 0 9, .eqSet 7 9, .eqDel, .eqLen, .eqDump, .eqFree,
   .smInit, .smAdd 5, .smAdd 6, .smDel 0, .smMin, .smGet 1, .smGet 0, .failfrom 1, .smAdd 7, .failoff, .smFree,
   .mpMalloc, .mpMalloc, .mpFree 0, .mpFree 99, .mpMalloc, .eaInit 2 2 1, .failat 1, .eqInit 2, .mpExit, .end_]

end Percival.Proofs.DsStep
