import Percival.Proofs.TokText
import Percival.Driver.Events
import Percival.Driver.Eventsmon
/-!
# What `pmodel eventsmon` reads of a line `pmodel events` prints (C04/C05)

The typed output of `Model.Events.stepOp` is the list of events of the line, and that list itself is what
`C04.model_lines_accepted_C04` / `C05.model_lines_accepted_C05` / `model_lines_accepted_both` feed to the monitors
(no `Out.ans`-like projection: the typed answer is the typed output).  `Driver/Events.step` prints
`showEvs evs ++ " | " ++ l2 state`, `showEvs evs` being the tokens `evToks evs` (one per event, `ok` if there is none)
joined by single spaces; `Driver/Eventsmon.parseLine` reads a list of tokens.

`parseLine_evToks`: **for every list of events, `Eventsmon.parseLine (Events.evToks evs) = some evs`** — the `:`-separated
fields of an event token, the `,` / `/`-separated poll array, the `rweh` bit strings, numbers (`Nat.repr`, `Int.repr`,
`String.toNat?`, `String.toInt?`) and words included.  Not covered: the cut of the printed line at ` | ` and at the
spaces (`Driver/Loop.loopMon`, `tools/vlib.py`); no token contains a space (`evToks_line`).
-/
namespace Percival.Proofs.EventsAns
open Percival Percival.Driver Percival.Spec.Events Percival.Proofs.TokText
open Percival.Driver.Events

theorem splitCh_eq : @Events.splitCh = @cut := rfl

theorem dir_rt (d : Dir) : parseDir (showDir d) = some d := by cases d <;> rfl
theorem out_rt (o : PollOutcome) : parseOut (showOut o) = some o := by cases o <;> rfl
theorem res_rt (r : Res) : parseRes (showRes r) = some r := by cases r <;> rfl

theorem bits_rt (b : Bits) : parseBits (showBits b) = some b := by
  obtain ⟨r, w, e, h⟩ := b
  cases r <;> cases w <;> cases e <;> cases h <;> decide +kernel

theorem atom_bits (b : Bits) : Atom (showBits b) := by
  obtain ⟨r, w, e, h⟩ := b
  cases r <;> cases w <;> cases e <;> cases h <;> decide +kernel

theorem atom_dir (d : Dir) : Atom (showDir d) := by cases d <;> decide +kernel
theorem atom_res (r : Res) : Atom (showRes r) := by cases r <;> decide +kernel
theorem atom_out (o : PollOutcome) : Atom (showOut o) := by cases o <;> decide +kernel

/-- the first field of an event token -/
theorem vocab : Atom "ri" ∧ Atom "ci" ∧ Atom "rn" ∧ Atom "cn" ∧ Atom "rt" ∧ Atom "ct" ∧ Atom "xt" ∧ Atom "int" ∧
    Atom "clk" ∧ Atom "done" ∧ Atom "run" ∧ Atom "spin" ∧ Atom "cb" ∧ Atom "poll" ∧ Atom "ret" ∧
    Atom "spinret" ∧ Atom "fault" := by decide +kernel

theorem entryFields_atoms (e : PollEntry) : Atoms [toString e.fd, showBits e.ev, showBits e.rev] := by
  simp only [atoms_cons, atoms_nil, atom_nat, atom_bits, and_self]

theorem split_entry (e : PollEntry) :
    splitCh '/' (showEntry e) = [toString e.fd, showBits e.ev, showBits e.rev] :=
  (entryFields_atoms e).cut (c := '/') rfl (by simp)

theorem parseEntry_showEntry (e : PollEntry) : parseEntry (showEntry e) = some e := by
  simp only [parseEntry, split_entry, nat_rt, bits_rt]
  rfl

theorem parseEntry_dash : parseEntry "-" = none := by
  simp only [parseEntry, splitCh_eq, cut_free '/' "-" (by decide)]

theorem showEntry_made (e : PollEntry) : Made ['/'] (showEntry e) :=
  Made.intercalate '/' fun f hf => (entryFields_atoms e f hf).made _

theorem showEntries_eq (l : List PollEntry) : showEntries l = dashList ',' (l.map showEntry) := by
  cases l <;> rfl

theorem parseEntries_showEntries (l : List PollEntry) : parseEntries (showEntries l) = some l := by
  rw [showEntries_eq]
  exact readDashList_rt ',' (by decide) parseEntry_dash l (fun e _ => parseEntry_showEntry e)
    fun e _ => (showEntry_made e).free rfl (by decide)

theorem showEntries_made (l : List PollEntry) : Made [',', '/'] (showEntries l) := by
  rw [showEntries_eq]
  exact Made.dashList ',' fun e _ => showEntry_made e

theorem opFields_atoms (o : Op) : Atoms (opFields o) := by
  cases o <;> simp only [opFields, atoms_cons, atoms_nil, vocab, atom_nat, atom_dir, and_self]

/-- the fields of an event are atoms, but for the poll array -/
theorem evFields_made (e : Ev) : ∀ f ∈ evFields e, Made [',', '/'] f := by
  have ha : ∀ {s : String}, Atom s → Made [',', '/'] s := fun h => h.made _
  cases e with
  | op o r =>
    intro f hf
    rcases List.mem_append.1 hf with hf | hf
    · exact ha (opFields_atoms o f hf)
    · rw [List.mem_singleton.1 hf]; exact ha (atom_res r)
  | poll t adv fds out =>
    simp only [evFields, List.mem_cons, List.not_mem_nil, or_false, forall_eq_or_imp, forall_eq]
    exact ⟨ha (by simp only [vocab]), ha (atom_int t), ha (atom_nat adv), showEntries_made fds, ha (atom_out out)⟩
  | _ =>
    simp only [evFields, List.mem_cons, List.not_mem_nil, or_false, forall_eq_or_imp, forall_eq]
    simp only [ha, vocab, words, atom_nat, atom_int, and_self]

theorem showEv_made (e : Ev) : Made [':', ',', '/'] (showEv e) := Made.intercalate ':' (evFields_made e)

theorem evFields_ne_nil (e : Ev) : evFields e ≠ [] := by
  cases e <;> simp [evFields]

theorem split_ev (e : Ev) : splitCh ':' (showEv e) = evFields e :=
  cut_intercalate ':' _ (fun f hf => (evFields_made e f hf).free rfl (by decide)) (evFields_ne_nil e)

theorem parseOpFields_opFields (o : Op) (rest : List String) : parseOpFields (opFields o ++ rest) = some (o, rest) := by
  cases o <;>
    (simp only [opFields, List.cons_append, List.nil_append]; rw [parseOpFields]
     try simp only [nat_rt, dir_rt, Option.pure_def, Option.bind_eq_bind, Option.bind_some])

theorem parseEvFields_opWord {w : String} (rest : List String)
    (hw : w ≠ "run" ∧ w ≠ "spin" ∧ w ≠ "fault" ∧ w ≠ "cb" ∧ w ≠ "end" ∧ w ≠ "ret" ∧ w ≠ "spinret" ∧ w ≠ "poll") :
    parseEvFields (w :: rest) =
      match parseOpFields (w :: rest) with
      | some (o, [r]) => do pure (.op o (← parseRes r))
      | _ => none := by
  rw [parseEvFields]
  · rfl
  all_goals (intros; rename_i h; cases h; simp at hw)

theorem parseEvFields_op (o : Op) (r : Res) : parseEvFields (opFields o ++ [showRes r]) = some (.op o r) := by
  have h := parseOpFields_opFields o [showRes r]
  cases o <;>
    (simp only [opFields, List.cons_append, List.nil_append] at h ⊢
     rw [parseEvFields_opWord _ (by simp), h]
     simp only [res_rt, Option.pure_def, Option.bind_eq_bind, Option.bind_some])

theorem parseEvFields_evFields (e : Ev) : parseEvFields (evFields e) = some e := by
  cases e with
  | op o r => exact parseEvFields_op o r
  | _ =>
    rw [evFields, parseEvFields]
    try simp only [nat_rt, int_rt, parseEntries_showEntries, out_rt, Option.pure_def, Option.bind_eq_bind, Option.bind_some]

theorem parseEv_showEv (e : Ev) : parseEv (showEv e) = some e := by
  rw [parseEv, split_ev, parseEvFields_evFields]

theorem showEv_no_space (e : Ev) : ' ' ∉ (showEv e).toList := (showEv_made e).free rfl (by decide)

theorem parseEv_ok : parseEv "ok" = none := by
  rw [parseEv, splitCh_eq, cut_free ':' "ok" (by decide), parseEvFields_opWord _ (by simp), parseOpFields]
  all_goals simp

theorem showEv_ne_ok (e : Ev) : showEv e ≠ "ok" := ne_of_read parseEv_ok (parseEv_showEv e)

theorem mapM_parseEv (evs : List Ev) : (evs.map showEv).mapM parseEv = some evs :=
  (mapM_read evs fun e _ => parseEv_showEv e).trans (by rw [List.map_id'])

/-- **what `pmodel eventsmon` reads of the L1 tokens `pmodel events` prints is the list of events itself** -/
theorem parseLine_evToks (evs : List Ev) : Eventsmon.parseLine (evToks evs) = some evs := by
  unfold Eventsmon.parseLine evToks
  cases evs with
  | nil => simp
  | cons e es =>
    have hne : (e :: es).isEmpty = false := rfl
    simp only [hne, Bool.false_eq_true, if_false]
    rw [if_neg, mapM_parseEv]
    intro h
    simp only [List.map_cons, List.cons.injEq] at h
    exact showEv_ne_ok e h.1

theorem evToks_line (evs : List Ev) : Line (evToks evs) := by
  cases evs with
  | nil => exact ⟨by simp [evToks], fun t ht => by rw [List.mem_singleton.1 ht]; decide⟩
  | cons e es =>
    exact line_cons.2 (List.forall_mem_map.2 fun e' _ => showEv_no_space e' : ∀ t ∈ (e :: es).map showEv, _)

theorem split_l1 (evs : List Ev) : splitCh ' ' (showEvs evs) = evToks evs := (evToks_line evs).cut

open Percival.Model.Events in
/-- the verdict lines `pmodel eventsmon` prints on a case: `Eventsmon.step` along the (operation line, answer line) pairs -/
def verdicts (use4 use5 : Bool) (m : MM) : List (List String × List String) → List String
  | [] => []
  | (op, ans) :: rest =>
    (Eventsmon.step use4 use5 m op ans).2 :: verdicts use4 use5 (Eventsmon.step use4 use5 m op ans).1 rest

open Percival.Model.Events in
/-- the lines `pmodel events` prints on a case: `Events.step` along the input lines -/
def printed (s : State) : List (List String) → List String
  | [] => []
  | l :: rest => (Events.step s l).2 :: printed (Events.step s l).1 rest

open Percival.Model.Events in
def statesAfter (s : State) : List Top → List State
  | [] => []
  | t :: ts => (stepOp s t).1 :: statesAfter (stepOp s t).1 ts

/-- one line: the monitor executable on the L1 tokens printed for a list of events (the operation line is not read) -/
theorem step_evToks (use4 use5 : Bool) (m : MM) (op : List String) (evs : List Ev) :
    Eventsmon.step use4 use5 m op (evToks evs) =
      ((monStep use4 use5 m evs).1, Eventsmon.render (monStep use4 use5 m evs).2) := by
  simp only [Eventsmon.step, parseLine_evToks]

theorem verdicts_ok (use4 use5 : Bool) : ∀ (lines : List (List String)) (evss : List (List Ev)) (m : MM),
    lines.length = evss.length → acceptsLines use4 use5 m evss = true →
    verdicts use4 use5 m (lines.zip (evss.map evToks)) = List.replicate lines.length "ok"
  | [], _, _, _, _ => rfl
  | _ :: _, [], _, h, _ => by cases h
  | line :: lines, evs :: evss, m, hl, hacc => by
    simp only [acceptsLines, Bool.and_eq_true] at hacc
    simp only [List.map_cons, List.zip_cons_cons, verdicts, step_evToks, List.length_cons, List.replicate_succ]
    rw [verdicts_ok use4 use5 lines evss _ (by simpa using hl) hacc.2]
    cases hv : (monStep use4 use5 m evs).2 with
    | ok => rfl
    | bad4 e => rw [hv] at hacc; cases hacc.1
    | bad5 e => rw [hv] at hacc; cases hacc.1

open Percival.Model.Events in
theorem runOps_length : ∀ (prog : List Top) (s : State), (runOps s prog).2.length = prog.length
  | [], _ => rfl
  | t :: ts, s => by simp only [runOps, List.length_cons, runOps_length ts]

theorem mapM_length {α β : Type} (f : α → Option β) : ∀ (l : List α) (r : List β), l.mapM f = some r → l.length = r.length
  | [], r, h => by cases h; rfl
  | a :: l, r, h => by
    obtain ⟨y, ys, _, h2, rfl⟩ := mapM_cons_some h
    simp only [List.length_cons, mapM_length f l ys h2]

open Percival.Model.Events in
theorem printed_eq : ∀ (lines : List (List String)) (prog : List Top) (s : State),
    lines.mapM Events.parseTop = some prog →
    printed s lines = List.zipWith (fun evs st => showEvs evs ++ " | " ++ l2 st) (runOps s prog).2 (statesAfter s prog)
  | [], _, _, hp => by cases hp; rfl
  | line :: lines, prog, s, hp => by
    obtain ⟨t, ts, h1, h2, rfl⟩ := mapM_cons_some hp
    simp only [printed, Events.step, h1, runOps, statesAfter, List.zipWith_cons_cons, printed_eq lines ts _ h2]

end Percival.Proofs.EventsAns
