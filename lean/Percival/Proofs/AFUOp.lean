import Percival.Proofs.AFUOps
import Percival.Proofs.AFUNbw
import Percival.Proofs.AFUNbr
import Percival.Proofs.AFUConn
import Percival.Proofs.AFUHtp
import Percival.Model.UpStep
/-!
# C14, upper layers: what one operation does, in one statement

`OpPost w op R` gathers everything the per-call specifications say about the outcome `R` of `op` in `w`, in the terms
of the operation classes (`isRelease`, `isAtomic`), the contracts (`Ready`, `Ready'`, `Present`) and the table-level transition
`TabStep`.  `stepR_post` proves it for `stepR w op` by cases on `op`: the only place where the specifications are
opened.  Every theorem about one step — the invariant, the oracle, the ghost counter, (a) a refused request is
reported, (b) a failure leaves nothing, (d) releases cannot fail — is a projection of it.  The fields `cause` and `refused`
are the specifications' `Refusals` (`Proofs/AFUCalc.lean`) read under the contract `Ready'`.
-/
namespace Percival.Proofs.AllocFailUpper
open Percival.Model Percival.Model.EvReg Percival.Model.AllocFail
open Percival.Model.UpStep (call)
open Percival.Proofs.EvRegNet (regNet netRegistered NetInv)
open Percival.Proofs.EvRegTimer (regImm regTimers TmInv Step Granted)
open Percival.Model.Connect (AddrOutcome)
open Top

structure OpPost (w : World) (op : Op) (R : Rc × World) : Prop where
  arr : Arrives w R.2
  /-- a call outside the usage contract is not made -/
  contract : R.1 = .contract → R.2 = w
  tab : R.1 ≠ .contract → TabStep (tables w) op R.1 (call w op).2.1 (tables R.2)
  failReg : R.1 = .fail → registry R.2.ev = registry w.ev
  failSame : R.1 = .fail → isAtomic op = true → Same w R.2
  cause : R.1 = .fail → Ready' w op → w.m.refusals < R.2.m.refusals
  refused : isRelease op = false → R.2.m.refusals ≠ w.m.refusals → R.1 = .fail
  /-- a release call reports `.ok` or is not made -/
  relNoFail : isRelease op = true → R.1 ≠ .fail
  made : Present w op → R.1 = .ok
  /-- with room in the pools' caches the oracle is not consulted -/
  quiet : Present w op → isQuiet op = true → w.ev.recPool.stacklen < w.ev.recPool.allocsize →
    w.rdPool.stacklen < w.rdPool.allocsize → w.wrPool.stacklen < w.wrPool.allocsize → R.2.m.n = w.m.n
  inContract : Ready' w op → R.1 ≠ .contract
  again : R.1 = .fail → Ready w op → (∀ x len, op ≠ .nbwConsume x len) → Ready R.2 op

/-- `Ready` depends on the tables and the registry only -/
theorem ready_of_same {w w' : World} (hs : Same w w') (op : Op) (hrdy : Ready w op) : Ready w' op := by
  have hreg := hs.registry
  cases op with
  | read fd => exact (fdOk_congr hreg fd false).2 hrdy
  | write fd => exact (fdOk_congr hreg fd true).2 hrdy
  | accept fd => exact (fdOk_congr hreg fd false).2 hrdy
  | connect a t s => exact (connReady_congr hreg a s).2 hrdy
  | http a l s => exact (connReady_congr hreg a s).2 hrdy
  | https a l s hl => exact (connReady_congr hreg a s).2 hrdy
  | nbrInit fd => exact trivial
  | nbwInit fd => exact trivial
  | nbrWait r len =>
    obtain ⟨rd, hrd, hid, h1, h2, h3⟩ := hrdy
    exact ⟨rd, by rw [show w'.readers = w.readers from congrArg Tables.readers hs.tables]; exact hrd, hid, h1, h2, (fdOk_congr hreg _ _).2 h3⟩
  | nbwReserve x len =>
    obtain ⟨wr, hwr, hid, h1⟩ := hrdy
    exact ⟨wr, by rw [show w'.writers = w.writers from congrArg Tables.writers hs.tables]; exact hwr, hid, h1⟩
  | nbwConsume x len =>
    obtain ⟨wr, hwr, hid, h1, h3⟩ := hrdy
    exact ⟨wr, by rw [show w'.writers = w.writers from congrArg Tables.writers hs.tables]; exact hwr, hid, h1, (fdOk_congr hreg _ _).2 h3⟩
  | nbwWrite x len =>
    obtain ⟨wr, hwr, hid, h1, h3⟩ := hrdy
    exact ⟨wr, by rw [show w'.writers = w.writers from congrArg Tables.writers hs.tables]; exact hwr, hid, h1, (fdOk_congr hreg _ _).2 h3⟩
  | _ => exact hrdy.elim

theorem absent_of_find_none {α : Type} (k : α → Nat) {l : List α} {c : Nat} (hf : l.find? (fun x => k x == c) = none) :
    ¬ ∃ a ∈ l, k a = c := by
  rintro ⟨a, ha, hc⟩
  exact absurd (List.find?_eq_none.1 hf a ha) (by simp [hc])

/-- a statement about the entry with the key of `a` is a statement about `a` (how `Ready`, `Ready'`, `Present` name an object) -/
theorem named_iff {α : Type} (k : α → Nat) {l : List α} (hnd : (l.map k).Nodup) {a : α} (ha : a ∈ l) {P : α → Prop} :
    (∃ x ∈ l, k x = k a ∧ P x) ↔ P a :=
  ⟨fun ⟨_, hx, hk, hp⟩ => Keys.inj hnd hx ha hk ▸ hp, fun hp => ⟨a, ha, rfl, hp⟩⟩

theorem call_of_not_new {w : World} {op : Op} (hn : isNew op = false) : (call w op).2.1 = none := by
  cases op with
  | read _ | write _ | accept _ | connect _ _ _ | nbrInit _ | nbwInit _ | http _ _ _ | https _ _ _ _ => cases hn
  | _ => rfl

namespace OpPost

/-- a call outside the usage contract: it is not made -/
theorem notMade {w : World} {op : Op} (h : Inv0 w) (hs : stepR w op = (.contract, w)) (hnp : ¬ Present w op)
    (hnr : ¬ Ready' w op) : OpPost w op (stepR w op) := by
  rw [hs]
  exact ⟨h.at, fun _ => rfl, fun hc => absurd rfl hc, nofun, nofun, nofun, fun _ hr => absurd rfl hr, fun _ => nofun,
    fun hp => absurd hp hnp, fun hp => absurd hp hnp, fun hr => absurd hr hnr, nofun⟩

/-- a release call that is made: it cannot fail -/
theorem ofRel {w w' : World} {op : Op} (hrel : isRelease op = true) (hs : stepR w op = (.ok, w')) (ha : Arrives w w')
    (htab : TabStep (tables w) op .ok none (tables w'))
    (hq : isQuiet op = true → w.ev.recPool.stacklen < w.ev.recPool.allocsize →
      w.rdPool.stacklen < w.rdPool.allocsize → w.wrPool.stacklen < w.wrPool.allocsize → w'.m.n = w.m.n) :
    OpPost w op (stepR w op) := by
  have hnn : isNew op = false := by
    cases hn : isNew op with
    | false => rfl
    | true => rw [(atomic_of_new hn).2] at hrel; cases hrel
  rw [hs]
  refine ⟨ha, nofun, fun _ => ?_, nofun, nofun, nofun, fun hr => ?_, fun _ => nofun, fun _ => rfl, fun _ => hq,
    fun hr => absurd hr (not_ready_of_release hrel), nofun⟩
  · rw [call_of_not_new hnn]; exact htab
  · rw [hrel] at hr; cases hr

/-- one of the eight calls that make a new object; `R` is what the library function returns -/
theorem ofNew {w : World} {op : Op} {R : Option Nat × World} {P : Nat → World → Prop} (hn : isNew op = true)
    (hs : stepR w op = Run.ofOpt R)
    (hc : call w op = match (generalizing := false) R with
      | (some c, w') => (.ok, some c, w') | (none, w') => (.fail, none, w'))
    (hp : NewPost w R P (Ready w op))
    (htab : ∀ c, R.1 = some c → P c R.2 → TabStep (tables w) op .ok (some c) (tables R.2)) :
    OpPost w op (stepR w op) := by
  obtain ⟨hat, hrel⟩ := atomic_of_new hn
  rw [hs]
  have hfail : (Run.ofOpt R).1 = .fail → R.1 = none := ofOpt_fail.1
  refine ⟨by rw [ofOpt_snd]; exact hp.arr, fun h => absurd h (ofOpt_ne_contract R), fun _ => ?_,
    fun h => by rw [ofOpt_snd]; exact (hp.same (hfail h)).registry, fun h _ => by rw [ofOpt_snd]; exact hp.same (hfail h),
    fun h hr => by rw [ofOpt_snd]; exact hp.cause (hfail h) (ready_of_new hn hr),
    fun _ hr => ofOpt_fail.2 (hp.refused (by rw [ofOpt_snd] at hr; exact hr)), fun hr => (by rw [hrel] at hr; cases hr),
    fun hpr => absurd hpr (not_present_of_new hn), fun hpr => absurd hpr (not_present_of_new hn),
    fun _ => ofOpt_ne_contract R, fun h hr _ => by rw [ofOpt_snd]; exact ready_of_same (hp.same (hfail h)) op hr⟩
  rw [hc]
  rcases R with ⟨_ | c, w'⟩
  · show TabStep (tables w) op .fail none (tables w')
    rw [(hp.same rfl).tables]
    exact TabStep.same _ _ hrel
  · exact htab c rfl (hp.ok c rfl)

end OpPost

/-- what `poke` did to the writer's entry (`Poked`), as a table change -/
theorem Poked.tabStep {w : World} {x : Writer} {fl : Bool} {R : Rc × World} {c0 : Op} {len : Nat}
    (hp : Poked w x false fl R) (hx : x ∈ w.writers) (hc0 : c0 = .nbwConsume x.id len ∨ c0 = .nbwWrite x.id len)
    (hnd : ((tables R.2).writes.map (·.cookie)).Nodup) : TabStep (tables w) c0 R.1 none (tables R.2) := by
  obtain ⟨x', h1, h2, h3, _, hc⟩ := hp
  rcases hc with ⟨h5, ht, _⟩ | ⟨h5, hok, wb, c, h6, ht⟩
  · rw [ht]
    exact TabStep.nbwUpd _ _ len x x' hc0 hx h1 h2 h3 h5
  · rw [ht] at hnd ⊢
    rw [hok]
    exact TabStep.nbwStart _ len x x' wb c hc0 hx h1 h2 h3 h5 h6 (fresh_of_nodup NetReq.cookie hnd)

/-- a failure inside `poke` leaves the writer in its table, with the registry as it was -/
theorem Poked.fail {w : World} {x : Writer} {rsv fl : Bool} {R : Rc × World} (hp : Poked w x rsv fl R) (hf : R.1 = .fail) :
    ∃ x' : Writer, x'.id = x.id ∧ x'.fd = x.fd ∧ x'.reserved = rsv ∧
      tables R.2 = { tables w with writers := updWriter w.writers x' } ∧ registry R.2.ev = registry w.ev := by
  obtain ⟨x', h1, h2, h3, _, hc⟩ := hp
  rcases hc with ⟨_, ht, hreg⟩ | ⟨_, hok, _⟩
  · exact ⟨x', h1, h2, h3, ht, hreg⟩
  · rw [hf] at hok; cases hok

/-- **what one operation does** -/
theorem stepR_post (w : World) (op : Op) (hI : Inv w) : OpPost w op (stepR w op) := by
  have h := hI.toInv0
  cases op with
  | read fd =>
    have hp := networkRead_spec w fd h
    refine .ofNew rfl rfl rfl hp
      fun c _ ⟨_, ht, _⟩ => ?_
    have hnd := hp.inv.ids Tab.reads
    rw [ht] at hnd ⊢
    exact TabStep.read fd c (fresh_of_nodup NetReq.cookie hnd)
  | write fd =>
    have hp := networkWrite_spec w fd h
    refine .ofNew rfl rfl rfl hp fun c _ ⟨_, ht, _⟩ => ?_
    have hnd := hp.inv.ids Tab.writes
    rw [ht] at hnd ⊢
    exact TabStep.write fd c (fresh_of_nodup NetReq.cookie hnd)
  | accept fd =>
    have hp := networkAccept_spec w fd h
    refine .ofNew rfl rfl rfl hp fun c _ ⟨_, ht, _⟩ => ?_
    have hnd := hp.inv.ids Tab.accepts
    rw [ht] at hnd ⊢
    exact TabStep.accept fd c (fresh_of_nodup NetReq.cookie hnd)
  | connect a tm s =>
    have hp := networkConnect_spec w a tm s h
    refine .ofNew rfl rfl rfl hp fun c _ ⟨_, ht, _⟩ => ?_
    have hnd := hp.inv.ids Tab.conns
    rw [ht] at hnd ⊢
    have hf := fresh_of_nodup Conn.cookie hnd
    rw [Run.connEntry_cookie] at hf
    exact TabStep.connect a tm s c _ (Run.connEntry_cookie c a tm s) hf
  | nbrInit fd =>
    have hp := netbufReadInit_spec w fd h
    refine .ofNew rfl rfl rfl hp fun c _ ⟨b, _, ht, _⟩ => ?_
    have hnd := hp.inv.ids Tab.readers
    rw [ht] at hnd ⊢
    exact TabStep.nbrInit fd c _ rfl rfl rfl (fresh_of_nodup Reader.id hnd)
  | nbwInit fd =>
    have hp := netbufWriteInit_spec w fd h
    refine .ofNew rfl rfl rfl hp fun c _ ⟨_, ht, _⟩ => ?_
    have hnd := hp.inv.ids Tab.writers
    rw [ht] at hnd ⊢
    exact TabStep.nbwInit fd c _ rfl rfl rfl rfl (fresh_of_nodup Writer.id hnd)
  | http a l s =>
    have hp := httpRequest_spec w a l s h
    refine .ofNew rfl rfl rfl hp fun x _ ⟨hd, c, _, ht, _⟩ => ?_
    have hndc := hp.inv.ids Tab.conns
    have hndh := hp.inv.ids Tab.https
    rw [ht] at hndc hndh ⊢
    have hf := fresh_of_nodup Conn.cookie hndc
    rw [Run.connEntry_cookie] at hf
    exact TabStep.http _ a l s x hd c none _ (Or.inl rfl) (Run.connEntry_cookie c a none s) hf
      (fresh_of_nodup Http.cookie hndh)
  | https a l s hl =>
    have hp := httpsRequest_spec w a l s hl h
    refine .ofNew rfl rfl rfl hp fun x _ ⟨sh, hd, c, _, ht, _⟩ => ?_
    have hndc := hp.inv.ids Tab.conns
    have hndh := hp.inv.ids Tab.https
    rw [ht] at hndc hndh ⊢
    have hf := fresh_of_nodup Conn.cookie hndc
    rw [Run.connEntry_cookie] at hf
    exact TabStep.http _ a l s x hd c (some sh) _ (Or.inr ⟨hl, rfl⟩) (Run.connEntry_cookie c a none s) hf
      (fresh_of_nodup Http.cookie hndh)
  | readCancel c =>
    cases hown : readOwned w c with
    | true => exact .notMade h (by simp only [stepR, hown, if_true]) (fun hp => by rw [hp.2] at hown; cases hown) id
    | false =>
      cases hf : w.reads.find? (·.cookie == c) with
      | none =>
        exact .notMade h (by simp only [stepR, hown, networkReadCancel, hf, Bool.false_eq_true, if_false])
          (fun hp => absent_of_find_none _ hf hp.1) id
      | some a =>
        have ha := Run.find_key (fun x : NetReq => x.cookie) hf
        obtain ⟨w', hcall, harr, _, ht, hq⟩ := networkReadCancel_spec w a h ha.1
        rw [ha.2] at hcall ht
        refine .ofRel rfl (by simp only [stepR, hown, hcall, Bool.false_eq_true, if_false]) harr ?_
          (fun _ h1 h2 _ => hq h1 h2)
        rw [ht]
        have hun : ∀ r ∈ w.readers, r.readCookie ≠ some c := by simpa [readOwned] using hown
        exact TabStep.readCancel c hun
  | writeCancel c =>
    cases hown : writeOwned w c with
    | true => exact .notMade h (by simp only [stepR, hown, if_true]) (fun hp => by rw [hp.2] at hown; cases hown) id
    | false =>
      cases hf : w.writes.find? (·.cookie == c) with
      | none =>
        exact .notMade h (by simp only [stepR, hown, networkWriteCancel, hf, Bool.false_eq_true, if_false])
          (fun hp => absent_of_find_none _ hf hp.1) id
      | some a =>
        have ha := Run.find_key (fun x : NetReq => x.cookie) hf
        obtain ⟨w', hcall, harr, _, ht, hq⟩ := networkWriteCancel_spec w a h ha.1
        rw [ha.2] at hcall ht
        refine .ofRel rfl (by simp only [stepR, hown, hcall, Bool.false_eq_true, if_false]) harr ?_
          (fun _ h1 _ h3 => hq h1 h3)
        rw [ht]
        have hun : ∀ x ∈ w.writers, x.curr.map (·.2) ≠ some c := by simpa [writeOwned] using hown
        exact TabStep.writeCancel c hun
  | acceptCancel c =>
    cases hf : w.accepts.find? (·.cookie == c) with
    | none =>
      exact .notMade h (by simp only [stepR, networkAcceptCancel, hf]) (fun hp => absent_of_find_none _ hf hp) id
    | some a =>
      have ha := Run.find_key (fun x : NetReq => x.cookie) hf
      obtain ⟨w', hcall, harr, _, ht, hq⟩ := networkAcceptCancel_spec w a h ha.1
      rw [ha.2] at hcall ht
      refine .ofRel rfl (by simp only [stepR, hcall]) harr ?_ (fun _ h1 _ _ => hq h1)
      rw [ht]
      exact TabStep.acceptCancel c
  | connectCancel c =>
    cases hown : connOwned w c with
    | true => exact .notMade h (by simp only [stepR, hown, if_true]) (fun hp => by rw [hp.2] at hown; cases hown) id
    | false =>
      cases hf : w.conns.find? (·.cookie == c) with
      | none =>
        exact .notMade h (by simp only [stepR, hown, networkConnectCancel, hf, Bool.false_eq_true, if_false])
          (fun hp => absent_of_find_none _ hf hp.1) id
      | some a =>
        have ha := Run.find_key (fun x : Conn => x.cookie) hf
        obtain ⟨w', hcall, harr, _, _, ht⟩ := networkConnectCancel_spec w a h ha.1
        rw [ha.2] at hcall ht
        refine .ofRel rfl (by simp only [stepR, hown, hcall, Bool.false_eq_true, if_false]) harr ?_ nofun
        rw [ht]
        have hun : ∀ x ∈ w.https, x.conn ≠ some c := by simpa [connOwned] using hown
        exact TabStep.connectCancel c hun
  | nbrCancel rid =>
    cases hf : w.readers.find? (·.id == rid) with
    | none =>
      exact .notMade h (by simp only [stepR, netbufReadWaitCancel, hf]) (fun hp => absent_of_find_none _ hf hp) id
    | some r =>
      obtain ⟨hr, rfl⟩ := Run.find_key (fun x : Reader => x.id) hf
      obtain ⟨w', hcall, harr, ht⟩ := netbufReadWaitCancel_spec w r h hr (hI.refs.rdRef r hr)
      exact .ofRel rfl (by simp only [stepR, hcall]) harr (ht ▸ TabStep.nbrCancel r hr) nofun
  | nbrFree rid =>
    cases hf : w.readers.find? (·.id == rid) with
    | none =>
      exact .notMade h (by simp only [stepR, netbufReadFree, hf])
        (fun ⟨rd, hrd, hid, _⟩ => absent_of_find_none _ hf ⟨rd, hrd, hid⟩) id
    | some r =>
      obtain ⟨hr, rfl⟩ := Run.find_key (fun x : Reader => x.id) hf
      obtain ⟨hbusy, hidle⟩ := netbufReadFree_spec w r h hr
      have hnd := h.ids Tab.readers
      by_cases hb : r.readCookie.isSome = true ∨ r.immediate = true
      · refine .notMade h (by simp only [stepR, hbusy hb]) ?_ id
        intro hp
        obtain ⟨h1, h2⟩ := (named_iff Reader.id hnd hr).1 hp
        rcases hb with hb | hb
        · rw [h1] at hb; cases hb
        · rw [h2] at hb; cases hb
      · have hc : r.readCookie = none := by
          cases hc : r.readCookie with
          | none => rfl
          | some c => exact absurd (Or.inl (by rw [hc]; rfl)) hb
        have him : r.immediate = false := by
          cases him : r.immediate with
          | false => rfl
          | true => exact absurd (Or.inr him) hb
        obtain ⟨w', hcall, harr, hn, ht⟩ := hidle hc him
        refine .ofRel rfl (by simp only [stepR, hcall]) harr ?_ (fun _ _ _ _ => hn)
        rw [ht]
        exact TabStep.nbrFree r hr hc
  | nbwFree wid =>
    cases hf : w.writers.find? (·.id == wid) with
    | none =>
      exact .notMade h (by simp only [stepR, netbufWriteFree, hf]) (fun hp => absent_of_find_none _ hf hp) id
    | some x =>
      obtain ⟨hx, rfl⟩ := Run.find_key (fun x : Writer => x.id) hf
      obtain ⟨w', hcall, harr, ht⟩ := netbufWriteFree_spec w x h hx (hI.refs.wrRef x hx)
      exact .ofRel rfl (by simp only [stepR, hcall]) harr (ht ▸ TabStep.nbwFree x hx) nofun
  | httpCancel hid =>
    cases hf : w.https.find? (·.cookie == hid) with
    | none =>
      exact .notMade h (by simp only [stepR, httpRequestCancel, hf]) (fun hp => absent_of_find_none _ hf hp) id
    | some x =>
      obtain ⟨hx, rfl⟩ := Run.find_key (fun x : Http => x.cookie) hf
      obtain ⟨w', hcall, harr, ht⟩ := httpRequestCancel_spec w x h hx (hI.refs.htRef x hx)
      exact .ofRel rfl (by simp only [stepR, hcall]) harr (ht ▸ TabStep.httpCancel x hx) nofun
  | nbrWait rid len =>
    show OpPost w (.nbrWait rid len) (netbufReadWait w rid len)
    cases hfind : w.readers.find? (·.id == rid) with
    | none =>
      exact .notMade h (by simp only [stepR, netbufReadWait, hfind]) id
        (fun ⟨rd, hrd, hid, _⟩ => absent_of_find_none _ hfind ⟨rd, hrd, hid⟩)
    | some r =>
      obtain ⟨hr, rfl⟩ := Run.find_key (fun x : Reader => x.id) hfind
      have sp := netbufReadWait_spec w r len h hr
      -- the contracts speak of this reader
      have hrdy : Ready w (.nbrWait r.id len) → r.readCookie = none ∧ r.immediate = false ∧ fdOk w r.fd false :=
        (named_iff Reader.id (h.ids Tab.readers) hr).1
      have hrdy' : Ready' w (.nbrWait r.id len) → r.readCookie = none ∧ r.immediate = false ∧
          (r.datalen - r.bufpos < len → fdOk w r.fd false) :=
        (named_iff Reader.id (h.ids Tab.readers) hr).1
      refine ⟨sp.arr, sp.contract, fun hnc => ?_,
        fun hf => (sp.fail hf).1, nofun, fun hf hr' => sp.refusals.cause hf (hrdy' hr').2.2, fun _ => sp.refusals.refused, nofun,
        fun hp => hp.elim, fun hp => hp.elim, fun hr' hc => ?_, fun hf hr' _ => ?_⟩
      · have hc : r.readCookie = none := by
          cases hrc : r.readCookie with
          | none => rfl
          | some c => exact absurd (sp.contractIff.2 (Or.inl (by simp [hrc]))) hnc
        cases hrc : (netbufReadWait w r.id len).1 with
        | contract => exact absurd hrc hnc
        | fail =>
          obtain ⟨_, r', h1, h2, _, h4, _, ht⟩ := sp.fail hrc
          rw [ht]
          exact TabStep.nbrUpd len .fail r r' hr hc h1 h2 h4
        | ok =>
          rcases sp.ok hrc with ⟨_, ht⟩ | ⟨_, r', c, h1, h2, _, h4, _, _, ht⟩
          · rw [ht]
            exact TabStep.nbrUpd len .ok r { r with immediate := true } hr hc rfl rfl hc
          · have hnd := sp.arr.inv0.ids Tab.reads
            rw [ht] at hnd ⊢
            exact TabStep.nbrRead len r r' c hr hc h1 h2 h4 (fresh_of_nodup NetReq.cookie hnd)
      · rcases sp.contractIff.1 hc with hh | hh
        · rw [(hrdy' hr').1] at hh; cases hh
        · rw [(hrdy' hr').2.1] at hh; cases hh
      · obtain ⟨hreg, r', hid, hfd', _, hc', him', ht⟩ := sp.fail hf
        refine ⟨r', ?_, hid, hc', him', ?_⟩
        · have : (netbufReadWait w r.id len).2.readers = _ := congrArg Tables.readers ht
          show r' ∈ (netbufReadWait w r.id len).2.readers
          rw [this]; exact Run.mem_upd (fun x : Reader => x.id) hr hid
        · rw [hfd']; exact (fdOk_congr hreg _ _).2 (hrdy hr').2.2
  | nbwReserve wid len =>
    show OpPost w (.nbwReserve wid len) (netbufWriteReserve w wid len)
    cases hfind : w.writers.find? (·.id == wid) with
    | none =>
      exact .notMade h (by simp only [stepR, netbufWriteReserve, hfind]) id
        (fun ⟨wr, hwr, hid, _⟩ => absent_of_find_none _ hfind ⟨wr, hwr, hid⟩)
    | some x =>
      obtain ⟨hx, rfl⟩ := Run.find_key (fun x : Writer => x.id) hfind
      have sp := netbufWriteReserve_spec w x len h hx
      have hrdy : Ready w (.nbwReserve x.id len) → x.reserved = false :=
        (named_iff Writer.id (h.ids Tab.writers) hx).1
      refine ⟨sp.arr, sp.contract, fun hnc => ?_,
        fun hf => (sp.fail hf).registry, fun hf _ => sp.fail hf, fun hf _ => sp.refusals.cause hf trivial,
        fun _ => sp.refusals.refused, nofun,
        fun hp => hp.elim, fun hp => hp.elim, fun hr' hc => ?_, fun hf hr' _ => ready_of_same (sp.fail hf) _ hr'⟩
      · have hres : x.reserved = false := by
          cases hr : x.reserved with
          | false => rfl
          | true => exact absurd (sp.contractIff.2 hr) hnc
        cases hrc : (netbufWriteReserve w x.id len).1 with
        | contract => exact absurd hrc hnc
        | fail =>
          rw [(sp.fail hrc).tables]
          exact TabStep.same _ _ rfl
        | ok =>
          obtain ⟨q, _, hq, ht⟩ := sp.ok hrc
          rw [ht]
          exact TabStep.nbwReserve len x q hx hres hq
      · have hh := sp.contractIff.1 hc
        rw [hrdy hr'] at hh; cases hh
  | nbwConsume wid len =>
    show OpPost w (.nbwConsume wid len) (netbufWriteConsume w wid len)
    cases hfind : w.writers.find? (·.id == wid) with
    | none =>
      exact .notMade h (by simp only [stepR, netbufWriteConsume, hfind]) id
        (fun ⟨wr, hwr, hid, _⟩ => absent_of_find_none _ hfind ⟨wr, hwr, hid⟩)
    | some x =>
      obtain ⟨hx, rfl⟩ := Run.find_key (fun x : Writer => x.id) hfind
      have sp := netbufWriteConsume_spec w x len h hx
      have hrdy : Ready' w (.nbwConsume x.id len) → consumeOk x len ∧ (x.curr = none → fdOk w x.fd true) :=
        (named_iff Writer.id (h.ids Tab.writers) hx).1
      refine ⟨sp.arr, sp.contract, fun hnc => ?_, fun hf => ?_, nofun,
        fun hf hr' => sp.caused.cause hf (hrdy hr').2, fun _ => sp.caused.refused, nofun, fun hp => hp.elim, fun hp => hp.elim,
        fun hr' hc => sp.contractIff.1 hc (hrdy hr').1, fun _ _ hne => absurd rfl (hne x.id len)⟩
      · exact (sp.poked hnc).tabStep hx (Or.inl rfl) (sp.arr.inv0.ids Tab.writes)
      · obtain ⟨_, _, _, _, _, hreg⟩ := (sp.poked (by rw [hf]; nofun)).fail hf
        exact hreg
  | nbwWrite wid len =>
    show OpPost w (.nbwWrite wid len) (netbufWriteWrite w wid len)
    cases hfind : w.writers.find? (·.id == wid) with
    | none =>
      exact .notMade h (by simp only [stepR, netbufWriteWrite, hfind]) id
        (fun ⟨wr, hwr, hid, _⟩ => absent_of_find_none _ hfind ⟨wr, hwr, hid⟩)
    | some x =>
      obtain ⟨hx, rfl⟩ := Run.find_key (fun x : Writer => x.id) hfind
      have sp := netbufWriteWrite_spec w x len h hx
      have hrdy : Ready w (.nbwWrite x.id len) → x.reserved = false ∧ fdOk w x.fd true :=
        (named_iff Writer.id (h.ids Tab.writers) hx).1
      have hrdy' : Ready' w (.nbwWrite x.id len) → x.reserved = false ∧ (x.curr = none → fdOk w x.fd true) :=
        (named_iff Writer.id (h.ids Tab.writers) hx).1
      -- what a failure leaves: the writer, not reserved, and the registry as it was
      have hfw : (netbufWriteWrite w x.id len).1 = .fail → ∃ x' : Writer, x'.id = x.id ∧ x'.fd = x.fd ∧ x'.reserved = false ∧
          tables (netbufWriteWrite w x.id len).2 = { tables w with writers := updWriter w.writers x' } ∧
          registry (netbufWriteWrite w x.id len).2.ev = registry w.ev := by
        intro hf
        cases hfailed : x.failed with
        | true => rw [sp.discarded hfailed] at hf; cases hf
        | false => exact (sp.poked hfailed (by rw [hf]; nofun)).fail hf
      refine ⟨sp.arr, sp.contract, fun hnc => ?_,
        fun hf => let ⟨_, _, _, _, _, hreg⟩ := hfw hf; hreg, nofun, fun hf hr' => sp.caused.cause hf (hrdy' hr').2,
        fun _ => sp.caused.refused, nofun,
        fun hp => hp.elim, fun hp => hp.elim, fun hr' hc => ?_, fun hf hr' _ => ?_⟩
      · cases hfailed : x.failed with
        | true =>
          rw [sp.discarded hfailed]
          exact TabStep.same _ _ rfl
        | false => exact (sp.poked hfailed hnc).tabStep hx (Or.inr rfl) (sp.arr.inv0.ids Tab.writes)
      · have hh := (sp.contractIff.1 hc).2
        rw [(hrdy' hr').1] at hh; cases hh
      · obtain ⟨x', hid, hfd', hres, ht, hreg⟩ := hfw hf
        refine ⟨x', ?_, hid, hres, ?_⟩
        · have : (netbufWriteWrite w x.id len).2.writers = _ := congrArg Tables.writers ht
          show x' ∈ (netbufWriteWrite w x.id len).2.writers
          rw [this]; exact mem_updWriter hx hid
        · rw [hfd']; exact (fdOk_congr hreg _ _).2 (hrdy hr').2

/-- **what one call that was carried out does to the object tables** -/
theorem tabStep_stepR (w : World) (c0 : Op) (hI : Inv w) (hnc : (stepR w c0).1 ≠ .contract) :
    TabStep (tables w) c0 (stepR w c0).1 (call w c0).2.1 (tables (stepR w c0).2) :=
  (stepR_post w c0 hI).tab hnc

end Percival.Proofs.AllocFailUpper
