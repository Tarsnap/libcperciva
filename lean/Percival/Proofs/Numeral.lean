import Percival.Model.Strto
/-! Helper lemmas for C16: the `strto*` scan computes the longest numeral of `Spec.Numeral`. -/
namespace Percival.Proofs.Numeral
open Percival.Spec.Numeral Percival.Model.Strto

theorem takeWhile_append_stop {p : UInt8 → Bool} (a r : List UInt8) (ha : ∀ c ∈ a, p c = true)
    (hr : ∀ c r', r = c :: r' → p c = false) : (a ++ r).takeWhile p = a ∧ (a ++ r).dropWhile p = r := by
  rw [List.takeWhile_append_of_pos ha, List.dropWhile_append_of_pos ha]
  cases r with
  | nil => simp
  | cons x b => simp [hr x b rfl]

theorem takeWhile_all {p : UInt8 → Bool} (s : List UInt8) : ∀ c ∈ s.takeWhile p, p c = true := by
  induction s with
  | nil => simp
  | cons x xs ih =>
    intro c hc
    rw [List.takeWhile_cons] at hc
    split at hc
    · rcases List.mem_cons.mp hc with h | h
      · subst h; assumption
      · exact ih c h
    · simp at hc

theorem digitOf_eq_some_iff {radix : Nat} {c : UInt8} {d : Nat} :
    digitOf radix c = some d ↔ digitVal c = some d ∧ d < radix := by
  unfold digitOf
  cases digitVal c with
  | none => exact ⟨nofun, fun h => nomatch h.1⟩
  | some d' =>
    show (if d' < radix then some d' else none) = some d ↔ _
    by_cases hd : d' < radix
    · rw [if_pos hd]
      exact ⟨fun h => ⟨h, Option.some.inj h ▸ hd⟩, fun h => h.1⟩
    · rw [if_neg hd]
      exact ⟨nofun, fun h => absurd (Option.some.inj h.1 ▸ h.2) hd⟩

theorem digitOf_lt {radix : Nat} {c : UInt8} {d : Nat} (h : digitOf radix c = some d) : d < radix :=
  (digitOf_eq_some_iff.mp h).2

theorem digitOf_mono {r1 r2 : Nat} {c : UInt8} {d : Nat} (h : digitOf r1 c = some d) (hr : r1 ≤ r2) :
    digitOf r2 c = some d :=
  digitOf_eq_some_iff.mpr ⟨(digitOf_eq_some_iff.mp h).1, Nat.lt_of_lt_of_le (digitOf_lt h) hr⟩

/-- `0`–`9`, `a`–`z`, `A`–`Z` -/
def Alnum (c : UInt8) : Prop := (0x30 ≤ c ∧ c ≤ 0x39) ∨ (0x61 ≤ c ∧ c ≤ 0x7a) ∨ (0x41 ≤ c ∧ c ≤ 0x5a)

/-- bytes that are digits of some radix are alphanumeric: in particular not space, sign, or NUL -/
theorem digitVal_some_alnum {c : UInt8} {d : Nat} (h : digitVal c = some d) :
    (0x30 ≤ c ∧ c ≤ 0x39) ∨ (0x61 ≤ c ∧ c ≤ 0x7a) ∨ (0x41 ≤ c ∧ c ≤ 0x5a) := by
  unfold digitVal at h
  split at h
  · left; assumption
  · split at h
    · right; left; assumption
    · split at h
      · right; right; assumption
      · simp at h

theorem digitOf_some_digitVal {radix : Nat} {c : UInt8} {d : Nat} (h : digitOf radix c = some d) :
    digitVal c = some d :=
  (digitOf_eq_some_iff.mp h).1

theorem alnum_not_sign {c : UInt8} (h : Alnum c) : c ≠ 0x2d ∧ c ≠ 0x2b ∧ isSpace c = false := by
  unfold Alnum at h
  have hn : (0x30 ≤ c.toNat ∧ c.toNat ≤ 0x39) ∨ (0x61 ≤ c.toNat ∧ c.toNat ≤ 0x7a) ∨ (0x41 ≤ c.toNat ∧ c.toNat ≤ 0x5a) := by
    simpa [UInt8.le_iff_toNat_le] using h
  refine ⟨?_, ?_, ?_⟩
  · intro h0; subst h0; simp at hn
  · intro h0; subst h0; simp at hn
  · unfold isSpace
    simp only [Bool.or_eq_false_iff, Bool.and_eq_false_iff, beq_eq_false_iff_ne, ne_eq, decide_eq_false_iff_not,
      UInt8.le_iff_toNat_le, ← UInt8.toNat_inj]
    simp
    omega

theorem digit_not_space {radix : Nat} {c : UInt8} {d : Nat} (h : digitOf radix c = some d) :
    isSpace c = false :=
  (alnum_not_sign (digitVal_some_alnum (digitOf_some_digitVal h))).2.2

/-- value of a run of digits continuing from `acc` -/
def runVal (radix acc : Nat) (ds : List UInt8) : Nat :=
  ds.foldl (fun a c => a * radix + (digitOf radix c).getD 0) acc

theorem digitsVal_eq_some {radix : Nat} : ∀ {ds : List UInt8} {acc m : Nat},
    digitsVal radix acc ds = some m ↔ (∀ c ∈ ds, isDigit radix c = true) ∧ m = runVal radix acc ds := by
  intro ds
  induction ds with
  | nil =>
    intro acc m
    simp only [digitsVal, runVal, List.foldl_nil, Option.some.injEq, List.not_mem_nil, false_imp_iff, implies_true, true_and]
    exact eq_comm
  | cons c cs ih =>
    intro acc m
    cases hd : digitOf radix c with
    | none => simp [digitsVal, hd, isDigit]
    | some d => simp [digitsVal, hd, isDigit, runVal, ih]

theorem digitsVal_append (radix : Nat) (a b : List UInt8) (acc : Nat) :
    digitsVal radix acc (a ++ b) = (digitsVal radix acc a).bind (fun m => digitsVal radix m b) := by
  induction a generalizing acc with
  | nil => rfl
  | cons c cs ih =>
    simp only [List.cons_append, digitsVal]
    cases digitOf radix c with
    | none => rfl
    | some d => exact ih _

theorem digitsVal_mono {radix : Nat} : ∀ (ds : List UInt8) (acc n : Nat), 0 < radix →
    digitsVal radix acc ds = some n → acc ≤ n := by
  intro ds
  induction ds with
  | nil => intro acc n _ h; simp [digitsVal] at h; omega
  | cons c cs ih =>
    intro acc n hr h
    simp only [digitsVal] at h
    split at h
    · have := ih _ _ hr h
      have : acc * 1 ≤ acc * radix := Nat.mul_le_mul_left _ hr
      omega
    · cases h

/-- `scanDigits` takes the longest run of digits: the scanners' digit runs are `takeWhile` / `dropWhile`, like their
    white space -/
theorem scanDigits_eq (radix : Nat) : ∀ (s : List UInt8) (acc cnt : Nat),
    scanDigits radix acc cnt s =
      (runVal radix acc (s.takeWhile (isDigit radix)), cnt + (s.takeWhile (isDigit radix)).length,
        s.dropWhile (isDigit radix)) := by
  intro s
  induction s with
  | nil => intro acc cnt; rfl
  | cons c cs ih =>
    intro acc cnt
    cases hd : digitOf radix c with
    | none => simp [scanDigits, hd, isDigit, runVal]
    | some d => simp [scanDigits, hd, isDigit, runVal, ih]; omega

theorem run_denotes (radix acc : Nat) (s : List UInt8) :
    digitsVal radix acc (s.takeWhile (isDigit radix)) = some (runVal radix acc (s.takeWhile (isDigit radix))) :=
  digitsVal_eq_some.mpr ⟨takeWhile_all s, rfl⟩

theorem scanDigits_spec (radix : Nat) (s : List UInt8) (acc cnt : Nat) :
    ∃ ds rest acc', s = ds ++ rest ∧ scanDigits radix acc cnt s = (acc', cnt + ds.length, rest) ∧
      digitsVal radix acc ds = some acc' :=
  ⟨_, _, _, List.takeWhile_append_dropWhile.symm, scanDigits_eq radix s acc cnt, run_denotes radix acc s⟩

theorem scanDigits_append {radix acc m : Nat} {ds : List UInt8} (h : digitsVal radix acc ds = some m) (cnt : Nat)
    (rest : List UInt8) : scanDigits radix acc cnt (ds ++ rest) = scanDigits radix m (cnt + ds.length) rest := by
  obtain ⟨hall, rfl⟩ := digitsVal_eq_some.mp h
  simp only [scanDigits_eq, List.takeWhile_append_of_pos hall, List.dropWhile_append_of_pos hall, List.length_append,
    runVal, List.foldl_append, Nat.add_assoc]

theorem scanDigits_prefix {radix acc m : Nat} {ds : List UInt8} (h : digitsVal radix acc ds = some m) (cnt : Nat)
    (rest : List UInt8) :
    ∃ acc' n r, scanDigits radix acc cnt (ds ++ rest) = (acc', cnt + ds.length + n, r) ∧ (n = 0 → acc' = m) :=
  ⟨_, _, _, (scanDigits_append h cnt rest).trans (scanDigits_eq radix rest m _),
    fun h0 => by rw [List.eq_nil_of_length_eq_zero h0]; rfl⟩

/-- the condition under which `scanPrefix` takes `0x` / `0X` as a prefix: the base allows it and a hexadecimal digit
    follows -/
def hexCond (base : Nat) (s : List UInt8) : Prop :=
  ∃ x h t, s = 0x30 :: x :: h :: t ∧ (base = 0 ∨ base = 16) ∧ isX x = true ∧ isDigit 16 h = true

/-- the radix `scanPrefix` chooses when it takes no prefix -/
def plainRadix (base : Nat) (s : List UInt8) : Nat :=
  if base ≠ 0 then base else if s.head? = some 0x30 then 8 else 10

theorem scanPrefix_hex {base : Nat} {x h : UInt8} {t : List UInt8} (hb : base = 0 ∨ base = 16)
    (hx : isX x = true) (hh : isDigit 16 h = true) :
    scanPrefix base (0x30 :: x :: h :: t) = (16, 2, h :: t) := by
  simp [scanPrefix, hb, hx, hh]

theorem scanPrefix_plain {base : Nat} {s : List UInt8} (hn : ¬ hexCond base s) :
    scanPrefix base s = (plainRadix base s, 0, s) := by
  unfold scanPrefix plainRadix
  split
  · rename_i x h t
    have : ¬ ((base = 0 ∨ base = 16) ∧ isX x = true ∧ isDigit 16 h = true) := by
      intro hc; exact hn ⟨x, h, t, rfl, hc⟩
    simp only [this, if_false]
    by_cases hb : base = 0 <;> simp [hb]
  · rename_i h1
    by_cases hb : base = 0 <;> simp [hb]
  · rename_i h1 h2
    by_cases hb : base = 0
    · simp [hb]
      cases s with
      | nil => simp
      | cons c t =>
        simp
        intro hc; subst hc
        exact absurd rfl (h2 t)
    · simp [hb]

theorem scanSign_other {c : UInt8} {t : List UInt8} (h1 : c ≠ 0x2d) (h2 : c ≠ 0x2b) :
    scanSign (c :: t) = (false, 0, c :: t) := by
  unfold scanSign
  split
  · rename_i heq; injection heq with a b; exact absurd a h1
  · rename_i heq; injection heq with a b; exact absurd a h2
  · rfl

def scanValue (r : Scan) : Int := if r.neg then -(r.mag : Int) else (r.mag : Int)

theorem isX_not_digit16 {x : UInt8} {radix : Nat} (hx : isX x = true) (hr : radix ≤ 16) : digitOf radix x = none := by
  unfold isX at hx
  simp at hx
  rcases hx with h | h <;> subst h <;> simp [digitOf, digitVal] <;> omega

/-- the scan from the sign on: what `scan` does after white space -/
def scanTail (base : Nat) (t1 : List UInt8) : Option (Bool × Nat × Nat) :=
  let (neg, nsign, s2) := scanSign t1
  let (radix, npfx, s3) := scanPrefix base s2
  let (mag, ndig, _) := scanDigits radix 0 0 s3
  if ndig = 0 then none else some (neg, mag, nsign + npfx + ndig)

theorem scan_eq (base : Nat) (s : List UInt8) :
    scan base s = (scanTail base (s.dropWhile isSpace)).map
      (fun r => { neg := r.1, mag := r.2.1, endOff := (s.takeWhile isSpace).length + r.2.2 }) := by
  rcases h1 : scanSign (s.dropWhile isSpace) with ⟨neg, nsign, s2⟩
  rcases h2 : scanPrefix base s2 with ⟨radix, npfx, s3⟩
  rcases h3 : scanDigits radix 0 0 s3 with ⟨mag, ndig, r3⟩
  simp only [scan, scanTail, h1, h2, h3]
  split <;> simp
  omega

theorem scanTail_of_body (base : Nat) (pfx ds rest : List UInt8) (R m : Nat)
    (hpfx : PrefixOk base pfx) (hne : ds ≠ [])
    (hR : R = (if base ≠ 0 then base else if pfx ≠ [] then 16 else if ds.head? = some 0x30 then 8 else 10))
    (hm : digitsVal R 0 ds = some m) :
    ∃ radix npfx s3 mag ndig r3, scanPrefix base (pfx ++ ds ++ rest) = (radix, npfx, s3) ∧
      scanDigits radix 0 0 s3 = (mag, ndig, r3) ∧ pfx.length + ds.length ≤ npfx + ndig ∧ ndig ≠ 0 ∧
      (pfx.length + ds.length = npfx + ndig → mag = m) := by
  obtain ⟨c, cs, rfl⟩ := List.exists_cons_of_ne_nil hne
  cases hc : digitOf R c with
  | none => simp [digitsVal, hc] at hm
  | some d =>
  rcases hpfx with rfl | ⟨hb, hp⟩
  · -- no prefix
    simp only [List.nil_append, ne_eq, not_true_eq_false, if_false, List.head?_cons] at hR ⊢
    by_cases hh : hexCond base (c :: cs ++ rest)
    · obtain ⟨x, h, t, heq, hb, hx, hd⟩ := hh
      simp only [List.cons_append, List.cons.injEq] at heq
      obtain ⟨rfl, heq⟩ := heq
      have hR16 : R ≤ 16 := by
        rcases hb with rfl | rfl <;> simp at hR <;> omega
      have hcs : cs = [] := by
        cases cs with
        | nil => rfl
        | cons c2 cs2 =>
          simp only [List.cons_append, List.cons.injEq] at heq
          obtain ⟨rfl, _⟩ := heq
          simp [digitsVal, hc, isX_not_digit16 hx hR16] at hm
      subst hcs
      simp only [List.nil_append] at heq
      subst heq
      have hd' : isDigit 16 h = true := hd
      refine ⟨16, 2, h :: t, _, _, _, scanPrefix_hex hb hx hd, scanDigits_eq 16 _ 0 0, ?_, ?_, ?_⟩ <;>
        simp only [List.takeWhile_cons, hd', if_true, List.length_cons, List.length_nil] <;> omega
    · have hpr : plainRadix base (c :: cs ++ rest) = R := by
        simp [plainRadix, hR]
      obtain ⟨acc', n, r3, h1, h2⟩ := scanDigits_prefix hm 0 rest
      simp only [List.length_cons, List.length_nil] at h1 ⊢
      exact ⟨R, 0, c :: cs ++ rest, acc', _, r3, by rw [scanPrefix_plain hh, hpr], h1, by omega, by omega,
        fun h => h2 (by omega)⟩
  · -- prefix 0x / 0X
    have hR16 : R = 16 := by
      rcases hp with rfl | rfl <;> rcases hb with rfl | rfl <;> simp [hR]
    subst hR16
    have hd : isDigit 16 c = true := by simp [isDigit, hc]
    obtain ⟨acc', n, r3, h1, h2⟩ := scanDigits_prefix hm 0 rest
    have hx : ∃ x, pfx = [0x30, x] ∧ isX x = true := by
      rcases hp with rfl | rfl
      · exact ⟨0x78, rfl, by decide⟩
      · exact ⟨0x58, rfl, by decide⟩
    obtain ⟨x, rfl, hx⟩ := hx
    simp only [List.length_cons, List.length_nil] at h1 ⊢
    exact ⟨16, 2, c :: cs ++ rest, acc', _, r3, scanPrefix_hex hb hx hd, h1, by omega, by omega,
      fun h => h2 (by omega)⟩

theorem sign_step (sg : Sign) (c0 : UInt8) (t : List UInt8) (h1 : c0 ≠ 0x2d) (h2 : c0 ≠ 0x2b) :
    scanSign (sg.bytes ++ c0 :: t) = (decide (sg = .minus), sg.bytes.length, c0 :: t) := by
  cases sg with
  | none => simp [Sign.bytes, scanSign_other h1 h2]
  | plus => simp [Sign.bytes, scanSign]
  | minus => simp [Sign.bytes, scanSign]

/-- White space, an optional sign, then a byte that is neither: both scanners take the white space off with
    `takeWhile` / `dropWhile isSpace` and then look for the sign. -/
theorem frame_scan (ws : List UInt8) (sg : Sign) (c0 : UInt8) (t : List UInt8) (hws : ∀ c ∈ ws, isSpace c = true)
    (hc0 : c0 ≠ 0x2d ∧ c0 ≠ 0x2b ∧ isSpace c0 = false) :
    (ws ++ sg.bytes ++ c0 :: t).takeWhile isSpace = ws ∧
    scanSign ((ws ++ sg.bytes ++ c0 :: t).dropWhile isSpace) = (decide (sg = .minus), sg.bytes.length, c0 :: t) := by
  obtain ⟨h1, h2, h3⟩ := hc0
  have hx : ∃ x b, sg.bytes ++ c0 :: t = x :: b ∧ isSpace x = false := by
    cases sg with
    | none => exact ⟨c0, t, rfl, h3⟩
    | plus => exact ⟨0x2b, c0 :: t, rfl, by decide⟩
    | minus => exact ⟨0x2d, c0 :: t, rfl, by decide⟩
  obtain ⟨x, b, hxb, hx⟩ := hx
  obtain ⟨htw, hdw⟩ := takeWhile_append_stop ws (x :: b) hws (fun _ _ h => (List.cons.inj h).1 ▸ hx)
  rw [List.append_assoc, hxb, htw, hdw, ← hxb]
  exact ⟨rfl, sign_step sg c0 t h1 h2⟩

theorem scan_of_numeral (base : Nat) (n : Numeral) (v : Int) (rest : List UInt8) (h : n.Denotes base v) :
    ∃ r, scan base (n.bytes ++ rest) = some r ∧ n.bytes.length ≤ r.endOff ∧
      (n.bytes.length = r.endOff → v = scanValue r) := by
  obtain ⟨ws, sg, pfx, ds⟩ := n
  obtain ⟨hws, hpfx, hne, m, hm, hv⟩ := h
  simp only [Numeral.radix] at hm
  simp only at hws hpfx hne hv
  obtain ⟨radix, npfx, s3, mag, ndig, r3, e1, e2, hle, hnd, heq⟩ :=
    scanTail_of_body base pfx ds rest _ m hpfx hne rfl hm
  have hhead : ∃ c0 t2', pfx ++ ds ++ rest = c0 :: t2' ∧ Alnum c0 := by
    rcases hpfx with rfl | ⟨_, rfl | rfl⟩
    · obtain ⟨c, cs, rfl⟩ := List.exists_cons_of_ne_nil hne
      refine ⟨c, cs ++ rest, by simp, ?_⟩
      generalize (if base ≠ 0 then base else if ([] : List UInt8) ≠ [] then 16 else
        if (c :: cs).head? = some 48 then 8 else 10) = R at hm
      cases hc : digitOf R c with
      | none => simp [digitsVal, hc] at hm
      | some d => exact digitVal_some_alnum (digitOf_some_digitVal hc)
    · exact ⟨0x30, 0x78 :: (ds ++ rest), by simp, Or.inl (by decide)⟩
    · exact ⟨0x30, 0x58 :: (ds ++ rest), by simp, Or.inl (by decide)⟩
  obtain ⟨c0, t2', ht2, hc0⟩ := hhead
  obtain ⟨htw, hsign⟩ := frame_scan ws sg c0 t2' hws (alnum_not_sign hc0)
  have hsplit : Numeral.bytes ⟨ws, sg, pfx, ds⟩ ++ rest = ws ++ sg.bytes ++ c0 :: t2' := by
    simp only [Numeral.bytes, List.append_assoc, ← ht2]
  rw [hsplit, scan_eq, htw]
  have : scanTail base ((ws ++ sg.bytes ++ c0 :: t2').dropWhile isSpace) =
      some (decide (sg = .minus), mag, sg.bytes.length + npfx + ndig) := by
    simp only [scanTail, hsign, ht2 ▸ e1, e2, hnd, if_false]
  rw [this]
  refine ⟨_, rfl, ?_, ?_⟩
  · simp only [Numeral.bytes, List.length_append]; omega
  · simp only [Numeral.bytes, List.length_append]
    intro hl
    have : mag = m := heq (by omega)
    subst this
    simp only [scanValue, hv]
    cases sg <;> simp [Sign.apply]

theorem scanSign_spec (t : List UInt8) :
    ∃ sg : Sign, scanSign t = (decide (sg = .minus), sg.bytes.length, t.drop sg.bytes.length) ∧
      t = sg.bytes ++ t.drop sg.bytes.length := by
  unfold scanSign
  split
  · exact ⟨.minus, by simp [Sign.bytes], by simp [Sign.bytes]⟩
  · exact ⟨.plus, by simp [Sign.bytes], by simp [Sign.bytes]⟩
  · exact ⟨.none, by simp [Sign.bytes], by simp [Sign.bytes]⟩

theorem scanPrefix_spec (base : Nat) (t2 : List UInt8) :
    ∃ pfx t3, t2 = pfx ++ t3 ∧ PrefixOk base pfx ∧
      scanPrefix base t2 = ((if base ≠ 0 then base else if pfx ≠ [] then 16 else
        if t3.head? = some 0x30 then 8 else 10), pfx.length, t3) := by
  by_cases hh : hexCond base t2
  · obtain ⟨x, h, t, rfl, hb, hx, hd⟩ := hh
    refine ⟨[0x30, x], h :: t, rfl, Or.inr ⟨hb, ?_⟩, ?_⟩
    · unfold isX at hx; simp at hx; rcases hx with rfl | rfl <;> simp [isHexPrefix]
    · rw [scanPrefix_hex hb hx hd]
      rcases hb with rfl | rfl <;> simp
  · exact ⟨[], t2, rfl, Or.inl rfl, by rw [scanPrefix_plain hh]; simp [plainRadix]⟩

theorem scan_sound (base : Nat) (s : List UInt8) (r : Scan) (h : scan base s = some r) :
    ∃ (n : Numeral) (rest : List UInt8), s = n.bytes ++ rest ∧ n.Denotes base (scanValue r) ∧ r.endOff = n.bytes.length := by
  rw [scan_eq] at h
  obtain ⟨sg, hsign, hs1⟩ := scanSign_spec (s.dropWhile isSpace)
  obtain ⟨pfx, t3, hs2, hpfx, hp⟩ := scanPrefix_spec base ((s.dropWhile isSpace).drop sg.bytes.length)
  generalize hR : (if base ≠ 0 then base else if pfx ≠ [] then 16 else
        if t3.head? = some 0x30 then 8 else 10) = R at hp
  obtain ⟨ds, rest, mag, hs3, hd, hval⟩ := scanDigits_spec R t3 0 0
  simp only [scanTail, hsign, hp, hd] at h
  split at h
  · simp at h
  · rename_i hnd
    simp at h
    subst h
    have hne : ds ≠ [] := by intro h0; subst h0; simp at hnd
    refine ⟨⟨s.takeWhile isSpace, sg, pfx, ds⟩, rest, ?_, ⟨takeWhile_all s, hpfx, hne, mag, ?_, ?_⟩, ?_⟩
    · simp only [Numeral.bytes, List.append_assoc]
      rw [← hs3, ← hs2, ← hs1, List.takeWhile_append_dropWhile]
    · have : Numeral.radix base ⟨s.takeWhile isSpace, sg, pfx, ds⟩ = R := by
        rw [← hR]
        simp only [Numeral.radix]
        obtain ⟨c, cs, rfl⟩ := List.exists_cons_of_ne_nil hne
        subst hs3
        simp
      rw [this]; exact hval
    · simp only [scanValue]
      cases sg <;> simp [Sign.apply]
    · simp only [Numeral.bytes, List.length_append]; omega

/-- A scan that is sound (what it reports is a numeral the string starts with) and maximal (on a numeral followed
    by anything it reports at least that much, and the numeral's value if exactly that much) finds the longest
    numeral; the whole string is a numeral exactly if the scan consumes all of it. -/
theorem longest_iff_scan {N V R : Type} {bytes : N → List UInt8} {Den : N → V → Prop}
    {scan : List UInt8 → Option R} {val : R → V} {endOff : R → Nat}
    (sound : ∀ s r, scan s = some r → ∃ n rest, s = bytes n ++ rest ∧ Den n (val r) ∧ endOff r = (bytes n).length)
    (maximal : ∀ n v rest, Den n v → ∃ r, scan (bytes n ++ rest) = some r ∧ (bytes n).length ≤ endOff r ∧
      ((bytes n).length = endOff r → v = val r))
    (s : List UInt8) (v : V) :
    ((∃ rest n, s = bytes n ++ rest ∧ Den n v ∧
        ∀ n' v' rest', s = bytes n' ++ rest' → Den n' v' → (bytes n').length ≤ (bytes n).length) ↔
      ∃ r, scan s = some r ∧ v = val r) ∧
    ((∃ n, s = bytes n ∧ Den n v) ↔ ∃ r, scan s = some r ∧ endOff r = s.length ∧ v = val r) := by
  refine ⟨⟨?_, ?_⟩, ⟨?_, ?_⟩⟩
  · rintro ⟨rest, n, hs, hden, hmax⟩
    obtain ⟨r, hr, hle, heq⟩ := maximal n v rest hden
    rw [← hs] at hr
    obtain ⟨n2, rest2, hs2, hden2, hend⟩ := sound s r hr
    have := hmax n2 _ rest2 hs2 hden2
    exact ⟨r, hr, heq (by omega)⟩
  · rintro ⟨r, hr, rfl⟩
    obtain ⟨n, rest, hs, hden, hend⟩ := sound s r hr
    refine ⟨rest, n, hs, hden, fun n' v' rest' hs' hden' => ?_⟩
    obtain ⟨r', hr', hle, _⟩ := maximal n' v' rest' hden'
    rw [← hs', hr] at hr'
    cases hr'
    omega
  · rintro ⟨n, hs, hden⟩
    obtain ⟨r, hr, hle, heq⟩ := maximal n v [] hden
    rw [List.append_nil, ← hs] at hr
    obtain ⟨n2, rest2, hs2, hden2, hend⟩ := sound s r hr
    have hl : s.length = (bytes n2).length + rest2.length := by rw [hs2, List.length_append]
    have hl2 : s.length = (bytes n).length := by rw [hs]
    exact ⟨r, hr, by omega, heq (by omega)⟩
  · rintro ⟨r, hr, he, rfl⟩
    obtain ⟨n, rest, hs, hden, hend⟩ := sound s r hr
    have hl : s.length = (bytes n).length + rest.length := by rw [hs, List.length_append]
    obtain rfl : rest = [] := List.eq_nil_of_length_eq_zero (by omega)
    exact ⟨n, by simpa using hs, hden⟩

theorem accepts_iff_scan (base : Nat) (tr : Bool) (s : List UInt8) (v : Int) :
    Accepts base tr s v ↔
      ∃ r, scan base s = some r ∧ (tr = true ∨ r.endOff = s.length) ∧ v = scanValue r := by
  obtain ⟨h1, h2⟩ := longest_iff_scan (Den := fun n v => Numeral.Denotes base n v) (scan_sound base)
    (fun n v rest => scan_of_numeral base n v rest) s v
  cases tr with
  | true => simpa [Accepts, LongestNumeral] using h1
  | false => simpa [Accepts, IsNumeral] using h2

theorem scan_endOff_pos {base : Nat} {s : List UInt8} {r : Scan} (h : scan base s = some r) : 0 < r.endOff := by
  obtain ⟨n, rest, _, hden, hend⟩ := scan_sound base s r h
  obtain ⟨_, _, hne, _⟩ := hden
  have : 0 < n.digits.length := List.length_pos_iff.mpr hne
  simp only [Numeral.bytes, List.length_append] at hend
  omega

theorem scan_endOff_le {base : Nat} {s : List UInt8} {r : Scan} (h : scan base s = some r) : r.endOff ≤ s.length := by
  obtain ⟨n, rest, hs, _, hend⟩ := scan_sound base s r h
  rw [hs, hend]; simp

/-- `parsenum_unsigned`'s own look at the sign agrees with the scan -/
theorem minus_of_scan {base : Nat} {s : List UInt8} {r : Scan} (h : scan base s = some r) :
    (match s.dropWhile isSpace with | 0x2d :: _ => true | _ => false) = r.neg := by
  rw [scan_eq] at h
  simp only [scanTail] at h
  -- the three cases of `scanSign` (`-`, `+`, neither) against the two of the test
  unfold scanSign at h
  split
  · rename_i heq
    rw [heq] at h
    simp only at h
    split at h
    · simp at h
    · simp at h; rw [← h]
  · rename_i hne
    split at h
    · rename_i t heq; exact absurd heq (hne t)
    · simp only at h
      split at h
      · simp at h
      · simp at h; rw [← h]
    · simp only at h
      split at h
      · simp at h
      · simp at h; rw [← h]

end Percival.Proofs.Numeral
