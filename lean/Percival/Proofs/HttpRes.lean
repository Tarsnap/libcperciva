import Percival.Model.HttpRes
import Percival.Proofs.Http
import Percival.Proofs.IteInd
/-! The resource part of C08 (`Model/HttpRes.lean`).  A state without fault is its flags and the number of live blocks of
    each kind (`Rep r f e`); an operation of the model is a rule saying what it does to `f` and `e`.  With it:
    `http_request_cancel` on a consistent state leaves nothing (`cancel_spec`); once the connection is made the flags which
    still vary are a `Shape`, and every handler keeps `Live`; every run ends in `OutcomeOK`; a run nobody disturbs is the
    plain run of `Model/Http.lean` (`runAllR_erase`). -/
namespace Percival.Proofs.HttpRes
open Percival.Model.Http Percival.Model.HttpRes Percival.Proofs.Http Percival.Gen.Http

set_option linter.unusedSimpArgs false

-- what the platform's `sscanf` stores for a `%d` out of `int` range (`Model.Http.scanInt`): everything holds for any such
variable (ovf : Bool → Nat → Int)
attribute [-simp] List.count_pos_iff List.one_le_count_iff

theorem or_none (e : Option String) (c : Bool) (w : String) :
    (e.or (if c then none else some w) = none) = (e = none ∧ c = true) := by
  simp only [Option.or_eq_none_iff]
  cases c <;> simp

-- unfold the primitive operations down to counts, flags and `err = none` conditions
macro "res_simp" "at" h:ident : tactic =>
  `(tactic| simp [RSt.check, RSt.malloc, RSt.free, RSt.freeIf, RSt.has, useH, or_none, List.count_cons,
      List.count_erase] at $h:ident)

/-- expected number of live blocks of each kind; `cc`: the `network_connect` cookie is live -/
def expect (r : RSt) (cc : Nat) : Kind → Nat
  | .cookie => 1
  | .reqHead => r.pReqHead.toNat
  | .connect => cc
  | .reader => r.pR.toNat
  | .readerBuf => r.pR.toNat
  | .writer => r.pW.toNat
  | .wbuf => r.wq + r.wcur.toNat
  | .wbufData => r.wq + r.wcur.toNat
  | .resHead => r.pResHead.toNat
  | .hdrArray => r.pHeaders.toNat
  | .body => r.pBody.toNat

structure Cons (r : RSt) (cc : Nat) : Prop where
  ok : r.err = none
  cnt : ∀ k, r.live.count k = expect r cc k
  conn : r.pConnect = true → r.connReg = true ∧ cc = 1
  connReg : r.connReg = true → r.pConnect = true
  noW : r.pW = false → r.wq = 0 ∧ r.wcur = false
  noR : r.pR = false → r.rdReg = .idle
  fds : r.fds = (r.sock || r.connReg).toNat
  oneSock : r.sock = true → r.connReg = false

theorem check_err (r : RSt) (c : Bool) (w : String) : (r.check c w).err = none ↔ r.err = none ∧ c = true := by
  simp only [RSt.check, or_none]

theorem free_err (r : RSt) (k : Kind) : (r.free k).err = none ↔ r.err = none ∧ 0 < r.live.count k := by
  simp only [RSt.free, check_err, RSt.has, decide_eq_true_eq]

theorem free_count (r : RSt) (k j : Kind) : (r.free k).live.count j = r.live.count j - if k = j then 1 else 0 := by
  simp only [RSt.free, List.count_erase, beq_iff_eq]

theorem malloc_count (r : RSt) (k j : Kind) : (r.malloc k).live.count j = r.live.count j + if k = j then 1 else 0 := by
  simp only [RSt.malloc, List.count_cons, beq_iff_eq]

/-- the state apart from the heap -/
def rest (r : RSt) : RSt := { r with live := [], err := none }

/-- `r` has the flags of `f`, no fault so far, and `e k` live blocks of each kind `k` -/
def Rep (r f : RSt) (e : Kind → Nat) : Prop := ∃ l, r = { f with live := l, err := none } ∧ ∀ k, l.count k = e k

section
variable {r f : RSt} {e : Kind → Nat} {l : List Kind}

theorem rep_check {c : Bool} (hc : c = true) (w : String) :
    ({ f with live := l, err := none } : RSt).check c w = { f with live := l, err := none } := by
  subst hc; rfl

theorem Rep.check (h : Rep r f e) {c : Bool} (hc : c = true) (w : String) : Rep (r.check c w) f e := by
  obtain ⟨l, rfl, hl⟩ := h
  exact ⟨l, rep_check hc w, hl⟩

theorem Rep.has (h : Rep r f e) {k : Kind} (hk : 0 < e k) (w : String) : Rep (r.check (r.has k) w) f e := by
  obtain ⟨l, rfl, hl⟩ := h
  exact ⟨l, rep_check (c := RSt.has _ k) (decide_eq_true (show 0 < l.count k from hl k ▸ hk)) w, hl⟩

/-- a live block leaves the heap (`free`, or the buffer the callback takes over) -/
theorem Rep.erase (h : Rep r f e) {k : Kind} (hk : 0 < e k) (w : String) :
    Rep { r.check (r.has k) w with live := r.live.erase k } f fun j => e j - if k = j then 1 else 0 := by
  obtain ⟨l, rfl, hl⟩ := h
  refine ⟨l.erase k, ?_, fun j => by rw [List.count_erase, hl]; simp only [beq_iff_eq]⟩
  rw [rep_check (c := RSt.has _ k) (decide_eq_true (show 0 < l.count k from hl k ▸ hk))]

theorem Rep.free (h : Rep r f e) {k : Kind} (hk : 0 < e k) : Rep (r.free k) f fun j => e j - if k = j then 1 else 0 :=
  h.erase hk _

theorem Rep.malloc (h : Rep r f e) (k : Kind) : Rep (r.malloc k) f fun j => e j + if k = j then 1 else 0 := by
  obtain ⟨l, rfl, hl⟩ := h
  exact ⟨k :: l, rfl, fun j => by rw [List.count_cons, hl]; simp only [beq_iff_eq]⟩

theorem Rep.freeIf (h : Rep r f e) {p : Bool} {k : Kind} (hk : p = true → 0 < e k) :
    Rep (r.freeIf p k) f fun j => e j - if k = j then p.toNat else 0 := by
  cases p
  · obtain ⟨l, rfl, hl⟩ := h
    exact ⟨l, rfl, fun j => (hl j).trans (by dsimp only; split <;> rfl)⟩
  · exact h.free (hk rfl)

theorem Rep.rest_eq (h : Rep r f e) : rest r = rest f := by
  obtain ⟨l, rfl, _⟩ := h; rfl

/-- `free(p)` of a pointer field `p` of the state itself -/
theorem Rep.freeFlag (h : Rep r f e) (p : RSt → Bool) {k : Kind} (hk : p f = true → 0 < e k)
    (hp : ∀ x, p x = p (rest x) := by intros; rfl) :
    Rep (r.freeIf (p r) k) f fun j => e j - if k = j then (p f).toNat else 0 := by
  rw [hp r, h.rest_eq, ← hp f]
  exact h.freeIf hk

/-- an update of flags -/
theorem Rep.map (h : Rep r f e) (g : RSt → RSt)
    (hg : ∀ l, g { f with live := l, err := none } = { g f with live := l, err := none } := by intros; rfl) :
    Rep (g r) (g f) e := by
  obtain ⟨l, rfl, hl⟩ := h
  exact ⟨l, hg l, hl⟩

theorem Rep.mono (h : Rep r f e) {e' : Kind → Nat} (he : ∀ k, e k = e' k) : Rep r f e' := by
  obtain ⟨l, rfl, hl⟩ := h
  exact ⟨l, rfl, fun k => (hl k).trans (he k)⟩

theorem Rep.flags (h : Rep r f e) {f' : RSt} (hf : rest f = rest f') : Rep r f' e := by
  obtain ⟨l, rfl, hl⟩ := h
  exact ⟨l, congrArg (fun x : RSt => { x with live := l }) hf, hl⟩

/-- a part `if (p != NULL) d` of `http_request_cancel`: with `p` set, what `d` does; else the flags and blocks are
    already as `d` would leave them -/
theorem Rep.guard (h : Rep r f e) (p : RSt → Bool) {d : RSt → RSt} {f' : RSt} {e' : Kind → Nat}
    (ht : p f = true → Rep (d r) f' e') (hf : p f = false → rest f = rest f' ∧ ∀ k, e k = e' k)
    (hp : ∀ x, p x = p (rest x) := by intros; rfl) :
    Rep (if p r then d r else r) f' e' := by
  rw [hp r, h.rest_eq, ← hp f]
  cases hpf : p f
  · exact (h.flags (hf hpf).1).mono (hf hpf).2
  · exact ht hpf

end

/-- the request is over: nothing is live except possibly the `network_connect` cookie (`cc`, freed by
    `network_connect` itself when its callback returns), nothing is registered, no descriptor is open -/
structure Ended (r : RSt) (cc ncb handed : Nat) : Prop where
  ok : r.err = none
  cnt : ∀ k, r.live.count k = if k = .connect then cc else 0
  noConn : r.connReg = false
  noRd : r.rdReg = .idle
  noWr : r.wcur = false
  fds : r.fds = 0
  ncb : r.ncb = ncb
  handed : r.handedBody = handed

/-! ## `http_request_cancel`, part by part

Each part is one `if (pointer != NULL) …` of `http_request_cancel`.  On a state with the flags `f`, no fault and `e k` live
blocks of each kind it leaves no fault; the flags and the blocks it leaves are written out. -/

section
variable {r f : RSt} {e : Kind → Nat}

theorem freeQueue_spec (n : Nat) : ∀ {r f : RSt} {e : Kind → Nat}, Rep r f e → n ≤ e .wbuf → n ≤ e .wbufData →
    Rep (freeQueue n r) { f with wq := f.wq - n } (fun k => e k - if k = .wbuf ∨ k = .wbufData then n else 0) := by
  induction n with
  | zero => exact fun h _ _ => h.mono fun k => by split <;> rfl
  | succ n ih =>
    intro r f e h h1 h2
    have h' := ((h.free (k := .wbufData) (by omega)).free (k := .wbuf) (by simp only [reduceCtorEq, if_false]; omega)).map
      (fun x => { x with wq := x.wq - 1 })
    refine ((ih h' (by simp only [reduceCtorEq, if_false, if_true]; omega)
      (by simp only [reduceCtorEq, if_false, if_true]; omega)).flags ?_).mono fun k => ?_
    · show rest { f with wq := f.wq - 1 - n } = rest { f with wq := f.wq - (n + 1) }
      rw [Nat.sub_sub, Nat.add_comm]
    · cases k <;> simp <;> omega

def cancelConn (r : RSt) : RSt := if r.pConnect then connectCancel r else r
def cancelWait (r : RSt) : RSt := if r.pR then readWaitCancel r else r
def freeWriter (r : RSt) : RSt := if r.pW then writeFree r else r
def freeReader (r : RSt) : RSt := if r.pR then readFree r else r
def closeSock (r : RSt) : RSt :=
  if r.sock then { r.check (decide (0 < r.fds)) "close of a descriptor that is not open" with fds := r.fds - 1 } else r

theorem Cons.rep {r : RSt} {cc : Nat} (h : Cons r cc) : Rep r r (expect r cc) := by
  have e := h.ok
  exact ⟨r.live, by cases r; dsimp only at e; subst e; rfl, h.cnt⟩

theorem cancel_connect {r : RSt} {cc : Nat} (h : Cons r cc) :
    Rep (cancelConn (useH r)) { r with connReg := false, fds := r.sock.toNat }
      (fun k => if k = .connect ∧ r.pConnect = true then 0 else expect r cc k) := by
  have h0 : Rep (useH r) r (expect r cc) := h.rep.has (k := .cookie) Nat.one_pos _
  have hfds := h.fds
  refine h0.guard (·.pConnect) (fun hp => ?_) fun hp => ?_
  · obtain ⟨hc, h1⟩ := h.conn hp
    have hs : r.sock = false := by cases hq : r.sock; rfl; rw [h.oneSock hq] at hc; cases hc
    rw [hs, hc] at hfds
    refine (((((h0.check (c := (useH r).connReg) hc _).check (c := decide (0 < (useH r).fds))
      (by rw [show (useH r).fds = r.fds from rfl, hfds]; rfl) _).map
      (fun x => { x with connReg := false, fds := x.fds - 1 })).free (k := .connect)
      (by simp only [expect, h1]; exact Nat.one_pos)).flags ?_).mono fun k => ?_
    · rw [hfds, hs]; rfl
    · cases k <;> simp [expect, h1, hp]
  · have hc : r.connReg = false := by cases hq : r.connReg; rfl; rw [h.connReg hq] at hp; cases hp
    rw [hc, Bool.or_false] at hfds
    exact ⟨(congrArg (fun v => rest { r with connReg := v }) hc).trans (congrArg (fun v => rest { r with connReg := false, fds := v }) hfds),
      fun k => (if_neg fun hk => by rw [hp] at hk; exact Bool.false_ne_true hk.2).symm⟩

theorem cancel_wait (h : Rep r f e) (hnr : f.pR = false → f.rdReg = .idle) : Rep (cancelWait r) { f with rdReg := .idle } e :=
  h.guard (·.pR) (fun _ => h.map (fun x => { x with rdReg := .idle }))
    fun hp => ⟨congrArg (fun v => rest { f with rdReg := v }) (hnr hp), fun _ => rfl⟩

theorem cancel_read (h : Rep r f e) (hidle : f.rdReg = .idle) (h1 : e .reader = f.pR.toNat) (h2 : e .readerBuf = f.pR.toNat) :
    Rep (freeReader r) f (fun k => if k = .reader ∨ k = .readerBuf then 0 else e k) := by
  have hrd : r.rdReg = f.rdReg := (congrArg RSt.rdReg h.rest_eq :)
  refine h.guard (·.pR) (fun hp => ?_) fun hp => ⟨rfl, fun k => ?_⟩
  · rw [hp] at h1 h2
    exact (((h.check (c := r.rdReg == .idle) (by rw [hrd, hidle]; rfl) _).free (k := .readerBuf)
      (by rw [h2]; exact Nat.one_pos)).free (k := .reader) (by simp [h1])).mono fun k => by cases k <;> simp [h1, h2]
  · rw [hp] at h1 h2
    cases k <;> simp [h1, h2]

/-- `netbuf_write_free` does not change the queue length before its loop -/
theorem writeFree_eq (r : RSt) : writeFree r =
    (freeQueue r.wq (if r.wcur then ({ r with wcur := false }.free .wbufData).free .wbuf else r)).free .writer := by
  unfold writeFree
  cases r.wcur <;> rfl

theorem cancel_write (h : Rep r f e) (hnw : f.pW = false → f.wq = 0 ∧ f.wcur = false)
    (h1 : e .writer = f.pW.toNat) (h2 : e .wbuf = f.wq + f.wcur.toNat) (h3 : e .wbufData = f.wq + f.wcur.toNat) :
    Rep (freeWriter r) { f with wq := 0, wcur := false } (fun k => if k = .writer ∨ k = .wbuf ∨ k = .wbufData then 0 else e k) := by
  have hwq : r.wq = f.wq := (congrArg RSt.wq h.rest_eq :)
  refine h.guard (·.pW) (fun hp => ?_) fun hp => ?_
  · rw [hp] at h1
    rw [writeFree_eq]
    -- the write in progress first, if there is one
    have h' : Rep (if r.wcur then ({ r with wcur := false }.free .wbufData).free .wbuf else r) { f with wcur := false }
        (fun k => e k - if k = .wbuf ∨ k = .wbufData then f.wcur.toNat else 0) := by
      refine h.guard (·.wcur) (d := fun x => ({ x with wcur := false }.free .wbufData).free .wbuf) (fun hw => ?_)
        fun hw => ⟨congrArg (fun v => rest { f with wcur := v }) hw, fun k => ?_⟩
      · rw [hw, Bool.toNat_true] at h2 h3
        exact (((h.map (fun x => { x with wcur := false })).free (k := .wbufData) (by omega)).free (k := .wbuf)
          (by simp only [reduceCtorEq, if_false]; omega)).mono fun k => by cases k <;> simp [hw]
      · rw [hw]; split <;> rfl
    refine (((freeQueue_spec r.wq h' (show r.wq ≤ e .wbuf - f.wcur.toNat by omega)
      (show r.wq ≤ e .wbufData - f.wcur.toNat by omega)).free (k := .writer)
      (by simp [h1])).flags ?_).mono fun k => ?_
    · show rest { f with wcur := false, wq := f.wq - r.wq } = _
      rw [hwq, Nat.sub_self]
    · cases k <;> simp [h1, h2, h3, hwq] <;> omega
  · obtain ⟨hq, hc⟩ := hnw hp
    rw [hp] at h1
    rw [hq, hc] at h2 h3
    exact ⟨(congrArg (fun v => rest { f with wq := v }) hq).trans (congrArg (fun v => rest { f with wq := 0, wcur := v }) hc),
      fun k => by cases k <;> simp [h1, h2, h3]⟩

theorem cancel_close (h : Rep r f e) (hf : f.fds = f.sock.toNat) : Rep (closeSock r) { f with fds := 0 } e := by
  have hfd : r.fds = f.fds := (congrArg RSt.fds h.rest_eq :)
  refine h.guard (·.sock)
    (d := fun x => { x.check (decide (0 < x.fds)) "close of a descriptor that is not open" with fds := x.fds - 1 })
    (fun hs => ?_) fun hs => ⟨?_, fun _ => rfl⟩
  · rw [hs] at hf
    exact ((h.check (c := decide (0 < r.fds)) (by rw [hfd, hf]; rfl) _).map
      (fun x => { x with fds := x.fds - 1 })).flags (by show rest { f with fds := f.fds - 1 } = _; rw [hf]; rfl)
  · rw [hs] at hf
    exact congrArg (fun v => rest { f with fds := v }) hf

/-- first half: the asynchronous operations and the netbuf objects, the socket -/
def cancelA (r : RSt) : RSt := closeSock (freeReader (freeWriter (cancelWait (cancelConn (useH r)))))

/-- second half: the buffers owned through `H`, and `H` -/
def cancelB (r : RSt) : RSt :=
  let r := r.freeIf r.pReqHead .reqHead
  let r := r.freeIf r.pResHead .resHead
  let r := r.freeIf r.pHeaders .hdrArray
  let r := r.freeIf r.pBody .body
  r.free .cookie

theorem cancelR_eq (r : RSt) : cancelR r = cancelB (cancelA r) := rfl

/-- after the first half only what `H` owns itself is live, and possibly `network_connect`'s cookie -/
theorem cancelA_spec {r : RSt} {cc : Nat} (h : Cons r cc) :
    Rep (cancelA r) { r with connReg := false, rdReg := .idle, wq := 0, wcur := false, fds := 0 }
      (fun k => if ownKind k then expect r cc k else if k = .connect then (if r.pConnect then 0 else cc) else 0) :=
  (cancel_close (cancel_read (cancel_write (cancel_wait (cancel_connect h) h.noR) h.noW rfl rfl rfl) rfl rfl rfl) rfl).mono
    fun k => by cases hp : r.pConnect <;> cases k <;> simp [expect, ownKind, hp]

theorem cancelB_spec (h : Rep r f e) (h0 : e .cookie = 1)
    (h1 : e .reqHead = f.pReqHead.toNat) (h2 : e .resHead = f.pResHead.toNat) (h3 : e .hdrArray = f.pHeaders.toNat)
    (h4 : e .body = f.pBody.toNat) : Rep (cancelB r) f (fun k => if ownKind k then 0 else e k) := by
  exact (((((h.freeFlag (·.pReqHead) fun hp => by rw [h1, hp]; exact Nat.one_pos).freeFlag
    (·.pResHead) fun hp => by simp [h2, hp]).freeFlag
    (·.pHeaders) fun hp => by simp [h3, hp]).freeFlag
    (·.pBody) fun hp => by simp [h4, hp]).free (k := .cookie) (by simp [h0])).mono
    fun k => by cases k <;> simp [ownKind, h0, h1, h2, h3, h4]

/-- **`http_request_cancel` on a consistent state frees everything and cancels everything.** -/
theorem cancel_spec (r : RSt) (cc : Nat) (h : Cons r cc) :
    Ended (cancelR r) (if r.pConnect then 0 else cc) r.ncb r.handedBody := by
  obtain ⟨l, e, hl⟩ := cancelB_spec (cancelA_spec h) rfl rfl rfl rfl rfl
  rw [cancelR_eq, e]
  exact ⟨rfl, fun k => (hl k).trans (by cases k <;> rfl), rfl, rfl, rfl, rfl, rfl, rfl⟩

end

/-- what a request holds once the connection is made, while it is not over: everything else in the resource state
    is fixed (reader, writer, socket and request head exist, the connection attempt is over, the caller's callback has
    not been invoked and no buffer handed over) -/
structure Shape where
  resHead : Bool := false
  hdrs : Bool := false
  body : Bool := false
  rd : RdReg := .idle
  wq : Nat := 0
  wcur : Bool := false

/-- the flags of a request of shape `s` -/
def Shape.st (s : Shape) : RSt :=
  { pR := true, pW := true, pReqHead := true, sock := true, fds := 1, pResHead := s.resHead, pHeaders := s.hdrs,
    pBody := s.body, rdReg := s.rd, wq := s.wq, wcur := s.wcur }

/-- the blocks a request of shape `s` holds, `cc` of them the `network_connect` cookie -/
def Shape.count (s : Shape) (cc : Nat) : Kind → Nat := expect s.st cc

/-- `r` is a connected request of shape `s`; `cc`: the `network_connect` cookie is still live -/
def Is (r : RSt) (cc : Nat) (s : Shape) : Prop := Rep r s.st (s.count cc)

/-! One rule per operation on a connected request: what it does to the shape.  What it leaves alone is the rest of the
    record. -/

section
variable {r : RSt} {cc : Nat} {s : Shape}

/-- a connected request is consistent, whatever its callback count -/
theorem cons_of_shape {n hb : Nat} (h : Rep r { s.st with ncb := n, handedBody := hb } (s.count cc)) : Cons r cc := by
  obtain ⟨l, rfl, hl⟩ := h
  exact ⟨rfl, hl, nofun, nofun, nofun, nofun, rfl, fun _ => rfl⟩

theorem Is.rd (h : Is r cc s) : r.rdReg = s.rd := by
  obtain ⟨l, rfl, _⟩ := h; rfl

theorem Is.wcur (h : Is r cc s) : r.wcur = s.wcur := by
  obtain ⟨l, rfl, _⟩ := h; rfl

-- `Rep.mono` with the counts aimed at named: the comparison `he` is elaborated against them
theorem Is.of {e : Kind → Nat} (h : Rep r s.st e) (he : ∀ k, e k = s.count cc k) : Is r cc s := h.mono he

theorem Is.useH (h : Is r cc s) : Is (useH r) cc s := Rep.has h (k := .cookie) Nat.one_pos _

theorem is_readWait (h : Is r cc s) (hi : s.rd = .idle) (i : Bool) :
    Is (readWait r i) cc { s with rd := if i then .imm else .net } :=
  (Rep.check h (c := r.rdReg == .idle) (by rw [h.rd, hi]; rfl) _).map (fun x => { x with rdReg := if i then .imm else .net })

theorem is_readFired (h : Is r cc s) (hi : s.rd ≠ .idle) : Is (readFired r) cc { s with rd := .idle } :=
  (Rep.check h (c := r.rdReg != .idle) (by rw [h.rd]; exact bne_iff_ne.mpr hi) _).map (fun x => { x with rdReg := .idle })

theorem is_gotHeadersAlloc (h : Is r cc s) (h1 : s.resHead = false) (h2 : s.hdrs = false) (n : Nat) :
    Is (gotHeadersAlloc r n) cc { s with resHead := true, hdrs := decide (n ≠ 0) } := by
  cases n with
  | zero =>
    exact Is.of ((Rep.malloc h .resHead).map (fun x => { { x with pResHead := true } with pHeaders := false }))
      fun k => by cases k <;> first | rfl | simp [Shape.count, expect, Shape.st, h1, h2]
  | succ n =>
    exact Is.of ((((Rep.malloc h .resHead).map (fun x => { x with pResHead := true })).malloc .hdrArray).map
      (fun x => { x with pHeaders := true }))
      fun k => by cases k <;> first | rfl | simp [Shape.count, expect, Shape.st, h1, h2]

theorem is_dropInterim (h : Is r cc s) : Is (dropInterim r) cc { s with resHead := false, hdrs := false } := by
  obtain ⟨l, rfl, hl⟩ := h
  exact Is.of (((Rep.freeIf ⟨l, rfl, hl⟩ (p := s.resHead) (k := .resHead) fun e => by simp [Shape.count, expect, Shape.st, e]).freeIf
    (p := s.hdrs) (k := .hdrArray) fun e => by simp [Shape.count, expect, Shape.st, e]).map
    (fun x => { x with pResHead := false, pHeaders := false }))
    fun k => by cases k <;> first | rfl | simp [Shape.count, expect, Shape.st]

theorem is_addbody (h : Is r cc s) (st : St) (n : Nat) :
    Is (addbodyR st n r) cc { s with body := s.body || decide (st.bodylen + n > st.alloc) } := by
  unfold addbodyR
  by_cases hg : st.bodylen + n > st.alloc
  · rw [if_pos hg, decide_eq_true hg, Bool.or_true]
    obtain ⟨l, rfl, hl⟩ := h
    obtain ⟨rh, hd, bd, rd, wq, wc⟩ := s
    cases bd
    · exact Is.of ((Rep.malloc ⟨l, rfl, hl⟩ .body).map (fun x => { x with pBody := true }))
        fun k => by cases k <;> rfl
    · exact Rep.has ⟨l, rfl, hl⟩ (k := .body) Nat.one_pos _
  · rw [if_neg hg, decide_eq_false hg, Bool.or_false]
    exact h

/-- `writbuf` up to the point where it either pokes the queue or calls `fail` -/
def wmid (r : RSt) : RSt :=
  ({ r.check r.wcur "writbuf: assert(W->write_cookie != NULL)" with wcur := false }.free .wbufData).free .wbuf

theorem is_wmid (h : Is r cc s) (hw : s.wcur = true) : Is (wmid r) cc { s with wcur := false } :=
  Is.of ((((Rep.check h (c := r.wcur) (h.wcur.trans hw) _).map (fun x => { x with wcur := false })).free
    (k := .wbufData) (by simp [Shape.count, expect, Shape.st, hw])).free (k := .wbuf)
    (by simp [Shape.count, expect, Shape.st, hw]))
    fun k => by cases k <;> first | rfl | simp [Shape.count, expect, Shape.st, hw]

theorem is_poke (h : Is r cc s) :
    Is (poke r) cc (if s.wcur || s.wq == 0 then s else { s with wcur := true, wq := s.wq - 1 }) := by
  obtain ⟨l, rfl, hl⟩ := h
  show Is (if s.wcur || s.wq == 0 then _ else _) _ _
  split
  · exact ⟨l, rfl, hl⟩
  · rename_i hc
    simp only [Bool.or_eq_true, beq_iff_eq, not_or, Bool.not_eq_true] at hc
    refine ⟨l, rfl, fun k => (hl k).trans ?_⟩
    cases k <;> first | rfl | (simp only [Shape.count, expect, Shape.st, hc.1, Bool.toNat_true, Bool.toNat_false]; omega)

/-- a completed buffer write: `writbuf` frees the buffer and pokes the queue -/
theorem is_writbuf (h : Is r cc s) (hw : s.wcur = true) :
    ∃ q c, Is (writbuf r true) cc { s with wq := q, wcur := c } := by
  have p := is_poke (is_wmid h hw)
  dsimp only at p
  split at p
  · exact ⟨_, _, p⟩
  · exact ⟨_, _, p⟩

theorem is_free_connect (h : Is r 1 s) : Is (r.free .connect) 0 s :=
  Is.of (Rep.free h (k := .connect) Nat.one_pos) fun k => by cases k <;> rfl

/-- the body buffers handed to the caller by `doneR resp` when the body pointer is `p` -/
def handedBy (resp : Option Resp) (p : Bool) : Nat :=
  match resp with
  | none => 0
  | some x =>
    match x.body with
    | none => 0
    | some _ => p.toNat

/-- `http_request_cancel` on a connected request which has made `n` callbacks and handed over `hb` body buffers -/
theorem is_cancel {n hb : Nat} (h : Rep r { s.st with ncb := n, handedBody := hb } (s.count cc)) :
    Ended (cancelR r) cc n hb := by
  obtain ⟨l, rfl, hl⟩ := h
  exact cancel_spec _ cc (cons_of_shape ⟨l, rfl, hl⟩)

theorem is_fail (h : Is r cc s) : Ended (failR r) cc 1 0 :=
  is_cancel (Rep.map h.useH (fun x => { x with ncb := x.ncb + 1 }))

theorem is_docallback (h : Is r cc s) : Ended (docallbackR r) cc 1 s.body.toNat := by
  obtain ⟨l, rfl, hl⟩ := h
  have h1 := Rep.map (Is.useH ⟨l, rfl, hl⟩) (fun x => { x with ncb := x.ncb + 1 })
  obtain ⟨rh, hd, bd, rd, wq, wc⟩ := s
  cases bd
  · exact is_cancel (s := { resHead := rh, hdrs := hd, rd, wq, wcur := wc }) (h1.map (fun x => { x with pBody := false }))
  · exact is_cancel (s := { resHead := rh, hdrs := hd, rd, wq, wcur := wc })
      ((((h1.erase (k := .body) Nat.one_pos _).map (fun x => { x with handedBody := x.handedBody + 1 })).map
        (fun x => { x with pBody := false })).mono fun k => by cases k <;> rfl)

theorem is_toobig (h : Is r cc s) : Ended (toobigR r) cc 1 0 := by
  obtain ⟨l, rfl, hl⟩ := h
  exact is_docallback (s := { s with body := false })
    (Is.of ((Rep.freeIf (Is.useH ⟨l, rfl, hl⟩) (p := s.body) (k := .body) fun e => by simp [Shape.count, expect, Shape.st, e]).map
      (fun x => { x with pBody := false }))
      fun k => by cases k <;> first | rfl | simp [Shape.count, expect, Shape.st])

theorem is_done (h : Is r cc s) (resp : Option Resp) : Ended (doneR resp r) cc 1 (handedBy resp s.body) := by
  cases resp with
  | none => exact is_fail h
  | some x =>
    simp only [doneR, handedBy]
    cases x.body with
    | none => exact is_toobig h
    | some b => exact is_docallback h

end

def SameBody (st' st1 : St) : Prop := st'.bodylen = st1.bodylen ∧ st'.alloc = st1.alloc ∧ st'.bodyRev = st1.bodyRev

/-- the decision goes on with the body of `st1`, or completes the response with it or without any -/
def Carries (st1 : St) : Micro → Prop
  | .goto st' _ _ => SameBody st' st1
  | .wait st' _ _ _ => SameBody st' st1
  | .done (some x) => x.body = none ∨ x.body = some st1.bodyRev.reverse
  | _ => True

def isWait : Micro → Bool
  | .wait _ _ _ _ => true
  | _ => false

/-- a decision of `gotheaders`: the body is left alone, and it is not a wait -/
def Parsed (st : St) (m : Micro) : Prop := Carries st m ∧ isWait m = false

theorem afterParse_carries (st : St) (status : Int) (hdrs : List (Bytes × Bytes)) (len : Nat) (h0 : st.bodyRev = []) :
    Parsed st (afterParse st status hdrs len) := by
  have keep : ∀ st' c h', SameBody st' st → Parsed st (.goto st' c h') := fun _ _ _ h => ⟨h, rfl⟩
  unfold afterParse
  refine ite_ind (P := Parsed st) (fun _ => keep _ _ _ ⟨rfl, rfl, rfl⟩) fun _ =>
    ite_ind (P := Parsed st) (fun _ => ⟨.inr (by rw [h0]; rfl), rfl⟩) fun _ =>
    ite_ind (P := Parsed st) (fun _ => keep _ _ _ ⟨rfl, rfl, rfl⟩) fun _ => ?_
  cases findHeader hdrs hContentLength with
  | none => exact keep _ _ _ ⟨rfl, rfl, rfl⟩
  | some clen =>
    dsimp only
    cases parsenumSize 10 false clen with
    | none => exact ⟨trivial, rfl⟩
    | some n =>
      exact ite_ind (P := Parsed st) (fun _ => ⟨.inl rfl, rfl⟩) fun _ =>
        keep _ _ _ ⟨rfl, rfl, rfl⟩

theorem gotHeaders_carries (st : St) (head : Bytes) (h0 : st.bodyRev = []) :
    Parsed st (gotHeaders ovf st head) := by
  have stop : ∀ m, (∃ w, m = .abort w) ∨ m = .done none → Parsed st m := by
    rintro _ (⟨w, rfl⟩ | rfl) <;> exact ⟨trivial, rfl⟩
  unfold gotHeaders
  refine ite_ind (P := Parsed st) (fun _ => stop _ (.inl ⟨_, rfl⟩)) fun _ => ?_
  cases sgetline head with
  | none => exact stop _ (.inl ⟨_, rfl⟩)
  | some p =>
    refine ite_ind (P := Parsed st) (fun _ => stop _ (.inr rfl)) fun _ => ?_
    cases scanStatusLine ovf p.1 with
    | none => exact stop _ (.inr rfl)
    | some sl =>
      refine ite_ind (P := Parsed st) (fun _ => stop _ (.inr rfl)) fun _ =>
        ite_ind (P := Parsed st) (fun _ => stop _ (.inr rfl)) fun _ => ?_
      cases parseHeaders (countLines head 0 - 2) p.2 [] with
      | abort => exact stop _ (.inl ⟨_, rfl⟩)
      | nul => exact stop _ (.inr rfl)
      | ok hdrs rest =>
        exact ite_ind (P := Parsed st) (fun _ => stop _ (.inl ⟨_, rfl⟩)) fun _ =>
          afterParse_carries st _ _ _ h0

/-- `callback_read_header` leaves the (empty) body alone, and waits only when it has not called `gotheaders` -/
theorem readHeader_carries (st : St) (s : Status) (buf : Bytes) (h0 : st.bodyRev = []) :
    Carries st (readHeader ovf st s buf) ∧ (isWait (readHeader ovf st s buf) = true → entersGotHeaders st s buf = false) := by
  unfold readHeader
  refine ite_ind (P := fun m => Carries st m ∧ (isWait m = true → entersGotHeaders st s buf = false))
    (fun _ => ⟨trivial, nofun⟩) fun _ => ?_
  by_cases hlen : scanHdr (buf.drop st.hepos) st.hepos + 4 ≤ buf.length
  · obtain ⟨c, w⟩ := gotHeaders_carries ovf { st with hepos := scanHdr (buf.drop st.hepos) st.hepos }
      (buf.take (scanHdr (buf.drop st.hepos) st.hepos + 4)) h0
    simp only [if_pos hlen]
    exact ⟨c, fun e => absurd e (by rw [w]; nofun)⟩
  · simp only [if_neg hlen]
    refine ⟨ite_ind (P := Carries st) (fun _ => trivial) fun _ => ⟨rfl, rfl, rfl⟩, fun _ => ?_⟩
    simp [entersGotHeaders, hdrEnd, hlen]

def target : Micro → Option Handler
  | .goto _ _ h' => some h'
  | .wait _ _ _ h' => some h'
  | _ => none

/-- a decision about the body of `st1` which does not go back to the headers -/
def Body (st1 : St) (m : Micro) : Prop := Carries st1 m ∧ target m ≠ some .readHeader

theorem body_tooBig (st1 st : St) : Body st1 (tooBig st) := ⟨.inl rfl, nofun⟩
theorem body_mkResp (st1 st : St) (h : st.bodyRev = st1.bodyRev) : Body st1 (.done (some (mkResp st))) :=
  ⟨.inr (by rw [mkResp, h]), nofun⟩

theorem chunkedHeader_body (st : St) (s : Status) (buf : Bytes) : Body st (chunkedHeader st s buf) := by
  unfold chunkedHeader
  refine ite_ind (P := Body st) (fun _ => ⟨trivial, nofun⟩) fun _ => ite_ind (P := Body st) (fun _ => ?_) fun _ =>
    ite_ind (P := Body st) (fun _ => ⟨trivial, nofun⟩) fun _ => ⟨⟨rfl, rfl, rfl⟩, nofun⟩
  cases parsenumSize 16 true (cstr (buf.take (findeol buf))) with
  | none => exact ⟨trivial, nofun⟩
  | some clen =>
    exact ite_ind (P := Body st) (fun _ => ⟨trivial, nofun⟩) fun _ =>
      ite_ind (P := Body st) (fun _ => body_mkResp st st rfl) fun _ =>
      ite_ind (P := Body st) (fun _ => ⟨trivial, nofun⟩) fun _ =>
      ite_ind (P := Body st) (fun _ => body_tooBig st st) fun _ =>
      ite_ind (P := Body st) (fun _ => body_tooBig st st) fun _ => ⟨⟨rfl, rfl, rfl⟩, nofun⟩

/-- the piece `callback_readdata` hands to `addbody` -/
def piece (st : St) (buf : Bytes) : Bytes :=
  let buflen := if buf.length > st.readlen then st.readlen else buf.length
  buf.take (buflen - eolLen st.chunked st.readlen buflen)

/-- `callback_readdata` on data: `addbody`, then a decision about the new body -/
theorem readData_body (st : St) (buf : Bytes) :
    match addbody st (piece st buf) with
    | none => ∃ w, readData st .ok buf = .abort w
    | some st1 => Body st1 (readData st .ok buf) := by
  simp only [readData, bne_self_eq_false, Bool.false_eq_true, if_false, piece]
  cases addbody st _ with
  | none => exact ⟨_, rfl⟩
  | some st1 =>
    exact ite_ind (P := Body st1) (fun _ => ite_ind (P := Body st1) (fun _ => ⟨⟨rfl, rfl, rfl⟩, nofun⟩) fun _ =>
      body_mkResp st1 _ rfl) fun _ => ⟨⟨rfl, rfl, rfl⟩, nofun⟩

/-- `callback_read_toeof` on data: too much, or `addbody` and a wait for more -/
theorem readToEof_body (st : St) (buf : Bytes) :
    (∃ w, readToEof st .ok buf = .abort w) ∨
    if buf.length > st.max - st.bodylen then Body st (readToEof st .ok buf)
    else ∃ st1, addbody st buf = some st1 ∧ Body st1 (readToEof st .ok buf) := by
  simp only [readToEof]
  by_cases h0 : st.bodylen > st.max
  · exact .inl ⟨_, if_pos h0⟩
  · rw [if_neg h0]
    by_cases h : buf.length > st.max - st.bodylen
    · rw [if_pos h, if_pos h]; exact .inr (body_tooBig st st)
    · rw [if_neg h, if_neg h]
      cases addbody st buf with
      | none => exact .inl ⟨_, rfl⟩
      | some st1 => exact .inr ⟨st1, rfl, ⟨rfl, rfl, rfl⟩, nofun⟩

/-- the body pointer is non-`NULL` (`p`) exactly when the body is non-empty (and then something is allocated) -/
def Link (p : Bool) (st : St) : Prop :=
  (p = true ↔ 0 < st.bodylen) ∧ (0 < st.alloc ↔ 0 < st.bodylen) ∧ st.bodylen = st.bodyRev.length

theorem link_addbody {p : Bool} {st st1 : St} {piece : Bytes} (hl : Link p st) (ha : addbody st piece = some st1) :
    Link (p || decide (st.bodylen + piece.length > st.alloc)) st1 := by
  obtain ⟨l1, l2, l3⟩ := hl
  rw [addbody_eq_ite] at ha
  split at ha
  · rename_i hmax
    have hlen : st.bodylen + piece.length = (piece.reverse ++ st.bodyRev).length := by simp; omega
    cases ha
    by_cases hg : st.bodylen + piece.length > st.alloc
    · have hb := growAlloc_bounds st.alloc (st.bodylen + piece.length) st.max hmax
      rw [decide_eq_true hg, Bool.or_true, if_pos hg]
      exact ⟨⟨fun _ => (by omega : 0 < st.bodylen + piece.length), fun _ => rfl⟩,
        ⟨fun _ => (by omega : 0 < st.bodylen + piece.length), fun _ => (by omega : 0 < growAlloc _ _ _)⟩, hlen⟩
    · rw [decide_eq_false hg, Bool.or_false, if_neg hg]
      exact ⟨(l1.trans ⟨by omega, by omega⟩ : p = true ↔ 0 < st.bodylen + piece.length),
        (⟨by omega, by omega⟩ : 0 < st.alloc ↔ 0 < st.bodylen + piece.length), hlen⟩
  · cases ha

/-- a request of shape `s` is live with its parser in state `st`, about to run `h`: the body link; while reading
    headers no body and no header copy -/
def Holds (s : Shape) (st : St) (h : Handler) : Prop :=
  Link s.body st ∧ (h = .readHeader → st.bodylen = 0 ∧ s.resHead = false ∧ s.hdrs = false)

def bodyNonEmpty : Option Resp → Bool
  | some x =>
    match x.body with
    | some b => decide (0 < b.length)
    | none => false
  | none => false

/-- the decision `m` fits the resources `s` held when `afterMicro` acts on it -/
def Fits (s : Shape) : Micro → Prop
  | .goto st' _ h' => Holds s st' h'
  | .wait st' _ _ h' => Holds s st' h'
  | .done resp => handedBy resp s.body = (bodyNonEmpty resp).toNat
  | .abort _ => True

theorem Link.of_same {p : Bool} {st st' : St} (hl : Link p st) (hk : SameBody st' st) : Link p st' := by
  obtain ⟨e1, e2, e3⟩ := hk
  unfold Link
  rw [e1, e2, e3]
  exact hl

theorem fits_of_carries {s : Shape} {st1 : St} {m : Micro} (hl : Link s.body st1)
    (hc : Carries st1 m) (ht : target m = some .readHeader → st1.bodylen = 0 ∧ s.resHead = false ∧ s.hdrs = false) :
    Fits s m := by
  cases m with
  | goto st' c h' => exact ⟨hl.of_same hc, fun e => (ht (congrArg some e)).imp (hc.1.trans ·) id⟩
  | wait st' c k h' => exact ⟨hl.of_same hc, fun e => (ht (congrArg some e)).imp (hc.1.trans ·) id⟩
  | abort w => trivial
  | done resp =>
    show handedBy resp s.body = _
    cases resp with
    | none => rfl
    | some x =>
      rcases (hc : x.body = none ∨ _) with hb | hb
      · simp [handedBy, bodyNonEmpty, hb]
      · simp only [handedBy, bodyNonEmpty, hb, List.length_reverse, ← hl.2.2]
        cases hp : s.body
        · have : ¬ 0 < st1.bodylen := fun h => by have := hl.1.mpr h; rw [hp] at this; cases this
          simp [this]
        · simp [hl.1.mp hp]

theorem fits_of_body {s : Shape} {st1 : St} {m : Micro} (hl : Link s.body st1) (hb : Body st1 m) : Fits s m :=
  fits_of_carries hl hb.1 fun e => absurd e hb.2

/-- between two handlers: `h` is about to run on `st` (`waiting = false`: no read wait is registered), or the wait which
    will call it is pending (`waiting = true`) -/
def Live (r : RSt) (cc : Nat) (st : St) (h : Handler) (waiting : Bool) : Prop :=
  ∃ s, Is r cc s ∧ Holds s st h ∧ (s.rd = .idle ↔ waiting = false)

/-- the verdict on one handler invocation which decided `m` and left `r'`: the invariant for the handler which follows,
    or the end of the request with the body buffer handed over exactly when the body is not empty -/
def Verdict (cc : Nat) (r' : RSt) : Micro → Prop
  | .goto st' _ h' => Live r' cc st' h' false
  | .wait st' _ _ h' => Live r' cc st' h' true
  | .done resp => Ended r' cc 1 (bodyNonEmpty resp).toNat
  | .abort _ => True

theorem afterMicro_spec {r : RSt} {cc : Nat} {s : Shape} (h : Is r cc s) (hi : s.rd = .idle) {m : Micro} (hf : Fits s m)
    (len : Nat) : Verdict cc (afterMicro m len r) m := by
  cases m with
  | goto st' c h' => exact ⟨s, h, hf, iff_of_true hi rfl⟩
  | wait st' c k h' =>
    exact ⟨_, is_readWait h hi (decide (k ≤ len - c)), hf, iff_of_false (by dsimp only; split <;> nofun) nofun⟩
  | done resp =>
    have := is_done h resp
    rw [show handedBy resp s.body = _ from hf] at this
    exact this
  | abort w => trivial

theorem Link.empty {p : Bool} {st : St} (hl : Link p st) (h0 : st.bodylen = 0) : st.bodyRev = [] :=
  List.eq_nil_of_length_eq_zero (hl.2.2.symm.trans h0)

theorem microR_spec (st : St) (h : Handler) (s : Status) (buf : Bytes) (r : RSt) (cc : Nat)
    (hv : Live r cc st h false) : Verdict cc (microR ovf st h s buf r) (micro ovf st h s buf) := by
  obtain ⟨sh, his, ⟨hl, hhdr⟩, hm⟩ := hv
  have hi := hm.mpr rfl
  have fail : ∀ {s1 : Shape}, Fits s1 (.done none) := rfl
  unfold microR
  replace his := his.useH
  generalize useH r = r at his
  cases h with
  | chunkedHeader => exact afterMicro_spec his hi (fits_of_body hl (chunkedHeader_body st s buf)) _
  | readData =>
    cases s with
    | err => exact afterMicro_spec his hi fail _
    | eof => exact afterMicro_spec his hi fail _
    | ok =>
      have a := is_addbody his st (dataPiece st buf)
      have hb := readData_body st buf
      show Verdict cc (afterMicro (readData st .ok buf) _ (addbodyR st (dataPiece st buf) r)) (readData st .ok buf)
      cases ha : addbody st (piece st buf) with
      | none => rw [ha] at hb; obtain ⟨w, e⟩ := hb; rw [e]; trivial
      | some st1 => rw [ha] at hb; exact afterMicro_spec a hi (fits_of_body (link_addbody hl ha) hb) _
  | readToEof =>
    cases s with
    | err => exact afterMicro_spec his hi fail _
    | eof => exact afterMicro_spec his hi (fits_of_body hl (body_mkResp st st rfl)) _
    | ok =>
      show Verdict cc (afterMicro (readToEof st .ok buf) _
        (if (true && !decide (buf.length > st.max - st.bodylen)) = true then addbodyR st buf.length r else r))
        (readToEof st .ok buf)
      rcases readToEof_body st buf with ⟨w, e⟩ | hb
      · rw [e]; trivial
      · by_cases hg : buf.length > st.max - st.bodylen
        · rw [if_pos hg] at hb
          rw [decide_eq_true hg]
          exact afterMicro_spec his hi (fits_of_body hl hb) _
        · rw [if_neg hg] at hb
          obtain ⟨st1, ha, hb⟩ := hb
          rw [decide_eq_false hg]
          exact afterMicro_spec (is_addbody his st buf.length) hi (fits_of_body (link_addbody hl ha) hb) _
  | readHeader =>
    obtain ⟨h0, f1, f2⟩ := hhdr rfl
    obtain ⟨hc, hw⟩ := readHeader_carries ovf st s buf (hl.empty h0)
    show Verdict cc (match readHeader ovf st s buf with
      | .goto _ _ .readHeader => dropInterim (if entersGotHeaders st s buf then gotHeadersAlloc r (nheaders st buf) else r)
      | _ => afterMicro (readHeader ovf st s buf) buf.length
          (if entersGotHeaders st s buf then gotHeadersAlloc r (nheaders st buf) else r)) (readHeader ovf st s buf)
    generalize readHeader ovf st s buf = m at hc hw
    -- the resources `afterMicro` or `dropInterim` acts on: after the allocations of `gotheaders`, if it is entered
    obtain ⟨s1, a, b1, b2, b4⟩ : ∃ s1, Is (if entersGotHeaders st s buf then gotHeadersAlloc r (nheaders st buf) else r) cc s1 ∧
        s1.body = sh.body ∧ s1.rd = sh.rd ∧
        (entersGotHeaders st s buf = false → s1.resHead = false ∧ s1.hdrs = false) := by
      cases entersGotHeaders st s buf
      · exact ⟨sh, his, rfl, rfl, fun _ => ⟨f1, f2⟩⟩
      · exact ⟨_, is_gotHeadersAlloc his f1 f2 _, rfl, rfl, nofun⟩
    generalize (if entersGotHeaders st s buf then gotHeadersAlloc r (nheaders st buf) else r) = r1 at a
    have hl1 : Link s1.body st := b1 ▸ hl
    cases m with
    | goto st' c h' =>
      cases h' with
      | readHeader =>
        exact ⟨_, is_dropInterim a, ⟨hl1.of_same hc, fun _ => ⟨hc.1.trans h0, rfl, rfl⟩⟩, iff_of_true (b2.trans hi) rfl⟩
      | chunkedHeader => exact afterMicro_spec a (b2.trans hi) (fits_of_carries hl1 hc nofun) _
      | readData => exact afterMicro_spec a (b2.trans hi) (fits_of_carries hl1 hc nofun) _
      | readToEof => exact afterMicro_spec a (b2.trans hi) (fits_of_carries hl1 hc nofun) _
    | wait st' c k h' => exact afterMicro_spec a (b2.trans hi) (fits_of_carries hl1 hc fun _ => ⟨h0, b4 (hw rfl)⟩) _
    | done resp => exact afterMicro_spec a (b2.trans hi) (fits_of_carries hl1 hc nofun) _
    | abort w => trivial

def eraseR : StepResR → StepRes
  | .wait st c k h _ => .wait st c k h
  | .done resp _ => .done resp
  | .abort w => .abort w

theorem stepR_erase : ∀ (f : Nat) (st : St) (h : Handler) (s : Status) (buf : Bytes) (c0 : Nat) (r : RSt),
    eraseR (stepR ovf f st h s buf c0 r) = step ovf f st h s buf c0 := by
  intro f
  induction f with
  | zero => intro st h s buf c0 r; rfl
  | succ f ih =>
    intro st h s buf c0 r
    simp only [stepR, step]
    cases micro ovf st h s buf with
    | goto st' c h' => exact ih _ _ _ _ _ _
    | wait st' c k h' => rfl
    | done resp => rfl
    | abort w => rfl

/-- the verdict on one event-loop callback: as `Verdict`, for the decision it ends with -/
def StepV (cc : Nat) : StepResR → Prop
  | .wait st' _ _ h' r' => Live r' cc st' h' true
  | .done resp r' => Ended r' cc 1 (bodyNonEmpty resp).toNat
  | .abort _ => True

theorem stepR_spec (cc : Nat) : ∀ (f : Nat) (st : St) (h : Handler) (s : Status) (buf : Bytes)
    (c0 : Nat) (r : RSt), Live r cc st h false → StepV cc (stepR ovf f st h s buf c0 r) := by
  intro f
  induction f with
  | zero => exact fun _ _ _ _ _ _ _ => trivial
  | succ f ih =>
    intro st h s buf c0 r hv
    have hk := microR_spec ovf st h s buf r cc hv
    simp only [stepR]
    generalize micro ovf st h s buf = m at hk
    cases m with
    | goto st' c h' => exact ih _ _ _ _ _ _ hk
    | wait st' c k h' => exact hk
    | done resp => exact hk
    | abort w => trivial

/-- one event-loop callback on a snapshot within the parser's invariant: the caller's callback, once, with the
    request over; or the next wait, for more than is buffered -/
theorem stepR_cases (cc F : Nat) (st : St) (h : Handler) (s : Status) (buf : Bytes) (r : RSt)
    (hi : InvBuf st h buf) (hF : buf.length < F) (hv : Live r cc st h false) :
    (∃ resp r', stepR ovf F st h s buf 0 r = .done resp r' ∧ RespOK st.max resp ∧
      Ended r' cc 1 (bodyNonEmpty resp).toNat) ∨
    ∃ st' c k h' r', stepR ovf F st h s buf 0 r = .wait st' c k h' r' ∧ s = .ok ∧ c ≤ buf.length ∧ buf.length - c < k ∧
      st'.max = st.max ∧ InvBuf st' h' (buf.drop c) ∧ Live r' cc st' h' true := by
  obtain ⟨f, rfl⟩ : ∃ f, F = f + 1 := ⟨F - 1, by omega⟩
  have hso := callback_ok ovf (f + 1) st h s buf hi hF
  have hsr := stepR_spec ovf cc (f + 1) st h s buf 0 r hv
  rw [← stepR_erase ovf (f + 1) st h s buf 0 r] at hso
  generalize hres : stepR ovf (f + 1) st h s buf 0 r = res at hso hsr
  cases res with
  | done resp r' => exact .inl ⟨resp, r', rfl, hso, hsr⟩
  | abort w => exact hso.elim
  | wait st' c k h' r' =>
    obtain ⟨hc, hk, hmax, hinv⟩ := hso
    refine .inr ⟨st', c, k, h', r', rfl, ?_, hc, hk, hmax, hinv, hsr⟩
    by_cases hs : s = .ok
    · exact hs
    · obtain ⟨rr, hr⟩ := step_not_ok ovf f st h s buf 0 hs
      have := congrArg eraseR hres
      rw [stepR_erase, hr] at this; cases this

/-- completed buffer writes change the writer's queue only -/
theorem live_writesR (cc : Nat) (st : St) (h : Handler) (w : Bool) : ∀ (n : Nat) (r : RSt), Live r cc st h w →
    Live (writesR n r) cc st h w := by
  intro n
  induction n with
  | zero => exact fun r hv => hv
  | succ n ih =>
    intro r hv
    simp only [writesR]
    split
    · rename_i hw
      obtain ⟨s, his, hh, hm⟩ := hv
      obtain ⟨q, c, wb⟩ := is_writbuf his (his.wcur.symm.trans hw)
      exact ih _ ⟨_, wb, hh, hm⟩
    · exact hv

theorem Ended.clean {r : RSt} {n hb : Nat} (he : Ended r 0 n hb) : r.live = [] ∧ r.pending = [] ∧ r.regs = 0 := by
  refine ⟨List.eq_nil_iff_forall_not_mem.mpr fun k hk => ?_, by simp [RSt.pending, he.noConn, he.noRd, he.noWr],
    by simp [RSt.regs, he.noConn, he.noRd, he.noWr]⟩
  have := List.count_pos_iff.mpr hk
  rw [he.cnt k] at this
  split at this <;> exact Nat.lt_irrefl _ this

/-- the request is over, with one callback unless it was cancelled, and the body buffer handed over exactly when the
    callback got a non-empty body -/
def OutcomeOK (max : Nat) : OutcomeR → Prop
  | .ended cbs cancelled r _ =>
    ∃ hb, Ended r 0 cbs.length hb ∧
      if cancelled then cbs = [] ∧ hb = 0
      else ∃ resp, cbs = [resp] ∧ RespOK max resp ∧ hb = (bodyNonEmpty resp).toNat
  | .abort _ _ => False

theorem ended_outcome (max : Nat) (r : RSt) (resp : Option Resp) (tr : List Snap)
    (he : Ended r 0 1 (bodyNonEmpty resp).toNat) (hr : RespOK max resp) : OutcomeOK max (.ended [resp] false r tr) :=
  ⟨_, he, resp, rfl, hr, rfl⟩

/-- the fuel of `loopR` suffices for the next wait: more is buffered than before -/
theorem fuel_step {rlen b b2 c f : Nat} (h1 : c ≤ b2) (h2 : b2 ≤ rlen) (h3 : b < b2) (hf : rlen - b + 1 ≤ f + 1) :
    rlen - c - (b2 - c) + 1 ≤ f := by
  omega

theorem loopR_ok {σ : Type} (oracle : σ → Nat → Nat → σ × Turn) :
    ∀ (f : Nat) (o : σ) (st : St) (h : Handler) (rest : Bytes) (rlen b c k : Nat) (tr : List Snap) (r : RSt),
    rlen = rest.length → b ≤ rlen → b < k → InvBuf st h (rest.take b) → rlen - b + 1 ≤ f →
    Live r 0 st h true → OutcomeOK st.max (loopR ovf oracle f o st h rest rlen b c k tr r) := by
  intro f
  induction f with
  | zero => intro o st h rest rlen b c k tr r _ _ _ _ hf; omega
  | succ f ih =>
    intro o st h rest rlen b c k tr r hrl hb hk hi hfuel hv
    simp only [loopR]
    generalize oracle o c k = ot
    obtain ⟨o', t⟩ := ot
    (try dsimp only)
    obtain ⟨s, his, hh, hm⟩ := live_writesR 0 st h true t.wrote r hv
    generalize writesR t.wrote r = rw at his
    split
    · -- the write in progress fails: fail(H) from the writer
      rename_i hwf
      simp only [Bool.and_eq_true] at hwf
      exact ended_outcome st.max _ none _ (is_fail (is_wmid his (his.wcur.symm.trans hwf.2))) trivial
    · split
      · -- the caller cancels
        exact ⟨_, is_cancel (n := 0) (hb := 0) his, rfl, rfl⟩
      · -- the wait completes
        have hf := is_readFired his fun e => Bool.noConfusion (hm.mp e)
        obtain ⟨a1, a2, a3⟩ := arrive_spec t.arrival k rlen b hb hk
        generalize arrive t.arrival k rlen b = sb at a1 a2 a3
        obtain ⟨s', b2⟩ := sb
        simp only at a1 a2 a3 ⊢
        have hsl : (rest.take b2).length = b2 := by rw [List.length_take]; omega
        have hi2 : InvBuf st h (rest.take b2) := invBuf_mono hi (by rw [hsl, List.length_take]; omega)
        rcases stepR_cases ovf 0 (b2 + 1) st h s' _ _ hi2 (by omega) ⟨_, hf, hh, iff_of_true rfl rfl⟩ with
          ⟨resp, r', e, hr, he⟩ | ⟨st', c', k', h', r', e, hsok, hc, hk', hmax, hinv, hv'⟩
        · rw [e]
          exact ended_outcome st.max r' resp _ he hr
        · rw [e, ← hmax]
          rw [hsl] at hc hk'
          have hkb := a3 hsok
          have hrl' : rlen - c' = (rest.drop c').length := by rw [List.length_drop]; omega
          have hdl : ((rest.take b2).drop c').length = b2 - c' := by rw [List.length_drop, hsl]
          exact ih o' st' h' (rest.drop c') (rlen - c') (b2 - c') c' k' (snap k' r' :: tr) r' hrl'
            (Nat.sub_le_sub_right a2 c') hk'
            (invBuf_mono hinv (by rw [hdl, List.length_take]; omega))
            (fuel_step hc a2 (Nat.lt_of_lt_of_le hk hkb) hfuel) hv'

theorem cons_httpRequest : Cons httpRequest 1 := by
  refine ⟨rfl, fun k => (by cases k <;> rfl), fun _ => ⟨rfl, rfl⟩, fun _ => rfl, fun _ => ⟨rfl, rfl⟩, fun _ => rfl, rfl,
    fun h => (by cases h)⟩

/-- every address refused: the state on which `callback_connected` calls `fail` -/
theorem cons_refused : Cons { connFired httpRequest false with pConnect := false, ncb := 1 } 1 := by
  refine ⟨rfl, fun k => (by cases k <;> rfl), fun h => (by cases h), fun h => (by cases h), fun _ => ⟨rfl, rfl⟩,
    fun _ => rfl, rfl, fun h => (by cases h)⟩

theorem live_connected (ishead : Bool) (max : Nat) (hasBody : Bool) :
    Live (callbackConnected (connFired httpRequest true) true hasBody) 1 (initSt ishead max) .readHeader false := by
  cases hasBody <;>
  exact ⟨{ wq := _, wcur := true }, ⟨_, rfl, fun k => by cases k <;> rfl⟩,
    ⟨⟨⟨nofun, fun h => absurd h (Nat.lt_irrefl 0)⟩, Iff.rfl, rfl⟩, fun _ => ⟨rfl, rfl, rfl⟩⟩, iff_of_true rfl rfl⟩

/-- `network_connect` frees its cookie when `callback_connected` has returned -/
theorem ended_free_connect (r : RSt) (n hb : Nat) (he : Ended r 1 n hb) : Ended (r.free .connect) 0 n hb := by
  obtain ⟨e1, e2, e3, e4, e5, e6, e7, e8⟩ := he
  exact ⟨(free_err r .connect).2 ⟨e1, by rw [e2]; exact Nat.one_pos⟩, fun k => by rw [free_count, e2]; cases k <;> rfl,
    e3, e4, e5, e6, e7, e8⟩

theorem runAllR_ok {σ : Type} (oracle : σ → Nat → Nat → σ × Turn) (o : σ)
    (ishead : Bool) (max : Nat) (data : Bytes) (hasBody : Bool) (pre : Pre) :
    OutcomeOK max (runAllR ovf oracle o ishead max data hasBody pre) := by
  cases pre with
  | cancel =>
    exact ⟨_, cancel_spec httpRequest 1 cons_httpRequest, rfl, rfl⟩
  | refused =>
    exact ended_outcome max _ none [] (ended_free_connect _ _ _ (cancel_spec _ 1 cons_refused)) trivial
  | connected =>
    simp only [runAllR]
    rcases stepR_cases ovf 1 1 (initSt ishead max) .readHeader .ok [] _ (initSt_inv ishead max []) Nat.one_pos
        (live_connected ishead max hasBody) with
      ⟨resp, r', e, hr, he⟩ | ⟨st', c, k, h', r', e, _, hc, hk, hmax, hinv, s, his, hh, hm⟩
    · rw [e]
      exact ended_outcome max _ resp [] (ended_free_connect _ _ _ he) hr
    · obtain rfl : c = 0 := Nat.le_zero.mp hc
      rw [e]
      have := loopR_ok ovf oracle (data.length + 2) o st' h' (data.drop 0) (data.length - 0) 0 0 k [snap k r']
        (r'.free .connect) (by simp) (Nat.zero_le _) hk (invBuf_mono hinv (by simp)) (by omega)
        ⟨s, is_free_connect his, hh, hm⟩
      rw [hmax] at this
      exact this

/-- forget the resources -/
def eraseOut : OutcomeR → Option Outcome
  | .ended [resp] false _ tr => some (.callback resp (tr.map (·.k)))
  | .ended _ _ _ _ => none
  | .abort w tr => some (.abort w (tr.map (·.k)))

/-- the reader/network part of an environment -/
def arrivals {σ : Type} (oracle : σ → Nat → Nat → σ × Turn) : σ → Nat → Nat → σ × Arrival :=
  fun o c k => ((oracle o c k).1, (oracle o c k).2.arrival)

/-- an environment in which, from states satisfying `Q`, the caller never cancels and no write fails -/
def QuietFrom {σ : Type} (oracle : σ → Nat → Nat → σ × Turn) (Q : σ → Prop) : Prop :=
  ∀ o c k, Q o → (oracle o c k).2.wfail = false ∧ (oracle o c k).2.cancel = false ∧ Q (oracle o c k).1

theorem loopR_erase {σ : Type} (oracle : σ → Nat → Nat → σ × Turn) (Q : σ → Prop) (hq : QuietFrom oracle Q) :
    ∀ (f : Nat) (o : σ) (st : St) (h : Handler) (rest : Bytes) (rlen b c k : Nat) (tr : List Snap) (r : RSt), Q o →
    eraseOut (loopR ovf oracle f o st h rest rlen b c k tr r) =
      some (run ovf (arrivals oracle) f (oracle o c k).1 st h (arrive (oracle o c k).2.arrival k rlen b).1 rest rlen
        (arrive (oracle o c k).2.arrival k rlen b).2 (tr.map (·.k))) := by
  intro f
  induction f with
  | zero => intro o st h rest rlen b c k tr r _; simp [loopR, run, eraseOut, List.map_reverse]
  | succ f ih =>
    intro o st h rest rlen b c k tr r ho
    obtain ⟨q1, q2, q3⟩ := hq o c k ho
    rw [run_succ]
    simp only [loopR]
    generalize hot : oracle o c k = ot at q1 q2 q3
    obtain ⟨o', t⟩ := ot
    simp only at q1 q2 q3 ⊢
    rw [q1, q2]
    simp only [Bool.false_and, Bool.false_eq_true, if_false]
    generalize arrive t.arrival k rlen b = sb
    obtain ⟨s, b2⟩ := sb
    simp only
    rw [← stepR_erase ovf (b2 + 1) st h s (rest.take b2) 0 (readFired (writesR t.wrote r))]
    generalize stepR ovf (b2 + 1) st h s (rest.take b2) 0 (readFired (writesR t.wrote r)) = res
    cases res with
    | done resp r' => simp [eraseR, eraseOut, List.map_reverse]
    | abort w => simp [eraseR, eraseOut, List.map_reverse]
    | wait st' c' k' h' r' =>
      simp only [eraseR]
      rw [ih _ _ _ _ _ _ _ _ _ _ q3]
      rfl

/-- **Refinement.**  With an environment in which the caller never cancels and no write fails, a connected
    request of the resource model ends exactly as `Model.Http.runAll` on the same reader/network behaviour:
    same callback argument, same sequence of wait lengths. -/
theorem runAllR_erase {σ : Type} (oracle : σ → Nat → Nat → σ × Turn) (Q : σ → Prop) (hq : QuietFrom oracle Q) (o : σ)
    (ishead : Bool) (max : Nat) (data : Bytes) (hasBody : Bool) (ho : Q o) :
    eraseOut (runAllR ovf oracle o ishead max data hasBody .connected) =
      some (runAll ovf (arrivals oracle) o ishead max data) := by
  simp only [runAllR, runAll]
  rw [show data.length + 3 = (data.length + 2) + 1 from rfl, run_succ]
  simp only [List.take_zero, Nat.zero_add]
  rw [← stepR_erase ovf 1 (initSt ishead max) .readHeader .ok [] 0
    (callbackConnected (connFired httpRequest true) true hasBody)]
  generalize stepR ovf 1 (initSt ishead max) .readHeader .ok [] 0
    (callbackConnected (connFired httpRequest true) true hasBody) = res
  cases res with
  | done resp r' => simp [eraseR, eraseOut]
  | abort w => simp [eraseR, eraseOut]
  | wait st' c k h' r' =>
    simp only [eraseR]
    rw [loopR_erase ovf oracle Q hq _ _ _ _ _ _ _ _ _ _ _ ho, Nat.zero_sub]
    rfl

/-- a run whose plain counterpart ends with the callback `resp` ended with exactly that callback -/
theorem eraseOut_callback {out : OutcomeR} {resp : Option Resp} {ws : List Nat} (h : eraseOut out = some (.callback resp ws)) :
    ∃ r tr, out = .ended [resp] false r tr := by
  unfold eraseOut at h
  split at h
  · cases h; exact ⟨_, _, rfl⟩
  · cases h
  · cases h

/-! ## data for the non-vacuity examples of `Properties/C08.lean` -/

/-- an environment: one byte per wait; the first request-buffer write completes while the second wait is
    pending; the write in progress fails during wait number `failAt`, the caller cancels during wait number
    `cancelAt` (waits are counted from 0) -/
def exOracle (cancelAt failAt : Nat) (n : Nat) (_c _k : Nat) : Nat × Turn :=
  (n + 1, { wrote := if n == 1 then 1 else 0, wfail := n == failAt, cancel := n == cancelAt, arrival := .more 0 })

/-- everything a request can hold at once: header copy, header array, a body buffer, a read wait and a
    buffer write in progress -/
def exFull : RSt :=
  { live := [.cookie, .reqHead, .reader, .readerBuf, .writer, .wbuf, .wbufData, .resHead, .hdrArray, .body],
    pR := true, pW := true, pReqHead := true, pResHead := true, pHeaders := true, pBody := true, sock := true,
    rdReg := .net, wcur := true, fds := 1 }

theorem exFull_cons : Cons exFull 0 := by
  refine ⟨rfl, fun k => (by cases k <;> rfl), fun h => (by cases h), fun h => (by cases h), fun h => (by cases h),
    fun h => (by cases h), rfl, fun _ => rfl⟩

end Percival.Proofs.HttpRes
