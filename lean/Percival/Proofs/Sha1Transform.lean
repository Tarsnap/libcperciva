import Percival.Model.Sha1
import Percival.Spec.Sha1
import Percival.Proofs.Schedule
import Percival.Proofs.FoldFin
import Percival.Proofs.Sha256Transform
/-! `Model.Sha1.transform` (the C's macro-structured `SHA1_Transform`) is the FIPS 180-4 SHA-1
compression function `Spec.Sha1.compress`. -/
namespace Percival.Proofs.Sha1T
open Percival Percival.Model.Sha1
open Percival.Spec (Bytes wordsBE)
open Percival.Proofs.Schedule (wf wf_lt)
open Percival.Proofs.Words (get_fin get_set)

theorem ch_eq (x y z : UInt32) : Model.Sha1.Ch x y z = Spec.Sha1.Ch x y z := Sha256T.ch_eq x y z
theorem maj_eq (x y z : UInt32) : Model.Sha1.Maj x y z = Spec.Sha1.Maj x y z := Sha256T.maj_eq x y z
theorem rotl_eq (x n : UInt32) : Model.Sha1.ROTL x n = Spec.Sha1.rotl x n := rfl

theorem kind_eq (t : Fin 80) :
    roundKind[t] = if t.val < 20 then 0 else if t.val < 40 then 1 else if t.val < 60 then 2 else 3 := by
  revert t; decide +kernel

theorem rndF_eq (t : Fin 80) (b c d : UInt32) : rndF roundKind[t] b c d = Spec.Sha1.f t.val b c d := by
  rw [kind_eq]; unfold Spec.Sha1.f
  split
  · exact ch_eq b c d
  · split
    · rfl
    · split
      · exact maj_eq b c d
      · rfl

theorem rndK_eq (t : Fin 80) : rndK roundKind[t] = Spec.Sha1.K t.val := by
  rw [kind_eq]; unfold Spec.Sha1.K
  split
  · decide
  · split
    · decide
    · split <;> decide

/-- the working variables `a … e` as line `i` sees them -/
def regsAt (S : Vector UInt32 5) (i : Nat) : Spec.Sha1.Regs :=
  ⟨S[slot 80 i], S[slot 81 i], S[slot 82 i], S[slot 83 i], S[slot 84 i]⟩

def regs (S : Vector UInt32 5) (σ : Fin 5 → Fin 5) : Spec.Sha1.Regs :=
  ⟨S.get (σ 0), S.get (σ 1), S.get (σ 2), S.get (σ 3), S.get (σ 4)⟩

/-- `RNDn` on five different slots is step `t` of §6.1.2 on the variables held there, after which the slot of `e` holds
the new `a`, that of `a` the new `b`, … -/
theorem RND_spec (t : Fin 80) (S : Vector UInt32 5) (σ : Fin 5 → Fin 5) (hσ : Function.Injective σ) (w : UInt32) :
    regs (RND roundKind[t] S (σ 0) (σ 1) (σ 2) (σ 3) (σ 4) w) (fun k => σ (k + 4)) =
      Spec.Sha1.round (regs S σ) t.val w := by
  unfold RND
  extract_lets T1
  have r1 : ∀ x, T1.get x = if σ 4 = x then _ else S.get x := fun x => get_set S (σ 4) x _
  simp only [regs, Spec.Sha1.round, get_fin S, get_fin T1, get_set, r1, hσ.eq_iff, Fin.reduceAdd, Fin.reduceEq, if_true,
    if_false, rndF_eq, rndK_eq, rotl_eq]
  congr 1
  ac_rfl

theorem slot_inj (i : Nat) (hi : i ≤ 80) : Function.Injective fun k : Fin 5 => slot (80 + k.val) i := by
  intro j k h
  have := congrArg Fin.val h
  simp only [slot] at this
  omega

/-- each variable moves one slot down from line to line -/
theorem slot_succ (i : Nat) (hi : i < 80) (k : Fin 5) : slot (80 + k.val) (i + 1) = slot (80 + (k + 4).val) i := by
  apply Fin.ext
  simp only [slot, Fin.val_add]
  omega

theorem RNDr_spec (S : Vector UInt32 5) (W : Vector UInt32 80) (i : Fin 80) :
    regsAt (RNDr S W i) (i.val + 1) = Spec.Sha1.round (regsAt S i.val) i.val W[i] := by
  show regs _ (fun k => slot (80 + k.val) (i.val + 1)) = _
  rw [funext (slot_succ i.val i.isLt)]
  exact RND_spec i S _ (slot_inj i.val (by omega)) _

theorem mix_spec (S : Vector UInt32 5) (W : Vector UInt32 80) (es : List (UInt32 × Nat)) (hes : es.length = 80)
    (h : ∀ (t : Nat) (ht : t < es.length), es[t] = (wf W t, t)) :
    regsAt ((List.finRange 80).foldl (fun S i => RNDr S W i) S) 0 =
      es.foldl (fun r wt => Spec.Sha1.round r wt.2 wt.1) (regsAt S 0) :=
  FoldFin.foldl_finRange_sim _ es hes _ regsAt (fun S i => by rw [RNDr_spec, h, wf_lt _ _ i.isLt]; rfl) S

/-- one iteration of the schedule loop writing `W[n]` (total in `n`) -/
def step' (W : Vector UInt32 80) (n : Nat) : Vector UInt32 80 :=
  if h : 16 ≤ n ∧ n < 80 then schedStep W ⟨n - 16, by omega⟩ else W

theorem wf_step'_ne (W : Vector UInt32 80) (n t : Nat) (hne : t ≠ n) : wf (step' W n) t = wf W t := by
  unfold step'
  split
  · rename_i h
    simp only [schedStep, show n - 16 + 16 = n by omega]
    rw [Schedule.wf_set_ne _ _ _ _ _ hne, Schedule.wf_set_ne _ _ _ _ _ hne]
  · rfl

theorem wf_step'_self (W : Vector UInt32 80) (n : Nat) (h16 : 16 ≤ n) (h : n < 80) :
    wf (step' W n) n = Spec.Sha1.rotl (wf W (n - 1 - 2) ^^^ wf W (n - 1 - 7) ^^^ wf W (n - 1 - 13) ^^^ wf W (n - 1 - 15)) 1 := by
  obtain ⟨j, rfl⟩ : ∃ j, n = j + 16 := ⟨n - 16, by omega⟩
  simp only [step', h16, h, and_self, dite_true, schedStep, Nat.add_sub_cancel, Schedule.wf_set_self,
    Vector.getElem_set_self, rotl_eq, show j + 16 - 1 - 2 = j + 13 by omega, show j + 16 - 1 - 7 = j + 8 by omega,
    show j + 16 - 1 - 13 = j + 2 by omega, show j + 16 - 1 - 15 = j by omega]
  rw [wf_lt, wf_lt, wf_lt, wf_lt]

theorem sched_loop (W0 : Vector UInt32 80) :
    (List.finRange 64).foldl schedStep W0 = (List.range' 16 64).foldl step' W0 := by
  rw [FoldFin.foldl_finRange 64 schedStep (fun W j => step' W (16 + j))
    (by intro s i; have := i.isLt; simp [step']; omega),
    ← List.foldl_map (f := (16 + ·)) (g := step'), List.map_add_range', Nat.add_zero]

theorem nextW_eq (l : List UInt32) (h : 16 ≤ l.length) : Spec.Sha1.nextW l =
    some (Spec.Sha1.rotl (l.getD 2 0 ^^^ l.getD 7 0 ^^^ l.getD 13 0 ^^^ l.getD 15 0) 1) := by
  rw [Schedule.eq_map_getD_append_drop l 16 h]
  rfl

theorem sched_eq_spec (block : Bytes) (hb : block.length = 64) :
    (Spec.Sha1.schedule block).length = 80 ∧
    ∀ t, t < 80 → wf ((List.finRange 64).foldl schedStep (decodeBlock block)) t = (Spec.Sha1.schedule block).getD t 0 := by
  have hl : (wordsBE block).length = 16 := by rw [Words.wordsBE_length, hb]
  rw [sched_loop]
  exact Schedule.sched_refines Spec.Sha1.nextW (fun w3 w8 w14 w16 => Spec.Sha1.rotl (w3 ^^^ w8 ^^^ w14 ^^^ w16) 1)
    2 7 13 15 (by decide) (by decide) (by decide) (by decide) nextW_eq step' wf_step'_ne wf_step'_self
    (wordsBE block) hl (decodeBlock block) (fun t ht => Schedule.wf_mk_pad _ _ _ t (by omega) (by omega)) 64 (by decide)

theorem rounds_spec (S : Vector UInt32 5) (block : Bytes) (hb : block.length = 64) :
    Spec.Sha1.rounds (regsAt S 0) (Spec.Sha1.schedule block) =
      regsAt ((List.finRange 80).foldl (fun S i => RNDr S ((List.finRange 64).foldl schedStep (decodeBlock block)) i) S) 0 := by
  obtain ⟨hl, hw⟩ := sched_eq_spec block hb
  have hlen : (Spec.Sha1.schedule block).zipIdx.length = 80 := by rw [List.length_zipIdx, hl]
  refine (mix_spec S _ _ hlen fun t ht => ?_).symm
  rw [List.getElem_zipIdx, hw t (hlen ▸ ht), ← List.getElem_eq_getD, Nat.zero_add]

end Percival.Proofs.Sha1T
