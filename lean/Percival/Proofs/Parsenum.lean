import Percival.Proofs.Numeral
import Percival.Proofs.Governed
import Percival.Model.Parsenum
/-! Helper lemmas for C16: `parsenum_signed` / `parsenum_unsigned` / the macros, in terms of the scan. -/
namespace Percival.Proofs.Parsenum
open Percival.Spec.Numeral Percival.Spec.Parsenum Percival.Model.Strto Percival.Model.Parsenum
open Percival.Proofs.Numeral

instance (t : IntTy) (min max : CVal) (v : Int) : Decidable (InRange t min max v) := by
  unfold InRange InType; exact inferInstance

instance (t : IntTy) (v : Int) : Decidable (InType t v) := by
  unfold InType; exact inferInstance

/-- the value the string is accepted as, if any, as a function of the scan -/
def accepted (base : Nat) (tr : Bool) (s : List UInt8) : Option Int :=
  match scan base s with
  | none => none
  | some r => if tr = false ∧ r.endOff ≠ s.length then none else some (scanValue r)

/-- the specification's answer; `P` = "the value is acceptable" -/
def expected (P : Int → Prop) [DecidablePred P] (base : Nat) (tr : Bool) (s : List UInt8) : Answer :=
  match accepted base tr s with
  | none => .einval
  | some x => if P x then .ok x else .erange

theorem not_malformed_iff (tr : Bool) (e len : Nat) : ¬ (tr = false ∧ e ≠ len) ↔ (tr = true ∨ e = len) := by
  cases tr <;> simp

/-- after a conversion (`endptr ≠ nptr`) the test `eptr == s || (!trailing && *eptr != '\0')` is about trailing bytes only -/
theorem malformed_pos {e : Nat} (he : 0 < e) (len : Nat) (tr : Bool) :
    malformed e len tr = true ↔ (tr = false ∧ e ≠ len) := by
  cases tr <;> simp [malformed] <;> omega

/-- a string is accepted as at most one value: `Accepts` is the graph of `accepted` -/
theorem accepts_iff_accepted (base : Nat) (tr : Bool) (s : List UInt8) (v : Int) :
    Accepts base tr s v ↔ accepted base tr s = some v := by
  rw [accepts_iff_scan, accepted]
  cases scan base s with
  | none => exact ⟨fun h => (nomatch h.choose_spec.1), nofun⟩
  | some r =>
    by_cases hm : tr = false ∧ r.endOff ≠ s.length
    · simp only [if_pos hm]
      constructor
      · rintro ⟨_, h, h2, -⟩
        cases h
        exact absurd hm ((not_malformed_iff tr _ _).mpr h2)
      · exact nofun
    · simp only [if_neg hm]
      constructor
      · rintro ⟨_, h, -, rfl⟩
        cases h
        rfl
      · intro h
        cases h
        exact ⟨r, rfl, (not_malformed_iff tr _ _).mp hm, rfl⟩

theorem answers : Answers Answer.ok .einval .erange := ⟨fun _ _ h => Answer.ok.inj h, nofun, nofun, nofun⟩

section expected
variable (P : Int → Prop) [DecidablePred P] (base : Nat) (tr : Bool) (s : List UInt8)

theorem expected_governed : Governed Answer.ok .einval .erange (Accepts base tr s) P id (expected P base tr s) := by
  unfold Governed expected
  simp only [accepts_iff_accepted, id]
  cases accepted base tr s with
  | none => exact Or.inl ⟨fun h => (nomatch h.choose_spec), rfl⟩
  | some x =>
    refine Or.inr ⟨x, fun y => ⟨fun h => (Option.some.inj h).symm, fun h => h ▸ rfl⟩, ?_⟩
    by_cases hp : P x
    · exact Or.inl ⟨hp, if_pos hp⟩
    · exact Or.inr ⟨hp, if_neg hp⟩

theorem expected_congr {Q : Int → Prop} [DecidablePred Q] (h : ∀ x, Accepts base tr s x → (P x ↔ Q x)) :
    expected P base tr s = expected Q base tr s := by
  simp only [accepts_iff_accepted] at h
  unfold expected
  cases ha : accepted base tr s with
  | none => rfl
  | some x =>
    have hpq := h x ha
    by_cases hp : P x
    · simp only [if_pos hp, if_pos (hpq.mp hp)]
    · simp only [if_neg hp, if_neg (mt hpq.mpr hp)]

/-- the answer in terms of the scan, as the two functions of the C compute it -/
theorem expected_eq_scan : expected P base tr s =
    match scan base s with
    | none => .einval
    | some r =>
      if tr = false ∧ r.endOff ≠ s.length then .einval
      else if P (scanValue r) then .ok (scanValue r) else .erange := by
  unfold expected accepted
  cases scan base s with
  | none => rfl
  | some r =>
    by_cases hm : tr = false ∧ r.endOff ≠ s.length
    · simp only [if_pos hm]
    · simp only [if_neg hm]

end expected

theorem accepts_unique {base : Nat} {tr : Bool} {s : List UInt8} {v w : Int}
    (h1 : Accepts base tr s v) (h2 : Accepts base tr s w) : v = w :=
  Option.some.inj (((accepts_iff_accepted base tr s v).mp h1).symm.trans ((accepts_iff_accepted base tr s w).mp h2))

/-- the caller sees `ok v` only after a call that left `v` in `*x` and `errno` untouched -/
theorem done_of_answer_ok {o : Outcome} {v : Int} (h : o.answer = .ok v) : o = .done v .ok := by
  cases o with
  | abort => cases h
  | done x e => cases e <;> simp only [Outcome.answer] at h <;> cases h; rfl

theorem probeFloat_false (t : IntTy) : probeFloat t = false := by cases t <;> decide

theorem probeUnsigned_eq (t : IntTy) : probeUnsigned t = !t.signed := by cases t <;> decide

theorem store_neg_one (t : IntTy) : store t (-1) = if t.signed then -1 else t.hi := by
  cases t <;> decide

theorem lo_hi_bounds (t : IntTy) : IMIN ≤ t.lo ∧ t.hi ≤ UMAX ∧ (t.signed = true → t.hi ≤ IMAX) ∧
    (t.signed = false → t.lo = 0) := by
  cases t <;> decide

theorem inType_intmax {t : IntTy} {v : Int} (h : InType t v) : IMIN ≤ v ∧ v ≤ UMAX := by
  obtain ⟨h1, h2, -⟩ := lo_hi_bounds t
  unfold InType at h
  omega

theorem inType_signed {t : IntTy} {v : Int} (ht : t.signed = true) (h : InType t v) : IMIN ≤ v ∧ v ≤ IMAX := by
  obtain ⟨h1, -, h2, -⟩ := lo_hi_bounds t
  have := h2 ht
  unfold InType at h
  omega

theorem store_of_inType {t : IntTy} {v : Int} (h : InType t v) : store t v = v := by
  have hb : (2 : Int) ^ t.bits = 2 * 2 ^ (t.bits - 1) := by cases t <;> rfl
  have hp : (0 : Int) < 2 ^ (t.bits - 1) := Int.pow_pos (by omega)
  unfold InType IntTy.lo IntTy.hi at h
  unfold store
  split
  · rename_i hs
    rw [if_pos hs, if_pos hs] at h
    rw [Int.emod_eq_of_lt (by omega) (by omega)]
    omega
  · rename_i hs
    rw [if_neg hs, if_neg hs] at h
    exact Int.emod_eq_of_lt (by omega) (by omega)

theorem answer_store {P : Int → Prop} [DecidablePred P] {t : IntTy} {base : Nat} {tr : Bool} {s : List UInt8}
    {v : Int} {e : Errno} (hP : ∀ x, P x → InType t x)
    (h : expected P base tr s = (Outcome.done v e).answer) :
    expected P base tr s = (Outcome.done (store t v) e).answer := by
  cases e with
  | ok =>
    have := (((expected_governed P base tr s).ok_iff answers v).mp h).2
    rw [store_of_inType (hP v this)]
    exact h
  | einval => exact h
  | erange => exact h

theorem malformed_some {base : Nat} {s : List UInt8} {r : Scan} (hs : scan base s = some r) (tr : Bool) :
    malformed r.endOff s.length tr = true ↔ (tr = false ∧ r.endOff ≠ s.length) :=
  malformed_pos (scan_endOff_pos hs) _ tr

theorem strtoimax_none {base : Nat} {s : List UInt8} (hs : scan base s = none) :
    strtoimax s base = { val := 0, endOff := 0, errno := .ok } := by
  simp [strtoimax, hs]

theorem strtoimax_some {base : Nat} {s : List UInt8} {r : Scan} (hs : scan base s = some r) :
    (strtoimax s base).endOff = r.endOff ∧
    ((IMIN ≤ scanValue r ∧ scanValue r ≤ IMAX ∧ (strtoimax s base).val = scanValue r ∧ (strtoimax s base).errno = .ok) ∨
     (scanValue r < IMIN ∧ (strtoimax s base).val = IMIN ∧ (strtoimax s base).errno = .erange) ∨
     (scanValue r > IMAX ∧ (strtoimax s base).val = IMAX ∧ (strtoimax s base).errno = .erange)) := by
  simp only [strtoimax, hs, scanValue, IMIN, IMAX]
  cases r.neg <;> simp <;> split <;> simp <;> omega

/-- `parsenum_signed` against the specification (bounds are `intmax_t` values) -/
theorem parsenumSigned_spec (s : List UInt8) (mn mx : Int) (base : Nat) (tr : Bool)
    (hmn : IMIN ≤ mn) (hmx : mx ≤ IMAX) :
    expected (fun v => mn ≤ v ∧ v ≤ mx) base tr s =
      (Outcome.done (parsenumSigned s mn mx base tr).1 (parsenumSigned s mn mx base tr).2).answer := by
  simp only [expected_eq_scan, parsenumSigned]
  cases hs : scan base s with
  | none => rw [strtoimax_none hs]; rfl
  | some r =>
    obtain ⟨he, hv⟩ := strtoimax_some hs
    simp only [he, malformed_some hs]
    by_cases hm : tr = false ∧ r.endOff ≠ s.length
    · rw [if_pos hm, if_pos hm]; rfl
    · rw [if_neg hm, if_neg hm]
      rcases hv with ⟨_, _, hval, herr⟩ | ⟨_, hval, herr⟩ | ⟨_, hval, herr⟩ <;> rw [hval, herr]
      · by_cases hr : mn ≤ scanValue r ∧ scanValue r ≤ mx
        · rw [if_pos hr, if_neg]
          · rfl
          · omega
        · rw [if_neg hr, if_pos]
          · rfl
          · omega
      · rw [if_neg]
        · split <;> rfl
        · omega
      · rw [if_neg]
        · split <;> rfl
        · omega

theorem strtoumax_none {base : Nat} {s : List UInt8} (hs : scan base s = none) :
    strtoumax s base = { val := 0, endOff := 0, errno := .ok } := by
  simp [strtoumax, hs]

theorem strtoumax_some {base : Nat} {s : List UInt8} {r : Scan} (hs : scan base s = some r) :
    (strtoumax s base).endOff = r.endOff ∧
    ((r.mag ≤ UMAX ∧ (strtoumax s base).errno = .ok ∧
        (strtoumax s base).val = (if r.neg then (2 ^ 64 - r.mag) % 2 ^ 64 else r.mag)) ∨
     (r.mag > UMAX ∧ (strtoumax s base).val = UMAX ∧ (strtoumax s base).errno = .erange)) := by
  simp only [strtoumax, hs]
  by_cases h : r.mag > UMAX
  · simp [h]
  · simp only [h, if_false]
    cases r.neg <;> simp <;> omega

theorem parsenumUnsigned_spec (s : List UInt8) (mn mx tmax : Nat) (base : Nat) (tr : Bool) (htm : tmax ≤ UMAX) :
    expected (fun v => 0 ≤ v ∧ (mn : Int) ≤ v ∧ v ≤ mx ∧ v ≤ tmax) base tr s =
      (Outcome.done (parsenumUnsigned s mn mx tmax base tr).1 (parsenumUnsigned s mn mx tmax base tr).2).answer := by
  simp only [expected_eq_scan, parsenumUnsigned]
  cases hs : scan base s with
  | none => rw [strtoumax_none hs]; rfl
  | some r =>
    have hminus : minusAfterSpace s = r.neg := minus_of_scan hs
    obtain ⟨he, hv⟩ := strtoumax_some hs
    simp only [he, malformed_some hs, hminus]
    by_cases hm : tr = false ∧ r.endOff ≠ s.length
    · rw [if_pos hm, if_pos hm]; rfl
    · rw [if_neg hm, if_neg hm]
      obtain ⟨neg, mag, eo⟩ := r
      simp only [scanValue, UMAX] at hv htm ⊢
      rcases hv with ⟨hmag, herr, hval⟩ | ⟨hmag, hval, herr⟩ <;> rw [hval, herr]
      · cases neg
        · simp only [Bool.false_eq_true, if_false, and_false]
          by_cases hr : mag < mn ∨ mag > mx ∨ mag > tmax
          · rw [if_pos hr, if_neg]
            · rfl
            · omega
          · rw [if_neg hr, if_pos]
            · rfl
            · omega
        · -- a minus sign: only `-0` is acceptable; any other magnitude wraps to a non-zero value
          simp only [if_true, and_true]
          have hv0 : (2 ^ 64 - mag) % 2 ^ 64 = 0 ↔ mag = 0 := by omega
          generalize (2 ^ 64 - mag) % 2 ^ 64 = v at hv0 ⊢
          by_cases hz : mag = 0
          · obtain rfl := hv0.mpr hz
            subst hz
            by_cases hr : 0 < mn
            · rw [if_neg, if_pos (Or.inl hr)]
              · rfl
              · omega
            · rw [if_pos, if_neg, if_neg]
              · rfl
              · omega
              · omega
              · omega
          · rw [if_neg]
            · split
              · rfl
              · split
                · rfl
                · rename_i h
                  exact absurd (hv0.mp (Classical.not_not.mp h)) hz
            · omega
      · -- beyond `UINTMAX_MAX`: `strtoumax` has set `ERANGE`, and the value exceeds `typemax`
        rw [if_neg]
        · split
          · rfl
          · split <;> rfl
        · split <;> omega

theorem toImax_of_le {c : CVal} (h1 : IMIN ≤ c.toInt) (h2 : c.toInt ≤ IMAX) : c.toImax = c.toInt := by
  cases c with
  | s v => rfl
  | u v => simp [CVal.toImax, CVal.toInt, IMIN, IMAX] at *; omega

theorem ex6_signed (t : IntTy) (s : List UInt8) (min max : CVal) (base : Nat) (tr : Bool)
    (ht : t.signed = true) (hok : BoundsOk t min max) :
    (parsenumEx6 t s min max base tr).answer = expected (InRange t min max) base tr s := by
  obtain ⟨hmin, hmax⟩ := hok.2.2 ht
  obtain ⟨a1, a2⟩ := inType_signed ht hmin
  obtain ⟨b1, b2⟩ := inType_signed ht hmax
  have hx : store t (-1) ≤ 0 := by rw [store_neg_one, ht]; simp
  simp only [parsenumEx6, probeFloat_false, probeUnsigned_eq, ht, hx, toImax_of_le a1 a2, toImax_of_le b1 b2,
    Bool.not_true, Bool.false_eq_true, if_false, if_true, not_false_eq_true]
  -- the bounds lie within the type, so being within the bounds is being in range
  have hspec := parsenumSigned_spec s min.toInt max.toInt base tr a1 b2
  rw [expected_congr _ base tr s (Q := InRange t min max)
    (fun x _ => by unfold InRange; unfold InType at hmin hmax ⊢; omega)] at hspec
  exact (answer_store (fun x h => h.2.2) hspec).symm

theorem umin_spec {c : CVal} (hv : c.Valid) (sv : Int) (h0 : 0 ≤ sv) :
    (((if c.le0 then 0 else c.toUmax : Nat) : Int) ≤ sv ↔ c.toInt ≤ sv) := by
  cases c with
  | s v =>
    simp only [CVal.Valid, IMIN, IMAX] at hv
    simp only [CVal.le0, CVal.toUmax, CVal.toInt, decide_eq_true_eq]
    split
    · simp; omega
    · have : ((v % 2 ^ 64).toNat : Int) = v := by omega
      rw [this]
  | u v =>
    simp only [CVal.le0, CVal.toUmax, CVal.toInt, decide_eq_true_eq]
    split
    · simp; omega
    · rfl

theorem umax_spec {c : CVal} (hv : c.Valid) (h0 : 0 ≤ c.toInt) : (c.toUmax : Int) = c.toInt := by
  cases c with
  | s v =>
    simp only [CVal.Valid, IMIN, IMAX] at hv
    simp only [CVal.toUmax, CVal.toInt] at *
    omega
  | u v => rfl

theorem negmax_spec {c : CVal} (hv : c.Valid) : (c.leImax = true ∧ c.toImax < 0) ↔ c.toInt < 0 := by
  cases c with
  | s v => simp [CVal.leImax, CVal.toImax, CVal.toInt]
  | u v =>
    simp only [CVal.Valid, UMAX] at hv
    simp [CVal.leImax, CVal.toImax, CVal.toInt, IMAX]
    constructor
    · rintro ⟨h1, h2⟩; have := of_decide_eq_true h1; omega
    · intro h; omega

theorem unsigned_facts {t : IntTy} (ht : t.signed = false) :
    ((store t (-1)).toNat : Int) = t.hi ∧ t.lo = 0 ∧ (store t (-1)).toNat ≤ UMAX := by
  cases t <;> simp [IntTy.signed] at ht <;> decide

theorem ex6_unsigned (t : IntTy) (s : List UInt8) (min max : CVal) (base : Nat) (tr : Bool)
    (ht : t.signed = false) (hok : BoundsOk t min max) :
    (parsenumEx6 t s min max base tr).answer = expected (InRange t min max) base tr s := by
  obtain ⟨hvmin, hvmax, _⟩ := hok
  obtain ⟨htm, hlo, htmle⟩ := unsigned_facts ht
  simp only [parsenumEx6, probeFloat_false, probeUnsigned_eq, ht, Bool.not_false,
    Bool.false_eq_true, if_false, not_true_eq_false]
  generalize hmn : (if min.le0 = true then 0 else min.toUmax) = mn
  have hmnspec := fun sv h0 => umin_spec hvmin sv h0
  rw [hmn] at hmnspec
  have hspec := parsenumUnsigned_spec s mn max.toUmax (store t (-1)).toNat base tr htmle
  rcases hp : parsenumUnsigned s mn max.toUmax (store t (-1)).toNat base tr with ⟨v, e⟩
  simp only [hp] at hspec ⊢
  by_cases hneg : max.toInt < 0
  · -- a negative `max`: nothing is in range, and the macro turns a success into `ERANGE`
    have hpost := (negmax_spec hvmax).mpr hneg
    simp only [hpost.1, hpost.2, true_and]
    unfold expected at hspec ⊢
    generalize accepted base tr s = o at hspec ⊢
    cases o with
    | none =>
      simp only at hspec ⊢
      cases e <;> first | rfl | cases hspec
    | some x =>
      simp only at hspec ⊢
      rw [if_neg (fun h : InRange t min max x => by unfold InRange InType at h; omega)]
      cases e
      · rfl
      · split at hspec <;> cases hspec
      · rfl
  · have hpost : ¬ (max.leImax = true ∧ max.toImax < 0 ∧ e = Errno.ok) :=
      fun h => hneg ((negmax_spec hvmax).mp ⟨h.1, h.2.1⟩)
    have hmx := umax_spec hvmax (by omega)
    rw [if_neg hpost]
    rw [expected_congr _ base tr s (Q := InRange t min max) (fun x _ => ?_)] at hspec
    · exact (answer_store (fun x h => h.2.2) hspec).symm
    · unfold InRange InType
      constructor
      · rintro ⟨h0, h1, h2, h3⟩
        exact ⟨(hmnspec x h0).mp h1, by omega, by omega, by omega⟩
      · rintro ⟨h1, h2, h3, h4⟩
        have h0 : 0 ≤ x := by omega
        exact ⟨h0, (hmnspec x h0).mpr h1, by omega, by omega⟩

theorem ex6_master (t : IntTy) (s : List UInt8) (min max : CVal) (base : Nat) (tr : Bool)
    (hok : BoundsOk t min max) :
    (parsenumEx6 t s min max base tr).answer = expected (InRange t min max) base tr s := by
  cases ht : t.signed
  · exact ex6_unsigned t s min max base tr ht hok
  · exact ex6_signed t s min max base tr ht hok

theorem ex4_master (t : IntTy) (s : List UInt8) (base : Nat) (tr : Bool) (ht : t.signed = false) :
    (parsenumEx4 t s base tr).answer = expected (InType t) base tr s := by
  obtain ⟨htm, hlo, htmle⟩ := unsigned_facts ht
  simp only [parsenumEx4, probeFloat_false, probeUnsigned_eq, ht, Bool.not_false,
    Bool.false_eq_true, if_false, if_true]
  have hspec := parsenumUnsigned_spec s 0 (store t (-1)).toNat (store t (-1)).toNat base tr htmle
  rw [expected_congr _ base tr s (Q := InType t) (fun x _ => by unfold InType; omega)] at hspec
  exact (answer_store (fun x h => h) hspec).symm

theorem ex4_signed_abort (t : IntTy) (s : List UInt8) (base : Nat) (tr : Bool) (ht : t.signed = true) :
    parsenumEx4 t s base tr = .abort := by
  simp [parsenumEx4, probeFloat_false, probeUnsigned_eq, ht]

/-- `PARSENUM_EX(&x, s, min, max, base, trailing)` answers as the numeral language and "within bounds and type" say -/
theorem parsenum_governed (t : IntTy) (bs : List UInt8) (min max : CVal) (base : Nat) (tr : Bool)
    (hb : BoundsOk t min max) :
    Governed Answer.ok .einval .erange (Accepts base tr (cstr bs)) (InRange t min max) id
      (parsenum t bs min max base tr) := by
  unfold parsenum; rw [ex6_master _ _ _ _ _ _ hb]; exact expected_governed _ _ _ _

/-- … and the bound-less form for an unsigned target as the language and the type say -/
theorem parsenumNoBounds_governed (t : IntTy) (bs : List UInt8) (base : Nat) (tr : Bool) (ht : t.signed = false) :
    Governed Answer.ok .einval .erange (Accepts base tr (cstr bs)) (InType t) id (parsenumNoBounds t bs base tr) := by
  unfold parsenumNoBounds; rw [ex4_master _ _ _ _ ht]; exact expected_governed _ _ _ _

end Percival.Proofs.Parsenum
