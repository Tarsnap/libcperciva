import Percival.Spec.HmacDrbg
/-!
# SP 800-90A HMAC_DRBG used as a service (`Spec.HmacDrbg.Service`): what a call can answer (C11)

Facts about the specification alone, at `params I M` (reseed interval `I` and piece size `M` left open, the
other numbers the property's): `serve_cons` (one piece in closed form), the invariant `InvS`, what a call can answer
(`serve_props`), the reseed schedule (`ctrAt`, `serve_scheduled`, `run_scheduled`), a failing reseed
(`serve_reseed_fails`).  `Proofs/Entropy.lean` carries them over to the model of crypto_entropy.c.
-/
namespace Percival.Proofs.Entropy
open Percival Percival.Spec
open Percival.Spec.HmacDrbg (State Params Oracle Outcome getEntropy pieces std)

theorem sha256_length (m : Bytes) : (Sha256.hash m).length = 32 := by
  simp [Sha256.hash, MD.hash, Sha256.params, Sha256.out, be32enc]

theorem hmac_length (k m : Bytes) : (Hmac.hmacSha256 k m).length = 32 := by
  unfold Hmac.hmacSha256 Hmac.hmac
  exact sha256_length _

def params (I M : Nat) : Params := { std with reseedInterval := I, maxRequest := M }

theorem getEntropy_length {n : Nat} {o o' : Oracle} {e : Bytes} (h : getEntropy n o = (some e, o')) :
    e.length = n := by
  unfold getEntropy at h
  split at h
  · simp at h
  · simp at h
  · split at h
    · simp at h; rw [← h.1]; assumption
    · simp at h

theorem pieces_zero (M : Nat) : pieces M 0 = [] := by
  simp [pieces]

theorem pieces_small {M n : Nat} (h0 : 0 < n) (h : n ≤ M) : pieces M n = [n] := by
  unfold pieces
  by_cases he : n = M
  · subst he
    simp [Nat.div_self h0]
  · have hlt : n < M := by omega
    simp [Nat.div_eq_of_lt hlt, Nat.mod_eq_of_lt hlt]
    omega

theorem pieces_big {M n : Nat} (hM : 0 < M) (h : M < n) : pieces M n = M :: pieces M (n - M) := by
  unfold pieces
  obtain ⟨m, rfl⟩ : ∃ m, n = m + M := ⟨n - M, by omega⟩
  rw [Nat.add_sub_cancel, Nat.add_div_right _ hM, Nat.add_mod_right, List.replicate_succ]
  rfl

theorem pieces_le {M : Nat} (hM : 0 < M) (n : Nat) : ∀ k ∈ pieces M n, k ≤ M := by
  intro k hk
  unfold pieces at hk
  simp only [List.mem_append, List.mem_replicate] at hk
  rcases hk with ⟨_, rfl⟩ | hk
  · exact Nat.le_refl _
  · split at hk
    · simp at hk
    · simp at hk; subst hk; exact Nat.le_of_lt (Nat.mod_lt _ hM)

theorem pieces_sum (M n : Nat) : (pieces M n).sum = n := by
  unfold pieces
  have := Nat.div_add_mod n M
  split
  · simp [List.sum_replicate_nat]; rw [Nat.mul_comm]; omega
  · simp [List.sum_replicate_nat]; rw [Nat.mul_comm]; omega

theorem pieces_pos {M : Nat} (n : Nat) (hM : 0 < M) : ∀ k ∈ pieces M n, 0 < k := by
  intro k hk
  unfold pieces at hk
  simp only [List.mem_append, List.mem_replicate] at hk
  rcases hk with ⟨_, rfl⟩ | hk
  · exact hM
  · split at hk
    · simp at hk
    · simp at hk; subst hk; omega

theorem pieces_le' {M : Nat} (hM0 : 0 < M) (hM : M ≤ 65536) (n : Nat) : ∀ k ∈ pieces M n, k ≤ 65536 :=
  fun k hk => Nat.le_trans (pieces_le hM0 n k hk) hM

def mapSt {α β : Type} (f : α → β) : Outcome × α × Oracle → Outcome × β × Oracle
  | (r, s, o) => (r, f s, o)

theorem spec_generate_ok {I n : Nat} {s : State} (hn : n ≤ 65536) (hc : s.reseedCounter ≤ I) :
    HmacDrbg.generate I s n = .success (HmacDrbg.generateBits s n).1 (HmacDrbg.generateBits s n).2 := by
  unfold HmacDrbg.generate
  have : HmacDrbg.maxBytesPerRequest = 65536 := by decide
  rw [this, if_neg (by omega), if_neg (by omega)]

theorem spec_generate_reseed {I n : Nat} {s : State} (hn : n ≤ 65536) (hc : s.reseedCounter > I) :
    HmacDrbg.generate I s n = .reseedRequired := by
  unfold HmacDrbg.generate
  have : HmacDrbg.maxBytesPerRequest = 65536 := by decide
  rw [this, if_neg (by omega), if_pos hc]

theorem serve_cons (I M : Nat) (hI0 : 0 < I) {n : Nat} (hn : n ≤ 65536) (s : State) (o : Oracle) (ns : List Nat) :
    HmacDrbg.Service.serve (params I M) s o (n :: ns) =
      if s.reseedCounter > I then
        match getEntropy 32 o with
        | (none, o') => (.fail, s, o')
        | (some e, o') =>
          HmacDrbg.Service.prepend (HmacDrbg.generateBits (HmacDrbg.reseed s e) n).1
            (HmacDrbg.Service.serve (params I M) (HmacDrbg.generateBits (HmacDrbg.reseed s e) n).2 o' ns)
      else
        HmacDrbg.Service.prepend (HmacDrbg.generateBits s n).1
          (HmacDrbg.Service.serve (params I M) (HmacDrbg.generateBits s n).2 o ns) := by
  rw [HmacDrbg.Service.serve, show (params I M).reseedInterval = I from rfl, show (params I M).reseedLen = 32 from rfl]
  by_cases hc : s.reseedCounter > I
  · rw [if_pos hc, spec_generate_reseed hn hc]
    rcases getEntropy 32 o with ⟨_ | e, o'⟩
    · rfl
    · simp only [spec_generate_ok hn (show (HmacDrbg.reseed s e).reseedCounter ≤ I from hI0)]
  · rw [if_neg hc, spec_generate_ok hn (by omega)]

theorem sread_none_ok (p : Params) {o o' : Oracle} {seed : Bytes} (n : Nat)
    (h : getEntropy (p.entropyLen + p.nonceLen) o = (some seed, o')) :
    HmacDrbg.Service.read p none o n =
      HmacDrbg.Service.read p (some (HmacDrbg.instantiate (seed.take p.entropyLen) (seed.drop p.entropyLen))) o' n := by
  simp [HmacDrbg.Service.read, h]

theorem sread_none_fail (p : Params) {o o' : Oracle} (n : Nat)
    (h : getEntropy (p.entropyLen + p.nonceLen) o = (none, o')) :
    HmacDrbg.Service.read p none o n = (.fail, none, o') := by
  simp [HmacDrbg.Service.read, h]

theorem sread_some (p : Params) (s : State) (o : Oracle) (n : Nat) :
    HmacDrbg.Service.read p (some s) o n = mapSt some (HmacDrbg.Service.serve p s o (pieces p.maxRequest n)) := rfl

theorem spec_hmac_length (k m : Bytes) : (HmacDrbg.hmac k m).length = 32 := hmac_length k m

theorem spec_update_length (data K V : Bytes) :
    (HmacDrbg.update data K V).1.length = 32 ∧ (HmacDrbg.update data K V).2.length = 32 := by
  unfold HmacDrbg.update
  split <;> simp [spec_hmac_length]

theorem blocks_length (K : Bytes) : ∀ (c : Nat) (V : Bytes), (HmacDrbg.blocks K c V).1.length = 32 * c := by
  intro c
  induction c with
  | zero => intro V; simp [HmacDrbg.blocks]
  | succ c ih =>
    intro V
    simp only [HmacDrbg.blocks, List.length_append, ih, spec_hmac_length]
    omega

theorem generateBits_length (s : State) (n : Nat) : (HmacDrbg.generateBits s n).1.length = n := by
  simp only [HmacDrbg.generateBits, HmacDrbg.outlen, List.length_take, blocks_length]
  omega

theorem generateBits_state (s : State) (n : Nat) :
    (HmacDrbg.generateBits s n).2.reseedCounter = s.reseedCounter + 1 ∧
    (HmacDrbg.generateBits s n).2.K.length = 32 ∧ (HmacDrbg.generateBits s n).2.V.length = 32 := by
  simp only [HmacDrbg.generateBits]
  exact ⟨trivial, (spec_update_length _ _ _).1, (spec_update_length _ _ _).2⟩

/-- a usable SP 800-90A working state for reseed interval `I`: seeded, and at most `I`
    Generate calls made since (the counter is one more than that number) -/
def InvS (I : Nat) (s : State) : Prop :=
  1 ≤ s.reseedCounter ∧ s.reseedCounter ≤ I + 1 ∧ s.K.length = 32 ∧ s.V.length = 32

theorem reseed_inv (I : Nat) (s : State) (e : Bytes) : InvS I (HmacDrbg.reseed s e) ∧ (HmacDrbg.reseed s e).reseedCounter = 1 := by
  simp only [HmacDrbg.reseed, InvS]
  refine ⟨⟨Nat.le_refl _, by omega, (spec_update_length _ _ _).1, (spec_update_length _ _ _).2⟩, trivial⟩

theorem instantiate_inv (I : Nat) (a b : Bytes) : InvS I (HmacDrbg.instantiate a b) ∧ (HmacDrbg.instantiate a b).reseedCounter = 1 := by
  simp only [HmacDrbg.instantiate, InvS]
  refine ⟨⟨Nat.le_refl _, by omega, (spec_update_length _ _ _).1, (spec_update_length _ _ _).2⟩, trivial⟩

theorem serve_props (I M : Nat) (hI0 : 0 < I) :
    ∀ (ps : List Nat) (s : State) (o : Oracle), (∀ n ∈ ps, n ≤ 65536) →
      ∀ r s' o', HmacDrbg.Service.serve (params I M) s o ps = (r, s', o') →
        r ≠ .abort ∧ (∀ out, r = .ok out → out.length = ps.sum) ∧ (InvS I s → InvS I s') ∧
        (r = .fail → s'.reseedCounter > I) := by
  intro ps
  induction ps with
  | nil =>
    intro s o _ r s' o' h
    simp [HmacDrbg.Service.serve] at h
    obtain ⟨rfl, rfl, rfl⟩ := h
    simp
  | cons n ns ih =>
    intro s o hps r s' o' h
    have hn : n ≤ 65536 := hps n (by simp)
    have hns : ∀ m ∈ ns, m ≤ 65536 := fun m hm => hps m (by simp [hm])
    rw [serve_cons I M hI0 hn] at h
    -- the tail of the call after a successful Generate from state `t`: whatever `s` was, the state is usable from here on
    have tail : ∀ (t : State) (o1 : Oracle), t.reseedCounter ≤ I →
        HmacDrbg.Service.prepend (HmacDrbg.generateBits t n).1
          (HmacDrbg.Service.serve (params I M) (HmacDrbg.generateBits t n).2 o1 ns) = (r, s', o') →
        r ≠ .abort ∧ (∀ out, r = .ok out → out.length = (n :: ns).sum) ∧ (InvS I s → InvS I s') ∧
        (r = .fail → s'.reseedCounter > I) := by
      intro t o1 ht h
      rcases hs : HmacDrbg.Service.serve (params I M) (HmacDrbg.generateBits t n).2 o1 ns with ⟨r2, s2, o2⟩
      obtain ⟨a1, a2, a3, a4⟩ := ih _ _ hns _ _ _ hs
      obtain ⟨g1, g2, g3⟩ := generateBits_state t n
      have hinv : InvS I s → InvS I s2 := fun _ => a3 ⟨by omega, by omega, g2, g3⟩
      rw [hs] at h
      cases r2 with
      | ok rest =>
        cases h
        exact ⟨nofun, fun out ho => by cases ho; simp [generateBits_length, a2 rest rfl], hinv, nofun⟩
      | fail => cases h; exact ⟨nofun, nofun, hinv, fun _ => a4 rfl⟩
      | abort => exact absurd rfl a1
    by_cases hc : s.reseedCounter > I
    · rw [if_pos hc] at h
      rcases hg : getEntropy 32 o with ⟨_ | e, o1⟩
      · rw [hg] at h
        cases h
        exact ⟨nofun, nofun, id, fun _ => hc⟩
      · rw [hg] at h
        exact tail _ _ (by rw [(reseed_inv I s e).2]; omega) h
    · rw [if_neg hc] at h
      exact tail _ _ (by omega) h

theorem succ_mod {I : Nat} (hI : 0 < I) (j : Nat) :
    (j + 1) % I = if j % I + 1 = I then 0 else j % I + 1 := by
  have hlt := Nat.mod_lt j hI
  rw [Nat.add_mod]
  by_cases h1 : I = 1
  · subst h1; simp [Nat.mod_one]
  · have : 1 % I = 1 := Nat.mod_eq_of_lt (by omega)
    rw [this]
    split
    · next h => rw [h, Nat.mod_self]
    · next h => exact Nat.mod_eq_of_lt (by omega)

/-- the value of `reseed_counter` when `k` Generate calls have been made since instantiation and
    generate number `k+1` has not yet been preceded by its reseed -/
def ctrAt (I k : Nat) : Nat := if k = 0 then 1 else (k - 1) % I + 2

theorem ctrAt_gt {I : Nat} (hI : 0 < I) (k : Nat) : ctrAt I k > I ↔ (k > 0 ∧ k % I = 0) := by
  unfold ctrAt
  by_cases hk : k = 0
  · subst hk; simp; omega
  · obtain ⟨j, rfl⟩ : ∃ j, k = j + 1 := ⟨k - 1, by omega⟩
    have hlt := Nat.mod_lt j hI
    rw [if_neg hk, Nat.add_sub_cancel, succ_mod hI]
    split <;> omega

theorem ctrAt_succ {I : Nat} (hI : 0 < I) (k : Nat) (h : ¬ (k > 0 ∧ k % I = 0)) :
    ctrAt I (k + 1) = ctrAt I k + 1 := by
  unfold ctrAt
  by_cases hk : k = 0
  · subst hk; simp
  · obtain ⟨j, rfl⟩ : ∃ j, k = j + 1 := ⟨k - 1, by omega⟩
    have hlt := Nat.mod_lt j hI
    rw [if_neg (by omega), if_neg hk, Nat.add_sub_cancel, Nat.add_sub_cancel]
    rw [succ_mod hI] at h ⊢
    split <;> simp_all <;> omega

theorem ctrAt_succ_reseed {I : Nat} (k : Nat) (h : k > 0 ∧ k % I = 0) : ctrAt I (k + 1) = 2 := by
  unfold ctrAt
  rw [if_neg (by omega), Nat.add_sub_cancel, h.2]

theorem getEntropy_some (e : Bytes) (rest : Oracle) : getEntropy e.length (some e :: rest) = (some e, rest) := by
  simp [getEntropy]

theorem serve_scheduled (I M : Nat) (hI0 : 0 < I) :
    ∀ (ps : List Nat) (s : State) (seeds : List Bytes) (k : Nat) (out : Bytes) (s' : State)
      (seeds' : List Bytes) (k' : Nat),
      (∀ n ∈ ps, n ≤ 65536) → (∀ e ∈ seeds, e.length = 32) → s.reseedCounter = ctrAt I k →
      HmacDrbg.Scheduled.servePieces (params I M) s seeds k ps = some (out, s', seeds', k') →
      HmacDrbg.Service.serve (params I M) s (seeds.map some) ps = (.ok out, s', seeds'.map some) ∧
        s'.reseedCounter = ctrAt I k' ∧ (∀ e ∈ seeds', e.length = 32) := by
  intro ps
  induction ps with
  | nil =>
    intro s seeds k out s' seeds' k' _ hs hc h
    simp [HmacDrbg.Scheduled.servePieces] at h
    obtain ⟨rfl, rfl, rfl, rfl⟩ := h
    exact ⟨by simp [HmacDrbg.Service.serve], hc, hs⟩
  | cons n ns ih =>
    intro s seeds k out s' seeds' k' hps hs hc h
    have hn : n ≤ 65536 := hps n (by simp)
    have hns : ∀ m ∈ ns, m ≤ 65536 := fun m hm => hps m (by simp [hm])
    rw [HmacDrbg.Scheduled.servePieces.eq_def] at h
    simp only [show (params I M).reseedInterval = I from rfl] at h
    rw [serve_cons I M hI0 hn]
    -- the rest of the call after Generate number `k + 1`, made from state `t` with the seeds `sd` left
    have tail : ∀ (t : State) (sd : List Bytes), (∀ e ∈ sd, e.length = 32) → t.reseedCounter + 1 = ctrAt I (k + 1) →
        (HmacDrbg.Scheduled.servePieces (params I M) (HmacDrbg.generateBits t n).2 sd (k + 1) ns).map
          (fun (rest, r) => ((HmacDrbg.generateBits t n).1 ++ rest, r)) = some (out, s', seeds', k') →
        HmacDrbg.Service.prepend (HmacDrbg.generateBits t n).1
          (HmacDrbg.Service.serve (params I M) (HmacDrbg.generateBits t n).2 (sd.map some) ns) =
            (.ok out, s', seeds'.map some) ∧ s'.reseedCounter = ctrAt I k' ∧ (∀ e ∈ seeds', e.length = 32) := by
      intro t sd hsd hct h
      rcases hrec : HmacDrbg.Scheduled.servePieces (params I M) (HmacDrbg.generateBits t n).2 sd (k + 1) ns with
        _ | ⟨rest, s2, sd2, k2⟩
      · rw [hrec] at h; cases h
      · rw [hrec] at h; cases h
        obtain ⟨b1, b2, b3⟩ := ih _ _ _ _ _ _ _ hns hsd ((generateBits_state t n).1.trans hct) hrec
        exact ⟨by rw [b1]; rfl, b2, b3⟩
    by_cases hr : k > 0 ∧ k % I = 0
    · rw [if_pos hr] at h
      rw [if_pos (show s.reseedCounter > I by rw [hc]; exact (ctrAt_gt hI0 k).mpr hr)]
      cases seeds with
      | nil => cases h
      | cons e seeds1 =>
        rw [show getEntropy 32 (List.map some (e :: seeds1)) = (some e, seeds1.map some) from
          hs e (by simp) ▸ getEntropy_some e _]
        exact tail _ seeds1 (fun x hx => hs x (by simp [hx]))
          (by rw [(reseed_inv I s e).2, ctrAt_succ_reseed k hr]) h
    · rw [if_neg hr] at h
      rw [if_neg (fun hgt => hr ((ctrAt_gt hI0 k).mp (hc ▸ hgt)))]
      exact tail s seeds hs (by rw [hc, ctrAt_succ hI0 k hr]) h

theorem serve_reseed_fails (I M : Nat) (hI0 : 0 < I) :
    ∀ (ps : List Nat) (s : State) (o o' : Oracle), (∀ n ∈ ps, n ≤ 65536) →
      s.reseedCounter ≤ I + 1 → ps.length + s.reseedCounter > I + 1 → getEntropy 32 o = (none, o') →
      ∃ s', HmacDrbg.Service.serve (params I M) s o ps = (.fail, s', o') ∧ s'.reseedCounter = I + 1 := by
  intro ps
  induction ps with
  | nil => intro s o o' _ h1 h2 _; simp at h2; omega
  | cons n ns ih =>
    intro s o o' hps h1 h2 hg
    have hn : n ≤ 65536 := hps n (by simp)
    have hns : ∀ m ∈ ns, m ≤ 65536 := fun m hm => hps m (by simp [hm])
    rw [serve_cons I M hI0 hn]
    by_cases hc : s.reseedCounter > I
    · rw [if_pos hc, hg]
      exact ⟨s, rfl, by omega⟩
    · rw [if_neg hc]
      have hcs := (generateBits_state s n).1
      obtain ⟨s', e1, e2⟩ := ih (HmacDrbg.generateBits s n).2 o o' hns (by omega)
        (by simp only [List.length_cons] at h2; omega) hg
      rw [e1]
      exact ⟨s', by simp [HmacDrbg.Service.prepend], e2⟩

theorem calls_scheduled (I M : Nat) (hI0 : 0 < I) (hM0 : 0 < M) (hM : M ≤ 65536) :
    ∀ (reqs : List Nat) (s : State) (seeds : List Bytes) (k : Nat) (outs : List Bytes),
      (∀ e ∈ seeds, e.length = 32) → s.reseedCounter = ctrAt I k →
      HmacDrbg.Scheduled.calls (params I M) s seeds k reqs = some outs →
      HmacDrbg.Service.run (params I M) (some s) (seeds.map some) reqs = outs.map .ok := by
  intro reqs
  induction reqs with
  | nil =>
    intro s seeds k outs _ _ h
    simp [HmacDrbg.Scheduled.calls] at h
    subst h
    rfl
  | cons n ns ih =>
    intro s seeds k outs hs hc h
    rw [HmacDrbg.Scheduled.calls] at h
    have hp : (params I M).maxRequest = M := rfl
    rw [hp] at h
    rcases hsp : HmacDrbg.Scheduled.servePieces (params I M) s seeds k (pieces M n) with _ | ⟨out, s1, seeds1, k1⟩
    · rw [hsp] at h; simp at h
    · rw [hsp] at h
      simp only [] at h
      rcases hrec : HmacDrbg.Scheduled.calls (params I M) s1 seeds1 k1 ns with _ | outs1
      · rw [hrec] at h; simp at h
      · rw [hrec] at h
        simp at h
        subst h
        obtain ⟨a1, a2, a3⟩ := serve_scheduled I M hI0 _ _ _ _ _ _ _ _ (pieces_le' hM0 hM n) hs hc hsp
        rw [HmacDrbg.Service.run, sread_some, hp, a1]
        exact congrArg _ (ih s1 seeds1 k1 outs1 a3 a2 hrec)

theorem run_scheduled (I M : Nat) (hI0 : 0 < I) (hM0 : 0 < M) (hM : M ≤ 65536)
    (seed0 : Bytes) (seeds : List Bytes) (reqs : List Nat) (outs : List Bytes)
    (h0 : seed0.length = 48) (hs : ∀ e ∈ seeds, e.length = 32)
    (h : HmacDrbg.Scheduled.run (params I M) seed0 seeds reqs = some outs) :
    HmacDrbg.Service.run (params I M) none (some seed0 :: seeds.map some) reqs = outs.map .ok := by
  cases reqs with
  | nil =>
    simp [HmacDrbg.Scheduled.run] at h
    subst h; rfl
  | cons n ns =>
    simp only [HmacDrbg.Scheduled.run] at h
    have hg : getEntropy ((params I M).entropyLen + (params I M).nonceLen) (some seed0 :: seeds.map some)
        = (some seed0, seeds.map some) := by
      have : (params I M).entropyLen + (params I M).nonceLen = seed0.length := by rw [h0]; rfl
      rw [this]; exact getEntropy_some _ _
    have := calls_scheduled I M hI0 hM0 hM (n :: ns) _ seeds 0 outs hs (instantiate_inv I _ _).2 h
    rw [HmacDrbg.Service.run, sread_none_ok _ n hg]
    rw [HmacDrbg.Service.run] at this
    exact this

end Percival.Proofs.Entropy
