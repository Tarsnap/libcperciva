import Percival.Model.Http
/-! What the scanning loops of `http.c` compute, for C08 and C09: `findeol` stops at the first CRLF (`findeol_char`); a
    header block is a list of lines, and the two passes of `gotheaders` over it (`block_lines`, `gotHeaders_joined`);
    the loop of `callback_read_header` stops at the first CRLF CRLF (`scanHdr_char`). -/
namespace Percival.Proofs.Http
open Percival.Model.Http Percival.Gen.Http

/-- CRLF stands at offset `q` of `l` -/
def CrlfAt (l : Bytes) (q : Nat) : Prop := l[q]? = some 13 ∧ l[q + 1]? = some 10

theorem CrlfAt.lt {l : Bytes} {q : Nat} (h : CrlfAt l q) : q + 1 < l.length := by
  rcases Nat.lt_or_ge (q + 1) l.length with h' | h'
  · exact h'
  · have := h.2; rw [List.getElem?_eq_none h'] at this; cases this

theorem findeolAux_char (l : Bytes) (i : Nat) :
    ∃ q, findeolAux l i = i + q ∧ (∀ q' < q, ¬ CrlfAt l q') ∧ (CrlfAt l q ∨ q = l.length) := by
  induction l generalizing i with
  | nil => exact ⟨0, rfl, nofun, Or.inr rfl⟩
  | cons a t ih =>
    simp only [findeolAux]
    split
    · rename_i hc
      simp only [Bool.and_eq_true, beq_iff_eq] at hc
      exact ⟨0, rfl, nofun, Or.inl ⟨by simp [hc.1], by rw [← hc.2, List.head?_eq_getElem?]; rfl⟩⟩
    · rename_i hc
      obtain ⟨q, hq, h1, h2⟩ := ih (i + 1)
      refine ⟨q + 1, by rw [hq]; omega, fun q' hq' => ?_, h2.imp id fun h => by rw [h]; rfl⟩
      cases q' with
      | zero =>
        rintro ⟨h13, h10⟩
        apply hc
        simp only [List.getElem?_cons_zero, Option.some.injEq] at h13
        rw [List.head?_eq_getElem?]
        simpa [h13] using h10
      | succ q'' => exact h1 q'' (by omega)

/-- `findeol` stops at the first CRLF, or else at the end -/
theorem findeol_char (l : Bytes) : (∀ q' < findeol l, ¬ CrlfAt l q') ∧ (CrlfAt l (findeol l) ∨ findeol l = l.length) := by
  obtain ⟨q, hq, h⟩ := findeolAux_char l 0
  rw [findeol, hq, Nat.zero_add]
  exact h

theorem findeol_le (l : Bytes) : findeol l ≤ l.length := by
  rcases (findeol_char l).2 with h | h
  · have := h.lt; omega
  · omega

theorem findeol_spec (l : Bytes) (h : findeol l < l.length) : CrlfAt l (findeol l) :=
  (findeol_char l).2.resolve_right (Nat.ne_of_lt h)

theorem findeol_first (l : Bytes) (j : Nat) (h : CrlfAt l j) : findeol l ≤ j :=
  Nat.not_lt.mp fun hlt => (findeol_char l).1 j hlt h

theorem findeol_eq {l : Bytes} {q : Nat} (h : CrlfAt l q) (hfirst : ∀ q' < q, ¬ CrlfAt l q') : findeol l = q := by
  have h1 := findeol_first l q h
  rcases Nat.lt_or_ge (findeol l) q with hlt | hge
  · exact absurd (findeol_spec l (by have := h.lt; omega)) (hfirst _ hlt)
  · omega

/-! ## the header block as a list of lines

`gotheaders` goes over the block twice, counting the lines and then cutting them off one by one.  Both passes are
followed on `joined ls ++ CRLF`, lines without CRLF inside, each followed by CRLF, then the blank line: every block
`callback_read_header` hands over has this form (`block_lines`), and so has the wire format of a header block. -/

def term4 : Bytes := [13, 10, 13, 10]

def joined (lines : List Bytes) : Bytes := (lines.map fun l => l ++ [13, 10]).flatten

theorem joined_cons (l : Bytes) (ls : List Bytes) : joined (l :: ls) = l ++ [13, 10] ++ joined ls := by
  simp [joined]

theorem joined_nil : joined [] = [] := rfl

def NoCrlf (l : Bytes) : Prop := ∀ q, ¬ CrlfAt l q

theorem CrlfAt.of_take {l : Bytes} {n q : Nat} (h : CrlfAt (l.take n) q) : CrlfAt l q ∧ q + 1 < n := by
  have hlt := h.lt
  rw [List.length_take] at hlt
  obtain ⟨h1, h2⟩ := h
  rw [List.getElem?_take_of_lt (by omega)] at h1 h2
  exact ⟨⟨h1, h2⟩, by omega⟩

/-- the line `sgetline` takes off -/
theorem noCrlf_take_findeol (l : Bytes) : NoCrlf (l.take (findeol l)) := fun q hq =>
  (findeol_char l).1 q (by have := hq.of_take.2; omega) hq.of_take.1

theorem findeol_noCrlf {l : Bytes} (h : NoCrlf l) : findeol l = l.length :=
  (findeol_char l).2.resolve_left (h _)

theorem findeol_line {line : Bytes} (h : NoCrlf line) (rest : Bytes) :
    findeol (line ++ [13, 10] ++ rest) = line.length :=
  findeol_eq ⟨by simp, by simp⟩ fun q' hq' hc => by
    obtain ⟨h13, h10⟩ := hc
    rw [List.append_assoc, List.getElem?_append_left hq'] at h13
    rcases Nat.lt_or_ge (q' + 1) line.length with h1 | h1
    · rw [List.append_assoc, List.getElem?_append_left h1] at h10
      exact h q' ⟨h13, h10⟩
    · rw [List.append_assoc, List.getElem?_append_right h1, show q' + 1 - line.length = 0 by omega] at h10
      cases h10

theorem sgetline_line {line : Bytes} (h : NoCrlf line) (rest : Bytes) :
    sgetline (line ++ [13, 10] ++ rest) = some (line, rest) := by
  simp only [sgetline, findeol_line h rest]
  rw [if_pos (by simp)]
  simp

theorem drop_line_length (a : UInt8) (t : Bytes) : ((a :: t).drop (findeol (a :: t) + 2)).length ≤ t.length := by
  simp only [List.length_drop, List.length_cons]
  omega

theorem countLinesF_fuel : ∀ (f : Nat) (l : Bytes) (n : Nat), l.length ≤ f → countLinesF f l n = countLines l n := by
  intro f
  induction f using Nat.strongRecOn with
  | _ f ih =>
    intro l n h
    cases l with
    | nil => cases f <;> rfl
    | cons a t =>
      cases f with
      | zero => simp at h
      | succ f =>
        have hd := drop_line_length a t
        simp only [List.length_cons] at h
        show countLinesF f _ (n + 1) = countLinesF t.length _ (n + 1)
        rw [ih f (Nat.lt_succ_self f) _ _ (by omega), ih t.length (by omega) _ _ hd]

theorem countLines_cons (a : UInt8) (t : Bytes) (n : Nat) :
    countLines (a :: t) n = countLines ((a :: t).drop (findeol (a :: t) + 2)) (n + 1) :=
  countLinesF_fuel t.length _ _ (drop_line_length a t)

theorem countLines_line {line : Bytes} (h : NoCrlf line) (rest : Bytes) (n : Nat) :
    countLines (line ++ [13, 10] ++ rest) n = countLines rest (n + 1) := by
  obtain ⟨a, t, e⟩ := List.exists_cons_of_ne_nil (show line ++ [13, 10] ++ rest ≠ [] by simp)
  rw [e, countLines_cons, ← e, findeol_line h rest]
  simp

theorem countLines_joined (ls : List Bytes) (h : ∀ l ∈ ls, NoCrlf l) (n : Nat) :
    countLines (joined ls ++ [13, 10]) n = n + ls.length + 1 := by
  induction ls generalizing n with
  | nil => exact countLines_line (line := []) (fun _ hc => by cases hc.1) [] n
  | cons l ls ih =>
    rw [joined_cons, List.append_assoc, countLines_line (h l (List.mem_cons_self ..)),
      ih (fun l' hl' => h l' (List.mem_cons_of_mem _ hl')), List.length_cons]
    omega

/-- the parsing pass: the lines split into name and value, unless one of them holds a NUL -/
theorem parseHeaders_joined (ls : List Bytes) (h : ∀ l ∈ ls, NoCrlf l) (acc : List (Bytes × Bytes)) :
    parseHeaders ls.length (joined ls ++ [13, 10]) acc =
      if ls.any (·.contains 0) then .nul else .ok (acc.reverse ++ ls.map splitHeader) [13, 10] := by
  induction ls generalizing acc with
  | nil => simp [parseHeaders, joined_nil]
  | cons l ls ih =>
    have := sgetline_line (h l (List.mem_cons_self ..)) (joined ls ++ [13, 10])
    rw [joined_cons]
    simp only [List.length_cons, parseHeaders, List.append_assoc] at this ⊢
    rw [this]
    cases hn : l.contains 0 with
    | true => simp only [List.any_cons, hn, Bool.true_or, if_true]
    | false =>
      simp only [List.any_cons, hn, Bool.false_or, Bool.false_eq_true, if_false,
        ih (fun l' hl' => h l' (List.mem_cons_of_mem _ hl')) (splitHeader l :: acc), List.reverse_cons, List.map_cons,
        List.append_assoc, List.singleton_append]

theorem findeol_split (l : Bytes) (h : findeol l < l.length) :
    l = l.take (findeol l) ++ [13, 10] ++ l.drop (findeol l + 2) := by
  have hs := findeol_spec l h
  have hlt := hs.lt
  obtain ⟨h13, h10⟩ := hs
  rw [List.getElem?_eq_getElem (by omega), Option.some.injEq] at h13 h10
  conv => lhs; rw [← List.take_append_drop (findeol l) l]
  rw [List.append_assoc, ← List.drop_drop, List.drop_eq_getElem_cons (by omega), List.drop_eq_getElem_cons (by omega),
    h13, h10]
  rfl

/-- a block ending in CRLF CRLF is a list of lines: the greedy cut at each first CRLF ends with the blank line -/
theorem block_lines (pre : Bytes) :
    ∃ l0 ls, (∀ l ∈ l0 :: ls, NoCrlf l) ∧ pre ++ term4 = joined (l0 :: ls) ++ [13, 10] := by
  have hlen : (pre ++ term4).length = pre.length + 4 := by simp [term4]
  have hend : CrlfAt (pre ++ term4) pre.length := ⟨by simp [term4], by simp [term4]⟩
  have hle := findeol_first _ _ hend
  have hsplit := findeol_split (pre ++ term4) (by omega)
  have hline := noCrlf_take_findeol (pre ++ term4)
  by_cases he : findeol (pre ++ term4) = pre.length
  · -- the first CRLF is the block's last but one: a single line
    rw [he, List.take_left' rfl] at hline
    exact ⟨pre, [], fun l hl => List.mem_singleton.mp hl ▸ hline, by simp [joined_cons, joined_nil, term4]⟩
  · -- a CRLF cannot end where the terminator begins, so what follows it is again a block
    have hne : findeol (pre ++ term4) + 1 ≠ pre.length := fun hc => by
      have := (findeol_spec (pre ++ term4) (by omega)).2
      rw [hc, hend.1] at this
      cases this
    obtain ⟨l1, ls, hl, hj⟩ := block_lines (pre.drop (findeol (pre ++ term4) + 2))
    refine ⟨(pre ++ term4).take (findeol (pre ++ term4)), l1 :: ls, fun l hl' => ?_, ?_⟩
    · rcases List.mem_cons.mp hl' with rfl | hl'
      · exact hline
      · exact hl l hl'
    · rw [joined_cons, List.append_assoc _ _ [13, 10], ← hj, ← List.drop_append_of_le_length (by omega)]
      exact hsplit
termination_by pre.length
decreasing_by
  rw [List.length_drop]
  omega

theorem exists_three (l : Bytes) (h : 3 ≤ l.length) : ∃ b c d t, l = b :: c :: d :: t := by
  match l, h with
  | b :: c :: d :: t, _ => exact ⟨b, c, d, t, rfl⟩
  | [], h => simp at h
  | [_], h => simp at h
  | [_, _], h => simp at h

theorem scanHdr_cons4 (a b c d : UInt8) (t : Bytes) (i : Nat) :
    scanHdr (a :: b :: c :: d :: t) i =
      if (a == 13 && b == 10 && c == 13 && d == 10) = true then i else scanHdr (b :: c :: d :: t) (i + 1) := by
  rw [scanHdr]

theorem scanHdr_short (l : Bytes) (i : Nat) (h : l.length < 4) : scanHdr l i = i := by
  match l, h with
  | [], _ => rw [scanHdr]
  | [_], _ => rw [scanHdr]; simp
  | [_, _], _ => rw [scanHdr]; simp
  | [_, _, _], _ => rw [scanHdr]; simp
  | _ :: _ :: _ :: _ :: _, h => simp at h; omega

/-- CRLF CRLF stands at offset `q` of `l` -/
def TermAt (l : Bytes) (q : Nat) : Prop := (l.drop q).take 4 = term4

theorem TermAt.le {l : Bytes} {q : Nat} (h : TermAt l q) : q + 4 ≤ l.length := by
  have := congrArg List.length h
  simp only [List.length_take, List.length_drop, term4, List.length_cons, List.length_nil] at this
  omega

theorem TermAt.first {l : Bytes} {q : Nat} (h : TermAt l q) : l[q]? = some 13 := by
  have := congrArg (·[0]?) h
  simpa [term4, List.getElem?_take, List.getElem?_drop] using this

theorem TermAt.third {l : Bytes} {q : Nat} (h : TermAt l q) : l[q + 2]? = some 13 := by
  have := congrArg (·[2]?) h
  simpa [term4, List.getElem?_take, List.getElem?_drop] using this

theorem termAt_append_right (x y : Bytes) {q : Nat} (h : x.length ≤ q) : TermAt (x ++ y) q ↔ TermAt y (q - x.length) := by
  rw [TermAt, TermAt, List.drop_append, List.drop_eq_nil_of_le h, List.nil_append]

theorem termAt_drop {l : Bytes} {n q : Nat} : TermAt (l.drop n) q ↔ TermAt l (n + q) := by
  rw [TermAt, TermAt, List.drop_drop]

/-- `scanHdr` stops at the first CRLF CRLF, or else where fewer than four bytes are left -/
theorem scanHdr_char (l : Bytes) (i : Nat) : ∃ q, scanHdr l i = i + q ∧ (∀ q' < q, ¬ TermAt l q') ∧
    (TermAt l q ∨ l.length < q + 4 ∧ q = l.length - 3) := by
  induction l generalizing i with
  | nil => exact ⟨0, scanHdr_short [] i (by simp), nofun, Or.inr ⟨by simp, rfl⟩⟩
  | cons a t ih =>
    by_cases hlen : (a :: t).length < 4
    · exact ⟨0, scanHdr_short _ i hlen, nofun, Or.inr ⟨by omega, by omega⟩⟩
    · obtain ⟨b, c, d, t3, rfl⟩ := exists_three t (by simp only [List.length_cons] at hlen; omega)
      rw [scanHdr_cons4]
      split
      · rename_i hc
        simp only [Bool.and_eq_true, beq_iff_eq] at hc
        obtain ⟨⟨⟨rfl, rfl⟩, rfl⟩, rfl⟩ := hc
        exact ⟨0, rfl, nofun, Or.inl rfl⟩
      · rename_i hc
        obtain ⟨q, hq, h1, h2⟩ := ih (i + 1)
        refine ⟨q + 1, by rw [hq]; omega, fun q' hq' => ?_, ?_⟩
        · cases q' with
          | zero =>
            intro h0
            apply hc
            simp only [TermAt, term4, List.drop_zero, List.take_succ_cons, List.take_zero, List.cons.injEq, and_true] at h0
            simp [h0]
          | succ q'' => exact h1 q'' (by omega)
        · refine h2.imp id fun h => ?_
          simp only [List.length_cons] at h ⊢
          omega

theorem scanHdr_eq {l : Bytes} {q : Nat} (i : Nat) (h : TermAt l q) (hfirst : ∀ q' < q, ¬ TermAt l q') :
    scanHdr l i = i + q := by
  obtain ⟨q1, hq, h1, h2⟩ := scanHdr_char l i
  have := h.le
  rcases Nat.lt_trichotomy q1 q with hlt | rfl | hgt
  · rcases h2 with h2 | h2
    · exact absurd h2 (hfirst q1 hlt)
    · omega
  · exact hq
  · exact absurd h (h1 q hgt)

theorem scanHdr_none {l : Bytes} (i : Nat) (h : ∀ q, ¬ TermAt l q) : scanHdr l i = i + (l.length - 3) := by
  obtain ⟨q, hq, _, h2⟩ := scanHdr_char l i
  rcases h2 with h2 | h2
  · exact absurd h2 (h q)
  · rw [hq, h2.2]

variable (ovf : Bool → Nat → Int)

/-- `gotheaders` on a block of lines: the status line is checked, the other lines are split into name and value, and
    the framing is decided on them -/
theorem gotHeaders_joined (st : St) (l0 : Bytes) (ls : List Bytes) (h : ∀ l ∈ l0 :: ls, NoCrlf l) :
    gotHeaders ovf st (joined (l0 :: ls) ++ [13, 10]) =
      if l0.contains 0 then .done none else
      match scanStatusLine ovf l0 with
      | none => .done none
      | some sl =>
        if sl.major != 1 then .done none else
        if sl.status < STATUS_MIN || sl.status > STATUS_MAX then .done none else
        if ls.any (·.contains 0) then .done none else
        afterParse st sl.status (ls.map splitHeader) (joined (l0 :: ls) ++ [13, 10]).length := by
  have hS : sgetline (joined (l0 :: ls) ++ [13, 10]) = some (l0, joined ls ++ [13, 10]) := by
    rw [joined_cons, List.append_assoc]
    exact sgetline_line (h l0 (List.mem_cons_self ..)) _
  cases ha : ls.any (·.contains 0) <;>
    simp only [gotHeaders, countLines_joined _ h, hS, parseHeaders_joined ls (fun l hl => h l (List.mem_cons_of_mem _ hl)) [],
      ha, List.length_cons, List.length_nil, Nat.zero_add, show ls.length + 1 + 1 - 2 = ls.length by omega,
      show ¬ (ls.length + 1 + 1 < 2) by omega,
      if_false, if_true, Bool.false_eq_true, List.reverse_nil, List.nil_append, Nat.reduceAdd, bne_self_eq_false] <;>
    rfl

end Percival.Proofs.Http
