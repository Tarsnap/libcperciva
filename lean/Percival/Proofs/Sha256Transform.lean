import Percival.Model.Sha256
import Percival.Spec.Sha256
import Percival.Proofs.Schedule
import Percival.Proofs.FoldFin
import Percival.Proofs.Words
/-! `Model.Sha256.transform` (the C's macro-structured `SHA256_Transform`) is the FIPS 180-4
compression function `Spec.Sha256.compress`. -/
namespace Percival.Proofs.Sha256T
open Percival Percival.Model.Sha256
open Percival.Spec (Bytes wordsBE)
open Percival.Proofs.Schedule (wf wf_lt)
open Percival.Proofs.Words (get_fin get_set)

theorem ch_eq (x y z : UInt32) : Model.Sha256.Ch x y z = Spec.Sha256.Ch x y z := by
  unfold Model.Sha256.Ch Spec.Sha256.Ch
  apply UInt32.toBitVec_inj.mp
  simp only [UInt32.toBitVec_xor, UInt32.toBitVec_and, UInt32.toBitVec_not]
  ext i hi
  simp only [BitVec.getElem_xor, BitVec.getElem_and, BitVec.getElem_not]
  cases x.toBitVec[i] <;> cases y.toBitVec[i] <;> cases z.toBitVec[i] <;> rfl

theorem maj_eq (x y z : UInt32) : Model.Sha256.Maj x y z = Spec.Sha256.Maj x y z := by
  unfold Model.Sha256.Maj Spec.Sha256.Maj
  apply UInt32.toBitVec_inj.mp
  simp only [UInt32.toBitVec_xor, UInt32.toBitVec_and, UInt32.toBitVec_or]
  ext i hi
  simp only [BitVec.getElem_xor, BitVec.getElem_and, BitVec.getElem_or]
  cases x.toBitVec[i] <;> cases y.toBitVec[i] <;> cases z.toBitVec[i] <;> rfl

theorem S0_eq (x : UInt32) : Model.Sha256.S0 x = Spec.Sha256.bigSigma0 x := rfl
theorem S1_eq (x : UInt32) : Model.Sha256.S1 x = Spec.Sha256.bigSigma1 x := rfl
theorem s0_eq (x : UInt32) : Model.Sha256.s0 x = Spec.Sha256.smallSigma0 x := rfl
theorem s1_eq (x : UInt32) : Model.Sha256.s1 x = Spec.Sha256.smallSigma1 x := rfl

/-- the working variables `a … h` as round `i` sees them -/
def regsAt (S : Vector UInt32 8) (i : Nat) : Spec.Sha256.Regs :=
  ⟨S[slot 64 i], S[slot 65 i], S[slot 66 i], S[slot 67 i], S[slot 68 i], S[slot 69 i], S[slot 70 i], S[slot 71 i]⟩

def regs (S : Vector UInt32 8) (σ : Fin 8 → Fin 8) : Spec.Sha256.Regs :=
  ⟨S.get (σ 0), S.get (σ 1), S.get (σ 2), S.get (σ 3), S.get (σ 4), S.get (σ 5), S.get (σ 6), S.get (σ 7)⟩

/-- `RND` on eight different slots is the round of §6.2.2 step 3 on the variables held there, after which the slot of
`h` holds the new `a`, that of `a` the new `b`, … -/
theorem RND_spec (S : Vector UInt32 8) (σ : Fin 8 → Fin 8) (hσ : Function.Injective σ) (kt wt : UInt32) :
    regs (RND S (σ 0) (σ 1) (σ 2) (σ 3) (σ 4) (σ 5) (σ 6) (σ 7) (wt + kt)) (fun k => σ (k + 7)) =
      Spec.Sha256.round (regs S σ) kt wt := by
  unfold RND
  -- the two intermediate register files stay names, or the term grows with every read of them
  extract_lets T1 T2
  have r1 : ∀ x, T1.get x = if σ 7 = x then _ else S.get x := fun x => get_set S (σ 7) x _
  have r2 : ∀ x, T2.get x = if σ 3 = x then _ else T1.get x := fun x => get_set T1 (σ 3) x _
  simp only [regs, Spec.Sha256.round, get_fin, get_set, r2, r1, hσ.eq_iff, Fin.reduceAdd, Fin.reduceEq, if_true, if_false,
    S0_eq, S1_eq, ch_eq, maj_eq]
  congr 1
  · ac_rfl
  · ac_rfl

theorem slot_inj (i : Nat) (hi : i ≤ 64) : Function.Injective fun k : Fin 8 => slot (64 + k.val) i := by
  intro j k h
  have := congrArg Fin.val h
  simp only [slot] at this
  omega

/-- each variable moves one slot down from line to line -/
theorem slot_succ (i : Nat) (hi : i < 64) (k : Fin 8) : slot (64 + k.val) (i + 1) = slot (64 + (k + 7).val) i := by
  apply Fin.ext
  simp only [slot, Fin.val_add]
  omega

/-- `RNDr(S, W, i, ii)` performs round `t = i + ii` of §6.2.2 step 3 -/
theorem RNDr_spec (S : Vector UInt32 8) (W : Vector UInt32 64) (i : Fin 16) (b : Fin 4) :
    regsAt (RNDr S W i b) (i.val + 1) =
      Spec.Sha256.round (regsAt S i.val) (wf K (16 * b.val + i.val)) (wf W (16 * b.val + i.val)) := by
  have ht : i.val + 16 * b.val < 64 := by omega
  rw [Nat.add_comm (16 * b.val), wf_lt _ _ ht, wf_lt _ _ ht]
  show regs _ (fun k => slot (64 + k.val) (i.val + 1)) = _
  rw [funext (slot_succ i.val (by omega))]
  exact RND_spec S _ (slot_inj i.val (by omega)) _ _

theorem rnd16_eq (S : Vector UInt32 8) (W : Vector UInt32 64) (b : Fin 4) :
    rnd16 S W b = (List.finRange 16).foldl (fun S i => RNDr S W i b) S := rfl

/-- a group of sixteen lines performs the rounds `o = 16·b … o + 15` of a table `es` of `(K_t, W_t)`,
provided the partly extended `W` agrees that far with the final schedule `W'` -/
theorem rnd16_spec (S : Vector UInt32 8) (W W' : Vector UInt32 64) (b : Fin 4) (o : Nat) (ho : 16 * b.val = o)
    (es : List (UInt32 × UInt32)) (h : ∀ (t : Nat) (ht : t < es.length), es[t] = (wf K t, wf W' t))
    (hes : o + 16 ≤ es.length) (hW : ∀ t, t < o + 16 → wf W t = wf W' t) :
    regsAt (rnd16 S W b) 0 =
      ((es.drop o).take 16).foldl (fun r kw => Spec.Sha256.round r kw.1 kw.2) (regsAt S 0) := by
  rw [rnd16_eq]
  refine FoldFin.foldl_finRange_sim _ _ (by rw [List.length_take, List.length_drop]; omega) _ regsAt (fun S i => ?_) S
  rw [RNDr_spec, List.getElem_take, List.getElem_drop, h, ho, hW _ (by omega)]

/-- one `MSCH` line writing `W[n]` (total in `n`) -/
def MSCH' (W : Vector UInt32 64) (n : Nat) : Vector UInt32 64 :=
  if h : 16 ≤ n ∧ n < 64 then W.set n (s1 W[n - 2] + W[n - 7] + s0 W[n - 15] + W[n - 16]) else W

theorem MSCH_eq (W : Vector UInt32 64) (b : Fin 3) (i : Fin 16) :
    MSCH W b i = MSCH' W (16 * b.val + 16 + i.val) := by
  have h : 16 ≤ i.val + 16 * b.val + 16 ∧ i.val + 16 * b.val + 16 < 64 := by omega
  rw [show 16 * b.val + 16 + i.val = i.val + 16 * b.val + 16 by omega]
  simp only [MSCH, MSCH', h, and_self, dite_true, Nat.add_sub_cancel]
  rfl

theorem msch16_fold (W : Vector UInt32 64) (b : Fin 3) :
    msch16 W b = (List.range' (16 * b.val + 16) 16).foldl MSCH' W := by
  have : msch16 W b = (List.finRange 16).foldl (fun W i => MSCH W b i) W := rfl
  rw [this, FoldFin.foldl_finRange 16 _ (fun W j => MSCH' W (16 * b.val + 16 + j)) (fun W i => (MSCH_eq W b i).symm),
    ← List.foldl_map (f := (16 * b.val + 16 + ·)) (g := MSCH'), List.map_add_range', Nat.add_zero]

theorem wf_MSCH'_ne (W : Vector UInt32 64) (n t : Nat) (hne : t ≠ n) : wf (MSCH' W n) t = wf W t := by
  unfold MSCH'
  split
  · exact Schedule.wf_set_ne _ _ _ _ _ hne
  · rfl

theorem wf_MSCH'_self (W : Vector UInt32 64) (n : Nat) (h16 : 16 ≤ n) (h : n < 64) :
    wf (MSCH' W n) n = s1 (wf W (n - 1 - 1)) + wf W (n - 1 - 6) + s0 (wf W (n - 1 - 14)) + wf W (n - 1 - 15) := by
  simp only [MSCH', h16, h, and_self, dite_true, Schedule.wf_set_self, Nat.sub_sub, Nat.reduceAdd]
  rw [wf_lt, wf_lt, wf_lt, wf_lt]

def Wf (W0 : Vector UInt32 64) : Vector UInt32 64 := (List.range' 16 48).foldl MSCH' W0

theorem msch_all (W0 : Vector UInt32 64) : msch16 (msch16 (msch16 W0 0) 1) 2 = Wf W0 := by
  rw [msch16_fold, msch16_fold, msch16_fold, ← List.foldl_append, ← List.foldl_append]
  rfl

theorem wf_msch16 (W : Vector UInt32 64) (b : Fin 3) (t : Nat) (ht : t < 16 * b.val + 16) :
    wf (msch16 W b) t = wf W t := by
  rw [msch16_fold]
  exact Schedule.wf_foldl_lt MSCH' wf_MSCH'_ne t _ _ W ht

theorem nextW_eq (l : List UInt32) (h : 16 ≤ l.length) : Spec.Sha256.nextW l =
    some (Spec.Sha256.smallSigma1 (l.getD 1 0) + l.getD 6 0 + Spec.Sha256.smallSigma0 (l.getD 14 0) + l.getD 15 0) := by
  rw [Schedule.eq_map_getD_append_drop l 16 h]
  rfl

theorem Wf_eq_spec (block : Bytes) (hb : block.length = 64) :
    (Spec.Sha256.schedule block).length = 64 ∧
    ∀ t, t < 64 → wf (Wf (decodeBlock block)) t = (Spec.Sha256.schedule block).getD t 0 :=
  have hl : (wordsBE block).length = 16 := by rw [Words.wordsBE_length, hb]
  Schedule.sched_refines Spec.Sha256.nextW
    (fun w2 w7 w15 w16 => Spec.Sha256.smallSigma1 w2 + w7 + Spec.Sha256.smallSigma0 w15 + w16) 1 6 14 15
    (by decide) (by decide) (by decide) (by decide) nextW_eq MSCH' wf_MSCH'_ne wf_MSCH'_self
    (wordsBE block) hl (decodeBlock block) (fun t ht => Schedule.wf_mk_pad _ _ _ t (by omega) (by omega)) 48 (by decide)

theorem K_toList : K.toList = Spec.Sha256.K := by decide +kernel

theorem mix_spec (S : Vector UInt32 8) (W0 : Vector UInt32 64) (es : List (UInt32 × UInt32)) (hes : es.length = 64)
    (h : ∀ (t : Nat) (ht : t < es.length), es[t] = (wf K t, wf (Wf W0) t)) :
    regsAt (mix S W0) 0 = es.foldl (fun r kw => Spec.Sha256.round r kw.1 kw.2) (regsAt S 0) := by
  have e : es = (es.drop 0).take 16 ++ ((es.drop 16).take 16 ++ ((es.drop 32).take 16 ++ (es.drop 48).take 16)) := by
    rw [List.take_of_length_le (l := es.drop 48) (by simp [hes]), ← List.drop_drop (i := 16) (j := 32),
      List.take_append_drop, ← List.drop_drop (i := 16) (j := 16), List.take_append_drop, List.drop_zero,
      List.take_append_drop]
  -- each group reads the part of the schedule that the `MSCH` lines after it no longer touch
  have h2 : ∀ t, t < 48 → wf (msch16 (msch16 W0 0) 1) t = wf (Wf W0) t := fun t ht => by
    rw [← msch_all, wf_msch16 _ 2 t ht]
  have h1 : ∀ t, t < 32 → wf (msch16 W0 0) t = wf (Wf W0) t := fun t ht => by
    rw [← h2 t (by omega), wf_msch16 _ 1 t ht]
  have h0 : ∀ t, t < 16 → wf W0 t = wf (Wf W0) t := fun t ht => by
    rw [← h1 t (by omega), wf_msch16 _ 0 t ht]
  rw [e, List.foldl_append, List.foldl_append, List.foldl_append,
    ← rnd16_spec S W0 _ 0 0 rfl es h (by omega) h0, ← rnd16_spec _ _ _ 1 16 rfl es h (by omega) h1,
    ← rnd16_spec _ _ _ 2 32 rfl es h (by omega) h2,
    ← rnd16_spec _ _ _ 3 48 rfl es h (by omega) (fun t _ => by rw [← msch_all])]
  rfl

theorem rounds_spec (S : Vector UInt32 8) (block : Bytes) (hb : block.length = 64) :
    Spec.Sha256.rounds (regsAt S 0) (Spec.Sha256.schedule block) = regsAt (mix S (decodeBlock block)) 0 := by
  obtain ⟨hl, hw⟩ := Wf_eq_spec block hb
  have hlen : (Spec.Sha256.K.zip (Spec.Sha256.schedule block)).length = 64 := by simp [hl, Spec.Sha256.K]
  refine (mix_spec S _ _ hlen fun t ht => ?_).symm
  rw [List.getElem_zip, hw t (hlen ▸ ht), Schedule.wf_of_toList K _ K_toList, ← List.getElem_eq_getD, ← List.getElem_eq_getD]

end Percival.Proofs.Sha256T
