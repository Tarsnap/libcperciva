import Percival.Proofs.EventsC05Ops
import Percival.Proofs.EventsC05Wait
import Percival.Proofs.EventsStep
/-!
# C05: monitor steps (poll, cbEnd), `Good`/`Weak`, API calls, callbacks, select and the three gets (helper lemmas)
-/
namespace Percival.Proofs.EventsC05
open Percival.Spec.Events Percival.Model.Events Percival.Model
open Percival.Proofs.EventsNet Percival.Proofs.EventsImm Percival.Proofs.EventsTQ Percival.Proofs.EventsNetAbs
open Percival.Proofs.EventsC04 (TmOk TmView tm_getptr_none)
open Percival.Proofs.EventsStep (isRun5)

variable {C : TQContract} {m : C05.M} {s : State}

/-- the monitor's state after an answered poll -/
def pollOkM (m : C05.M) (timeout : Int) (adv : Nat) (fds : List PollEntry) : C05.M :=
  let nets := pollNets fds m.nets
  let m' : C05.M := { m with nets, clock := m.clock + adv, polled := true, looked := true }
  { m' with mustFire := m.mustFire || (timeout ≠ 0 && (nets.any (·.ready) || C05.expired m')) }

/-- if this poll can wait (`timeout ≠ 0`), the call in progress is not an `events_spin` whose `done` is set -/
def MayBlock (m : C05.M) (timeout : Int) : Prop := timeout ≠ 0 → (m.spin && m.done) = false

theorem step_poll (m : C05.M) (timeout : Int) (adv : Nat) (fds : List PollEntry) (out : PollOutcome)
    (hstop : m.stop = none) (hb : MayBlock m timeout) (hc : C05.checkPoll m timeout = .ok ()) :
    C05.step m (.poll timeout adv fds out) = .ok (match out with
      | .ok => pollOkM m timeout adv fds
      | .eintr => { m with clock := m.clock + adv }
      | .stuck => C05.pollIntr m timeout adv
      | .intr => C05.pollIntr m timeout adv) := by
  have hno : m.stop.isSome = false := by rw [hstop]; rfl
  have hb' : (m.spin && m.done && decide (timeout ≠ 0)) = false := by
    by_cases ht : timeout = 0
    · simp [ht]
    · simp [hb ht]
  delta C05.step
  simp only [hno, hb', Bool.false_eq_true, if_false, hc]
  cases out <;> rfl

def Adm (s : State) : Prop := ∃ m, C05.run {} s.trace.reverse = .ok m

/-- accepted so far, monitor and model related, and the control predicate `P` holds: the assertion at a program point
    of the loops (`P` sees the model's state for `LoopTop`, which speaks of `fdscanpos`) -/
def Good (C : TQContract) (P : C05.M → State → Prop) (s : State) : Prop :=
  s.fault = false ∧ ∃ m, C05.run {} s.trace.reverse = .ok m ∧ Rel C m s ∧ P m s

/-- `Good`, or the model gave up (out of fuel) with an accepted trace -/
def Weak (C : TQContract) (P : C05.M → State → Prop) (s : State) : Prop :=
  Good C P s ∨ (s.fault = true ∧ Adm s)

theorem Good.adm {C : TQContract} {P : C05.M → State → Prop} {s : State} (h : Good C P s) : Adm s := by
  obtain ⟨_, m, hm, _⟩ := h; exact ⟨m, hm⟩

theorem Weak.adm {C : TQContract} {P : C05.M → State → Prop} {s : State} (h : Weak C P s) : Adm s := by
  rcases h with h | h
  · exact h.adm
  · exact h.2

theorem Good.mono {C : TQContract} {P Q : C05.M → State → Prop} {s : State} (h : Good C P s)
    (hpq : ∀ m, Rel C m s → P m s → Q m s) : Good C Q s := by
  obtain ⟨hf, m, hm, hr, hp⟩ := h
  exact ⟨hf, m, hm, hr, hpq m hr hp⟩

theorem Weak.mono {C : TQContract} {P Q : C05.M → State → Prop} {s : State} (h : Weak C P s)
    (hpq : ∀ m, Rel C m s → P m s → Q m s) : Weak C Q s := by
  rcases h with h | h
  · exact Or.inl (h.mono hpq)
  · exact Or.inr h

theorem good_of_weak {C : TQContract} {P : C05.M → State → Prop} {s : State} (h : Weak C P s) (hf : s.fault = false) :
    Good C P s := by
  rcases h with h | ⟨h, _⟩
  · exact h
  · rw [hf] at h; cases h

/-- the C05 monitor passes over the model's out-of-fuel marker -/
theorem step_fault (m : C05.M) : C05.step m .fault = .ok m := rfl

theorem weak_faulted {s : State} (C : TQContract) (P : C05.M → State → Prop) (h : Adm s) : Weak C P (faulted s) :=
  let ⟨m, hm⟩ := h
  Or.inr ⟨rfl, m, isRun5.emit hm (step_fault m)⟩

/-- `s'` is `s` after the event of the API call `o`, which the monitor accepts from `m`, staying related -/
def Stepped (C : TQContract) (m : C05.M) (o : Op) (s s' : State) : Prop :=
  s'.fault = false ∧ ∃ r m', s'.trace = .op o r :: s.trace ∧ C05.step m (.op o r) = .ok m' ∧ Rel C m' s'

theorem applyOp_rel (o : Op) (hr : Rel C m s) (hf : s.fault = false) : Stepped C m o s (applyOp s o) := by
  -- a call that changes nothing the monitor sees (`skip`, EEXIST, ENOENT)
  have same : ∀ r : Res, C05.step m (.op o r) = .ok m → Stepped C m o s (emit s (.op o r)) :=
    fun r he => ⟨hf, r, m, rfl, he, hr.congr rfl rfl⟩
  unfold applyOp
  rw [if_neg (by simp [hf])]
  cases o with
  | regImm id prio =>
    simp only
    by_cases hc : (isLive s id || decide (prio ≥ 32)) = true
    · rw [if_pos hc]; exact same _ rfl
    · rw [if_neg hc]
      simp only [Bool.or_eq_true, decide_eq_true_eq, not_or, Bool.not_eq_true] at hc
      obtain ⟨q', m', heq, hs, hr'⟩ := rel_regImm hr id prio hc.1 (by omega)
      simp only [heq]
      exact ⟨hf, _, m', rfl, hs, hr'.congr rfl rfl⟩
  | cancelImm id =>
    simp only
    cases hp' : immPrioOf s.imm id with
    | none => exact same _ rfl
    | some p =>
      obtain ⟨q', m', heq, hs, hr'⟩ := rel_cancelImm hr id p hp'
      simp only [heq]
      exact ⟨hf, _, m', rfl, hs, hr'.congr rfl rfl⟩
  | regNet id fd d =>
    simp only
    by_cases hc : isLive s id = true
    · rw [if_pos hc]; exact same _ rfl
    · rw [if_neg hc]
      rcases netRegister_abs s.net id fd d hr.net.inv with ⟨id0, hs0, heq⟩ | ⟨n', heq, ha⟩
      · simp only [heq]
        exact same _ (rel_regNet_eexist hr id fd d id0 hs0)
      · simp only [heq]
        obtain ⟨m', hs, hr'⟩ := rel_regNet_ok hr (by simpa using hc) ha
        exact ⟨hf, _, m', rfl, hs, hr'.congr rfl rfl⟩
  | cancelNet fd d =>
    simp only
    rcases netCancel_abs s.net fd d hr.net.inv with ⟨hs0, heq⟩ | ⟨id, n', heq, hd⟩
    · simp only [heq]
      exact same _ (rel_cancelNet_enoent hr fd d hs0)
    · simp only [heq]
      obtain ⟨m', hs, hr'⟩ := rel_cancelNet_ok hr hd
      exact ⟨hf, _, m', rfl, hs, hr'.congr rfl rfl⟩
  | regTimer id usec =>
    simp only
    by_cases hc : isLive s id = true
    · rw [if_pos hc]; exact same _ rfl
    · rw [if_neg hc]
      cases hgt : gettimeout s.clock ((usec / 1000000 : Nat) : Int) ((usec % 1000000 : Nat) : Int) with
      | mk sec us =>
        obtain ⟨m', hs, hr'⟩ := rel_regTimer hr id usec ⟨s.nextRec, _, _⟩ sec us (by simpa using hc) rfl (TV.split usec) hgt
        exact ⟨hf, _, m', rfl, hs, hr'.congr rfl rfl⟩
  | cancelTimer id =>
    simp only
    cases ht : timerOf s id with
    | none => exact same _ rfl
    | some t =>
      obtain ⟨q', m', heq, hs, hr'⟩ := rel_cancelTimer hr id t ht
      simp only [heq]
      exact ⟨hf, _, m', rfl, hs, hr'.congr rfl rfl⟩
  | resetTimer id =>
    simp only
    cases ht : timerOf s id with
    | none => exact same _ rfl
    | some t =>
      cases hgt : gettimeout s.clock t.osec t.ousec with
      | mk sec us =>
        obtain ⟨q', m', heq, hs, hr'⟩ := rel_resetTimer hr id t sec us ht hgt
        simp only [hgt, heq]
        exact ⟨hf, _, m', rfl, hs, hr'.congr rfl rfl⟩
  | interrupt => exact ⟨hf, _, _, rfl, rfl, (rel_intr hr true).congr rfl rfl⟩
  | clock us => exact ⟨hf, _, _, rfl, rfl, (rel_clock hr us).congr rfl rfl⟩
  | done => exact ⟨hf, _, _, rfl, rfl, (rel_done hr true).congr rfl rfl⟩

/-- the control fields `doevent_good` carries across the API calls of a callback's script -/
def Ctl (m m' : C05.M) : Prop :=
  m'.fired = m.fired ∧ m'.polled = m.polled ∧ m'.mustFire = m.mustFire ∧ m'.stop = m.stop

theorem Ctl.refl (m : C05.M) : Ctl m m := ⟨rfl, rfl, rfl, rfl⟩

theorem Ctl.trans {a b c : C05.M} (h1 : Ctl a b) (h2 : Ctl b c) : Ctl a c :=
  ⟨h2.1.trans h1.1, h2.2.1.trans h1.2.1, h2.2.2.1.trans h1.2.2.1, h2.2.2.2.trans h1.2.2.2⟩

/-- no API call touches a control field: a fact about the monitor alone -/
theorem step_op_ctl {m m' : C05.M} {o : Op} {r : Res} (h : C05.step m (.op o r) = .ok m') : Ctl m m' := by
  cases o <;> cases r <;> first
    | (cases h; exact Ctl.refl _)
    | (dsimp only [C05.step] at h; split at h <;> first | (cases h; exact Ctl.refl _) | cases h)

/-- one API call keeps `Good` for every control predicate that API calls cannot change -/
theorem applyOp_good (C : TQContract) (P : C05.M → Prop) (hP : ∀ m m', Ctl m m' → P m → P m') (s : State) (o : Op)
    (hg : Good C (fun m _ => P m) s) : Good C (fun m _ => P m) (applyOp s o) := by
  obtain ⟨hf, m, hm, hr, hp⟩ := hg
  obtain ⟨hf', r, m', ht, hs, hr'⟩ := applyOp_rel o hr hf
  exact ⟨hf', m', ht ▸ isRun5.emit hm hs, hr', hP m m' (step_op_ctl hs) hp⟩

/-- the record of `id` was just taken out of the model's state with no stop pending; the monitor's `polled` is `b` -/
def Fireable (C : TQContract) (b : Bool) (s : State) (id : Nat) : Prop :=
  s.fault = false ∧ ∃ m, C05.run {} s.trace.reverse = .ok m ∧ m.stop = none ∧ Took C m s id ∧ m.polled = b

theorem Fireable.adm {C : TQContract} {b : Bool} {s : State} {id : Nat} (h : Fireable C b s id) : Adm s := by
  obtain ⟨_, m, hm, _⟩ := h; exact ⟨m, hm⟩

theorem step_cbEnd (m : C05.M) (rc : Int) :
    C05.step m (.cbEnd rc) = .ok { m with stop := if rc ≠ 0 then some rc else if m.intr = true then some 0 else m.stop } := by
  delta C05.step
  simp only
  split
  · rfl
  · split <;> rfl

/-- the shape of every assertion about a return value: if dispatching was stopped with `c` the call returns `c` (and
    `S c`), otherwise it returns 0 (and `N`) -/
def OnStop (m : C05.M) (rc : Int) (S : Int → Prop) (N : Prop) : Prop :=
  (∀ c, m.stop = some c → rc = c ∧ S c) ∧ (m.stop = none → rc = 0 ∧ N)

theorem OnStop.imp {m : C05.M} {rc : Int} {S S' : Int → Prop} {N N' : Prop} (h : OnStop m rc S N)
    (hs : ∀ c, m.stop = some c → S c → S' c) (hn : m.stop = none → N → N') : OnStop m rc S' N' :=
  ⟨fun c hc => ⟨(h.1 c hc).1, hs c hc (h.1 c hc).2⟩, fun hc => ⟨(h.2 hc).1, hn hc (h.2 hc).2⟩⟩

theorem onStop_some {m : C05.M} {c : Int} {S : Int → Prop} {N : Prop} (h : m.stop = some c) (hs : S c) : OnStop m c S N :=
  ⟨fun c' hc => (by rw [h] at hc; cases hc; exact ⟨rfl, hs⟩), fun hc => by rw [h] at hc; cases hc⟩

theorem onStop_none {m : C05.M} {S : Int → Prop} {N : Prop} (h : m.stop = none) (hn : N) : OnStop m 0 S N :=
  ⟨fun c hc => (by rw [h] at hc; cases hc), fun _ => ⟨rfl, hn⟩⟩

/-- a stop whose reason is ruled out has not happened -/
theorem OnStop.stop_none {m : C05.M} {rc : Int} {S : Int → Prop} {N : Prop} (h : OnStop m rc S N)
    (hn : ¬ S rc) : m.stop = none := by
  cases hs : m.stop with
  | none => rfl
  | some c => obtain ⟨rfl, h2⟩ := h.1 c hs; exact absurd h2 hn

/-- the monitor's control state after a callback returned `rc`: a callback has run, no wake-up is owed, `polled` is
    still `b`, and dispatching has stopped with the status, or with 0 if an interrupt request is pending -/
def AfterCb (b : Bool) (rc : Int) (m : C05.M) : Prop :=
  m.fired ≥ 1 ∧ m.mustFire = false ∧ m.polled = b ∧ OnStop m rc (fun c => c = 0 → m.intr = true) (m.intr = false)

theorem doevent_good (C : TQContract) (b : Bool) (s : State) (id : Nat) (h : Fireable C b s id) :
    Good C (fun m _ => AfterCb b (doevent s id).2 m) (doevent s id).1 := by
  obtain ⟨hf, m, hm, hstop, ⟨hnx, hr⟩, h4⟩ := h
  have hs := step_cb m id hstop hnx
  -- the callback's API calls leave the control fields as `cb id` left them
  let P : C05.M → Prop := fun m' => Ctl (firedM m id) m'
  have g1 : Good C (fun m _ => P m) (emit { s with cbcount := s.cbcount + 1 } (.cb id)) :=
    ⟨hf, firedM m id, isRun5.emit hm hs, hr.congr rfl rfl,
      Ctl.refl _⟩
  -- what `cbEnd rc` does
  have fin : ∀ (s1 : State) (rc : Int), Good C (fun m _ => P m) s1 →
      Good C (fun m _ => AfterCb b rc m) (emit s1 (.cbEnd rc)) := by
    rintro s1 rc ⟨f1, m1, hm1, hr1, p1, p2, p3, p4⟩
    have p4' : m1.stop = none := p4.trans hstop
    refine ⟨f1, { m1 with stop := if rc ≠ 0 then some rc else if m1.intr = true then some 0 else m1.stop },
      isRun5.emit hm1 (step_cbEnd m1 rc),
      hr1.congr rfl rfl, by rw [p1]; exact Nat.le_add_left 1 m.fired, p3, p2.trans h4, ?_⟩
    by_cases hrc : rc ≠ 0
    · exact onStop_some (if_pos hrc) fun h => absurd h hrc
    · obtain rfl : rc = 0 := Decidable.not_not.mp hrc
      by_cases hi : m1.intr = true
      · exact onStop_some (by simp [hi]) fun _ => hi
      · exact onStop_none (by simp [hi, p4']) (by simpa using hi)
  unfold doevent
  simp only
  split
  · exact fin _ 98 g1
  · exact fin _ _ (List.foldlRecOn _ applyOp g1 fun s hs o _ => applyOp_good C P (fun _ _ h1 h2 => h2.trans h1) s o hs)

/-- what is known after `events_network_select` (before `fdscanpos` is reset, the relation is stated for
    the reset state); `timeout` is the timeout of the first poll of this select.  `stop`: dispatching was stopped only by an
    interrupt request during a poll that could wait; `fired`, `sr`, `si`, `imms`, `tms`, `clock`: what a select leaves
    alone; `mf`: a wake-up is newly owed only after a poll that could wait and saw something; `looked`: the registered
    descriptors have been looked at, unless the select was entered with a request pending (the one way the poll loop
    ends on a plain EINTR); `alt`, `si` are not used by the walk -/
structure SelPost (C : TQContract) (m0 : C05.M) (timeout : Int) (s0 s' : State) (m' : C05.M) : Prop where
  fault : s'.fault = false
  run : C05.run {} s'.trace.reverse = .ok m'
  rel : Rel C m' { s' with net := { s'.net with scan := topScan s'.net } }
  stop : m'.stop = none ∨ (timeout ≠ 0 ∧ m'.stop = some 0 ∧ m'.intr = true)
  fired : m'.fired = m0.fired
  sr : m'.startRunnable = m0.startRunnable
  si : m'.startIntr = m0.startIntr
  imms : m'.imms = m0.imms
  tms : m'.tms = m0.tms
  clock : m0.clock ≤ m'.clock
  mf : m'.mustFire = true → m0.mustFire = true ∨ (timeout ≠ 0 ∧ (m'.nets.any (·.ready) = true ∨ C05.expired m' = true))
  alt : s'.intr = true ∨ (m'.polled = true ∧ s'.intr = s0.intr)
  looked : m'.looked = true ∨ s0.intr = true

/-- a signal handler requested an interrupt during this poll (answers `intr`, `stuck`): the select ends, and
    dispatching has to stop at once unless the poll was the non-blocking one -/
theorem intr_post (C : TQContract) (s : State) (m : C05.M) (timeout : Int) (adv : Nat) (rest : List PollAns)
    (out : PollOutcome) (ho : out = .stuck ∨ out = .intr) (hf : s.fault = false)
    (hm : C05.run {} s.trace.reverse = .ok m) (hr : Rel C m s) (hstop : m.stop = none) (hb : MayBlock m timeout)
    (hc : C05.checkPoll m timeout = .ok ()) :
    SelPost C m timeout s (emit { s with clock := s.clock + adv, pollq := rest, intr := true }
      (.poll timeout adv (pollEntries s.net.fds (fun _ => {})) out)) (C05.pollIntr m timeout adv) := by
  refine ⟨hf, ?_, (rel_intr (rel_rescan (rel_clock hr adv)) true).congr rfl rfl, ?_, rfl, rfl, rfl, rfl, rfl,
    Nat.le_add_right _ _, fun h => Or.inl h, Or.inl rfl, Or.inl rfl⟩
  · refine isRun5.emit hm ((step_poll m timeout adv _ out hstop hb hc).trans ?_)
    rcases ho with rfl | rfl <;> rfl
  · by_cases h : timeout ≠ 0
    · exact Or.inr ⟨h, by simp only [C05.pollIntr, if_pos h], rfl⟩
    · exact Or.inl (by simp only [C05.pollIntr, if_neg h]; exact hstop)

/-- an answered poll is one accepted monitor step that gives `SelPost` -/
theorem ok_post (C : TQContract) (s : State) (m : C05.M) (timeout : Int) (adv' : Nat) (a : List (Nat × Bits))
    (rest : List PollAns) (hf : s.fault = false) (hm : C05.run {} s.trace.reverse = .ok m)
    (hr : Rel C m s) (hstop : m.stop = none) (hb : MayBlock m timeout) (hc : C05.checkPoll m timeout = .ok ()) :
    ∃ m', SelPost C m timeout s
      (emit { s with clock := s.clock + adv', pollq := rest,
                     net := { s.net with fds := s.net.fds.map (fun e => { e with rev := maskAns a e }) } }
        (.poll timeout adv' (pollEntries s.net.fds (maskAns a)) .ok)) m' := by
  refine ⟨pollOkM m timeout adv' (pollEntries s.net.fds (maskAns a)), hf, ?_, ?_, Or.inl hstop, rfl, rfl, rfl, rfl, rfl,
    Nat.le_add_right _ _, ?_, Or.inr ⟨rfl, rfl⟩, Or.inl rfl⟩
  · exact isRun5.emit hm (step_poll m timeout _ _ .ok hstop hb hc)
  · have r1 := rel_clock hr adv'
    exact { r1 with net := rnet_poll hr.net (netPoll_abs s.net a hr.net.inv.inv0)
                    disjIN := fun id hid hmem => hr.disjIN id hid (mem_ids_pollNets hmem)
                    disjNT := fun id hmem => hr.disjNT id (mem_ids_pollNets hmem) }
  · intro hmf
    have hmf' : (m.mustFire || (decide (timeout ≠ 0) && ((pollOkM m timeout adv' (pollEntries s.net.fds (maskAns a))).nets.any (·.ready) ||
        C05.expired (pollOkM m timeout adv' (pollEntries s.net.fds (maskAns a)))))) = true := hmf
    simp only [Bool.or_eq_true, Bool.and_eq_true, decide_eq_true_eq] at hmf'
    rcases hmf' with h | ⟨h1, h2⟩
    · exact Or.inl h
    · exact Or.inr ⟨h1, h2⟩

/-- an answer of the environment: `stuck` (an interrupt request ends an infinite wait on nothing), or an answered poll -/
theorem answer_post (C : TQContract) (s : State) (m : C05.M) (timeout : Int) (adv : Nat) (a : List (Nat × Bits))
    (rest : List PollAns) (hf : s.fault = false) (hm : C05.run {} s.trace.reverse = .ok m)
    (hr : Rel C m s) (hstop : m.stop = none) (hb : MayBlock m timeout) (hc : C05.checkPoll m timeout = .ok ()) :
    ∃ m', SelPost C m timeout s (pollLoop.answer s timeout adv a rest) m' := by
  unfold pollLoop.answer
  simp only
  split
  · -- stuck: the signal handler requests an interrupt
    exact ⟨_, intr_post C s m timeout adv rest .stuck (Or.inl rfl) hf hm hr hstop hb hc⟩
  · exact ok_post C s m timeout _ a rest hf hm hr hstop hb hc

theorem pollLoop_post (C : TQContract) (wait : Option ((Int × Int) × Nat)) : ∀ (q : List PollAns) (timeout : Int) (s : State) (m : C05.M),
    s.fault = false → C05.run {} s.trace.reverse = .ok m → Rel C m s → m.stop = none → MayBlock m timeout →
    WaitOk m timeout wait →
    ∃ m', SelPost C m timeout s (pollLoop s wait timeout q) m' := by
  intro q
  induction q with
  | nil =>
    intro timeout s m hf hm hr hstop hb hw
    unfold pollLoop
    exact answer_post C s m timeout 0 [] [] hf hm hr hstop hb hw.check
  | cons x rest ih =>
    intro timeout s m hf hm hr hstop hb hw
    have hc := hw.check
    cases x with
    | ans adv a =>
      unfold pollLoop
      exact answer_post C s m timeout adv a rest hf hm hr hstop hb hc
    | eintr adv =>
      unfold pollLoop
      simp only
      -- the interrupted poll: only the clock moves
      have hm1 : C05.run {} ((Ev.poll timeout adv (pollEntries s.net.fds (fun _ => {})) .eintr) :: s.trace).reverse =
          .ok { m with clock := m.clock + adv } :=
        isRun5.emit hm (step_poll m timeout adv _ .eintr hstop hb hc)
      have hr1 : Rel C { m with clock := m.clock + adv } (emit { s with clock := s.clock + adv, pollq := rest }
          (.poll timeout adv (pollEntries s.net.fds (fun _ => {})) .eintr)) :=
        (rel_clock hr adv).congr rfl rfl
      split
      · rename_i hi
        exact ⟨_, hf, hm1, (rel_rescan hr1).congr rfl rfl, Or.inl hstop, rfl, rfl, rfl, rfl, rfl,
          Nat.le_add_right _ _, fun h => Or.inl h, Or.inl hi, Or.inr hi⟩
      · obtain ⟨c2, c4⟩ := waitOk_eintr adv hw
        have hnt : nextTimeout wait timeout (s.clock + adv) = nextTimeout wait timeout (m.clock + adv) := by
          rw [hr.clock]
        show ∃ m', SelPost C m timeout s (pollLoop _ wait (nextTimeout wait timeout (s.clock + adv)) rest) m'
        rw [hnt]
        obtain ⟨m', hp⟩ := ih (nextTimeout wait timeout (m.clock + adv))
          (emit { s with clock := s.clock + adv, pollq := rest }
            (.poll timeout adv (pollEntries s.net.fds (fun _ => {})) .eintr)) { m with clock := m.clock + adv }
          hf hm1 hr1 hstop (fun h => hb (c4 h)) c2
        -- the same facts about the whole select, with the timeout of its first poll
        exact ⟨m', { hp with stop := hp.stop.imp_right fun ⟨h1, h2⟩ => ⟨c4 h1, h2⟩
                             clock := Nat.le_trans (Nat.le_add_right _ _) hp.clock
                             mf := fun h => (hp.mf h).imp_right fun ⟨h1, h2⟩ => ⟨c4 h1, h2⟩ }⟩
    | intr adv =>
      -- a signal handler calls events_interrupt() during this poll; the loop is left
      unfold pollLoop
      exact ⟨_, intr_post C s m timeout adv rest .intr (Or.inr rfl) hf hm hr hstop hb hc⟩

/-- `events_network_select`: the poll loop, then the reset of `fdscanpos` -/
theorem select_post (C : TQContract) (s : State) (tv : Option (Int × Int)) (m : C05.M) (hf : s.fault = false)
    (hm : C05.run {} s.trace.reverse = .ok m) (hr : Rel C m s) (hstop : m.stop = none)
    (hb : MayBlock m (selectTimeout tv)) (hw : WaitOk m (selectTimeout tv) (waitStart s tv)) :
    ∃ sp m', netSelect s tv = { sp with net := { sp.net with scan := topScan sp.net } } ∧
      SelPost C m (selectTimeout tv) s sp m' :=
  let ⟨m', hp⟩ := pollLoop_post C (waitStart s tv) s.pollq (selectTimeout tv) s m hf hm hr hstop hb hw
  ⟨_, m', rfl, hp⟩

theorem expired_mono {m m' : C05.M} (ht : m'.tms = m.tms) (hc : m.clock ≤ m'.clock) (h : C05.expired m = true) :
    C05.expired m' = true := by
  obtain ⟨t, hm, hle⟩ := (expired_iff m).mp h
  exact (expired_iff m').mpr ⟨t, by rw [ht]; exact hm, by omega⟩

theorem runnable_mono {m m' : C05.M} (hi : m'.imms = m.imms) (ht : m'.tms = m.tms) (hc : m.clock ≤ m'.clock)
    (h : C05.runnable m = true) : C05.runnable m' = true := by
  unfold C05.runnable at *
  rw [hi]
  simp only [Bool.or_eq_true] at *
  rcases h with h | h
  · exact Or.inl h
  · exact Or.inr (expired_mono ht hc h)

/-- after a scan that covered the whole array found nothing, no registered socket is flagged ready -/
theorem no_ready_of_clear (r : Rel C m s) (hall : ∀ i, (rev s.net i).any = false) : m.nets.any (·.ready) = false := by
  rw [List.any_eq_false]
  intro x hx hrdy
  have := hall x.fd
  rw [any_of_hot (r.net.report x hx hrdy)] at this
  cases this

theorem netGetS_cases (r : Rel C m s) (himm : m.imms = []) :
    (∃ n', netGetS s = ({ s with net := n' }, none) ∧ Rel C m { s with net := n' } ∧
        (s.net.scan = topScan s.net → m.nets.any (·.ready) = false)) ∨
    (∃ n' id, netGetS s = ({ s with net := n' }, some id) ∧ Took C m { s with net := n' } id) := by
  unfold netGetS
  rcases netGet_abs s.net r.net.inv with ⟨n', heq, hx, hclear⟩ | ⟨id, n', fd, d, heq, _, hd⟩
  · have hr' := rel_net_expanded r hx
    exact Or.inl ⟨n', by simp only [heq], hr', fun htop => no_ready_of_clear hr' (hclear htop)⟩
  · exact Or.inr ⟨n', id, by simp only [heq], took_net r hd himm⟩

theorem immGetS_cases (r : Rel C m s) :
    (∃ q', immGetS s = ({ s with imm := q' }, none) ∧ Rel C m { s with imm := q' } ∧ m.imms = []) ∨
    (∃ q' id, immGetS s = ({ s with imm := q' }, some id) ∧ Took C m { s with imm := q' } id) := by
  unfold immGetS
  rcases immGet_rq_filter s.imm m.imms r.imm r.immIds with ⟨hl, hnone, hq'⟩ | ⟨j, hn, hj, hsome, hq'⟩
  · left
    exact ⟨(immGet s.imm).1, by rw [← hnone],
      { r with imm := by rw [hl]; exact hq' }, hl⟩
  · exact Or.inr ⟨(immGet s.imm).1, j.id, by rw [← hsome], took_imm r j (immGet s.imm).1 hn hj hq'⟩

theorem timerGet_cases (r : Rel C m s) (himm : m.imms = []) (hnr : m.nets.any (·.ready) = false) (hlook : m.looked = true) :
    (timerGet s = (s, none) ∧ C05.expired m = false) ∨
    (∃ q' id, timerGet s = ({ s with tq := q', timers := s.timers.filter (fun p => p.1 != id) }, some id) ∧
        Took C m { s with tq := q', timers := s.timers.filter (fun p => p.1 != id) } id) := by
  unfold timerGet
  cases hg : TimerQueue.getptr s.tq ((s.clock / 1000000 : Nat) : Int) ((s.clock % 1000000 : Nat) : Int) with
  | mk q' res =>
    cases res with
    | none =>
      left
      refine ⟨rfl, ?_⟩
      obtain ⟨_, hall⟩ := tm_getptr_none r.tm.ok s.clock q' hg
      cases he : C05.expired m with
      | false => rfl
      | true =>
        obtain ⟨t, ht, hle⟩ := (expired_iff m).mp he
        have := hall t.id t.usec t.deadline ((r.tm.iff _ _ _).mp ht)
        rw [r.clock] at hle; omega
    | some rp =>
      obtain ⟨rr, id⟩ := rp
      exact Or.inr ⟨q', id, rfl, took_timer r q' rr id hg himm hnr hlook⟩

end Percival.Proofs.EventsC05
