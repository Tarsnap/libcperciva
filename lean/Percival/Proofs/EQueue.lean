import Percival.Proofs.EArrayStep
import Percival.Model.EQueue
/-!
# The elastic-queue model refines the ideal FIFO (C12, C14)

`chunks` (the records of a byte string); `recs`, the contents of an array as records, with what `getRec`, `setRec`, the copy
loop of `elasticqueue_delete`, an `append` of one record and a `shrink` do to them: byte offsets occur up to there and not
after.  The queue's contents are `(all q).drop q.offset` (`abs_eq_drop`), so one `*_spec` per C function under the invariant
`QInv` is a fact about `List.drop` / `set` / `take` of a list of records; then `qstep_ok` and `run_ok`.
-/
namespace Percival.Proofs.EQueue
open Percival.Model Percival.Model.EArray Percival.Model.EQueue Percival.Spec.DS
open Percival.Proofs.EArray
open Percival.Proofs.MemCalls (Calls calls_malloc calls_free)

theorem chunks_length (r : Nat) : ∀ (n : Nat) (l : List UInt8), (chunks r n l).length = n
  | 0, _ => rfl
  | n+1, l => by simp [chunks, chunks_length r n]

theorem chunks_append (r : Nat) (rec : List UInt8) (hr : rec.length = r) :
    ∀ (n : Nat) (l : List UInt8), l.length = n * r → chunks r (n+1) (l ++ rec) = chunks r n l ++ [rec]
  | 0, l, hl => by
    have : l = [] := List.eq_nil_of_length_eq_zero (by simpa using hl)
    subst this
    simp [chunks, ← hr]
  | n+1, l, hl => by
    have hl' : l.length = n * r + r := by rw [hl, Nat.succ_mul]
    have ih := chunks_append r rec hr n (l.drop r) (by rw [List.length_drop]; omega)
    show (l ++ rec).take r :: chunks r (n+1) ((l ++ rec).drop r) = (l.take r :: chunks r n (l.drop r)) ++ [rec]
    rw [List.take_append_of_le_length (by omega), List.drop_append_of_le_length (by omega), ih]
    rfl

/-- only the first `n * r` bytes matter -/
theorem chunks_take (r : Nat) : ∀ (n : Nat) (l : List UInt8) (k : Nat), n * r ≤ k → chunks r n (l.take k) = chunks r n l
  | 0, _, _, _ => rfl
  | n+1, l, k, hk => by
    have hk' : n * r + r ≤ k := by rw [← Nat.succ_mul]; exact hk
    show (l.take k).take r :: chunks r n ((l.take k).drop r) = l.take r :: chunks r n (l.drop r)
    rw [List.take_take, Nat.min_eq_left (by omega), List.drop_take, chunks_take r n (l.drop r) (k - r) (by omega)]

theorem chunks_getElem? (r : Nat) : ∀ (n : Nat) (l : List UInt8) (pos : Nat),
    (chunks r n l)[pos]? = if pos < n then some ((l.drop (pos * r)).take r) else none
  | 0, _, pos => by simp [chunks]
  | n+1, l, 0 => by simp [chunks]
  | n+1, l, pos+1 => by
    show (chunks r n (l.drop r))[pos]? = _
    rw [chunks_getElem? r n (l.drop r) pos, List.drop_drop, Nat.succ_mul]
    by_cases h : pos < n <;> simp [h, Nat.add_comm]

theorem chunks_set (r : Nat) (rec : List UInt8) (hr : rec.length = r) : ∀ (n : Nat) (l : List UInt8) (pos : Nat),
    pos < n → n * r ≤ l.length →
    (chunks r n l).set pos rec = chunks r n (l.take (pos * r) ++ rec ++ l.drop (pos * r + r))
  | 0, _, _, h, _ => by omega
  | n+1, l, 0, _, hl => by
    have hl' : n * r + r ≤ l.length := by rw [← Nat.succ_mul]; exact hl
    simp only [chunks, List.set_cons_zero, Nat.zero_mul, List.take_zero, List.nil_append, Nat.zero_add]
    rw [List.take_append_of_le_length (by omega), List.drop_append_of_le_length (by omega)]
    simp [← hr]
  | n+1, l, pos+1, hp, hl => by
    have hl' : n * r + r ≤ l.length := by rw [← Nat.succ_mul]; exact hl
    have hp' : pos * r + r ≤ n * r := by rw [← Nat.succ_mul]; exact Nat.mul_le_mul_right r (by omega)
    have ih := chunks_set r rec hr n (l.drop r) pos (by omega) (by rw [List.length_drop]; omega)
    simp only [chunks, List.set_cons_succ, ih]
    have e : (pos + 1) * r = r + pos * r := by rw [Nat.succ_mul, Nat.add_comm]
    rw [e]
    have h1 : (l.take (r + pos * r) ++ rec ++ l.drop (r + pos * r + r)).take r = l.take r := by
      rw [List.append_assoc, List.take_append_of_le_length (by rw [List.length_take]; omega), List.take_take]
      congr 1; omega
    have h2 : (l.take (r + pos * r) ++ rec ++ l.drop (r + pos * r + r)).drop r
        = (l.drop r).take (pos * r) ++ rec ++ (l.drop r).drop (pos * r + r) := by
      rw [List.append_assoc, List.drop_append_of_le_length (by rw [List.length_take]; omega), List.drop_take,
        List.drop_drop, List.append_assoc]
      congr 2
      · congr 1; omega
      · congr 1; omega
    rw [h1, h2]
theorem chunks_drop (r : Nat) : ∀ (k n : Nat) (l : List UInt8),
    (chunks r (k + n) l).drop k = chunks r n (l.drop (k * r))
  | 0, n, l => by simp
  | k+1, n, l => by
    rw [show k + 1 + n = (k + n) + 1 by omega]
    simp only [chunks, List.drop_succ_cons]
    rw [chunks_drop r k n (l.drop r), List.drop_drop, Nat.succ_mul, Nat.add_comm]

theorem chunks_take_n (r : Nat) : ∀ (n j : Nat) (l : List UInt8), (chunks r (n + j) l).take n = chunks r n l
  | 0, _, _ => by simp [chunks]
  | n+1, j, l => by
    rw [show n + 1 + j = (n + j) + 1 by omega]
    simp only [chunks, List.take_succ_cons, chunks_take_n r n j]

theorem contents_length {a : EA} (h : Inv a) : (a.buf.take a.size).length = a.size :=
  Percival.Proofs.EArray.abs_length h
/-- the contents of the array as `k` records of `r` bytes -/
def recs (r : RecLen) (k : Nat) (a : EA) : List (List UInt8) := chunks r.val k (a.buf.take a.size)

theorem recs_length (r : RecLen) (k : Nat) (a : EA) : (recs r k a).length = k := chunks_length _ _ _

theorem rec_le {r : RecLen} {k pos : Nat} {a : EA} (hk : k * r.val ≤ a.size) (hp : pos < k) :
    pos * r.val + r.val ≤ a.size :=
  Nat.le_trans (by rw [← Nat.succ_mul]; exact Nat.mul_le_mul_right _ hp) hk

theorem getRec_recs {a : EA} {r : RecLen} {k pos : Nat} (h : Inv a) (hk : k * r.val ≤ a.size) (hp : pos < k) :
    ∃ b, getRec a pos r = some b ∧ b.length = r.val ∧ (recs r k a)[pos]? = some b := by
  have hb := rec_le hk hp
  refine ⟨_, getRec_spec a pos r h hb, ?_, by rw [recs, chunks_getElem?, if_pos hp]; rfl⟩
  rw [getBytes, List.length_take, List.length_drop, contents_length h]; omega

theorem setRec_recs {a : EA} {r : RecLen} {k pos : Nat} {rec : List UInt8} (h : Inv a) (hk : k * r.val ≤ a.size)
    (hp : pos < k) (hr : rec.length = r.val) :
    ∃ a', setRec a pos r rec = some a' ∧ a'.size = a.size ∧ a'.alloc = a.alloc ∧ Inv a' ∧
      recs r k a' = (recs r k a).set pos rec := by
  obtain ⟨a', hset, hs1, hs2, hinv', hbytes⟩ := setRec_spec a pos r rec h (rec_le hk hp) hr
  refine ⟨a', hset, hs1, hs2, hinv', ?_⟩
  rw [recs, hbytes, recs, chunks_set _ rec hr _ _ _ hp (by rw [contents_length h]; exact hk)]
  rfl

/-- the copy loop at the level of records: records `i .. i+n` become the records `off` places further on -/
theorem moveLoop_recs (r : RecLen) (off k : Nat) : ∀ (n i : Nat) (a : EA), Inv a → k * r.val ≤ a.size → i + off + n ≤ k →
    ∃ a', moveLoop r off n i a = some a' ∧ a'.size = a.size ∧ a'.alloc = a.alloc ∧ Inv a' ∧
      ∀ j, (recs r k a')[j]? = if i ≤ j ∧ j < i + n then (recs r k a)[j + off]? else (recs r k a)[j]?
  | 0, i, a, h, _, _ => ⟨a, rfl, rfl, rfl, h, fun j => by rw [if_neg (by omega)]⟩
  | n+1, i, a, h, hk, hn => by
    obtain ⟨rec, hrec, hlen, hg⟩ := getRec_recs (pos := i + off) h hk (by omega)
    obtain ⟨a1, hset, hs1, hs2, hinv1, hr1⟩ := setRec_recs (pos := i) (rec := rec) h hk (by omega) hlen
    obtain ⟨a', hml, ht1, ht2, hinv', hr'⟩ := moveLoop_recs r off k n (i + 1) a1 hinv1 (by rw [hs1]; exact hk) (by omega)
    refine ⟨a', by simp only [moveLoop, hrec, hset, hml], by rw [ht1, hs1], by rw [ht2, hs2], hinv', fun j => ?_⟩
    rw [hr', hr1, List.getElem?_set, List.getElem?_set, recs_length]
    by_cases h2 : i + 1 ≤ j ∧ j < i + 1 + n
    · rw [if_pos h2, if_neg (by omega), if_pos (by omega)]
    · by_cases hj : i = j
      · subst hj; rw [if_neg h2, if_pos rfl, if_pos (by omega), if_pos (by omega), hg]
      · rw [if_neg h2, if_neg hj, if_neg (by omega)]

theorem append_recs {a a' : EA} {r : RecLen} {k : Nat} {rec : List UInt8} (h : Inv a) (hk : a.size = k * r.val)
    (hr : rec.length = r.val) (hb : a'.buf.take a'.size = a.buf.take a.size ++ rec.take r.val) :
    recs r (k + 1) a' = recs r k a ++ [rec] := by
  rw [recs, hb, List.take_of_length_le (l := rec) (Nat.le_of_eq hr), chunks_append _ rec hr k _ (by rw [contents_length h, hk])]
  rfl

theorem shrink_recs {a a' : EA} {r : RecLen} {n j : Nat} (hsz : a.size = (n + j) * r.val)
    (hb : a'.buf.take a'.size = a.buf.take (a.size - j * r.val)) : recs r n a' = (recs r (n + j) a).take n := by
  rw [recs, recs, chunks_take_n, hb, chunks_take _ _ _ _ (by rw [hsz, Nat.add_mul]; omega),
    chunks_take _ _ _ _ (by rw [hsz, Nat.add_mul]; omega)]
/-! ### The oracle's side of the queue's functions (no invariant needed) -/

theorem add_acct (q : EQ) (rec : List UInt8) (m : Mem) :
    Acct q.ea m (EQueue.add q rec m).2.1.ea (EQueue.add q rec m).2.2 := by
  have hf := (append_acct q.ea rec 1 q.reclen m).1
  unfold EQueue.add
  rcases hres : EArray.append q.ea rec 1 q.reclen m with ⟨st, a', m'⟩
  rw [hres] at hf
  cases st <;> exact hf

theorem moveLoop_alloc (r : RecLen) (off : Nat) : ∀ (n i : Nat) (a a' : EA),
    EQueue.moveLoop r off n i a = some a' → a'.alloc = a.alloc
  | 0, _, a, a', h => by simp only [EQueue.moveLoop] at h; cases h; rfl
  | n+1, i, a, a', h => by
    simp only [EQueue.moveLoop] at h
    split at h
    · cases h
    · split at h
      · cases h
      · rename_i a1 hset
        rw [moveLoop_alloc r off n (i+1) a1 a' h, setRec_alloc hset]

theorem delete_acct (q : EQ) (m : Mem) :
    Acct q.ea m (EQueue.delete q m).2.1.ea (EQueue.delete q m).2.2 := by
  unfold EQueue.delete
  split
  · exact .refl _ _
  · simp only
    split
    · split
      · exact .refl _ _
      · rename_i a hmv
        exact ((Acct.refl q.ea m).data (moveLoop_alloc _ _ _ _ _ _ hmv)).trans (shrink_acct a (q.offset + 1) q.reclen m)
    · exact .refl _ _

theorem set_alloc {q q' : EQ} {pos : Nat} {rec : List UInt8} (h : EQueue.set q pos rec = some q') :
    q'.ea.alloc = q.ea.alloc := by
  unfold EQueue.set at h
  split at h
  · cases h
  · simp only [Option.map_eq_some_iff] at h
    obtain ⟨a, ha, rfl⟩ := h
    exact setRec_alloc ha

theorem step_acct (q : EQ) (e : EqOp) (m : Mem) :
    Acct q.ea m (EQueue.step q e m).2.1.ea (EQueue.step q e m).2.2 := by
  cases e with
  | add rec => exact add_acct q rec m
  | delete => exact delete_acct q m
  | getlen => exact .refl _ _
  | get pos => simp only [EQueue.step]; split <;> exact .refl _ _
  | set pos rec =>
    simp only [EQueue.step]
    split
    · rename_i q' hq; exact (Acct.refl q.ea m).data (set_alloc hq)
    · exact .refl _ _

theorem free_calls (q : EQ) (m : Mem) : Calls m (EQueue.free q m) (-2 - bufBlocks q.ea) :=
  ((EArray.free_calls q.ea m).trans (calls_free _ false)).cast (by simp; omega)

/-- the compaction of `elasticqueue_delete`: the `n` records behind the first `off` are moved to the front, the rest is
cut off -/
theorem compact_recs {a : EA} {r : RecLen} {off n : Nat} (m : Mem) (h : Inv a) (hsz : a.size = (n + off) * r.val) :
    ∃ a1, moveLoop r off n 0 a = some a1 ∧ Inv (shrink a1 off r m).1 ∧
      (shrink a1 off r m).1.size = n * r.val ∧ recs r n (shrink a1 off r m).1 = (recs r (n + off) a).drop off ∧
      (shrink a1 off r m).2.live + bufBlocks a = m.live + bufBlocks (shrink a1 off r m).1 := by
  obtain ⟨a1, hml, hs1, hs2, hinv1, hr1⟩ := moveLoop_recs r off (n + off) n 0 a h (Nat.le_of_eq hsz.symm) (by omega)
  obtain ⟨hinv2, hsz2, hbytes2, -, hlive2⟩ := shrink_spec a1 off r m hinv1
  have hsz1 : a1.size = (n + off) * r.val := hs1.trans hsz
  refine ⟨a1, hml, hinv2, by rw [hsz2, hsz1, Nat.add_mul]; omega, ?_,
    by simp only [bufBlocks, hs2] at hlive2 ⊢; exact hlive2⟩
  rw [shrink_recs hsz1 hbytes2]
  apply List.ext_getElem?
  intro j
  rw [List.getElem?_take, List.getElem?_drop, hr1]
  by_cases hj : j < n
  · rw [if_pos hj, if_pos (by omega), Nat.add_comm j off]
  · rw [if_neg hj, eq_comm, List.getElem?_eq_none (by rw [recs_length]; omega)]

/-- representation invariant of `struct elasticqueue` -/
structure QInv (q : EQ) : Prop where
  ea : Inv q.ea
  sz : q.ea.size = (q.offset + q.len) * q.reclen.val

theorem abs_length (q : EQ) : (EQueue.abs q).length = q.len := chunks_length _ _ _
/-- all records of the queue's array, those in front of `offset` included -/
def all (q : EQ) : List (List UInt8) := recs q.reclen (q.offset + q.len) q.ea

theorem abs_eq_drop (q : EQ) : EQueue.abs q = (all q).drop q.offset := (chunks_drop _ _ _ _).symm

theorem get_eq (q : EQ) (pos : Nat) (h : QInv q) :
    EQueue.get q pos = match (EQueue.abs q)[pos]? with | some b => .record b | none => .null := by
  unfold EQueue.get
  by_cases hp : pos ≥ q.len
  · rw [if_pos hp, List.getElem?_eq_none (by rw [EQueue.abs_length]; exact hp)]
  · obtain ⟨b, hg, _, hb⟩ := getRec_recs (k := q.offset + q.len) (pos := pos + q.offset) h.ea (Nat.le_of_eq h.sz.symm)
      (by omega)
    rw [if_neg hp, hg, abs_eq_drop, List.getElem?_drop, Nat.add_comm, all, hb]

theorem set_spec (q : EQ) (pos : Nat) (rec : List UInt8) (h : QInv q) (hp : pos < q.len) (hr : rec.length = q.reclen.val) :
    ∃ q', EQueue.set q pos rec = some q' ∧ QInv q' ∧ q'.reclen = q.reclen ∧ q'.len = q.len ∧ q'.offset = q.offset ∧
      q'.ea.size = q.ea.size ∧ q'.ea.alloc = q.ea.alloc ∧
      EQueue.abs q' = (EQueue.abs q).set pos rec := by
  obtain ⟨a', hset, hs1, hs2, hinv', hr'⟩ := setRec_recs (k := q.offset + q.len) (pos := pos + q.offset) h.ea
    (Nat.le_of_eq h.sz.symm) (by omega) hr
  unfold EQueue.set
  rw [if_neg (by omega), hset]
  refine ⟨_, rfl, ⟨hinv', by rw [hs1]; exact h.sz⟩, rfl, rfl, rfl, hs1, hs2, ?_⟩
  rw [abs_eq_drop, abs_eq_drop, List.set_drop, Nat.add_comm]
  exact congrArg _ hr'

theorem delete_spec (q : EQ) (m : Mem) (h : QInv q) :
    (delete q m).1 = .ok ∧ QInv (delete q m).2.1 ∧ (delete q m).2.1.reclen = q.reclen ∧
    EQueue.abs (delete q m).2.1 = (EQueue.abs q).tail ∧ (delete q m).2.1.len = q.len - 1 ∧
    (delete q m).2.1.offset + (delete q m).2.1.len ≤ q.offset + q.len ∧
    (delete q m).2.2.live + bufBlocks q.ea = m.live + bufBlocks (delete q m).2.1.ea := by
  obtain ⟨hea, hsz⟩ := h
  unfold delete
  by_cases h0 : q.len = 0
  · rw [if_pos h0]
    exact ⟨rfl, ⟨hea, hsz⟩, rfl, by rw [List.eq_nil_of_length_eq_zero (l := EQueue.abs q) (by rw [EQueue.abs_length]; exact h0)]; rfl,
      by rw [h0], Nat.le_refl _, rfl⟩
  · obtain ⟨n, hn⟩ : ∃ n, q.len = n + 1 := ⟨q.len - 1, by omega⟩
    have htail : (EQueue.abs q).tail = (recs q.reclen (n + (q.offset + 1)) q.ea).drop (q.offset + 1) := by
      rw [abs_eq_drop, List.tail_drop, all, hn, show q.offset + (n + 1) = n + (q.offset + 1) by omega]
    have hsz' : q.ea.size = (n + (q.offset + 1)) * q.reclen.val := by rw [hsz, hn]; congr 1; omega
    rw [if_neg h0, hn, Nat.add_sub_cancel]
    by_cases hmove : q.offset + 1 > n
    · obtain ⟨a1, hml, hc⟩ := compact_recs (off := q.offset + 1) m hea hsz'
      simp only [hmove, if_true, hml]
      rcases hres : shrink a1 (q.offset + 1) q.reclen m with ⟨a2, m2⟩
      rw [hres] at hc
      obtain ⟨hinv2, hsz2, hr2, hlive2⟩ := hc
      refine ⟨by triv, ⟨hinv2, by show _ = (0 + n) * _; rw [Nat.zero_add]; exact hsz2⟩, by triv, ?_, by triv,
        by show 0 + n ≤ _; omega, hlive2⟩
      rw [htail, abs_eq_drop]
      show (recs q.reclen (0 + n) a2).drop 0 = _
      rw [Nat.zero_add, List.drop_zero, hr2]
    · simp only [hmove, if_false]
      refine ⟨by triv, ⟨hea, by show _ = (q.offset + 1 + n) * _; rw [hsz', Nat.add_comm]⟩, by triv,
        ?_, by triv, by show q.offset + 1 + n ≤ _; omega, by triv⟩
      rw [htail, abs_eq_drop]
      show List.drop (q.offset + 1) (recs q.reclen (q.offset + 1 + n) q.ea) = _
      rw [Nat.add_comm n]

theorem add_spec (q : EQ) (rec : List UInt8) (m : Mem) (h : QInv q) (hr : rec.length = q.reclen.val)
    (hsmall : q.ea.size + q.reclen.val ≤ EArray.SIZE_MAX) :
    QInv (add q rec m).2.1 ∧ (add q rec m).1 ≠ .oob ∧
    ((add q rec m).2.1.reclen = q.reclen ∧ (add q rec m).2.1.offset = q.offset) ∧
    ((add q rec m).1 = .ok →
      EQueue.abs (add q rec m).2.1 = EQueue.abs q ++ [rec] ∧ (add q rec m).2.1.len = q.len + 1 ∧
      (add q rec m).2.2.refusals = m.refusals) ∧
    ((add q rec m).1 = .fail → (add q rec m).2.1 = q ∧ (add q rec m).2.2.refusals = m.refusals + 1) ∧
    (add q rec m).2.2.live + bufBlocks q.ea = m.live + bufBlocks (add q rec m).2.1.ea := by
  obtain ⟨hea, hsz⟩ := h
  have hs := append_spec q.ea rec 1 q.reclen m hea (by simp [hr])
  simp only [Nat.one_mul] at hs
  unfold add
  rcases hres : append q.ea rec 1 q.reclen m with ⟨st, a', m'⟩
  rw [hres] at hs
  obtain ⟨hinv', hno, hok, hfail, hlive⟩ := hs
  cases st
  · obtain ⟨_, hsz', _, hrf, hbytes⟩ := hok rfl
    refine ⟨⟨hinv', by rw [hsz', hsz, ← Nat.succ_mul]; rfl⟩, by simp, ⟨rfl, rfl⟩, fun _ => ⟨?_, rfl, hrf⟩, by simp, hlive⟩
    rw [abs_eq_drop, abs_eq_drop]
    show (recs q.reclen (q.offset + q.len + 1) a').drop q.offset = _
    rw [append_recs hea hsz hr hbytes, List.drop_append_of_le_length (by rw [recs_length]; omega)]
    rfl
  · obtain ⟨ha', hrf⟩ := hfail rfl
    subst ha'
    exact ⟨⟨hea, hsz⟩, by simp, ⟨rfl, rfl⟩, by simp, fun _ => ⟨rfl, hrf.resolve_right fun h2 => by have := h2.2; omega⟩, hlive⟩
  · exact absurd rfl hno
def QStepOk (q : EQ) (op : EqOp) (m : Mem) : Prop :=
  QInv (EQueue.step q op m).2.1 ∧ (EQueue.step q op m).2.1.reclen = q.reclen ∧
  eqAdmit (EQueue.abs q) op (EQueue.step q op m).1 = some (EQueue.abs (EQueue.step q op m).2.1) ∧
  (EQueue.step q op m).2.1.offset + (EQueue.step q op m).2.1.len ≤ q.offset + q.len + 1

theorem check_abs (q : EQ) (st : St) (m m' : Mem) (got : Option (List UInt8)) :
    eqCheck (EQueue.abs q) (EQueue.ans st q m m' got) = some (EQueue.abs q) := by
  simp [eqCheck, EQueue.ans, abs_length]

theorem eqAdmit_not_oob {i i' : List (List UInt8)} {op : EqOp} {a : EqAns} (h : eqAdmit i op a = some i') : a.st ≠ .oob := by
  intro hst
  cases op <;> simp [eqAdmit, hst] at h

/-- **every queue step is admitted by the ideal FIFO and `abs` commutes** -/
theorem qstep_ok (q : EQ) (op : EqOp) (m : Mem) (h : QInv q)
    (hc : eqContract q.reclen.val (EQueue.abs q) op)
    (hsmall : (q.offset + q.len + 1) * q.reclen.val ≤ EArray.SIZE_MAX) : QStepOk q op m := by
  unfold QStepOk
  cases op with
  | add rec =>
    simp only [eqContract] at hc
    have hs := add_spec q rec m h hc (by rw [h.sz]; rw [Nat.succ_mul] at hsmall; exact hsmall)
    simp only [EQueue.step]
    rcases hres : add q rec m with ⟨st, q', m'⟩
    rw [hres] at hs
    obtain ⟨hinv', hno, ⟨hrl, hoff⟩, hok, hfail, _⟩ := hs
    simp only at hinv' hno hrl hoff hok hfail ⊢
    refine ⟨hinv', hrl, ?_, ?_⟩
    · simp only [eqAdmit]
      cases st
      · obtain ⟨habs, _, _⟩ := hok rfl
        have : (EQueue.ans St.ok q' m m' none).st = St.ok := rfl
        simp only [this]
        rw [if_pos (by simp [EQueue.ans]), ← habs]
        exact check_abs q' _ _ _ _
      · obtain ⟨hq', hrf⟩ := hfail rfl
        subst hq'
        have : (EQueue.ans St.fail q' m m' none).st = St.fail := rfl
        simp only [this]
        rw [if_pos ⟨by simp [EQueue.ans, hrf], rfl⟩]
        exact check_abs q' _ _ _ _
      · exact absurd rfl hno
    · cases st
      · obtain ⟨_, hlen, _⟩ := hok rfl
        omega
      · obtain ⟨hq', _⟩ := hfail rfl
        subst hq'; omega
      · exact absurd rfl hno
  | delete =>
    have hs := delete_spec q m h
    simp only [EQueue.step]
    rcases hres : delete q m with ⟨st, q', m'⟩
    rw [hres] at hs
    obtain ⟨hst, hinv', hrl, habs, _, hle, _⟩ := hs
    simp only at hst hinv' hrl habs hle ⊢
    subst hst
    refine ⟨hinv', hrl, ?_, by omega⟩
    simp only [eqAdmit]
    rw [if_pos ⟨rfl, rfl⟩, ← habs]
    exact check_abs q' _ _ _ _
  | getlen =>
    simp only [EQueue.step]
    refine ⟨h, by triv, ?_, by omega⟩
    simp only [eqAdmit]
    rw [if_pos ⟨by triv, by triv⟩]
    exact check_abs q _ _ _ _
  | get pos =>
    simp only [EQueue.step, get_eq q pos h]
    cases hg : (EQueue.abs q)[pos]? <;>
    · simp only
      refine ⟨h, by triv, ?_, by omega⟩
      simp only [eqAdmit]
      rw [if_pos ⟨by triv, by simp [EQueue.ans, hg]⟩]
      exact check_abs q _ _ _ _
  | set pos rec =>
    simp only [eqContract, abs_length] at hc
    obtain ⟨q', hset, hinv', hrl, hlen, hoff, _, _, habs⟩ := set_spec q pos rec h hc.1 hc.2
    simp only [EQueue.step, hset]
    refine ⟨hinv', hrl, ?_, by omega⟩
    simp only [eqAdmit]
    rw [if_pos ⟨rfl, by rw [abs_length]; exact hc.1, rfl⟩, ← habs]
    exact check_abs q' _ _ _ _

/-- `elasticqueue_init`: an empty queue with the two structures and the buffer allocated, or nothing -/
theorem init_full (r : RecLen) (m : Mem) :
    match EQueue.init r m with
    | (some q, m') => QInv q ∧ q.reclen = r ∧ EQueue.abs q = [] ∧ q.offset = 0 ∧ q.len = 0 ∧
        Calls m m' (2 + bufBlocks q.ea) ∧ m'.refusals = m.refusals ∧
        ∀ c, (∀ i sz, m.f i sz = true → sz ≤ c) → q.ea.alloc ≤ c
    | (none, m') => Calls m m' 0 ∧ m.refusals < m'.refusals := by
  unfold EQueue.init
  have c1 := calls_malloc m EQueue.structSize
  cases hr : (m.malloc EQueue.structSize).1
  · rw [pair_eta _ hr]
    exact ⟨c1.cast (by simp [hr]), by rw [(malloc_fail hr).1]; exact Nat.lt_succ_self _⟩
  · rw [pair_eta _ hr]
    simp only
    have hm := malloc_ok hr
    have h := EArray.init_full 0 r (m.malloc EQueue.structSize).2
    rcases hres : EArray.init 0 r (m.malloc EQueue.structSize).2 with ⟨_ | a, m2⟩ <;> rw [hres] at h
    · refine ⟨((c1.trans h.1).trans (calls_free m2 false)).cast (by simp [hr]), ?_⟩
      rw [← hm.1]
      exact Nat.lt_of_lt_of_le (h.2.resolve_right (by simp)) (calls_free m2 false).step.r
    · obtain ⟨hinv, -, hsz, -, hc, hrf, hb⟩ := h
      exact ⟨⟨hinv, by simp [hsz]⟩, rfl, rfl, rfl, rfl, (c1.trans hc).cast (by simp [hr]; omega), by rw [hrf, hm.1],
        fun c hcc => hb c (fun i sz => hm.2.2.1 ▸ hcc i sz)⟩

theorem init_spec (r : RecLen) (m : Mem) :
    match EQueue.init r m with
    | (some q, m') => QInv q ∧ q.reclen = r ∧ EQueue.abs q = [] ∧ q.offset = 0 ∧ q.len = 0 ∧
        m'.live = m.live + 2 + bufBlocks q.ea ∧ m'.refusals = m.refusals
    | (none, m') => m'.live = m.live ∧ m'.refusals > m.refusals := by
  have h := init_full r m
  generalize EQueue.init r m = p at h ⊢
  obtain ⟨_ | q, m'⟩ := p
  · exact ⟨by rw [h.1.live]; omega, h.2⟩
  · exact ⟨h.1, h.2.1, h.2.2.1, h.2.2.2.1, h.2.2.2.2.1, by rw [h.2.2.2.2.2.1.live]; omega, h.2.2.2.2.2.2.1⟩

theorem init_none {r : RecLen} {m m' : Mem} (h : EQueue.init r m = (none, m')) :
    m'.live = m.live ∧ m'.refusals > m.refusals := by
  have := init_spec r m; rw [h] at this; exact this

theorem init_some {r : RecLen} {m m' : Mem} {q : EQ} (h : EQueue.init r m = (some q, m')) :
    QInv q ∧ q.reclen = r ∧ EQueue.abs q = [] ∧ q.offset = 0 ∧ q.len = 0 ∧
    m'.live = m.live + 2 + bufBlocks q.ea ∧ m'.refusals = m.refusals := by
  have := init_spec r m; rw [h] at this; exact this

theorem free_live (q : EQ) (m : Mem) : (EQueue.free q m).live = m.live - 2 - bufBlocks q.ea := by
  rw [(free_calls q m).live]; omega

/-- the caller keeps its side of the contract at every operation of the run -/
def Contracts (q : EQ) : List EqOp → Mem → Prop
  | [], _ => True
  | op :: rest, m => eqContract q.reclen.val (EQueue.abs q) op ∧
      Contracts (EQueue.step q op m).2.1 rest (EQueue.step q op m).2.2

theorem run_ok : ∀ (ops : List EqOp) (q : EQ) (m : Mem), QInv q → Contracts q ops m →
    (q.offset + q.len + ops.length) * q.reclen.val ≤ EArray.SIZE_MAX →
    QInv (EQueue.run q ops m).2.1 ∧
    eqAdmitAll (EQueue.abs q) (EQueue.run q ops m).1 = some (EQueue.abs (EQueue.run q ops m).2.1)
  | [], q, m, h, _, _ => ⟨h, rfl⟩
  | op :: rest, q, m, h, hc, hsm => by
    obtain ⟨hc1, hc2⟩ := hc
    have hsm1 : (q.offset + q.len + 1) * q.reclen.val ≤ EArray.SIZE_MAX :=
      Nat.le_trans (Nat.mul_le_mul_right _ (by simp only [List.length_cons]; omega)) hsm
    have hs := qstep_ok q op m h hc1 hsm1
    unfold QStepOk at hs
    obtain ⟨s1, s2, s3, s4⟩ := hs
    have ih := run_ok rest (EQueue.step q op m).2.1 (EQueue.step q op m).2.2 s1 hc2
      (by rw [s2]; exact Nat.le_trans (Nat.mul_le_mul_right _ (by simp only [List.length_cons]; omega)) hsm)
    simp only [EQueue.run]
    rcases hst : EQueue.step q op m with ⟨an, q', m'⟩
    rw [hst] at s3 ih
    simp only at s3 ih ⊢
    rcases hrun : EQueue.run q' rest m' with ⟨tr, q'', m''⟩
    rw [hrun] at ih
    simp only at ih ⊢
    exact ⟨ih.1, by simp only [eqAdmitAll, s3]; exact ih.2⟩

end Percival.Proofs.EQueue
