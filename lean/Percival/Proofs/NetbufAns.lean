import Percival.Proofs.TokText
import Percival.Proofs.NetbufMonSound
import Percival.Driver.Netbuf
import Percival.Driver.Netbufmon
/-!
# `Out.ans` is read ∘ print (C07): what `pmodel netbufmon` reads of a line `pmodel netbuf` prints

`Driver/Netbuf.render o` is the tokens `Netbuf.l1Toks o` joined by single spaces, followed by ` | ` and the L2 part;
`Driver/Netbufmon.parseAns` reads a list of tokens.  `parseAns_l1Toks`: **for every typed output `o` whose callback
records could be printed (`OutReadable`) and whose shown byte strings are in the form `shownOf` produces (`OutCanon`:
never `.hex []`, which is printed `-` like `.none`), `Netbufmon.parseAns (Netbuf.l1Toks o) = o.ans`** — number
printing / reading (`Std.Data.String.ToNat` / `ToInt`), hex printing / reading (`Proofs/TokText.lean`), the 16 hex digits
of the FNV digest (`hex64_rt`), the `key=value` tokens and the `,` / `:` splitting (`String.split` with a character
pattern) included.  `run_canon`: every output of `stepOp` on every run from every state is `OutCanon`.
`verdicts_ok`: `Driver.Netbufmon.step` answers `ok` to the L1 tokens of every line `Driver.Netbuf.step` prints, for
every sequence of input lines (lines that are not operations included).
Not covered: the cut of the printed line at ` | ` and at the spaces by `Driver/Loop.loopMon` (`String.splitOn " "`) and
`tools/vlib.py`; no token contains a space and cutting with `String.split ' '` gives the tokens back (`split_l1`).
-/
namespace Percival.Proofs.NetbufAns
open Percival.Model Percival.Model.Netbuf Percival.Model.NetbufStep Percival.Spec.NetbufMon Percival.Driver
open Percival.Driver.Netbuf Percival.Driver.Netbufmon Percival.Proofs Percival.Proofs.NetbufMonSound
open Percival.Proofs.TokText

theorem splitCh_eq : @Netbufmon.splitCh = @cut := rfl

theorem foldlM_hexDigits (ds : List Nat) (hds : ∀ d ∈ ds, d < 16) (a : Nat) :
    (ds.map hexDigit).foldlM (fun (acc : Nat) c => (hexVal c).map fun v => acc * 16 + v) a =
      some (ds.foldl (fun acc d => acc * 16 + d) a) := by
  induction ds generalizing a with
  | nil => rfl
  | cons d ds ih =>
    have hd := (hexDigit_val d (hds d (by simp))).1
    simp only [List.map_cons, List.foldlM_cons, hd, Option.map_some, Option.bind_eq_bind, Option.bind_some,
      List.foldl_cons]
    exact ih (fun x hx => hds x (List.mem_cons_of_mem _ hx)) _

theorem foldl_digits (k N : Nat) :
    ((List.range k).map fun i => (N >>> (4 * (k - 1 - i))) % 16).foldl (fun acc d => acc * 16 + d) 0 = N % 16 ^ k := by
  induction k generalizing N with
  | zero => simp [Nat.mod_one]
  | succ k ih =>
    rw [List.range_succ, List.map_append, List.foldl_append]
    have e : ((List.range k).map fun i => (N >>> (4 * (k + 1 - 1 - i))) % 16) =
        ((List.range k).map fun i => ((N / 16) >>> (4 * (k - 1 - i))) % 16) := by
      apply List.map_congr_left
      intro i hi
      have hi := List.mem_range.1 hi
      have e1 : 4 * (k + 1 - 1 - i) = 4 + 4 * (k - 1 - i) := by omega
      rw [e1, Nat.shiftRight_add, Nat.shiftRight_eq_div_pow N 4]
    rw [e, ih]
    simp only [List.map_cons, List.map_nil, List.foldl_cons, List.foldl_nil, Nat.add_sub_cancel, Nat.sub_self,
      Nat.mul_zero, Nat.shiftRight_zero]
    rw [Nat.pow_succ, Nat.mul_comm (16 ^ k) 16, Nat.mod_mul]
    omega

theorem hex64_rt (n : UInt64) : parseHex64 (hex64 n) = some n := by
  unfold parseHex64 hex64
  rw [if_pos (by simp), String.toList_ofList]
  have e : ((List.range 16).map fun i => hexDigit ((n.toNat >>> (4 * (15 - i))) % 16)) =
      ((List.range 16).map fun i => (n.toNat >>> (4 * (16 - 1 - i))) % 16).map hexDigit := by
    rw [List.map_map]; rfl
  rw [e, foldlM_hexDigits _ (by intro d hd; obtain ⟨i, _, rfl⟩ := List.mem_map.1 hd; omega), foldl_digits]
  have : n.toNat % 16 ^ 16 = n.toNat := Nat.mod_eq_of_lt (by have := n.toNat_lt; omega)
  simp [this]

theorem kvTok_eq (k v : String) : kvTok k v = k ++ "=" ++ v := rfl

theorem kv_kvTok (k v : String) : kv (kvTok k v) k = some v := kvRead_kv k v

/-- `.hex []` is printed `-` like `.none`: `shownOf` never produces it -/
def ShownCanon (sh : Shown) : Prop := sh ≠ .hex []

theorem atom_hex64 (n : UInt64) : Atom (hex64 n) := by
  intro c hc
  unfold hex64 at hc
  rw [String.toList_ofList] at hc
  obtain ⟨i, _, rfl⟩ := List.mem_map.1 hc
  exact wordCh_hex (hexDigit_val _ (Nat.mod_lt _ (by omega))).2

theorem showShown_digest (n : Nat) (h : UInt64) : showShown (.digest n h) = "#" ++ toString n ++ ":" ++ hex64 h := by
  simp [showShown, shownParts, String.intercalate_cons_cons, String.intercalate_singleton]

theorem parseShown_showShown (sh : Shown) (hc : ShownCanon sh) : parseShown (showShown sh) = some sh := by
  cases sh with
  | none => simp [showShown, shownParts, parseShown, String.intercalate_singleton]
  | hex b =>
    have hne : hexOfBytes b ≠ "-" := by
      cases b with
      | nil => exact absurd rfl hc
      | cons x xs => exact hexOfBytes_ne_dash x xs
    rw [showShown, shownParts, String.intercalate_singleton, parseShown, if_neg hne]
    split
    · -- a hex string does not begin with `#`
      rename_i rest heq
      exact absurd (hex_chars b '#' (by rw [heq]; simp)) (by unfold hexCh; decide)
    · rw [hex_rt]; rfl
  | digest n h =>
    have e : ("#" ++ toString n ++ ":" ++ hex64 h).toList = '#' :: (toString n ++ ":" ++ hex64 h).toList := by
      simp [String.toList_append]
    rw [showShown_digest, parseShown, if_neg (by intro h; have := congrArg String.toList h; simp at this), e]
    simp only [String.ofList_toList]
    rw [splitCh_eq, show toString n ++ ":" ++ hex64 h = toString n ++ String.singleton ':' ++ hex64 h from rfl,
      cut_kv ':' _ _ ((atom_nat n).free rfl) ((atom_hex64 h).free rfl)]
    simp [hex64_rt]

theorem shownParts_atoms (sh : Shown) : Atoms (shownParts sh) := by
  cases sh with
  | none => simp only [shownParts, atoms_cons, atoms_nil, and_true]; decide +kernel
  | hex b => simp only [shownParts, atoms_cons, atoms_nil, atom_hex, and_self]
  | digest n h =>
    simp only [shownParts, atoms_cons, atoms_nil, atom_hex64, and_true]
    exact Atom.append (by decide +kernel) (atom_nat n)

theorem shownParts_ne_nil (sh : Shown) : shownParts sh ≠ [] := by cases sh <;> simp [shownParts]

/-- the record can be printed and read back: its bytes were readable and are not the non-canonical `.hex []` -/
def RecOk : CbRec → Prop
  | .succ _ (some sh) => ShownCanon sh
  | .succ _ none => False
  | .status _ => True

theorem recParts_atoms (r : CbRec) : Atoms (recParts r) := by
  have h0 : Atom "0" ∧ Atom "model-oob" := by decide +kernel
  rcases r with ⟨a, _ | sh⟩ | v
  · simp only [recParts, atoms_cons, atoms_nil, h0, atom_nat, and_self]
  · simp only [recParts, atoms_cons, h0, atom_nat, shownParts_atoms, and_self]
  · simp only [recParts, atoms_cons, atoms_nil, atom_int, and_self]

theorem recParts_ne_nil (r : CbRec) : recParts r ≠ [] := by
  cases r with
  | succ a sh => cases sh <;> simp [recParts]
  | status v => simp [recParts]

theorem splitCh_showRec (r : CbRec) : splitCh ':' (showRec r) = recParts r :=
  (recParts_atoms r).cut (c := ':') rfl (recParts_ne_nil r)

theorem showRec_made (r : CbRec) : Made [':'] (showRec r) := (recParts_atoms r).made ':'

theorem parseRec_showRec (r : CbRec) (hr : RecOk r) : parseRec (showRec r) = some (convRec r) := by
  unfold parseRec
  rw [splitCh_showRec]
  cases r with
  | succ a sh =>
    cases sh with
    | none => exact absurd hr id
    | some sh =>
      have := parseShown_showShown sh hr
      unfold showShown at this
      simp [recParts, this, convRec]
  | status v =>
    simp only [recParts]
    rw [int_rt v]; rfl

theorem parseRec_dash : parseRec "-" = none := by
  unfold parseRec
  rw [show splitCh ':' "-" = ["-"] from cut_free ':' "-" (by decide)]
  simp [dash_toInt]

theorem recsStr_eq (recs : List CbRec) : recsStr recs = dashList ',' (recs.map showRec) := by cases recs <;> rfl

theorem parseRecs_recsStr (recs : List CbRec) (h : ∀ r ∈ recs, RecOk r) :
    parseRecs (recsStr recs) = some (recs.map convRec) := by
  rw [recsStr_eq]
  exact readDashList_map ',' (by decide) parseRec_dash recs (fun r hr => parseRec_showRec r (h r hr))
    fun r _ => (showRec_made r).free rfl (by decide)

def OutCanon : Out → Prop
  | .peek _ sh _ => ShownCanon sh
  | .spin recs _ _ sh _ _ _ => (∀ a s, CbRec.succ a (some s) ∈ recs → ShownCanon s) ∧ ShownCanon sh
  | _ => True

theorem recOk_of (recs : List CbRec) (h1 : ∀ r ∈ recs, Readable r)
    (h2 : ∀ a s, CbRec.succ a (some s) ∈ recs → ShownCanon s) :
    ∀ r ∈ recs, RecOk r := by
  intro r hr
  cases r with
  | succ a sh =>
    cases sh with
    | some s => exact h2 a s hr
    | none => exact h1 _ hr
  | status v => trivial

theorem peer_atoms (len : Nat) (sh : Shown) : Atoms (toString len :: shownParts sh) :=
  atoms_cons.2 ⟨atom_nat len, shownParts_atoms sh⟩

theorem splitCh_peer (len : Nat) (sh : Shown) :
    splitCh ':' (":".intercalate (toString len :: shownParts sh)) = toString len :: shownParts sh :=
  (peer_atoms len sh).cut (c := ':') rfl (by simp)

/-- **what `pmodel netbufmon` reads of the L1 tokens `pmodel netbuf` prints is `Out.ans`** -/
theorem parseAns_l1Toks (o : Out) (hr : OutReadable o) (hc : OutCanon o) : parseAns (l1Toks o) = o.ans := by
  cases o with
  | failed f => cases f <;> simp [l1Toks, failName, parseAns, Out.ans]
  | badOp | contract | ok | okR r | okW w | okN n r => simp [l1Toks, parseAns, Out.ans]
  | peek n sh r => simp [l1Toks, parseAns, Out.ans, parseShown_showShown sh hc]
  | spin recs fails len sh used r w =>
    have hsh := parseShown_showShown sh hc.2
    unfold showShown at hsh
    simp only [l1Toks, parseAns, kv_kvTok, Option.bind_some, nat_rt, splitCh_peer, hsh,
      parseRecs_recsStr recs (recOk_of recs hr hc.1), Out.ans]
    refine congrArg (fun x => Ans.spin x fails len sh used) (List.map_congr_left ?_)
    intro x _
    cases x with
    | succ a sh => cases sh <;> rfl
    | status v => rfl

theorem kvTok_sp {k v : String} (hk : Atom k) (hv : ' ' ∉ v.toList) : ' ' ∉ (kvTok k v).toList := kv_sp hk hv

theorem showShown_sp (sh : Shown) : ' ' ∉ (showShown sh).toList := ((shownParts_atoms sh).made ':').free rfl (by decide)

theorem recsStr_sp (recs : List CbRec) : ' ' ∉ (recsStr recs).toList := by
  rw [recsStr_eq]
  exact (Made.dashList ',' fun r _ => showRec_made r).free rfl (by decide)

theorem peer_sp (len : Nat) (sh : Shown) : ' ' ∉ (":".intercalate (toString len :: shownParts sh)).toList :=
  ((peer_atoms len sh).made ':').free rfl (by decide)

theorem vocab : Atom "bad-op" ∧ Atom "contract" ∧ Atom "peek" ∧ Atom "spin" ∧ Atom "r" ∧ Atom "f" ∧ Atom "peer" ∧
    Atom "sa" := by decide +kernel

theorem atom_failName (f : Fail) : Atom (failName f) := by cases f <;> decide +kernel

theorem l1Toks_line (o : Out) : Line (l1Toks o) := by
  cases o <;>
    simp only [l1Toks, line_one, line_more, kvTok_sp, Atom.sp, vocab, words, atom_failName, atom_nat, showShown_sp,
      recsStr_sp, peer_sp, not_false_eq_true, and_self]

theorem split_l1 (o : Out) : splitCh ' ' (" ".intercalate (l1Toks o)) = l1Toks o := (l1Toks_line o).cut

theorem render_eq (o : Out) :
    render o = " ".intercalate (l1Toks o) ++ (match l2Str o with | some s => " | " ++ s | none => "") := rfl

theorem shownOf_canon (b : Spec.ByteStream.Bytes) (n : Nat) : ShownCanon (shownOf b n) := by
  unfold shownOf ShownCanon
  split
  · simp
  · split
    · split
      · simp
      · rename_i h; intro he; injection he with he; subst he; simp at h
    · simp

def RecsCanon (recs : List CbRec) : Prop := ∀ a s, CbRec.succ a (some s) ∈ recs → ShownCanon s

theorem RecsCanon.append {l : List CbRec} (h : RecsCanon l) {x : CbRec}
    (hx : ∀ a s, x = .succ a (some s) → ShownCanon s) : RecsCanon (l ++ [x]) := by
  intro a s hm
  rcases List.mem_append.1 hm with hm | hm
  · exact h a s hm
  · exact hx a s (List.mem_singleton.1 hm).symm

theorem cbRec_canon (s : XSt) (st : Int) (a : Nat) (sh : Shown) (he : NetbufStep.cbRec s st = .succ a (some sh)) :
    ShownCanon sh := by
  unfold NetbufStep.cbRec at he
  split at he
  · injection he with _ he
    split at he
    · injection he with he
      subst he
      exact shownOf_canon _ _
    · cases he
  · cases he

theorem spinR_canon (fuel : Nat) (s : XSt) (recs : List CbRec) (h : RecsCanon recs) :
    RecsCanon (spinR fuel s recs).2 :=
  NetbufStep.spinR_records (P := RecsCanon) (fun s st _ h => h.append fun a sh he => cbRec_canon s st a sh he)
    fuel s recs h

theorem canon_of_plain {o : Out} (h : Plain o) : OutCanon o := by
  cases o with
  | peek n sh r => obtain ⟨b, rfl⟩ := h; exact shownOf_canon b n
  | spin => exact h.elim
  | _ => trivial

theorem step_canon (s : XSt) (op : Op) : OutCanon (stepOp s op).2 := by
  by_cases hop : op = .spin
  · subst hop
    unfold stepOp
    split
    · trivial
    · simp only []
      split
      · trivial
      · have h := spinR_canon (s.loopN + rqWeight s.rq + 2) s [] (fun a sh hm => by cases hm)
        generalize spinR (s.loopN + rqWeight s.rq + 2) s [] = X at h ⊢
        obtain ⟨s1, recs⟩ := X
        simp only []
        generalize spinW s1 s1.wq [] 0 0 = Y
        obtain ⟨s2, peer, fails, used⟩ := Y
        simp only []
        split
        · trivial
        · exact ⟨h, shownOf_canon _ _⟩
  · exact canon_of_plain (stepOp_plain s op hop)

theorem run_canon (ops : List Op) : ∀ (s : XSt), ∀ o ∈ (runOps s ops).2, OutCanon o := by
  induction ops with
  | nil => intro s o ho; simp [runOps] at ho
  | cons op ops ih =>
    intro s o ho
    simp only [runOps, List.mem_cons] at ho
    rcases ho with rfl | ho
    · exact step_canon s op
    · exact ih _ o ho

/-- `Driver.Netbuf.step` with the printed line replaced by the tokens of its L1 part -/
def stepToks (s : XSt) (toks : List String) : XSt × List String :=
  match parseOp toks with
  | some op => let r := stepOp s op; (r.1, l1Toks r.2)
  | none => (s, ["bad-op"])

theorem step_eq_stepToks (s : XSt) (toks : List String) :
    (Netbuf.step s toks).1 = (stepToks s toks).1 ∧
    ∃ l2, (Netbuf.step s toks).2 = " ".intercalate (stepToks s toks).2 ++ l2 ∧
      (l2 = "" ∨ ∃ t, l2 = " | " ++ t) := by
  unfold Netbuf.step stepToks
  cases parseOp toks with
  | none => exact ⟨rfl, "", by simp [String.intercalate_singleton], Or.inl rfl⟩
  | some op =>
    refine ⟨rfl, _, render_eq _, ?_⟩
    cases l2Str (stepOp s op).2 with
    | none => exact Or.inl rfl
    | some t => exact Or.inr ⟨t, rfl⟩

/-- the verdict lines of `pmodel netbufmon` when every operation line is answered with the L1 tokens of the line
`pmodel netbuf` prints for it (lines that are not operations included) -/
def verdicts (s : XSt) (m : MSt) : List (List String) → List String
  | [] => []
  | toks :: rest =>
    let r := stepToks s toks
    let v := Netbufmon.step m toks r.2
    v.2 :: verdicts r.1 v.1 rest

theorem verdicts_ok (lines : List (List String)) : ∀ (s : XSt) (m : MSt), Sound s m →
    verdicts s m lines = List.replicate lines.length "ok" := by
  induction lines with
  | nil => intro s m _; rfl
  | cons toks rest ih =>
    intro s m h
    unfold verdicts stepToks Netbufmon.step
    cases hp : parseOp toks with
    | none =>
      simp only [List.length_cons, List.replicate_succ, if_true]
      rw [show verdicts s m rest = _ from ih s m h]
    | some op =>
      obtain ⟨m', e, h'⟩ := step_sound s m h op
      have ha : parseAns (l1Toks (stepOp s op).2) = (stepOp s op).2.ans :=
        parseAns_l1Toks _ (step_readable s m h op) (step_canon s op)
      simp only [ha, e, List.length_cons, List.replicate_succ]
      rw [show verdicts (stepOp s op).1 m' rest = _ from ih _ m' h']

/-! ## the cut `Driver.loopMon` makes (not proved: stated as a hypothesis) -/

/-- textual copy of the local function `toks` of `Driver.loopMon` (`Driver/Loop.lean`) -/
def loopToks (line : String) : List String := (line.trimAscii.toString.splitOn " ").filter (· ≠ "")

/-- the line the framework hands to `pmodel netbufmon` for the output `o` -/
def monLine (o : Out) : String := "> " ++ " ".intercalate (l1Toks o) ++ "\n"

/-- the hypothesis of `C07.monitor_reads_loop_line_partial`, as a test (`KAT/NetbufAns.lean` evaluates it on an
output of every shape) -/
def loopCutOk (o : Out) : Bool := loopToks (monLine o) == ">" :: splitCh ' ' (" ".intercalate (l1Toks o))

theorem reads_loop_line (o : Out) (hr : OutReadable o) (hc : OutCanon o) (hcut : loopCutOk o = true) :
    ∃ ans, loopToks (monLine o) = ">" :: ans ∧ parseAns ans = o.ans :=
  ⟨l1Toks o, by rw [eq_of_beq hcut, split_l1], parseAns_l1Toks o hr hc⟩

/-- the answers read back from the printed lines of a run are the answers of the run -/
theorem printed_run_ans (ops : List Op) (s : XSt) (m : MSt) (h : Sound s m) :
    ((runOps s ops).2.map fun o => parseAns (splitCh ' ' (" ".intercalate (l1Toks o)))) = (runOps s ops).2.map Out.ans :=
  List.map_congr_left fun o ho => by
    rw [split_l1]
    exact parseAns_l1Toks o (run_readable ops s m h o ho) (run_canon ops s o ho)

end Percival.Proofs.NetbufAns
