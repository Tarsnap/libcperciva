import Percival.Proofs.HttpReader
/-!
# The scripted reader of `pmodel http` refines the proved model of `netbuf_read.c`, one whole wait at a time

`fill_refines`: the event loop of one pending wait (`Model.HttpStep.fill`: `recv` after `recv` of the scripted network
until `k` bytes are buffered or the stream ends) answers exactly what `Model.NetbufRead` answers when it is driven
over the same script with the stream's bytes: there is a sequence of transport completions — `data d₁ … data dₙ`,
closed by `eof` / `err` if the stream ends first — which satisfies the transport contract (`transportOK`), whose
bytes are the next bytes of the stream, under which `NetbufRead.run` stays inside its buffer, makes exactly one
callback, at the end, with the status of `fill`'s answer, and ends with the geometry `fill` ends with.
`readerWait_refines`: the same for `netbuf_read_consume(c)`; `netbuf_read_wait(k)`; event loop.  What the answer says
about the final state (`Proofs.HttpStep.Answer`) is taken from `readerWait_spec` and carried over by `SameGeo`.

The run is built step by step (`run_cons`, `transportOK_cons`, `OneCallback.cons`); the induction over `fill`'s fuel
keeps the stream as `delivered evs ++ rest'`, so no position in it has to be computed.
-/
namespace Percival.Proofs.HttpReader
open Percival.Spec.ByteStream (ROp REv ROut delivered)
open Percival.Model Percival.Model.HttpStep Percival.Model.Netbuf Percival.Proofs.NetbufRead Percival.Proofs.HttpStep

/-- status of the callback with which a completed wait is answered -/
def statusOf : Http.Arrival → Int
  | .more _ => 0
  | .eof => 1
  | .err => -1

/-- a sequence of transport completions only -/
def AllNet (evs : List ROp) : Prop := ∀ op ∈ evs, ∃ ev, op = .net ev

/-- one callback, at the end -/
def OneCallback (evs : List ROp) (outs : List ROut) (st : Int) : Prop :=
  evs ≠ [] ∧ outs = List.replicate (evs.length - 1) .none ++ [.cb st]

theorem AllNet.nil : AllNet [] := fun _ h => absurd h List.not_mem_nil

theorem AllNet.cons (ev : REv) {evs : List ROp} (h : AllNet evs) : AllNet (.net ev :: evs) :=
  List.forall_mem_cons.2 ⟨⟨ev, rfl⟩, h⟩

theorem OneCallback.single (op : ROp) (st : Int) : OneCallback [op] [.cb st] st := ⟨List.cons_ne_nil _ _, rfl⟩

theorem OneCallback.cons (op : ROp) {evs : List ROp} {outs : List ROut} {st : Int} (h : OneCallback evs outs st) :
    OneCallback (op :: evs) (.none :: outs) st := by
  obtain ⟨hne, rfl⟩ := h
  obtain ⟨e, evs, rfl⟩ := List.exists_cons_of_ne_nil hne
  exact ⟨List.cons_ne_nil _ _, rfl⟩

theorem run_cons {nb nb1 nb' : NetbufRead.R} {op : ROp} {ops : List ROp} {o : ROut} {outs : List ROut}
    (h1 : NetbufRead.step nb op = .ok (nb1, o)) (h2 : NetbufRead.run nb1 ops = .ok (nb', outs)) :
    NetbufRead.run nb (op :: ops) = .ok (nb', o :: outs) := by
  simp only [NetbufRead.run, h1, h2, Res.ok_bind, Res.pure_eq]

theorem transportOK_cons {nb nb1 : NetbufRead.R} {op : ROp} {ops : List ROp} {o : ROut} (hf : NetbufRead.fits nb op)
    (h1 : NetbufRead.step nb op = .ok (nb1, o)) (ht : NetbufRead.transportOK nb1 ops) :
    NetbufRead.transportOK nb (op :: ops) :=
  ⟨hf, fun _ _ h => by rw [h1] at h; cases h; exact ht⟩

/-- the stream ends: `callback_read` passes `eof` / `err` on, as `fill` does according to `endReset` -/
theorem end_step {nb : NetbufRead.R} (hp : nb.pending = .read) (b : Bool) :
    ∃ ev, NetbufRead.step nb (.net ev) = .ok ({ nb with pending := .none }, .cb (statusOf (if b then .err else .eof))) ∧
      delivered [.net ev] = [] ∧ NetbufRead.fits nb (.net ev) := by
  cases b
  · exact ⟨.eof, by rw [NetbufRead.step, (end_spec hp).1]; rfl, rfl, trivial⟩
  · exact ⟨.err, by rw [NetbufRead.step, (end_spec hp).2]; rfl, rfl, trivial⟩

/-- one `recv` which delivers `d`, as a step of the run, in the reader's terms -/
theorem recv_step {r : Reader} {nb : NetbufRead.R} {d : List UInt8} (g : Geo nb) (h : SameGeo r nb)
    (hp : nb.pending = .read) (hroom : nb.waitlen ≤ r.cap - r.bufpos) (hd0 : d.length ≠ 0)
    (hfit : d.length ≤ r.cap - r.datalen) :
    ∃ nb1 st, NetbufRead.step nb (.net (.data d)) = .ok (nb1, NetbufRead.outOfStatus st) ∧
      NetbufRead.fits nb (.net (.data d)) ∧ Geo nb1 ∧ window nb1 = window nb ++ d ∧
      SameGeo { r with datalen := r.datalen + d.length } nb1 ∧ nb1.waitlen = nb.waitlen ∧
      (nb.waitlen ≤ r.datalen + d.length - r.bufpos → st = some 0 ∧ nb1.pending = .none) ∧
      (¬ nb.waitlen ≤ r.datalen + d.length - r.bufpos → st = none ∧ nb1.pending = .read) := by
  obtain ⟨e1, e2, e3⟩ := h
  rw [e1, e2] at hroom
  rw [e1, e3] at hfit
  rw [e2, e3]
  obtain ⟨nb1, st, ecb, g1, w1, b1, b2, b3, b4, hdone, hmore⟩ := recv_geometry nb d g hp hroom hd0 hfit
  refine ⟨nb1, st, by rw [NetbufRead.step, ecb]; rfl, fun off len mn hreq => ?_, g1, w1,
    ⟨e1.trans b1.symm, b2.symm, b3.symm⟩, b4, hdone, hmore⟩
  simp only [NetbufRead.request, hp, Option.some.injEq, Prod.mk.injEq] at hreq
  obtain ⟨_, rfl, rfl⟩ := hreq
  exact ⟨Nat.pos_of_ne_zero hd0, hfit⟩

theorem split_at {l : List UInt8} {m n : Nat} (hl : l.length = m) (hn : n ≤ m) :
    ∃ d l', l = d ++ l' ∧ d.length = n ∧ l'.length = m - n :=
  ⟨l.take n, l.drop n, (List.take_append_drop n l).symm, by rw [List.length_take, hl]; exact Nat.min_eq_left hn,
    by rw [List.length_drop, hl]⟩

theorem take_of_append {l d l' : List UInt8} {m m' : Nat} (h : l = d ++ l') (hl : l.length = m) (hl' : l'.length = m') :
    m' ≤ m ∧ d = l.take (m - m') := by
  subst h
  rw [List.length_append] at hl
  exact ⟨by omega, (List.take_left' (by omega)).symm⟩

/-- `(m1 + 1) + 2 ≤ m + 2 ≤ f + 1` -/
theorem fuel_step {m m1 f : Nat} (hf : m + 2 ≤ f + 1) (hm : m1 + 1 ≤ m) : m1 + 2 ≤ f :=
  Nat.le_of_succ_le_succ (Nat.le_trans (Nat.add_le_add_right hm 2) hf)

/-- `a` is the answer of a wait for `k` in the final state `r'`: what `Proofs.HttpStep.Answer` says of `.more` -/
theorem answer_more {k : Nat} {b : Bool} {r' : Reader} {e : Nat} (h : Answer k b r' (.more e)) : avail r' = k + e := by
  rcases h with ⟨hk, he⟩ | ⟨_, _, he⟩
  · cases he
    exact (Nat.add_sub_cancel' hk).symm
  · cases b <;> cases he

theorem answer_ended {k : Nat} {b : Bool} {r' : Reader} {a : Http.Arrival} (h : Answer k b r' a)
    (ha : a = .eof ∨ a = .err) : r'.remaining = 0 ∧ avail r' < k := by
  rcases h with ⟨_, rfl⟩ | ⟨h1, h2, _⟩
  · rcases ha with ha | ha <;> cases ha
  · exact ⟨h2, h1⟩

theorem fill_refines (k : Nat) : ∀ (f : Nat) (r : Reader) (nb : NetbufRead.R) (rest : List UInt8) (r' : Reader)
    (a : Http.Arrival), fill k f r = (r', some a) →
    mu r + 2 ≤ f → Geo nb → SameGeo r nb → nb.pending = .read → nb.waitlen = k → k ≤ r.cap - r.bufpos →
    r.datalen - r.bufpos < k → r.cancelRecv = none → SegOK r.seg → rest.length = r.remaining →
    ∃ evs nb' outs rest', NetbufRead.run nb evs = .ok (nb', outs) ∧ NetbufRead.transportOK nb evs ∧ AllNet evs ∧
      OneCallback evs outs (statusOf a) ∧ rest = delivered evs ++ rest' ∧ rest'.length = r'.remaining ∧
      window nb' = window nb ++ delivered evs ∧ Geo nb' ∧ SameGeo r' nb' ∧ nb'.pending = .none := by
  intro f
  induction f with
  | zero => intro r nb rest r' a _ h; omega
  | succ f ih =>
    intro r nb rest r' a hfill hf hgeo heq hp hwl hroom hlt hcr hok hrest
    rw [fill_recv f hlt hcr] at hfill
    obtain ⟨hrec, hcase⟩ := recvOne_spec r (r.cap - r.datalen) (Nat.sub_pos_of_lt (lt_of_avail_lt hlt hroom)) hok
    generalize recvOne r (r.cap - r.datalen) = p at hfill hrec hcase
    obtain ⟨r1, ans⟩ := p
    -- `r1` is `r` but for the script's fields: geometry, configuration and the hypotheses about them are `r`'s
    obtain ⟨_, _, _, _, rfl⟩ := hrec
    simp only at hcase
    rcases hcase with ⟨h0, rfl, hrem⟩ | ⟨h0, rfl, hrem, hmu⟩ | ⟨h0, n, rfl, hn1, hn2, hrem, hmu⟩
    · -- the stream has ended
      cases hfill
      obtain ⟨ev, hs, hd, hfits⟩ := end_step hp r.endReset
      exact ⟨[.net ev], _, _, rest, run_cons hs rfl, transportOK_cons hfits hs trivial,
        AllNet.cons ev AllNet.nil, OneCallback.single _ _, by rw [hd]; rfl, by rw [hrest, h0, hrem],
        by rw [hd, List.append_nil]; rfl, ⟨hgeo.len, hgeo.pos, hgeo.dat⟩, heq, rfl⟩
    · -- EAGAIN
      exact ih _ nb rest r' a hfill (fuel_step hf hmu) hgeo heq hp hwl hroom hlt hcr hok (hrest.trans hrem.symm)
    · -- n + 1 bytes arrive
      obtain ⟨d, rest1, rfl, hdl, hrest1⟩ := split_at hrest hn2
      rw [← hrem] at hrest1
      obtain ⟨nb1, st, hs, hfits, g1, w1, s1, wl1, hdone, hmore⟩ :=
        recv_step (d := d) hgeo heq hp (hwl ▸ hroom) (hdl ▸ Nat.succ_ne_zero n)
          (by rw [hdl]; exact hn1)
      rw [hdl, hwl] at hdone hmore
      rw [hdl] at s1
      have hf1 := fuel_step hf hmu
      by_cases hd : k ≤ r.datalen + (n + 1) - r.bufpos
      · -- the wait is complete
        obtain ⟨rfl, hpn⟩ := hdone hd
        cases (fill_done (Nat.lt_of_lt_of_le (Nat.succ_pos _) hf1) hd).symm.trans hfill
        exact ⟨[.net (.data d)], nb1, _, rest1, run_cons hs rfl, transportOK_cons hfits hs trivial,
          AllNet.cons _ AllNet.nil, OneCallback.single _ _, by rw [delivered, delivered, List.append_nil], hrest1,
          by rw [delivered, delivered, List.append_nil]; exact w1, g1, s1, hpn⟩
      · -- more is needed
        obtain ⟨rfl, hpr⟩ := hmore hd
        obtain ⟨evs, nb', outs, rest', q1, q2, q3, q4, q5, q6, q7, q8⟩ :=
          ih _ nb1 rest1 r' a hfill hf1 g1 s1 hpr (wl1.trans hwl) hroom
            (Nat.lt_of_not_le hd) hcr hok hrest1
        exact ⟨.net (.data d) :: evs, nb', .none :: outs, rest', run_cons hs q1, transportOK_cons hfits hs q2,
          AllNet.cons _ q3, OneCallback.cons _ q4, by rw [q5, delivered, List.append_assoc], q6,
          by rw [q7, w1, delivered, List.append_assoc], q8⟩

/-- **One whole wait of the scripted reader is a run of `Model.NetbufRead`.**  From a state with the geometry of a
consistent `NetbufRead.R` without an outstanding wait, `readerWait rd c k` answers `a` exactly when
`netbuf_read_consume(c)`, `netbuf_read_wait(k)` followed by the immediate callback, resp. by a sequence of transport
completions which satisfies the transport contract and carries the next bytes of the stream, runs inside its
buffer and makes exactly one callback, the last thing it does, with the status of `a`; the window then holds what
it held without its first `c` bytes followed by the bytes received, and the geometry is again the reader's. -/
theorem readerWait_refines (rd : Reader) (nb : NetbufRead.R) (rest : List UInt8) (c k : Nat)
    (hgeo : Geo nb) (hp : nb.pending = .none) (heq : SameGeo rd nb) (hc : c ≤ nb.datalen - nb.bufpos)
    (hcr : rd.cancelRecv = none) (hok : SegOK rd.seg) (hrest : rest.length = rd.remaining) :
    ∃ rd' a evs nb' outs, readerWait rd c k = (rd', some a) ∧
      NetbufRead.run nb (.consume c :: .wait k :: evs) = .ok (nb', .none :: .none :: outs) ∧
      NetbufRead.transportOK nb (.consume c :: .wait k :: evs) ∧
      (evs = [.fire] ∨ AllNet evs) ∧
      delivered evs = rest.take (rd.remaining - rd'.remaining) ∧
      OneCallback evs outs (statusOf a) ∧ (∀ e, a = .more e → nb'.datalen - nb'.bufpos = k + e) ∧
      (a = .eof ∨ a = .err → rd'.remaining = 0 ∧ nb'.datalen - nb'.bufpos < k) ∧
      window nb' = (window nb).drop c ++ delivered evs ∧
      -- the hypotheses of the next wait
      Geo nb' ∧ nb'.pending = .none ∧ SameGeo rd' nb' ∧
      (rest.drop (rd.remaining - rd'.remaining)).length = rd'.remaining ∧
      rd'.cancelRecv = rd.cancelRecv ∧ rd'.seg = rd.seg := by
  obtain ⟨nb1, ec, g1, w1, p1, s1⟩ := consume_same hgeo heq hc
  obtain ⟨nb2, ew, g2, w2, himm, hread⟩ := wait_same g1 s1 (p1.trans hp) k
  have hs1 : NetbufRead.step nb (.consume c) = .ok (nb1, .none) := by rw [NetbufRead.step, ec]; rfl
  have hs2 : NetbufRead.step nb1 (.wait k) = .ok (nb2, .none) := by rw [NetbufRead.step, ew]; rfl
  -- what `readerWait` answers is known from `Proofs.HttpStep`; what is left is the run from `nb2`
  obtain ⟨rd', a, hrw, -, -, -, -, -, hans⟩ := readerWait_spec rd c k (by rw [avail, heq.2.1, heq.2.2]; exact hc)
    (by rw [heq.2.1, heq.2.2]; exact hgeo.pos) (by rw [heq.1, heq.2.2]; exact hgeo.dat) hcr hok
  have hrun : ∃ evs nb' outs rest', NetbufRead.run nb2 evs = .ok (nb', outs) ∧ NetbufRead.transportOK nb2 evs ∧
      (evs = [.fire] ∨ AllNet evs) ∧ OneCallback evs outs (statusOf a) ∧ rest = delivered evs ++ rest' ∧
      rest'.length = rd'.remaining ∧ window nb' = window nb2 ++ delivered evs ∧ Geo nb' ∧ SameGeo rd' nb' ∧
      nb'.pending = .none := by
    have hrw' := hrw
    rw [readerWait_eq] at hrw'
    have hb : rd.bufpos + c = nb1.bufpos := s1.2.1
    have hd : rd.datalen = nb1.datalen := s1.2.2
    by_cases hk : k ≤ nb1.datalen - nb1.bufpos
    · -- immediate: `callback_success`
      obtain ⟨hpi, s2⟩ := himm hk
      rw [if_pos (by rw [hb, hd]; exact hk)] at hrw'
      cases hrw'
      have hfire : NetbufRead.step nb2 .fire = .ok ({ nb2 with pending := .none }, .cb 0) := by
        rw [NetbufRead.step, fire_spec hpi]; rfl
      exact ⟨[.fire], _, _, rest, run_cons hfire rfl, transportOK_cons trivial hfire trivial, Or.inl rfl,
        OneCallback.single _ _, rfl, hrest, (List.append_nil _).symm, ⟨g2.len, g2.pos, g2.dat⟩, s2, rfl⟩
    · obtain ⟨hpr, hwl, hroom, s2⟩ := hread hk
      rw [if_neg (by rw [hb, hd]; exact hk)] at hrw'
      obtain ⟨hkeep, hrem, -⟩ := prep_spec rd c k
      have hav2 : nb2.datalen - nb2.bufpos < k := by
        rw [← window_length g2, w2, window_length g1]; exact Nat.lt_of_not_le hk
      obtain ⟨evs, nb', outs, rest', q1, q2, q3, q⟩ := fill_refines k _ (prep rd c k) nb2 rest rd' a hrw' (mu_fuel _ k) g2 s2 hpr hwl
        (by rw [s2.1, s2.2.1]; exact hroom) (by rw [s2.2.1, s2.2.2]; exact hav2) (hkeep.cancelRecv.trans hcr) (hkeep.seg ▸ hok)
        (hrest.trans hrem.symm)
      exact ⟨evs, nb', outs, rest', q1, q2, Or.inr q3, q⟩
  obtain ⟨evs, nb', outs, rest', q1, q2, q3, q4, q5, q6, q7, q8, q9, q10⟩ := hrun
  obtain ⟨hle, htake⟩ := take_of_append q5 hrest q6
  have hav : avail rd' = nb'.datalen - nb'.bufpos := by rw [avail, q9.2.1, q9.2.2]
  have hkept := (readerWait_kept rd c k).1
  rw [hrw] at hkept
  exact ⟨rd', a, evs, nb', outs, hrw, run_cons hs1 (run_cons hs2 q1), transportOK_cons trivial hs1 (transportOK_cons trivial hs2 q2),
    q3, htake, q4, fun e he => hav ▸ answer_more (he ▸ hans), fun h => hav ▸ answer_ended hans h, by rw [q7, w2, w1], q8, q10, q9,
    by rw [List.length_drop, hrest]; omega, hkept.cancelRecv, hkept.seg⟩

end Percival.Proofs.HttpReader
