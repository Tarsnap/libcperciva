import Percival.Proofs.DsLines
import Percival.Proofs.EArrayStep
import Percival.Proofs.MPool
/-!
# The allocation oracle under the `ds` harness (C12, C14)

`Ext m m'`: the oracle `m'` is `m` after some requests and releases (same decision function, counters not decreased;
every `MemCalls.Calls` is one: `Calls.ext`).  `Capped`: the harness' oracle grants nothing above `cap`; what a container
function does to the oracle (`EArray.Acct`, proved next to each function in `Proofs/EArray*.lean`, `EQueue.lean`,
`SeqMap.lean`) keeps the array's buffer below it (`Acct.frame`), and a buffer above it is not to be had
(`resize_big_fails`).  `ea_step_acct`: one observable array step, the harness' release of the copy of `exportdup` included.
The pool's blocks are counted by `MPool.R`, which moves along `Ext` (`R_transport`).
-/
namespace Percival.Proofs.DsStep
open Percival.Model Percival.Model.DsStep Percival.Spec.DS Percival.Spec.DSMon
open Percival.Proofs.EArray
open Percival.Proofs.MemCalls (Calls calls_malloc calls_free)

/-- same decision function, request counter and refusal counter not decreased -/
def Ext (m m' : Mem) : Prop := m'.f = m.f ∧ m.n ≤ m'.n ∧ m.refusals ≤ m'.refusals

/-- the harness' oracle: no request above `cap` is ever granted -/
def Capped (m : Mem) : Prop := ∀ i sz, m.f i sz = true → sz ≤ cap

theorem Ext.refl (m : Mem) : Ext m m := ⟨rfl, Nat.le_refl _, Nat.le_refl _⟩
theorem Ext.trans {a b c : Mem} (h1 : Ext a b) (h2 : Ext b c) : Ext a c :=
  ⟨h2.1.trans h1.1, Nat.le_trans h1.2.1 h2.2.1, Nat.le_trans h1.2.2 h2.2.2⟩
theorem Capped.ext {m m' : Mem} (h : Capped m) (e : Ext m m') : Capped m' := by
  intro i sz; rw [e.1]; exact h i sz

theorem malloc_cap {m : Mem} {sz : Nat} (hc : Capped m) (h : (m.malloc sz).1 = true) : sz ≤ cap := hc _ _ h

/-- frame of a function that takes the array `a` under `m` to `a'` under `m'` -/
def FrameA (a : EArray.EA) (m : Mem) (a' : EArray.EA) (m' : Mem) : Prop :=
  Ext m m' ∧ (Capped m → a.alloc ≤ cap → a'.alloc ≤ cap)

theorem _root_.Percival.Proofs.MemCalls.Calls.ext {m m' : Mem} {d : Int} (h : Calls m m' d) : Ext m m' :=
  ⟨h.step.f, h.step.n, h.step.r⟩

theorem ext_free (m : Mem) (b : Bool) : Ext m (m.free b) := (calls_free m b).ext

theorem _root_.Percival.Proofs.EArray.Acct.ext {a a' : EArray.EA} {m m' : Mem} (h : Acct a m a' m') : Ext m m' :=
  h.calls.ext

theorem _root_.Percival.Proofs.EArray.Acct.frame {a a' : EArray.EA} {m m' : Mem} (h : Acct a m a' m') :
    FrameA a m a' m' := ⟨h.ext, h.bound cap⟩

theorem cap_eq : cap = 4194304 := by decide
theorem dataMax_eq : dataMax = 4194304 := by decide

/-- under the harness' oracle no buffer of more than `cap` bytes is to be had -/
theorem resize_big_fails (a : EArray.EA) (n : Nat) (m : Mem) (hc : Capped m) (ha : a.alloc ≤ cap) (hn : cap < n) :
    (EArray.resize a n m).1 = false := by
  have hge := (wantAlloc_spec a.alloc n (by rw [SZ_eq]; rw [cap_eq] at ha; omega)).1
  unfold EArray.resize
  simp only
  rw [if_neg (by omega), if_pos (by omega)]
  cases hr : (m.realloc (a.alloc == 0) (EArray.wantAlloc a.alloc n)).1
  · rw [pair_eta _ hr]
  · have := hc _ _ hr; omega

theorem resizeRec_big_fails (a : EArray.EA) (n : Nat) (r : RecLen) (m : Mem) (hc : Capped m) (ha : a.alloc ≤ cap)
    (hn : cap < n * r.val) : (EArray.resizeRec a n r m).1 = false := by
  unfold EArray.resizeRec
  split
  · rfl
  · rename_i hg; rw [(guard_mod hg).2]; exact resize_big_fails a _ m hc ha hn

/-- … so such an append fails, whatever the caller's buffer holds -/
theorem append_big_fails (a : EArray.EA) (n : Nat) (r : RecLen) (m : Mem) (hc : Capped m) (ha : a.alloc ≤ cap)
    (hn : cap < n * r.val) (data : List UInt8) :
    EArray.append a data n r m = EArray.append a [] n r m ∧ (EArray.append a data n r m).1 = .fail := by
  unfold EArray.append
  simp only
  split
  · exact ⟨rfl, rfl⟩
  · rename_i hg
    have hS := SIZE_MAX_succ
    have hf := resize_big_fails a ((a.size + (n * r.val) % EArray.SZ) % EArray.SZ) m hc ha
      (by rw [(guard_mod (fun h => hg (.inl h))).2] at hg ⊢; rw [Nat.mod_eq_of_lt (by omega)]; omega)
    rcases hres : EArray.resize a ((a.size + (n * r.val) % EArray.SZ) % EArray.SZ) m with ⟨ok, a', m'⟩
    rw [hres] at hf
    cases hf
    exact ⟨rfl, rfl⟩

theorem ea_step_resize_fail {a : EArray.EA} {n : Nat} {r : RecLen} {m : Mem} (fill : List UInt8)
    (h : (EArray.resizeRec a n r m).1 = false) : (EArray.step a (.resize n r fill) m).1.st = .fail := by
  simp only [EArray.step]
  rcases hres : EArray.resizeRec a n r m with ⟨ok, a', m'⟩
  rw [hres] at h
  cases h
  rfl

theorem exportBuf_frame (a : EArray.EA) (r : RecLen) (m : Mem) :
    FrameA a m (EArray.exportBuf a r m).2.1 (EArray.exportBuf a r m).2.2 := by
  have hf := (truncate_acct a m).1.frame
  unfold EArray.exportBuf
  rcases hres : EArray.truncate a m with ⟨ok, a', m'⟩
  rw [hres] at hf
  cases ok
  · exact hf
  · exact ⟨hf.1.trans (ext_free _ _), hf.2⟩

/-- one array step that stays inside storage, the copy of a successful `exportdup` released again by the harness -/
theorem ea_step_acct (a : EArray.EA) (e : EaOp) (m : Mem) (hno : (EArray.step a e m).1.st ≠ .oob) :
    Acct a m (EArray.step a e m).2.1 (eaHarnessFree e (EArray.step a e m).1 (EArray.step a e m).2.2) := by
  obtain ⟨c, hb⟩ := step_acct a e m hno
  refine ⟨?_, hb⟩
  unfold eaHarnessFree
  split
  · next hst hout => exact (c.trans (calls_free _ false)).cast (by simp [handed, hst, hout]; omega)
  · next hneg => exact c.cast (by unfold handed; split <;> simp_all)

theorem mp_step_ext (sz : Nat) (p : MPool.MP) (e : MpOp) (m : Mem) : Ext m (MPool.step sz p e m).2.2 := by
  cases e with
  | malloc => exact (MPool.malloc_calls p sz m).1.ext
  | free x => exact (MPool.free_calls p x m).ext

theorem R_transport {p : MPool.MP} {m m' : Mem} {u : List Nat} {base base' : Int} (h : MPool.R p m u base)
    (e : Ext m m') (hl : m'.live + base = m.live + base') : MPool.R p m' u base' :=
  ⟨h.nodup, h.unodup, h.disj, fun x hx => Nat.lt_of_lt_of_le (h.sfresh x hx) e.2.1,
   fun x hx => Nat.lt_of_lt_of_le (h.ufresh x hx) e.2.1, h.slen, by have := h.live; omega⟩

end Percival.Proofs.DsStep
