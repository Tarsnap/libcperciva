import Percival.Model.B64
import Percival.Spec.Rfc4648
import Percival.Proofs.ByteDecide
import Percival.Proofs.CStr
import Percival.Proofs.Bits
/-! `Model.B64` against `Spec.Rfc4648`.  Both sides work on one 24-bit number per group: three octets make `grp a b c`,
four sextets `val4 v0 v1 v2 v3`, and a group `g` is written as `chars4 g` and denotes `octets3 g` (its digits in base 64
and in base 256).  For the Spec, the bit list of a group is `bits24 g` (`bits_grp`, `bits_val4`), and cutting `bits24 g`
into sixes or eights gives those digits by `natOfBits_testBit`; a short final group is the full group filled up with
zeros and cut short.  For the model, a shift left, a shift right and a mask pick a field of the word (`shl_shr_and`), which
brings its characters and bytes to the same quotients (`writeGroup_eq`, `outBytes_eq`).
The loops are followed on any buffer that holds the bytes from the place they start at (`At`, Proofs/CStr.lean), the
encoder's group by group (`encodeF_eq`).  The decoder is its validation loop as a list function
(`validate`, which accepts exactly `WF`: `validate_split`, `validate_of_wf`) and its group loop as `decAll`.  `decAll s`
is the whole octets of `textBits s`, the text read six bits per character with `'='` as zero (`decAll_eq`); on a well-formed
text these are the bits the Spec reads followed by six zeros per `'='` (`textBits_wf`), and the whole octets of a bit stream
stay when more bits follow (`octets_append`): what the text denotes plus one junk byte per `'='` (`decAll_wf`). -/
namespace Percival.Proofs.B64
open Percival.Model Percival.Spec Percival.Gen Percival.Proofs

/-- Gen obligation: the table in the C source is Table 1 of RFC 4648 followed by '=' -/
theorem b64chars_eq : CodecTables.b64chars = Rfc4648.alphabet ++ [Rfc4648.pad] := by decide

/-! ### Table 1 and its inverse

The table in the source is `alphabet ++ [pad]` (`b64chars_eq`), `alphabet` is `alphaChar` of `0 … 63`, and `alphaVal`
inverts `alphaChar` (two sweeps, over the 64 values and the 256 bytes).  What `strchr` finds in the table follows. -/
section
open Rfc4648

theorem alphaVal_alphaChar' : ∀ v : Fin 64, alphaVal (alphaChar v.val) = some v.val := by decide +kernel
theorem alphaVal_alphaChar (v : Nat) (h : v < 64) : alphaVal (alphaChar v) = some v := alphaVal_alphaChar' ⟨v, h⟩

theorem alphaVal_inv : ∀ c : UInt8, (alphaVal c).all (fun v => v < 64 && alphaChar v == c) = true := by
  decide +kernel

theorem alphaVal_lt (c : UInt8) (v : Nat) (h : alphaVal c = some v) : v < 64 := by
  have := alphaVal_inv c
  simp [h] at this
  exact this.1

theorem alphaChar_alphaVal (c : UInt8) (v : Nat) (h : alphaVal c = some v) : alphaChar v = c := by
  have := alphaVal_inv c
  simp [h] at this
  exact this.2

theorem isAlpha_alphaChar (v : Nat) (h : v < 64) : isAlpha (alphaChar v) = true := by
  simp [isAlpha, alphaVal_alphaChar v h]

theorem alpha_ne_pad (c : UInt8) (h : isAlpha c = true) : (c == pad) = false :=
  beq_false_of_ne (by rintro rfl; exact absurd h (by decide))

theorem tbl_length : B64.tbl.length = 65 := by decide

theorem tbl_getElem? (i : Nat) (h : i < 64) : B64.tbl[i]? = some (alphaChar i) := by
  rw [B64.tbl, b64chars_eq, List.getElem?_append_left (by simp [alphabet, h]), alphabet, List.getElem?_map,
    List.getElem?_range h]
  rfl

theorem tblRd_alpha (i : Nat) (h : i < 64) : tblRd B64.tbl i = .ok (alphaChar i) := by
  simp [tblRd, tbl_getElem? i h]

theorem mem_tbl (c : UInt8) : c ∈ B64.tbl ↔ isAlpha c = true ∨ c = pad := by
  simp only [B64.tbl, b64chars_eq, alphabet, List.mem_append, List.mem_map, List.mem_range, List.mem_singleton, isAlpha]
  constructor
  · rintro (⟨v, hv, rfl⟩ | h)
    · exact Or.inl (by rw [alphaVal_alphaChar v hv]; rfl)
    · exact Or.inr h
  · rintro (h | h)
    · obtain ⟨v, hv⟩ := Option.isSome_iff_exists.mp h
      exact Or.inl ⟨v, alphaVal_lt c v hv, alphaChar_alphaVal c v hv⟩
    · exact Or.inr h

/-- the position of an alphabet character in the table is its value: no earlier entry is the same character,
    because `alphaVal` tells them apart -/
theorem idxOf_tbl (c : UInt8) (v : Nat) (h : alphaVal c = some v) : B64.tbl.idxOf c = v := by
  have hv := alphaVal_lt c v h
  have ht : ∀ j (hj : j < 64), B64.tbl[j]'(by rw [tbl_length]; omega) = alphaChar j := fun j hj =>
    Option.some.inj ((List.getElem?_eq_getElem _).symm.trans (tbl_getElem? j hj))
  rw [List.idxOf, List.findIdx_eq (by rw [tbl_length]; omega)]
  refine ⟨by rw [ht v hv, alphaChar_alphaVal c v h]; exact beq_self_eq_true c, fun j hj => ?_⟩
  rw [ht j (by omega), ← alphaChar_alphaVal c v h]
  refine beq_false_of_ne fun e => ?_
  have := congrArg alphaVal e
  rw [alphaVal_alphaChar j (by omega), alphaVal_alphaChar v hv] at this
  exact absurd (Option.some.inj this) (by omega)

theorem strchr_pad : strchrIdx B64.tbl Rfc4648.pad = some 64 := by decide +kernel

theorem strchr_alpha : ∀ c : UInt8, Rfc4648.isAlpha c = true → strchrIdx B64.tbl c = Rfc4648.alphaVal c := by
  intro c hc
  have h0 : (c == 0) = false := beq_false_of_ne (by rintro rfl; exact absurd hc (by decide))
  obtain ⟨v, hv⟩ := Option.isSome_iff_exists.mp hc
  rw [strchrIdx, h0, idxOf_tbl c v hv, tbl_length, hv]
  simp [alphaVal_lt c v hv, Nat.lt_succ_of_lt]

theorem strchr_none (c : UInt8) (h0 : c ≠ 0) (ha : isAlpha c = false) (hp : c ≠ pad) :
    strchrIdx B64.tbl c = none := by
  have hm : c ∉ B64.tbl := fun hm => by
    rcases (mem_tbl c).mp hm with h | h
    · rw [ha] at h; cases h
    · exact hp h
  rw [strchrIdx, beq_false_of_ne h0, List.idxOf_eq_length hm]
  simp

/-- the test `*in == '\0' || strchr(b64chars, *in) == NULL` rejects exactly the bytes outside alphabet and pad -/
theorem cls_bad (c : UInt8) : (c == 0 || (strchrIdx B64.tbl c).isNone) = !(isAlpha c || c == pad) := by
  by_cases h0 : c = 0
  · subst h0; rfl
  by_cases hp : c = pad
  · subst hp; rw [strchr_pad]; rfl
  cases ha : isAlpha c with
  | true => rw [strchr_alpha c ha, beq_false_of_ne h0, beq_false_of_ne hp]; simpa [isAlpha] using ha
  | false => rw [strchr_none c h0 ha hp, beq_false_of_ne hp]; simp

theorem natOfBits_eq_lsb (l : List Bool) : natOfBits l = Bits.lsb l.reverse := by
  rw [natOfBits, Bits.lsb, List.foldr_reverse]
  congr 1; funext n b; cases b <;> rfl

theorem natOfBits_testBit (n lo m : Nat) :
    natOfBits ((List.range' lo m).reverse.map n.testBit) = n / 2 ^ lo % 2 ^ m := by
  rw [natOfBits_eq_lsb, List.map_reverse, List.reverse_reverse, Bits.lsb_testBits]

/-- the bits `w - 1 … 0` of a number, most significant first -/
def bitsBE (w n : Nat) : List Bool := (List.range' 0 w).reverse.map n.testBit

theorem bitsBE_append (w₁ w₂ x y : Nat) (hy : y < 2 ^ w₂) :
    bitsBE w₁ x ++ bitsBE w₂ y = bitsBE (w₁ + w₂) (2 ^ w₂ * x + y) := by
  apply List.ext_getElem
  · simp [bitsBE]
  · intro i h1 h2
    simp only [bitsBE, List.length_append, List.length_map, List.length_reverse, List.length_range'] at h1
    simp only [bitsBE, List.getElem_append, List.getElem_map, List.getElem_reverse, List.getElem_range', List.length_map,
      List.length_reverse, List.length_range', Nat.testBit_two_pow_mul_add _ hy]
    split <;> split
    · omega
    · congr 1; omega
    · congr 1; omega
    · omega

def bits24 (g : Nat) : List Bool := bitsBE 24 g

def grp (a b c : UInt8) : Nat := a.toNat * 65536 + b.toNat * 256 + c.toNat

def val4 (v0 v1 v2 v3 : Nat) : Nat := v0 * 262144 + v1 * 4096 + v2 * 64 + v3

def chars4 (g : Nat) : List UInt8 :=
  [alphaChar (g / 2 ^ 18 % 2 ^ 6), alphaChar (g / 2 ^ 12 % 2 ^ 6), alphaChar (g / 2 ^ 6 % 2 ^ 6), alphaChar (g / 2 ^ 0 % 2 ^ 6)]

def octets3 (g : Nat) : List UInt8 :=
  [UInt8.ofNat (g / 2 ^ 16 % 2 ^ 8), UInt8.ofNat (g / 2 ^ 8 % 2 ^ 8), UInt8.ofNat (g / 2 ^ 0 % 2 ^ 8)]

theorem mod64_lt (n : Nat) : n % 2 ^ 6 < 64 := Nat.mod_lt _ (by decide)

theorem bits_grp (a b c : UInt8) : bitsOfByte a ++ bitsOfByte b ++ bitsOfByte c = bits24 (grp a b c) := by
  have hb : 2 ^ 8 * b.toNat + c.toNat < 2 ^ 16 := by have := b.toNat_lt; have := c.toNat_lt; omega
  show bitsBE 8 a.toNat ++ bitsBE 8 b.toNat ++ bitsBE 8 c.toNat = bitsBE 24 (grp a b c)
  rw [List.append_assoc, bitsBE_append 8 8 _ _ c.toNat_lt, bitsBE_append 8 16 _ _ hb]
  congr 1; unfold grp; omega

theorem bits_val4 (v0 v1 v2 v3 : Nat) (l1 : v1 < 64) (l2 : v2 < 64) (l3 : v3 < 64) :
    bitsOfSextet v0 ++ bitsOfSextet v1 ++ bitsOfSextet v2 ++ bitsOfSextet v3 = bits24 (val4 v0 v1 v2 v3) := by
  show bitsBE 6 v0 ++ bitsBE 6 v1 ++ bitsBE 6 v2 ++ bitsBE 6 v3 = bitsBE 24 (val4 v0 v1 v2 v3)
  rw [List.append_assoc, List.append_assoc, bitsBE_append 6 6 _ _ l3, bitsBE_append 6 12 _ _ (by omega),
    bitsBE_append 6 18 _ _ (by omega)]
  congr 1; unfold val4; omega

/- Cut into groups of six or eight, `bits24 g` unfolds to the lists `natOfBits_testBit` speaks of. -/
theorem sextets_bits24 (g : Nat) (r : List Bool) :
    (sextets (bits24 g ++ r)).map natOfBits =
      [g / 2 ^ 18 % 2 ^ 6, g / 2 ^ 12 % 2 ^ 6, g / 2 ^ 6 % 2 ^ 6, g / 2 ^ 0 % 2 ^ 6] ++ (sextets r).map natOfBits := by
  rw [← natOfBits_testBit, ← natOfBits_testBit, ← natOfBits_testBit, ← natOfBits_testBit]
  rfl

theorem octets_bits24 (g : Nat) (r : List Bool) : octets (bits24 g ++ r) = octets3 g ++ octets r := by
  rw [octets3, ← natOfBits_testBit, ← natOfBits_testBit, ← natOfBits_testBit]
  rfl

theorem encodeChars_eq (bs : List UInt8) : encodeChars bs = ((sextets (bits bs)).map natOfBits).map alphaChar := by
  rw [List.map_map]; rfl

theorem encodeChars_cons3 (a b c : UInt8) (r : List UInt8) :
    encodeChars (a :: b :: c :: r) = chars4 (grp a b c) ++ encodeChars r := by
  have : bits (a :: b :: c :: r) = bits24 (grp a b c) ++ bits r := by
    rw [← bits_grp]; simp [bits]
  rw [encodeChars_eq, this, sextets_bits24, List.map_append, ← encodeChars_eq]
  rfl

theorem encode_cons3 (a b c : UInt8) (r : List UInt8) : encode (a :: b :: c :: r) = chars4 (grp a b c) ++ encode r := by
  have : padding (a :: b :: c :: r).length = padding r.length := by
    simp only [padding, List.length_cons]
    have : (r.length + 1 + 1 + 1) % 3 = r.length % 3 := by omega
    simp only [this]
  simp only [encode, encodeChars_cons3, this, List.append_assoc]

/- A final group of one or two octets is encoded as the group filled up with zero octets, cut short: the zero bits the
   Spec adds are the bits of the zero octets (by evaluation of the two sides). -/
theorem encode_one (a : UInt8) : encode [a] = (chars4 (grp a 0 0)).take 2 ++ [pad, pad] :=
  (show encode [a] = (encodeChars [a, 0, 0]).take 2 ++ [pad, pad] from rfl).trans (by rw [encodeChars_cons3]; rfl)

theorem encode_two (a b : UInt8) : encode [a, b] = (chars4 (grp a b 0)).take 3 ++ [pad] :=
  (show encode [a, b] = (encodeChars [a, b, 0]).take 3 ++ [pad] from rfl).trans (by rw [encodeChars_cons3]; rfl)

theorem chars4_alpha (g : Nat) : ∀ c ∈ chars4 g, isAlpha c = true := by
  simp only [chars4, List.mem_cons, List.not_mem_nil, or_false]
  rintro c (rfl | rfl | rfl | rfl) <;> exact isAlpha_alphaChar _ (mod64_lt _)

/-- where `octets` stops, fewer than eight bits are left -/
theorem lt8 : ∀ l : List Bool, (∀ a b c d e f g h rest, l = a :: b :: c :: d :: e :: f :: g :: h :: rest → False) → l.length < 8
  | [], _ | [_], _ | [_, _], _ | [_, _, _], _ | [_, _, _, _], _ | [_, _, _, _, _], _ | [_, _, _, _, _, _], _
  | [_, _, _, _, _, _, _], _ => by simp
  | a :: b :: c :: d :: e :: f :: g :: h :: rest, hl => absurd rfl (hl a b c d e f g h rest)

theorem octets_length (l : List Bool) : (octets l).length = l.length / 8 := by
  fun_induction octets l with
  | case1 a b c d e f g h rest ih => simp only [List.length_cons, ih]; omega
  | case2 l hl => rw [Nat.div_eq_of_lt (lt8 l hl)]; rfl

/-- the whole octets of a bit stream stay when more bits follow; what the rest adds comes after them -/
theorem octets_append (x y : List Bool) :
    ∃ junk, octets (x ++ y) = octets x ++ junk ∧ junk.length = (x.length % 8 + y.length) / 8 := by
  fun_induction octets x with
  | case1 a b c d e f g h rest ih =>
    obtain ⟨junk, e1, e2⟩ := ih
    exact ⟨junk, by simp only [List.cons_append, octets, e1], by rw [e2]; simp only [List.length_cons]; omega⟩
  | case2 l hl =>
    exact ⟨octets (l ++ y), rfl, by rw [octets_length, List.length_append, Nat.mod_eq_of_lt (lt8 l hl)]⟩
end

theorem shr_and (t k m : UInt32) (w : Nat) (hm : m.toNat = 2 ^ w - 1) (hk : k.toNat < 32) :
    ((t >>> k) &&& m).toNat = t.toNat / 2 ^ k.toNat % 2 ^ w := by
  rw [UInt32.toNat_and, UInt32.toNat_shiftRight, hm, Nat.and_two_pow_sub_one_eq_mod, Nat.shiftRight_eq_div_pow,
    Nat.mod_eq_of_lt hk]

/-- `((t << s) >> k) & m` with `s ≤ k` and the field inside the word: the field `k - s` of `t`, whatever was shifted out -/
theorem shl_shr_and (t s k m : UInt32) (w : Nat) (hm : m.toNat = 2 ^ w - 1) (hs : s.toNat ≤ k.toNat)
    (hk : k.toNat + w ≤ 32) (hw : 0 < w) :
    (((t <<< s) >>> k) &&& m).toNat = t.toNat / 2 ^ (k.toNat - s.toNat) % 2 ^ w := by
  have e32 : 2 ^ 32 = 2 ^ k.toNat * 2 ^ (32 - k.toNat) := by
    rw [← Nat.pow_add, show k.toNat + (32 - k.toNat) = 32 by omega]
  have ek : 2 ^ k.toNat = 2 ^ (k.toNat - s.toNat) * 2 ^ s.toNat := by
    rw [← Nat.pow_add, show k.toNat - s.toNat + s.toNat = k.toNat by omega]
  rw [shr_and _ _ _ w hm (by omega), UInt32.toNat_shiftLeft, Nat.shiftLeft_eq, Nat.mod_eq_of_lt (by omega : s.toNat < 32),
    e32, Nat.mod_mul_right_div_self, Nat.mod_mod_of_dvd _ (Nat.pow_dvd_pow 2 (by omega)), ek,
    Nat.mul_div_mul_right _ _ (Nat.two_pow_pos _)]

theorem toNat_shl_add (t x s : UInt32) (m : Nat) {n v : Nat} (hm : 2 ^ (s.toNat % 32) = m) (ht : t.toNat = n)
    (hx : x.toNat = v) (hb : n * m + v < 4294967296) : ((t <<< s) + x).toNat = n * m + v := by
  rw [UInt32.toNat_add, UInt32.toNat_shiftLeft, Nat.shiftLeft_eq, hm, ht, hx,
    Nat.mod_eq_of_lt (Nat.lt_of_le_of_lt (Nat.le_add_right _ _) hb)]
  exact Nat.mod_eq_of_lt hb

/-- the 24-bit group `for (t = 0, j = 0; j < 3; j++) { t <<= 8; t += … }` builds from three bytes -/
theorem grp_toNat (a b c : UInt8) :
    (((((0 : UInt32) <<< 8) + a.toUInt32) <<< 8 + b.toUInt32) <<< 8 + c.toUInt32).toNat = grp a b c := by
  have ha := a.toNat_lt
  have hb := b.toNat_lt
  have hc := c.toNat_lt
  rw [toNat_shl_add _ _ 8 256 rfl (toNat_shl_add _ _ 8 256 rfl (toNat_shl_add 0 _ 8 256 (n := 0) rfl rfl
    (UInt8.toNat_toUInt32 a) (by omega)) (UInt8.toNat_toUInt32 b) (by omega)) (UInt8.toNat_toUInt32 c) (by omega), grp]
  omega

open Rfc4648 in
theorem writeGroup_eq (t : UInt32) (g len : Nat) (hl : 1 ≤ len) (ht : t.toNat = g) :
    B64.writeGroup t len = .ok ((chars4 g).take (len + 1) ++ List.replicate (3 - len) pad) := by
  have e0 : ((t >>> 18) &&& 0x3f).toNat = g / 2 ^ 18 % 2 ^ 6 := ht ▸ shr_and t 18 0x3f 6 rfl (by decide)
  have e1 : (((t <<< 6) >>> 18) &&& 0x3f).toNat = g / 2 ^ 12 % 2 ^ 6 :=
    ht ▸ shl_shr_and t 6 18 0x3f 6 rfl (by decide) (by decide) (by decide)
  have e2 : (((t <<< 12) >>> 18) &&& 0x3f).toNat = g / 2 ^ 6 % 2 ^ 6 :=
    ht ▸ shl_shr_and t 12 18 0x3f 6 rfl (by decide) (by decide) (by decide)
  have e3 : (((t <<< 18) >>> 18) &&& 0x3f).toNat = g / 2 ^ 0 % 2 ^ 6 :=
    ht ▸ shl_shr_and t 18 18 0x3f 6 rfl (by decide) (by decide) (by decide)
  simp only [B64.writeGroup, B64.outChar, e0, e1, e2, e3, Nat.zero_le, hl, if_true, tblRd_alpha _ (mod64_lt _), Res.ok_bind]
  match len, hl with
  | 1, _ => rfl
  | 2, _ => simp [chars4, pad]
  | len + 3, _ => simp [chars4]

/-- the group read when `l` is what is left of the input: up to three of its bytes, then zeros -/
theorem readGroup_eq {b : Buf} {pos : Nat} {l : List UInt8} (h : At b pos l) :
    ∃ t, B64.readGroup b pos l.length = .ok t ∧ t.toNat = grp (l[0]?.getD 0) (l[1]?.getD 0) (l[2]?.getD 0) := by
  have step : ∀ j t, B64.grpStep b pos l.length j t = .ok ((t <<< 8) + (l[j]?.getD 0).toUInt32) := by
    intro j t
    unfold B64.grpStep
    split
    · next hj => rw [h.get (List.getElem?_eq_getElem hj), List.getElem?_eq_getElem hj]; rfl
    · next hj => rw [List.getElem?_eq_none (by omega)]; exact congrArg _ (UInt32.add_zero _).symm
  exact ⟨_, by simp only [B64.readGroup, step, Res.ok_bind], grp_toNat _ _ _⟩

theorem encodeF_zero (inb : Buf) (f pos : Nat) (h : 1 ≤ f) : B64.encodeF inb f pos 0 = .ok [0] := by
  match f, h with
  | f+1, _ => simp [B64.encodeF]

theorem encodeF_eq {b : Buf} (f : Nat) : ∀ (pos : Nat) (l : List UInt8), At b pos l → (l.length + 2) / 3 + 1 ≤ f →
    B64.encodeF b f pos l.length = .ok (Rfc4648.encode l ++ [0]) := by
  induction f with
  | zero => intro pos l _ h; omega
  | succ f ih =>
    intro pos l hb h
    match l, hb, h with
    | [], _, _ => simp [B64.encodeF]; decide
    | [x], hb, h =>
      obtain ⟨t, h1, h2⟩ := readGroup_eq hb
      simp at h1 h2
      have hw := writeGroup_eq t _ 1 (Nat.le_refl _) h2
      have hf : 1 ≤ f := by simp at h; omega
      simp [B64.encodeF, h1, hw, encodeF_zero _ _ _ hf, encode_one]
    | [x, y], hb, h =>
      obtain ⟨t, h1, h2⟩ := readGroup_eq hb
      simp at h1 h2
      have hw := writeGroup_eq t _ 2 (by omega) h2
      have hf : 1 ≤ f := by simp at h; omega
      simp [B64.encodeF, h1, hw, encodeF_zero _ _ _ hf, encode_two]
    | x :: y :: z :: r, hb, h =>
      obtain ⟨t, h1, h2⟩ := readGroup_eq hb
      simp at h1 h2
      have hw := writeGroup_eq t _ (r.length + 3) (by omega) h2
      have hf : (r.length + 2) / 3 + 1 ≤ f := by simp at h; omega
      have hm : min (r.length + 3) 3 = 3 := by omega
      have hn : ¬ (r.length + 1 + 1 + 1 < 3) := by omega
      have this' := ih (pos + 3) r (hb.drop 3) hf
      simp [B64.encodeF, h1, hw, encode_cons3, hm, this', hn, chars4]

/-- `b64encode(in, out, len)` on any buffer that holds the `len` bytes `l` -/
theorem b64encode_at {b : Buf} {l : List UInt8} (h : At b 0 l) :
    B64.b64encode b l.length = .ok (Rfc4648.encode l ++ [0]) :=
  encodeF_eq (l.length / 3 + 2) 0 l h (by omega)

def validate : List UInt8 → Nat → Option Nat
  | [], dead => some dead
  | c :: cs, dead =>
    if Rfc4648.isAlpha c then (if dead > 0 then none else validate cs dead)
    else if c == Rfc4648.pad then validate cs (dead + 1)
    else none

theorem validateF_eq {b : Buf} {n : Nat} (f : Nat) : ∀ (i : Nat) (s : List UInt8) (dead : Nat), At b i s →
    n = i + s.length → s.length + 1 ≤ f → B64.validateF b n f i dead = .ok (validate s dead) := by
  induction f with
  | zero => intro i s dead _ _ h; omega
  | succ f ih =>
    intro i s dead hb hn h
    match s, hb, hn, h with
    | [], _, hn, _ => simp [B64.validateF, validate, hn]
    | c :: cs, hb, hn, h =>
      have hlt : i < n := by simp at hn; omega
      have hr : rdR b i = .ok c := hb.head
      have this := fun d => ih (i + 1) cs d (hb.drop 1) (by simp at hn; omega) (by simp at h; omega)
      simp only [B64.validateF, hlt, if_true, hr, Res.ok_bind, cls_bad, validate]
      by_cases ha : Rfc4648.isAlpha c = true
      · have hp := alpha_ne_pad c ha
        have hp' : ¬ c = 0x3d := by simpa [Rfc4648.pad] using hp
        simp [ha, hp', this]
        by_cases hd : 0 < dead <;> simp [hd]
      · simp only [Bool.not_eq_true] at ha
        by_cases hp : (c == Rfc4648.pad) = true
        · have hp' : c = 0x3d := by simpa [Rfc4648.pad] using hp
          subst hp'
          have e : Rfc4648.pad = 61 := rfl
          simp [ha, e, this]
        · simp only [Bool.not_eq_true] at hp
          simp [ha, hp]


theorem validate_body (body rest : List UInt8) (h : ∀ c ∈ body, Rfc4648.isAlpha c = true) :
    validate (body ++ rest) 0 = validate rest 0 := by
  induction body with
  | nil => rfl
  | cons c cs ih =>
    have hc : Rfc4648.isAlpha c = true := h c (by simp)
    have := ih (fun x hx => h x (by simp [hx]))
    simp [validate, hc, this]

theorem validate_split (s : List UInt8) : ∀ d n, validate s d = some n →
    d ≤ n ∧ ∃ body, s = body ++ List.replicate (n - d) Rfc4648.pad ∧ (∀ c ∈ body, Rfc4648.isAlpha c = true) ∧
      (0 < d → body = []) := by
  induction s with
  | nil => intro d n h; simp [validate] at h; subst h; exact ⟨Nat.le_refl _, [], by simp⟩
  | cons c cs ih =>
    intro d n h
    simp only [validate] at h
    by_cases ha : Rfc4648.isAlpha c = true
    · simp only [ha, if_true] at h
      split at h
      · cases h
      · obtain ⟨hd, body, h1, h2, _⟩ := ih d n h
        exact ⟨hd, c :: body, by rw [h1]; rfl, List.forall_mem_cons.mpr ⟨ha, h2⟩, fun h0 => absurd h0 ‹_›⟩
    · by_cases hp : (c == Rfc4648.pad) = true
      · simp only [ha, hp, if_true] at h
        obtain ⟨hd, body, h1, _, h3⟩ := ih (d + 1) n h
        refine ⟨by omega, [], ?_, by simp, fun _ => rfl⟩
        rw [h1, h3 (Nat.succ_pos d), show n - d = (n - (d + 1)) + 1 by omega, List.replicate_succ,
          eq_of_beq hp]; rfl
      · simp [ha, hp] at h

theorem wf_of_validate (s : List UInt8) (n : Nat) (hl : s.length % 4 = 0) (h : validate s 0 = some n) (hn : n ≤ 2) :
    Rfc4648.WF s := by
  obtain ⟨_, body, h1, h2, _⟩ := validate_split s 0 n h
  refine ⟨hl, body, List.replicate n Rfc4648.pad, h1, h2, ?_⟩
  match n, hn with
  | 0, _ => simp
  | 1, _ => simp
  | 2, _ => simp [List.replicate]

theorem validate_of_wf (body pads : List UInt8) (h2 : ∀ c ∈ body, Rfc4648.isAlpha c = true)
    (h3 : pads = [] ∨ pads = [Rfc4648.pad] ∨ pads = [Rfc4648.pad, Rfc4648.pad]) :
    validate (body ++ pads) 0 = some pads.length := by
  rw [validate_body _ _ h2]
  rcases h3 with rfl | rfl | rfl <;> decide


/-- `pos & 0x3f` for the character `c` -/
def cv (c : UInt8) : UInt32 :=
  match strchrIdx B64.tbl c with
  | some p => UInt32.ofNat p &&& 0x3f
  | none => 0

def tOf4 (c0 c1 c2 c3 : UInt8) : UInt32 :=
  ((((((0 : UInt32) <<< 6) + cv c0) <<< 6) + cv c1) <<< 6 + cv c2) <<< 6 + cv c3

def decAll : List UInt8 → List UInt8
  | c0 :: c1 :: c2 :: c3 :: r => B64.outBytes (tOf4 c0 c1 c2 c3) ++ decAll r
  | _ => []

def okc (c : UInt8) : Bool := Rfc4648.isAlpha c || c == Rfc4648.pad

theorem okc_some (c : UInt8) (h : okc c = true) : (strchrIdx B64.tbl c).isSome = true := by
  cases ha : Rfc4648.isAlpha c with
  | true => rw [strchr_alpha c ha]; exact ha
  | false =>
    have : c = Rfc4648.pad := by simpa [okc, ha] using h
    rw [this, strchr_pad]; rfl

theorem cv_lt (c : UInt8) : (cv c).toNat < 64 := by
  unfold cv
  split
  · rw [UInt32.toNat_and]; exact Nat.and_lt_two_pow _ (by decide : (0x3f : UInt32).toNat < 2 ^ 6)
  · decide

theorem cv_pad : cv Rfc4648.pad = 0 := by rw [cv, strchr_pad]; rfl

theorem decStep_eq {b : Buf} {pos : Nat} {l : List UInt8} (hb : At b pos l) (i : Nat) (c : UInt8) (t : UInt32)
    (h : l[i]? = some c) (hc : okc c = true) : B64.decStep b pos i t = .ok ((t <<< 6) + cv c) := by
  have hs := okc_some c hc
  simp only [B64.decStep, hb.get h, Res.ok_bind, cv]
  cases hx : strchrIdx B64.tbl c with
  | none => simp [hx] at hs
  | some p => rfl

theorem decGroup_eq {b : Buf} {pos : Nat} {r : List UInt8} {c0 c1 c2 c3 : UInt8} (hb : At b pos (c0 :: c1 :: c2 :: c3 :: r))
    (h0 : okc c0 = true) (h1 : okc c1 = true) (h2 : okc c2 = true) (h3 : okc c3 = true) :
    B64.decGroup b pos = .ok (tOf4 c0 c1 c2 c3) := by
  simp only [B64.decGroup, decStep_eq hb 0 c0 _ rfl h0, decStep_eq hb 1 c1 _ rfl h1, decStep_eq hb 2 c2 _ rfl h2,
    decStep_eq hb 3 c3 _ rfl h3, Res.ok_bind, tOf4]

theorem decodeF_eq {b : Buf} (f : Nat) : ∀ (pos : Nat) (s : List UInt8), At b pos s → s.length % 4 = 0 →
    (∀ c ∈ s, okc c = true) → s.length / 4 + 1 ≤ f → B64.decodeF b f pos s.length = .ok (decAll s) := by
  induction f with
  | zero => intro pos s _ _ _ h; omega
  | succ f ih =>
    intro pos s hb hl hok h
    match s, hb, hl, hok, h with
    | [], _, _, _, _ => simp [B64.decodeF, decAll]
    | [_], _, hl, _, _ => simp at hl
    | [_, _], _, hl, _, _ => simp at hl
    | [_, _, _], _, hl, _, _ => simp at hl
    | c0 :: c1 :: c2 :: c3 :: r, hb, hl, hok, h =>
      have hg := decGroup_eq hb (hok _ (by simp)) (hok _ (by simp)) (hok _ (by simp)) (hok _ (by simp))
      have hl' : r.length % 4 = 0 := by simp at hl; omega
      have hf : r.length / 4 + 1 ≤ f := by simp at h; omega
      have this' := ih (pos + 4) r (hb.drop 4) hl' (fun c hc => hok c (by simp [hc])) hf
      have hn : ¬ (r.length + 1 + 1 + 1 + 1 < 4) := by omega
      simp [B64.decodeF, hg, this', hn, decAll]

theorem decAll_length : ∀ s : List UInt8, (decAll s).length = 3 * (s.length / 4)
  | [] => rfl
  | [_] => by simp [decAll]
  | [_, _] => by simp [decAll]
  | [_, _, _] => by simp [decAll]
  | _ :: _ :: _ :: _ :: r => by
    simp only [decAll, List.length_append, decAll_length r, List.length_cons, B64.outBytes, List.length_nil]
    omega

/-- anything else is rejected (and nothing was read outside the block, nothing stored) -/
theorem b64decode_not_wf_at {b : Buf} {s : List UInt8} (hb : At b 0 s) (h : ¬ Rfc4648.WF s) :
    B64.b64decode b s.length = .ok none := by
  unfold B64.b64decode
  by_cases hl : s.length % 4 = 0
  · have hv := validateF_eq (s.length + 1) 0 s 0 hb (Nat.zero_add _).symm (Nat.le_refl _)
    simp only [hl, bne_self_eq_false, Bool.false_eq_true, if_false, hv, Res.ok_bind]
    cases hn : validate s 0 with
    | none => rfl
    | some n =>
      by_cases h2 : n > 2
      · simp [h2]
      · exact absurd (wf_of_validate s n hl hn (by omega)) h
  · simp [hl]

theorem okc_of_wf (body pads : List UInt8) (h2 : ∀ c ∈ body, Rfc4648.isAlpha c = true)
    (h3 : pads = [] ∨ pads = [Rfc4648.pad] ∨ pads = [Rfc4648.pad, Rfc4648.pad]) :
    ∀ c ∈ body ++ pads, okc c = true := by
  intro c hc
  simp only [List.mem_append] at hc
  rcases hc with hc | hc
  · simp [okc, h2 c hc]
  · have : c = Rfc4648.pad := by
      rcases h3 with rfl | rfl | rfl <;> simp at hc <;> exact hc
    subst this; rfl

theorem b64decode_wf_acc {b : Buf} {body pads : List UInt8} (hb : At b 0 (body ++ pads))
    (hl : (body ++ pads).length % 4 = 0) (h2 : ∀ c ∈ body, Rfc4648.isAlpha c = true)
    (h3 : pads = [] ∨ pads = [Rfc4648.pad] ∨ pads = [Rfc4648.pad, Rfc4648.pad]) :
    B64.b64decode b (body ++ pads).length =
        .ok (some (decAll (body ++ pads), (decAll (body ++ pads)).length - pads.length)) ∧
      pads.length ≤ (decAll (body ++ pads)).length := by
  have hp : pads.length ≤ 2 := by rcases h3 with rfl | rfl | rfl <;> simp
  have hle : pads.length ≤ (decAll (body ++ pads)).length := by
    rw [decAll_length]
    have : pads.length ≤ (body ++ pads).length := by simp
    generalize (body ++ pads).length = n at *
    omega
  refine ⟨?_, hle⟩
  unfold B64.b64decode
  have hv := validateF_eq ((body ++ pads).length + 1) 0 (body ++ pads) 0 hb (Nat.zero_add _).symm (Nat.le_refl _)
  have hd := decodeF_eq ((body ++ pads).length / 4 + 1) 0 (body ++ pads) hb hl (okc_of_wf body pads h2 h3) (Nat.le_refl _)
  have hp' : ¬ pads.length > 2 := by omega
  simp only [hl, bne_self_eq_false, Bool.false_eq_true, if_false, hv, Res.ok_bind, validate_of_wf body pads h2 h3,
    hp', hd, hle, if_true]


theorem outBytes_eq (t : UInt32) (g : Nat) (ht : t.toNat = g) : B64.outBytes t = octets3 g := by
  have cast : ∀ (x : UInt32) (n : Nat), x.toNat = n % 2 ^ 8 → x.toUInt8 = UInt8.ofNat (n % 2 ^ 8) := fun x n h => by
    rw [← UInt8.toNat_inj, UInt32.toNat_toUInt8, h, UInt8.toNat_ofNat']
  rw [B64.outBytes, octets3, ← ht, cast _ _ (shr_and t 16 0xff 8 rfl (by decide)),
    cast _ _ (shl_shr_and t 8 16 0xff 8 rfl (by decide) (by decide) (by decide)),
    cast _ _ (shl_shr_and t 16 16 0xff 8 rfl (by decide) (by decide) (by decide))]
  rfl

theorem decAll_group (c0 c1 c2 c3 : UInt8) :
    B64.outBytes (tOf4 c0 c1 c2 c3) = octets3 (val4 (cv c0).toNat (cv c1).toNat (cv c2).toNat (cv c3).toNat) := by
  have l0 := cv_lt c0
  have l1 := cv_lt c1
  have l2 := cv_lt c2
  have l3 := cv_lt c3
  refine outBytes_eq _ _ ?_
  rw [tOf4, toNat_shl_add _ _ 6 64 rfl (toNat_shl_add _ _ 6 64 rfl (toNat_shl_add _ _ 6 64 rfl
    (toNat_shl_add 0 _ 6 64 (n := 0) rfl rfl rfl (by omega)) rfl (by omega)) rfl (by omega)) rfl (by omega), val4]
  omega

section
open Rfc4648

/-- the text as the decoder reads it: six bits per character, `'='` counting as zero -/
def textBits (s : List UInt8) : List Bool := s.flatMap fun c => bitsOfSextet (cv c).toNat

theorem cv_alpha (c : UInt8) (v : Nat) (h : alphaVal c = some v) : (cv c).toNat = v := by
  have hl := alphaVal_lt c v h
  rw [cv, strchr_alpha c (by rw [isAlpha, h]; rfl), h, UInt32.toNat_and, UInt32.toNat_ofNat', Nat.mod_eq_of_lt (by omega)]
  exact (Nat.and_two_pow_sub_one_eq_mod v 6).trans (Nat.mod_eq_of_lt hl)

/-- on the alphabet characters the decoder reads what the Spec reads; each `'='` adds six zero bits -/
theorem textBits_wf (body pads : List UInt8) (h2 : ∀ c ∈ body, isAlpha c = true)
    (h3 : pads = [] ∨ pads = [pad] ∨ pads = [pad, pad]) :
    textBits (body ++ pads) = charBits body ++ List.replicate (6 * pads.length) false ∧
      (charBits body).length = 6 * body.length := by
  induction body with
  | nil =>
    refine ⟨?_, rfl⟩
    rcases h3 with rfl | rfl | rfl <;> simp only [textBits, List.nil_append, List.flatMap_cons, List.flatMap_nil, cv_pad] <;> rfl
  | cons c cs ih =>
    obtain ⟨v, hv⟩ := Option.isSome_iff_exists.mp (h2 c (by simp))
    obtain ⟨e1, e2⟩ := ih fun x hx => h2 x (by simp [hx])
    have hc : charBits (c :: cs) = bitsOfSextet v ++ charBits cs := by rw [charBits, hv]
    have ht : textBits (c :: cs ++ pads) = bitsOfSextet v ++ textBits (cs ++ pads) := by
      rw [textBits, List.cons_append, List.flatMap_cons, cv_alpha c v hv]; rfl
    refine ⟨by rw [ht, e1, hc, List.append_assoc], ?_⟩
    rw [hc, List.length_append, e2, List.length_cons, Nat.mul_succ, Nat.add_comm]; rfl

theorem decAll_eq : ∀ s : List UInt8, s.length % 4 = 0 → decAll s = octets (textBits s)
  | [], _ => rfl
  | [_], h | [_, _], h | [_, _, _], h => by simp at h
  | c0 :: c1 :: c2 :: c3 :: r, h => by
    have ih := decAll_eq r (by simp only [List.length_cons] at h; omega)
    have : textBits (c0 :: c1 :: c2 :: c3 :: r) = bits24 (val4 (cv c0).toNat (cv c1).toNat (cv c2).toNat (cv c3).toNat) ++ textBits r := by
      rw [← bits_val4 _ _ _ _ (cv_lt c1) (cv_lt c2) (cv_lt c3)]
      simp [textBits]
    rw [decAll, decAll_group, ih, this, octets_bits24]

theorem decAll_wf (body pads : List UInt8) (hl : (body ++ pads).length % 4 = 0)
    (h2 : ∀ c ∈ body, Rfc4648.isAlpha c = true)
    (h3 : pads = [] ∨ pads = [Rfc4648.pad] ∨ pads = [Rfc4648.pad, Rfc4648.pad]) :
    ∃ junk, decAll (body ++ pads) = Rfc4648.octets (Rfc4648.charBits body) ++ junk ∧ junk.length = pads.length := by
  obtain ⟨e1, e2⟩ := textBits_wf body pads h2 h3
  obtain ⟨junk, e, hj⟩ := octets_append (charBits body) (List.replicate (6 * pads.length) false)
  refine ⟨junk, by rw [decAll_eq _ hl, e1, e], ?_⟩
  have hp : pads.length ≤ 2 := by rcases h3 with rfl | rfl | rfl <;> simp
  rw [hj, e2, List.length_replicate]
  rw [List.length_append] at hl
  omega

end

theorem body_eq (body pads : List UInt8) (h2 : ∀ c ∈ body, Rfc4648.isAlpha c = true)
    (h3 : pads = [] ∨ pads = [Rfc4648.pad] ∨ pads = [Rfc4648.pad, Rfc4648.pad]) :
    Rfc4648.body (body ++ pads) = body := by
  rw [Rfc4648.body, List.takeWhile_append_of_pos fun c hc => by simp [bne, alpha_ne_pad c (h2 c hc)]]
  rcases h3 with rfl | rfl | rfl <;> simp [Rfc4648.pad]

theorem b64decode_wf_at {b : Buf} {s : List UInt8} (hb : At b 0 s) (h : Rfc4648.WF s) :
    ∃ w n, B64.b64decode b s.length = .ok (some (w, n)) ∧ w.take n = Rfc4648.decode s ∧
      w.length = 3 * (s.length / 4) ∧ n ≤ w.length := by
  obtain ⟨hl, body, pads, rfl, h2, h3⟩ := h
  obtain ⟨hacc, hle⟩ := b64decode_wf_acc hb hl h2 h3
  obtain ⟨junk, hj1, hj2⟩ := decAll_wf body pads hl h2 h3
  refine ⟨_, _, hacc, ?_, decAll_length _, Nat.sub_le _ _⟩
  rw [Rfc4648.decode, body_eq body pads h2 h3, hj1, List.length_append, hj2, Nat.add_sub_cancel]
  simp

/-! On a block that is exactly the text: -/

theorem b64decode_wf (s : List UInt8) (h : Rfc4648.WF s) :
    ∃ w n, B64.b64decode s.toArray s.length = .ok (some (w, n)) ∧ w.take n = Rfc4648.decode s ∧
      w.length = 3 * (s.length / 4) ∧ n ≤ w.length := b64decode_wf_at (At.of_list s) h

theorem b64decode_not_wf (s : List UInt8) (h : ¬ Rfc4648.WF s) : B64.b64decode s.toArray s.length = .ok none :=
  b64decode_not_wf_at (At.of_list s) h


section
open Rfc4648

theorem encode_wf : ∀ b : List UInt8, WF (encode b)
  | [] => ⟨rfl, [], [], rfl, by simp, Or.inl rfl⟩
  | [a] => by
    rw [encode_one]
    exact ⟨by simp [chars4], _, _, rfl, fun c hc => chars4_alpha _ c (List.mem_of_mem_take hc), Or.inr (Or.inr rfl)⟩
  | [a, b] => by
    rw [encode_two]
    exact ⟨by simp [chars4], _, _, rfl, fun c hc => chars4_alpha _ c (List.mem_of_mem_take hc), Or.inr (Or.inl rfl)⟩
  | a :: b :: c :: r => by
    obtain ⟨hl, body, pads, e, hb, hp⟩ := encode_wf r
    rw [e] at hl
    rw [encode_cons3, e, ← List.append_assoc]
    exact ⟨by simp only [List.length_append, chars4, List.length_cons, List.length_nil] at hl ⊢; omega, _, pads, rfl,
      fun c hc => (List.mem_append.mp hc).elim (chars4_alpha _ c) (hb c), hp⟩

theorem body_alphaChar (v : Nat) (h : v < 64) (s : List UInt8) : body (alphaChar v :: s) = alphaChar v :: body s := by
  have hc' : (alphaChar v != pad) = true := by simp [bne, alpha_ne_pad _ (isAlpha_alphaChar v h)]
  rw [body, List.takeWhile_cons, hc']; rfl

/- The Spec's own round trip stays on the bit stream: the characters of a group carry `bits24` of the group, which
   are the bits of its three octets. -/
theorem bitsOfSextet_slice (g lo : Nat) :
    bitsOfSextet (g / 2 ^ lo % 2 ^ 6) = (List.range' lo 6).reverse.map g.testBit := by
  have h : ∀ k, k < 6 → (g / 2 ^ lo % 2 ^ 6).testBit k = g.testBit (lo + k) := fun k hk => by
    rw [Nat.testBit_mod_two_pow, Nat.testBit_div_two_pow, Nat.add_comm]; simp [hk]
  rw [bitsOfSextet, h 5 (by decide), h 4 (by decide), h 3 (by decide), h 2 (by decide), h 1 (by decide), h 0 (by decide)]
  rfl

theorem charBits_chars4 (g : Nat) (r : List UInt8) : charBits (chars4 g ++ r) = bits24 g ++ charBits r := by
  simp only [chars4, List.cons_append, List.nil_append, charBits, alphaVal_alphaChar, mod64_lt, bitsOfSextet_slice]
  rfl

theorem octets_bitsOfByte (a : UInt8) (r : List Bool) : octets (bitsOfByte a ++ r) = a :: octets r := by
  have : natOfBits (bitsOfByte a) = a.toNat := (natOfBits_testBit a.toNat 0 8).trans (by have := a.toNat_lt; omega)
  show UInt8.ofNat (natOfBits (bitsOfByte a)) :: octets r = _
  rw [this, UInt8.ofNat_toNat]

theorem body_chars4 (g : Nat) (s : List UInt8) : body (chars4 g ++ s) = chars4 g ++ body s := by
  simp only [chars4, List.cons_append, List.nil_append, body_alphaChar _ (mod64_lt _)]

theorem decode_encode : ∀ b : List UInt8, decode (encode b) = b
  | [] => rfl
  | [a] => by
    have h : charBits ((chars4 (grp a 0 0)).take 2) = (bits24 (grp a 0 0)).take 12 := by
      simp only [chars4, List.take_succ_cons, List.take_zero, charBits, alphaVal_alphaChar, mod64_lt, bitsOfSextet_slice]
      rfl
    rw [decode, encode_one, body_eq _ _ (fun c hc => chars4_alpha _ c (List.mem_of_mem_take hc)) (.inr (.inr rfl)), h,
      ← bits_grp]
    show octets (bitsOfByte a ++ [false, false, false, false]) = [a]
    rw [octets_bitsOfByte]; rfl
  | [a, b] => by
    have h : charBits ((chars4 (grp a b 0)).take 3) = (bits24 (grp a b 0)).take 18 := by
      simp only [chars4, List.take_succ_cons, List.take_zero, charBits, alphaVal_alphaChar, mod64_lt, bitsOfSextet_slice]
      rfl
    rw [decode, encode_two, body_eq _ _ (fun c hc => chars4_alpha _ c (List.mem_of_mem_take hc)) (.inr (.inl rfl)), h,
      ← bits_grp]
    show octets (bitsOfByte a ++ (bitsOfByte b ++ [false, false])) = [a, b]
    rw [octets_bitsOfByte, octets_bitsOfByte]; rfl
  | a :: b :: c :: r => by
    have ih := decode_encode r
    rw [decode] at ih ⊢
    rw [encode_cons3, body_chars4, charBits_chars4, ← bits_grp, List.append_assoc, List.append_assoc, octets_bitsOfByte,
      octets_bitsOfByte, octets_bitsOfByte, ih]

end

open Rfc4648

theorem wfb_iff (s : List UInt8) : wfb s = true ↔ WF s := by
  constructor
  · intro h
    simp only [wfb, Bool.and_eq_true, beq_iff_eq, Bool.or_eq_true, List.all_eq_true] at h
    obtain ⟨hl, hb, hp⟩ := h
    exact ⟨hl, body s, s.drop (body s).length, (List.prefix_iff_eq_append.mp (List.takeWhile_prefix _)).symm, hb, by
      rcases hp with (hp | hp) | hp
      · exact Or.inl hp
      · exact Or.inr (Or.inl hp)
      · exact Or.inr (Or.inr hp)⟩
  · rintro ⟨hl, bd, pads, rfl, hb, hp⟩
    have hbe := body_eq bd pads hb hp
    simp only [wfb, Bool.and_eq_true, beq_iff_eq, Bool.or_eq_true, List.all_eq_true, hbe, List.drop_left']
    refine ⟨hl, hb, ?_⟩
    rcases hp with hp | hp | hp
    · exact Or.inl (Or.inl hp)
    · exact Or.inl (Or.inr hp)
    · exact Or.inr hp

end Percival.Proofs.B64
