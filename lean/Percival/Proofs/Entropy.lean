import Percival.Model.Entropy
import Percival.Proofs.DrbgService
/-!
# Helper lemmas for C11: the model of crypto_entropy.c refines SP 800-90A HMAC_DRBG

`Cfg.doc I M` is the documented configuration with reseed interval `I` and piece size `M` left
open, so that the same lemmas give the theorems at the source's values (256, 65536) and the
quickly evaluated small-parameter examples.

The primitives first: `genLoop_eq`, `update_eq`, `generate_eq`, `reseed_ok`, `instantiate_ok`.  Then the call itself: for
every configuration `read` is `start` (instantiate if need be) followed by the loop (`read_start`), and the loop is the
fold of `piece` (reseed if due, generate) over the pieces of the request (`readLoop_pieces`); at the documented
configuration the fold is `Spec.HmacDrbg.Service.serve` under the abstraction `absD` (`foldPieces_eq`), whence `read_eq`,
`run_eq`.  What `Proofs/DrbgService.lean` says of the service is then read off the loop for the model (`read_props`,
`read_reseed_fails`).  Section `Chunks`: for every configuration, one call is the same request made in calls of
`GENERATE_MAXLEN` bytes (`readChunked_eq`).
-/
namespace Percival.Proofs.Entropy
open Percival Percival.Spec
open Percival.Spec.HmacDrbg (State Params Oracle Outcome getEntropy pieces std)
open Percival.Model.Entropy (Cfg Drbg St readLoop prepend)

theorem blocks_succ (key v : Bytes) (n : Nat) :
    HmacDrbg.blocks key (n+1) v =
      (Hmac.hmacSha256 key v ++ (HmacDrbg.blocks key n (Hmac.hmacSha256 key v)).1,
       (HmacDrbg.blocks key n (Hmac.hmacSha256 key v)).2) := by
  simp [HmacDrbg.blocks, HmacDrbg.hmac]

theorem genLoop_eq (I M : Nat) (key : Bytes) : ∀ (fuel : Nat) (v : Bytes) (rem : Nat), rem ≤ fuel →
    Model.Entropy.genLoop (Cfg.doc I M) key fuel v rem =
      (((HmacDrbg.blocks key ((rem + 32 - 1) / 32) v).1).take rem,
       (HmacDrbg.blocks key ((rem + 32 - 1) / 32) v).2) := by
  intro fuel
  induction fuel with
  | zero =>
    intro v rem h
    have : rem = 0 := by omega
    subst this
    simp [Model.Entropy.genLoop, HmacDrbg.blocks]
  | succ f ih =>
    intro v rem h
    unfold Model.Entropy.genLoop
    by_cases h0 : rem = 0
    · subst h0; simp [HmacDrbg.blocks]
    · simp only [h0, if_false]
      have hl := hmac_length key v
      by_cases hge : rem ≥ 32
      · have hc : (rem + 32 - 1) / 32 = (rem - 32 + 32 - 1) / 32 + 1 := by omega
        have hb : (Cfg.doc I M).blockLen = 32 := rfl
        simp only [hb, hge, if_true, Model.Entropy.hmac]
        rw [ih _ (rem - 32) (by omega), hc, blocks_succ]
        simp only [List.take_append, hl]
        have t1 : List.take 32 (Hmac.hmacSha256 key v) = Hmac.hmacSha256 key v := by
          rw [← hl, List.take_length]
        have t2 : List.take rem (Hmac.hmacSha256 key v) = Hmac.hmacSha256 key v := by
          apply List.take_of_length_le; omega
        rw [t1, t2]
      · have hc : (rem + 32 - 1) / 32 = 1 := by omega
        have hlt : ¬ (rem ≥ 32) := hge
        have hb : (Cfg.doc I M).blockLen = 32 := rfl
        simp only [hb, hlt, if_false, Model.Entropy.hmac]
        rw [hc, blocks_succ]
        simp [HmacDrbg.blocks]

theorem update_eq (I M : Nat) (d : Drbg) (data : Bytes) :
    Model.Entropy.update (Cfg.doc I M) d data =
      { d with key := (HmacDrbg.update data d.key d.v).1, v := (HmacDrbg.update data d.key d.v).2 } := by
  unfold Model.Entropy.update HmacDrbg.update
  cases data with
  | nil => simp [Cfg.doc, Model.Entropy.hmac, HmacDrbg.hmac]
  | cons a as => simp [Cfg.doc, Model.Entropy.hmac, HmacDrbg.hmac]

/-- the SP 800-90A working state a `drbg` struct denotes -/
def absD (d : Drbg) : State := { K := d.key, V := d.v, reseedCounter := d.reseedCounter.toNat }

/-- the generator state the static variables denote: nothing until `instantiated` is set -/
def abs (st : St) : Option State := if st.instantiated then some (absD st.drbg) else none

theorem generate_eq (I M : Nat) (hI : I + 1 < 2^32) (d : Drbg) (n : Nat)
    (hn : n ≤ M) (hc : d.reseedCounter.toNat ≤ I) :
    ∃ d', Model.Entropy.generate (Cfg.doc I M) d n = some ((HmacDrbg.generateBits (absD d) n).1, d') ∧
      absD d' = (HmacDrbg.generateBits (absD d) n).2 := by
  unfold Model.Entropy.generate
  have h1 : (Cfg.doc I M).generateMaxlen = M := rfl
  have h2 : (Cfg.doc I M).reseedInterval = I := rfl
  have h3 : (Cfg.doc I M).ctrIncrement = 1 := rfl
  rw [h1, h2, h3, if_neg (by omega), if_neg (by omega), genLoop_eq I M _ _ _ _ (Nat.le_refl _)]
  simp only [update_eq]
  refine ⟨_, rfl, ?_⟩
  simp only [absD, HmacDrbg.generateBits, HmacDrbg.outlen]
  congr 1
  rw [UInt32.toNat_add]
  have : (UInt32.ofNat 1).toNat = 1 := by decide
  rw [this]
  have := d.reseedCounter.toNat_lt
  omega

theorem reseed_fail (I M : Nat) (d : Drbg) {o o' : Oracle} (h : getEntropy 32 o = (none, o')) :
    Model.Entropy.reseed (Cfg.doc I M) d o = (none, o') := by
  unfold Model.Entropy.reseed
  have c : (Cfg.doc I M).reseedSeedLen = 32 := rfl
  rw [c, h]

theorem reseed_ok (I M : Nat) (d : Drbg) {o o' : Oracle} {e : Bytes} (h : getEntropy 32 o = (some e, o')) :
    ∃ d1, Model.Entropy.reseed (Cfg.doc I M) d o = (some d1, o') ∧ absD d1 = HmacDrbg.reseed (absD d) e := by
  unfold Model.Entropy.reseed
  have c : (Cfg.doc I M).reseedSeedLen = 32 := rfl
  have c2 : (Cfg.doc I M).reseedUpdateLen = 32 := rfl
  have c3 : (Cfg.doc I M).ctrReseed = 1 := rfl
  have hl := getEntropy_length h
  rw [c, h]
  simp only [c2, c3, update_eq]
  refine ⟨_, rfl, ?_⟩
  have : e.take 32 = e := by rw [← hl, List.take_length]
  rw [this]
  simp [absD, HmacDrbg.reseed]

/-- `generate(buf, k)` inside the loop: a failed assertion ends the call -/
def genPiece (c : Cfg) (d : Drbg) (o : Oracle) (k : Nat) : Outcome × Drbg × Oracle :=
  match Model.Entropy.generate c d k with
  | none => (.abort, d, o)
  | some (out, d') => (.ok out, d', o)

/-- one round of the `while` loop of `crypto_entropy_read`: reseed if the counter is past the interval, then
    generate `k` bytes -/
def piece (c : Cfg) (d : Drbg) (o : Oracle) (k : Nat) : Outcome × Drbg × Oracle :=
  match (if d.reseedCounter.toNat > c.reseedInterval then Model.Entropy.reseed c d o else (some d, o)) with
  | (none, o') => (.fail, d, o')
  | (some d, o) => genPiece c d o k

def andThen {σ : Type} (x : Outcome × σ × Oracle) (f : σ → Oracle → Outcome × σ × Oracle) : Outcome × σ × Oracle :=
  match x with
  | (.ok out, s, o) => prepend out (f s o)
  | r => r

def foldPieces {σ : Type} (step : σ → Oracle → Nat → Outcome × σ × Oracle) :
    σ → Oracle → List Nat → Outcome × σ × Oracle
  | s, o, [] => (.ok [], s, o)
  | s, o, k :: ks => andThen (step s o k) fun s' o' => foldPieces step s' o' ks

theorem readLoop_pieces (c : Cfg) (hM : 0 < c.generateMaxlen) :
    ∀ (fuel : Nat) (d : Drbg) (o : Oracle) (n : Nat), n ≤ fuel →
      readLoop c fuel d o n = foldPieces (piece c) d o (pieces c.generateMaxlen n) := by
  intro fuel
  induction fuel with
  | zero =>
    intro d o n h
    obtain rfl : n = 0 := by omega
    simp [readLoop, pieces_zero, foldPieces]
  | succ f ih =>
    intro d o n h
    by_cases h0 : n = 0
    · subst h0; simp [readLoop, pieces_zero, foldPieces]
    · generalize hk : (if n > c.generateMaxlen then c.generateMaxlen else n) = k
      have hp : pieces c.generateMaxlen n = k :: pieces c.generateMaxlen (n - k) := by
        subst hk
        by_cases hb : n > c.generateMaxlen
        · rw [if_pos hb]; exact pieces_big hM hb
        · rw [if_neg hb, pieces_small (by omega) (by omega), Nat.sub_self, pieces_zero]
      have hkn : n - k ≤ f := by subst hk; split <;> omega
      simp only [readLoop, h0, if_false, hk, hp, foldPieces, andThen, piece, genPiece, ih _ _ _ hkn]
      rcases (if d.reseedCounter.toNat > c.reseedInterval then Model.Entropy.reseed c d o else (some d, o))
        with ⟨_ | d1, o1⟩
      · rfl
      · dsimp only
        rcases Model.Entropy.generate c d1 k with _ | ⟨out, d2⟩
        · rfl
        · dsimp only
          rcases foldPieces (piece c) d2 o1 (pieces c.generateMaxlen (n - k)) with ⟨r | _ | _, d3, o3⟩ <;> rfl

theorem foldPieces_eq (I M : Nat) (hI0 : 0 < I) (hI : I + 1 < 2^32) (hM : M ≤ 65536) :
    ∀ (ps : List Nat) (d : Drbg) (o : Oracle), (∀ k ∈ ps, k ≤ M) →
      mapSt absD (foldPieces (piece (Cfg.doc I M)) d o ps) = HmacDrbg.Service.serve (params I M) (absD d) o ps := by
  intro ps
  induction ps with
  | nil => intro d o _; rfl
  | cons k ks ih =>
    intro d o h
    have hk : k ≤ M := h k (by simp)
    -- Generate from a state within the interval, then the rest of the pieces
    have tail : ∀ (d1 : Drbg) (o1 : Oracle), d1.reseedCounter.toNat ≤ I →
        mapSt absD (andThen (genPiece (Cfg.doc I M) d1 o1 k) fun d' o' => foldPieces (piece (Cfg.doc I M)) d' o' ks) =
          HmacDrbg.Service.prepend (HmacDrbg.generateBits (absD d1) k).1
            (HmacDrbg.Service.serve (params I M) (HmacDrbg.generateBits (absD d1) k).2 o1 ks) := by
      intro d1 o1 hc1
      obtain ⟨d2, hgen, ha2⟩ := generate_eq I M hI d1 k hk hc1
      rw [genPiece, hgen, ← ha2, ← ih d2 o1 fun j hj => h j (by simp [hj])]
      dsimp only [andThen]
      rcases foldPieces (piece (Cfg.doc I M)) d2 o1 ks with ⟨r | _ | _, d, o⟩ <;> rfl
    rw [serve_cons I M hI0 (by omega), foldPieces, piece, show (Cfg.doc I M).reseedInterval = I from rfl]
    by_cases hc : d.reseedCounter.toNat > I
    · rw [if_pos hc, if_pos (show (absD d).reseedCounter > I from hc)]
      rcases hg : getEntropy 32 o with ⟨_ | e, o'⟩
      · rw [reseed_fail I M d hg]; rfl
      · obtain ⟨d1, hr, ha⟩ := reseed_ok I M d hg
        rw [hr]
        dsimp only
        rw [← ha]
        exact tail d1 o' (by rw [show d1.reseedCounter.toNat = 1 from congrArg State.reseedCounter ha]; omega)
    · rw [if_neg hc, if_neg (show ¬ (absD d).reseedCounter > I from hc)]
      exact tail d o (by omega)

/-- the `(I, M)` at which `Cfg.doc I M` refines the service: a positive interval whose counter fits the 32-bit
    `reseed_counter`, a positive piece size within SP 800-90A's 65536 bytes per Generate -/
structure Fits (I M : Nat) : Prop where
  i0 : 0 < I
  i32 : I + 1 < 2^32
  m0 : 0 < M
  m : M ≤ 65536

/-- `RESEED_INTERVAL` and `GENERATE_MAXLEN` of the source -/
theorem fits_source : Fits 256 65536 := ⟨by decide, by decide, by decide, by decide⟩

theorem readLoop_eq {I M : Nat} (hb : Fits I M)
    (d : Drbg) (o : Oracle) (n : Nat) :
    mapSt absD (readLoop (Cfg.doc I M) n d o n) = HmacDrbg.Service.serve (params I M) (absD d) o (pieces M n) := by
  rw [readLoop_pieces _ hb.m0 _ _ _ _ (Nat.le_refl _)]
  exact foldPieces_eq I M hb.i0 hb.i32 hb.m _ d o (pieces_le hb.m0 n)

theorem instantiate_fail (I M : Nat) {o o' : Oracle} (h : getEntropy 48 o = (none, o')) :
    Model.Entropy.instantiate (Cfg.doc I M) o = (none, o') := by
  unfold Model.Entropy.instantiate
  have c : (Cfg.doc I M).instSeedLen = 48 := rfl
  rw [c, h]

theorem instantiate_ok (I M : Nat) {o o' : Oracle} {seed : Bytes} (h : getEntropy 48 o = (some seed, o')) :
    ∃ d, Model.Entropy.instantiate (Cfg.doc I M) o = (some d, o') ∧
      absD d = HmacDrbg.instantiate (seed.take 32) (seed.drop 32) := by
  unfold Model.Entropy.instantiate
  have c : (Cfg.doc I M).instSeedLen = 48 := rfl
  have hl := getEntropy_length h
  rw [c, h]
  simp only [update_eq]
  refine ⟨_, rfl, ?_⟩
  have c2 : (Cfg.doc I M).instUpdateLen = 48 := rfl
  have : seed.take 48 = seed := by rw [← hl, List.take_length]
  rw [c2, this]
  simp [absD, HmacDrbg.instantiate, HmacDrbg.outlen, Cfg.doc]

def start (c : Cfg) (st : St) (o : Oracle) : Option Drbg × Oracle :=
  if st.instantiated = false then Model.Entropy.instantiate c o else (some st.drbg, o)

theorem read_start (c : Cfg) (st : St) (o : Oracle) (n : Nat) :
    Model.Entropy.read c st o n =
      match start c st o with
      | (none, o') => (.fail, st, o')
      | (some d, o') => mapSt (fun d' => { drbg := d', instantiated := true }) (readLoop c n d o' n) := by
  unfold Model.Entropy.read start
  split
  · rcases Model.Entropy.instantiate c o with ⟨_ | d, o'⟩
    · rfl
    · rfl
  · next hi =>
    rw [Bool.not_eq_false] at hi
    obtain ⟨dr, inst⟩ := st
    subst hi
    rfl

theorem read_inst (c : Cfg) (d : Drbg) (o : Oracle) (n : Nat) :
    Model.Entropy.read c ⟨d, true⟩ o n = mapSt (fun d' => { drbg := d', instantiated := true }) (readLoop c n d o n) := by
  rw [read_start]; rfl

theorem abs_eq_some {st : St} {s : State} : abs st = some s ↔ st.instantiated = true ∧ absD st.drbg = s := by
  unfold abs; cases st.instantiated <;> simp

theorem abs_eq_none {st : St} : abs st = none ↔ st.instantiated = false := by
  unfold abs; cases st.instantiated <;> simp

theorem read_loop_eq {I M : Nat} (hb : Fits I M)
    (d : Drbg) (o : Oracle) (n : Nat) :
    mapSt abs (mapSt (fun d' => ({ drbg := d', instantiated := true } : St)) (readLoop (Cfg.doc I M) n d o n)) =
      HmacDrbg.Service.read (params I M) (some (absD d)) o n := by
  rw [sread_some, show (params I M).maxRequest = M from rfl, ← readLoop_eq hb d o n]
  rcases readLoop (Cfg.doc I M) n d o n with ⟨r, d', o'⟩
  rfl

theorem read_eq {I M : Nat} (hb : Fits I M)
    (st : St) (o : Oracle) (n : Nat) :
    mapSt abs (Model.Entropy.read (Cfg.doc I M) st o n) =
      HmacDrbg.Service.read (params I M) (abs st) o n := by
  rw [read_start, start]
  cases hinst : st.instantiated with
  | false =>
    rw [abs_eq_none.2 hinst, if_pos rfl]
    rcases hg : getEntropy 48 o with ⟨_ | seed, o'⟩
    · rw [instantiate_fail I M hg, sread_none_fail (params I M) n hg]
      simp [mapSt, abs_eq_none.2 hinst]
    · obtain ⟨d, hi, hd⟩ := instantiate_ok I M hg
      rw [hi, sread_none_ok (params I M) n hg]
      exact hd ▸ read_loop_eq hb d o' n
  | true =>
    rw [abs_eq_some.2 ⟨hinst, rfl⟩, if_neg (by simp)]
    exact read_loop_eq hb st.drbg o n

theorem run_eq {I M : Nat} (hb : Fits I M) :
    ∀ (reqs : List Nat) (st : St) (o : Oracle),
      Model.Entropy.run (Cfg.doc I M) st o reqs = HmacDrbg.Service.run (params I M) (abs st) o reqs := by
  intro reqs
  induction reqs with
  | nil => intro st o; rfl
  | cons n ns ih =>
    intro st o
    have h := read_eq hb st o n
    unfold Model.Entropy.run at ih ⊢
    unfold Model.Entropy.runFull HmacDrbg.Service.run
    rw [← h]
    generalize Model.Entropy.read (Cfg.doc I M) st o n = r
    obtain ⟨r, st', o'⟩ := r
    simp only [mapSt]
    rw [← ih st' o']

def Inv (I : Nat) (st : St) : Prop :=
  st.instantiated = true →
    1 ≤ st.drbg.reseedCounter.toNat ∧ st.drbg.reseedCounter.toNat ≤ I + 1 ∧
    st.drbg.key.length = 32 ∧ st.drbg.v.length = 32

theorem inv_iff (I : Nat) (st : St) : Inv I st ↔ ∀ s, abs st = some s → InvS I s := by
  unfold Inv abs InvS absD
  cases st.instantiated <;> simp

theorem start_none {c : Cfg} {st : St} {o o1 : Oracle} (h : start c st o = (none, o1)) : st.instantiated = false := by
  unfold start at h
  split at h
  · assumption
  · cases h

theorem start_inv (I M : Nat) {st : St} {o o1 : Oracle} {d : Drbg} (h : start (Cfg.doc I M) st o = (some d, o1))
    (hi : Inv I st) : InvS I (absD d) := by
  unfold start at h
  split at h
  · rcases hg : getEntropy 48 o with ⟨_ | seed, o'⟩
    · rw [instantiate_fail I M hg] at h; cases h
    · obtain ⟨d1, e, hd⟩ := instantiate_ok I M hg
      rw [e] at h; cases h
      exact hd ▸ (instantiate_inv I _ _).1
  · next hn => cases h; exact hi (by simpa using hn)

theorem read_props {I M : Nat} (hb : Fits I M)
    (st : St) (o : Oracle) (n : Nat) (r : Outcome) (st' : St) (o' : Oracle)
    (h : Model.Entropy.read (Cfg.doc I M) st o n = (r, st', o')) :
    r ≠ .abort ∧ (∀ out, r = .ok out → out.length = n ∧ st'.instantiated = true) ∧
    (Inv I st → Inv I st') ∧
    (r = .fail → (st'.instantiated = false ∧ st' = st) ∨
                 (st'.instantiated = true ∧ st'.drbg.reseedCounter.toNat > I)) := by
  rw [read_start] at h
  rcases hs : start (Cfg.doc I M) st o with ⟨_ | d, o1⟩
  · rw [hs] at h; cases h
    exact ⟨nofun, nofun, id, fun _ => Or.inl ⟨start_none hs, rfl⟩⟩
  · have he := readLoop_eq hb d o1 n
    rcases hx : readLoop (Cfg.doc I M) n d o1 n with ⟨r1, d', o2⟩
    rw [hs] at h; dsimp only at h
    rw [hx] at h he; cases h
    obtain ⟨a1, a2, a3, a4⟩ := serve_props I M hb.i0 _ _ _ (pieces_le' hb.m0 hb.m n) _ _ _ he.symm
    exact ⟨a1, fun out ho => ⟨by rw [a2 out ho, pieces_sum], rfl⟩, fun hi _ => a3 (start_inv I M hs hi),
      fun hf => Or.inr ⟨rfl, a4 hf⟩⟩

theorem read_instantiate_fails (I M : Nat) (st : St) {o o' : Oracle} (n : Nat)
    (hu : st.instantiated = false) (hg : getEntropy 48 o = (none, o')) :
    Model.Entropy.read (Cfg.doc I M) st o n = (.fail, st, o') := by
  unfold Model.Entropy.read
  rw [if_pos hu, instantiate_fail I M hg]

theorem read_reseed_fails {I M : Nat} (hb : Fits I M)
    (st : St) {o o' : Oracle} (n : Nat) (hi : st.instantiated = true)
    (hc : st.drbg.reseedCounter.toNat ≤ I + 1)
    (hn : (pieces M n).length + st.drbg.reseedCounter.toNat > I + 1)
    (hg : getEntropy 32 o = (none, o')) :
    ∃ st', Model.Entropy.read (Cfg.doc I M) st o n = (.fail, st', o') ∧ st'.instantiated = true ∧
      st'.drbg.reseedCounter.toNat = I + 1 := by
  obtain ⟨s', e1, e2⟩ := serve_reseed_fails I M hb.i0 (pieces M n) (absD st.drbg) o o' (pieces_le' hb.m0 hb.m n) hc hn hg
  have he := readLoop_eq hb st.drbg o n
  rw [read_start, start, if_neg (by simp [hi])]
  dsimp only
  rcases hx : readLoop (Cfg.doc I M) n st.drbg o n with ⟨r1, d', o2⟩
  rw [hx] at he
  cases he.trans e1
  exact ⟨⟨d', true⟩, rfl, rfl, e2⟩

theorem runFull_inv {I M : Nat} (hb : Fits I M) :
    ∀ (reqs : List Nat) (st : St) (o : Oracle), Inv I st →
      Inv I (Model.Entropy.runFull (Cfg.doc I M) st o reqs).2.1 := by
  intro reqs
  induction reqs with
  | nil => intro st o h; exact h
  | cons n ns ih =>
    intro st o h
    unfold Model.Entropy.runFull
    rcases hr : Model.Entropy.read (Cfg.doc I M) st o n with ⟨r, st', o'⟩
    simp only []
    exact ih st' o' ((read_props hb _ _ _ _ _ _ hr).2.2.1 h)

theorem run_outcomes {I M : Nat} (hb : Fits I M) :
    ∀ (reqs : List Nat) (st : St) (o : Oracle),
      (Model.Entropy.run (Cfg.doc I M) st o reqs).length = reqs.length ∧
      ∀ r n, (r, n) ∈ (Model.Entropy.run (Cfg.doc I M) st o reqs).zip reqs →
        r ≠ .abort ∧ ∀ out, r = .ok out → out.length = n := by
  intro reqs
  induction reqs with
  | nil => intro st o; simp [Model.Entropy.run, Model.Entropy.runFull]
  | cons n ns ih =>
    intro st o
    unfold Model.Entropy.run at ih ⊢
    unfold Model.Entropy.runFull
    rcases hr : Model.Entropy.read (Cfg.doc I M) st o n with ⟨r, st', o'⟩
    simp only []
    obtain ⟨l, hz⟩ := ih st' o'
    refine ⟨by simp [l], ?_⟩
    intro r2 m hm
    simp only [List.zip_cons_cons, List.mem_cons] at hm
    rcases hm with hm | hm
    · simp at hm
      obtain ⟨rfl, rfl⟩ := hm
      have := read_props hb _ _ _ _ _ _ hr
      exact ⟨this.1, fun out ho => (this.2.1 out ho).1⟩
    · exact hz r2 m hm

theorem inv_init (I : Nat) : Inv I St.init := by
  intro h; simp [St.init] at h

section Chunks
open Percival.Model.Entropy (readChunked chunkSizes)

/-- a request of more than `GENERATE_MAXLEN` bytes: the loop serves the first `GENERATE_MAXLEN` bytes exactly as a
    request for those alone, and goes on from the state and OS answers that request leaves -/
theorem readLoop_split (c : Cfg) (hM : 0 < c.generateMaxlen) (d : Drbg) (o : Oracle) (n : Nat)
    (hn : n > c.generateMaxlen) :
    readLoop c n d o n = andThen (readLoop c c.generateMaxlen d o c.generateMaxlen) fun d' o' =>
      readLoop c (n - c.generateMaxlen) d' o' (n - c.generateMaxlen) := by
  simp only [readLoop_pieces c hM _ _ _ _ (Nat.le_refl _), pieces_big hM hn, pieces_small hM (Nat.le_refl _), foldPieces, andThen]
  rcases piece c d o c.generateMaxlen with ⟨r | _ | _, d1, o1⟩
  · simp [prepend]
  · rfl
  · rfl

theorem read_split (c : Cfg) (hM : 0 < c.generateMaxlen) (st : St) (o : Oracle) (n : Nat)
    (hn : n > c.generateMaxlen) :
    Model.Entropy.read c st o n = andThen (Model.Entropy.read c st o c.generateMaxlen) fun st' o' =>
      Model.Entropy.read c st' o' (n - c.generateMaxlen) := by
  rw [read_start c st o n, read_start c st o c.generateMaxlen]
  rcases start c st o with ⟨_ | d, o1⟩
  · rfl
  · dsimp only
    rw [readLoop_split c hM d o1 n hn]
    rcases readLoop c c.generateMaxlen d o1 c.generateMaxlen with ⟨r | _ | _, d1, o2⟩
    · show mapSt _ (prepend r (readLoop c (n - c.generateMaxlen) d1 o2 (n - c.generateMaxlen))) =
        prepend r (Model.Entropy.read c ⟨d1, true⟩ o2 (n - c.generateMaxlen))
      rw [read_inst]
      rcases readLoop c (n - c.generateMaxlen) d1 o2 (n - c.generateMaxlen) with ⟨r2 | _ | _, d2, o3⟩ <;> rfl
    · rfl
    · rfl

theorem readChunked_eq (c : Cfg) (hM : 0 < c.generateMaxlen) :
    ∀ (fuel : Nat) (st : St) (o : Oracle) (n : Nat), n ≤ fuel → readChunked c fuel st o n = Model.Entropy.read c st o n := by
  intro fuel
  induction fuel with
  | zero =>
    intro st o n h
    have : n = 0 := by omega
    subst this
    simp [readChunked]
  | succ fuel ih =>
    intro st o n h
    by_cases hn : n > c.generateMaxlen
    · simp only [readChunked, hn, if_true]
      rw [read_split c hM st o n hn]
      rcases h1 : Model.Entropy.read c st o c.generateMaxlen with ⟨r | _ | _, st1, o1⟩
      · simp only
        rw [ih st1 o1 (n - c.generateMaxlen) (by omega)]
        rfl
      · rfl
      · rfl
    · simp only [readChunked, hn, if_false]

theorem chunkSizes_spec (M : Nat) (hM : 0 < M) : ∀ (fuel n : Nat), n ≤ fuel →
    (∀ k ∈ chunkSizes M fuel n, k ≤ M) ∧ (chunkSizes M fuel n).sum = n ∧
    (chunkSizes M fuel n).length = (n - 1) / M + 1 := by
  intro fuel
  induction fuel with
  | zero =>
    intro n h
    have : n = 0 := by omega
    subst this
    simp [chunkSizes]
  | succ fuel ih =>
    intro n h
    by_cases hn : n > M
    · obtain ⟨i1, i2, i3⟩ := ih (n - M) (by omega)
      simp only [chunkSizes, hn, if_true, List.mem_cons, List.sum_cons, List.length_cons]
      refine ⟨?_, by omega, ?_⟩
      · rintro k (rfl | hk)
        · exact Nat.le_refl _
        · exact i1 k hk
      · rw [i3]
        have : n - 1 = (n - M - 1) + M := by omega
        rw [this, Nat.add_div_right _ hM]
    · simp only [chunkSizes, hn, if_false, List.mem_singleton, List.sum_singleton, List.length_singleton]
      refine ⟨by rintro k rfl; omega, trivial, ?_⟩
      have : (n - 1) / M = 0 := Nat.div_eq_of_lt (by omega)
      omega

end Chunks

end Percival.Proofs.Entropy
