import Percival.Model.Json
import Percival.Proofs.CStr
import Percival.Proofs.IteInd
/-! C15 for json.c: every function of the model, on every buffer, returns `ok j` with `j` between its start
offset and the end of the buffer — no `oob`, no `nofuel`. -/
namespace Percival.Proofs.JsonSafe
open Percival.Model Percival.Model.Json

def InR (b : Buf) (i : Nat) (r : Res Nat) : Prop := ∃ j, r = .ok j ∧ i ≤ j ∧ j ≤ b.size

theorem InR.ok {b : Buf} {i j : Nat} (h1 : i ≤ j) (h2 : j ≤ b.size) : InR b i (.ok j) := ⟨j, rfl, h1, h2⟩

theorem InR.mono {b : Buf} {i i' : Nat} {r : Res Nat} (h : InR b i r) (hi : i' ≤ i) : InR b i' r := by
  obtain ⟨j, hj, h1, h2⟩ := h
  exact ⟨j, hj, by omega, h2⟩

theorem InR.bind {b : Buf} {i k : Nat} {r : Res Nat} {g : Nat → Res Nat} (h : InR b i r)
    (hg : ∀ j, i ≤ j → j ≤ b.size → InR b k (g j)) : InR b k (r >>= g) := by
  obtain ⟨j, hj, h1, h2⟩ := h
  rw [hj, Res.ok_bind]
  exact hg j h1 h2

theorem lt_of_not_beq {j n : Nat} (hj : j ≤ n) (h : ¬(j == n) = true) : j < n :=
  Nat.lt_of_le_of_ne hj (mt beq_iff_eq.mpr h)

/-- `if (buf == end) …; else switch (*buf) …`: past the test the read is inside the buffer -/
theorem end_or_read {α : Type} {P : Res α → Prop} {b : Buf} {j : Nat} {x : Res α} {g : UInt8 → Res α} (hj : j ≤ b.size)
    (hx : P x) (hg : ∀ c, j < b.size → P (g c)) : P (if j == b.size then x else rdR b j >>= g) :=
  ite_ind (fun _ => hx) fun h => by
    rw [rdR_ok _ _ (lt_of_not_beq hj h)]
    exact hg _ (lt_of_not_beq hj h)

/-- `while (buf < end) { if (!p(buf[0])) break; buf++; }` stops after the longest run of bytes that satisfy `p` -/
theorem while_eq {F : Nat → Nat → Res Nat} {p : UInt8 → Bool} (b : Buf)
    (hF : ∀ f i, F (f+1) i =
      if i < b.size then (match rd b i with | none => .oob | some c => if p c then F f (i+1) else .ok i) else .ok i)
    (f i : Nat) (hf : b.size - i < f) : F f i = .ok (i + ((b.toList.drop i).takeWhile p).length) := by
  induction f generalizing i with
  | zero => omega
  | succ f ih =>
    rw [hF]
    by_cases hlt : i < b.size
    · rw [if_pos hlt, rd_lt hlt, List.drop_eq_getElem_cons (by simpa using hlt), List.takeWhile_cons,
        Array.getElem_toList]
      cases hp : p b[i] with
      | true => simp only [hp, if_true, ih (i+1) (by omega), List.length_cons, Nat.add_assoc, Nat.add_comm 1]
      | false => simp only [hp, Bool.false_eq_true, if_false, List.length_nil, Nat.add_zero]
    · rw [if_neg hlt, List.drop_eq_nil_of_le (by simp; omega)]
      rfl

theorem while_ok {F : Nat → Nat → Res Nat} {p : UInt8 → Bool} (b : Buf)
    (hF : ∀ f i, F (f+1) i =
      if i < b.size then (match rd b i with | none => .oob | some c => if p c then F f (i+1) else .ok i) else .ok i)
    (f i : Nat) (hi : i ≤ b.size) (hf : b.size - i < f) : InR b i (F f i) := by
  have := (List.takeWhile_prefix p (l := b.toList.drop i)).length_le
  simp only [List.length_drop, Array.length_toList] at this
  exact ⟨_, while_eq b hF f i hf, Nat.le_add_right _ _, by omega⟩

theorem skipWs_ok (b : Buf) (i : Nat) (hi : i ≤ b.size) : InR b i (skipWs b i) :=
  while_ok (F := skipWsF b) (p := isWs) b (fun _ _ => rfl) _ i hi (by omega)

theorem skipNumber_ok (b : Buf) (i : Nat) (hi : i ≤ b.size) : InR b i (skipNumber b i) :=
  while_ok (F := skipNumberF b) (p := isNumCh) b (fun _ _ => rfl) _ i hi (by omega)

theorem memEq_ok (b : Buf) (i : Nat) (lit : List UInt8) (h : lit.length ≤ b.size - i) :
    ∃ r, memEq b i lit = .ok r := by
  induction lit generalizing i with
  | nil => exact ⟨true, rfl⟩
  | cons x xs ih =>
    simp only [List.length_cons] at h
    obtain ⟨r, hr⟩ := ih (i+1) (by omega)
    rw [memEq, rd_lt (show i < b.size by omega), hr]
    exact ⟨_, rfl⟩

theorem litAt_ok (b : Buf) (i : Nat) (lit : List UInt8) :
    ∃ r, litAt b i lit = .ok r ∧ (r = true → lit.length ≤ b.size - i) := by
  unfold litAt
  exact ite_ind (P := fun x : Res Bool => ∃ r, x = .ok r ∧ (r = true → lit.length ≤ b.size - i))
    (fun h => (memEq_ok b i lit h).imp fun _ hr => ⟨hr, fun _ => h⟩) fun _ => ⟨false, rfl, fun h => by cases h⟩

theorem skipLiteral_ok (b : Buf) (i : Nat) (hi : i ≤ b.size) : InR b i (skipLiteral b i) := by
  rw [skipLiteral]
  obtain ⟨r1, h1, l1⟩ := litAt_ok b i litFalse
  obtain ⟨r2, h2, l2⟩ := litAt_ok b i litNull
  obtain ⟨r3, h3, l3⟩ := litAt_ok b i litTrue
  rw [h1]
  cases r1 with
  | true => exact .ok (by omega) (by have : 5 ≤ b.size - i := l1 rfl; omega)
  | false =>
    rw [h2]
    cases r2 with
    | true => exact .ok (by omega) (by have : 4 ≤ b.size - i := l2 rfl; omega)
    | false =>
      rw [h3]
      cases r3 with
      | true => exact .ok (by omega) (by have : 4 ≤ b.size - i := l3 rfl; omega)
      | false => exact .ok hi (Nat.le_refl _)

theorem skipStringF_ok (b : Buf) (f i : Nat) (hi : i ≤ b.size) (hf : b.size - i < f) : InR b i (skipStringF b f i) := by
  induction f generalizing i with
  | zero => omega
  | succ f ih =>
    rw [skipStringF]
    refine ite_ind (fun hlt => ?_) fun _ => .ok (Nat.le_refl i) hi
    rw [rd_lt hlt]
    refine ite_ind (fun _ => .ok (Nat.le_succ i) hlt) fun _ => ite_ind (fun _ => ?_) fun _ =>
      (ih (i+1) hlt (by omega)).mono (Nat.le_succ i)
    refine ite_ind (fun _ => .ok (Nat.le_succ i) hlt) fun hne => ?_
    have hlt2 : i + 1 < b.size := lt_of_not_beq hlt hne
    rw [rd_lt hlt2]
    exact ite_ind
      (fun _ => ite_ind (fun _ => .ok (by omega) hlt2) fun _ => (ih (i+6) (by omega) (by omega)).mono (by omega))
      fun _ => (ih (i+2) hlt2 (by omega)).mono (by omega)

/-- `skip_string` called (as the C does) with `buf < end` -/
theorem skipString_ok (b : Buf) (i : Nat) (hi : i < b.size) : InR b (i+1) (skipString b i) :=
  skipStringF_ok b _ (i+1) (by omega) (by omega)

/-- `[` or `{`, whitespace, and either the closing bracket or the loop over the items -/
theorem container_ok {b : Buf} {i : Nat} (close : UInt8) (loop : Nat → Res Nat) (hi : i < b.size)
    (hl : ∀ j, i < j → j ≤ b.size → InR b j (loop j)) :
    InR b i (skipWs b (i+1) >>= fun j => if j == b.size then Res.ok b.size else
      rdR b j >>= fun c => if c == close then Res.ok (j+1) else loop j) :=
  (skipWs_ok b (i+1) hi).bind fun j h1 h2 => end_or_read h2 (.ok (by omega) (Nat.le_refl _)) fun _ hlt =>
    ite_ind (fun _ => .ok (by omega) hlt) fun _ => (hl j h1 h2).mono (by omega)

/-- after an item: whitespace, then the closing bracket, a comma and the next round, or anything else -/
theorem loopTail_ok {b : Buf} {i j : Nat} (close : UInt8) (loop : Nat → Res Nat) (hij : i ≤ j) (hj : j ≤ b.size)
    (hl : ∀ k, j < k → k ≤ b.size → InR b k (loop k)) :
    InR b i (skipWs b j >>= fun j => if j == b.size then Res.ok b.size else
      rdR b j >>= fun c => if c == close then Res.ok (j+1) else if c != 0x2c then Res.ok b.size else loop (j+1)) :=
  (skipWs_ok b j hj).bind fun k h1 h2 => end_or_read h2 (.ok (by omega) (Nat.le_refl _)) fun _ hlt =>
    ite_ind (fun _ => .ok (by omega) hlt) fun _ => ite_ind (fun _ => .ok (by omega) (Nat.le_refl _)) fun _ =>
      (hl (k+1) (by omega) hlt).mono (by omega)

/-- fuel bounds, in the bytes remaining, under which the five mutually recursive skippers succeed -/
structure Inv (b : Buf) (f : Nat) : Prop where
  value : ∀ i, i ≤ b.size → 3 * (b.size - i) + 1 ≤ f → InR b i (skipValueF b f i)
  array : ∀ i, i < b.size → 3 * (b.size - i) ≤ f → InR b i (skipArrayF b f i)
  aloop : ∀ i, i ≤ b.size → 3 * (b.size - i) + 2 ≤ f → InR b i (arrLoopF b f i)
  object : ∀ i, i < b.size → 3 * (b.size - i) ≤ f → InR b i (skipObjectF b f i)
  oloop : ∀ i, i ≤ b.size → 3 * (b.size - i) + 2 ≤ f → InR b i (objLoopF b f i)

theorem inv_all (b : Buf) : ∀ f, Inv b f := by
  intro f
  induction f with
  | zero =>
    exact ⟨fun _ _ h => by omega, fun _ h1 h2 => by omega, fun _ _ h => by omega, fun _ h1 h2 => by omega,
      fun _ _ h => by omega⟩
  | succ f ih =>
    refine ⟨fun i hi hf => ?_, fun i hi hf => ?_, fun i hi hf => ?_, fun i hi hf => ?_, fun i hi hf => ?_⟩
    · rw [skipValueF]
      refine end_or_read hi (.ok hi (Nat.le_refl _)) fun c hlt => ?_
      exact ite_ind (fun _ => skipLiteral_ok b i hi) fun _ =>
        ite_ind (fun _ => (skipString_ok b i hlt).mono (Nat.le_succ i)) fun _ =>
        ite_ind (fun _ => ih.array i hlt (by omega)) fun _ =>
        ite_ind (fun _ => ih.object i hlt (by omega)) fun _ =>
        ite_ind (fun _ => skipNumber_ok b i hi) fun _ => .ok hi (Nat.le_refl _)
    · rw [skipArrayF]
      exact container_ok 0x5d _ hi fun j _ h2 => ih.aloop j h2 (by omega)
    · rw [arrLoopF]
      exact (skipWs_ok b i hi).bind fun j1 _ h12 => (ih.value j1 h12 (by omega)).bind fun j2 _ h22 =>
        loopTail_ok 0x5d _ (by omega) h22 fun k _ hk => ih.aloop k hk (by omega)
    · rw [skipObjectF]
      exact container_ok 0x7d _ hi fun j _ h2 => ih.oloop j h2 (by omega)
    · rw [objLoopF]
      refine (skipWs_ok b i hi).bind fun j0 _ h02 => ite_ind (fun _ => .ok hi (Nat.le_refl _)) fun hne => ?_
      refine (skipString_ok b j0 (lt_of_not_beq h02 hne)).bind fun j1 _ h12 => (skipWs_ok b j1 h12).bind fun j2 _ h22 => ?_
      refine end_or_read h22 (.ok hi (Nat.le_refl _)) fun _ hlt2 => ite_ind (fun _ => .ok hi (Nat.le_refl _)) fun _ => ?_
      exact (skipWs_ok b (j2+1) hlt2).bind fun j3 _ h32 => (ih.value j3 h32 (by omega)).bind fun j4 _ h42 =>
        loopTail_ok 0x7d _ (by omega) h42 fun k _ hk => ih.oloop k hk (by omega)

theorem skipValue_ok (b : Buf) (i : Nat) (hi : i ≤ b.size) : InR b i (skipValue b i) :=
  (inv_all b _).value i hi (by simp only [valueFuel]; omega)


theorem cstr_size (k : List UInt8) : (cstr k).size = k.length + 1 := by simp [cstr]

theorem key_rd (k : List UInt8) (s : Nat) (hs : s ≤ k.length) :
    ∃ c, rdR (cstr k) s = .ok c ∧ (c ≠ 0 → s < k.length) := by
  have hlt : s < (cstr k).size := by rw [cstr_size]; omega
  refine ⟨(cstr k)[s], rdR_ok _ _ hlt, ?_⟩
  intro hc
  by_cases h : s < k.length
  · exact h
  · exfalso
    have hs' : s = k.length := by omega
    apply hc
    subst hs'
    simp [cstr]

theorem matchStep_ok (k : List UInt8) (s : Nat) (ch : UInt8) (found : Bool) (hs : s ≤ k.length) :
    ∃ r, matchStep (cstr k) s ch found = .ok r ∧ r.1 ≤ k.length := by
  obtain ⟨c, hc, hlt⟩ := key_rd k s hs
  simp only [matchStep, hc, Res.ok_bind]
  refine ⟨_, rfl, ?_⟩
  by_cases h0 : c = 0
  · simp [h0, hs]
  · have := hlt h0
    simp [h0]; omega

def InR2 (b : Buf) (i : Nat) (r : Res (Nat × Bool)) : Prop := ∃ j fd, r = .ok (j, fd) ∧ i ≤ j ∧ j ≤ b.size

theorem InR2.ok {b : Buf} {i j : Nat} (fd : Bool) (h1 : i ≤ j) (h2 : j ≤ b.size) : InR2 b i (.ok (j, fd)) :=
  ⟨j, fd, rfl, h1, h2⟩

theorem InR2.mono {b : Buf} {i i' : Nat} {r : Res (Nat × Bool)} (h : InR2 b i r) (hi : i' ≤ i) : InR2 b i' r := by
  obtain ⟨j, fd, hj, h1, h2⟩ := h
  exact ⟨j, fd, hj, by omega, h2⟩

theorem matchStrF_ok (b : Buf) (k : List UInt8) (f i s : Nat) (found : Bool) (hi : i ≤ b.size)
    (hf : b.size - i < f) (hs : s ≤ k.length) : InR2 b i (matchStrF b (cstr k) f i s found) := by
  induction f generalizing i s found with
  | zero => omega
  | succ f ih =>
    -- a character of the name has been consumed: compare it with the key and go round again
    have step : ∀ (ch : UInt8) (fd : Bool) (i' : Nat), i < i' → i' ≤ b.size →
        InR2 b i (matchStep (cstr k) s ch fd >>= fun r => matchStrF b (cstr k) f i' r.1 r.2) := by
      intro ch fd i' h1 h2
      obtain ⟨r, hr, hrs⟩ := matchStep_ok k s ch fd hs
      rw [hr, Res.ok_bind]
      exact (ih i' r.1 r.2 h2 (by omega) hrs).mono (by omega)
    rw [matchStrF]
    refine end_or_read hi (.ok found hi (Nat.le_refl _)) fun ch hlt => ite_ind (fun _ => ?_) fun _ =>
      ite_ind (fun _ => ?_) fun _ => step ch found (i+1) (Nat.lt_succ_self i) hlt
    · obtain ⟨c, hc, _⟩ := key_rd k s hs
      rw [hc, Res.ok_bind]
      exact .ok _ (Nat.le_succ i) hlt
    · refine end_or_read hlt (.ok found hi (Nat.le_refl _)) fun e hlt1 => ite_ind
        (fun _ => ite_ind (fun _ => .ok found hi (Nat.le_refl _)) fun _ => step ch false (i+6) (by omega) (by omega))
        fun _ => ?_
      split
      · exact .ok false hi (Nat.le_refl _)
      · exact step _ found (i+2) (by omega) hlt1

theorem matchStr_ok (b : Buf) (k : List UInt8) (i : Nat) (hi : i ≤ b.size) : InR2 b i (matchStr b (cstr k) i) :=
  matchStrF_ok b k _ i 0 true hi (by omega) (Nat.zero_le _)

/-- the result of `SCAN`: "return end", or a pointer strictly after `i`, still inside -/
def ScanR (b : Buf) (i : Nat) (r : Res (Option Nat)) : Prop := ∃ o, r = .ok o ∧ ∀ j, o = some j → i < j ∧ j ≤ b.size

theorem ScanR.stop {b : Buf} {i : Nat} : ScanR b i (.ok none) := ⟨_, rfl, fun _ h => by cases h⟩

theorem scan_ok (b : Buf) (i : Nat) (ch : UInt8) (hi : i ≤ b.size) : ScanR b i (scan b i ch) := by
  obtain ⟨j, hj, h1, h2⟩ := skipWs_ok b i hi
  rw [scan, hj, Res.ok_bind]
  exact end_or_read h2 .stop fun c hlt => ite_ind (fun _ => .stop) fun _ =>
    ⟨some (j+1), rfl, fun j' h => by cases h; omega⟩

theorem ScanR.bind {α : Type} {P : Res α → Prop} {b : Buf} {i : Nat} {r : Res (Option Nat)} {g : Option Nat → Res α}
    (h : ScanR b i r) (hn : P (g none)) (hs : ∀ j, i < j → j ≤ b.size → P (g (some j))) : P (r >>= g) := by
  obtain ⟨o, ho, p⟩ := h
  rw [ho, Res.ok_bind]
  cases o with
  | none => exact hn
  | some j => exact hs j (p j rfl).1 (p j rfl).2

theorem findLoopF_ok (b : Buf) (k : List UInt8) (f i : Nat) (hi : i ≤ b.size) (hf : b.size - i < f) :
    InR b i (findLoopF b (cstr k) f i) := by
  induction f generalizing i with
  | zero => omega
  | succ f ih =>
    rw [findLoopF]
    refine (scan_ok b i 0x22 hi).bind (.ok hi (Nat.le_refl _)) fun j1 _ h12 => ?_
    obtain ⟨j2, fd, hm, _, h22⟩ := matchStr_ok b k j1 h12
    simp only [hm, Res.ok_bind]
    refine (scan_ok b j2 0x3a h22).bind (.ok hi (Nat.le_refl _)) fun j3 _ h32 => ?_
    refine (skipWs_ok b j3 h32).bind fun j4 _ h42 => ite_ind (fun _ => .ok (by omega) h42) fun _ => ?_
    exact (skipValue_ok b j4 h42).bind fun j5 _ h52 => (scan_ok b j5 0x2c h52).bind (.ok hi (Nat.le_refl _))
      fun j6 _ h62 => (ih j6 h62 (by omega)).mono (by omega)

/-- C15 for `json_find`: for every buffer and every key, the model reads nothing outside `[buf, end)` or the key
    string, terminates within its fuel, and returns an offset in `[0, n]`. -/
theorem jsonFind_ok (b : Buf) (k : List UInt8) : ∃ j, jsonFind b (cstr k) = .ok j ∧ j ≤ b.size := by
  have h : InR b 0 (jsonFind b (cstr k)) :=
    (scan_ok b 0 0x7b (Nat.zero_le _)).bind (.ok (Nat.zero_le _) (Nat.le_refl _)) fun j _ h2 =>
      (findLoopF_ok b k (b.size + 1) j h2 (by omega)).mono (Nat.zero_le _)
  exact h.imp fun _ hj => ⟨hj.1, hj.2.2⟩

end Percival.Proofs.JsonSafe
