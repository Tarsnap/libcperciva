import Percival.Proofs.HeapDown
/-!
# C13: the invariant; one slot overwritten and repaired: `add`, `increase`, `decrease`
-/
namespace Percival.Proofs.Heap
open Percival.Model.Heap

/-- **The heap invariant.**
 * `distinct`: the element ids in `h.a` are pairwise distinct;
 * `handles`: the position most recently reported (through `setreccookie`) for the element in
   slot `i` is `i` — so a handle operation given that position acts on exactly that element;
 * `ordered`: parent ≤ child under the caller's comparison, on every edge. -/
structure Inv (key : Nat → Int) (h : Heap) : Prop where
  distinct : ∀ i j x : Nat, h.a[i]? = some x → h.a[j]? = some x → i = j
  handles : ∀ i x : Nat, h.a[i]? = some x → posOf h x = some i
  ordered : ∀ i c q : Nat, 0 < i → h.a[i]? = some c → h.a[(i-1)/2]? = some q → key q ≤ key c

variable (key : Nat → Int)

theorem Inv.toHandles {key : Nat → Int} {h : Heap} (hi : Inv key h) : Handles h := ⟨hi.distinct, hi.handles⟩

theorem inv_of_ordered (h : Heap) (N : Nat) (hN : h.a.size = N) (hh : Handles h) (ho : OrderedN key h N) : Inv key h :=
  ⟨hh.distinct, hh.pos, fun i c q h0 hc hq => ho i c q h0 (hN ▸ lt_of_get hc) hc hq⟩

theorem distinct_of_nodup {a : Array Nat} (hn : a.toList.Nodup) (i j x : Nat) (hi : a[i]? = some x)
    (hj : a[j]? = some x) : i = j := by
  have si : i < a.toList.length := by simpa using (Array.getElem?_eq_some_iff.mp hi).1
  rw [← Array.getElem?_toList] at hi hj
  exact (List.getElem?_inj si hn).mp (hi.trans hj.symm)

theorem inv_empty : Inv key empty where
  distinct := by intro i j x hi; simp [empty] at hi
  handles := by intro i x hi; simp [empty] at hi
  ordered := by intro i c q _ hi; simp [empty] at hi

/-- the root is least: up the path from any slot -/
theorem Inv.root_le {h : Heap} (hi : Inv key h) :
    ∀ i x m : Nat, h.a[i]? = some x → h.a[0]? = some m → key m ≤ key x := by
  intro i
  induction i using Nat.strongRecOn with
  | _ i ih =>
    intro x m hx hm
    by_cases h0 : i = 0
    · subst h0; rw [hx] at hm; cases hm; exact Int.le_refl _
    · have hi0 := Nat.pos_of_ne_zero h0
      have hq := Array.getElem?_eq_getElem (Nat.lt_trans (parent_lt hi0) (lt_of_get hx))
      exact Int.le_trans (ih _ (parent_lt hi0) _ m hq hm) (hi.ordered i x _ hi0 hx hq)

theorem inv_siftUp (f : Nat) (h : Heap) (x : Nat) (hfuel : x ≤ 2 * f) (hh : Handles h)
    (hex : OrderedExcept key h h.a.size x) (hg : GrandOK key h h.a.size x) :
    Inv key (siftUp key true f h x) :=
  inv_of_ordered key _ _ (siftUp_size key true f h x) (siftUp_handles key f h x hh)
    (siftUp_ordered key true f h h.a.size x (Nat.le_refl _) hfuel hex hg)

theorem inv_siftDown (f : Nat) (h : Heap) (x : Nat) (hfuel : h.a.size ≤ x + f) (hh : Handles h)
    (hex : OrderedBelowExcept key h h.a.size 0 x) (hg : ParentOK key h h.a.size 0 x) :
    Inv key (siftDown key true h.a.size f h x) :=
  inv_of_ordered key _ _ (siftDown_size key true _ f h x) (siftDown_handles key _ f h x (Nat.le_refl _) hh)
    ((orderedFrom_zero key _ _).mp
      (siftDown_ordered key true h.a.size 0 f h x (Nat.le_refl _) hfuel (Nat.zero_le _) hex hg))

/-! ## One slot overwritten

Every operation that changes a heap overwrites one slot — `add` the new last one, `delete` the hole with the last
element, `increase`/`decrease` none, but the key of the element in it has changed — and repairs from there.  In between,
the heap is in order except at that slot (`Hole`), and what the repair needs beyond that is one comparison: the
children of the slot are not below it (then `heapifyup`), or it is not below its parent (then `heapify`). -/

structure Hole (g : Heap) (x : Nat) : Prop where
  edges : ∀ i c q, 0 < i → i ≠ x → (i-1)/2 ≠ x → g.a[i]? = some c → g.a[(i-1)/2]? = some q → key q ≤ key c
  grand : ∀ c e q, 0 < x → 0 < c → (c-1)/2 = x → g.a[c]? = some e → g.a[(x-1)/2]? = some q → key q ≤ key e

variable {key}

theorem hole_of_ordered {key0 : Nat → Int} {h g : Heap} {x : Nat}
    (ho : ∀ i c q : Nat, 0 < i → h.a[i]? = some c → h.a[(i-1)/2]? = some q → key0 q ≤ key0 c)
    (hoff : ∀ i c, i ≠ x → g.a[i]? = some c → h.a[i]? = some c ∧ key c = key0 c) : Hole key g x := by
  constructor
  · intro i c q h0 hi hpi hc hq
    obtain ⟨hc', ec⟩ := hoff i c hi hc
    obtain ⟨hq', eq⟩ := hoff _ q hpi hq
    rw [ec, eq]; exact ho i c q h0 hc' hq'
  · -- through what slot `x` held in `h`
    intro c e q hx0 hc0 hpar he hq
    have hxc : x < c := hpar ▸ parent_lt hc0
    obtain ⟨he', ee⟩ := hoff c e (Nat.ne_of_gt hxc) he
    obtain ⟨hq', eq⟩ := hoff _ q (Nat.ne_of_lt (parent_lt hx0)) hq
    have hv := Array.getElem?_eq_getElem (Nat.lt_trans hxc (lt_of_get he'))
    rw [ee, eq]
    exact Int.le_trans (ho x _ q hx0 hv hq') (ho c e _ hc0 he' (hpar ▸ hv))

theorem Hole.up {g : Heap} {x : Nat} (hh : Hole key g x) (N : Nat)
    (hc : ∀ c e v, 0 < c → (c-1)/2 = x → g.a[c]? = some e → g.a[x]? = some v → key v ≤ key e) :
    OrderedExcept key g N x ∧ GrandOK key g N x :=
  ⟨fun i c q h0 _ hne hc' hq => by
    by_cases hpar : (i-1)/2 = x
    · exact hc i c q h0 hpar hc' (hpar ▸ hq)
    · exact hh.edges i c q h0 hne hpar hc' hq,
   fun c e q h0 hc0 _ hpar he hq => hh.grand c e q h0 hc0 hpar he hq⟩

theorem Hole.down {g : Heap} {x : Nat} (hh : Hole key g x) (N : Nat)
    (hp : ∀ v q, 0 < x → g.a[x]? = some v → g.a[(x-1)/2]? = some q → key q ≤ key v) :
    OrderedBelowExcept key g N 0 x ∧ ParentOK key g N 0 x :=
  ⟨fun i c q h0 _ _ hpar hc hq => by
    by_cases hix : i = x
    · subst hix; exact hp c q h0 hc hq
    · exact hh.edges i c q h0 hix hpar hc hq,
   fun c e q h0 _ _ hc0 hpar he hq => hh.grand c e q h0 hc0 hpar he hq⟩

structure Put (h : Heap) (x e : Nat) (g : Heap) : Prop where
  get : ∀ k, g.a[k]? = if k = x then some e else h.a[k]?
  log : g.log = (e, x) :: h.log

theorem Put.hole {key0 : Nat → Int} {h g : Heap} {x e : Nat} (hp : Put h x e g)
    (ho : ∀ i c q : Nat, 0 < i → h.a[i]? = some c → h.a[(i-1)/2]? = some q → key0 q ≤ key0 c)
    (hsame : ∀ (i c : Nat), h.a[i]? = some c → key c = key0 c) : Hole key g x :=
  hole_of_ordered ho fun i c hi hc => by
    rw [hp.get, if_neg hi] at hc
    exact ⟨hc, hsame i c hc⟩

theorem Put.handles {h g : Heap} {x e : Nat} (hp : Put h x e g) (hh : Handles h)
    (hf : ∀ i, i ≠ x → h.a[i]? ≠ some e) : Handles g := by
  have hpos : ∀ y, posOf g y = if y = e then some x else posOf h y := fun y => by
    rw [posOf_congr g ⟨g.a, (e, x) :: h.log⟩ hp.log, posOf_cons]; rfl
  constructor
  · intro i j y hi hj
    rw [hp.get] at hi hj
    split at hi <;> split at hj
    · omega
    · cases hi; exact absurd hj (hf j ‹_›)
    · cases hj; exact absurd hi (hf i ‹_›)
    · exact hh.distinct i j y hi hj
  · intro i y hi
    rw [hp.get] at hi; rw [hpos]
    split at hi
    · cases hi; subst_vars; rw [if_pos rfl]
    · rename_i hix
      rw [if_neg fun (hye : y = e) => hf i hix (hye ▸ hi)]; exact hh.pos i y hi

theorem Put.perm {h g : Heap} {x e y : Nat} (hp : Put h x e g) (hy : h.a[x]? = some y) :
    (y :: g.a.toList).Perm (e :: h.a.toList) := by
  have hx : x < h.a.toList.length := by simpa using lt_of_get hy
  have hg : g.a.toList = h.a.toList.set x e := by
    apply List.ext_getElem?
    intro k
    rw [Array.getElem?_toList, hp.get, List.getElem?_set, Array.getElem?_toList]
    by_cases hk : k = x
    · subst hk; rw [if_pos rfl, if_pos rfl, if_pos hx]
    · rw [if_neg hk, if_neg (Ne.symm hk)]
  have hd : h.a.toList = h.a.toList.take x ++ y :: h.a.toList.drop (x+1) := by
    have : h.a.toList[x] = y := by simpa using (Array.getElem?_eq_some_iff.mp hy).2
    rw [← this, ← List.drop_eq_getElem_cons hx, List.take_append_drop]
  rw [hg, List.set_eq_take_append_cons_drop, if_pos hx]
  conv => rhs; rw [hd]
  exact ((List.perm_cons y).mpr List.perm_middle).trans
    ((List.Perm.swap e y _).trans ((List.perm_cons e).mpr List.perm_middle.symm))

variable (key)

theorem add_eq (h : Heap) (e : Nat) :
    add key h e = siftUp key true h.a.size ⟨h.a.push e, (e, h.a.size) :: h.log⟩ h.a.size := by
  simp [add, note]

theorem add_inv_key (key0 : Nat → Int) (h : Heap) (e : Nat) (hi : Inv key0 h) (hfresh : ∀ i : Nat, h.a[i]? ≠ some e)
    (hsame : ∀ x, x ≠ e → key x = key0 x) : Inv key (add key h e) := by
  rw [add_eq]
  have hp : Put h h.a.size e ⟨h.a.push e, (e, h.a.size) :: h.log⟩ := ⟨fun k => Array.getElem?_push, rfl⟩
  have hs : (⟨h.a.push e, (e, h.a.size) :: h.log⟩ : Heap).a.size = h.a.size + 1 := Array.size_push _
  generalize (⟨h.a.push e, (e, h.a.size) :: h.log⟩ : Heap) = g at hp hs ⊢
  -- the new last slot is a leaf
  obtain ⟨hex, hg⟩ := (hp.hole hi.ordered fun i c hc => hsame c fun hce => hfresh i (hce ▸ hc)).up g.a.size
    fun c e' v hc0 hpar he _ => by have := lt_of_get he; omega
  exact inv_siftUp key _ g _ (by omega) (hp.handles hi.toHandles fun i _ => hfresh i) hex hg

theorem add_inv (h : Heap) (e : Nat) (hi : Inv key h) (hfresh : ∀ i : Nat, h.a[i]? ≠ some e) :
    Inv key (add key h e) :=
  add_inv_key key key h e hi hfresh fun _ _ => rfl

theorem add_perm (h : Heap) (e : Nat) : (add key h e).a.toList.Perm (e :: h.a.toList) := by
  rw [add_eq]
  refine (siftUp_perm key true _ _ _).trans ?_
  simp only [Array.toList_push]
  exact List.perm_append_singleton _ _

theorem decrease_eq (h : Heap) (rc : Nat) (hrc : rc < h.a.size) :
    decrease key h rc = some (siftUp key true rc h rc) := if_pos hrc

theorem increase_eq (h : Heap) (rc : Nat) (hrc : rc < h.a.size) :
    increase key h rc = some (siftDown key true h.a.size h.a.size h rc) := if_pos hrc

/-! ### the key of one element has changed (the contract of `increase` / `decrease` / `increasemin`) -/

theorem hole_of_key (key0 : Nat → Int) (h : Heap) (rc e : Nat) (hi : Inv key0 h) (he : h.a[rc]? = some e)
    (hsame : ∀ x, x ≠ e → key x = key0 x) : Hole key h rc :=
  hole_of_ordered hi.ordered fun i c hne hc => ⟨hc, hsame c fun hce => hne (hi.distinct i rc e (hce ▸ hc) he)⟩

theorem increase_pre_of_key (key0 : Nat → Int) (h : Heap) (rc e : Nat) (hi : Inv key0 h)
    (he : h.a[rc]? = some e) (hsame : ∀ x, x ≠ e → key x = key0 x) (hge : key0 e ≤ key e) :
    OrderedBelowExcept key h h.a.size 0 rc ∧ ParentOK key h h.a.size 0 rc :=
  (hole_of_key key key0 h rc e hi he hsame).down _ fun v q h0 hv hq => by
    cases he.symm.trans hv
    have hqe : q ≠ e := fun heq => by have := hi.distinct _ _ e (heq ▸ hq) he; omega
    rw [hsame q hqe]
    exact Int.le_trans (hi.ordered rc e q h0 he hq) hge

theorem decrease_pre_of_key (key0 : Nat → Int) (h : Heap) (rc e : Nat) (hi : Inv key0 h)
    (he : h.a[rc]? = some e) (hsame : ∀ x, x ≠ e → key x = key0 x) (hle : key e ≤ key0 e) :
    OrderedExcept key h h.a.size rc ∧ GrandOK key h h.a.size rc :=
  (hole_of_key key key0 h rc e hi he hsame).up _ fun c e' v hc0 hpar he' hv => by
    cases he.symm.trans hv
    have hee : e' ≠ e := fun heq => by have := hi.distinct _ _ e (heq ▸ he') he; omega
    rw [hsame e' hee]
    exact Int.le_trans hle (hi.ordered c e' e hc0 he' (hpar ▸ he))

/-- the contract of `ptrheap_increase` / `increasemin`: the key of the element in slot `rc` alone has grown -/
theorem inv_siftDown_of_key (key0 : Nat → Int) (h : Heap) (rc e : Nat) (hi : Inv key0 h)
    (he : h.a[rc]? = some e) (hsame : ∀ x, x ≠ e → key x = key0 x) (hge : key0 e ≤ key e) :
    Inv key (siftDown key true h.a.size h.a.size h rc) :=
  have hpre := increase_pre_of_key key key0 h rc e hi he hsame hge
  inv_siftDown key _ h rc (Nat.le_add_left _ _) hi.toHandles hpre.1 hpre.2

/-- the contract of `ptrheap_decrease`: the key of the element in slot `rc` alone has shrunk -/
theorem inv_siftUp_of_key (key0 : Nat → Int) (h : Heap) (rc e : Nat) (hi : Inv key0 h)
    (he : h.a[rc]? = some e) (hsame : ∀ x, x ≠ e → key x = key0 x) (hle : key e ≤ key0 e) :
    Inv key (siftUp key true rc h rc) :=
  have hpre := decrease_pre_of_key key key0 h rc e hi he hsame hle
  inv_siftUp key rc h rc (Nat.le_mul_of_pos_left rc (by decide)) hi.toHandles hpre.1 hpre.2

end Percival.Proofs.Heap
