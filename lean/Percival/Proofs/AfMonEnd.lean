import Percival.Proofs.AfMonHeap
/-!
# C14, `af` protocol: the answer to `end`

`release_all` of the harness cancels every registration and runs the exit handlers.  Along its two loops the ideal
registry `r` keeps describing the event layer and the oracle's counter stays event layer + heap (`Held`), by the cancel
contracts of `Proofs/AfMonReg.lean`; the loop invariant is that what `r` still holds is on the rest of the list the loop
walks through (`foldl_held`), so at the end nothing is registered, `EvRegAcct.shutdown_acct` applies and no block is left
(`release_live`): the monitor accepts the answer to `end` (`end_accepted`).

Why `OpOk`: for `prio ≥ 32` the model `EvReg.immReg` takes a record and a queue node, answers `ok` and registers nothing —
two blocks nobody can release (the last example below).
-/
namespace Percival.Proofs.AfMonEnd
open Percival.Model Percival.Model.EvReg Percival.Model.AfStep Percival.Proofs.EvRegAcct Percival.Proofs.AfMonRel
open Percival.Spec.AfMon (MState monStep)
open Percival.Spec.Reg (Reg)
open Percival.Proofs.AfMonAbs
open Percival.Proofs.AfMonReg (immCancel_call tmCancel_call netCancel_call remove_eq_self mem_remove_imm mem_remove_timers)
open Percival.Proofs.EvRegNet (regNet)
open Percival.Proofs.EvRegTimer (regImm regTimers immCancel_none tmCancel_none)

theorem acctRel_init : AcctRel ({} : S) :=
  ⟨by decide, acctInv_init, by decide, fun fd w h => by
    obtain ⟨id, hid⟩ := h
    simp [regNet, registry, netOf] at hid⟩

theorem tmLink_init : TmLink ({} : Ev) := ⟨fun t h => (by cases h), List.nodup_nil, fun t h => (by cases h)⟩

theorem side_init : Side ({} : S) :=
  ⟨Percival.Proofs.EvRegNet.netInv_init, Percival.Proofs.EvRegTimer.tmInv_init _, by decide, fun i h => by
    simp [regTimers, registry]⟩

/-- one step of the first loop of `release_all`: cancel the immediate event `id`, else the timer `id` -/
def cancelId (em : Ev × Mem) (id : Nat) : Ev × Mem :=
  match immCancel em.1 id em.2 with
  | some r => r
  | none => match tmCancel em.1 id em.2 with
    | some r => r
    | none => em

/-- one step of the second loop of `release_all` -/
def cancelSock (em : Ev × Mem) (sw : Nat × Bool) : Ev × Mem :=
  match netCancel em.1 sw.1 sw.2 em.2 with
  | (_, e', m') => (e', m')

/-- the ids `release_all` walks through -/
def relIds (s : S) : List Nat :=
  ((s.ev.heads.flatten.map (·.id)) ++ (s.ev.timers.map (·.id))).mergeSort (· ≤ ·)

/-- the descriptor registrations `release_all` walks through -/
def relSocks (s : S) : List (Nat × Bool) :=
  s.net.mergeSort (fun a b => a.1 < b.1 || (a.1 == b.1 && (!a.2 || b.2)))

/-- event layer and oracle after the two loops of `release_all` -/
def relEv (s : S) : Ev × Mem :=
  (relSocks s).foldl cancelSock ((relIds s).foldl cancelId (s.ev, { s.m with f := DsStep.sched 0 0 0 }))

def relMem (s : S) : Mem :=
  match s.h with
  | some ha => HeapAlloc.free ha (shutdown (relEv s).1 (relEv s).2).2
  | none => (shutdown (relEv s).1 (relEv s).2).2

theorem releaseAll_m (s : S) : (releaseAll s).m = relMem s := rfl

/-- along `release_all`: the registry `r` describes the event layer, `c` blocks are held elsewhere -/
structure Held (c : Int) (e : Ev) (m : Mem) (r : Reg) : Prop where
  abs : EvAbs e m r
  live : m.live = evBlocks e + c

/-- a loop of `release_all` over `l`: every step keeps `Held` and takes the loop invariant `I` from the list that is
left to the rest of it (read `I l r`: what `r` still holds is on `l`) -/
theorem foldl_held {α : Type} {c : Int} (step : Ev × Mem → α → Ev × Mem) (I : List α → Reg → Prop)
    (hstep : ∀ e m r a l, Held c e m r → I (a :: l) r →
      ∃ r', Held c (step (e, m) a).1 (step (e, m) a).2 r' ∧ I l r') :
    ∀ (l : List α) (e : Ev) (m : Mem) (r : Reg), Held c e m r → I l r →
      ∃ r', Held c (l.foldl step (e, m)).1 (l.foldl step (e, m)).2 r' ∧ I [] r'
  | [], _, _, r, h, hi => ⟨r, h, hi⟩
  | a :: l, e, m, r, h, hi => by
    obtain ⟨r1, g1, i1⟩ := hstep e m r a l h hi
    exact foldl_held step I hstep l _ _ r1 g1 i1

theorem cancelId_held {c : Int} {e : Ev} {m : Mem} {r : Reg} (h : Held c e m r) (id : Nat) :
    Held c (cancelId (e, m) id).1 (cancelId (e, m) id).2 (r.remove [id]) := by
  have hl := h.live
  by_cases h1 : id ∈ (regImm e).flatten
  · obtain ⟨e', m', hc, habs, hlv⟩ := immCancel_call h.abs h1
    rw [show cancelId (e, m) id = (e', m') by simp only [cancelId, hc]]
    exact ⟨habs, by show m'.live = evBlocks e' + c; omega⟩
  · have hc1 := immCancel_none e id m h1
    by_cases h2 : id ∈ regTimers e
    · obtain ⟨e', m', hc, habs, hlv⟩ := tmCancel_call h.abs h2
      rw [show cancelId (e, m) id = (e', m') by simp only [cancelId, hc1, hc]]
      exact ⟨habs, by show m'.live = evBlocks e' + c; omega⟩
    · rw [show cancelId (e, m) id = (e, m) by simp only [cancelId, hc1, tmCancel_none e id m h2]]
      have : r.remove [id] = r := remove_eq_self r [id]
        (List.forall_mem_singleton.mpr (by rw [h.abs.imm.imm]; exact h1))
        (List.forall_mem_singleton.mpr (by rw [show r.timers.map (·.1) = regTimers e from h.abs.tm.rel.ids]; exact h2))
      rw [this]
      exact h

theorem cancelSock_held {c : Int} {e : Ev} {m : Mem} {r : Reg} (h : Held c e m r) (sw : Nat × Bool) :
    ∃ r', Held c (cancelSock (e, m) sw).1 (cancelSock (e, m) sw).2 r' ∧ r'.imm = r.imm ∧ r'.timers = r.timers ∧
      ∀ fd w id, (fd, w, id) ∈ r'.net → (fd, w, id) ∈ r.net ∧ (fd, w) ≠ sw := by
  show ∃ r', Held c (netCancel e sw.1 sw.2 m).2.1 (netCancel e sw.1 sw.2 m).2.2 r' ∧ _
  have hl := h.live
  rcases hr : netCancel e sw.1 sw.2 m with ⟨st, e', m'⟩
  obtain ⟨hlv, hcase⟩ := netCancel_call h.abs sw.1 sw.2 st e' m' hr
  dsimp only
  rcases hcase with ⟨x, _, _, habs⟩ | ⟨hns, _, habs⟩
  · refine ⟨_, ⟨habs, by omega⟩, rfl, rfl, fun fd w id hx => ?_⟩
    obtain ⟨hin, hp⟩ := List.mem_filter.mp hx
    exact ⟨hin, fun heq => by cases heq; simp at hp⟩
  · refine ⟨r, ⟨habs, by omega⟩, rfl, rfl, fun fd w id hx => ⟨hx, fun heq => ?_⟩⟩
    cases heq
    unfold Reg.netSlot at hns
    have := List.find?_eq_none.mp (Option.map_eq_none_iff.mp hns) _ hx
    simp at this

theorem relEv_held (s : S) {r : Reg} (h : EvAbs s.ev s.m r) (hl : s.m.live = evBlocks s.ev + heapBlocks s.h)
    (hc : Covers r s.net) :
    ∃ r', Held (heapBlocks s.h) (relEv s).1 (relEv s).2 r' ∧ r'.imm.flatten = [] ∧ r'.timers.map (·.1) = [] ∧
      r'.net = [] := by
  have g0 : Held (heapBlocks s.h) s.ev { s.m with f := DsStep.sched 0 0 0 } r := ⟨h.mono (Nat.le_refl _), hl⟩
  -- first loop: what is still registered under an id is on the rest of the list; the descriptors stay covered
  obtain ⟨r1, g1, n1, c1⟩ := foldl_held cancelId
    (fun l r => (∀ i, i ∈ r.imm.flatten ∨ i ∈ r.timers.map (·.1) → i ∈ l) ∧ Covers r s.net)
    (fun e m r id l hh hi => ⟨_, cancelId_held hh id, fun i hx => by
        have : i ∈ r.imm.flatten ∨ i ∈ r.timers.map (·.1) :=
          hx.imp (fun hx => ((mem_remove_imm r [id] i).mp hx).1) fun hx => ((mem_remove_timers r [id] i).mp hx).1
        have hne : i ∉ [id] := hx.elim (fun hx => ((mem_remove_imm r [id] i).mp hx).2)
          fun hx => ((mem_remove_timers r [id] i).mp hx).2
        rcases List.mem_cons.mp (hi.1 i this) with rfl | hin
        · exact absurd List.mem_cons_self hne
        · exact hin, hi.2⟩)
    (relIds s) s.ev _ r g0 ⟨fun i hi => (by
      rw [h.imm.imm, show r.timers.map (·.1) = regTimers s.ev from h.tm.rel.ids] at hi
      simp only [relIds, List.mem_mergeSort, List.mem_append]
      simpa only [regImm, regTimers, registry, ← List.map_flatten] using hi), hc⟩
  -- second loop: the descriptor registrations that are left are on the rest of the list
  obtain ⟨r2, g2, i2, t2, n2⟩ := foldl_held cancelSock
    (fun l r => r.imm.flatten = [] ∧ r.timers.map (·.1) = [] ∧ Covers r l)
    (fun e m r sw l hh hi => by
      obtain ⟨r', g, e1, e2, hn⟩ := cancelSock_held hh sw
      refine ⟨r', g, by rw [e1]; exact hi.1, by rw [e2]; exact hi.2.1, fun fd w id hx => ?_⟩
      obtain ⟨hin, hne⟩ := hn fd w id hx
      exact (List.mem_cons.mp (hi.2.2 fd w id hin)).resolve_left hne)
    (relSocks s) _ _ r1 g1
    ⟨List.eq_nil_iff_forall_not_mem.2 fun i hi => (nomatch n1 i (Or.inl hi)),
     List.eq_nil_iff_forall_not_mem.2 fun i hi => (nomatch n1 i (Or.inr hi)),
     fun fd w id hx => by simp only [relSocks, List.mem_mergeSort]; exact c1 fd w id hx⟩
  exact ⟨r2, g2, i2, t2, List.eq_nil_iff_forall_not_mem.2 fun ⟨fd, w, id⟩ hx => nomatch n2 fd w id hx⟩

theorem release_live (s : S) {r : Reg} (h : EvAbs s.ev s.m r) (hl : s.m.live = evBlocks s.ev + heapBlocks s.h)
    (hc : Covers r s.net) : (releaseAll s).m.live = 0 := by
  obtain ⟨r', g, h3, h2, h1⟩ := relEv_held s h hl hc
  have hsd := shutdown_acct (relEv s).1 (relEv s).2 g.abs.net.inv g.abs.tm.rel.inv g.abs.net.acct
    (List.eq_nil_iff_forall_not_mem.2 fun x hx => by
      obtain ⟨fd, w, id⟩ := x
      have := (g.abs.net.net fd w id).mpr hx
      rw [h1] at this; cases this)
    (by rw [← show r'.timers.map (·.1) = regTimers (relEv s).1 from g.abs.tm.rel.ids]; exact h2)
    (by rw [← g.abs.imm.imm]; exact h3)
  have hlv := g.live
  rw [releaseAll_m, relMem]
  cases hh : s.h with
  | none =>
    rw [hh] at hlv
    simp only [heapBlocks] at hlv
    dsimp only
    omega
  | some hp =>
    rw [hh] at hlv
    dsimp only
    have := (AfMonHeap.heapFree_blocks hp (shutdown (relEv s).1 (relEv s).2).2).live
    omega

theorem end_accepted (s : S) (ms : MState) (h : (releaseAll s).m.live = 0) : Accepts s ms .end_ := by
  simp [Accepts, ansOf, stepOp, Out.ans, monStep, h]

/-- `reg_net 9 2 1`, `reg_imm 3 5`, `reg_tm 7 100`, `h_init` -/
def exState : S :=
  (stepOp (stepOp (stepOp (stepOp {} (.regNet 9 2 true)).1 (.regImm 3 5)).1 (.regTm 7 100)).1 .hInit).1

theorem relIds_exState : relIds exState = [3, 7] := by
  have : ((exState.ev.heads.flatten.map (·.id)) ++ (exState.ev.timers.map (·.id))) = [3, 7] := by decide
  unfold relIds
  rw [this]
  simp [List.mergeSort]

theorem relSocks_exState : relSocks exState = [(2, true)] := by
  have : exState.net = [(2, true)] := by decide
  unfold relSocks
  rw [this]
  simp

/-- checked directly: 15 blocks before, none after -/
example : exState.m.live = 15 ∧ evBlocks exState.ev + heapBlocks exState.h = 15 ∧ (releaseAll exState).m.live = 0 := by
  refine ⟨by decide, by decide, ?_⟩
  rw [releaseAll_m]
  unfold relMem relEv
  rw [relIds_exState, relSocks_exState]
  decide

/-- the initial state satisfies every hypothesis used -/
example : AcctRel ({} : S) ∧ Side ({} : S) ∧ TmLink ({} : S).ev := ⟨acctRel_init, side_init, tmLink_init⟩

example : AcctRel exState := by
  have hn : regNet exState.ev = [(2, true, 9)] := by decide
  refine ⟨by decide, acctInv_of_some (by decide), by decide, fun fd w ⟨id, hid⟩ => ?_⟩
  rw [hn] at hid
  simp only [List.mem_singleton, Prod.mk.injEq] at hid
  obtain ⟨rfl, rfl, _⟩ := hid
  decide

/-- `events_run` on concrete states: the immediate event runs (first call: its two objects go into the
pools' caches), then the expired timer (second call: three blocks freed) -/
example :
    let s1 := (stepOp exState (.clock 200)).1
    let s2 := (stepOp s1 .run).1
    let s3 := (stepOp s2 .run).1
    s2.m.live = evBlocks s2.ev + heapBlocks s2.h ∧ s3.m.live = evBlocks s3.ev + heapBlocks s3.h ∧
    s2.m.live = 15 ∧ s3.m.live = 12 ∧ (stepOp s1 .run).2.ans.ran = some (some [3]) ∧
    (stepOp s2 .run).2.ans.ran = some (some [7]) := by decide

/-- why `OpOk`: `reg_imm 1 40` is answered `ok`, registers nothing and leaves two blocks that `release_all` cannot
reach -/
example : (stepOp {} (.regImm 1 40)).2.ans.head = .ok ∧ (releaseAll (stepOp {} (.regImm 1 40)).1).m.live = 2 := by
  refine ⟨by decide, ?_⟩
  rw [releaseAll_m]
  unfold relMem relEv
  have h1 : relIds (stepOp {} (.regImm 1 40)).1 = [] := by
    have : (((stepOp {} (.regImm 1 40)).1.ev.heads.flatten.map (·.id)) ++
        ((stepOp {} (.regImm 1 40)).1.ev.timers.map (·.id))) = [] := by decide
    unfold relIds
    rw [this]
    simp
  have h2 : relSocks (stepOp {} (.regImm 1 40)).1 = [] := by
    have : (stepOp {} (.regImm 1 40)).1.net = [] := by decide
    unfold relSocks
    rw [this]
    simp
  rw [h1, h2]
  decide

end Percival.Proofs.AfMonEnd
