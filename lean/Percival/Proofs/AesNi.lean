import Percival.Model.AesNi
import Percival.Proofs.CpuAesni
/-! The AES-NI part of C02.  `Model.AesNi` (byte strings) and `Model.CpuAesni` (lanes, C03) transcribe the same file,
`crypto/crypto_aes_aesni.c`.  Under `R.bytes` every instruction of the one is the instruction of the other, and so are the
`MKRKEY` loops and the `AESENC` sequence; what `Proofs/CpuAesni` and `Proofs/CpuAesSpec` prove about the lane model
(FIPS-197 key schedule and cipher) therefore holds of the byte-string model. -/
namespace Percival.Proofs.AesNi
open Percival Percival.Spec Percival.Model Percival.Model.CpuAesni Percival.Proofs.CpuAesSpec Percival.Proofs.CpuAesni

theorem pxor_bytes (a b : R) : (a ^^^ b).bytes = AesNi.pxor a.bytes b.bytes := R.bytes_xor a b

theorem slli4_bytes (a : R) : (slli4 a).bytes = AesNi.pslldq a.bytes 4 := rfl

theorem slli8_bytes (a : R) : (slli8 a).bytes = AesNi.pslldq a.bytes 8 := rfl

theorem bcast_ff_bytes (a : R) : (bcast a 0xff).map R.bytes = some (AesNi.pshufd a.bytes 0xff) := rfl

theorem bcast_aa_bytes (a : R) : (bcast a 0xaa).map R.bytes = some (AesNi.pshufd a.bytes 0xaa) := rfl

theorem aesenc_bytes (s k : R) : (aesenc s k).bytes = AesNi.aesenc s.bytes k.bytes := by
  rw [aesenc, R.bytes_xor, mixColumns_bytes, subBytes_bytes, shiftRows_bytes]; rfl

theorem aesenclast_bytes (s k : R) : (aesenclast s k).bytes = AesNi.aesenclast s.bytes k.bytes := by
  rw [aesenclast, R.bytes_xor, subBytes_bytes, shiftRows_bytes]; rfl

theorem keygen_bytes (a : R) (imm : UInt8) : (aeskeygenassist a imm).bytes = AesNi.aeskeygenassist a.bytes imm := by
  simp [aeskeygenassist, AesNi.aeskeygenassist, AesNi.dword, R.bytes, W4.bytes, Fips.subWord, Fips.rotWord, W4.map,
    Aes.subWord, Aes.rotWord, AesNi.pxor, Aes.xorBytes, sbox_eq, Proofs.CpuAesni.W4.xor_def]

/-- `MKRKEY128` / `MKRKEY256` with the two shuffles the file uses -/
theorem mkrkey_bytes (back prev : R) (sh rc : UInt8) (h : sh = 0xff ∨ sh = 0xaa) :
    (mkrkey back prev sh.toNat rc).map R.bytes = some (AesNi.mkrkey back.bytes prev.bytes [4, 8] sh rc) := by
  have hb : (bcast (aeskeygenassist prev rc) sh.toNat).map R.bytes =
      some (AesNi.pshufd (AesNi.aeskeygenassist prev.bytes rc) sh) := by
    rw [← keygen_bytes]
    rcases h with rfl | rfl
    · exact bcast_ff_bytes _
    · exact bcast_aa_bytes _
  cases ht : bcast (aeskeygenassist prev rc) sh.toNat with
  | none => rw [ht] at hb; cases hb
  | some t =>
    rw [ht, Option.map_some, Option.some.injEq] at hb
    simp only [mkrkey, ht, Option.map_some, AesNi.mkrkey, List.foldl_cons, List.foldl_nil, ← hb, ← slli4_bytes,
      ← pxor_bytes, ← slli8_bytes]

/-! ## the `MKRKEY` loops

The byte-string model appends to `rkeys` and reads `rkeys[i - 1]`, `rkeys[i - 2]` by index; the lane model keeps the round
keys newest first. -/

def arr (rks : List R) : List (List UInt8) := rks.reverse.map R.bytes

theorem arr_length (rks : List R) : (arr rks).length = rks.length := by simp [arr]

theorem arr_get {rks : List R} {j : Nat} {r : R} (h : rks[j]? = some r) :
    (arr rks)[rks.length - (j + 1)]? = some r.bytes := by
  have hj := (List.getElem?_eq_some_iff.mp h).1
  rw [arr, List.getElem?_map, List.getElem?_reverse (by omega), show rks.length - 1 - (rks.length - (j + 1)) = j by omega,
    h]; rfl

/-- one `MKRKEY` invocation writing `rkeys[i]`, `i` the number of round keys so far, from `rkeys[i - (j+1)]` and
    `rkeys[i - 1]` -/
theorem mkStep_arr {rks : List R} {j i : Nat} {back prev : R} (hb : rks[j]? = some back) (hp : rks[0]? = some prev)
    (hi : i = rks.length) (hl : i < 15) (sh rc : UInt8) (hs : sh = 0xff ∨ sh = 0xaa) :
    AesNi.mkStep (j + 1) 1 [4, 8] (arr rks) i sh rc = (mkrkey back prev sh.toNat rc).map fun rk => arr (rk :: rks) := by
  have hj := (List.getElem?_eq_some_iff.mp hb).1
  have hm := mkrkey_bytes back prev sh rc hs
  subst hi
  rw [AesNi.mkStep, if_pos ⟨hj, by omega, (arr_length rks).symm, hl⟩, arr_get hb, arr_get hp]
  cases hk : mkrkey back prev sh.toNat rc with
  | none => rw [hk] at hm; cases hm
  | some rk =>
    rw [hk, Option.map_some, Option.some.injEq] at hm
    simp [arr, hm]

theorem expand128_sim : ∀ (cs : List (Nat × UInt8)) (prev : R) (older : List R),
    cs.map (·.1) = List.range' (older.length + 1) cs.length → older.length + cs.length < 15 →
    cs.foldlM (fun rks c => AesNi.mkStep 1 1 [4, 8] rks c.1 0xff c.2) (arr (prev :: older)) =
      (expand128Aux (cs.map (·.2)) (prev :: older)).map arr
  | [], _, _, _, _ => rfl
  | c :: cs, prev, older, hi, hl => by
    rw [List.map_cons, List.length_cons, List.range'_succ, List.cons.injEq] at hi
    rw [List.length_cons] at hl
    rw [List.foldlM_cons, hi.1, List.map_cons, expand128Aux,
      show Gen.CpuPaths.aesniShuffle128 = (0xff : UInt8).toNat from rfl,
      show AesNi.mkStep 1 1 [4, 8] (arr (prev :: older)) (older.length + 1) 0xff c.2 = _ from
        mkStep_arr (rks := prev :: older) (j := 0) (i := older.length + 1) rfl rfl rfl (by omega) 0xff c.2 (.inl rfl)]
    cases mkrkey prev prev (0xff : UInt8).toNat c.2 with
    | none => rfl
    | some rk => exact expand128_sim cs rk (prev :: older) hi.2 (by rw [List.length_cons]; omega)

theorem expand256_sim : ∀ (cs : List (Nat × UInt8 × UInt8)) (prev back : R) (older : List R),
    cs.map (·.1) = List.range' (older.length + 2) cs.length → older.length + 1 + cs.length < 15 →
    (∀ c ∈ cs, c.2.1 = 0xff ∨ c.2.1 = 0xaa) →
    cs.foldlM (fun rks c => AesNi.mkStep 2 1 [4, 8] rks c.1 c.2.1 c.2.2) (arr (prev :: back :: older)) =
      (expand256Aux (cs.map fun c => (c.2.1.toNat, c.2.2)) (prev :: back :: older)).map arr
  | [], _, _, _, _, _, _ => rfl
  | c :: cs, prev, back, older, hi, hl, hs => by
    rw [List.map_cons, List.length_cons, List.range'_succ, List.cons.injEq] at hi
    rw [List.length_cons] at hl
    rw [List.foldlM_cons, hi.1, List.map_cons, expand256Aux,
      show AesNi.mkStep 2 1 [4, 8] (arr (prev :: back :: older)) (older.length + 2) c.2.1 c.2.2 = _ from
        mkStep_arr (rks := prev :: back :: older) (j := 1) (i := older.length + 2) rfl rfl rfl (by omega) c.2.1 c.2.2
          (hs c List.mem_cons_self)]
    cases mkrkey back prev c.2.1.toNat c.2.2 with
    | none => rfl
    | some rk =>
      exact expand256_sim cs rk prev (back :: older) hi.2 (by rw [List.length_cons]; omega)
        fun c' hc' => hs c' (List.mem_cons_of_mem _ hc')

theorem keyExpand128_eq (k : R) : AesNi.keyExpand128 k.bytes = (expand128 k).map (·.map R.bytes) := by
  have hr : Gen.AesConst.mkrkey128Calls.map (·.2) = Gen.CpuPaths.aesniRcon128 := by decide
  rw [expand128, Option.map_map, ← hr, AesNi.keyExpand128, List.take_of_length_le (Nat.le_of_eq (R.bytes_length k))]
  exact expand128_sim Gen.AesConst.mkrkey128Calls k [] (by decide) (by decide)

theorem keyExpand256_eq (k0 k1 : R) :
    AesNi.keyExpand256 (k0.bytes ++ k1.bytes) = (expand256 k0 k1).map (·.map R.bytes) := by
  have hr : (Gen.AesConst.mkrkey256Calls.map fun c => (c.2.1.toNat, c.2.2)) = Gen.CpuPaths.aesniShufRcon256 := by
    decide
  rw [expand256, Option.map_map, ← hr, AesNi.keyExpand256, List.take_left' (R.bytes_length k0),
    List.drop_left' (R.bytes_length k0), List.take_of_length_le (Nat.le_of_eq (R.bytes_length k1))]
  exact expand256_sim Gen.AesConst.mkrkey256Calls k1 k0 [] (by decide) (by decide) (by decide)

theorem keyExpand128_eq_fips (key : List UInt8) (h : key.length = 16) :
    AesNi.keyExpand128 key = some (Aes.keyExpansion key) := by
  obtain ⟨k, _, rfl⟩ := ofBytes_bytes key h
  rw [keyExpand128_eq, (expand_bytes k k).1]

theorem keyExpand256_eq_fips (key : List UInt8) (h : key.length = 32) :
    AesNi.keyExpand256 key = some (Aes.keyExpansion key) := by
  obtain ⟨k0, _, e0⟩ := ofBytes_bytes (key.take 16) (by rw [List.length_take]; omega)
  obtain ⟨k1, _, e1⟩ := ofBytes_bytes (key.drop 16) (by rw [List.length_drop]; omega)
  rw [← List.take_append_drop 16 key, ← e0, ← e1, keyExpand256_eq, (expand_bytes k0 k1).2]

theorem keyExpand_eq_fips (key : List UInt8) (h : key.length = 16 ∨ key.length = 32) :
    AesNi.keyExpand key = some ⟨Aes.keyExpansion key, key.length / 4 + 6⟩ := by
  unfold AesNi.keyExpand
  rcases h with h | h
  · rw [if_pos h, keyExpand128_eq_fips key h, h]; rfl
  · rw [if_neg (by omega), if_pos h, keyExpand256_eq_fips key h, h]; rfl

theorem encryptBlock10_bytes (k0 k1 k2 k3 k4 k5 k6 k7 k8 k9 k10 inp : R) :
    AesNi.encryptBlock inp.bytes ⟨[k0, k1, k2, k3, k4, k5, k6, k7, k8, k9, k10].map R.bytes, 10⟩ =
      (encryptBlock [k0, k1, k2, k3, k4, k5, k6, k7, k8, k9, k10] 10 inp).map R.bytes := by
  simp only [AesNi.encryptBlock, encryptBlock, Gen.AesConst.aesencIdx, nrSplit_eq, List.map_cons, List.map_nil,
    List.foldlM_cons, List.foldlM_nil, List.getElem?_cons_zero, List.getElem?_cons_succ, Option.bind_eq_bind,
    Option.bind_some, Option.pure_def, Option.map_some, Nat.lt_irrefl, if_false, ← pxor_bytes, ← aesenc_bytes,
    ← aesenclast_bytes, gt_iff_lt]

theorem encryptBlock14_bytes (k0 k1 k2 k3 k4 k5 k6 k7 k8 k9 k10 k11 k12 k13 k14 inp : R) :
    AesNi.encryptBlock inp.bytes ⟨[k0, k1, k2, k3, k4, k5, k6, k7, k8, k9, k10, k11, k12, k13, k14].map R.bytes, 14⟩ =
      (encryptBlock [k0, k1, k2, k3, k4, k5, k6, k7, k8, k9, k10, k11, k12, k13, k14] 14 inp).map R.bytes := by
  simp only [AesNi.encryptBlock, encryptBlock, Gen.AesConst.aesencIdx, Gen.AesConst.aesencIdxLong, nrSplit_eq,
    List.map_cons, List.map_nil, List.foldlM_cons, List.foldlM_nil, List.getElem?_cons_zero, List.getElem?_cons_succ,
    Option.bind_eq_bind, Option.bind_some, Option.pure_def, Option.map_some, show (14 : Nat) > 10 by decide, if_true,
    ← pxor_bytes, ← aesenc_bytes, ← aesenclast_bytes]

theorem encryptBlock_bytes (rks : List R) (nr : Nat) (inp : R) (h : rks.length = nr + 1) (hnr : nr = 10 ∨ nr = 14) :
    AesNi.encryptBlock inp.bytes ⟨rks.map R.bytes, nr⟩ = (encryptBlock rks nr inp).map R.bytes := by
  rcases hnr with rfl | rfl
  · obtain ⟨k0, k1, k2, k3, t, rfl, h1⟩ := uncons4 (n := 7) h
    obtain ⟨k4, k5, k6, k7, t, rfl, h2⟩ := uncons4 (n := 3) h1
    obtain ⟨k8, k9, k10, rfl⟩ := len3 h2
    exact encryptBlock10_bytes ..
  · obtain ⟨k0, k1, k2, k3, t, rfl, h1⟩ := uncons4 (n := 11) h
    obtain ⟨k4, k5, k6, k7, t, rfl, h2⟩ := uncons4 (n := 7) h1
    obtain ⟨k8, k9, k10, k11, t, rfl, h3⟩ := uncons4 (n := 3) h2
    obtain ⟨k12, k13, k14, rfl⟩ := len3 h3
    exact encryptBlock14_bytes ..

theorem niKey_encrypt (k blk : List UInt8) (hk : k.length = 16 ∨ k.length = 32) (hb : blk.length = 16) :
    (AesNi.keyExpand k).bind (AesNi.encryptBlock blk) = some (Aes.cipher (Aes.keyExpansion k) blk) := by
  obtain ⟨b, _, rfl⟩ := ofBytes_bytes blk hb
  have hc := roundKeys_count k hk
  rw [keyExpand_eq_fips k hk, Option.bind_some, ← roundKeys_eq_spec k hk,
    encryptBlock_bytes _ _ b (by rw [hc]) (by omega)]
  rcases hk with h | h <;> simp only [h] at hc ⊢
  · rw [encryptBlock_11 _ hc, cipher_bytes _ _ (by omega)]
  · rw [encryptBlock_15 _ hc, cipher_bytes _ _ (by omega)]

open Percival.Spec.Aes in
theorem chunks44_length (rk : List UInt8) (h : rk.length = 16) : ∀ w ∈ chunks 4 4 rk, w.length = 4 := by
  obtain ⟨a0, a1, a2, a3, a4, a5, a6, a7, a8, a9, a10, a11, a12, a13, a14, a15, rfl⟩ := len16 rk h
  simp [Aes.chunks]

end Percival.Proofs.AesNi
