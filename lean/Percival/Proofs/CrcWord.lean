import Percival.Model.Crc32c
import Percival.Proofs.CrcPoly
/-! The 32-bit reflected shift register of `alg/crc32c.c` and the list shift register of
`Proofs/CrcPoly.lean`. -/
namespace Percival.Proofs.CrcWord
open Percival.Spec Percival.Spec.Crc32c Percival.Proofs.CrcPoly Percival.Proofs.Bits

/-- the Castagnoli polynomial, bit-reversed (coefficient of `x^(31-i)` in bit `i`) -/
def polyR : UInt32 := 0x82F63B78

/-- one step of the reflected register with input bit 0 -/
def step0 (r : UInt32) : UInt32 := if r &&& 1 ≠ 0 then (r >>> 1) ^^^ polyR else r >>> 1

def bitStep (r : UInt32) (b : Bool) : UInt32 := step0 (r ^^^ (if b then 1 else 0))

/-- register contents as polynomial coefficients, highest degree first = bit 0 first -/
def coeffs (r : UInt32) : Poly := (List.range 32).map fun i => r.toNat.testBit i

theorem coeffs_length (r : UInt32) : (coeffs r).length = 32 := by simp [coeffs]

theorem coeffs_getElem (r : UInt32) (i : Nat) (h : i < (coeffs r).length) : (coeffs r)[i] = r.toNat.testBit i := by
  simp [coeffs]

theorem coeffs_shr1 (r : UInt32) : coeffs (r >>> 1) = (coeffs r).tail ++ [false] := by
  apply List.ext_getElem
  · simp [coeffs]
  · intro i h1 h2
    rw [coeffs_getElem]
    have hi : i < 32 := by simpa [coeffs] using h1
    simp only [UInt32.toNat_shiftRight, UInt32.toNat_ofNat, Nat.reducePow, Nat.reduceMod, Nat.testBit_shiftRight]
    by_cases h31 : i < 31
    · rw [List.getElem_append_left (by simp [coeffs]; omega)]
      simp [coeffs, Nat.add_comm]
    · have : i = 31 := by omega
      subst this
      rw [List.getElem_append_right (by simp [coeffs])]
      simp [coeffs]
      exact Nat.testBit_lt_two_pow (by have := r.toNat_lt; omega)

theorem coeffs_xor (a b : UInt32) : coeffs (a ^^^ b) = zx (coeffs a) (coeffs b) := by
  apply List.ext_getElem
  · simp [coeffs, zx]
  · intro i h1 h2
    simp [coeffs, zx, Nat.testBit_xor]

theorem coeffs_polyR : coeffs polyR = castagnoli.tail := by decide

theorem coeffs_zero : coeffs 0 = List.replicate 32 false := by decide

/-! The tables of `init()` are checked entry by entry.  The kernel is slow on `UInt32` (every operation
is unfolded through `BitVec` and `Fin`), so the functions involved are written once more on `Nat`,
shown to agree, and evaluated there. -/
namespace OnNat
def swap (x hi lo k : Nat) : Nat := (x &&& hi) >>> k ||| (x &&& lo) <<< k % 4294967296
def reverse (x : Nat) : Nat :=
  swap (swap (swap (swap (swap x 0xffff0000 0x0000ffff 16) 0xff00ff00 0x00ff00ff 8) 0xf0f0f0f0 0x0f0f0f0f 4)
    0xcccccccc 0x33333333 2) 0xaaaaaaaa 0x55555555 1
def shift1 (r : Nat) : Nat :=
  if r &&& 0x80000000 = 0 then r <<< 1 % 4294967296 else r <<< 1 % 4294967296 ^^^ 0x1edc6f41
def step0 (r : Nat) : Nat := if r % 2 = 1 then r >>> 1 ^^^ 0x82F63B78 else r >>> 1
def A (r : Nat) : Nat := Nat.repeat step0 8 r
def entry (i : Nat) : Nat × Nat × Nat × Nat :=
  let r1 := Nat.repeat shift1 8 (reverse i)
  let r2 := Nat.repeat shift1 8 r1
  let r3 := Nat.repeat shift1 8 r2
  (reverse r1, reverse r2, reverse r3, reverse (Nat.repeat shift1 8 r3))
end OnNat

theorem toNat_step0 (r : UInt32) : (step0 r).toNat = OnNat.step0 r.toNat := by
  simp [step0, OnNat.step0, apply_ite UInt32.toNat, ← UInt32.toNat_inj, polyR]

theorem step0_eq (r : UInt32) : step0 r = (r >>> 1) ^^^ (if r.toNat.testBit 0 then polyR else 0) := by
  rw [← UInt32.toNat_inj, toNat_step0, OnNat.step0, Nat.testBit_zero]
  split <;> simp [*, polyR]

theorem coeffs_step0 (r : UInt32) : coeffs (step0 r) = lstep castagnoli.tail (coeffs r) false := by
  have hh : (coeffs r).headD false = r.toNat.testBit 0 := by simp [coeffs, List.range_succ_eq_map]
  have hl : (coeffs (r >>> 1)).length = 32 := coeffs_length _
  rw [step0_eq, coeffs_xor, lstep, hh, Bool.xor_false, ← coeffs_shr1]
  cases r.toNat.testBit 0
  · rw [if_neg Bool.false_ne_true, if_neg Bool.false_ne_true, coeffs_zero, ← hl, zx_zeros_right]
  · rw [if_pos rfl, if_pos rfl, coeffs_polyR, addFront_eq_zx _ _ (by rw [castagnoli_tail_length, hl])]

theorem coeffs_one : coeffs 1 = true :: List.replicate 31 false := by decide

theorem coeffs_bitStep (r : UInt32) (b : Bool) :
    coeffs (bitStep r b) = lstep castagnoli.tail (coeffs r) b := by
  unfold bitStep
  rw [coeffs_step0]
  cases b
  · simp
  · simp only [if_true]
    rw [coeffs_xor, coeffs_one]
    have hl := coeffs_length r
    generalize coeffs r = c at *
    cases c with
    | nil => simp at hl
    | cons x xs =>
      have hx : xs.length = 31 := by simpa using hl
      rw [zx_cons, ← hx, zx_zeros_right]
      simp [lstep]

theorem coeffs_fold (bits : List Bool) (r : UInt32) :
    coeffs (bits.foldl bitStep r) = bits.foldl (lstep castagnoli.tail) (coeffs r) := by
  induction bits generalizing r with
  | nil => rfl
  | cons b bs ih => simp only [List.foldl_cons]; rw [ih, coeffs_bitStep]

theorem init_eq : Model.Crc32c.init = bitStep 0 true := by decide

/-- the word register started at `CRC32C_Init`'s value and run over the data bits holds the
    remainder of `(1 ‖ data)·x³²` -/
theorem coeffs_run (data : Bytes) :
    coeffs ((bitsLSB data).foldl bitStep Model.Crc32c.init) = rem data := by
  rw [init_eq, coeffs_fold, coeffs_bitStep, coeffs_zero]
  unfold rem
  have h := reduce_eq_fold_zero castagnoli.tail (by rw [castagnoli_tail_length]; omega) (true :: bitsLSB data)
  rw [castagnoli_tail_length] at h
  rw [h]
  rfl

theorem shr1_xor (a b : UInt32) : (a ^^^ b) >>> 1 = (a >>> 1) ^^^ (b >>> 1) := by
  apply UInt32.toBitVec_inj.mp
  simp only [UInt32.toBitVec_shiftRight, UInt32.toBitVec_xor]
  ext i hi
  simp

theorem step0_xor (a b : UInt32) : step0 (a ^^^ b) = step0 a ^^^ step0 b := by
  rw [step0_eq, step0_eq a, step0_eq b, shr1_xor]
  simp only [UInt32.toNat_xor, Nat.testBit_xor]
  cases a.toNat.testBit 0 <;> cases b.toNat.testBit 0 <;> simp
  · ac_rfl
  · ac_rfl
  · rw [show a >>> 1 ^^^ polyR ^^^ (b >>> 1 ^^^ polyR) = (polyR ^^^ polyR) ^^^ (a >>> 1 ^^^ b >>> 1) by ac_rfl]
    simp

/-- eight register steps with input bits 0: what one input byte's worth of shifting does to the state -/
def A (r : UInt32) : UInt32 := step0 (step0 (step0 (step0 (step0 (step0 (step0 (step0 r)))))))

theorem A_xor (a b : UInt32) : A (a ^^^ b) = A a ^^^ A b := by simp [A, step0_xor]

theorem step0_even (x : UInt32) (h : x.toNat % 2 = 0) : step0 x = x >>> 1 := by
  rw [step0_eq]
  have : x.toNat.testBit 0 = false := by rw [Nat.testBit_zero]; simp [h]
  rw [this]; simp

theorem shr1_toNat (x : UInt32) : (x >>> 1).toNat = x.toNat / 2 := by
  simp [UInt32.toNat_shiftRight, Nat.shiftRight_eq_div_pow]

theorem toNat_repeat_step0 (x : UInt32) (k : Nat) (h : x.toNat % 2 ^ k = 0) :
    (Nat.repeat step0 k x).toNat = x.toNat / 2 ^ k := by
  induction k with
  | zero => simp [Nat.repeat]
  | succ k ih =>
    have hk : x.toNat % 2 ^ k = 0 := by rw [← Nat.mod_mod_of_dvd _ ⟨2, Nat.pow_succ ..⟩, h, Nat.zero_mod]
    have he : (Nat.repeat step0 k x).toNat % 2 = 0 := by
      rw [ih hk, ← Nat.mod_mul_right_div_self, ← Nat.pow_succ, h, Nat.zero_div]
    rw [Nat.repeat, step0_even _ he, shr1_toNat, ih hk, Nat.div_div_eq_div_mul, ← Nat.pow_succ]

theorem repeat_succ' {α : Type} (f : α → α) (n : Nat) (a : α) : Nat.repeat f (n + 1) a = Nat.repeat f n (f a) := by
  induction n with
  | zero => rfl
  | succ n ih => rw [Nat.repeat, ih]; rfl

theorem two_mul_xor (n : Nat) (b : Bool) : 2 * n ^^^ (if b then 1 else 0) = 2 * n + (if b then 1 else 0) := by
  cases b
  · simp
  · have h1 : (2 * n ^^^ 1) / 2 = n := by rw [Nat.xor_div_two]; simp
    have h2 : (2 * n ^^^ 1) % 2 = 1 := by rw [Nat.xor_mod_two_eq_one]; omega
    simp only [if_true]; omega

/-- `k ≤ 32` steps on the bits `bits`: xor them into the low end (first bit lowest), then `k` steps with input 0.
The bit xored in at position `j` has moved down to position 0 when step `j` reads it, because the steps before it are
linear and a word with a zero low bit is only shifted. -/
theorem foldl_bitStep (bits : List Bool) (h : bits.length ≤ 32) (r : UInt32) :
    bits.foldl bitStep r = Nat.repeat step0 bits.length (r ^^^ UInt32.ofNat (lsb bits)) := by
  induction bits generalizing r with
  | nil => simp [lsb, Nat.repeat]
  | cons b bs ih =>
    have hL : lsb bs < 2 ^ 31 :=
      Nat.lt_of_lt_of_le (lsb_lt bs) (Nat.pow_le_pow_right (by decide) (by simpa using h))
    have e : UInt32.ofNat (lsb (b :: bs)) = UInt32.ofNat (2 * lsb bs) ^^^ (if b then 1 else 0) := by
      rw [lsb_cons, ← two_mul_xor, UInt32.ofNat_xor]
      cases b <;> rfl
    have e2 : step0 (UInt32.ofNat (2 * lsb bs)) = UInt32.ofNat (lsb bs) := by
      have h2 : (UInt32.ofNat (2 * lsb bs)).toNat = 2 * lsb bs := by
        rw [UInt32.toNat_ofNat']; exact Nat.mod_eq_of_lt (by omega)
      rw [step0_even _ (by rw [h2]; omega), ← UInt32.toNat_inj, shr1_toNat, h2, UInt32.toNat_ofNat',
        Nat.mod_eq_of_lt (by omega)]
      omega
    rw [List.foldl_cons, ih (by simp at h; omega), List.length_cons, repeat_succ', e,
      show r ^^^ (UInt32.ofNat (2 * lsb bs) ^^^ if b then 1 else 0) = (r ^^^ if b then 1 else 0) ^^^ UInt32.ofNat (2 * lsb bs)
        by ac_rfl, step0_xor (r ^^^ if b then 1 else 0), e2]
    rfl

theorem A_high (x : UInt32) (h : x.toNat % 256 = 0) : A x = x >>> 8 := by
  apply UInt32.toNat_inj.mp
  rw [show A x = Nat.repeat step0 8 x from rfl, toNat_repeat_step0 x 8 h]
  simp [UInt32.toNat_shiftRight, Nat.shiftRight_eq_div_pow]

theorem mask_split (x m : UInt32) : x = (x &&& m) ^^^ (x &&& ~~~m) := by
  apply UInt32.toBitVec_inj.mp
  simp only [UInt32.toBitVec_xor, UInt32.toBitVec_and, UInt32.toBitVec_not]
  ext i hi
  simp only [BitVec.getElem_xor, BitVec.getElem_and, BitVec.getElem_not]
  cases x.toBitVec[i] <;> cases m.toBitVec[i] <;> rfl

theorem hi_low (x : UInt32) : (x &&& ~~~0xff).toNat % 256 = 0 := by
  rw [UInt32.toNat_and, show (256 : Nat) = 2 ^ 8 from rfl, Nat.and_mod_two_pow]
  exact Nat.and_zero _

theorem hi_shr (x : UInt32) : (x &&& ~~~0xff) >>> 8 = x >>> 8 := by
  rw [← UInt32.toNat_inj, UInt32.toNat_shiftRight, UInt32.toNat_shiftRight, UInt32.toNat_and,
    Nat.shiftRight_and_distrib]
  have := x.toNat_lt
  exact (Nat.and_two_pow_sub_one_eq_mod _ 24).trans
    (Nat.mod_eq_of_lt (by simp [Nat.shiftRight_eq_div_pow]; omega))

theorem A_split (x : UInt32) : A x = A (x &&& 0xff) ^^^ (x >>> 8) := by
  conv => lhs; rw [mask_split x 0xff]
  rw [A_xor, A_high _ (hi_low x), hi_shr]

open Percival.Model.Crc32c

theorem toNat_reverse (x : UInt32) : (reverse x).toNat = OnNat.reverse x.toNat := by
  simp [reverse, OnNat.reverse, OnNat.swap]

theorem toNat_times256 (x : UInt32) : (times256 x).toNat = Nat.repeat OnNat.shift1 8 x.toNat := by
  have h (r : UInt32) : (shift1 r).toNat = OnNat.shift1 r.toNat := by
    simp [shift1, OnNat.shift1, apply_ite UInt32.toNat, ← UInt32.toNat_inj, Gen.Crc32c.poly]
  simp [times256, Nat.repeat, h]

theorem toNat_A (x : UInt32) : (A x).toNat = OnNat.A x.toNat := by
  simp [A, OnNat.A, Nat.repeat, toNat_step0]

theorem tabsN : ∀ n ∈ List.range 256,
    OnNat.entry n = (OnNat.A n, OnNat.A (OnNat.A n), OnNat.A (OnNat.A (OnNat.A n)),
      OnNat.A (OnNat.A (OnNat.A (OnNat.A n)))) := by
  decide +kernel

/-- `init()`'s four tables: `T_k[y]` is `y` pushed through `8(k+1)` register steps -/
theorem tabs (y : UInt32) (h : y.toNat < 256) : entry y.toNat = (A y, A (A y), A (A (A y)), A (A (A (A y)))) := by
  have := tabsN y.toNat (List.mem_range.mpr h)
  simp only [OnNat.entry, Prod.mk.injEq] at this
  simp only [entry, Prod.mk.injEq, ← UInt32.toNat_inj, toNat_reverse, toNat_times256, toNat_A,
    UInt32.ofNat_toNat]
  exact this

def idx (x : UInt32) (b : UInt8) : UInt32 := (x &&& 0xff) ^^^ b.toUInt32

theorem look_T0 (x : UInt32) (b : UInt8) : look T0 x b = A (idx x b) := by
  rw [look, T0, Vector.getElem_ofFn, tabs _ (idx_lt x b)]
  rfl

theorem look_T1 (x : UInt32) (b : UInt8) : look T1 x b = A (A (idx x b)) := by
  rw [look, T1, Vector.getElem_ofFn, tabs _ (idx_lt x b)]
  rfl

theorem look_T2 (x : UInt32) (b : UInt8) : look T2 x b = A (A (A (idx x b))) := by
  rw [look, T2, Vector.getElem_ofFn, tabs _ (idx_lt x b)]
  rfl

theorem look_T3 (x : UInt32) (b : UInt8) : look T3 x b = A (A (A (A (idx x b)))) := by
  rw [look, T3, Vector.getElem_ofFn, tabs _ (idx_lt x b)]
  rfl

/-- "Handle individual bytes": xor the byte into the low end, eight register steps -/
theorem step1_eq (s : UInt32) (b : UInt8) : step1 s b = A (s ^^^ b.toUInt32) := by
  unfold step1
  rw [look_T0, idx, A_xor, A_xor, A_split s]
  ac_rfl

theorem step1_bits (s : UInt32) (b : UInt8) : step1 s b = (bitsOfByte b).foldl bitStep s := by
  have hl : (bitsOfByte b).length = 8 := by simp [bitsOfByte]
  rw [foldl_bitStep _ (by omega), hl, lsb_bitsOfByte, step1_eq, show UInt32.ofNat b.toNat = b.toUInt32 by simp]
  rfl

theorem shr_8_8 (s : UInt32) : (s >>> 8) >>> 8 = s >>> 16 := by
  apply UInt32.toNat_inj.mp
  simp [UInt32.toNat_shiftRight, Nat.shiftRight_eq_div_pow, Nat.div_div_eq_div_mul]

theorem shr_16_8 (s : UInt32) : (s >>> 16) >>> 8 = s >>> 24 := by
  apply UInt32.toNat_inj.mp
  simp [UInt32.toNat_shiftRight, Nat.shiftRight_eq_div_pow, Nat.div_div_eq_div_mul]

theorem shr_24_8 (s : UInt32) : (s >>> 24) >>> 8 = 0 := by
  apply UInt32.toNat_inj.mp
  simp [UInt32.toNat_shiftRight, Nat.shiftRight_eq_div_pow, Nat.div_div_eq_div_mul]
  have := s.toNat_lt
  omega

theorem step4_eq (s : UInt32) (b0 b1 b2 b3 : UInt8) :
    step4 s b0 b1 b2 b3 = step1 (step1 (step1 (step1 s b0) b1) b2) b3 := by
  have h1 : A s = A (s &&& 0xff) ^^^ (s >>> 8) := A_split s
  have h2 : A (s >>> 8) = A ((s >>> 8) &&& 0xff) ^^^ (s >>> 16) := by rw [A_split, shr_8_8]
  have h3 : A (s >>> 16) = A ((s >>> 16) &&& 0xff) ^^^ (s >>> 24) := by rw [A_split, shr_16_8]
  have h4 : A (s >>> 24) = A ((s >>> 24) &&& 0xff) := by rw [A_split, shr_24_8]; simp
  have hA4 : A (A (A (A s))) = A (A (A (A (s &&& 0xff)))) ^^^ A (A (A ((s >>> 8) &&& 0xff)))
      ^^^ A (A ((s >>> 16) &&& 0xff)) ^^^ A ((s >>> 24) &&& 0xff) := by
    rw [h1]; simp only [A_xor]; rw [h2]; simp only [A_xor]; rw [h3]; simp only [A_xor]; rw [h4]
    ac_rfl
  unfold step4
  rw [look_T0, look_T1, look_T2, look_T3, step1_eq, step1_eq, step1_eq, step1_eq]
  simp only [idx, A_xor]
  rw [hA4]
  ac_rfl

end Percival.Proofs.CrcWord
