import Percival.Spec.HumansizeExec
import Percival.Proofs.Humansize
import Percival.Proofs.Keys
/-! Helper lemmas for C16: the enumerating functions of `Spec/HumansizeExec.lean` (what `pmodel parsenum` prints as
    the L1 part of the `hs_*` lines) decide the relations of `Spec/Humansize.lean`. -/
namespace Percival.Proofs.HumansizeExec
open Percival.Spec.Humansize Percival.Spec.HumansizeExec Percival.Spec.Numeral
open Percival.Model.Humansize (isDec)
open Percival.Proofs.Humansize
open Percival.Proofs.Numeral (runVal run_denotes)

theorem mem_allPrefixes (pre : List UInt8) (k : Nat) : (pre, k) ∈ allPrefixes ↔ SiPrefix pre k := by
  unfold allPrefixes SiPrefix
  simp only [List.mem_cons, Prod.mk.injEq, List.mem_filterMap, List.mem_range]
  constructor
  · rintro (⟨rfl, rfl⟩ | ⟨a, ha, h⟩)
    · exact Or.inl ⟨rfl, rfl⟩
    · split at h
      · cases h
      · rename_i h0
        cases hc : siPrefixes[a]? with
        | none => simp [hc] at h
        | some c =>
          simp only [hc, Option.map_some, Option.some.injEq, Prod.mk.injEq] at h
          obtain ⟨rfl, rfl⟩ := h
          exact Or.inr ⟨by omega, c, hc, rfl⟩
  · rintro (⟨rfl, rfl⟩ | ⟨hk, c, hc, rfl⟩)
    · exact Or.inl ⟨rfl, rfl⟩
    · refine Or.inr ⟨k, siPrefixes_lt hc, ?_⟩
      rw [if_neg (by omega), hc]; rfl

theorem mem_allSuffixes (r : List UInt8) (k : Nat) : (r, k) ∈ allSuffixes ↔ Suffix r k := by
  unfold allSuffixes Suffix
  simp only [List.mem_flatMap, List.mem_map, List.mem_cons, List.not_mem_nil, or_false, Prod.mk.injEq, Prod.exists]
  constructor
  · rintro ⟨sp, hsp, pre, j, hp, b, hb, rfl, rfl⟩
    exact ⟨sp, pre, b, rfl, hsp, (mem_allPrefixes pre j).mp hp, hb⟩
  · rintro ⟨sp, pre, b, rfl, hsp, hp, hb⟩
    exact ⟨sp, hsp, pre, k, (mem_allPrefixes pre k).mpr hp, b, hb, rfl, rfl⟩

theorem allSuffixes_keys_nodup : (allSuffixes.map (·.1)).Nodup := by decide +kernel

theorem find_suffix (r : List UInt8) (p : List UInt8 × Nat) :
    allSuffixes.find? (fun q => q.1 == r) = some p ↔ p.1 = r ∧ Suffix r p.2 := by
  rw [Keys.find_iff (f := Prod.fst) allSuffixes_keys_nodup]
  constructor
  · rintro ⟨h1, rfl⟩; exact ⟨rfl, (mem_allSuffixes _ _).mp h1⟩
  · rintro ⟨rfl, h2⟩; exact ⟨(mem_allSuffixes _ _).mpr h2, rfl⟩

theorem specParse_some_iff (s : List UInt8) (v : Nat) :
    specParse s = some v ↔ Parses s v ∧ v ≤ U64MAX := by
  rw [parses_iff]
  unfold specParse
  simp only [isDigit10_eq, List.isEmpty_iff, isDigit10_eq ▸ run_denotes 10 0 s]
  generalize runVal 10 0 (s.takeWhile isDec) = n
  by_cases hne : s.takeWhile isDec = []
  · rw [if_pos hne]
    exact ⟨nofun, fun h => absurd hne h.1.1⟩
  · rw [if_neg hne]
    cases hf : allSuffixes.find? (fun q => q.1 == s.dropWhile isDec) with
    | none =>
      refine ⟨nofun, fun ⟨⟨_, k, hsuf, _⟩, _⟩ => ?_⟩
      rw [(find_suffix _ (_, k)).mpr ⟨rfl, hsuf⟩] at hf
      cases hf
    | some p =>
      obtain ⟨-, hsuf⟩ := (find_suffix _ _).mp hf
      constructor
      · intro h
        simp only at h
        split at h
        · rename_i hle
          cases h
          exact ⟨⟨hne, _, hsuf, rfl⟩, hle⟩
        · cases h
      · rintro ⟨⟨_, k, hk, rfl⟩, hmax⟩
        rw [(find_suffix _ (_, k)).mpr ⟨rfl, hk⟩] at hf
        cases hf
        exact if_pos hmax

theorem specParse_none_iff (s : List UInt8) :
    specParse s = none ↔ ¬ ∃ v, Parses s v ∧ v ≤ U64MAX := by
  constructor
  · rintro h ⟨v, hv⟩
    rw [(specParse_some_iff s v).mpr hv] at h; cases h
  · intro h
    cases hs : specParse s with
    | none => rfl
    | some v => exact absurd ⟨v, (specParse_some_iff s v).mp hs⟩ h

theorem mem_allForms (f : Form) : f ∈ allForms ↔ f.Valid := by
  unfold allForms
  simp only [List.mem_append, List.mem_map, List.mem_range, List.mem_flatMap]
  constructor
  · rintro (⟨x, hx, rfl⟩ | ⟨k, hk, h⟩)
    · simp only [Form.Valid]; omega
    · split at h
      · simp at h
      · simp only [List.mem_append, List.mem_filterMap, List.mem_range] at h
        rcases h with ⟨x, hx, h⟩ | ⟨x, hx, h⟩
        · split at h
          · injection h with h; subst h; simp only [Form.Valid]; omega
          · cases h
        · split at h
          · injection h with h; subst h; simp only [Form.Valid]; omega
          · cases h
  · intro hv
    cases f with
    | bytes m => simp only [Form.Valid] at hv; exact Or.inl ⟨m, by omega, rfl⟩
    | dec a b k =>
      simp only [Form.Valid] at hv
      refine Or.inr ⟨k, by omega, ?_⟩
      rw [if_neg (by omega)]
      simp only [List.mem_append, List.mem_filterMap, List.mem_range]
      refine Or.inl ⟨10 * a + b, by omega, ?_⟩
      rw [if_pos (by omega)]
      have h1 : (10 * a + b) / 10 = a := by omega
      have h2 : (10 * a + b) % 10 = b := by omega
      rw [h1, h2]
    | int x k =>
      simp only [Form.Valid] at hv
      refine Or.inr ⟨k, by omega, ?_⟩
      rw [if_neg (by omega)]
      simp only [List.mem_append, List.mem_filterMap, List.mem_range]
      refine Or.inr ⟨x, by omega, ?_⟩
      rw [if_pos (by omega)]

/-- what the search holds after the forms `seen`: nothing while none of them fits, else one of them that fits and is
    at least as large as every other that fits -/
def Best (n : Nat) (seen : List Form) : Option Form → Prop
  | none => ∀ h ∈ seen, ¬ h.value ≤ n
  | some f => f ∈ seen ∧ f.value ≤ n ∧ ∀ h ∈ seen, h.value ≤ n → h.value ≤ f.value

theorem best_step {n : Nat} {seen : List Form} {acc : Option Form} (h : Best n seen acc) (x : Form) :
    Best n (seen ++ [x]) (better n acc x) := by
  have hmem (g : Form) : g ∈ seen ++ [x] ↔ g ∈ seen ∨ g = x := by simp
  unfold better
  by_cases hx : x.value ≤ n
  · rw [if_pos hx]
    cases acc with
    | none =>
      refine ⟨(hmem x).mpr (Or.inr rfl), hx, fun g hg hgn => ?_⟩
      rcases (hmem g).mp hg with hg | rfl
      · exact absurd hgn (h g hg)
      · exact Nat.le_refl _
    | some f =>
      obtain ⟨h1, h2, h3⟩ := h
      simp only
      split
      · refine ⟨(hmem x).mpr (Or.inr rfl), hx, fun g hg hgn => ?_⟩
        rcases (hmem g).mp hg with hg | rfl
        · have := h3 g hg hgn; omega
        · exact Nat.le_refl _
      · refine ⟨(hmem f).mpr (Or.inl h1), h2, fun g hg hgn => ?_⟩
        rcases (hmem g).mp hg with hg | rfl
        · exact h3 g hg hgn
        · omega
  · rw [if_neg hx]
    cases acc with
    | none =>
      intro g hg
      rcases (hmem g).mp hg with hg | rfl
      · exact h g hg
      · exact hx
    | some f =>
      obtain ⟨h1, h2, h3⟩ := h
      refine ⟨(hmem f).mpr (Or.inl h1), h2, fun g hg hgn => ?_⟩
      rcases (hmem g).mp hg with hg | rfl
      · exact h3 g hg hgn
      · exact absurd hgn hx

theorem best_foldl (n : Nat) (fs : List Form) : ∀ (seen : List Form) (acc : Option Form), Best n seen acc →
    Best n (seen ++ fs) (fs.foldl (better n) acc) := by
  induction fs with
  | nil => intro seen acc h; simpa using h
  | cons x xs ih =>
    intro seen acc h
    simpa using ih (seen ++ [x]) _ (best_step h x)

theorem bestForm_of (n : Nat) (fs : List Form) (h0 : Form.bytes 0 ∈ fs) :
    ∃ f, bestForm n fs = some f ∧ f ∈ fs ∧ f.value ≤ n ∧ ∀ g ∈ fs, g.value ≤ n → g.value ≤ f.value := by
  have h := best_foldl n fs [] none (fun _ h => nomatch h)
  rw [List.nil_append] at h
  unfold bestForm
  cases hf : fs.foldl (better n) none with
  | none => rw [hf] at h; exact absurd (Nat.zero_le n) (h _ h0)
  | some f => rw [hf] at h; exact ⟨f, rfl, h⟩

/-- the search finds the largest valid form not above `n` (there always is one: `0 B`) -/
theorem bestForm_spec (n : Nat) : ∃ f, bestForm n allForms = some f ∧ IsLargestBelow f n := by
  obtain ⟨f, hf, hmem, h1, h4⟩ := bestForm_of n allForms ((mem_allForms _).mpr (by simp [Form.Valid]))
  exact ⟨f, hf, (mem_allForms f).mp hmem, h1, fun g hg hgn => h4 g ((mem_allForms g).mpr hg) hgn⟩

theorem isLargestBelow_unique {f g : Form} {n : Nat} (hf : IsLargestBelow f n) (hg : IsLargestBelow g n) : f = g := by
  have h1 := hf.2.2 g hg.1 hg.2.1
  have h2 := hg.2.2 f hf.1 hf.2.1
  exact value_inj hf.1 hg.1 (by omega)

theorem specFormat_some_iff (n : Nat) (str : List UInt8) :
    specFormat n = some str ↔ ∃ f, IsLargestBelow f n ∧ f.render = some str := by
  obtain ⟨f, hf, hl⟩ := bestForm_spec n
  unfold specFormat
  rw [hf]
  constructor
  · intro h; exact ⟨f, hl, h⟩
  · rintro ⟨g, hg, hr⟩
    rw [isLargestBelow_unique hl hg]; exact hr

theorem render_isSome {f : Form} (hf : f.Valid) : ∃ str, f.render = some str := by
  cases f with
  | bytes m => exact ⟨_, rfl⟩
  | dec a b k =>
    simp only [Form.Valid] at hf
    have : k < siPrefixes.length := by simp [siPrefixes]; omega
    exact ⟨_, by simp [Form.render, this]; rfl⟩
  | int x k =>
    simp only [Form.Valid] at hf
    have : k < siPrefixes.length := by simp [siPrefixes]; omega
    exact ⟨_, by simp [Form.render, this]; rfl⟩

theorem specFormat_isSome (n : Nat) : ∃ str, specFormat n = some str := by
  obtain ⟨f, hf, hl⟩ := bestForm_spec n
  obtain ⟨str, hs⟩ := render_isSome hl.1
  exact ⟨str, (specFormat_some_iff n str).mpr ⟨f, hl, hs⟩⟩

open Percival.Model.Humansize in
theorem parse_eq_spec (s : List UInt8) :
    parse s = match specParse s with | some v => .ok v | none => .fail := by
  cases h : specParse s with
  | some v => exact (parse_ok_iff s v).mpr ((specParse_some_iff s v).mp h)
  | none => exact (parse_fail_iff s).mpr ((specParse_none_iff s).mp h)

open Percival.Model.Humansize in
theorem format_eq_spec (n : Nat) (hn : n < 1000 ^ 7) :
    ∃ str, specFormat n = some str ∧ format n = .str str := by
  obtain ⟨f, str, hl, hr, hf⟩ := format_spec n hn
  exact ⟨str, (specFormat_some_iff n str).mpr ⟨f, hl, hr⟩, hf⟩

end Percival.Proofs.HumansizeExec
