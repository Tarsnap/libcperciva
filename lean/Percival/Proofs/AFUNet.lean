import Percival.Proofs.AFUCalc
/-!
# C14, upper layers: `network_read`, `network_write`, `network_accept` and their cancels

The three calls are one call: bake a cookie, register it for readiness of the descriptor, enter the request in its
table; if the registration fails the cookie goes back.  They differ in where the cookie comes from (the pool of
`network_read.c`, the pool of `network_write.c`, `malloc`), in the direction waited for and in the table: `NetCall`.
`NetCall.start_eq` / `NetCall.cancel_eq` say so of the model's six functions; `At.bake` / `At.unbake` are the two rules for
the cookie, whichever way it comes and goes; `NetCall.start_spec` / `NetCall.cancel_spec` then follow the one call and the
one cancel, and the six theorems at the end are their instances.
-/
namespace Percival.Proofs.AllocFailUpper
open Percival.Model Percival.Model.EvReg Percival.Model.AllocFail
open Percival.Proofs.EvRegNet (regNet netRegistered NetInv)
open Percival.Proofs.EvRegTimer (regImm regTimers TmInv Step Granted)
open Percival.Proofs.EArray (free_facts)

/-! ## a call into a cookie pool -/

/-- `w` after a call into a cookie pool: the oracle, the block lists and the pools' own state have moved -/
def pooled (w : World) (m : Mem) (live cache : List Block) (rd wr : MPool.MP) : World :=
  { w with m := m, live := live, cache := cache, rdPool := rd, wrPool := wr }

/-- the pools do not call into the event layer: the registrations stay, the blocks held become `K` -/
theorem At.pool {w0 w : World} {G : Foot} {K : List (Nat × Site)} {m1 : Mem} {l1 c1 : List Block} {rd wr : MPool.MP}
    (h : At w0 w G) (hb : Blk (withBlocks w m1 l1 c1)) (hs : Step w.m m1) (ho : (l1.map key).Perm K)
    (hc : CacheOk rd wr c1) : At w0 (pooled w m1 l1 c1 rd wr) ⟨K, G.net, G.tm, G.imm⟩ :=
  ⟨evOk_step h.ev hs.n, h.bad0, hb.congr rfl rfl rfl rfl, ⟨ho, h.net, h.tm, h.imm⟩, hc, h.step.trans hs, h.acct⟩

/-- `mpool_malloc` from either pool (`rd`, `wr`: the two pools afterwards), as `poolMalloc_rep` describes it -/
theorem At.poolCookie {w0 w : World} {G : Foot} {site : Site} {o : Option Nat} {m1 : Mem} {l1 c1 : List Block}
    {rd wr : MPool.MP} (h : At w0 w G) (hb : Blk (withBlocks w m1 l1 c1)) (hs : Step w.m m1) (hc : CacheOk rd wr c1)
    (hnone : o = none → l1 = w.live ∧ w.m.refusals < m1.refusals)
    (hsome : ∀ c, o = some c → (∃ sz, l1 = ⟨c, site, sz⟩ :: w.live) ∧ m1.refusals = w.m.refusals) :
    (o = none → At w0 (pooled w m1 l1 c1 rd wr) G ∧ l1 = w.live ∧ w.m.refusals < m1.refusals) ∧
    (∀ c, o = some c → At w0 (pooled w m1 l1 c1 rd wr) (Foot.key (c, site) ++ G) ∧ (∃ sz, l1 = ⟨c, site, sz⟩ :: w.live) ∧
      m1.refusals = w.m.refusals) := by
  refine ⟨fun ho => ?_, fun c ho => ?_⟩
  · obtain ⟨hl, hr⟩ := hnone ho
    exact ⟨h.pool hb hs (hl ▸ h.eq.keys) hc, hl, hr⟩
  · obtain ⟨⟨sz, rfl⟩, hr⟩ := hsome c ho
    exact ⟨h.pool hb hs (h.eq.keys.cons _) hc, ⟨sz, rfl⟩, hr⟩

/-! ## the three kinds of call -/

/-- the three calls that wait for a descriptor -/
inductive NetCall | read | write | accept

namespace NetCall

def start : NetCall → World → Nat → Option Nat × World
  | .read => networkRead
  | .write => networkWrite
  | .accept => networkAccept

def cancel : NetCall → World → Nat → Option World
  | .read => networkReadCancel
  | .write => networkWriteCancel
  | .accept => networkAcceptCancel

def site : NetCall → Site
  | .read => .rdCookie
  | .write => .wrCookie
  | .accept => .acceptCookie

/-- the direction waited for: `EVENTS_NETWORK_OP_WRITE`, or `EVENTS_NETWORK_OP_READ` (a connection arriving on a listening
socket makes it readable) -/
def isWrite : NetCall → Bool
  | .write => true
  | _ => false

/-- the table of the outstanding requests of this kind; an entry holds its cookie and its registration -/
def tab (k : NetCall) : Tab NetReq :=
  { (match k with | .read => Tab.reads | .write => Tab.writes | .accept => Tab.accepts) with
    id := (·.cookie)
    holds := footReq k.site k.isWrite
    segs_set := by cases k <;> exact fun _ _ => rfl
    key := fun _ => ⟨_, _, rfl⟩ }

/-- "Bake a cookie.": `mpool_network_read_cookie_malloc()`, `mpool_network_write_cookie_malloc()`,
`malloc(sizeof(struct accept_cookie))` -/
def bake (k : NetCall) (w : World) : Option Nat × World :=
  match k with
  | .read =>
    match poolMalloc w.rdPool .rdCookie rdCookieSize w with
    | (o, p, w1) => (o, { w1 with rdPool := p })
  | .write =>
    match poolMalloc w.wrPool .wrCookie wrCookieSize w with
    | (o, p, w1) => (o, { w1 with wrPool := p })
  | .accept => alloc w .acceptCookie acceptCookieSize

/-- err1 of the calls and "Free the cookie." of the cancels: `mpool_network_read_cookie_free(C)`,
`mpool_network_write_cookie_free(C)`, `free(C)` -/
def unbake (k : NetCall) (w : World) (c : Nat) : World :=
  match k with
  | .read =>
    match poolFree w.rdPool .rdStack c w with
    | (p, w1) => { w1 with rdPool := p }
  | .write =>
    match poolFree w.wrPool .wrStack c w with
    | (p, w1) => { w1 with wrPool := p }
  | .accept => release w c

/-- a cookie given back is parked without a request: its pool's stack has room (`free` never asks) -/
def room (k : NetCall) (w : World) : Prop :=
  match k with
  | .read => w.rdPool.stacklen < w.rdPool.allocsize
  | .write => w.wrPool.stacklen < w.wrPool.allocsize
  | .accept => True

/-- the three calls are one: bake a cookie, register it, enter the request; or give the cookie back -/
theorem start_eq (k : NetCall) (w : World) (fd : Nat) : k.start w fd =
    match k.bake w with
    | (none, w1) => (none, w1)
    | (some c, w1) =>
      match netReg w1.ev c fd k.isWrite w1.m with
      | (res, e', m') =>
        if res = .ok then (some c, k.tab.wset (setEv w1 e' m') (⟨c, fd⟩ :: k.tab.get (tables w1)))
        else (none, k.unbake (setEv w1 e' m') c) := by
  cases k with
  | read =>
    show networkRead w fd = _
    unfold networkRead bake
    rcases poolMalloc w.rdPool .rdCookie rdCookieSize w with ⟨_ | c, p, w1⟩
    · rfl
    · dsimp only [isWrite]
      rcases netReg w1.ev c fd false w1.m with ⟨res, e', m'⟩
      cases res <;> rfl
  | write =>
    show networkWrite w fd = _
    unfold networkWrite bake
    rcases poolMalloc w.wrPool .wrCookie wrCookieSize w with ⟨_ | c, p, w1⟩
    · rfl
    · dsimp only [isWrite]
      rcases netReg w1.ev c fd true w1.m with ⟨res, e', m'⟩
      cases res <;> rfl
  | accept =>
    show networkAccept w fd = _
    unfold networkAccept bake
    rcases alloc w .acceptCookie acceptCookieSize with ⟨_ | c, w1⟩
    · rfl
    · dsimp only [isWrite]
      rcases netReg w1.ev c fd false w1.m with ⟨res, e', m'⟩
      cases res <;> rfl

/-- the three cancels are one, here for a request that is outstanding and registered: kill the network event, give
the cookie back, take the request out of its table -/
theorem cancel_eq {k : NetCall} {w : World} {c : Nat} {r : NetReq} {e' : Ev} {m' : Mem}
    (hfind : (k.tab.get (tables w)).find? (·.cookie == c) = some r)
    (hnc : netCancel w.ev r.fd k.isWrite w.m = (.ok, e', m')) :
    k.cancel w c = some (k.tab.wset (k.unbake (setEv w e' m') c)
      ((k.tab.get (tables (k.unbake (setEv w e' m') c))).filter (·.cookie != c))) := by
  cases k with
  | read =>
    have hf : w.reads.find? (·.cookie == c) = some r := hfind
    have hn : netCancel w.ev r.fd false w.m = (.ok, e', m') := hnc
    rcases hpf : poolFree (setEv w e' m').rdPool .rdStack c (setEv w e' m') with ⟨p, w2⟩
    simp only [cancel, networkReadCancel, hf, hn, if_true, unbake, hpf]
    rfl
  | write =>
    have hf : w.writes.find? (·.cookie == c) = some r := hfind
    have hn : netCancel w.ev r.fd true w.m = (.ok, e', m') := hnc
    rcases hpf : poolFree (setEv w e' m').wrPool .wrStack c (setEv w e' m') with ⟨p, w2⟩
    simp only [cancel, networkWriteCancel, hf, hn, if_true, unbake, hpf]
    rfl
  | accept =>
    have hf : w.accepts.find? (·.cookie == c) = some r := hfind
    have hn : netCancel w.ev r.fd false w.m = (.ok, e', m') := hnc
    simp only [cancel, networkAcceptCancel, hf, hn, if_true, unbake]
    rfl

end NetCall

/-! ## the rules for the cookie -/

namespace At
variable {w0 w : World} {G : Foot} {k : NetCall}

/-- "Bake a cookie.": refused, and only the oracle has moved; or the call holds the cookie, whose block is the first
live one, and nothing was refused -/
theorem bake {o : Option Nat} {w1 : World} (h : At w0 w G) (hbk : k.bake w = (o, w1)) :
    ∃ m1 l1 c1 rd wr, w1 = pooled w m1 l1 c1 rd wr ∧
      (o = none → At w0 w1 G ∧ l1 = w.live ∧ w.m.refusals < m1.refusals) ∧
      (∀ c, o = some c → At w0 w1 (Foot.key (c, k.site) ++ G) ∧ (∃ sz, l1 = ⟨c, k.site, sz⟩ :: w.live) ∧
        m1.refusals = w.m.refusals) := by
  cases k with
  | accept =>
    cases o with
    | none =>
      obtain ⟨h1, hr, -⟩ := h.refused hbk
      obtain ⟨rfl, -⟩ := alloc_none hbk
      exact ⟨_, _, _, _, _, rfl, fun _ => ⟨h1, rfl, by rw [hr]; exact Nat.lt_succ_self _⟩, nofun⟩
    | some c =>
      obtain ⟨h1, hr⟩ := h.malloc hbk
      obtain ⟨rfl, rfl, -⟩ := alloc_some hbk
      exact ⟨_, _, _, _, _, rfl, nofun, fun c hc => by cases hc; exact ⟨h1, ⟨_, rfl⟩, hr⟩⟩
  | read =>
    rcases hpm : poolMalloc w.rdPool .rdCookie rdCookieSize w with ⟨o', p, w2⟩
    obtain ⟨m1, l1, c1, rfl, hb1, hp1, hf, hs1, hnone, hsome⟩ :=
      poolMalloc_rep (t := .rdStack) (by decide) h.blk h.cache.rd hpm
    simp only [NetCall.bake, hpm, Prod.mk.injEq] at hbk
    obtain ⟨rfl, rfl⟩ := hbk
    exact ⟨m1, l1, c1, p, w.wrPool, rfl, h.poolCookie hb1 hs1 (h.cache.rdStep hf hp1) hnone hsome⟩
  | write =>
    rcases hpm : poolMalloc w.wrPool .wrCookie wrCookieSize w with ⟨o', p, w2⟩
    obtain ⟨m1, l1, c1, rfl, hb1, hp1, hf, hs1, hnone, hsome⟩ :=
      poolMalloc_rep (t := .wrStack) (by decide) h.blk h.cache.wr hpm
    simp only [NetCall.bake, hpm, Prod.mk.injEq] at hbk
    obtain ⟨rfl, rfl⟩ := hbk
    exact ⟨m1, l1, c1, w.rdPool, p, rfl, h.poolCookie hb1 hs1 (h.cache.wrStep hf hp1) hnone hsome⟩

/-- the cookie the call holds goes back: its block leaves `live`, whichever way the pool takes -/
theorem unbake {c : Nat} (h : At w0 w (Foot.key (c, k.site) ++ G)) :
    ∃ m1 c1 rd wr, k.unbake w c = pooled w m1 (eraseId w.live c) c1 rd wr ∧ At w0 (k.unbake w c) G ∧ Step w.m m1 ∧
      (k.room w → m1.n = w.m.n) := by
  obtain ⟨⟨i, s, sz⟩, hb, hkb⟩ := List.mem_map.1 (h.eq.keys.mem_iff.2 List.mem_cons_self)
  obtain ⟨rfl, rfl⟩ : c = i ∧ k.site = s := Prod.mk.inj hkb.symm
  have ho : ((eraseId w.live c).map key).Perm G.keys :=
    perm_erase_key (b := ⟨c, k.site, sz⟩) h.eq.keys h.blk.live_nodup hb
  cases k with
  | accept =>
    obtain ⟨hrel, h1⟩ := h.free
    exact ⟨_, _, _, _, hrel, h1, EvRegTimer.step_free _ _, fun _ => (free_facts w.m false).2.2.2⟩
  | read =>
    rcases hpf : poolFree w.rdPool .rdStack c w with ⟨p3, w3⟩
    obtain ⟨m3, c3, rfl, hb3, hp3, hf3, hs3, hfast⟩ :=
      poolFree_rep (s := .rdCookie) (b := ⟨c, .rdCookie, sz⟩) (by decide) h.blk h.cache.rd hb rfl hpf
    have hun : NetCall.unbake .read w c = pooled w m3 (eraseId w.live c) c3 p3 w.wrPool := by
      simp only [NetCall.unbake, hpf]
      rfl
    rw [hun]
    exact ⟨_, _, _, _, rfl, h.pool hb3 hs3 ho (h.cache.rdStep hf3 hp3), hs3, fun hr => congrArg Mem.n (hfast hr)⟩
  | write =>
    rcases hpf : poolFree w.wrPool .wrStack c w with ⟨p3, w3⟩
    obtain ⟨m3, c3, rfl, hb3, hp3, hf3, hs3, hfast⟩ :=
      poolFree_rep (s := .wrCookie) (b := ⟨c, .wrCookie, sz⟩) (by decide) h.blk h.cache.wr hb rfl hpf
    have hun : NetCall.unbake .write w c = pooled w m3 (eraseId w.live c) c3 w.rdPool p3 := by
      simp only [NetCall.unbake, hpf]
      rfl
    rw [hun]
    exact ⟨_, _, _, _, rfl, h.pool hb3 hs3 ho (h.cache.wrStep hf3 hp3), hs3, fun hr => congrArg Mem.n (hfast hr)⟩

end At

/-! ## the calls -/

namespace NetCall

theorem start_spec (k : NetCall) (w : World) (fd : Nat) (h : Inv0 w) :
    NewPost w (k.start w fd)
      (fun c W => (∃ sz, W.live = ⟨c, k.site, sz⟩ :: w.live) ∧
        tables W = k.tab.set (tables w) (⟨c, fd⟩ :: k.tab.get (tables w)) ∧ W.m.refusals = w.m.refusals)
      (fdOk w fd k.isWrite) := by
  rcases hbk : k.bake w with ⟨o, w1⟩
  obtain ⟨m1, l1, c1, rd, wr, hw1, hnone, hsome⟩ := h.at.bake hbk
  cases o with
  | none =>
    -- "Bake a cookie." refused: err0
    obtain ⟨h1, rfl, hr⟩ := hnone rfl
    simp only [start_eq, hbk]
    subst hw1
    exact ⟨h1, fun _ => ⟨rfl, rfl, rfl, rfl⟩, nofun, fun _ => rfl, fun _ _ => hr⟩
  | some c =>
    obtain ⟨h1, ⟨sz, rfl⟩, hr1⟩ := hsome c rfl
    -- "Register a callback for network readiness." (accept: "Register a network event.")
    rcases hnr : netReg w1.ev c fd k.isWrite w1.m with ⟨res, e', m'⟩
    obtain ⟨hok, hno⟩ := h1.netReg hnr
    simp only [start_eq, hbk, hnr]
    subst hw1
    by_cases hres : res = .ok
    · obtain ⟨h2, hr2⟩ := hok hres
      -- "Success!": the request enters its table, holding the cookie and the registration
      have hc := k.tab.cons (tables w) ⟨c, fd⟩ (k.tab.get (tables w))
      rw [k.tab.set_get] at hc
      have h3 := h2.put k.tab (⟨c, fd⟩ :: k.tab.get (tables w)) hc.symm
      have hr3 : ∀ W : World, W.m = m' → W.m.refusals = w.m.refusals := fun W hW => hW ▸ hr2.trans hr1
      rw [if_pos hres]
      exact ⟨h3, nofun, fun c' hc' => by
          cases hc'; exact ⟨⟨sz, k.tab.wset_live _ _⟩, k.tab.tables_wset _ _, hr3 _ (k.tab.wset_m _ _)⟩,
        fun hne => absurd (hr3 _ (k.tab.wset_m _ _)) hne, nofun⟩
    · -- err1: the registry is as it was and the cookie goes back
      obtain ⟨h2, hreg, hprog⟩ := hno hres
      obtain ⟨m3, c3, rd3, wr3, hun, h3, hs3, -⟩ := h2.unbake
      rw [if_neg hres]
      rw [hun] at h3 ⊢
      exact ⟨h3, fun _ => ⟨eraseId_head _ _, rfl, hreg, rfl⟩, nofun, fun _ => rfl,
        fun _ hr' => Nat.lt_of_lt_of_le (hr1 ▸ hprog hr') hs3.r⟩

/-- the cancels cannot fail, under every oracle; the last clause: they request nothing while the event layer's
record pool and the cookie's own pool have room -/
theorem cancel_spec (k : NetCall) (w : World) (a : NetReq) (h : Inv0 w) (ha : a ∈ k.tab.get (tables w)) :
    ∃ w', k.cancel w a.cookie = some w' ∧ Arrives w w' ∧ w'.live = eraseId w.live a.cookie ∧
      tables w' = k.tab.set (tables w) ((k.tab.get (tables w)).filter (fun x => x.cookie != a.cookie)) ∧
      (w.ev.recPool.stacklen < w.ev.recPool.allocsize → k.room w → w'.m.n = w.m.n) := by
  have hfind := Keys.find (f := (·.cookie)) (h.ids k.tab) ha
  -- the entry leaves its table: the call holds what it held
  have h0 : At w w ({ net := [(a.fd, k.isWrite, a.cookie)] } ++ (Foot.key (a.cookie, k.site) ++
      foot (k.tab.set (tables w) ((k.tab.get (tables w)).filter (fun x => x.cookie != a.cookie))))) := h.at.take k.tab ha
  -- "Kill the network event." (accept: "Cancel the network event."; the C ignores the return value: it is `.ok`, the
  -- registration is the call's)
  rcases hnc : netCancel w.ev a.fd k.isWrite w.m with ⟨res, e', m'⟩
  obtain ⟨rfl, h1, hna⟩ := h0.netCancel hnc
  -- "Free the cookie."
  obtain ⟨m3, c3, rd3, wr3, hun, h2, hs3, hn3⟩ := h1.unbake
  rw [hun] at h2
  rw [cancel_eq hfind hnc, hun]
  exact ⟨_, rfl, h2.put k.tab _ (.refl _), k.tab.wset_live _ _, k.tab.tables_wset _ _,
    fun hroom hroom2 => (congrArg Mem.n (k.tab.wset_m _ _)).trans ((hn3 hroom2).trans (hna hroom))⟩

end NetCall

theorem networkRead_spec (w : World) (fd : Nat) (h : Inv0 w) :
    NewPost w (networkRead w fd)
      (fun c W => (∃ sz, W.live = ⟨c, .rdCookie, sz⟩ :: w.live) ∧
        tables W = { tables w with reads := ⟨c, fd⟩ :: w.reads } ∧ W.m.refusals = w.m.refusals)
      (fdOk w fd false) :=
  NetCall.start_spec .read w fd h

theorem networkWrite_spec (w : World) (fd : Nat) (h : Inv0 w) :
    NewPost w (networkWrite w fd)
      (fun c W => (∃ sz, W.live = ⟨c, .wrCookie, sz⟩ :: w.live) ∧
        tables W = { tables w with writes := ⟨c, fd⟩ :: w.writes } ∧ W.m.refusals = w.m.refusals)
      (fdOk w fd true) :=
  NetCall.start_spec .write w fd h

theorem networkAccept_spec (w : World) (fd : Nat) (h : Inv0 w) :
    NewPost w (networkAccept w fd)
      (fun c W => (∃ sz, W.live = ⟨c, .acceptCookie, sz⟩ :: w.live) ∧
        tables W = { tables w with accepts := ⟨c, fd⟩ :: w.accepts } ∧ W.m.refusals = w.m.refusals)
      (fdOk w fd false) :=
  NetCall.start_spec .accept w fd h

/-- `network_read_cancel`: cannot fail, under every oracle; the cookie is parked (or, cache full, freed) -/
theorem networkReadCancel_spec (w : World) (a : NetReq) (h : Inv0 w) (ha : a ∈ w.reads) :
    ∃ w', networkReadCancel w a.cookie = some w' ∧ Arrives w w' ∧
      w'.live = eraseId w.live a.cookie ∧
      tables w' = { tables w with reads := w.reads.filter (fun x => x.cookie != a.cookie) } ∧
      (w.ev.recPool.stacklen < w.ev.recPool.allocsize → w.rdPool.stacklen < w.rdPool.allocsize → w'.m.n = w.m.n) :=
  NetCall.cancel_spec .read w a h ha

/-- `network_write_cancel`: cannot fail, under every oracle; the cookie is parked (or, cache full, freed) -/
theorem networkWriteCancel_spec (w : World) (a : NetReq) (h : Inv0 w) (ha : a ∈ w.writes) :
    ∃ w', networkWriteCancel w a.cookie = some w' ∧ Arrives w w' ∧
      w'.live = eraseId w.live a.cookie ∧
      tables w' = { tables w with writes := w.writes.filter (fun x => x.cookie != a.cookie) } ∧
      (w.ev.recPool.stacklen < w.ev.recPool.allocsize → w.wrPool.stacklen < w.wrPool.allocsize → w'.m.n = w.m.n) :=
  NetCall.cancel_spec .write w a h ha

/-- `network_accept_cancel`: cannot fail, under every oracle -/
theorem networkAcceptCancel_spec (w : World) (a : NetReq) (h : Inv0 w) (ha : a ∈ w.accepts) :
    ∃ w', networkAcceptCancel w a.cookie = some w' ∧ Arrives w w' ∧
      w'.live = eraseId w.live a.cookie ∧
      tables w' = { tables w with accepts := w.accepts.filter (fun x => x.cookie != a.cookie) } ∧
      (w.ev.recPool.stacklen < w.ev.recPool.allocsize → w'.m.n = w.m.n) := by
  obtain ⟨w', h1, h2, h3, h4, h5⟩ := NetCall.cancel_spec .accept w a h ha
  exact ⟨w', h1, h2, h3, h4, fun hr => h5 hr trivial⟩

end Percival.Proofs.AllocFailUpper
