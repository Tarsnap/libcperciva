import Percival.Proofs.MDStream
/-! Both `_Pad` shapes produce the specified hash, for every partition of the message into `_Update` calls. -/
namespace Percival.Proofs.MDStream
open Percival.Spec Percival.Spec.MD Percival.Model.Hash Percival.Proofs.MD

variable {a : Alg} {p : Params} (rf : Refines a p)

theorem pad_take (n : Nat) (h1 : 1 ≤ n) (h2 : n ≤ 64) :
    ((0x80 : UInt8) :: List.replicate 63 0).take n = 0x80 :: List.replicate (n - 1) 0 := by
  obtain ⟨m, rfl⟩ : ∃ m, n = m + 1 := ⟨n - 1, by omega⟩
  simp only [List.take_succ_cons, List.take_replicate, Nat.add_sub_cancel]
  congr 2; omega

/-- SHA-1 / MD5 `_Pad` (two `_Update`s) -/
theorem padUpd_stateAt (s0 : p.St) (j : Nat) (c : Ctx a) (msg : Bytes) (h : InvAt rf s0 j c msg) :
    rf.R (padUpd a c).state = absorb p s0 (msg ++ padding p (64 * j + msg.length)) := by
  unfold padUpd
  have i := update_invAt rf s0 j _ _ (a.cnt.enc c.count) (update_invAt rf s0 j c msg (a.PAD.take
    (if a.cnt.r c.count < 56 then 56 - a.cnt.r c.count else 120 - a.cnt.r c.count)) h)
  rw [i.state, ← absorb_full, List.append_assoc, rf.cnt.r, h.count, r_eq, rf.PAD,
    pad_take _ (by split <;> omega) (by split <;> omega), padding_eq, rf.cnt.enc, h.count]

theorem finalUpd_eq_hash (c : Ctx a) (msg : Bytes) (h : Inv rf c msg) : finalUpd a c = MD.hash p msg := by
  unfold finalUpd MD.hash
  rw [rf.digest, padUpd_stateAt rf p.init 0 c msg h.toAt, Nat.mul_zero, Nat.zero_add]

theorem memcpy_memcpy_end (dst x y : Bytes) (off k : Nat) (h1 : off + x.length = k) (h2 : k + y.length = dst.length) :
    memcpy (memcpy dst off x) k y = dst.take off ++ x ++ y := by
  rw [memcpy_eq_of_take _ _ k (by rw [memcpy_length _ _ _ (by omega)]; exact h2), ← h1, memcpy_take _ _ _ (by omega)]

/-- SHA-256 `_Pad` (padding written into `buf`) -/
theorem pad256_stateAt (s0 : p.St) (j : Nat) (c : Ctx a) (msg : Bytes) (h : InvAt rf s0 j c msg) :
    rf.R (pad256 a c).state = absorb p s0 (msg ++ padding p (64 * j + msg.length)) := by
  obtain ⟨m, t, k, rfl, hm, ht, hr, hst, hpend⟩ := h.split
  have hbl := h.buflen
  have henc : p.lenEnc (8 * (64 * j + (m ++ t).length) % 2^64) = a.cnt.enc c.count := by rw [rf.cnt.enc, h.count]
  have hlen8 : (a.cnt.enc c.count).length = 8 := by rw [← henc]; exact p.lenEnc_len _
  have hmod : (64 * j + (m ++ t).length) % 64 = t.length := by rw [List.length_append]; omega
  unfold pad256
  simp only [hr]
  rw [padding_eq, hmod, henc, rf.PAD]
  by_cases hlt : t.length < 56
  · -- one block: rest, 0x80, zeros up to 56, the count
    simp only [hlt, if_true]
    generalize a.cnt.enc c.count = enc at hlen8 ⊢
    rw [pad_take _ (by omega) (by omega)]
    generalize hP : ((0x80 : UInt8) :: List.replicate (56 - t.length - 1) 0) = P
    have hPl : P.length = 56 - t.length := by rw [← hP, List.length_cons, List.length_replicate]; omega
    have hblk : (t ++ P ++ enc).length = 64 := by simp only [List.length_append, hPl, hlen8]; omega
    rw [memcpy_memcpy_end _ _ _ _ 56 (by omega) (by omega), hpend, rf.transform _ _ hblk, hst,
      ← absorb_one p _ _ hblk, ← absorb_append p _ _ _ k hm]
    simp only [List.append_assoc]
  · -- two blocks: rest, 0x80, zeros up to 64; then 56 zeros, the count
    simp only [hlt, if_false]
    generalize a.cnt.enc c.count = enc at hlen8 ⊢
    have e : ((0x80 : UInt8) :: List.replicate (120 - t.length - 1) 0) =
        (0x80 :: List.replicate (64 - t.length - 1) 0) ++ List.replicate 56 0 := by
      rw [List.cons_append, List.replicate_append_replicate]; congr 2; omega
    rw [pad_take _ (by omega) (by omega), e]
    generalize hP : ((0x80 : UInt8) :: List.replicate (64 - t.length - 1) 0) = P
    have hPl : P.length = 64 - t.length := by rw [← hP, List.length_cons, List.length_replicate]; omega
    have hb1 : (t ++ P).length = 64 := by rw [List.length_append, hPl]; omega
    have hb2 : (List.replicate 56 (0 : UInt8) ++ enc).length = 64 := by
      rw [List.length_append, List.length_replicate, hlen8]
    rw [memcpy_eq_of_take _ _ _ (by omega), hpend,
      memcpy_memcpy_end _ _ _ 0 56 (by rw [List.length_replicate]) (by omega), List.take_zero, List.nil_append,
      rf.transform _ _ hb2, rf.transform _ _ hb1, hst, ← absorb_one p _ _ hb2, ← absorb_block p _ _ _ hb1,
      ← absorb_append p _ _ _ k hm]
    simp only [List.append_assoc]

theorem final256_eq_hash (c : Ctx a) (msg : Bytes) (h : Inv rf c msg) : final256 a c = MD.hash p msg := by
  unfold final256 MD.hash
  rw [rf.digest, pad256_stateAt rf p.init 0 c msg h.toAt, Nat.mul_zero, Nat.zero_add]

theorem stream256_eq_spec (rf : Refines a p) (chunks : List Bytes) :
    final256 a (chunks.foldl (update a) (init a)) = MD.hash p chunks.flatten := by
  have := foldl_inv rf (init a) [] chunks (init_inv rf)
  simpa using final256_eq_hash rf _ _ this

theorem streamUpd_eq_spec (rf : Refines a p) (chunks : List Bytes) :
    finalUpd a (chunks.foldl (update a) (init a)) = MD.hash p chunks.flatten := by
  have := foldl_inv rf (init a) [] chunks (init_inv rf)
  simpa using finalUpd_eq_hash rf _ _ this

/-- the one-shot forms (`*_Buf`): a single update -/
theorem buf256_eq_spec (rf : Refines a p) (m : Bytes) : final256 a (update a (init a) m) = MD.hash p m := by
  simpa using stream256_eq_spec rf [m]

theorem bufUpd_eq_spec (rf : Refines a p) (m : Bytes) : finalUpd a (update a (init a) m) = MD.hash p m := by
  simpa using streamUpd_eq_spec rf [m]

end Percival.Proofs.MDStream
