import Percival.Proofs.Getopt
/-! With `=`-free long names the Spec's table lookup does not depend on the order of the table (C18). -/
namespace Percival.Proofs.Getopt
open Percival.Spec.Getopt Percival.Model.Getopt

theorem matchOpt_cases {o : Opt} {w : Str} {v : Option Str} (h : matchOpt o w = some v) :
    w = o.name ∨ (o.name ++ [eqc]) <+: w := by
  unfold matchOpt at h
  by_cases h1 : w = o.name
  · exact Or.inl h1
  · by_cases h2 : (o.name ++ [eqc]).isPrefixOf w = true
    · exact Or.inr (List.isPrefixOf_iff_prefix.mp h2)
    · simp [h1, h2] at h

theorem prefix_eq_mem {n m : Str} (h : (n ++ [eqc]) <+: m) : eqc ∈ m ∧ n.length + 1 ≤ m.length := by
  obtain ⟨t, rfl⟩ := h
  constructor
  · simp
  · simp

/-- if `a=` is a prefix of `b=` and `b` is `=`-free, then `a` is `b` (a shorter `a` would put its `=` inside `b`) -/
theorem name_eq_of_prefix {a b : Str} (la : 2 ≤ a.length) (heb : EqFreeLong b) (hp : (a ++ [eqc]) <+: (b ++ [eqc])) :
    a = b := by
  by_cases heq : a.length = b.length
  · exact List.append_inj_left' (hp.eq_of_length (by simp [heq])) rfl
  · have hlt : a.length < b.length := by have := hp.length_le; simp at this; omega
    obtain ⟨t, ht⟩ := hp
    have : eqc ∈ b := by
      have h1 : (a ++ [eqc] ++ t)[a.length]? = some eqc := by simp
      rw [ht, List.getElem?_append_left hlt] at h1
      exact List.mem_of_getElem? h1
    exact absurd this (heb (by omega))

theorem match_two {a b : Opt} {w : Str} {va vb : Option Str}
    (hva : ValidName a.name) (hvb : ValidName b.name) (hea : EqFreeLong a.name) (heb : EqFreeLong b.name)
    (ha : matchOpt a w = some va) (hb : matchOpt b w = some vb) : a.name = b.name := by
  have la := validName_length hva
  have lb := validName_length hvb
  rcases matchOpt_cases ha with ha | ha <;> rcases matchOpt_cases hb with hb | hb
  · rw [← ha, ← hb]
  · rw [ha] at hb
    exact absurd (prefix_eq_mem hb).1 (hea (by have := (prefix_eq_mem hb).2; omega))
  · rw [hb] at ha
    exact absurd (prefix_eq_mem ha).1 (heb (by have := (prefix_eq_mem ha).2; omega))
  · -- both `name=` are prefixes of `w`, so one is a prefix of the other
    rcases Nat.le_total (a.name ++ [eqc]).length (b.name ++ [eqc]).length with hle | hle
    · exact name_eq_of_prefix la heb (List.prefix_of_prefix_length_le ha hb hle)
    · exact (name_eq_of_prefix lb hea (List.prefix_of_prefix_length_le hb ha hle)).symm

theorem lookupLong_unique (opts : List Opt)
    (hv : ∀ o ∈ opts, ValidName o.name ∧ EqFreeLong o.name)
    (hd : opts.Pairwise (fun a b => a.name ≠ b.name)) (w : Str) (o : Opt) (v : Option Str)
    (ho : o ∈ opts) (hm : matchOpt o w = some v) : lookupLong opts w = some (o, v) := by
  induction opts with
  | nil => cases ho
  | cons a rest ih =>
    rw [List.pairwise_cons] at hd
    simp only [lookupLong]
    rcases List.mem_cons.mp ho with rfl | ho'
    · simp [hm]
    · cases hma : matchOpt a w with
      | some va =>
        have := match_two (hv a (by simp)).1 (hv o ho).1 (hv a (by simp)).2 (hv o ho).2 hma hm
        exact absurd this (hd.1 o ho')
      | none =>
        exact ih (fun o ho => hv o (List.mem_cons_of_mem _ ho)) hd.2 ho'
end Percival.Proofs.Getopt
