import Percival.Proofs.Getopt
import Percival.Proofs.GetoptTables
/-! A concrete switch and command line, used by the non-vacuity examples of `Properties/C18.lean`. -/
namespace Percival.Proofs.Getopt
open Percival.Spec.Getopt Percival.Model.Getopt

/-- `"…"` as bytes (ASCII) -/
def b (s : String) : Str := s.toList.map (fun c => UInt8.ofNat c.toNat)

/-- `GETOPT_SWITCH` / `-a` / `-b:` / `--foo` / `--bar:` / `GETOPT_MISSING_ARG` -/
def exLines : List Line :=
  [.blank, .opt (b "-a") false, .opt (b "-b") true, .opt (b "--foo") false, .opt (b "--bar") true, .missing]

def exLinesNoMissing : List Line :=
  [.blank, .opt (b "-a") false, .opt (b "-b") true, .opt (b "--foo") false, .opt (b "--bar") true]

def exArgv : List Str :=
  [b "prog", b "-ab", b "x", b "--bar=1", b "--foo=2", b "-q", b "--bar", b "--", b "--", b "op"]

/-- ends in an option that lacks its argument -/
def exArgvMissing : List Str := [b "prog", b "-a", b "--bar"]

def exOpts : List Opt := [⟨b "-a", false⟩, ⟨b "-b", true⟩, ⟨b "--foo", false⟩, ⟨b "--bar", true⟩]

theorem exLines_wf : (tableOf exLines).WF := GetoptTables.wfB_sound _ (by decide)
theorem exLinesNoMissing_wf : (tableOf exLinesNoMissing).WF := GetoptTables.wfB_sound _ (by decide)

theorem exArgv_nulFree : ∀ a ∈ exArgv, NulFree a := by decide
theorem exArgvMissing_nulFree : ∀ a ∈ exArgvMissing, NulFree a := by decide

end Percival.Proofs.Getopt
