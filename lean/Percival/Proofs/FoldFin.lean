/-! Folds over `List.finRange n`: as folds over `List.range' 0 n`, and as simulations of a fold over a table. -/
namespace Percival.Proofs.FoldFin

theorem map_val_finRange (n : Nat) : (List.finRange n).map Fin.val = List.range' 0 n := by
  apply List.ext_getElem
  · simp
  · intro i h1 h2
    simp

theorem foldl_finRange {σ : Type} (n : Nat) (g : σ → Fin n → σ) (g' : σ → Nat → σ)
    (h : ∀ s (i : Fin n), g' s i.val = g s i) (s : σ) :
    (List.finRange n).foldl g s = (List.range' 0 n).foldl g' s := by
  rw [← map_val_finRange, List.foldl_map]
  congr 1
  funext s i
  exact (h s i).symm

/-- Lines `0 … n-1` of a program simulate a fold over a table `es` of `n` entries: if line `i` takes a
state viewed at `i` to one viewed at `i + 1` the way `spec` consumes `es[i]`, the whole loop is
`es.foldl spec`. -/
theorem foldl_finRange_sim {σ ρ ε : Type} (spec : ρ → ε → ρ) :
    ∀ {n : Nat} (es : List ε) (hn : es.length = n) (g : σ → Fin n → σ) (view : σ → Nat → ρ),
      (∀ S (i : Fin n), view (g S i) (i.val + 1) = spec (view S i.val) (es[i.val]'(hn ▸ i.isLt))) →
      ∀ S, view ((List.finRange n).foldl g S) n = es.foldl spec (view S 0)
  | 0, [], _, _, _, _, _ => rfl
  | n + 1, e :: es, hn, g, view, h, S => by
    have h0 : view (g S 0) 1 = spec (view S 0) e := h S 0
    rw [List.finRange_succ, List.foldl_cons, List.foldl_map, List.foldl_cons, ← h0]
    exact foldl_finRange_sim spec es (Nat.succ.inj hn) (fun S i => g S i.succ) (fun S k => view S (k + 1))
      (fun S i => h S i.succ) (g S 0)

end Percival.Proofs.FoldFin
