/-! Lists of a known length as explicit lists, four elements at a time (matching a long list pattern in one go is
slow to elaborate). -/
namespace Percival.Proofs

theorem uncons4 {α : Type} {l : List α} {n : Nat} (h : l.length = n + 4) :
    ∃ a b c d t, l = a :: b :: c :: d :: t ∧ t.length = n := by
  match l, h with
  | a :: b :: c :: d :: t, h => exact ⟨a, b, c, d, t, rfl, by simpa using h⟩

theorem len3 {α : Type} {l : List α} (h : l.length = 3) : ∃ a b c, l = [a, b, c] := by
  match l, h with
  | [a, b, c], _ => exact ⟨a, b, c, rfl⟩

theorem len16 {α : Type} (l : List α) (h : l.length = 16) :
    ∃ a0 a1 a2 a3 a4 a5 a6 a7 a8 a9 a10 a11 a12 a13 a14 a15,
      l = [a0, a1, a2, a3, a4, a5, a6, a7, a8, a9, a10, a11, a12, a13, a14, a15] := by
  obtain ⟨a0, a1, a2, a3, t, rfl, h1⟩ := uncons4 (n := 12) h
  obtain ⟨a4, a5, a6, a7, t, rfl, h2⟩ := uncons4 (n := 8) h1
  obtain ⟨a8, a9, a10, a11, t, rfl, h3⟩ := uncons4 (n := 4) h2
  obtain ⟨a12, a13, a14, a15, t, rfl, h4⟩ := uncons4 (n := 0) h3
  obtain rfl := List.eq_nil_of_length_eq_zero h4
  exact ⟨_, _, _, _, _, _, _, _, _, _, _, _, _, _, _, _, rfl⟩

end Percival.Proofs
