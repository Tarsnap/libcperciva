import Percival.Model.DH
import Percival.Proofs.Endian
/-! Helper lemmas for C10.  The modelled OpenSSL functions are what their names say: `powMod` is the modular power
(`powMod_eq`), `Spec.DH.ofBE` / `Model.DH.toBE` are the big-endian value and fixed-width encoding of `Spec.Endian`
(`ofBE_eq_beVal`, `toBE_eq_beBytes`; their round trips come from `Proofs/Endian`), zero padding in front of the minimal
encoding `bn2bin` is the fixed-width one (`pad_bn2bin`), `memcmp` on equal lengths compares the values (`memcmp_eq`). -/
namespace Percival.Proofs.DH
open Percival.Model.DH Percival
open Percival.Spec.DH (ofBE)

theorem powModAux_eq (a m : Nat) (f e : Nat) (h : e < 2^f) : powModAux a m f e = a^e % m := by
  induction f generalizing a e with
  | zero =>
    have : e = 0 := by simpa using h
    subst this; simp [powModAux]
  | succ f ih =>
    simp only [powModAux]
    split
    · rename_i h0; subst h0; simp
    · have hlt : e / 2 < 2^f := by
        have : 2^(f+1) = 2 * 2^f := by rw [Nat.pow_succ]; omega
        omega
      rw [ih (a * a % m) (e / 2) hlt]
      have he : e = 2 * (e / 2) + e % 2 := by omega
      have hsq : (a * a % m)^(e/2) % m = a^(2 * (e/2)) % m := by
        rw [← Nat.pow_mod, Nat.pow_mul]; congr 2; exact (Nat.pow_two a).symm
      split
      · rename_i h1
        rw [hsq]
        conv => rhs; rw [he, h1, Nat.pow_succ, Nat.mul_comm]
        rw [Nat.mul_mod, Nat.mod_mod, ← Nat.mul_mod]
      · rename_i h1
        have h2 : e % 2 = 0 := by omega
        rw [hsq]
        conv => rhs; rw [he, h2, Nat.add_zero]

theorem powMod_eq (a e m : Nat) : powMod a e m = a^e % m :=
  powModAux_eq a m _ e Nat.lt_log2_self

theorem ofBE_eq_beVal (l : List UInt8) : ofBE l = Spec.Endian.beVal l := by
  induction l with
  | nil => rfl
  | cons b bs ih => rw [Spec.DH.ofBE, Spec.Endian.beVal, ih]

theorem toBE_eq_beBytes (len n : Nat) : toBE len n = Spec.Endian.beBytes len n := by
  induction len generalizing n with
  | zero => rfl
  | succ len ih => simp [toBE, ih, Spec.Endian.beBytes, Spec.Endian.leBytes]

theorem ofBE_lt (l : List UInt8) : ofBE l < 256^l.length := by
  rw [ofBE_eq_beVal]; exact Proofs.Endian.beVal_lt l

theorem ofBE_lt_two_pow (l : List UInt8) : ofBE l < 2^(8 * l.length) := by
  rw [Nat.pow_mul]; exact ofBE_lt l

theorem toBE_length (len n : Nat) : (toBE len n).length = len := by
  rw [toBE_eq_beBytes, Proofs.Endian.beBytes_length]

theorem ofBE_toBE (len n : Nat) (h : n < 256^len) : ofBE (toBE len n) = n := by
  rw [toBE_eq_beBytes, ofBE_eq_beVal, Proofs.Endian.beVal_beBytes len n h]

theorem toBE_ofBE (l : List UInt8) : toBE l.length (ofBE l) = l := by
  rw [toBE_eq_beBytes, ofBE_eq_beVal, Proofs.Endian.beBytes_beVal]

theorem toBE_zero (len : Nat) : toBE len 0 = List.replicate len 0 := by
  induction len with
  | zero => simp [toBE]
  | succ len ih =>
    simp only [toBE, Nat.zero_div, Nat.zero_mod, ih]
    rw [List.replicate_succ']
    rfl

theorem bn2bin_zero : bn2bin 0 = [] := by
  rw [bn2bin]; simp

theorem bn2bin_pos (n : Nat) (h : n ≠ 0) : bn2bin n = bn2bin (n / 256) ++ [UInt8.ofNat (n % 256)] := by
  rw [bn2bin]; simp [h]

theorem pad_bn2bin (len n : Nat) (h : n < 256^len) :
    numBytes n ≤ len ∧ List.replicate (len - numBytes n) 0 ++ bn2bin n = toBE len n := by
  induction len generalizing n with
  | zero =>
    have : n = 0 := by simpa using h
    subst this
    simp [numBytes, bn2bin_zero, toBE]
  | succ len ih =>
    by_cases hn : n = 0
    · subst hn
      simp [numBytes, bn2bin_zero, toBE_zero]
    · have hlt : n / 256 < 256^len := by rw [Nat.pow_succ] at h; omega
      obtain ⟨hle, heq⟩ := ih (n / 256) hlt
      have hnb : numBytes n = numBytes (n / 256) + 1 := by
        simp [numBytes, bn2bin_pos n hn]
      constructor
      · omega
      · rw [hnb, bn2bin_pos n hn, toBE, ← heq]
        have : len + 1 - (numBytes (n / 256) + 1) = len - numBytes (n / 256) := by omega
        rw [this, List.append_assoc]

/-- a higher leading byte decides, whatever follows -/
theorem lead_lt {u w k p q : Nat} (h : u < w) (hp : p < k) : u * k + p < w * k + q := by
  have := Nat.mul_le_mul_right k (Nat.succ_le_of_lt h)
  rw [Nat.succ_mul] at this
  omega

theorem memcmp_eq (a b : List UInt8) (h : a.length = b.length) :
    memcmp a b = if ofBE a < ofBE b then -1 else if ofBE b < ofBE a then 1 else 0 := by
  induction a generalizing b with
  | nil =>
    cases b with
    | nil => rfl
    | cons _ _ => cases h
  | cons x xs ih =>
    cases b with
    | nil => cases h
    | cons y ys =>
      have hl : xs.length = ys.length := Nat.succ.inj h
      have hx := ofBE_lt xs
      have hy := ofBE_lt ys
      rw [hl] at hx
      simp only [memcmp, Spec.DH.ofBE, ih ys hl, hl]
      generalize (256:Nat)^ys.length = k at *
      by_cases c1 : x < y
      · rw [if_pos c1, if_pos (lead_lt (UInt8.lt_iff_toNat_lt.mp c1) hx)]
      · by_cases c2 : y < x
        · have := lead_lt (q := ofBE xs) (UInt8.lt_iff_toNat_lt.mp c2) hy
          rw [if_neg c1, if_pos c2, if_neg (by omega), if_pos this]
        · have : x.toNat = y.toNat := by
            have n1 : ¬ x.toNat < y.toNat := fun h => c1 (UInt8.lt_iff_toNat_lt.mpr h)
            have n2 : ¬ y.toNat < x.toNat := fun h => c2 (UInt8.lt_iff_toNat_lt.mpr h)
            omega
          simp only [if_neg c1, if_neg c2, this, Nat.add_lt_add_iff_left]

theorem blinded_identity (a p e b : Nat) (hle : b ≤ e) :
    (a^b % p) * (a^(e - b) % p) % p = a^e % p := by
  rw [← Nat.mul_mod, ← Nat.pow_add, Nat.add_sub_cancel' hle]

end Percival.Proofs.DH
