import Percival.Proofs.AFUFoot
/-! C14, upper layers: small definitions shared by the specs of the buffered reader / writer -/
namespace Percival.Proofs.AllocFailUpper
open Percival.Model Percival.Model.EvReg Percival.Model.AllocFail
open Percival.Proofs.EvRegNet (netRegistered)

/-- replace the reader with this id -/
def updReader (l : List Reader) (r' : Reader) : List Reader := l.map (fun x => if x.id == r'.id then r' else x)

/-- replace the writer with this id -/
def updWriter (l : List Writer) (x' : Writer) : List Writer := l.map (fun y => if y.id == x'.id then x' else y)

/-- the preconditions `netbuf_write_consume` asserts -/
def consumeOk (x : Writer) (len : Nat) : Prop :=
  x.reserved = true ∧ ∃ wb, x.queue.getLast? = some wb ∧ len ≤ wb.buflen - wb.datalen

/-- the identifiers of a table's entries are distinct -/
theorem Inv0.ids {α : Type} (T : Tab α) {w : World} (h : Inv0 w) : ((T.get (tables w)).map T.id).Nodup :=
  T.nodup _ h.owns.nodupE

/-- the descriptor can be waited for: its slot is free (otherwise `events_network_register` answers EEXIST) and the socket
list can be that long -/
def fdOk (w : World) (fd : Nat) (isW : Bool) : Prop := ¬ netRegistered w.ev fd isW ∧ 24 * (fd + 1) ≤ EArray.SIZE_MAX

/-- `network_connect` to `addrs` on socket `s` can only fail for want of memory: the socket can be waited for if an attempt
is started at all, and the timer list can grow -/
def connReady (w : World) (addrs : List Connect.AddrOutcome) (s : Nat) : Prop :=
  (skipFailNow addrs ≠ [] → fdOk w s true) ∧ w.ev.timers.length < 2^32

end Percival.Proofs.AllocFailUpper
