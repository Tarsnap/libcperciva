import Percival.Proofs.IeeeRound
/-! C16: the multiple of `2^e` that `roundPos` picks is the nearest-even finite number of the format; the
    overflow and tininess tests are the thresholds of `Spec/Ieee.lean`. -/
namespace Percival.Proofs.Ieee
open Percival.Model.Strtod Percival.Proofs.IeeeArith Percival.Spec.Ieee

/-- the facts about a positive `q` delivered by `roundPos_spec` -/
structure Ctx (f : Format) (q : Rat) (e0 : Int) (m : Nat) : Prop where
  hp : 2 ≤ f.p
  n1 : 2 ^ ((f.p : Int) - 1) * 2 ^ e0 ≤ q
  n2 : q < 2 ^ (f.p : Int) * 2 ^ e0
  hm : NearestInt q (2 ^ clampE f e0) m

theorem clampE_ge (f : Format) (e0 : Int) : f.qmin ≤ clampE f e0 := by unfold clampE; split <;> omega

theorem clampE_le (f : Format) (e0 : Int) : e0 ≤ clampE f e0 := by unfold clampE; split <;> omega

theorem natCast_two_pow (p : Nat) : ((2 ^ p : Nat) : Rat) = 2 ^ (p : Int) := (p2_nat _).symm

theorem nearestInt_le_top {q u : Rat} {m p : Nat} (h : NearestInt q u m) (hu : 0 < u) (htop : q < 2 ^ (p : Int) * u) :
    m ≤ 2 ^ p :=
  h.le_of_le_mul hu (natCast_two_pow p ▸ Rat.le_of_lt htop)

namespace Ctx
variable {f : Format} {q : Rat} {e0 : Int} {m : Nat} (c : Ctx f q e0 m)
include c

theorem q_pos : 0 < q := by
  have := Rat.mul_pos (p2_pos ((f.p : Int) - 1)) (p2_pos e0)
  have := c.n1
  grind

theorem lt_top : q < 2 ^ (f.p : Int) * 2 ^ clampE f e0 := by
  have h := Rat.mul_le_mul_of_nonneg_left (p2_le (clampE_le f e0)) (Rat.le_of_lt (p2_pos (f.p : Int)))
  have := c.n2
  grind

theorem normal (h : f.qmin < clampE f e0) : 2 ^ ((f.p : Int) - 1) * 2 ^ clampE f e0 ≤ q := by
  have : clampE f e0 = e0 := by unfold clampE at h ⊢; split <;> simp_all
  rw [this]; exact c.n1

theorem m_le : m ≤ 2 ^ f.p := nearestInt_le_top c.hm (p2_pos _) c.lt_top

theorem m_ge (h : f.qmin < clampE f e0) : 2 ^ (f.p - 1) ≤ m :=
  c.hm.le_of_mul_le (p2_pos _) (by rw [p2_pred _ (by have := c.hp; omega)]; exact c.normal h)

/-- a representable magnitude `y = c'·2^k` is no nearer to `q` than `m·2^e`; if it is as near and different, `m` is even -/
theorem mag_far (c' : Nat) (k : Int) (hc : c' < 2 ^ f.p) (hk : f.qmin ≤ k) :
    (q - m * 2 ^ clampE f e0).abs ≤ (q - c' * 2 ^ k).abs ∧
    ((c' : Rat) * 2 ^ k ≠ m * 2 ^ clampE f e0 → (q - c' * 2 ^ k).abs = (q - m * 2 ^ clampE f e0).abs → m % 2 = 0) := by
  have hu := p2_pos (clampE f e0)
  by_cases hke : clampE f e0 ≤ k
  · -- a multiple of `2^e`
    rw [mul_p2_eq c' hke]
    refine ⟨nearestInt_le c.hm hu _, fun hne heq => nearestInt_tie c.hm hu _ ?_ heq⟩
    intro h; apply hne; rw [h]
  · -- below the binade of `q`
    have hke : k < clampE f e0 := by omega
    have hn := c.normal (by omega)
    have h1 := nearestInt_le c.hm hu (2 ^ (f.p - 1))
    rw [p2_pred _ (by have := c.hp; omega)] at h1
    have hy := lt_binade (natCast_mul_lt hc k) hke
    have hlt := far_of_lt h1 hy hn
    exact ⟨Rat.le_of_lt hlt, fun _ heq => absurd (heq ▸ hlt) Rat.lt_irrefl⟩

/-- a finite number `d'` of the format is no nearer to `q` than `m·2^e`; if it is as near and different, `m` is even -/
theorem finite_far (d' : Rat) (hd : f.Finite d') :
    (q - m * 2 ^ clampE f e0).abs ≤ (q - d').abs ∧
    (d' ≠ m * 2 ^ clampE f e0 → (q - d').abs = (q - m * 2 ^ clampE f e0).abs → m % 2 = 0) := by
  obtain ⟨c', k, hc, hk1, _, hv⟩ := hd
  rcases abs_cases d' with ⟨_, ha⟩ | ⟨hneg, ha⟩
  · rw [ha] at hv; rw [hv]; exact c.mag_far c' k hc hk1
  · have h0 := nearestInt_le c.hm (p2_pos (clampE f e0)) 0
    simp only [Rat.natCast_ofNat, Rat.zero_mul] at h0
    have hlt := far_of_lt h0 hneg (Rat.le_of_lt c.q_pos)
    exact ⟨Rat.le_of_lt hlt, fun _ heq => absurd (heq ▸ hlt) Rat.lt_irrefl⟩

/-- significand and exponent of the result after a possible carry -/
def resM (f : Format) (m : Nat) : Nat := if m = 2 ^ f.p then 2 ^ (f.p - 1) else m

def resE (f : Format) (e0 : Int) (m : Nat) : Int := if m = 2 ^ f.p then clampE f e0 + 1 else clampE f e0

omit c in
theorem res_val (hp : 1 ≤ f.p) : (resM f m : Rat) * 2 ^ resE f e0 m = m * 2 ^ clampE f e0 := by
  unfold resM resE
  split
  · next h =>
    rw [h, p2_pred _ hp, natCast_two_pow]; exact p2_mul_mul (by omega)
  · rfl

theorem resM_lt : resM f m < 2 ^ f.p := by
  unfold resM
  have := c.m_le
  split
  · exact Nat.pow_lt_pow_right (by omega) (by have := c.hp; omega)
  · omega

theorem res_canonical : resE f e0 m = f.qmin ∨ 2 ^ (f.p - 1) ≤ resM f m := by
  unfold resM resE
  split
  · right; exact Nat.le_refl _
  · by_cases h : f.qmin < clampE f e0
    · right; exact c.m_ge h
    · left; have := clampE_ge f e0; omega

theorem resM_even (h : m % 2 = 0) : resM f m % 2 = 0 := by
  unfold resM
  split
  · have : f.p - 1 = (f.p - 2) + 1 := by have := c.hp; omega
    rw [this, Nat.pow_succ]; omega
  · exact h

omit c in
theorem res_nonneg : (0 : Rat) ≤ m * 2 ^ clampE f e0 :=
  Rat.mul_nonneg Rat.natCast_nonneg (Rat.le_of_lt (p2_pos _))

theorem nearestEven (hov : resE f e0 m ≤ f.qmax) : IsNearestEven f q (m * 2 ^ clampE f e0) := by
  have hp1 : 1 ≤ f.p := by have := c.hp; omega
  have hE : f.qmin ≤ resE f e0 m := by unfold resE; have := clampE_ge f e0; split <;> omega
  have habs : ((m : Rat) * 2 ^ clampE f e0).abs = (resM f m : Rat) * 2 ^ resE f e0 m := by
    rw [Rat.abs_of_nonneg res_nonneg, res_val hp1]
  refine ⟨⟨resM f m, resE f e0 m, c.resM_lt, hE, hov, habs⟩, fun d' hd => (c.finite_far d' hd).1, ?_⟩
  intro d' hd hne heq
  have hev := (c.finite_far d' hd).2 hne heq
  exact ⟨resM f m, resE f e0 m, c.resM_lt, hE, hov, habs, c.res_canonical, c.resM_even hev⟩

end Ctx

theorem p2_neg_one : (2 : Rat) ^ (-1 : Int) = 1 / 2 := by decide +kernel

theorem overflowAt_eq (f : Format) : f.overflowAt = (2 ^ (f.p : Int) - 1 / 2) * 2 ^ f.qmax := by
  unfold Format.overflowAt Format.qmax
  have e1 : (2 : Rat) ^ f.emax = 2 ^ ((f.p : Int) - 1) * 2 ^ (f.emax - ((f.p : Int) - 1)) := (p2_mul (by omega)).symm
  have e2 : (2 : Rat) ^ ((f.p : Int) - 1) * 2 ^ (-(f.p : Int)) = 1 / 2 := (p2_mul (by omega)).trans p2_neg_one
  have e3 : (2 : Rat) ^ ((f.p : Int) - 1) * 2 = 2 ^ (f.p : Int) := by
    rw [Rat.mul_comm, ← p2_succ]; congr 1; omega
  rw [e1]
  generalize (2 : Rat) ^ (f.emax - ((f.p : Int) - 1)) = U at *
  grind

theorem tinyBelow_eq (f : Format) : f.tinyBelow = (2 ^ (f.p : Int) - 1 / 2) * 2 ^ (f.qmin - 1) := by
  unfold Format.tinyBelow Format.qmin
  have e1 : (2 : Rat) ^ f.emin = 2 ^ (f.p : Int) * 2 ^ (f.emin - ((f.p : Int) - 1) - 1) := (p2_mul (by omega)).symm
  have e2 : (2 : Rat) ^ (f.p : Int) * 2 ^ (-((f.p : Int) + 1)) = 1 / 2 := (p2_mul (by omega)).trans p2_neg_one
  rw [e1]
  generalize (2 : Rat) ^ (f.emin - ((f.p : Int) - 1) - 1) = V at *
  grind

/-- rounding carries into the next binade exactly from half an ulp below it on -/
theorem carry_iff {q u : Rat} {m p : Nat} (h : NearestInt q u m) (hu : 0 < u) (hp : 1 ≤ p)
    (htop : q < 2 ^ (p : Int) * u) : m = 2 ^ p ↔ (2 ^ (p : Int) - 1 / 2) * u ≤ q := by
  have hle := nearestInt_le_top h hu htop
  have hev : 2 ^ p % 2 = 0 := by rw [show p = (p - 1) + 1 by omega, Nat.pow_succ]; omega
  rw [← natCast_two_pow, ← h.even_le_iff hu hev]
  omega

theorem one_le_p2_pred {p : Nat} (hp : 1 ≤ p) : (1 : Rat) ≤ 2 ^ ((p : Int) - 1) := by
  have := one_le_p2 (p - 1)
  rwa [show ((p - 1 : Nat) : Int) = (p : Int) - 1 by omega] at this

/-- `q` lies in the binade of exponent `e` (at least from below when `e` is above `T`) and `m·2^e` is its nearest
    multiple: `q` reaches half an ulp below `2^p·2^T` exactly if its binade is above `T`, or is `T` and the
    rounding carries -/
theorem ge_threshold_iff {q : Rat} {p m : Nat} {e T : Int} (hp : 1 ≤ p)
    (n1 : T < e → 2 ^ ((p : Int) - 1) * 2 ^ e ≤ q) (n2 : q < 2 ^ (p : Int) * 2 ^ e)
    (hm : NearestInt q (2 ^ e) m) :
    (2 ^ (p : Int) - 1 / 2) * 2 ^ T ≤ q ↔ T < e ∨ (e = T ∧ m = 2 ^ p) := by
  have hP := one_le_p2_pred hp
  have hPs : (2 : Rat) ^ (p : Int) = 2 * 2 ^ ((p : Int) - 1) := by rw [← p2_succ]; congr 1; omega
  have hU := p2_pos T
  rcases Int.lt_trichotomy e T with hlt | heq | hgt
  · -- `q < 2^p·2^e ≤ 2^(p-1)·2^T`, which is below the threshold
    have h1 := lt_binade n2 hlt
    have h2 := mul_u_le (show 2 ^ ((p : Int) - 1) ≤ (2 : Rat) ^ (p : Int) - 1 / 2 by rw [hPs]; grind) hU
    have : ¬ (T < e ∨ (e = T ∧ m = 2 ^ p)) := by omega
    simp only [this, iff_false]
    exact Rat.not_le.mpr (Std.lt_of_lt_of_le h1 h2)
  · subst heq
    rw [← carry_iff hm (p2_pos _) hp n2]
    omega
  · -- the threshold is below `2^p·2^T = 2^(p-1)·2^(T+1) ≤ 2^(p-1)·2^e ≤ q`
    have h1 := mul_u_le (show (2 : Rat) ^ (p : Int) - 1 / 2 ≤ 2 ^ (p : Int) by grind) hU
    rw [p2_mul_mul (show (p : Int) + T = (p : Int) - 1 + (T + 1) by omega)] at h1
    have h2 := Rat.mul_le_mul_of_nonneg_left (p2_le (show T + 1 ≤ e by omega)) (Rat.le_of_lt (p2_pos ((p : Int) - 1)))
    simp only [hgt, true_or, iff_true]
    exact Rat.le_trans h1 (Rat.le_trans h2 (n1 hgt))

namespace Ctx
variable {f : Format} {q : Rat} {e0 : Int} {m : Nat} (c : Ctx f q e0 m)
include c

theorem overflow_iff (hr : f.qmin ≤ f.qmax) : f.qmax < resE f e0 m ↔ f.Overflows q := by
  unfold Format.Overflows
  rw [Rat.abs_of_nonneg (Rat.le_of_lt c.q_pos), overflowAt_eq,
    ge_threshold_iff (by have := c.hp; omega) (fun h => c.normal (by omega)) c.lt_top c.hm]
  unfold resE
  split <;> omega

/-- glibc's tininess-after-rounding test is `q < tinyBelow` -/
theorem tiny_iff {mu : Nat} (hmu : NearestInt q (2 ^ e0) mu) :
    (e0 < f.qmin ∧ ¬ (e0 + 1 = f.qmin ∧ mu = 2 ^ f.p)) ↔ q < f.tinyBelow := by
  rw [tinyBelow_eq, ← Rat.not_le, ge_threshold_iff (by have := c.hp; omega) (fun _ => c.n1) c.n2 hmu]
  omega

theorem exact_iff (hov : resE f e0 m ≤ f.qmax) : q = m * 2 ^ clampE f e0 ↔ f.Finite q := by
  constructor
  · intro h; have := (c.nearestEven hov).1; rwa [← h] at this
  · intro h
    have h1 := (c.finite_far q h).1
    have hc := abs_cases (q - m * 2 ^ clampE f e0)
    have : (q - q).abs = 0 := by rw [Rat.sub_self]; rfl
    grind

end Ctx

end Percival.Proofs.Ieee
