import Percival.Spec.AwsRequests
import Percival.Model.AwsSign
import Percival.Proofs.Literals
import Percival.Proofs.ByteDecide
import Percival.Proofs.Digits
/-!
`Model.AwsSign` against `Spec.SigV4` (C19).  Three observations carry the file:

* on the URI-unreserved alphabet trimming and percent-encoding are the identity (`Unres.trim`,
  `Unres.uriEncode`);
* filtering and sorting of header fields look at the names only, so for a documented request they
  are evaluated once on the literal names while the values ride along (`signedPairs_map`);
* an `asprintf` layout and the spec's joined pieces are the same alternation of string literals and
  arguments: both sides are brought to that form by merging adjacent literals (`Spec.SigV4.ascii_append`).

The three `*_headers` functions are one function of the service, the announced names and the layout
(`headersCall`); its closed form `headersCall_sigv4` gives each of them as `headersAt`: the body's hash, the
clock's timestamp and the SigV4 `Authorization` value at that timestamp, or nothing when the prologue fails.
-/
namespace Percival.Proofs.AwsSign
open Percival.Spec Percival.Spec.SigV4 Percival.Model.AwsSign

theorem lit_eq (s : String) : lit s = ascii s := rfl

theorem hexifyByte_eq : ∀ x : UInt8, hexifyByte x = some [hexDigit (x / 16), hexDigit (x % 16)] := by
  decide +kernel

theorem hexify_eq (b : Bytes) : hexify b = some (hex b) := by
  induction b with
  | nil => rfl
  | cons x r ih =>
    simp only [hexify, hexifyByte_eq, ih, hex, List.flatMap_cons]

theorem ascii_append_append (s t : String) (x : Bytes) : ascii s ++ (ascii t ++ x) = ascii (s ++ t) ++ x := by
  rw [← List.append_assoc, ← ascii_append]

/-- the separators the spec writes as bytes -/
theorem ascii_chars : ([10] : Bytes) = ascii "\n" ∧ ([47] : Bytes) = ascii "/" ∧ ([58] : Bytes) = ascii ":" ∧
    ([59] : Bytes) = ascii ";" ∧ ([38] : Bytes) = ascii "&" ∧ ([61] : Bytes) = ascii "=" := by decide +kernel

def Unres (s : Bytes) : Prop := ∀ c ∈ s, isUnreserved c = true

theorem Unres.append {a b : Bytes} (ha : Unres a) (hb : Unres b) : Unres (a ++ b) := by
  intro c hc; simp only [List.mem_append] at hc; rcases hc with hc | hc
  · exact ha c hc
  · exact hb c hc

theorem unres_of_all {s : Bytes} (h : s.all isUnreserved = true) : Unres s := by
  simpa [Unres] using h

theorem Unres.take {a : Bytes} (ha : Unres a) (n : Nat) : Unres (a.take n) :=
  fun c hc => ha c (List.mem_of_mem_take hc)

theorem not_space_of_unreserved (c : UInt8) (h : isUnreserved c = true) : isSpace c = false := by
  rw [isSpace, beq_eq_false_iff_ne]
  rintro rfl
  exact absurd h (by decide)

theorem dropWhile_none {p : UInt8 → Bool} (v : Bytes) (h : ∀ c ∈ v, p c = false) : v.dropWhile p = v := by
  cases v with
  | nil => rfl
  | cons a r => simp [List.dropWhile, h a (by simp)]

theorem collapse_none (v : Bytes) (h : ∀ c ∈ v, isSpace c = false) : collapseSpaces v = v := by
  induction v with
  | nil => rfl
  | cons a r ih =>
    cases r with
    | nil => rfl
    | cons b r' =>
      have ha := h a (by simp)
      have := ih (fun c hc => h c (by simp [hc]))
      simp only [collapseSpaces, ha, Bool.false_and, this]
      simp

theorem trim_id (v : Bytes) (h : ∀ c ∈ v, isSpace c = false) : trim v = v := by
  unfold trim
  rw [dropWhile_none v h, dropWhile_none v.reverse (by simpa using h), List.reverse_reverse, collapse_none v h]

theorem Unres.trim {a : Bytes} (ha : Unres a) : trim a = a :=
  trim_id a fun c hc => not_space_of_unreserved c (ha c hc)

theorem uriEncode_id (es : Bool) (s : Bytes) (h : ∀ c ∈ s, (isUnreserved c || (c == 47 && !es)) = true) :
    uriEncode es s = s := by
  induction s with
  | nil => rfl
  | cons a r ih =>
    have := ih fun c hc => h c (List.mem_cons_of_mem _ hc)
    simp only [uriEncode, List.flatMap_cons] at this ⊢
    rw [this, if_pos (h a List.mem_cons_self)]; rfl

theorem Unres.uriEncode {s : Bytes} (h : Unres s) (es : Bool) : uriEncode es s = s :=
  uriEncode_id es s fun c hc => by rw [h c hc]; rfl

theorem uriEncode_append (es : Bool) (a b : Bytes) : uriEncode es (a ++ b) = uriEncode es a ++ uriEncode es b := by
  simp [uriEncode, List.flatMap_append]

theorem hexDigit_pair_unreserved : ∀ x : UInt8, [hexDigit (x / 16), hexDigit (x % 16)].all isUnreserved = true := by
  decide +kernel

theorem unreserved_hex (b : Bytes) : Unres (hex b) := by
  induction b with
  | nil => exact fun _ hc => nomatch hc
  | cons x r ih => exact (unres_of_all (hexDigit_pair_unreserved x)).append ih

theorem unreserved_digit (n : Nat) : isUnreserved (digit n) = true := by
  have : ∀ k : Fin 10, isUnreserved (UInt8.ofNat (48 + k.val)) = true := by decide
  exact this ⟨n % 10, Nat.mod_lt _ (by decide)⟩

theorem unres_digits {l : List Nat} : Unres (l.map digit) := by
  intro c hc
  obtain ⟨n, _, rfl⟩ := List.mem_map.mp hc
  exact unreserved_digit n

theorem unreserved_pad2 (n : Nat) : Unres (pad2 n) := unres_digits (l := [n / 10, n])

theorem year4_props (n : Nat) (y : Bytes) (h : year4 n = some y) : y.length = 4 ∧ Unres y := by
  unfold year4 at h
  split at h
  · cases h; exact ⟨rfl, unres_digits (l := [n / 1000, n / 100, n / 10, n])⟩
  · cases h

/-- both `strftime`s print the same year, month and day -/
theorem formatClock_eq (tm : Tm) : formatClock tm = (year4 tm.year).map fun y =>
    (y ++ pad2 tm.mon ++ pad2 tm.mday,
     y ++ pad2 tm.mon ++ pad2 tm.mday ++ lit "T" ++ pad2 tm.hour ++ pad2 tm.min ++ pad2 tm.sec ++ lit "Z") := by
  unfold formatClock strftimeDate strftimeDatetime
  cases year4 tm.year <;> rfl

theorem clock_date (now : Option Nat) (date datetime : Bytes) (h : clock now = some (date, datetime)) :
    date = dateOf datetime ∧ date.length = 8 ∧ datetime.length = 16 ∧ Unres date ∧ Unres datetime := by
  cases now with
  | none => cases h
  | some t =>
    rw [clock, formatClock_eq, Option.map_eq_some_iff] at h
    obtain ⟨y, hy, h⟩ := h
    cases h
    obtain ⟨hl, hu⟩ := year4_props _ _ hy
    have hud := (hu.append (unreserved_pad2 (gmtime t).mon)).append (unreserved_pad2 (gmtime t).mday)
    have hlen : (y ++ pad2 (gmtime t).mon ++ pad2 (gmtime t).mday).length = 8 := by simp [pad2, hl]
    have hl1 : ∀ s, s = "T" ∨ s = "Z" → Unres (lit s) := by rintro _ (rfl | rfl) <;> exact unres_of_all (by decide)
    generalize y ++ pad2 (gmtime t).mon ++ pad2 (gmtime t).mday = date at hlen hud ⊢
    refine ⟨?_, hlen, by simp [hlen, pad2, lit], hud, ?_⟩
    · simp only [dateOf, List.append_assoc date]
      exact (List.take_left' hlen).symm
    · exact ((((hud.append (hl1 _ (.inl rfl))).append (unreserved_pad2 _)).append (unreserved_pad2 _)).append
        (unreserved_pad2 _)).append (hl1 _ (.inr rfl))

/-- `%d` of a natural number writes the digits `digs 10 n` -/
theorem decimalNat_eq (n : Nat) : decimalNat n = (digs 10 n).map digitByte := by
  have hd (n : Nat) : digit n = digitByte (n % 10) := (digitByte_dec _ (Nat.mod_lt n (by decide))).1.symm
  induction n using decimalNat.induct with
  | case1 n h => rw [decimalNat, if_pos h, digs_of_lt h, hd, Nat.mod_eq_of_lt h]; rfl
  | case2 n h ih => rw [decimalNat, if_neg h, ih, digs_of_ge (n := n) (by decide) (by omega), List.map_append, hd]; rfl

theorem unreserved_decimal (i : Int) : Unres (decimal i) := by
  have hn : Unres (decimalNat i.natAbs) := by
    rw [decimalNat_eq]
    intro c hc
    obtain ⟨d, hd, rfl⟩ := List.mem_map.mp hc
    have := unreserved_digit d
    rwa [digit, Nat.mod_eq_of_lt (digs_lt (by decide) _ d hd), ← (digitByte_dec d (digs_lt (by decide) _ d hd)).1] at this
  unfold decimal
  split
  · exact (unres_of_all (by decide) : Unres (lit "-")).append hn
  · exact hn

/-- the static `aws_sign` is tasks 2 and 3 of SigV4 on the canonical request it is handed, when
    its `date` argument is the date part of its `datetime` argument -/
theorem awsSign_eq (secret date datetime region service creq : Bytes) (hd : date = dateOf datetime) :
    awsSign secret date datetime region service creq =
      some (hex (Hmac.hmacSha256 (signingKey secret datetime region service)
                  (stringToSign datetime region service creq))) := by
  subst hd
  have hs : lit "AWS4-HMAC-SHA256\n" ++ datetime ++ lit "\n" ++ dateOf datetime ++ lit "/" ++ region ++ lit "/" ++
      service ++ lit "/aws4_request\n" ++ hex (Sha256.hash creq) = stringToSign datetime region service creq := by
    simp only [stringToSign, scope, lit_eq, ascii_chars, List.append_assoc, ← ascii_append, String.reduceAppend]
  rw [awsSign, hexify_eq]
  dsimp only
  rw [hs, hexify_eq]
  rfl

theorem contentSha256_eq (body : Option Bytes) : contentSha256 body = some (hex (Sha256.hash (body.getD []))) := by
  unfold contentSha256
  rw [hexify_eq]
  cases body <;> rfl

theorem authValue_eq (keyId ts region service names sig : Bytes) :
    authValue keyId (dateOf ts) region service names sig =
      ascii "AWS4-HMAC-SHA256 Credential=" ++ keyId ++ [47] ++ scope ts region service ++
      ascii ",SignedHeaders=" ++ names ++ ascii ",Signature=" ++ sig := by
  simp only [authValue, scope, lit_eq, ascii_chars, List.append_assoc, ← ascii_append, String.reduceAppend]

/-- `signedPairs` without the trimming, for values of any type -/
def signedNames {α : Type} (hs : List (Bytes × α)) (signed : List Bytes) : List (Bytes × α) :=
  sortBy (fun a b => bytesLe a.1 b.1) <|
    (hs.map fun nv => (lower nv.1, nv.2)).filter fun nv => (signed.map lower).contains nv.1

theorem insertBy_map {α β : Type} (f : α → β) {le : α → α → Bool} {le' : β → β → Bool}
    (h : ∀ a b, le' (f a) (f b) = le a b) (x : α) (l : List α) :
    (insertBy le x l).map f = insertBy le' (f x) (l.map f) := by
  induction l with
  | nil => rfl
  | cons y ys ih =>
    simp only [insertBy, List.map_cons, h]
    split
    · rfl
    · rw [List.map_cons, ih]

theorem sortBy_map {α β : Type} (f : α → β) {le : α → α → Bool} {le' : β → β → Bool}
    (h : ∀ a b, le' (f a) (f b) = le a b) (l : List α) : (sortBy le l).map f = sortBy le' (l.map f) := by
  induction l with
  | nil => rfl
  | cons x xs ih =>
    simp only [sortBy, List.foldr_cons, List.map_cons] at ih ⊢
    rw [insertBy_map f h, ih]

theorem signedPairs_map {α : Type} (g : α → Bytes) (hs : List (Bytes × α)) (signed : List Bytes) :
    signedPairs (hs.map fun nv => (nv.1, g nv.2)) signed =
      (signedNames hs signed).map fun nv => (nv.1, trim (g nv.2)) := by
  unfold signedPairs signedNames
  rw [sortBy_map (fun nv : Bytes × α => (nv.1, trim (g nv.2))) (le' := fun a b => bytesLe a.1 b.1) (fun _ _ => rfl)]
  simp only [List.filter_map, List.map_map]
  rfl

theorem canonicalQuery_nil : canonicalQuery [] = [] := rfl

theorem canonicalUri_s3 (path : Bytes) (hp : ∀ c ∈ path, (isUnreserved c || c == 47) = true) :
    canonicalUri (ascii "s3") path = s3CanonicalPath path := by
  cases path with
  | nil => rfl
  | cons a r =>
    unfold canonicalUri s3CanonicalPath
    rw [if_neg (by simp), if_pos rfl, uriEncode_id _ _ (by simpa using hp)]

theorem canonicalUri_root (service : Bytes) : canonicalUri service (ascii "/") = ascii "/" := by
  unfold canonicalUri
  rw [if_neg (by decide)]
  split <;> decide

/-- The shape the three `*_headers` functions share: prologue, content hash, the canonical request laid out by
    `creq content_sha256 datetime`, `aws_sign`, the `Authorization` value announcing `names`. -/
def headersCall (service names : Bytes) (creq : Bytes → Bytes → Bytes) (keyId secret region : Bytes)
    (body : Option Bytes) (now : Option Nat) : Option Headers :=
  match clock now, contentSha256 body with
  | some (date, datetime), some sha =>
    match awsSign secret date datetime region service (creq sha datetime) with
    | none => none
    | some sig =>
      some { xAmzContentSha256 := sha, xAmzDate := datetime,
             authorization := authValue keyId date region service names sig }
  | _, _ => none

def headersAt (now : Option Nat) (sha : Bytes) (auth : Bytes → Bytes) : Option Headers :=
  ((clock now).map Prod.snd).map fun ts => { xAmzContentSha256 := sha, xAmzDate := ts, authorization := auth ts }

theorem headersCall_eq (service names : Bytes) (creq : Bytes → Bytes → Bytes) (keyId secret region : Bytes)
    (body : Option Bytes) (now : Option Nat) :
    headersCall service names creq keyId secret region body now =
      headersAt now (hex (Sha256.hash (body.getD []))) fun ts =>
        authValue keyId (dateOf ts) region service names
          (hex (Hmac.hmacSha256 (signingKey secret ts region service)
            (stringToSign ts region service (creq (hex (Sha256.hash (body.getD []))) ts)))) := by
  unfold headersCall headersAt
  cases hc : clock now with
  | none => rfl
  | some dt =>
    obtain ⟨hd, _⟩ := clock_date now dt.1 dt.2 hc
    simp only [contentSha256_eq, hd, awsSign_eq _ _ _ _ _ _ rfl, Option.map_some]

/-- If the layout is the canonical request of `r timestamp` and `names` its signed header names, the call
    returns the body's hash, the clock's timestamp and the SigV4 `Authorization` value of `r timestamp`:
    exactly when the prologue succeeds. -/
theorem headersCall_sigv4 {service names : Bytes} {creq : Bytes → Bytes → Bytes} (keyId secret region : Bytes)
    (body : Option Bytes) (now : Option Nat) (r : Bytes → Request) (signed : List Bytes)
    (hcr : ∀ ts, Unres ts → creq (hex (Sha256.hash (body.getD []))) ts = canonicalRequest service (r ts) signed ∧
      signedHeaders (r ts).headers signed = names) :
    headersCall service names creq keyId secret region body now =
      headersAt now (hex (Sha256.hash (body.getD []))) fun ts =>
        authorization keyId secret ts region service (r ts) signed := by
  rw [headersCall_eq]
  unfold headersAt
  cases hc : clock now with
  | none => simp only [Option.map_none]
  | some dt =>
    obtain ⟨h1, h2⟩ := hcr dt.2 (clock_date now dt.1 dt.2 hc).2.2.2.2
    simp only [Option.map_some, authValue_eq, h1, ← h2, authorization, signature]

theorem headersCall_isSome {service names : Bytes} {creq : Bytes → Bytes → Bytes} {keyId secret region : Bytes}
    {body : Option Bytes} {now : Option Nat} (h : (clock now).isSome = true) :
    (headersCall service names creq keyId secret region body now).isSome = true := by
  rw [headersCall_eq, headersAt, Option.isSome_map, Option.isSome_map, h]

theorem of_map_clock {now : Option Nat} {sha : Bytes} {auth : Bytes → Bytes} {h : Headers}
    (hres : headersAt now sha auth = some h) :
    h.xAmzContentSha256 = sha ∧ (∃ date, clock now = some (date, h.xAmzDate)) ∧ h.authorization = auth h.xAmzDate := by
  simp only [headersAt, Option.map_eq_some_iff] at hres
  obtain ⟨_, ⟨dt, hc, rfl⟩, rfl⟩ := hres
  exact ⟨rfl, ⟨dt.1, hc⟩, rfl⟩

/-- the header fields of the documented requests with the positions of their values; `Content-Length` is sent
    with a body only -/
def basicFields : List (Bytes × Nat) :=
  [(ascii "Host", 0), (ascii "X-Amz-Date", 1), (ascii "X-Amz-Content-SHA256", 2)]
def lengthField : List (Bytes × Nat) := [(ascii "Content-Length", 3)]
def dynamodbFields : List (Bytes × Nat) :=
  basicFields ++ (ascii "X-Amz-Target", 4) :: lengthField ++ [(ascii "Content-Type", 5)]

/-- what `signedBasic` keeps of them, in canonical order -/
def basicSigned : List (Bytes × Nat) :=
  [(ascii "host", 0), (ascii "x-amz-content-sha256", 2), (ascii "x-amz-date", 1)]

theorem signedNames_basic : ∀ rest ∈ [[], lengthField],
    signedNames (basicFields ++ rest) AwsRequests.signedBasic = basicSigned := by decide +kernel

theorem signedNames_dynamodb :
    signedNames dynamodbFields AwsRequests.signedDynamodb = basicSigned ++ [(ascii "x-amz-target", 4)] := by
  decide +kernel

theorem signedPairs_of_fields {hs : List (Bytes × Bytes)} {signed : List Bytes} {fields res : List (Bytes × Nat)}
    (v : Nat → Bytes) (hf : hs = fields.map fun nv => (nv.1, v nv.2)) (hn : signedNames fields signed = res) :
    signedPairs hs signed = res.map fun nv => (nv.1, trim (v nv.2)) := by
  rw [hf, signedPairs_map, hn]

theorem signedPairs_host (hv : Bytes) :
    signedPairs [(ascii "Host", hv)] AwsRequests.signedHost = [(ascii "host", trim hv)] := by
  refine (signedPairs_map (fun _ : Unit => hv) [(ascii "Host", ())] _).trans ?_
  rw [show signedNames _ _ = [(ascii "host", ())] by decide +kernel]
  rfl

theorem unres_s3host : Unres (ascii ".s3.amazonaws.com") := unres_of_all (by decide +kernel)

theorem s3Headers_call (keyId secret region method bucket path : Bytes) (body : Option Bytes) (now : Option Nat) :
    s3Headers keyId secret region method bucket path body now = headersCall (ascii "s3")
      (ascii "host;x-amz-content-sha256;x-amz-date") (s3HeadersCreq method bucket path) keyId secret region body now := rfl

theorem svcHeaders_call (keyId secret region svc : Bytes) (body : Option Bytes) (now : Option Nat) :
    svcHeaders keyId secret region svc body now = headersCall svc
      (ascii "host;x-amz-content-sha256;x-amz-date") (svcHeadersCreq region svc) keyId secret region body now := rfl

theorem dynamodbHeaders_call (keyId secret region op : Bytes) (body : Option Bytes) (now : Option Nat) :
    dynamodbHeaders keyId secret region op body now = headersCall (ascii "dynamodb")
      (ascii "host;x-amz-content-sha256;x-amz-date;x-amz-target") (dynamodbHeadersCreq region op) keyId secret region body
      now := rfl

/-- `aws_sign_s3_headers` in closed form (`clen`: any `Content-Length` value) -/
theorem s3Headers_eq (keyId secret region method bucket path : Bytes) (body : Option Bytes) (now : Option Nat)
    (clen : Bytes) (hb : Unres bucket) (hp : ∀ c ∈ path, (isUnreserved c || c == 47) = true) :
    s3Headers keyId secret region method bucket path body now =
      headersAt now (hex (Sha256.hash (body.getD []))) fun ts =>
        authorization keyId secret ts region (ascii "s3")
          (AwsRequests.s3 method bucket path body ts (hex (Sha256.hash (body.getD []))) clen) AwsRequests.signedBasic :=
  (s3Headers_call ..).trans <|
  headersCall_sigv4 keyId secret region body now (fun ts => AwsRequests.s3 method bucket path body ts _ clen) _
    fun ts hts => by
      generalize hsha : hex (Sha256.hash (body.getD [])) = sha
      let v : Nat → Bytes | 0 => bucket ++ ascii ".s3.amazonaws.com" | 1 => ts | 2 => sha | _ => clen
      have hsp := signedPairs_of_fields (hs := (AwsRequests.s3 method bucket path body ts sha clen).headers)
        (fields := basicFields ++ body.elim [] fun _ => lengthField) v (by cases body <;> rfl)
        (signedNames_basic _ (by cases body <;> simp))
      unfold canonicalRequest canonicalHeaders signedHeaders
      rw [hsp]
      simp only [basicSigned, List.map, v]
      rw [(hb.append unres_s3host).trim, hts.trim, (hsha ▸ unreserved_hex _ : Unres sha).trim]
      simp only [AwsRequests.s3, canonicalUri_s3 path hp, canonicalQuery_nil, s3HeadersCreq, hashedPayload, hsha,
        List.flatMap_cons, List.flatMap_nil, joinWith, lit_eq, ascii_chars, List.append_assoc,
        List.append_nil, ← ascii_append, ascii_append_append, String.reduceAppend, and_self]

theorem svcHeaders_eq (keyId secret region svc : Bytes) (body : Option Bytes) (now : Option Nat)
    (clen : Bytes) (hr : Unres region) (hs : Unres svc) :
    svcHeaders keyId secret region svc body now =
      headersAt now (hex (Sha256.hash (body.getD []))) fun ts =>
        authorization keyId secret ts region svc
          (AwsRequests.svc region svc body ts (hex (Sha256.hash (body.getD []))) clen) AwsRequests.signedBasic :=
  (svcHeaders_call ..).trans <|
  headersCall_sigv4 keyId secret region body now (fun ts => AwsRequests.svc region svc body ts _ clen) _
    fun ts hts => by
      generalize hsha : hex (Sha256.hash (body.getD [])) = sha
      let v : Nat → Bytes | 0 => svc ++ ascii "." ++ region ++ ascii ".amazonaws.com" | 1 => ts | 2 => sha | _ => clen
      have hsp := signedPairs_of_fields (hs := (AwsRequests.svc region svc body ts sha clen).headers) v rfl
        (signedNames_basic lengthField (by simp))
      unfold canonicalRequest canonicalHeaders signedHeaders
      rw [hsp]
      simp only [basicSigned, List.map, v]
      rw [(((hs.append (unres_of_all (s := ascii ".") (by decide +kernel))).append hr).append
          (unres_of_all (s := ascii ".amazonaws.com") (by decide +kernel))).trim, hts.trim, (hsha ▸ unreserved_hex _ : Unres sha).trim]
      simp only [AwsRequests.svc, canonicalUri_root, canonicalQuery_nil, svcHeadersCreq, hashedPayload, hsha,
        List.flatMap_cons, List.flatMap_nil, joinWith, lit_eq, ascii_chars, List.append_assoc,
        List.append_nil, ← ascii_append, ascii_append_append, String.reduceAppend, and_self]

theorem dynamodbHeaders_eq (keyId secret region op : Bytes) (body : Option Bytes) (now : Option Nat)
    (clen : Bytes) (hr : Unres region) (ho : Unres op) :
    dynamodbHeaders keyId secret region op body now =
      headersAt now (hex (Sha256.hash (body.getD []))) fun ts =>
        authorization keyId secret ts region (ascii "dynamodb")
          (AwsRequests.dynamodb region op body ts (hex (Sha256.hash (body.getD []))) clen) AwsRequests.signedDynamodb :=
  (dynamodbHeaders_call ..).trans <|
  headersCall_sigv4 keyId secret region body now (fun ts => AwsRequests.dynamodb region op body ts _ clen) _
    fun ts hts => by
      generalize hsha : hex (Sha256.hash (body.getD [])) = sha
      let v : Nat → Bytes
        | 0 => ascii "dynamodb." ++ region ++ ascii ".amazonaws.com" | 1 => ts | 2 => sha | 3 => clen
        | 4 => ascii "DynamoDB_20120810." ++ op | _ => ascii "application/x-amz-json-1.0"
      have hsp := signedPairs_of_fields (hs := (AwsRequests.dynamodb region op body ts sha clen).headers) v rfl
        signedNames_dynamodb
      unfold canonicalRequest canonicalHeaders signedHeaders
      rw [hsp]
      simp only [basicSigned, List.cons_append, List.nil_append, List.map, v]
      rw [(((unres_of_all (s := ascii "dynamodb.") (by decide +kernel)).append hr).append
          (unres_of_all (s := ascii ".amazonaws.com") (by decide +kernel))).trim, hts.trim, (hsha ▸ unreserved_hex _ : Unres sha).trim,
        ((unres_of_all (s := ascii "DynamoDB_20120810.") (by decide +kernel)).append ho).trim]
      simp only [AwsRequests.dynamodb, canonicalUri_root, canonicalQuery_nil, dynamodbHeadersCreq, hashedPayload, hsha,
        List.flatMap_cons, List.flatMap_nil, joinWith, lit_eq, ascii_chars, List.append_assoc,
        List.append_nil, ← ascii_append, ascii_append_append, String.reduceAppend, and_self]

/-- `coversRequired` looks at the header names only -/
theorem coversRequired_of_fields {r : Request} {signed : List Bytes} (fields : List (Bytes × Nat))
    (hf : r.headers.map (·.1) = fields.map (·.1))
    (h : ((signed.map lower).contains (ascii "host") && fields.all fun nv =>
      !(ascii "x-amz-").isPrefixOf (lower nv.1) || (signed.map lower).contains (lower nv.1)) = true) :
    coversRequired r signed = true := by
  have := congrArg (List.all · fun n => !(ascii "x-amz-").isPrefixOf (lower n) || (signed.map lower).contains (lower n)) hf
  simp only [List.all_map, Function.comp_def] at this
  rw [coversRequired, this]
  exact h

theorem signedHeaders_s3Url (method bucket path : Bytes) :
    signedHeaders (AwsRequests.s3Url method bucket path).headers AwsRequests.signedHost = ascii "host" := by
  simp only [signedHeaders, AwsRequests.s3Url, signedPairs_host, List.map, joinWith]

theorem paramLe_of_names {n m : Bytes} (v w : Bytes) (h : (n != m && bytesLe n m) = true) :
    paramLe (n, v) (m, w) = true := by
  simp only [Bool.and_eq_true, bne_iff_ne] at h
  simp only [paramLe, if_neg h.1, h.2]

/-- the canonical query string of the presigned request is the parameter string both `asprintf`
    calls of `aws_sign_s3_querystr` print -/
theorem s3QuerystrParams_eq (keyId ts region : Bytes) (expiry : Int) (r : Request)
    (hk : Unres keyId) (hr : Unres region) (hts : Unres ts)
    (hq : r.query = []) (hsh : signedHeaders r.headers AwsRequests.signedHost = ascii "host") :
    canonicalQuery (presignedRequest keyId ts region (ascii "s3") (decimal expiry) r AwsRequests.signedHost).query =
      s3QuerystrParams keyId (dateOf ts) ts region expiry := by
  have e (s : String) (h : (ascii s).all isUnreserved = true) : uriEncode true (ascii s) = ascii s :=
    (unres_of_all h).uriEncode true
  have ecred : uriEncode true (keyId ++ [47] ++ scope ts region (ascii "s3")) =
      keyId ++ ascii "%2F" ++ dateOf ts ++ ascii "%2F" ++ region ++ ascii "%2F" ++ ascii "s3" ++ ascii "%2Faws4_request" := by
    simp only [scope, uriEncode_append, hk.uriEncode, (hts.take 8).uriEncode, hr.uriEncode, dateOf,
      e "s3" (by decide +kernel), e "aws4_request" (by decide +kernel),
      show uriEncode true [47] = ascii "%2F" by decide +kernel, List.append_assoc, ← ascii_append, String.reduceAppend]
  unfold presignedRequest presignParams canonicalQuery
  simp only [hq, hsh, List.nil_append, List.map, ecred, hts.uriEncode, (unreserved_decimal expiry).uriEncode,
    e "X-Amz-Algorithm" (by decide +kernel), e "AWS4-HMAC-SHA256" (by decide +kernel),
    e "X-Amz-Credential" (by decide +kernel), e "X-Amz-Date" (by decide +kernel),
    e "X-Amz-Expires" (by decide +kernel), e "X-Amz-SignedHeaders" (by decide +kernel), e "host" (by decide +kernel),
    sortBy, List.foldr, insertBy,
    paramLe_of_names (n := ascii "X-Amz-Algorithm") (m := ascii "X-Amz-Credential") _ _ (by decide +kernel),
    paramLe_of_names (n := ascii "X-Amz-Credential") (m := ascii "X-Amz-Date") _ _ (by decide +kernel),
    paramLe_of_names (n := ascii "X-Amz-Date") (m := ascii "X-Amz-Expires") _ _ (by decide +kernel),
    paramLe_of_names (n := ascii "X-Amz-Expires") (m := ascii "X-Amz-SignedHeaders") _ _ (by decide +kernel),
    if_true]
  simp only [joinWith, s3QuerystrParams, lit_eq, ascii_chars, List.append_assoc, ← ascii_append, ascii_append_append,
    String.reduceAppend]

theorem s3QuerystrCreq_eq (keyId method bucket path ts region : Bytes) (expiry : Int)
    (hk : Unres keyId) (hr : Unres region) (hb : Unres bucket)
    (hp : ∀ c ∈ path, (isUnreserved c || c == 47) = true) (hts : Unres ts) :
    s3QuerystrCreq method bucket path (s3QuerystrParams keyId (dateOf ts) ts region expiry) =
      canonicalRequest (ascii "s3")
        (presignedRequest keyId ts region (ascii "s3") (decimal expiry) (AwsRequests.s3Url method bucket path)
          AwsRequests.signedHost)
        AwsRequests.signedHost := by
  unfold canonicalRequest
  rw [s3QuerystrParams_eq keyId ts region expiry _ hk hr hts rfl (signedHeaders_s3Url method bucket path)]
  simp only [canonicalHeaders, signedHeaders, presignedRequest, AwsRequests.s3Url, signedPairs_host,
    (hb.append unres_s3host).trim, canonicalUri_s3 path hp, hashedPayload, s3QuerystrCreq,
    List.flatMap_cons, List.flatMap_nil, List.map, joinWith, lit_eq, ascii_chars, List.append_assoc, List.append_nil,
    ← ascii_append, ascii_append_append, String.reduceAppend]

theorem s3Querystr_clock (keyId secret region method bucket path : Bytes) (expiry : Int) (now : Option Nat) :
    s3Querystr keyId secret region method bucket path expiry now =
      ((clock now).map Prod.snd).map fun ts =>
        s3QuerystrParams keyId (dateOf ts) ts region expiry ++ lit "&" ++ lit "X-Amz-Signature=" ++
          hex (Hmac.hmacSha256 (signingKey secret ts region (lit "s3"))
            (stringToSign ts region (lit "s3")
              (s3QuerystrCreq method bucket path (s3QuerystrParams keyId (dateOf ts) ts region expiry)))) := by
  unfold s3Querystr
  cases hc : clock now with
  | none => rfl
  | some dt =>
    obtain ⟨hd, _⟩ := clock_date now dt.1 dt.2 hc
    simp only [hd, awsSign_eq _ _ _ _ _ _ rfl, Option.map_some]

theorem s3Querystr_eq (keyId secret region method bucket path : Bytes) (expiry : Int) (now : Option Nat)
    (hk : Unres keyId) (hr : Unres region) (hb : Unres bucket)
    (hp : ∀ c ∈ path, (isUnreserved c || c == 47) = true) :
    s3Querystr keyId secret region method bucket path expiry now =
      ((clock now).map Prod.snd).map fun ts => presignedQuery keyId secret ts region (ascii "s3") (decimal expiry)
        (AwsRequests.s3Url method bucket path) AwsRequests.signedHost := by
  rw [s3Querystr_clock]
  cases hc : clock now with
  | none => simp only [Option.map_none]
  | some dt =>
    have hu := (clock_date now dt.1 dt.2 hc).2.2.2.2
    simp only [Option.map_some, presignedQuery, signature,
      s3QuerystrParams_eq keyId dt.2 region expiry _ hk hr hu rfl (signedHeaders_s3Url method bucket path),
      ← s3QuerystrCreq_eq keyId method bucket path dt.2 region expiry hk hr hb hp hu,
      lit_eq, List.append_assoc, ← ascii_append, String.reduceAppend]

theorem s3Querystr_isSome (keyId secret region method bucket path : Bytes) (expiry : Int) {now : Option Nat}
    (h : (clock now).isSome = true) : (s3Querystr keyId secret region method bucket path expiry now).isSome = true := by
  rw [s3Querystr_clock, Option.isSome_map, Option.isSome_map, h]

theorem yearOfEra_le (doe : Nat) (h : doe < 146097) : (doe - doe / 1460 + doe / 36524 - doe / 146096) / 365 ≤ 399 := by
  omega

/-- the year of day `z` (counted from 0000-03-01) stays below 10000 up to 9999-12-31 -/
theorem civil_year_le (z era doe yoe doy mp : Nat) (hz : z ≤ 3652364)
    (hera : z / 146097 = era) (hdoe : z % 146097 = doe)
    (hyoe : (doe - doe / 1460 + doe / 36524 - doe / 146096) / 365 = yoe)
    (hdoy : doe - (365 * yoe + yoe / 4 - yoe / 100) = doy) (hmp : (5 * doy + 2) / 153 = mp) :
    yoe + era * 400 + (if (if mp < 10 then mp + 3 else mp - 9) ≤ 2 then 1 else 0) ≤ 9999 := by
  have h2 : doe < 146097 ∧ era ≤ 24 ∧ (era = 24 → doe ≤ 146036) := by omega
  -- each `omega` below gets only the hypotheses it needs: the divisions make it slow in a large context
  clear hz hera hdoe
  have h4 : yoe ≤ 399 := hyoe ▸ yearOfEra_le doe h2.1
  have h5 : era = 24 → yoe = 399 → doy ≤ 305 := by omega
  clear hyoe hdoy
  have h6 : doy ≤ 305 → mp < 10 := by omega
  clear hmp
  by_cases hm : mp < 10
  · rw [if_pos hm, if_neg (by omega)]; omega
  · have : ¬ (era = 24 ∧ yoe = 399) := fun ⟨a, b⟩ => hm (h6 (h5 a b))
    rw [if_neg hm]; split <;> omega

theorem gmtime_year_le (t : Nat) (h : t ≤ 253402300799) : (gmtime t).year ≤ 9999 :=
  civil_year_le (t / 86400 + 719468) _ _ _ _ _ (by omega) rfl rfl rfl rfl rfl

theorem clock_isSome (t : Nat) (h : t ≤ 253402300799) : (clock (some t)).isSome = true := by
  show (formatClock (gmtime t)).isSome = true
  rw [formatClock_eq, Option.isSome_map, year4, if_pos (gmtime_year_le t h), Option.isSome_some]

end Percival.Proofs.AwsSign
