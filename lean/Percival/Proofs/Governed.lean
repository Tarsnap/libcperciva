/-! C16: the shape shared by every `PARSENUM` answer.  A specification says what a string is accepted as (`A`, at
    most one thing), which of these are acceptable (`P`) and what is then delivered (`okv`); an answer *governed* by
    it is `einval` when nothing is accepted, and else `ok` of what is delivered or `erange`.  The `*_iff` theorems of
    `Properties/C16.lean` for integer, bound-less and floating-point targets are the three projections `iffs`. -/
namespace Percival.Proofs

def Governed {V W α : Type} (ok : W → α) (einval erange : α) (A P : V → Prop) (okv : V → W) (a : α) : Prop :=
  ((¬ ∃ x, A x) ∧ a = einval) ∨ ∃ x, (∀ y, A y ↔ y = x) ∧ ((P x ∧ a = ok (okv x)) ∨ (¬ P x ∧ a = erange))

/-- the three answers are different, and `ok` keeps its value apart -/
structure Answers {W α : Type} (ok : W → α) (einval erange : α) : Prop where
  inj : ∀ v w, ok v = ok w → v = w
  ok_einval : ∀ v, ok v ≠ einval
  ok_erange : ∀ v, ok v ≠ erange
  einval_erange : einval ≠ erange

namespace Governed
variable {V W α : Type} {ok : W → α} {einval erange : α} {A P : V → Prop} {okv : V → W} {a : α}

theorem iffs (h : Governed ok einval erange A P okv a) (d : Answers ok einval erange) :
    (∀ w, a = ok w ↔ ∃ x, A x ∧ P x ∧ w = okv x) ∧ (a = einval ↔ ¬ ∃ x, A x) ∧ (a = erange ↔ ∃ x, A x ∧ ¬ P x) := by
  obtain ⟨d1, d2, d3, d4⟩ := d
  rcases h with ⟨hn, rfl⟩ | ⟨x, hx, h⟩
  · grind
  · have hA : A x := (hx x).mpr rfl
    rcases h with ⟨hp, rfl⟩ | ⟨hp, rfl⟩ <;> grind

/-- when what is delivered is the accepted value itself -/
theorem ok_iff {ok : V → α} (h : Governed ok einval erange A P id a) (d : Answers ok einval erange) (v : V) :
    a = ok v ↔ A v ∧ P v :=
  ((h.iffs d).1 v).trans ⟨fun ⟨_, ha, hp, e⟩ => e ▸ ⟨ha, hp⟩, fun ⟨ha, hp⟩ => ⟨v, ha, hp, rfl⟩⟩

end Governed
end Percival.Proofs
