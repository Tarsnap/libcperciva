import Percival.Proofs.HttpStep
import Percival.Proofs.NetbufRead
/-! The scripted reader of `Model/HttpStep.lean` against the proved model of `netbuf_read.c` (`Model/NetbufRead.lean`, C07):
    the buffer geometry after `netbuf_read_consume` + `netbuf_read_wait` and after one `recv` which delivers data.
    Each step of the model (`consume`, "resize if needed", "move if needed") is mirrored by one update of the reader's
    `cap`/`bufpos`/`datalen`, and `SameGeo` is kept step by step. -/
namespace Percival.Proofs.HttpReader
open Percival.Model Percival.Model.HttpStep Percival.Model.Netbuf Percival.Proofs.NetbufRead

def SameGeo (rd : Reader) (nb : NetbufRead.R) : Prop :=
  rd.cap = nb.buflen ∧ rd.bufpos = nb.bufpos ∧ rd.datalen = nb.datalen

/-- fewer than `k` bytes buffered and room for `k` behind the read pointer: the buffer is not full -/
theorem lt_of_avail_lt {dl bp cap k : Nat} (h1 : dl - bp < k) (h2 : k ≤ cap - bp) : dl < cap :=
  Nat.lt_of_not_le fun h => Nat.lt_irrefl _ (Nat.lt_of_lt_of_le (Nat.lt_of_lt_of_le h1 h2) (Nat.sub_le_sub_right h bp))

theorem newBuflen_eq (buflen len : Nat) : NetbufRead.newBuflen buflen len = max (buflen * 2) len := by
  show (if buflen * 2 < len then len else buflen * 2) = _
  split
  · exact (Nat.max_eq_right (Nat.le_of_lt ‹_›)).symm
  · exact (Nat.max_eq_left (Nat.le_of_not_lt ‹_›)).symm

theorem wait_eq {r : NetbufRead.R} (hp : r.pending = .none) (hpos : r.bufpos ≤ r.datalen) (k : Nat) :
    NetbufRead.wait r k =
      if k ≤ r.datalen - r.bufpos then .ok { r with pending := .immediate } else
        NetbufRead.growIfNeeded r k >>= fun r1 => NetbufRead.compactIfNeeded r1 k >>= fun r2 =>
          NetbufRead.doread { r2 with waitlen := k } := by
  unfold NetbufRead.wait
  rw [if_neg (fun h => h hp), sub_eq _ _ hpos]
  rfl

theorem consume_same {rd : Reader} {nb : NetbufRead.R} {c : Nat} (g : Geo nb) (h : SameGeo rd nb)
    (hc : c ≤ nb.datalen - nb.bufpos) :
    ∃ nb1, NetbufRead.consume nb c = .ok nb1 ∧ Geo nb1 ∧ window nb1 = (window nb).drop c ∧ nb1.pending = nb.pending ∧
      SameGeo { rd with bufpos := rd.bufpos + c } nb1 :=
  ⟨_, consume_spec g hc, ⟨g.len, Nat.add_le_of_le_sub' g.pos hc, g.dat⟩, window_consume nb c, rfl, h.1,
    congrArg (· + c) h.2.1, h.2.2⟩

/-- "Resize the buffer if needed" -/
theorem grow_same {rd : Reader} {nb : NetbufRead.R} (g : Geo nb) (h : SameGeo rd nb) (k : Nat) :
    ∃ nb1, NetbufRead.growIfNeeded nb k = .ok nb1 ∧ Geo nb1 ∧ window nb1 = window nb ∧ k ≤ nb1.buflen ∧
      SameGeo (if rd.cap < k then
        { rd with cap := max (rd.cap * 2) k, datalen := rd.datalen - rd.bufpos, bufpos := 0 } else rd) nb1 := by
  obtain ⟨e1, e2, e3⟩ := h
  unfold NetbufRead.growIfNeeded
  rw [e1]
  by_cases hb : nb.buflen < k
  · obtain ⟨nb1, e, m, hbl⟩ := resize_spec g k
    rw [newBuflen_eq] at hbl
    rw [if_pos hb, if_pos hb]
    exact ⟨nb1, e, m.geo, m.win, hbl ▸ Nat.le_max_right _ _, hbl.symm, m.bufpos.symm,
      by rw [m.datalen, ← e2, ← e3]⟩
  · rw [if_neg hb, if_neg hb]
    exact ⟨nb, rfl, g, rfl, Nat.le_of_not_lt hb, e1, e2, e3⟩

/-- "Move data to start of buffer if needed" -/
theorem compact_same {rd : Reader} {nb : NetbufRead.R} (g : Geo nb) (h : SameGeo rd nb) (k : Nat) (hk : k ≤ nb.buflen) :
    ∃ nb1, NetbufRead.compactIfNeeded nb k = .ok nb1 ∧ Geo nb1 ∧ window nb1 = window nb ∧ k ≤ nb1.buflen - nb1.bufpos ∧
      SameGeo (if rd.cap - rd.bufpos < k then { rd with datalen := rd.datalen - rd.bufpos, bufpos := 0 } else rd) nb1 := by
  obtain ⟨e1, e2, e3⟩ := h
  unfold NetbufRead.compactIfNeeded
  rw [sub_eq _ _ (Nat.le_trans g.pos g.dat), e1, e2]
  simp only [Res.ok_bind]
  by_cases hc : nb.buflen - nb.bufpos < k
  · obtain ⟨nb1, e, m, hbl⟩ := compact_spec g
    rw [if_pos hc, if_pos hc]
    exact ⟨nb1, e, m.geo, m.win, by rw [hbl, m.bufpos]; exact hk, hbl.symm, m.bufpos.symm, by rw [m.datalen, ← e3]⟩
  · rw [if_neg hc, if_neg hc]
    exact ⟨nb, rfl, g, rfl, Nat.le_of_not_lt hc, e1, e2, e3⟩

/-- `netbuf_read_wait(k)` once the reader has advanced its read pointer by `c` -/
theorem wait_same {rd : Reader} {nb : NetbufRead.R} {c : Nat} (g : Geo nb)
    (h : SameGeo { rd with bufpos := rd.bufpos + c } nb) (hp : nb.pending = .none) (k : Nat) :
    ∃ nb', NetbufRead.wait nb k = .ok nb' ∧ Geo nb' ∧ window nb' = window nb ∧
      (k ≤ nb.datalen - nb.bufpos → nb'.pending = .immediate ∧ SameGeo { rd with bufpos := rd.bufpos + c } nb') ∧
      (¬ k ≤ nb.datalen - nb.bufpos →
        nb'.pending = .read ∧ nb'.waitlen = k ∧ k ≤ nb'.buflen - nb'.bufpos ∧ SameGeo (prep rd c k) nb') := by
  rw [wait_eq hp g.pos]
  by_cases hk : k ≤ nb.datalen - nb.bufpos
  · rw [if_pos hk]
    exact ⟨_, rfl, ⟨g.len, g.pos, g.dat⟩, rfl, fun _ => ⟨rfl, h⟩, fun h => absurd hk h⟩
  · rw [if_neg hk]
    obtain ⟨nb1, e1, g1, w1, big, s1⟩ := grow_same g h k
    obtain ⟨nb2, e2, g2, w2, room, s2⟩ := compact_same g1 s1 k big
    have hav : nb2.datalen - nb2.bufpos = nb.datalen - nb.bufpos := by
      rw [← window_length g2, w2, w1, window_length g]
    have hlt : nb2.datalen < nb2.buflen := lt_of_avail_lt (hav ▸ Nat.lt_of_not_le hk) room
    rw [e1, Res.ok_bind, e2, Res.ok_bind, doread_spec (r := { nb2 with waitlen := k }) ⟨g2.len, g2.pos, g2.dat⟩ hlt]
    exact ⟨_, rfl, ⟨g2.len, g2.pos, g2.dat⟩, w2.trans w1, fun h => absurd h hk, fun _ => ⟨rfl, rfl, room, s2⟩⟩

theorem wait_geometry (rd : Reader) (nb : NetbufRead.R) (c k : Nat) (hgeo : Geo nb) (hp : nb.pending = .none)
    (heq : SameGeo rd nb) (hc : c ≤ nb.datalen - nb.bufpos) :
    ∃ nb2, (NetbufRead.consume nb c >>= fun nb1 => NetbufRead.wait nb1 k) = .ok nb2 ∧ Geo nb2 ∧
      window nb2 = (window nb).drop c ∧
      (k ≤ nb.datalen - nb.bufpos - c →
        nb2.pending = .immediate ∧ SameGeo { rd with bufpos := rd.bufpos + c } nb2) ∧
      (¬ k ≤ nb.datalen - nb.bufpos - c →
        nb2.pending = .read ∧ nb2.waitlen = k ∧ k ≤ nb2.buflen - nb2.bufpos ∧ SameGeo (prep rd c k) nb2) := by
  obtain ⟨nb1, ec, g1, w1, p1, s1⟩ := consume_same hgeo heq hc
  obtain ⟨nb2, ew, g2, w2, himm, hread⟩ := wait_same g1 s1 (p1.trans hp) k
  have hav : nb1.datalen - nb1.bufpos = nb.datalen - nb.bufpos - c := by
    rw [← window_length g1, w1, List.length_drop, window_length hgeo]
  rw [ec, ← hav]
  exact ⟨nb2, ew, g2, w2.trans w1, himm, hread⟩

/-- **One `recv` which delivers data**, as `netbuf_read.c`'s `callback_read` handles it: the bytes are appended to
    the window, `datalen` grows by their number (what `fill` does to its count), nothing else of the geometry
    changes, and the wait completes (status 0) exactly when `waitlen` bytes are buffered. -/
theorem recv_geometry (nb : NetbufRead.R) (d : List UInt8) (hgeo : Geo nb) (hp : nb.pending = .read)
    (hroom : nb.waitlen ≤ nb.buflen - nb.bufpos) (hd0 : d.length ≠ 0) (hfit : d.length ≤ nb.buflen - nb.datalen) :
    ∃ nb' st, NetbufRead.callbackRead nb (.data d) = .ok (nb', st) ∧ Geo nb' ∧ window nb' = window nb ++ d ∧
      nb'.buflen = nb.buflen ∧ nb'.bufpos = nb.bufpos ∧ nb'.datalen = nb.datalen + d.length ∧ nb'.waitlen = nb.waitlen ∧
      (nb.waitlen ≤ nb.datalen + d.length - nb.bufpos → st = some 0 ∧ nb'.pending = .none) ∧
      (¬ nb.waitlen ≤ nb.datalen + d.length - nb.bufpos → st = none ∧ nb'.pending = .read) :=
  let ⟨nb', e, g', w', b1, b2, b3, b4, p'⟩ := data_spec hgeo hp hroom hd0 hfit
  ⟨nb', _, e, g', w', b1, b2, b3, b4,
    fun h => ⟨if_neg (Nat.not_lt.2 h), p'.trans (if_neg (Nat.not_lt.2 h))⟩,
    fun h => ⟨if_pos (Nat.lt_of_not_le h), p'.trans (if_pos (Nat.lt_of_not_le h))⟩⟩

end Percival.Proofs.HttpReader
