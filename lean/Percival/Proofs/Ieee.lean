import Percival.Proofs.IeeeNearest
/-! C16: `Model.Strtod.roundTo` against `Spec/Ieee.lean` (`roundTo_spec`). -/
namespace Percival.Proofs.Ieee
open Percival.Model.Strtod Percival.Proofs.IeeeArith Percival.Spec.Ieee
open Ctx (resM resE)

theorem rat_eq_num_div_den (q : Rat) : q = (q.num : Rat) / (q.den : Rat) := by
  have h := Rat.num_divInt_den q
  rw [Rat.divInt_eq_div, Rat.intCast_natCast] at h
  exact h.symm

theorem mul_den_eq_num (q : Rat) : q * (q.den : Rat) = (q.num : Rat) := by
  have hd : (q.den : Rat) ≠ 0 := fun h0 => q.den_nz (Rat.natCast_eq_zero_iff.mp h0)
  calc q * (q.den : Rat) = (q.num : Rat) / (q.den : Rat) * (q.den : Rat) := by rw [← rat_eq_num_div_den q]
    _ = q.num := Rat.div_mul_cancel hd

/-- the formats for which the model is proved: at least two significant bits, a non-empty exponent range -/
structure Valid (f : Format) : Prop where
  p_ge : 2 ≤ f.p
  range : f.qmin ≤ f.qmax

theorem binary64_valid : Valid binary64 := ⟨by decide, by decide⟩

theorem binary32_valid : Valid binary32 := ⟨by decide, by decide⟩

theorem roundTo_pos (f : Format) (hv : Valid f) (neg : Bool) (q : Rat) (hq : 0 < q) :
    ∃ (e0 : Int) (mu m : Nat) (ix : Bool), Ctx f q e0 m ∧ NearestInt q (2 ^ e0) mu ∧
      (ix = true ↔ q ≠ m * 2 ^ clampE f e0) ∧
      roundTo f neg q =
        if f.qmax < resE f e0 m then (.inf neg, true, false)
        else (.fin neg (m * 2 ^ clampE f e0), false,
              ix && decide (e0 < f.qmin ∧ ¬ (e0 + 1 = f.qmin ∧ mu = 2 ^ f.p))) := by
  have hnum : 0 < q.num := by
    have := (Rat.num_nonneg (q := q)).mpr (Rat.le_of_lt hq)
    have h0 : q.num ≠ 0 := fun h => by rw [Rat.num_eq_zero] at h; rw [h] at hq; exact absurd hq (by decide)
    omega
  have hn : 0 < q.num.toNat := by omega
  have hqd : q * (q.den : Rat) = (q.num.toNat : Rat) := by
    rw [mul_den_eq_num, ← Rat.intCast_natCast, Int.toNat_of_nonneg (by omega)]
  obtain ⟨e0, mu, m, ix, n1, n2, hmu, hm, hix, hr⟩ :=
    roundPos_spec f (by have := hv.p_ge; omega) q.num.toNat q.den hn q.den_pos q hqd
  refine ⟨e0, mu, m, ix, ⟨hv.p_ge, n1, n2, hm⟩, hmu, hix, ?_⟩
  unfold roundTo
  rw [if_neg (by omega), hr]
  simp only
  have hval := Ctx.res_val (f := f) (e0 := e0) (m := m) (by have := hv.p_ge; omega)
  unfold resM resE at hval
  unfold resE
  rw [pow2_eq, hval]

theorem finite_neg (f : Format) (x : Rat) : f.Finite (-x) ↔ f.Finite x := by
  unfold Format.Finite; rw [Rat.abs_neg]

theorem even_neg (f : Format) (x : Rat) : f.Even (-x) ↔ f.Even x := by
  unfold Format.Even; rw [Rat.abs_neg]

theorem abs_sub_neg (a b : Rat) : (-a - b).abs = (a - -b).abs := by
  rw [← Rat.abs_neg]; congr 1; grind

theorem isNearestEven_neg {f : Format} {x d : Rat} (h : IsNearestEven f x d) : IsNearestEven f (-x) (-d) := by
  obtain ⟨h1, h2, h3⟩ := h
  refine ⟨(finite_neg f d).mpr h1, ?_, ?_⟩
  · intro d' hd'
    have := h2 (-d') ((finite_neg f d').mpr hd')
    rw [abs_sub_neg, abs_sub_neg, Rat.neg_neg]
    exact this
  · intro d' hd' hne heq
    rw [even_neg]
    apply h3 (-d') ((finite_neg f d').mpr hd')
    · intro h; apply hne; rw [← h, Rat.neg_neg]
    · rw [abs_sub_neg, abs_sub_neg, Rat.neg_neg] at heq; exact heq

theorem isNearestEven_signed {f : Format} {x d : Rat} (neg : Bool) (h : IsNearestEven f x d) :
    IsNearestEven f (Fl.signed neg x) (Fl.signed neg d) := by
  cases neg
  · exact h
  · exact isNearestEven_neg h

theorem signed_abs (neg : Bool) {q : Rat} (hq : 0 ≤ q) : (Fl.signed neg q).abs = q := by
  cases neg
  · exact Rat.abs_of_nonneg hq
  · show (-q).abs = q; rw [Rat.abs_neg]; exact Rat.abs_of_nonneg hq

theorem finite_signed (f : Format) (neg : Bool) (x : Rat) : f.Finite (Fl.signed neg x) ↔ f.Finite x := by
  cases neg
  · exact Iff.rfl
  · exact finite_neg f x

theorem finite_zero (f : Format) (hv : Valid f) : f.Finite 0 :=
  ⟨0, f.qmin, Nat.two_pow_pos _, Int.le_refl _, hv.range, by simp [Rat.abs_zero]⟩

theorem isNearestEven_zero (f : Format) (hv : Valid f) : IsNearestEven f 0 0 := by
  refine ⟨finite_zero f hv, fun d' _ => ?_, fun d' _ hne heq => ?_⟩
  · rw [Rat.sub_self]; exact Rat.abs_nonneg
  · exfalso; apply hne
    rw [Rat.sub_self, Rat.abs_zero] at heq
    have := Rat.abs_eq_zero_iff.mp heq
    grind

theorem overflowAt_pos (f : Format) : 0 < f.overflowAt := by
  rw [overflowAt_eq]
  have h1 := one_le_p2 f.p
  exact Rat.mul_pos (by grind) (p2_pos _)

theorem tiny_lt_overflow (f : Format) (hv : Valid f) : f.tinyBelow < f.overflowAt := by
  rw [overflowAt_eq, tinyBelow_eq]
  have h1 := one_le_p2 f.p
  have h2 : (2 : Rat) ^ (f.qmin - 1) < 2 ^ f.qmax := p2_lt (by have := hv.range; omega)
  exact Rat.mul_lt_mul_of_pos_left h2 (by grind)

/-- `roundTo` delivers the correctly rounded datum, its overflow flag is the overflow of the specification, and
    its underflow flag is "tiny and inexact" -/
theorem roundTo_spec (f : Format) (hv : Valid f) (neg : Bool) (q : Rat) (hq : 0 ≤ q) :
    RoundsTo f neg q (roundTo f neg q).1 ∧
    ((roundTo f neg q).2.1 = true ↔ f.Overflows (Fl.signed neg q)) ∧
    ((roundTo f neg q).2.2 = true ↔ ((Fl.signed neg q).abs < f.tinyBelow ∧ ¬ f.Finite (Fl.signed neg q))) := by
  unfold Format.Overflows
  rw [signed_abs neg hq, finite_signed]
  by_cases h0 : q = 0
  · subst h0
    have hr : roundTo f neg 0 = (.fin neg 0, false, false) := by unfold roundTo; simp
    rw [hr]
    have hp := overflowAt_pos f
    refine ⟨⟨rfl, Rat.le_refl, ?_, ?_⟩, ?_, ?_⟩
    · unfold Format.Overflows; rw [signed_abs neg Rat.le_refl]; exact Rat.not_le.mpr hp
    · have := isNearestEven_signed neg (isNearestEven_zero f hv); exact this
    · simp only [Bool.false_eq_true, false_iff]; exact Rat.not_le.mpr hp
    · simp only [Bool.false_eq_true, false_iff]; intro h; exact h.2 (finite_zero f hv)
  · have hpos : 0 < q := Rat.lt_of_le_of_ne hq (fun h => h0 h.symm)
    obtain ⟨e0, mu, m, ix, c, hmu, hix, hr⟩ := roundTo_pos f hv neg q hpos
    have hov := c.overflow_iff hv.range
    unfold Format.Overflows at hov
    rw [Rat.abs_of_nonneg hq] at hov
    have htiny := c.tiny_iff hmu
    rw [hr]
    by_cases ho : f.qmax < resE f e0 m
    · rw [if_pos ho]
      have hO := hov.mp ho
      refine ⟨⟨rfl, ?_⟩, ?_, ?_⟩
      · unfold Format.Overflows; rw [signed_abs neg hq]; exact hO
      · simp [hO]
      · simp only [Bool.false_eq_true, false_iff]
        intro h
        have := tiny_lt_overflow f hv
        grind
    · rw [if_neg ho]
      have hO : ¬ f.overflowAt ≤ q := fun h => ho (hov.mpr h)
      have hne := c.nearestEven (by omega)
      have hex := c.exact_iff (by omega)
      refine ⟨⟨rfl, Ctx.res_nonneg, ?_, isNearestEven_signed neg hne⟩, ?_, ?_⟩
      · unfold Format.Overflows; rw [signed_abs neg hq]; exact hO
      · simp [hO]
      · simp only [Bool.and_eq_true, decide_eq_true_eq]
        rw [hix, htiny, ← hex]
        exact ⟨fun h => ⟨h.2, h.1⟩, fun h => ⟨h.2, h.1⟩⟩

end Percival.Proofs.Ieee
