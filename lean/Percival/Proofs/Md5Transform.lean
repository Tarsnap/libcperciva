import Percival.Model.Md5
import Percival.Spec.Md5
import Percival.Proofs.FoldFin
import Percival.Proofs.Words
import Percival.Proofs.Schedule
/-! `Model.Md5.transform` (the C's macro-structured `MD5_Transform`) is RFC 1321's block
processing `Spec.Md5.compress`. -/
namespace Percival.Proofs.Md5T
open Percival Percival.Model.Md5
open Percival.Spec (Bytes wordsLE)
open Percival.Proofs.Schedule (wf wf_lt)
open Percival.Proofs.Words (get_fin get_set)

theorem F_eq (x y z : UInt32) : Model.Md5.F x y z = Spec.Md5.F x y z := by
  unfold Model.Md5.F Spec.Md5.F
  apply UInt32.toBitVec_inj.mp
  simp only [UInt32.toBitVec_xor, UInt32.toBitVec_and, UInt32.toBitVec_or, UInt32.toBitVec_not]
  ext i hi
  simp only [BitVec.getElem_xor, BitVec.getElem_and, BitVec.getElem_or, BitVec.getElem_not]
  cases x.toBitVec[i] <;> cases y.toBitVec[i] <;> cases z.toBitVec[i] <;> rfl

theorem G_eq (x y z : UInt32) : Model.Md5.G x y z = Spec.Md5.G x y z := by
  rw [show Model.Md5.G x y z = Model.Md5.F z x y from rfl, F_eq]
  simp only [Spec.Md5.F, Spec.Md5.G, UInt32.and_comm]

theorem H_eq (x y z : UInt32) : Model.Md5.H x y z = Spec.Md5.H x y z := rfl

theorem I_eq (x y z : UInt32) : Model.Md5.I x y z = Spec.Md5.I x y z := UInt32.xor_comm _ _

theorem stepShift_toList : stepShift.toList = Spec.Md5.sTable := by decide +kernel

theorem stepT_toList : stepT.toList = Spec.Md5.T := by decide +kernel

/-- what the source says about line `i` (macro, word index) is RFC 1321's table -/
theorem tab (i : Fin 64) :
    stepKind[i] = (if i.val < 16 then 0 else if i.val < 32 then 1 else if i.val < 48 then 2 else 3) ∧
    (i.val * (stepIdx stepKind[i]).1 + (stepIdx stepKind[i]).2) % 16 = Spec.Md5.kTable.getD i.val 0 ∧
    Spec.Md5.kTable.getD i.val 0 < 16 := by
  revert i; decide +kernel

theorem stepF_eq (i : Fin 64) (b c d : UInt32) : stepF stepKind[i] b c d = Spec.Md5.aux i.val b c d := by
  rw [(tab i).1]; unfold Spec.Md5.aux
  split
  · exact F_eq b c d
  · split
    · exact G_eq b c d
    · split
      · rfl
      · exact I_eq b c d

def regsAt (S : Vector UInt32 4) (i : Nat) : Spec.Md5.Regs := ⟨S[slot 64 i], S[slot 65 i], S[slot 66 i], S[slot 67 i]⟩

def regs (S : Vector UInt32 4) (σ : Fin 4 → Fin 4) : Spec.Md5.Regs := ⟨S.get (σ 0), S.get (σ 1), S.get (σ 2), S.get (σ 3)⟩

/-- `FF … II` on four different slots is operation `i + 1` of RFC 1321 §3.4 on the registers held there, after which the
slot of `d` holds the new `a`, that of `a` the new `b`, … -/
theorem STEP_spec (i : Fin 64) (S : Vector UInt32 4) (σ : Fin 4 → Fin 4) (hσ : Function.Injective σ) (xk t s : UInt32) :
    regs (STEP stepKind[i] S (σ 0) (σ 1) (σ 2) (σ 3) (xk + t) s) (fun k => σ (k + 3)) =
      Spec.Md5.op (regs S σ) i.val xk s t := by
  simp only [regs, STEP, Spec.Md5.op, get_fin S, get_set, hσ.eq_iff, Fin.reduceAdd, Fin.reduceEq, if_true, if_false,
    stepF_eq, Spec.Md5.Regs.mk.injEq, true_and, and_true]
  show _ + Spec.Md5.rotl _ _ = _ + Spec.Md5.rotl _ _
  congr 2
  ac_rfl

theorem slot_inj (i : Nat) (hi : i ≤ 64) : Function.Injective fun k : Fin 4 => slot (64 + k.val) i := by
  intro j k h
  have := congrArg Fin.val h
  simp only [slot] at this
  omega

/-- each register moves one slot down from line to line -/
theorem slot_succ (i : Nat) (hi : i < 64) (k : Fin 4) : slot (64 + k.val) (i + 1) = slot (64 + (k + 3).val) i := by
  apply Fin.ext
  simp only [slot, Fin.val_add]
  omega

theorem STEPr_spec (S : Vector UInt32 4) (W : Vector UInt32 16) (i : Fin 64) :
    regsAt (STEPr S W i) (i.val + 1) =
      Spec.Md5.op (regsAt S i.val) i.val (wf W (Spec.Md5.kTable.getD i.val 0))
        (Spec.Md5.sTable.getD i.val 0) (Spec.Md5.T.getD i.val 0) := by
  rw [← (tab i).2.1, ← Schedule.wf_of_toList _ _ stepShift_toList, ← Schedule.wf_of_toList _ _ stepT_toList,
    wf_lt _ _ i.isLt, wf_lt _ _ i.isLt, wf_lt _ _ (Nat.mod_lt _ (by decide))]
  show regs _ (fun k => slot (64 + k.val) (i.val + 1)) = _
  rw [funext (slot_succ i.val i.isLt)]
  exact STEP_spec i S _ (slot_inj i.val (by omega)) _ _ _

theorem mix_spec (S : Vector UInt32 4) (W : Vector UInt32 16) (X : List UInt32)
    (hX : ∀ k, k < 16 → X[k]? = some (wf W k)) :
    regsAt ((List.finRange 64).foldl (fun S i => STEPr S W i) S) 0 = Spec.Md5.rounds (regsAt S 0) X := by
  refine FoldFin.foldl_finRange_sim _ _ (by decide) _ regsAt (fun S i => ?_) S
  simp only [List.getElem_zipIdx, List.getElem_zip, List.getElem_eq_getD (0 : Nat), List.getElem_eq_getD (0 : UInt32),
    hX _ (tab i).2.2, Nat.zero_add]
  exact STEPr_spec S W i

theorem xw_decodeBlock (block : Bytes) (hb : block.length = 64) (k : Nat) (hk : k < 16) :
    (wordsLE block)[k]? = some (wf (decodeBlock block) k) := by
  have hl : (wordsLE block).length = 16 := by rw [Words.wordsLE_length, hb]
  rw [decodeBlock, Schedule.wf_mk_pad _ _ _ k (by omega) (by omega), List.getD_eq_getElem?_getD,
    List.getElem?_eq_getElem (by omega)]
  rfl

end Percival.Proofs.Md5T
