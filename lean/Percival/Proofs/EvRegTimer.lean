import Percival.Proofs.AllocFail
import Percival.Proofs.TimerQueue
import Percival.Proofs.EvRegQuiet
import Percival.Proofs.Keys
/-!
# C14, event layer: the contracts of immediate events (`events_immediate.c`) and timers (`events_timer.c`)

`EvReg.immReg / immCancel / tmReg / tmCancel` as seen by a caller (network_connect with a timeout,
netbuf_read_wait).  `immReg_contract`, `tmBody_contract`, `tmReg_contract`: a failed registration is one quiet stretch
(`Proofs/EvRegQuiet.lean`) with a refused request; a successful one is a quiet stretch without a refusal, in which the
call collects the blocks of the registration, followed by `immPut` / `tmPut`.  `immCancel_contract`,
`tmCancel_contract`: `immDrop` / `tmDrop` and then a quiet stretch that releases those blocks.  Each of the four updates
comes with what it does to the registry (`regImm_immPut`, …) and to the count (`call_immPut`, …).  What the other parts
of the event state keep and how the oracle and the count of live blocks move in a whole call is `call_immReg`,
`call_immCancel`, `call_tmReg`, `call_tmCancel`.  `TmInv` is the consistency of the timer part (the timer queue of C13
under `TQInv`, its storage, the cookies held by `events_timer.c`) with the oracle position.
-/
namespace Percival.Proofs.EvRegTimer
open Percival.Model Percival.Model.EvReg
open Percival.Proofs.EArray (malloc_ok malloc_fail free_facts pair_eta)
open Percival.Proofs.AllocFail (HInv tq_delete_spec)
open Percival.Proofs.TQ (TQInv)
open Percival.Proofs.AllocCalls Percival.Proofs.MemCalls Percival.Proofs.EvRegQuiet
open Percival.Proofs.EvRegAcct (evBlocks evBlocks_raw tqBlocks bb)

/-- the node pool of events_immediate.c -/
theorem quiet_qMalloc (e : Ev) (m : Mem) :
    Quiet .imm (if (MPool.malloc e.qPool qSize m).1.isSome then 1 else 0) e m
      { e with qPool := (MPool.malloc e.qPool qSize m).2.1 } (MPool.malloc e.qPool qSize m).2.2 :=
  Quiet.mk' (outside_imm rfl rfl rfl rfl rfl rfl) ⟨rfl, rfl, rfl⟩ ⟨rfl, rfl, rfl⟩ rfl
    ((Percival.Proofs.MPool.malloc_calls e.qPool qSize m).1.cast (by simp only [evBlocks_raw, cached_eq]; omega))

theorem quiet_qFree (e : Ev) (qid : Nat) (m : Mem) :
    Quiet .imm (-1) e m { e with qPool := (MPool.free e.qPool qid m).1 } (MPool.free e.qPool qid m).2 :=
  Quiet.mk' (outside_imm rfl rfl rfl rfl rfl rfl) ⟨rfl, rfl, rfl⟩ ⟨rfl, rfl, rfl⟩ rfl
    ((Percival.Proofs.MPool.free_calls e.qPool qid m).cast (by simp only [evBlocks_raw, cached_eq]; omega))

theorem map_modify {α β : Type} (g : α → β) (f : α → α) (f' : β → β) (hfg : ∀ x, g (f x) = f' (g x)) :
    ∀ (l : List α) (i : Nat), (l.modify i f).map g = (l.map g).modify i f'
  | [], i => by simp
  | x :: l, 0 => by simp [hfg]
  | x :: l, i+1 => by simp [map_modify g f f' hfg l i]

/-- the state after a successful registration: the event is appended to queue `prio` -/
def immPut (e : Ev) (prio : Nat) (ent : ImmEnt) : Ev :=
  { e with heads := e.heads.modify prio (· ++ [ent]), minq := if prio < e.minq then prio else e.minq }

theorem regImm_immPut (e : Ev) (prio : Nat) (ent : ImmEnt) :
    regImm (immPut e prio ent) = (regImm e).modify prio (· ++ [ent.id]) := by
  simp only [regImm, registry, immPut]
  exact map_modify _ _ _ (fun x => by simp) _ _

/-- `immPut` takes the event record and the queue node from the call (the queue `prio` must exist) -/
theorem call_immPut (e : Ev) (m : Mem) {prio : Nat} (ent : ImmEnt) (hp : prio < e.heads.length) :
    Call .imm (-2) e m (immPut e prio ent) m :=
  Call.pure m (outside_imm rfl rfl rfl rfl rfl rfl) id
    (by simp only [evBlocks_raw, immPut, Percival.Proofs.EvRegAcct.flatten_modify_length _ _ _ hp]; omega)

/-- `events_immediate_register`: a failed call is quiet and had a request refused; a successful one is a quiet stretch
holding the record and the node, without a refusal, and then the append -/
theorem immReg_contract (e : Ev) (id prio : Nat) (m : Mem) : ∀ ok e' m', immReg e id prio m = (ok, e', m') →
    (ok = false → Quiet .imm 0 e m e' m' ∧ m.refusals < m'.refusals) ∧
    (ok = true → ∃ e1 qid rid, Quiet .imm 2 e m e1 m' ∧ m'.refusals = m.refusals ∧
      e' = immPut e1 prio ⟨qid, rid, id⟩) := by
  intro ok e' m' h
  unfold immReg at h
  have q1 := quiet_mkrec .imm e m
  have r1 := mkrec_refusals e m
  generalize mkrec e m = R at h q1 r1
  obtain ⟨_ | rid, e1, m1⟩ := R
  · cases h
    exact ⟨fun _ => ⟨q1, by simp at r1; omega⟩, nofun⟩
  · dsimp only at h q1 r1
    have q2 := quiet_qMalloc e1 m1
    have r2 := (Percival.Proofs.MPool.malloc_calls e1.qPool qSize m1).2
    generalize MPool.malloc e1.qPool qSize m1 = R at h q2 r2
    obtain ⟨_ | qid, qp, m2⟩ := R
    · dsimp only at h q2 r2
      have q3 := quiet_freerec .imm { e1 with qPool := qp } rid m2
      generalize freerec { e1 with qPool := qp } rid m2 = R at h q3
      obtain ⟨e2, m3⟩ := R
      cases h
      refine ⟨fun _ => ⟨((q1.trans q2).trans q3).cast (by simp), ?_⟩, nofun⟩
      have := q3.step.r
      simp at r1 r2; omega
    · cases h
      exact ⟨nofun, fun _ => ⟨_, qid, rid, (q1.trans q2).cast (by simp), by simp at r1 r2; omega, rfl⟩⟩

theorem call_immReg {e e' : Ev} {m m' : Mem} {id prio : Nat} {ok : Bool} (hp : prio < e.heads.length)
    (h : immReg e id prio m = (ok, e', m')) : Call .imm 0 e m e' m' := by
  obtain ⟨hf, hok⟩ := immReg_contract e id prio m ok e' m' h
  cases ok
  · exact (hf rfl).1.call
  · obtain ⟨e1, qid, rid, q, _, rfl⟩ := hok rfl
    exact (q.call.trans (call_immPut e1 m' _ (q.same.1 ▸ hp))).cast (by decide)

theorem _root_.Percival.Proofs.AllocFail.imm_fail_unchanged (e : Ev) (id prio : Nat) (m : Mem)
    (hf : (immReg e id prio m).1 = false) : registry (immReg e id prio m).2.1 = registry e := by
  rcases hr : immReg e id prio m with ⟨ok, e', m'⟩
  rw [hr] at hf
  exact ((immReg_contract e id prio m ok e' m' hr).1 hf).1.reg nofun

theorem immReg_refused (e : Ev) (id prio : Nat) (m : Mem)
    (hr : (immReg e id prio m).2.2.refusals ≠ m.refusals) : (immReg e id prio m).1 = false := by
  rcases h : immReg e id prio m with ⟨ok, e', m'⟩
  rw [h] at hr
  cases ok
  · rfl
  · obtain ⟨_, _, _, _, hrf, _⟩ := (immReg_contract e id prio m _ e' m' h).2 rfl
    exact absurd hrf hr

theorem _root_.Percival.Proofs.AllocFail.imm_succeeds_when_granted (e : Ev) (id prio : Nat) (m : Mem)
    (hg : ∀ n sz, m.n ≤ n → m.f n sz = true) : (immReg e id prio m).1 = true := by
  rcases h : immReg e id prio m with ⟨ok, e', m'⟩
  cases ok
  · obtain ⟨q, hrf⟩ := (immReg_contract e id prio m _ e' m' h).1 rfl
    have := q.step.g hg
    omega
  · rfl

theorem immReg_mono (e : Ev) (id prio : Nat) (m : Mem) :
    let m' := (immReg e id prio m).2.2
    m'.f = m.f ∧ m.n ≤ m'.n ∧ m.refusals ≤ m'.refusals := by
  rcases hr : immReg e id prio m with ⟨ok, e', m'⟩
  obtain ⟨hf, hok⟩ := immReg_contract e id prio m ok e' m' hr
  have s : Step m m' := by
    cases ok
    · exact (hf rfl).1.step
    · obtain ⟨_, _, _, q, _⟩ := hok rfl
      exact q.step
  exact ⟨s.f, s.n, s.r⟩

theorem mem_regImm_flatten (e : Ev) (i : Nat) : i ∈ (regImm e).flatten ↔ ∃ ent ∈ e.heads.flatten, ent.id = i := by
  simp only [regImm, registry, ← List.map_flatten, List.mem_map]

def immDrop (e : Ev) (id : Nat) : Ev := { e with heads := e.heads.map (·.filter (·.id != id)) }

theorem regImm_immDrop (e : Ev) (id : Nat) : regImm (immDrop e id) = (regImm e).map (·.filter (· != id)) := by
  simp only [regImm, registry, immDrop, List.map_map]
  apply List.map_congr_left
  intro l _
  simp only [Function.comp, List.filter_map]
  rfl

/-- `immDrop` of the one event registered under `id` hands its event record and its queue node to the call -/
theorem call_immDrop (e : Ev) (m : Mem) {id : Nat} (hreg : id ∈ (regImm e).flatten)
    (hnd : (regImm e).flatten.Nodup) : Call .imm 2 e m (immDrop e id) m := by
  obtain ⟨ent, hmem, rfl⟩ := (mem_regImm_flatten e id).1 hreg
  have hlen := Keys.length_filter (f := (·.id)) (l := e.heads.flatten) (a := ent)
    (by simpa [regImm, registry, List.map_flatten] using hnd) hmem
  refine Call.pure m (outside_imm rfl rfl rfl rfl rfl rfl) id ?_
  simp only [evBlocks_raw, immDrop, ← List.filter_flatten]
  omega

/-- `events_immediate_cancel`: nothing is registered under `id` and nothing happens; or the events under `id` leave the
queues and then the event record and the queue node of the first of them are released, a quiet stretch that asks for
nothing while both pools have room -/
theorem immCancel_contract (e : Ev) (id : Nat) (m : Mem) :
    (id ∉ (regImm e).flatten ∧ immCancel e id m = none) ∨
    ∃ e' m', immCancel e id m = some (e', m') ∧ id ∈ (regImm e).flatten ∧ Quiet .imm (-2) (immDrop e id) m e' m' ∧
      (e.recPool.stacklen < e.recPool.allocsize → e.qPool.stacklen < e.qPool.allocsize → m' = m) := by
  unfold immCancel
  cases hfind : e.heads.flatten.find? (·.id == id) with
  | none =>
    refine Or.inl ⟨fun hreg => ?_, rfl⟩
    obtain ⟨ent, hent, hid⟩ := (mem_regImm_flatten e id).1 hreg
    have := List.find?_eq_none.mp hfind ent hent
    simp [hid] at this
  | some ent =>
    refine Or.inr ⟨_, _, rfl, (mem_regImm_flatten e id).2
      ⟨ent, List.mem_of_find?_eq_some hfind, by simpa using List.find?_some hfind⟩, ?_, fun h1 h2 => ?_⟩
    · have q1 := quiet_freerec .imm (immDrop e id) ent.rid m
      rw [freerec_eq] at q1
      exact (q1.trans (quiet_qFree _ ent.qid _)).cast rfl
    · show (MPool.free e.qPool ent.qid (MPool.free e.recPool ent.rid m).2).2 = m
      rw [Percival.Proofs.MPool.free_fast _ _ _ h2, Percival.Proofs.MPool.free_fast _ _ _ h1]

/-- `events_immediate_cancel` that returns, as a whole (ids of pending immediate events are distinct) -/
theorem call_immCancel {e e' : Ev} {id : Nat} {m m' : Mem} (hnd : (regImm e).flatten.Nodup)
    (h : immCancel e id m = some (e', m')) : Call .imm 0 e m e' m' := by
  rcases immCancel_contract e id m with ⟨_, h'⟩ | ⟨e2, m2, hc, hreg, q, _⟩
  · rw [h'] at h; cases h
  · rw [hc] at h
    cases h
    exact ((call_immDrop e m hreg hnd).trans q.call).cast (by decide)

theorem immCancel_none (e : Ev) (id : Nat) (m : Mem) (h : id ∉ (regImm e).flatten) : immCancel e id m = none := by
  rcases immCancel_contract e id m with ⟨_, h'⟩ | ⟨_, _, _, hm, _⟩
  · exact h'
  · exact absurd hm h

/-- consistency of `events_timer.c`'s state with the oracle position: no queue, no timers; otherwise the
queue satisfies C13's invariant, holds exactly the cookies of the registered timers in a buffer that is
large enough, every cookie is the index of a request already made, and registrations have distinct ids -/
structure TmInv (e : Ev) (m : Mem) : Prop where
  noq : e.tq = none → e.timers = []
  tq : ∀ t, e.tq = some t → TQInv t.q ∧ t.q.h.a.toList.Perm (e.timers.map (·.tqr)) ∧ HInv (HeapAlloc.heapOf t)
  lt : ∀ x ∈ e.timers, x.tqr < m.n
  nodup : (e.timers.map (·.id)).Nodup

theorem tmInv_init (m : Mem) : TmInv ({} : Ev) m :=
  ⟨fun _ => rfl, fun t h => (by cases h), fun x h => (by cases h), List.nodup_nil⟩

theorem tmInv_congr (e e' : Ev) (m m' : Mem) (h : TmInv e m) (h1 : e'.tq = e.tq) (h2 : e'.timers = e.timers)
    (hn : m.n ≤ m'.n) : TmInv e' m' :=
  ⟨fun hq => by rw [h2]; exact h.noq (by rw [← h1]; exact hq),
   fun t ht => by rw [h2]; exact h.tq t (by rw [← h1]; exact ht),
   fun x hx => Nat.lt_of_lt_of_le (h.lt x (by rw [← h2]; exact hx)) hn,
   by rw [h2]; exact h.nodup⟩

theorem TmInv.size {e : Ev} {m : Mem} (h : TmInv e m) {t : HeapAlloc.TQA} (ht : e.tq = some t) :
    t.q.h.a.size = e.timers.length := by
  have := (h.tq t ht).2.1.length_eq
  simpa using this

/-- the timer queue exists after this step of `events_timer_register` (it is created when missing) -/
def tmQ (e : Ev) (m : Mem) : Option HeapAlloc.TQA × Mem :=
  match e.tq with
  | some t => (some t, m)
  | none => HeapAlloc.tqInit m

theorem quiet_tq (e : Ev) (o : Option HeapAlloc.TQA) {m m' : Mem} {d : Int}
    (c : Calls m m' (tqBlocks o - tqBlocks e.tq + d)) : Quiet .tm d e m { e with tq := o } m' :=
  Quiet.mk' (outside_tm rfl rfl rfl rfl rfl rfl rfl) ⟨rfl, rfl, rfl⟩ ⟨rfl, rfl, rfl⟩
    rfl (c.cast (by simp only [evBlocks_raw]; omega))

/-- creating the timer queue is quiet; if it cannot be created there was none and a request was refused -/
theorem quiet_tmQ (e : Ev) (m : Mem) :
    match tmQ e m with
    | (some t, m0) => Quiet .tm 0 e m { e with tq := some t } m0 ∧ m0.refusals = m.refusals ∧
        (TmInv e m → TmInv { e with tq := some t } m0) ∧ ∀ t0, e.tq = some t0 → t0 = t
    | (none, m0) => Quiet .tm 0 e m e m0 ∧ m.refusals < m0.refusals := by
  unfold tmQ
  cases htq : e.tq with
  | some t =>
    dsimp only
    have : ({ e with tq := some t } : Ev) = e := by rw [← htq]
    rw [this]
    exact ⟨Quiet.refl _ _ _, rfl, id, fun _ h => (Option.some.inj h).symm⟩
  | none =>
    dsimp only
    have hs := tqInit_calls m
    split at hs <;> rename_i heq <;> rw [heq] <;> dsimp only
    · rename_i t m0
      obtain ⟨c, hq, hh, hrf⟩ := hs
      refine ⟨quiet_tq e (some t) (c.cast (by rw [htq]; simp [tqBlocks])), hrf, fun h => ?_, nofun⟩
      have hnil := h.noq htq
      refine ⟨by simp, ?_, by simp [hnil], by simp [hnil]⟩
      intro t' ht'
      cases ht'
      refine ⟨by rw [hq]; exact Percival.Proofs.TQ.tq_inv_empty, ?_, hh⟩
      simp [hnil, hq, TimerQueue.empty, Heap.empty]
    · exact ⟨quiet_mem _ _ hs.1, hs.2⟩

/-- `events_timer_register` once the queue `t` exists -/
def tmBody (e : Ev) (t : HeapAlloc.TQA) (id : Nat) (usec now : Int) (m0 : Mem) : Bool × Ev × Mem :=
  match mkrec { e with tq := some t } m0 with
  | (none, e1, m1) => (false, e1, m1)
  | (some rid, e1, m1) =>
    match m1.malloc tmSize with
    | (false, m2) =>
      match freerec e1 rid m2 with
      | (e2, m3) => (false, e2, m3)
    | (true, m2) =>
      match HeapAlloc.tqAdd t (secOf (now + usec)) (usecOf (now + usec)) m1.n m2 with
      | (none, t', m3) =>
        match freerec { e1 with tq := some t' } rid (m3.free false) with
        | (e2, m4) => (false, e2, m4)
      | (some r, t', m3) =>
        (true, { e1 with tq := some t', timers := ⟨m1.n, rid, id, r⟩ :: e1.timers }, m3)

theorem tmReg_eq (e : Ev) (id : Nat) (usec now : Int) (m : Mem) : tmReg e id usec now m =
    match tmQ e m with
    | (none, m0) => (false, e, m0)
    | (some t, m0) => tmBody e t id usec now m0 := by
  unfold tmReg tmQ tmBody
  cases e.tq with
  | some t => rfl
  | none => dsimp only; rcases HeapAlloc.tqInit m with ⟨_ | t, m0⟩ <;> rfl

def tmPut (e : Ev) (ent : TmEnt) : Ev := { e with timers := ent :: e.timers }

theorem regTimers_tmPut (e : Ev) (ent : TmEnt) : regTimers (tmPut e ent) = ent.id :: regTimers e := rfl

/-- `tmPut` takes the event record, the `struct timerrec` and the queue's record from the call -/
theorem call_tmPut (e : Ev) (m : Mem) (ent : TmEnt) : Call .tm (-3) e m (tmPut e ent) m :=
  Call.pure m (outside_tm rfl rfl rfl rfl rfl rfl rfl) id
    (by simp only [evBlocks_raw, tmPut, List.length_cons]; omega)

/-- `events_timer_register` once the queue exists.  Failure: one quiet stretch; the queue keeps its contents, and under
the storage invariant its storage, and then a request was refused (when the heap's bytes fit `size_t`).  Success: a quiet
stretch without a refusal holding the event record, the `struct timerrec` (`tid`, the pointer stored in the queue) and
the queue's record (cookie `r`), which is in the queue under the deadline; then the timer is prepended. -/
theorem tmBody_contract (e : Ev) (t : HeapAlloc.TQA) (id : Nat) (usec now : Int) (m0 : Mem) :
    ∀ ok e' m', tmBody e t id usec now m0 = (ok, e', m') →
    (ok = false → Quiet .tm 0 { e with tq := some t } m0 e' m' ∧ ∃ t', e'.tq = some t' ∧ t'.q = t.q ∧
      (HInv (HeapAlloc.heapOf t) → t' = t ∧
        (8 * (t.q.h.a.size + 1) ≤ EArray.SIZE_MAX → m0.refusals < m'.refusals))) ∧
    (ok = true → ∃ e1 t' tid rid r, Quiet .tm 3 { e with tq := some t } m0 e1 m' ∧ m'.refusals = m0.refusals ∧
      e1.tq = some t' ∧ t'.q = TimerQueue.add t.q r (secOf (now + usec)) (usecOf (now + usec)) tid ∧
      m0.n ≤ tid ∧ tid < r ∧ r < m'.n ∧ (HInv (HeapAlloc.heapOf t) → HInv (HeapAlloc.heapOf t')) ∧
      e' = tmPut e1 ⟨tid, rid, id, r⟩) := by
  intro ok e' m' h
  unfold tmBody at h
  have q1 := quiet_mkrec .tm { e with tq := some t } m0
  have r1 := mkrec_refusals { e with tq := some t } m0
  rw [mkrec_eq] at h q1 r1
  dsimp only at h q1 r1
  generalize MPool.malloc e.recPool recSize m0 = R at h q1 r1
  obtain ⟨_ | rid, p, m1⟩ := R
  · -- `events_mkrec` failed: err0
    dsimp only at h
    have r1 : m1.refusals = m0.refusals + 1 := r1
    cases h
    exact ⟨fun _ => ⟨q1.cast (by simp), t, rfl, rfl, fun _ => ⟨rfl, fun _ => by omega⟩⟩, nofun⟩
  · dsimp only at h q1 r1
    simp only [Option.isSome_some, if_true, Nat.add_zero] at q1 r1
    have q2 := quiet_mem .tm { e with tq := some t, recPool := p } (calls_malloc m1 tmSize)
    cases hr : (m1.malloc tmSize).1 <;> rw [hr] at q2 <;> rw [pair_eta _ hr] at h <;> dsimp only at h
    · -- `malloc(sizeof(struct timerrec))` refused: err1 frees the event record
      have q3 := quiet_freerec .tm { e with tq := some t, recPool := p } rid (m1.malloc tmSize).2
      rw [freerec_eq] at h q3
      dsimp only at h q3
      cases h
      refine ⟨fun _ => ⟨((q1.trans q2).trans q3).cast (by decide), t, rfl, rfl, fun _ => ⟨rfl, fun _ => ?_⟩⟩, nofun⟩
      have := q3.step.r
      have := (malloc_fail hr).1
      omega
    · have hm := malloc_ok hr
      have a3 := tqAdd_calls t (secOf (now + usec)) (usecOf (now + usec)) m1.n (m1.malloc tmSize).2
      generalize HeapAlloc.tqAdd t (secOf (now + usec)) (usecOf (now + usec)) m1.n (m1.malloc tmSize).2 = R at h a3
      obtain ⟨_ | r, t', m3⟩ := R
      · -- `timerqueue_add` failed: err2 frees the timer record, err1 the event record
        obtain ⟨c3, _, hn⟩ := a3 _ _ _ rfl
        have q3 := quiet_tq (d := 0) { e with tq := some t, recPool := p } (some t') (c3.cast (by simp [tqBlocks]; omega))
        have q4 := quiet_mem .tm { e with tq := some t', recPool := p } (calls_free m3 false)
        have q5 := quiet_freerec .tm { e with tq := some t', recPool := p } rid (m3.free false)
        rw [freerec_eq] at q5
        simp only [freerec_eq] at h q5
        cases h
        refine ⟨fun _ => ⟨((((q1.trans q2).trans q3).trans q4).trans q5).cast (by decide), t', rfl, (hn rfl).1,
          fun hh => ⟨((hn rfl).2 hh).1, fun hsm => ?_⟩⟩, nofun⟩
        have := ((hn rfl).2 hh).2 hsm
        have := (q4.trans q5).step.r
        omega
      · -- registered
        obtain ⟨c3, hs, _⟩ := a3 _ _ _ rfl
        obtain ⟨rfl, hlt, hq', hrf, hh'⟩ := hs r rfl
        have q3 := quiet_tq (d := 1) { e with tq := some t, recPool := p } (some t') (c3.cast (by simp [tqBlocks]; omega))
        cases h
        have := hm.1
        refine ⟨nofun, fun _ => ⟨_, t', m1.n, rid, (m1.malloc tmSize).2.n, ((q1.trans q2).trans q3).cast (by decide),
          by omega, rfl, hq', q1.step.n, ?_, hlt, hh', rfl⟩⟩
        rw [hm.2.2.2]; exact Nat.lt_succ_self _

theorem tmInv_put {e e1 : Ev} {t t' : HeapAlloc.TQA} {m0 m' : Mem} {tid rid id r : Nat} {sec usec : Int}
    (hi : TmInv { e with tq := some t } m0) (hid : id ∉ e.timers.map (·.id)) (h1 : e1.tq = some t')
    (ht : e1.timers = e.timers) (hq' : t'.q = TimerQueue.add t.q r sec usec tid)
    (hh' : HInv (HeapAlloc.heapOf t) → HInv (HeapAlloc.heapOf t')) (hr0 : m0.n ≤ r) (hr : r < m'.n) :
    TmInv (tmPut e1 ⟨tid, rid, id, r⟩) m' := by
  obtain ⟨hq, hperm, hh⟩ := hi.tq t rfl
  have hfresh : r ∉ t.q.h.a.toList := by
    intro hmem
    obtain ⟨x, hx, hxr⟩ := List.mem_map.mp (hperm.mem_iff.mp hmem)
    have := hi.lt x hx
    omega
  obtain ⟨hq2, hperm2, _⟩ := Percival.Proofs.TQ.tq_add t.q r sec usec tid hq hfresh
  refine ⟨fun h => (by rw [show (tmPut e1 _).tq = some t' from h1] at h; cases h), ?_, ?_, ?_⟩
  · intro t'' ht''
    rw [show (tmPut e1 _).tq = some t' from h1] at ht''
    cases ht''
    refine ⟨by rw [hq']; exact hq2, ?_, hh' hh⟩
    rw [hq']
    show (TimerQueue.add t.q r sec usec tid).h.a.toList.Perm (r :: e1.timers.map (·.tqr))
    rw [ht]
    exact hperm2.trans (hperm.cons r)
  · intro x hx
    rcases List.mem_cons.mp hx with rfl | hx
    · exact hr
    · have := hi.lt x (ht ▸ hx); omega
  · show ((⟨tid, rid, id, r⟩ :: e1.timers).map (·.id)).Nodup
    rw [ht]
    exact List.nodup_cons.mpr ⟨hid, hi.nodup⟩

/-- `events_timer_register`: `TmInv` is kept for a fresh id, whatever the outcome (a failed call may have created the
empty queue); a failed call is one quiet stretch that leaves the contents of an existing queue alone, with a refused
request (fewer than `2^32` timers); a successful one is a quiet stretch without a refusal, after which the queue has the
record of the new timer (cookie, deadline, pointer) on top of the records it had, and then the prepending -/
theorem tmReg_contract (e : Ev) (id : Nat) (usec now : Int) (m : Mem) :
    ∀ ok e' m', tmReg e id usec now m = (ok, e', m') →
    (TmInv e m → id ∉ regTimers e → TmInv e' m') ∧
    (ok = false → Quiet .tm 0 e m e' m' ∧ (TmInv e m → e.timers.length < 2^32 → m.refusals < m'.refusals) ∧
      ∀ t t', e.tq = some t → e'.tq = some t' → t'.q = t.q) ∧
    (ok = true → ∃ e1 ent t' recs0, Quiet .tm 3 e m e1 m' ∧ m'.refusals = m.refusals ∧ ent.id = id ∧
      e' = tmPut e1 ent ∧ e1.tq = some t' ∧
      t'.q.recs = (ent.tqr, ⟨secOf (now + usec), usecOf (now + usec), ent.tid⟩) :: recs0 ∧
      (∀ t, e.tq = some t → recs0 = t.q.recs) ∧ ent.tid < ent.tqr ∧ m.n ≤ ent.tid) := by
  intro ok e' m' hR
  rw [tmReg_eq] at hR
  have hq := quiet_tmQ e m
  split at hq <;> rename_i heq <;> rw [heq] at hR <;> dsimp only at hR
  · rename_i t m0
    obtain ⟨q0, hrf0, hinv0, ht0⟩ := hq
    obtain ⟨hf, hok⟩ := tmBody_contract e t id usec now m0 ok e' m' hR
    refine ⟨fun hi hid => ?_, fun h => ?_, fun h => ?_⟩
    · have hi0 := hinv0 hi
      cases ok
      · obtain ⟨q, t', h1, _, h3⟩ := hf rfl
        rw [(h3 (hi0.tq t rfl).2.2).1] at h1
        exact tmInv_congr _ _ m0 m' hi0 h1 q.same.2.2 q.step.n
      · obtain ⟨e1, t', tid, rid, r, q, _, h1, hq', h0, hlt, hr, hh', rfl⟩ := hok rfl
        exact tmInv_put hi0 hid h1 q.same.2.2 hq' hh' (by omega) hr
    · obtain ⟨q, t'', h1, h2, h3⟩ := hf h
      refine ⟨(q0.trans q).cast (by simp), fun hi hsz => ?_, fun t1 t1' e1 e1' => ?_⟩
      · have hi0 := hinv0 hi
        have hsize : t.q.h.a.size = e.timers.length := hi0.size rfl
        have := (h3 (hi0.tq t rfl).2.2).2 (by rw [hsize, Percival.Proofs.EArray.SIZE_MAX_eq]; omega)
        omega
      · rw [h1] at e1'
        cases e1'
        rw [ht0 t1 e1]
        exact h2
    · obtain ⟨e1, t', tid, rid, r, q, hrf, h1, hq', h0, hlt, _, _, he⟩ := hok h
      refine ⟨e1, ⟨tid, rid, id, r⟩, t', t.q.recs, (q0.trans q).cast (by simp), by omega, rfl, he, h1, by rw [hq']; rfl,
        fun t1 e1 => by rw [ht0 t1 e1], hlt, Nat.le_trans q0.step.n h0⟩
  · cases hR
    exact ⟨fun hi _ => tmInv_congr e e m _ hi rfl rfl hq.1.step.n,
      fun _ => ⟨hq.1, fun _ _ => hq.2, fun t t' h1 h2 => by rw [h1] at h2; cases h2; rfl⟩, nofun⟩

theorem call_tmReg {e e' : Ev} {m m' : Mem} {id : Nat} {usec now : Int} {ok : Bool}
    (h : tmReg e id usec now m = (ok, e', m')) : Call .tm 0 e m e' m' := by
  obtain ⟨_, hf, hok⟩ := tmReg_contract e id usec now m ok e' m' h
  cases ok
  · exact (hf rfl).1.call
  · obtain ⟨e1, ent, _, _, q, _, _, rfl, _⟩ := hok rfl
    exact (q.call.trans (call_tmPut e1 m' ent)).cast (by decide)

theorem _root_.Percival.Proofs.AllocFail.tm_fail_unchanged (e : Ev) (id : Nat) (usec now : Int) (m : Mem)
    (hf : (tmReg e id usec now m).1 = false) : registry (tmReg e id usec now m).2.1 = registry e := by
  rcases hr : tmReg e id usec now m with ⟨ok, e', m'⟩
  rw [hr] at hf
  exact ((tmReg_contract e id usec now m ok e' m' hr).2.1 hf).1.reg nofun

theorem tmReg_refused (e : Ev) (id : Nat) (usec now : Int) (m : Mem)
    (hr : (tmReg e id usec now m).2.2.refusals ≠ m.refusals) : (tmReg e id usec now m).1 = false := by
  rcases h : tmReg e id usec now m with ⟨ok, e', m'⟩
  rw [h] at hr
  cases ok
  · rfl
  · obtain ⟨_, _, _, _, _, hrf, _⟩ := (tmReg_contract e id usec now m _ e' m' h).2.2 rfl
    exact absurd hrf hr

theorem tmReg_mono (e : Ev) (id : Nat) (usec now : Int) (m : Mem) :
    let m' := (tmReg e id usec now m).2.2
    m'.f = m.f ∧ m.n ≤ m'.n ∧ m.refusals ≤ m'.refusals :=
  have s := (call_tmReg (e := e) (id := id) (usec := usec) (now := now) (m := m) rfl).step
  ⟨s.f, s.n, s.r⟩

theorem tmReg_granted (e : Ev) (id : Nat) (usec now : Int) (m : Mem) (h : TmInv e m) (hg : Granted m)
    (hsz : e.timers.length < 2^32) : (tmReg e id usec now m).1 = true := by
  rcases hr : tmReg e id usec now m with ⟨ok, e', m'⟩
  cases ok
  · obtain ⟨q, hrf, _⟩ := (tmReg_contract e id usec now m _ e' m' hr).2.1 rfl
    have := hrf h hsz
    have := q.step.g hg
    omega
  · rfl

def tmDrop (e : Ev) (id : Nat) : Ev := { e with timers := e.timers.filter (·.id != id) }

theorem regTimers_tmDrop (e : Ev) (id : Nat) : regTimers (tmDrop e id) = (regTimers e).filter (· != id) := by
  simp only [regTimers, registry, tmDrop, List.filter_map]
  rfl

/-- `tmDrop` of the one timer registered under `id` hands its event record, its `struct timerrec` and its record in the
queue to the call -/
theorem call_tmDrop (e : Ev) (m : Mem) {ent : TmEnt} (hmem : ent ∈ e.timers) (hnd : (regTimers e).Nodup) :
    Call .tm 3 e m (tmDrop e ent.id) m := by
  have hlen := Keys.length_filter (show (e.timers.map (·.id)).Nodup from hnd) hmem
  refine Call.pure m (outside_tm rfl rfl rfl rfl rfl rfl rfl) id ?_
  simp only [evBlocks_raw, tmDrop]
  omega

/-- `events_timer_cancel` that returns: a timer under `id` and the queue exist, the timers under `id` leave the list, and
then the queue's record, the event record and the `struct timerrec` are released, a quiet stretch; the queue's record
table is not touched, and `TmInv` is kept -/
theorem tmCancel_contract {e : Ev} {id : Nat} {m : Mem} {e' : Ev} {m' : Mem} (h : tmCancel e id m = some (e', m')) :
    ∃ ent t t' m1, ent ∈ e.timers ∧ ent.id = id ∧ e.tq = some t ∧ HeapAlloc.tqDelete t ent.tqr m = some (t', m1) ∧
      e'.tq = some t' ∧ t'.q.recs = t.q.recs ∧ Quiet .tm (-3) (tmDrop e id) m e' m' ∧ (TmInv e m → TmInv e' m') := by
  unfold tmCancel at h
  cases hfind : e.timers.find? (·.id == id) with
  | none => rw [hfind] at h; cases htq : e.tq <;> rw [htq] at h <;> cases h
  | some ent =>
    have hmem := List.mem_of_find?_eq_some hfind
    have hid : ent.id = id := by simpa using List.find?_some hfind
    subst hid
    cases htq : e.tq with
    | none => rw [hfind, htq] at h; cases h
    | some t =>
      rw [hfind, htq] at h
      dsimp only at h
      cases hdel : HeapAlloc.tqDelete t ent.tqr m with
      | none => rw [hdel] at h; cases h
      | some r =>
        obtain ⟨t', m1⟩ := r
        rw [hdel] at h
        have q1 := quiet_tq (d := -1) (tmDrop e ent.id) (some t')
          ((tqDelete_calls hdel).1.cast (by simp [tqBlocks, tmDrop, htq]; omega))
        have q2 := quiet_freerec .tm { tmDrop e ent.id with tq := some t' } ent.rid m1
        rw [freerec_eq] at q2
        simp only [freerec_eq, Option.some.injEq, Prod.mk.injEq] at h
        obtain ⟨rfl, rfl⟩ := h
        have q := ((q1.trans q2).trans (quiet_mem .tm _ (calls_free _ false))).cast (show (-1 : Int) + -1 + -1 = -3 by decide)
        refine ⟨ent, t, t', m1, hmem, rfl, rfl, hdel, rfl, (tqDelete_calls hdel).2, q, fun hi => ?_⟩
        obtain ⟨hq, hperm, hh⟩ := hi.tq t htq
        obtain ⟨t'', _, hdel', hq', hperm', hh', _⟩ := tq_delete_spec t ent.tqr m hq hh
          (hperm.mem_iff.mpr (List.mem_map.mpr ⟨ent, hmem, rfl⟩))
        rw [hdel] at hdel'
        cases hdel'
        refine ⟨by simp, ?_, fun x hx => Nat.lt_of_lt_of_le (hi.lt x (List.mem_filter.mp hx).1) q.step.n,
          (List.filter_sublist.map _).nodup hi.nodup⟩
        intro t'' ht''
        cases ht''
        refine ⟨hq', ?_, hh'⟩
        have p1 := hperm'.symm.trans (hperm.trans ((Keys.perm_filter hi.nodup hmem).map (·.tqr)))
        simp only [List.map_cons] at p1
        exact p1.cons_inv

/-- `events_timer_cancel` that returns, as a whole (ids of registered timers are distinct: `TmInv.nodup`) -/
theorem call_tmCancel {e e' : Ev} {id : Nat} {m m' : Mem} (hnd : (regTimers e).Nodup)
    (h : tmCancel e id m = some (e', m')) : Call .tm 0 e m e' m' := by
  obtain ⟨ent, _, _, _, hmem, rfl, _, _, _, _, q, _⟩ := tmCancel_contract h
  exact ((call_tmDrop e m hmem hnd).trans q.call).cast (by decide)

theorem tmCancel_none (e : Ev) (id : Nat) (m : Mem) (h : id ∉ regTimers e) : tmCancel e id m = none := by
  unfold tmCancel
  cases hfind : e.timers.find? (·.id == id) with
  | none => rfl
  | some ent =>
    exfalso
    apply h
    simp only [regTimers, registry, List.mem_map]
    exact ⟨ent, List.mem_of_find?_eq_some hfind, by simpa using List.find?_some hfind⟩

/-- cancel cannot fail, for every oracle (the shrinking realloc inside `timerqueue_delete` may be refused
harmlessly) -/
theorem tmCancel_ok (e : Ev) (id : Nat) (m : Mem) (h : TmInv e m) (hreg : id ∈ regTimers e) :
    ∃ e' m', tmCancel e id m = some (e', m') ∧ TmInv e' m' ∧ regTimers e' = (regTimers e).filter (· != id) ∧
      Call .tm 0 e m e' m' := by
  have hsome : ∃ r, tmCancel e id m = some r := by
    obtain ⟨ent, hmem, rfl⟩ := List.mem_map.1 hreg
    cases htq : e.tq with
    | none => rw [h.noq htq] at hmem; cases hmem
    | some t =>
      obtain ⟨hq, hperm, hh⟩ := h.tq t htq
      obtain ⟨t', m1, hdel, _⟩ := tq_delete_spec t ent.tqr m hq hh (hperm.mem_iff.mpr (List.mem_map.mpr ⟨ent, hmem, rfl⟩))
      unfold tmCancel
      rw [Keys.find h.nodup hmem, htq]
      dsimp only
      rw [hdel]
      exact ⟨_, rfl⟩
  obtain ⟨⟨e', m'⟩, hc⟩ := hsome
  obtain ⟨_, _, _, _, _, _, _, _, _, _, q, hinv⟩ := tmCancel_contract hc
  exact ⟨e', m', hc, hinv h, by rw [regTimers_of_timers q.same.2.2, regTimers_tmDrop], call_tmCancel h.nodup hc⟩

end Percival.Proofs.EvRegTimer
