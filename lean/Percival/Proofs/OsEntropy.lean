import Percival.Model.OsEntropy
/-! `entropy_read_fill` of `util/entropy.c` over a scripted `read` (C11): a call succeeds exactly by storing the next
`need` bytes of the stream through positive `read` results, and fails at the first end-of-file or error. -/
namespace Percival.Proofs.OsEntropy
open Percival.Model.OsEntropy

theorem fill_ok_step (f m : Nat) (stream : List UInt8) (script : List ReadAns) (r : Res)
    (h : (fill (f + 1) (m + 1) stream script r).ok = true) :
    ∃ n script', 0 < n ∧ n ≤ m + 1 ∧ n ≤ stream.length ∧
      fill (f + 1) (m + 1) stream script r = fill f (m + 1 - n) (stream.drop n) script'
        { r with got := r.got ++ stream.take n, calls := (m + 1, (n : Int)) :: r.calls } := by
  cases script with
  | nil =>
    simp only [fill] at h ⊢
    split at h
    · cases h
    · rename_i hk
      exact ⟨_, [], Nat.pos_of_ne_zero hk, Nat.min_le_left _ _, Nat.min_le_right _ _, by rw [if_neg hk]⟩
  | cons a as =>
    cases a with
    | chunk c =>
      simp only [fill] at h ⊢
      split at h
      · cases h
      · rename_i hk
        exact ⟨_, as, Nat.pos_of_ne_zero hk, Nat.le_trans (Nat.min_le_left _ _) (Nat.min_le_right _ _),
          Nat.min_le_right _ _, by rw [if_neg hk]⟩
    | eof => cases h
    | err e => cases h

theorem fill_ok (f need : Nat) (stream : List UInt8) (script : List ReadAns) (r : Res)
    (h : (fill f need stream script r).ok = true) :
    (fill f need stream script r).got = r.got ++ stream.take need ∧ need ≤ stream.length := by
  induction f generalizing need stream script r with
  | zero => cases h
  | succ f ih =>
    cases need with
    | zero => simp [fill]
    | succ m =>
      obtain ⟨n, script', _, h1, h2, e⟩ := fill_ok_step f m stream script r h
      rw [e] at h ⊢
      obtain ⟨e1, e2⟩ := ih _ _ _ _ h
      rw [List.length_drop] at e2
      exact ⟨by rw [e1, List.append_assoc, ← List.take_add, Nat.add_sub_cancel' h1], by omega⟩

theorem fill_fails_on_eof_or_err (f m : Nat) (stream : List UInt8) (as : List ReadAns) (r : Res) (a : ReadAns)
    (ha : a = .eof ∨ ∃ e, a = .err e) : (fill (f + 1) (m + 1) stream (a :: as) r).ok = false := by
  rcases ha with rfl | ⟨e, rfl⟩ <;> simp [fill]

/-- an end-of-file or an error makes the call fail at every position: after any sequence of short reads that together
    cannot have filled the buffer (`Σ (kᵢ+1) < need`; read `i` hands over at most `kᵢ+1` bytes) -/
theorem fill_fails_at (ks : List Nat) (a : ReadAns) (ha : a = .eof ∨ ∃ e, a = .err e)
    (f need : Nat) (stream : List UInt8) (as : List ReadAns) (r : Res)
    (hf : need < f) (hs : (ks.map (· + 1)).sum < need) :
    (fill f need stream (ks.map .chunk ++ a :: as) r).ok = false := by
  induction ks generalizing f need stream r with
  | nil =>
    obtain ⟨f, rfl⟩ : ∃ f', f = f' + 1 := ⟨f - 1, by omega⟩
    obtain ⟨m, rfl⟩ : ∃ m, need = m + 1 := ⟨need - 1, by simp at hs; omega⟩
    exact fill_fails_on_eof_or_err f m stream as r a ha
  | cons k ks ih =>
    simp only [List.map_cons, List.sum_cons] at hs
    obtain ⟨f, rfl⟩ : ∃ f', f = f' + 1 := ⟨f - 1, by omega⟩
    obtain ⟨m, rfl⟩ : ∃ m, need = m + 1 := ⟨need - 1, by omega⟩
    simp only [List.map_cons, List.cons_append, fill]
    split
    · rfl
    · rename_i hn
      have h1 : min (min (k + 1) (m + 1)) stream.length ≤ k + 1 :=
        Nat.le_trans (Nat.min_le_left _ _) (Nat.min_le_left _ _)
      generalize min (min (k + 1) (m + 1)) stream.length = n at *
      exact ih _ _ _ _ (by omega) (by omega)

theorem fill_ok_calls (f need : Nat) (stream : List UInt8) (script : List ReadAns) (r : Res)
    (h : (fill f need stream script r).ok = true) :
    ∀ c ∈ (fill f need stream script r).calls, c ∈ r.calls ∨ 0 < c.2 := by
  induction f generalizing need stream script r with
  | zero => cases h
  | succ f ih =>
    cases need with
    | zero => intro c hc; simp [fill] at hc; exact Or.inl hc
    | succ m =>
      obtain ⟨n, script', h0, _, _, e⟩ := fill_ok_step f m stream script r h
      rw [e] at h ⊢
      intro c hc
      rcases ih _ _ _ _ h c hc with h' | h'
      · rcases List.mem_cons.mp h' with rfl | h'
        · exact Or.inr (Int.natCast_pos.mpr h0)
        · exact Or.inl h'
      · exact Or.inr h'

end Percival.Proofs.OsEntropy
