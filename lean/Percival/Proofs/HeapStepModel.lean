import Percival.Proofs.HeapUnder
import Percival.Model.HeapStep
/-!
# C13: the function the model executable runs (`Model.HeapStep`) is the proved model

`hstep` / `tstepX` keep the caller's keys in a hash map (`keyFn_insert`, `keyFn_setKeys`), cut the log after every operation and
keep "last reported position" in a hash map (`updPos_get`: it is `lastIn` of the whole log).  As no operation reads the log
(`Proofs/HeapUnder.lean`) this changes no answer: `hstep_mk`, `tstep_mk`, `tdrain_mk` (`C13.hstep_refines`, `C13.tstep_refines`,
`C13.tdrain_refines`).
-/
namespace Percival.Proofs.HeapStep
open Percival.Model Percival.Model.Heap Percival.Model.HeapStep Percival.Spec.PQ
open Percival.Model.HeapRun (step tstep tqDrain)
open Percival.Proofs.Heap Percival.Proofs.TQ

theorem rel_ite {α β : Type} (R : α → β → Prop) {c : Prop} [Decidable c] {a₁ a₂ : α} {b₁ b₂ : β}
    (h1 : c → R a₁ b₁) (h2 : ¬ c → R a₂ b₂) : R (if c then a₁ else a₂) (if c then b₁ else b₂) := by
  split
  · exact h1 ‹_›
  · exact h2 ‹_›

theorem keyFn_insert (m : Std.HashMap Nat Int) (e : Nat) (k : Int) :
    keyFn (m.insert e k) = upd (keyFn m) e k := by
  funext x
  simp only [keyFn, upd, Std.HashMap.getD_insert]
  by_cases h : x = e
  · simp [h]
  · have : ¬ (e = x) := fun h' => h h'.symm
    simp [h, this]

theorem keyFn_setKeys (ps : List (Nat × Int)) : ∀ m : Std.HashMap Nat Int,
    keyFn (setKeysM m ps) = setKeys (keyFn m) ps := by
  induction ps with
  | nil => intro m; rfl
  | cons p ps ih =>
    intro m
    simp only [setKeysM, setKeys, List.foldl_cons]
    have := ih (m.insert p.1 p.2)
    simp only [setKeysM, setKeys] at this
    rw [this, keyFn_insert]

/-- the position the notifications `l` (newest first) report last for `e` -/
def lastIn (l : List (Nat × Nat)) (e : Nat) : Option Nat := (l.find? (fun p => p.1 == e)).map (·.2)

theorem posOf_mk (a : Array Nat) (l : List (Nat × Nat)) (e : Nat) : posOf ⟨a, l⟩ e = lastIn l e := rfl

theorem lastIn_append (l L : List (Nat × Nat)) (e : Nat) :
    lastIn (l ++ L) e = (lastIn l e).or (lastIn L e) := by
  unfold lastIn
  rw [List.find?_append]
  cases l.find? (fun p => p.1 == e) <;> simp

theorem updPos_get (m : Std.HashMap Nat Nat) (l : List (Nat × Nat)) (e : Nat) :
    (updPos m l)[e]? = (lastIn l e).or m[e]? := by
  induction l with
  | nil => simp [updPos, lastIn]
  | cons p l ih =>
    have : updPos m (p :: l) = (updPos m l).insert p.1 p.2 := rfl
    rw [this, Std.HashMap.getElem?_insert, ih]
    unfold lastIn
    by_cases h : p.1 == e
    · simp [h]
    · simp [h]

/-- the model state a fast state stands for, given the log so far -/
def mk (f : HSt) (L : List (Nat × Nat)) : HeapRun.St := ⟨under f.heap L, keyFn f.keys, f.live⟩

def PosOk (f : HSt) (L : List (Nat × Nat)) : Prop := ∀ e, f.pos[e]? = lastIn L e

theorem posOf_under (f : HSt) (L) (e : Nat) : posOf (under f.heap L) e = lastIn L e := rfl

theorem under_nil (h : Heap) : under h [] = h := by
  simp [under]

theorem posOk_nil (e : Nat) : ({} : Std.HashMap Nat Nat)[e]? = lastIn [] e := by
  simp [lastIn]

/-- the executable's outcome `r` (new state, printed line) stands for the model's outcome `r'` (new state,
answer): same answer, the states correspond under some log `L'`, and the line's L2 part shows the model's array
and the newest notifications of `L'` -/
def HSim (r : HSt × HOut) (r' : HeapRun.St × Ans) : Prop :=
  ∃ L', r'.1 = mk r.1 L' ∧ PosOk r.1 L' ∧ r.2.ans = r'.2 ∧
    ∀ x, r.2.l2 = some x → x.a = r'.1.h.a ∧ ∃ L0, L' = x.notes ++ L0

theorem hsim_same {f : HSt} {L : List (Nat × Nat)} (hp : PosOk f L) (a : Ans) :
    HSim (f, { ans := a }) (mk f L, a) :=
  ⟨L, rfl, hp, rfl, fun x hx => by cases hx⟩

theorem hsim_finish {f : HSt} {L : List (Nat × Nat)} (hp : PosOk f L) (g : Heap) (keys live ans) :
    HSim (hfinish f g keys live ans) (⟨under g L, keyFn keys, live⟩, ans) := by
  refine ⟨g.log ++ L, rfl, fun e => ?_, rfl, fun x hx => by cases hx; exact ⟨rfl, L, rfl⟩⟩
  show (updPos f.pos g.log)[e]? = _
  rw [updPos_get, hp e, lastIn_append]

/-- a handle operation: the position looked up, then a heap operation that may refuse -/
theorem hsim_handle {f : HSt} {L : List (Nat × Nat)} (hp : PosOk f L) (pos : Option Nat)
    (o : Nat → Option Heap) (keys : Std.HashMap Nat Int) (live : List Nat) :
    HSim
      (match pos with
        | some rc => match o rc with
          | some h => hfinish f h keys live .ok
          | none => (f, { ans := .precondition })
        | none => (f, { ans := .precondition }))
      (match pos with
        | some rc => match (o rc).map (under · L) with
          | some h => (⟨h, keyFn keys, live⟩, .ok)
          | none => (mk f L, .precondition)
        | none => (mk f L, .precondition)) := by
  cases pos with
  | none => exact hsim_same hp _
  | some rc =>
    dsimp only
    cases o rc with
    | none => exact hsim_same hp _
    | some g => exact hsim_finish hp g _ _ _

theorem hstep_mk (f : HSt) (L : List (Nat × Nat)) (hp : PosOk f L) (op : Op) :
    HSim (hstep f op) (step (mk f L) op) := by
  unfold mk
  have hg : getmin (under f.heap L) = getmin f.heap := rfl
  have hk : ∀ e k, upd (keyFn f.keys) e k = keyFn (f.keys.insert e k) := fun e k => (keyFn_insert _ e k).symm
  cases op with
  | create ps =>
    simp only [hstep, step]
    refine rel_ite HSim (fun _ => ?_) fun _ => hsim_same hp _
    rw [← keyFn_setKeys]
    have h1 := hsim_finish (f := { f with pos := {} }) (L := []) (posOk_nil)
      (create (keyFn (setKeysM f.keys ps)) (ps.map (·.1))) (setKeysM f.keys ps) (ps.map (·.1)) .ok
    rwa [under_nil] at h1
  | add e k =>
    simp only [hstep, step]
    refine rel_ite HSim (fun _ => hsim_same hp _) fun _ => ?_
    rw [hk, add_under]
    exact hsim_finish hp _ _ _ _
  | getmin => exact hsim_same hp _
  | delmin =>
    simp only [hstep, step, hg, deletemin, delete_under]
    cases getmin f.heap with
    | none => exact hsim_same hp _
    | some e =>
      cases delete (keyFn f.keys) f.heap 0 with
      | none => exact hsim_same hp _
      | some g => exact hsim_finish hp g _ _ _
  | del e =>
    simp only [hstep, step, posOf_under, ← hp e, delete_under]
    exact rel_ite HSim (fun _ => hsim_same hp _) fun _ => hsim_handle hp _ (delete (keyFn f.keys) f.heap) f.keys (f.live.erase e)
  | inc e k =>
    simp only [hstep, step, posOf_under, ← hp e, increase_under, hk]
    exact rel_ite HSim (fun _ => hsim_same hp _) fun _ => hsim_handle hp _ (increase (keyFn (f.keys.insert e k)) f.heap) (f.keys.insert e k) f.live
  | dec e k =>
    simp only [hstep, step, posOf_under, ← hp e, decrease_under, hk]
    exact rel_ite HSim (fun _ => hsim_same hp _) fun _ => hsim_handle hp _ (decrease (keyFn (f.keys.insert e k)) f.heap) (f.keys.insert e k) f.live
  | incmin k =>
    simp only [hstep, step, hg]
    cases getmin f.heap with
    | none => exact hsim_same hp _
    | some e =>
      by_cases hc : k < keyFn f.keys e
      · simp only [if_pos hc]
        exact hsim_same hp _
      · simp only [if_neg hc, hk, increasemin_under]
        exact hsim_finish hp _ _ _ _
  | drain =>
    simp only [hstep, step, drainList_under]
    exact ⟨[], rfl, posOk_nil, rfl, fun x hx => by cases hx⟩

def mkT (f : TSt) (L : List (Nat × Nat)) : HeapRun.TSt := ⟨underQ f.q L, f.live⟩

def TPosOk (f : TSt) (L : List (Nat × Nat)) : Prop := ∀ e, f.pos[e]? = lastIn L e

def TSim (r : TSt × TOut) (r' : HeapRun.TSt × TAns) : Prop :=
  ∃ L', r'.1 = mkT r.1 L' ∧ TPosOk r.1 L' ∧ r.2.ans = .ans r'.2 ∧ ∀ x, r.2.l2 = some x → x.a = r'.1.q.h.a

theorem tsim_same {f : TSt} {L : List (Nat × Nat)} (hp : TPosOk f L) (a : TAns) :
    TSim (f, { ans := .ans a }) (mkT f L, a) :=
  ⟨L, rfl, hp, rfl, fun x hx => by cases hx⟩

theorem tsim_finish {f : TSt} {L : List (Nat × Nat)} (hp : TPosOk f L) (q : TimerQueue.TQ) (live ans) :
    TSim (tfinish f q live ans) (⟨underQ q L, live⟩, ans) := by
  refine ⟨q.h.log ++ L, rfl, fun e => ?_, rfl, fun x hx => by cases hx; rfl⟩
  show (updPos f.pos q.h.log)[e]? = _
  rw [updPos_get, hp e, lastIn_append]

theorem tqDelete_under (f : TSt) (L) (hp : TPosOk f L) (r : Nat) :
    TimerQueue.delete (underQ f.q L) r = (tqDelete f r).map (underQ · L) := by
  have hpos : posOf (underQ f.q L).h r = f.pos[r]? := (hp r).symm
  have hh : (underQ f.q L).h = under f.q.h L := rfl
  have hr : (underQ f.q L).recs = f.recs := rfl
  simp only [TimerQueue.delete, tqDelete, hpos, Option.bind_eq_bind, Option.pure_def]
  cases f.pos[r]? with
  | none => rfl
  | some rc =>
    simp only [Option.bind_some, hh, hr, delete_under]
    cases delete (TimerQueue.key f.recs) f.q.h rc <;> rfl

theorem tqIncrease_under (f : TSt) (L) (hp : TPosOk f L) (r : Nat) (sec usec : Int) :
    TimerQueue.increase (underQ f.q L) r sec usec = (tqIncrease f r sec usec).map (underQ · L) := by
  have hpos : posOf (underQ f.q L).h r = f.pos[r]? := (hp r).symm
  have hh : (underQ f.q L).h = under f.q.h L := rfl
  have hr : (underQ f.q L).recs = f.recs := rfl
  simp only [TimerQueue.increase, tqIncrease, hpos, hr, Option.bind_eq_bind, Option.pure_def]
  cases TimerQueue.lookup f.recs r with
  | none => rfl
  | some old =>
    simp only [Option.bind_some]
    cases f.pos[r]? with
    | none => rfl
    | some rc =>
      simp only [Option.bind_some, hh, increase_under]
      cases increase (TimerQueue.key ((r, { old with sec, usec }) :: f.recs)) f.q.h rc <;> rfl

theorem tstep_mk (f : TSt) (L : List (Nat × Nat)) (hp : TPosOk f L) (op : TOp) :
    TSim (tstepX f (.op op)) (tstep (mkT f L) op) := by
  unfold mkT
  cases op with
  | add r sec usec p =>
    simp only [tstepX, tstep]
    refine rel_ite TSim (fun _ => tsim_same hp _) fun _ => ?_
    have : TimerQueue.add (underQ f.q L) r sec usec p = underQ (TimerQueue.add f.q r sec usec p) L := by
      simp only [TimerQueue.add, underQ, add_under]
    rw [this]
    exact tsim_finish hp _ _ _
  | del r =>
    simp only [tstepX, tstep]
    refine rel_ite TSim (fun _ => tsim_same hp _) fun _ => ?_
    rw [tqDelete_under f L hp r]
    cases tqDelete f r with
    | none => exact tsim_same hp _
    | some q => exact tsim_finish hp q _ _
  | inc r sec usec =>
    simp only [tstepX, tstep]
    rw [show (underQ f.q L).recs = f.recs from rfl]
    refine rel_ite TSim (fun _ => tsim_same hp _) fun _ => ?_
    rw [tqIncrease_under f L hp r sec usec]
    cases tqIncrease f r sec usec with
    | none => exact tsim_same hp _
    | some q => exact tsim_finish hp q _ _
  | getmin => exact tsim_same hp _
  | get sec usec =>
    simp only [tstepX, tstep, getptr_under]
    cases hq : TimerQueue.getptr f.q sec usec with
    | mk q res =>
      cases res with
      | none => exact tsim_same hp _
      | some rp => obtain ⟨r, p⟩ := rp; exact tsim_finish hp q _ _

theorem tdrain_mk (f : TSt) (L : List (Nat × Nat)) (sec usec : Int) :
    (tstepX f (.drain sec usec)).2.ans =
      .drained ((tqDrain sec usec (mkT f L).q.h.a.size (mkT f L).q).map (·.2)) := by
  simp only [tstepX, mkT, tqDrain_under]; rfl

end Percival.Proofs.HeapStep
