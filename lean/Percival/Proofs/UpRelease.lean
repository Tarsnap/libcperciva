import Percival.Proofs.UpInv
/-!
# C14, component `upstart`: the harness' `release_all` empties the world

`HInv` says that the handle tables name *exactly* the objects of the world that are not owned by another object.
Releasing such an object (`relOf`: its cancel / free) is `Present`, so it is carried out (`stepR_release_ok`), and removes
it and the objects it owns and nothing else (`delta`): which other objects are there and unowned does not change, so the
order plays no role (`release_any_order`).  The harness releases what its tables hold (`releaseOps_eq`), hence
`ReleaseCovers s`, the hypothesis `atexitAll_frees_everything` needs, and `end` leads to the initial state (`uinv_end`).
-/
namespace Percival.Proofs.UpMonSound
open Percival.Model Percival.Model.EvReg Percival.Model.AllocFail Percival.Model.UpStep
open Percival.Proofs.AllocFailUpper
open Percival.Model.DsStep (sched)

theorem relCall_isRelease (k : RelKind) (c : Nat) : isRelease (relCall k c) = true := by cases k <;> rfl

def kOf : RelKind → K
  | .nrCancel => .rd | .nwCancel => .wr | .naCancel => .acc | .ncCancel => .conn | .hqCancel => .http
  | .nbwFree => .nbw | .nbrCancel => .nbr | .nbrFree => .nbr

theorem present_of_vis (w : World) (rk : RelKind) (c : Nat) (hv : Vis (tables w) (kOf rk) c) (hrk : rk ≠ .nbrFree) :
    Present w (relCall rk c) := by
  have own : ∀ {α : Type} {l : List α} {f : α → Option Nat}, (∀ x ∈ l, f x ≠ some c) → l.any (f · == some c) = false :=
    fun h => List.any_eq_false.2 fun x hx => by simpa using h x hx
  cases rk with
  | nrCancel => exact ⟨List.mem_map.1 hv.1, own hv.2⟩
  | nwCancel => exact ⟨List.mem_map.1 hv.1, own hv.2⟩
  | ncCancel => exact ⟨List.mem_map.1 hv.1, own hv.2⟩
  | nbrFree => exact absurd rfl hrk
  | _ => exact List.mem_map.1 hv

theorem rel_step (w : World) (hI : Inv w) (c0 : LOp) (hr : isRelease c0 = true) (hp : Present w c0) :
    Inv (step w c0) ∧ Delta (tables w) (tables (step w c0)) none (delOf c0) ∧ gone w (step w c0) c0 := by
  obtain ⟨hok, hg⟩ := stepR_release_ok w c0 hI hp
  have hnc : (stepR w c0).1 ≠ .contract := by rw [hok]; simp
  have hd := delta (tabStep_stepR w c0 hI hnc) hI.owns.nodupE hI.refs
  have ha : addOf c0 (call w c0).2.1 = none := by cases c0 <;> first | rfl | cases hr
  rw [ha] at hd
  rw [step_eq]
  exact ⟨stepR_inv w c0 hI, hd, hg⟩

theorem delOf_relCall (rk : RelKind) (c : Nat) (h : rk ≠ .nbrCancel) : delOf (relCall rk c) = some (kOf rk, c) := by
  cases rk <;> first | rfl | exact absurd rfl h

theorem run_append (w : World) (a b : List LOp) : AllocFail.run w (a ++ b) = AllocFail.run (AllocFail.run w a) b :=
  List.foldl_append ..

theorem releases_simple (rk : RelKind) (hrk1 : rk ≠ .nbrFree) (hrk2 : rk ≠ .nbrCancel) (w : World) (c : Nat)
    (hI : Inv w) (hv : Vis (tables w) (kOf rk) c) :
    Inv (AllocFail.run w [relCall rk c]) ∧
    ∀ k' c', Vis (tables (AllocFail.run w [relCall rk c])) k' c' ↔ (Vis (tables w) k' c' ∧ ¬ (k' = kOf rk ∧ c' = c)) := by
  obtain ⟨hI1, hd, _⟩ := rel_step w hI _ (relCall_isRelease rk c) (present_of_vis w rk c hv hrk1)
  rw [delOf_relCall rk c hrk2] at hd
  exact ⟨hI1, delta_del.1 hd⟩

/-- a buffered reader: cancel the wait, then free -/
theorem releases_nbr (w : World) (c : Nat) (hI : Inv w) (hv : Vis (tables w) .nbr c) :
    Inv (AllocFail.run w [.nbrCancel c, .nbrFree c]) ∧
    ∀ k' c', Vis (tables (AllocFail.run w [.nbrCancel c, .nbrFree c])) k' c' ↔
      (Vis (tables w) k' c' ∧ ¬ (k' = .nbr ∧ c' = c)) := by
  obtain ⟨hI1, hd1, hg1⟩ := rel_step w hI (.nbrCancel c) rfl (List.mem_map.1 hv)
  obtain ⟨a, ha, hac⟩ := List.mem_map.1 ((delta_same.1 hd1 .nbr c).2 hv)
  obtain ⟨hI2, hd2, _⟩ := rel_step _ hI1 (.nbrFree c) rfl ⟨a, ha, hac, hg1 a ha hac⟩
  exact ⟨hI2, fun k' c' => (delta_del.1 hd2 k' c').trans (and_congr_left' (delta_same.1 hd1 k' c'))⟩

def relOf : K × Nat → List LOp
  | (.rd, c) => [.readCancel c] | (.wr, c) => [.writeCancel c] | (.acc, c) => [.acceptCancel c]
  | (.conn, c) => [.connectCancel c] | (.nbr, c) => [.nbrCancel c, .nbrFree c] | (.nbw, c) => [.nbwFree c]
  | (.http, c) => [.httpCancel c]

theorem relOf_spec (w : World) (p : K × Nat) (hI : Inv w) (hv : Vis (tables w) p.1 p.2) :
    Inv (AllocFail.run w (relOf p)) ∧
    ∀ k c, Vis (tables (AllocFail.run w (relOf p))) k c ↔ (Vis (tables w) k c ∧ ¬ (k = p.1 ∧ c = p.2)) := by
  obtain ⟨k, c⟩ := p
  cases k
  case nbr => exact releases_nbr w c hI hv
  case rd => exact releases_simple .nrCancel nofun nofun w c hI hv
  case wr => exact releases_simple .nwCancel nofun nofun w c hI hv
  case acc => exact releases_simple .naCancel nofun nofun w c hI hv
  case conn => exact releases_simple .ncCancel nofun nofun w c hI hv
  case nbw => exact releases_simple .nbwFree nofun nofun w c hI hv
  case http => exact releases_simple .hqCancel nofun nofun w c hI hv

theorem release_any_order : ∀ (ps : List (K × Nat)) (w : World), Inv w → ps.Nodup →
    (∀ p ∈ ps, Vis (tables w) p.1 p.2) →
    Inv (AllocFail.run w (ps.flatMap relOf)) ∧
    ∀ k c, Vis (tables (AllocFail.run w (ps.flatMap relOf))) k c ↔ (Vis (tables w) k c ∧ (k, c) ∉ ps)
  | [], w, hI, _, _ => ⟨hI, fun k c => by simp [AllocFail.run]⟩
  | p :: rest, w, hI, hnd, hv => by
    obtain ⟨hI1, hd1⟩ := relOf_spec w p hI (hv p List.mem_cons_self)
    have hnd' := List.nodup_cons.1 hnd
    obtain ⟨hI2, hd2⟩ := release_any_order rest _ hI1 hnd'.2 fun q hq =>
      (hd1 _ _).2 ⟨hv q (List.mem_cons_of_mem _ hq), fun e => hnd'.1 (Prod.ext e.1 e.2 ▸ hq)⟩
    rw [List.flatMap_cons, run_append]
    refine ⟨hI2, fun k c => ?_⟩
    rw [hd2, hd1, List.mem_cons]
    exact ⟨fun ⟨⟨h1, h2⟩, h3⟩ => ⟨h1, fun h4 => h4.elim (fun e => h2 (by cases e; exact ⟨rfl, rfl⟩)) h3⟩,
      fun ⟨h1, h2⟩ => ⟨⟨h1, fun e => h2 (.inl (Prod.ext e.1 e.2))⟩, fun h => h2 (.inr h)⟩⟩

theorem tables_empty_of_noVis (t : Tables) (h : ∀ k c, ¬ Vis t k c) : t = ⟨[], [], [], [], [], [], []⟩ := by
  obtain ⟨reads, writes, accepts, conns, readers, writers, https⟩ := t
  have h5 : readers = [] := List.eq_nil_iff_forall_not_mem.2 fun a ha => h .nbr a.id (List.mem_map_of_mem ha)
  have h6 : writers = [] := List.eq_nil_iff_forall_not_mem.2 fun a ha => h .nbw a.id (List.mem_map_of_mem ha)
  have h7 : https = [] := List.eq_nil_iff_forall_not_mem.2 fun a ha => h .http a.cookie (List.mem_map_of_mem ha)
  have h3 : accepts = [] := List.eq_nil_iff_forall_not_mem.2 fun a ha => h .acc a.cookie (List.mem_map_of_mem ha)
  subst h5 h6 h7 h3
  have h1 : reads = [] := List.eq_nil_iff_forall_not_mem.2 fun a ha =>
    h .rd a.cookie ⟨List.mem_map_of_mem ha, fun r hr => by cases hr⟩
  have h2 : writes = [] := List.eq_nil_iff_forall_not_mem.2 fun a ha =>
    h .wr a.cookie ⟨List.mem_map_of_mem ha, fun r hr => by cases hr⟩
  have h4 : conns = [] := List.eq_nil_iff_forall_not_mem.2 fun a ha =>
    h .conn a.cookie ⟨List.mem_map_of_mem ha, fun r hr => by cases hr⟩
  subst h1 h2 h4
  rfl

theorem asc_perm (t : List (Nat × Nat)) : (asc t).Perm (t.map (·.2)) :=
  (List.mergeSort_perm t _).map _

section
variable {α β : Type} (f : α → List β)

theorem mem_tagged (ks : List α) (k : α) (c : β) :
    (k, c) ∈ ks.flatMap (fun k => (f k).map (k, ·)) ↔ (k ∈ ks ∧ c ∈ f k) := by
  simp only [List.mem_flatMap, List.mem_map, Prod.mk.injEq]
  exact ⟨fun ⟨_, hk', _, hc', e1, e2⟩ => e1 ▸ e2 ▸ ⟨hk', hc'⟩, fun ⟨h1, h2⟩ => ⟨k, h1, c, h2, rfl, rfl⟩⟩

theorem nodup_tagged : ∀ (ks : List α), ks.Nodup → (∀ k ∈ ks, (f k).Nodup) →
    (ks.flatMap fun k => (f k).map (k, ·)).Nodup
  | [], _, _ => List.nodup_nil
  | k :: ks, hnd, hf => by
    have hnd' := List.nodup_cons.1 hnd
    rw [List.flatMap_cons, List.nodup_append]
    refine ⟨List.Pairwise.map _ (fun a b hab e => hab (Prod.mk.inj e).2) (hf k List.mem_cons_self),
      nodup_tagged ks hnd'.2 fun k' hk' => hf k' (List.mem_cons_of_mem _ hk'), ?_⟩
    intro a ha b hb e
    obtain ⟨x, _, rfl⟩ := List.mem_map.1 ha
    exact hnd'.1 ((mem_tagged f ks k x).1 (e ▸ hb)).1

end

/-- the objects the harness holds, in the order `release_all` goes through them -/
def held (s : S) : List (K × Nat) :=
  [K.http, .conn, .acc, .rd, .wr, .nbr, .nbw].flatMap fun k => (asc (tab s k)).map (k, ·)

theorem releaseOps_eq (s : S) : releaseOps s = (held s).flatMap relOf := by
  simp [releaseOps, held, tab, relOf, List.flatMap_assoc, List.map_eq_flatMap]

def ReleaseCovers (s : S) : Prop :=
  tables (AllocFail.run (setF s.w (sched 0 0 0)) (releaseOps s)) = ⟨[], [], [], [], [], [], []⟩

theorem releaseCovers (s : S) (hI : Inv s.w) (H : HInv s) : ReleaseCovers s := by
  have hmem : ∀ k c, (k, c) ∈ held s ↔ Vis (tables s.w) k c := fun k c => by
    rw [← H.vis k c, ← (asc_perm _).mem_iff]
    exact (mem_tagged _ _ k c).trans (and_iff_right (by cases k <;> decide))
  obtain ⟨_, hd⟩ := release_any_order (held s) _ (inv_setF hI (sched 0 0 0))
    (nodup_tagged _ _ (by decide) fun k _ => (asc_perm _).nodup_iff.2 (H.good k).ond)
    fun p hp => (hmem p.1 p.2).1 hp
  unfold ReleaseCovers
  rw [releaseOps_eq]
  exact tables_empty_of_noVis _ fun k c hv => ((hd k c).1 hv).2 ((hmem k c).2 ((hd k c).1 hv).1)

theorem endWorld_eq (s : S) :
    endWorld s = atexitAll (AllocFail.run (setF s.w (sched 0 0 0)) (releaseOps s)) := rfl

theorem releaseAll_w (s : S) :
    (releaseAll s).w =
      { m := { (endWorld s).m with f := sched 0 0 0 },
        live := (endWorld s).live,
        cache := (endWorld s).cache,
        bad := (endWorld s).bad } := rfl

theorem atexitAll_bad (w : World) : (atexitAll w).bad = (atexitPools w).bad := by
  unfold atexitAll; rfl

theorem releaseAll_spec (s : S) (hI : Inv s.w) (hA : EvAcct s.w) (hc : ReleaseCovers s) :
    (releaseAll s).w = { m := { (endWorld s).m with f := sched 0 0 0 } } ∧ (endWorld s).m.live = 0 := by
  have hI0 := inv_setF hI (sched 0 0 0)
  have hI1 := run_inv _ (releaseOps s) hI0
  obtain ⟨h1, h2, h3⟩ := atexitAll_frees_everything _ hI1 (evAcct_run _ _ hI0 (evAcct_setF hA _)) hc
  have hbad := (atexitAll_bad _).trans (atexitPools_partial _ hI1.toInv0).2.2.2.2.2.2.1
  rw [← endWorld_eq] at h1 h2 h3 hbad
  rw [releaseAll_w, h2, h3, hbad]
  exact ⟨rfl, h1⟩

theorem tables_releaseAll (s : S) : tables (releaseAll s).w = ⟨[], [], [], [], [], [], []⟩ := rfl

theorem tabs_empty {s : S} (ht : tables s.w = ⟨[], [], [], [], [], [], []⟩) (hk : ∀ k, tab s k = []) :
    HInv s ∧ FdB (tables s.w) ∧ ResvOk s := by
  refine ⟨⟨fun k c => ?_, fun k => ?_⟩, ?_, fun p hp => ?_⟩
  · rw [hk, ht]; cases k <;> simp [Vis]
  · rw [hk]; exact ⟨List.nodup_nil, List.nodup_nil, fun _ h => (nomatch h)⟩
  · rw [ht]; exact ⟨fun _ h => (nomatch h), fun _ h => (nomatch h)⟩
  · rw [show s.nbw = [] from hk .nbw] at hp; cases hp

theorem uinv_init : UInv ({} : S) :=
  let ⟨hT, hF, hR⟩ := tabs_empty (s := {}) rfl (fun k => by cases k <;> rfl)
  ⟨inv_init _ rfl, evAcct_init _, hT, hF, hR⟩

theorem uinv_end {s : S} (U : UInv s) : (releaseAll s).w.m.live = 0 ∧ UInv (releaseAll s) := by
  obtain ⟨hw, h1⟩ := releaseAll_spec s U.inv U.acct (releaseCovers s U.inv U.tabs)
  obtain ⟨hT, hF, hR⟩ := tabs_empty (tables_releaseAll s) (fun k => by cases k <;> rfl)
  refine ⟨by rw [hw]; exact h1, ?_, ?_, hT, hF, hR⟩
  · rw [hw]; exact inv_init _ h1
  · rw [hw]; exact evAcct_init _

end Percival.Proofs.UpMonSound
