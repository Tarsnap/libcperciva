import Percival.Model.Wipe
import Percival.Gen.Wipe
/-! The verdicts of C20 that explore the reach set of a function building a key object: the three key-expand
functions, `crypto_aesctr_alloc` and `crypto_aesctr_init`.  `errorPathsClean`, `returnsLoadedObject` and
`releasesOnSomePath` all start from the same `reachSet`; decided together, the kernel explores each configuration
once.  `mkKEnv` runs one round of each of its two closures per statement of the body; they are closed after two or
three, so the verdicts are evaluated on `mkKEnvFix`, which stops there and is the same environment (`mkKEnv_eq`). -/
namespace Percival.Proofs.WipeVerdicts
open Percival.Model.Wipe Percival.Model.WipeLang Percival.Gen.Wipe

theorem iterate_fixed {α : Type} {f : α → α} {a : α} (h : f a = a) : ∀ n, iterate f n a = a
  | 0 => rfl
  | n + 1 => by rw [iterate, h, iterate_fixed h n]

def iterateFix {α : Type} [BEq α] (f : α → α) : Nat → α → α
  | 0, a => a
  | n + 1, a => if f a == a then a else iterateFix f n (f a)

theorem iterateFix_eq {α : Type} [BEq α] [LawfulBEq α] (f : α → α) : ∀ n a, iterateFix f n a = iterate f n a
  | 0, _ => rfl
  | n + 1, a => by
    rw [iterateFix]
    split
    · next h => exact (iterate_fixed (eq_of_beq h) (n + 1)).symm
    · exact iterateFix_eq f n (f a)

/-- `mkKEnv` with the alias and the taint closure stopped at their fixed points: the rounds `mkKEnv` runs after
    that (one per statement of the body in all) recompute the same lists -/
def mkKEnvFix (obj : String) (secrets scalars : List String) (body : List Stmt) : KEnv :=
  let al := iterateFix (aliasStep body) body.length [obj]
  { obj := obj, aliases := al,
    tainted := iterateFix (taintStep al scalars body) body.length secrets,
    sizes := mallocSizes obj body }

theorem mkKEnv_eq (obj : String) (secrets scalars : List String) (body : List Stmt) :
    mkKEnv obj secrets scalars body = mkKEnvFix obj secrets scalars body := by
  simp only [mkKEnv, mkKEnvFix, aliasesOf, iterateFix_eq]

/-- first half: no path releases a key object that may hold key bytes (`C20.aes_key_expand_error_paths_clean`);
    second half: the paths judged exist (`C20.aes_key_expand_paths_nonvacuous`) -/
theorem keyObjectPaths :
    (allConfigs aesKeyExpandConfigs (errorPathsClean "kexp" ["key_unexpanded"] aesKeyExpandScalars) = true ∧
     allConfigs aesKeyExpandAesniConfigs (errorPathsClean "kexp" ["key_unexpanded"] aesKeyExpandAesniScalars) = true ∧
     allConfigs aesKeyExpandArmConfigs (errorPathsClean "kexp" ["key_unexpanded"] aesKeyExpandArmScalars) = true ∧
     allConfigs aesctrAllocConfigs (errorPathsClean "stream" ["key"] aesctrAllocScalars) = true ∧
     allConfigs aesctrInitConfigs (errorPathsClean "stream" ["key"] aesctrInitScalars) = true) ∧
    (allConfigs aesKeyExpandConfigs (returnsLoadedObject "kexp" ["key_unexpanded"] aesKeyExpandScalars) = true ∧
     allConfigs aesKeyExpandConfigs (releasesOnSomePath "kexp" ["key_unexpanded"] aesKeyExpandScalars) = true ∧
     allConfigs aesKeyExpandAesniConfigs (returnsLoadedObject "kexp" ["key_unexpanded"] aesKeyExpandAesniScalars) = true ∧
     allConfigs aesKeyExpandAesniConfigs (releasesOnSomePath "kexp" ["key_unexpanded"] aesKeyExpandAesniScalars) = true ∧
     allConfigs aesKeyExpandArmConfigs (returnsLoadedObject "kexp" ["key_unexpanded"] aesKeyExpandArmScalars) = true ∧
     allConfigs aesKeyExpandArmConfigs (releasesOnSomePath "kexp" ["key_unexpanded"] aesKeyExpandArmScalars) = true ∧
     allConfigs aesctrInitConfigs (returnsLoadedObject "stream" ["key"] aesctrInitScalars) = true) := by
  delta errorPathsClean returnsLoadedObject releasesOnSomePath
  simp only [mkKEnv_eq]
  decide +kernel

end Percival.Proofs.WipeVerdicts
