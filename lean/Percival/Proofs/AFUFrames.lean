import Percival.Proofs.AFUNbw
/-!
# C14, upper layers: a world in the middle of a call, described field by field

Each structure lists what one library function has and has not changed at a given point: `ConnPre` / `ConnMid` for
`network_connect` once its cookie is allocated (the cookie is live and in no table; the registry is the old one plus,
possibly, the timer), `ConnFrm` for a stretch in which only the event layer was called, `NbwFrm` / `NbwFrm1` for a stretch
of a buffered writer's call that touches the oracle, `live` and the writers' table only; `PokePost` is the outcome of `poke`
with the invariant spelled out; `CacheAgree` says that two caches differ in the blocks of two sites only; `Acct.Side` is
what the event layer's cancels need of the registry.  No proof rests on them: the specifications follow a call with `At`
(`Proofs/AFUCalc.lean`), which says the same for every function at once.
-/
namespace Percival.Proofs.AllocFailUpper
open Percival.Model Percival.Model.EvReg Percival.Model.AllocFail
open Percival.Proofs.EvRegNet (regNet netRegistered NetInv)
open Percival.Proofs.EvRegTimer (regImm regTimers TmInv Step Granted)

/-- `wb` is `w` after the cookie block `w.m.n` was allocated and some calls into the event layer were
made: the block is live but in no table yet -/
structure ConnPre (w wb : World) : Prop where
  live : wb.live = ⟨w.m.n, .connCookie, connCookieSize⟩ :: w.live
  cache : wb.cache = w.cache
  tables : tables wb = tables w
  bad : wb.bad = w.bad
  rd : wb.rdPool = w.rdPool
  wr : wb.wrPool = w.wrPool
  ev : EvOk wb.ev wb.m
  step : Step w.m wb.m
  acct : wb.m.live = wb.live.length + wb.cache.length + wb.evLive

/-- `ConnPre`, no request refused yet, and the registry is the old one plus the timer if `tb` -/
structure ConnMid (w wa : World) (tb : Bool) : Prop where
  pre : ConnPre w wa
  n : w.m.n < wa.m.n
  ref : wa.m.refusals = w.m.refusals
  regNet : regNet wa.ev = regNet w.ev
  regImm : regImm wa.ev = regImm w.ev
  regTm : regTimers wa.ev = (if tb then [w.m.n] else []) ++ regTimers w.ev

/-- only the event layer, the oracle and the ghost counter moved -/
structure ConnFrm (w w' : World) : Prop where
  live : w'.live = w.live
  cache : w'.cache = w.cache
  tables : tables w' = tables w
  bad : w'.bad = w.bad
  rd : w'.rdPool = w.rdPool
  wr : w'.wrPool = w.wrPool
  ev : EvOk w'.ev w'.m
  step : Step w.m w'.m
  acct : w'.m.live - w'.evLive = w.m.live - w.evLive

/-- nothing but the oracle, `live` and the writers table differ -/
structure NbwFrm (w w' : World) : Prop where
  ev : w'.ev = w.ev
  cache : w'.cache = w.cache
  bad : w'.bad = w.bad
  evLive : w'.evLive = w.evLive
  rd : w'.rdPool = w.rdPool
  wr : w'.wrPool = w.wrPool
  reads : w'.reads = w.reads
  writes : w'.writes = w.writes
  accepts : w'.accepts = w.accepts
  conns : w'.conns = w.conns
  readers : w'.readers = w.readers
  https : w'.https = w.https
  step : Step w.m w'.m

/-- the frame, the writers table too, and no refusal -/
structure NbwFrm1 (w w' : World) : Prop extends NbwFrm w w' where
  writers : w'.writers = w.writers
  ref : w'.m.refusals = w.m.refusals

/-- what `poke` promises about an outcome `R`, for the table entry `x` and the writer `x0` it was called with -/
def PokePost (w : World) (x x0 : Writer) (R : Rc × World) : Prop :=
  Inv0 R.2 ∧ Step w.m R.2.m ∧ R.1 ≠ .contract ∧
  (∃ x', x'.id = x.id ∧ x'.fd = x.fd ∧ x'.reserved = x0.reserved ∧ x'.failed = x0.failed ∧
    ((x'.curr = x0.curr ∧ tables R.2 = { tables w with writers := updWriter w.writers x' } ∧
        registry R.2.ev = registry w.ev) ∨
     (x0.curr = none ∧ R.1 = .ok ∧ ∃ wb c, x'.curr = some (wb, c) ∧
        tables R.2 = { tables w with writers := updWriter w.writers x', writes := ⟨c, x.fd⟩ :: w.writes }))) ∧
  (R.1 = .ok → R.2.m.refusals = w.m.refusals) ∧
  (R.2.m.refusals ≠ w.m.refusals → R.1 = .fail) ∧
  (R.1 = .fail → ¬ netRegistered w.ev x.fd true → 24 * (x.fd + 1) ≤ EArray.SIZE_MAX → w.m.refusals < R.2.m.refusals)

/-- from the world after the empty buffers were discarded back to the world `poke` was called in -/
theorem PokePost.transfer {w w1 : World} {x x0 x1 : Writer} {R : Rc × World} (hst : Step w.m w1.m) (hev : w1.ev = w.ev)
    (href : w1.m.refusals = w.m.refusals) (ht : tables w1 = { tables w with writers := updWriter w.writers x1 })
    (h1 : x1.id = x.id) (h2 : x1.fd = x.fd) (h3 : x1.reserved = x0.reserved) (h4 : x1.failed = x0.failed)
    (h5 : x1.curr = x0.curr) (hp : PokePost w1 x1 x1 R) : PokePost w x x0 R := by
  obtain ⟨p1, p2, p3, ⟨x', q1, q2, q3, q4, q5⟩, p5, p6, p7⟩ := hp
  have hw1 : w1.writers = updWriter w.writers x1 := congrArg Tables.writers ht
  have hws : w1.writes = w.writes := congrArg Tables.writes ht
  have hupd : updWriter w1.writers x' = updWriter w.writers x' := by rw [hw1]; exact updWriter_updWriter _ q1
  refine ⟨p1, hst.trans p2, p3, ⟨x', q1.trans h1, q2.trans h2, q3.trans h3, q4.trans h4, ?_⟩, ?_, ?_, ?_⟩
  · rcases q5 with ⟨r1, r2, r3⟩ | ⟨r1, r2, wb, c, r3, r4⟩
    · refine Or.inl ⟨r1.trans h5, ?_, by rw [r3, hev]⟩
      rw [r2, ht, hupd]
    · refine Or.inr ⟨h5 ▸ r1, r2, wb, c, r3, ?_⟩
      rw [r4, ht, hupd, hws, h2]
  · intro hok; rw [p5 hok, href]
  · intro hne; exact p6 (by rw [href]; exact hne)
  · intro hf hnr hsz
    rw [← href]
    exact p7 hf (by rw [hev, h2]; exact hnr) (by rw [h2]; exact hsz)

/-- `c'` and `c` have the same blocks outside the sites `s`, `t` -/
def CacheAgree (s t : Site) (c c' : List Block) : Prop := ∀ b : Block, b.site ≠ s → b.site ≠ t → (b ∈ c' ↔ b ∈ c)

theorem CacheAgree.trans {s t : Site} {c c' c'' : List Block} (h1 : CacheAgree s t c c') (h2 : CacheAgree s t c' c'') :
    CacheAgree s t c c'' := fun b hs ht => (h2 b hs ht).trans (h1 b hs ht)

namespace Acct

/-- the immediate queues exist; pending immediate events and registered timers have distinct ids -/
def Side (e : Ev) : Prop := 0 < (regImm e).length ∧ (regImm e).flatten.Nodup ∧ (regTimers e).Nodup

theorem side_congr {e e' : Ev} (h : Side e) (h1 : regImm e' = regImm e) (h2 : regTimers e' = regTimers e) : Side e' := by
  unfold Side; rw [h1, h2]; exact h

theorem side_netReg {e : Ev} {id s : Nat} {b : Bool} {m : Mem} {res : NetRes} {e' : Ev} {m' : Mem} (h : Side e)
    (hr : netReg e id s b m = (res, e', m')) : Side e' := by
  have o := (EvRegNet.call_netReg hr).out
  exact side_congr h (EvRegTimer.regImm_of_heads (o.imm nofun).1) (EvRegTimer.regTimers_of_timers (o.tm nofun).2)

end Acct

end Percival.Proofs.AllocFailUpper
