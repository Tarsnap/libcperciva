import Percival.Proofs.HeapDelete
import Percival.Spec.PQ
/-!
# C13: `ptrheap_create` (bottom-up heapify, then one notification each), `getmin`, handles
-/
namespace Percival.Proofs.Heap
open Percival.Model.Heap

variable (key : Nat → Int)

theorem buildLoop_log (N i : Nat) (h : Heap) : (buildLoop key N i h).log = h.log := by
  induction i generalizing h with
  | zero => rfl
  | succ i ih => simp only [buildLoop]; rw [ih, siftDown_log_false]

theorem buildLoop_perm (N i : Nat) (h : Heap) : (buildLoop key N i h).a.toList.Perm h.a.toList := by
  induction i generalizing h with
  | zero => exact List.Perm.refl _
  | succ i ih => simp only [buildLoop]; exact (ih _).trans (siftDown_perm key false _ _ _ _)

theorem buildLoop_size (N i : Nat) (h : Heap) : (buildLoop key N i h).a.size = h.a.size := by
  simpa using (buildLoop_perm key N i h).length_eq

/-- the loop `for (i = N - 1; i < N; i--) heapify(i)` extends the ordered region downwards to 0 -/
theorem buildLoop_ordered (N i : Nat) (h : Heap) (hN : N ≤ h.a.size) (ho : OrderedFrom key h N i) :
    OrderedN key (buildLoop key N i h) N := by
  induction i generalizing h with
  | zero => exact (orderedFrom_zero key _ _).mp ho
  | succ i ih =>
    simp only [buildLoop]
    apply ih
    · rw [siftDown_size]; exact hN
    · apply siftDown_ordered key false N i N h i hN (by omega) (Nat.le_refl _)
      · intro j c q h0 hjN hl hne hc hq
        exact ho j c q h0 hjN (by omega) hc hq
      · intro c e q h0 hl; omega

/-- a log in which `e` is reported with one position only reports that position last -/
theorem find?_unique (l : List (Nat × Nat)) (e i : Nat) (hm : (e, i) ∈ l)
    (hu : ∀ j, (e, j) ∈ l → j = i) : l.find? (fun p => p.1 == e) = some (e, i) := by
  induction l with
  | nil => cases hm
  | cons p l ih =>
    obtain ⟨a, j⟩ := p
    simp only [List.find?_cons]
    by_cases hp : a = e
    · subst hp
      simp only [beq_self_eq_true]
      rw [hu j List.mem_cons_self]
    · have hne : (a == e) = false := beq_false_of_ne hp
      simp only [hne]
      exact ih ((List.mem_cons.mp hm).resolve_left fun h => hp (Prod.mk.inj h).1.symm)
        fun j hj => hu j (List.mem_cons_of_mem _ hj)

theorem notifyAll_a (h : Heap) : (notifyAll h).a = h.a := rfl

theorem notifyAll_pos (h : Heap) (hd : ∀ i j x : Nat, h.a[i]? = some x → h.a[j]? = some x → i = j)
    (i x : Nat) (hx : h.a[i]? = some x) : posOf (notifyAll h) x = some i := by
  have hmem : (x, i) ∈ h.a.toList.zipIdx.reverse := by
    rw [List.mem_reverse, List.mem_zipIdx_iff_getElem?, Array.getElem?_toList]
    exact hx
  have hu : ∀ j, (x, j) ∈ h.a.toList.zipIdx.reverse → j = i := by
    intro j hj
    rw [List.mem_reverse, List.mem_zipIdx_iff_getElem?, Array.getElem?_toList] at hj
    exact hd j i x hj hx
  unfold posOf notifyAll
  rw [List.foldl_flip_cons_eq_append', List.find?_append, find?_unique _ x i hmem hu]
  rfl

theorem create_eq (ptrs : List Nat) :
    create key ptrs = notifyAll (buildLoop key ptrs.length ptrs.length ⟨ptrs.toArray, []⟩) := rfl

theorem create_perm (ptrs : List Nat) : (create key ptrs).a.toList.Perm ptrs := by
  rw [create_eq, notifyAll_a]
  exact buildLoop_perm key _ _ _

theorem create_inv (ptrs : List Nat) (hnd : ptrs.Nodup) : Inv key (create key ptrs) := by
  have hperm := create_perm key ptrs
  have hdist : ∀ i j x : Nat, (create key ptrs).a[i]? = some x → (create key ptrs).a[j]? = some x → i = j :=
    distinct_of_nodup (hperm.nodup_iff.mpr hnd)
  rw [create_eq] at hdist ⊢
  generalize hb : buildLoop key ptrs.length ptrs.length ⟨ptrs.toArray, []⟩ = hbuilt at *
  have hs : hbuilt.a.size = ptrs.length := by rw [← hb, buildLoop_size]; simp
  have ho : OrderedN key hbuilt ptrs.length := by
    rw [← hb]
    apply buildLoop_ordered key _ _ _ (by simp)
    intro i c q h0 hiN hl; omega
  constructor
  · exact hdist
  · intro i x hx
    exact notifyAll_pos hbuilt hdist i x hx
  · intro i c q h0 hc hq
    rw [notifyAll_a] at hc hq
    exact ho i c q h0 (by have := lt_of_get hc; omega) hc hq

open Percival.Spec in
theorem getmin_isLeast (h : Heap) (e : Nat) (hi : Inv key h) (hg : getmin h = some e) :
    PQ.IsLeast key h.a.toList e := by
  unfold getmin at hg
  constructor
  · exact (mem_iff_get _ _).mpr ⟨0, hg⟩
  · intro x hx
    obtain ⟨i, hx⟩ := (mem_iff_get _ _).mp hx
    exact hi.root_le key i x e hx hg

theorem getmin_none_iff (h : Heap) : getmin h = none ↔ h.a.toList = [] := by
  rw [getmin, Array.getElem?_eq_none_iff, Nat.le_zero, Array.size_eq_zero_iff, Array.toList_eq_nil_iff]

theorem inv_key_congr (key' : Nat → Int) (h : Heap) (hi : Inv key h)
    (hsame : ∀ i x : Nat, h.a[i]? = some x → key' x = key x) : Inv key' h where
  distinct := hi.distinct
  handles := hi.handles
  ordered := by
    intro i c q h0 hc hq
    rw [hsame _ _ hc, hsame _ _ hq]; exact hi.ordered i c q h0 hc hq

theorem handle_iff (h : Heap) (hi : Inv key h) (e rc : Nat) (he : e ∈ h.a.toList) :
    posOf h e = some rc ↔ h.a[rc]? = some e := by
  obtain ⟨i, hie⟩ := (mem_iff_get _ _).mp he
  have hp := hi.handles i e hie
  constructor
  · intro h1; rw [hp] at h1; cases h1; exact hie
  · intro h1; exact hi.handles rc e h1

end Percival.Proofs.Heap
