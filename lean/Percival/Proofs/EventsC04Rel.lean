import Percival.Proofs.EventsTmAbs
import Percival.Proofs.EventsLive
/-!
# C04: the relation between the monitor's state and the model's state, and how each
  immediate / socket / poll / timer step keeps it (helper lemmas)

The monitor's table mirrors the three views of the model (`RImm`, `RNet.iff`, `RTm.iff`).  Readiness is tied from the
model to the monitor: whatever `revents` bit the model still holds, the monitor has a reason to let that callback run
(`ghostR`, `ghostE`; stated per position of `fds[]`, built per descriptor by `RNet.of_rev`, read per descriptor through
`RNet.justified`, `RNet.rev_errhup`).  In the C05 relation it is the other way round.
-/
namespace Percival.Proofs.EventsC04
open Percival.Spec.Events Percival.Spec.Events.C04 Percival.Model.Events Percival.Model
open Percival.Proofs.EventsNet Percival.Proofs.EventsImm Percival.Proofs.EventsLive Percival.Proofs.EventsTQ
open Percival.Proofs.EventsNetAbs

/-- immediates: the monitor's `imm p` entries are exactly the contents of queue `p` (`RQ q l`: the 32 queues hold the
    list `l`; its element type is the C05 monitor's) -/
def RImm (live : List (Nat × Reg)) (q : Imm) : Prop :=
  ∃ l : List C05.Imm, RQ q l ∧ IdsNodup l ∧ ∀ id p, lookup live id = some (.imm p) ↔ (⟨id, p⟩ : C05.Imm) ∈ l

/-- sockets: the monitor's `net fd d` entries are exactly the filled slots (`iff`); a reported direction of a filled slot
    is justified by "ready since registered" or by ERR/HUP in the latest poll (`ghostR`), and a reported ERR/HUP is in
    the monitor's list of the latest poll (`ghostE`) -/
structure RNet (live : List (Nat × Reg)) (errhup : List Nat) (n : Net) : Prop where
  inv : Inv n
  iff : ∀ id fd d, (∃ rs, lookup live id = some (.net fd d rs)) ↔ slot n fd d = some id
  ghostR : ∀ (j : Nat) (e : PollFd) (d : Dir) (id : Nat), n.fds[j]? = some e → e.rev.dir d = true →
      slot n e.fd d = some id → ∃ rs, lookup live id = some (.net e.fd d rs) ∧ (rs = true ∨ e.fd ∈ errhup)
  ghostE : ∀ (j : Nat) (e : PollFd), n.fds[j]? = some e → e.rev.errhup = true → e.fd ∈ errhup

/-- timers: the monitor's `timer us dl` entries are exactly the `TmView`s; no deadline is further away than its timeout
    (`dl`: a reset never moves a deadline backwards, which `timerqueue_increase` needs) -/
structure RTm (C : TQContract) (live : List (Nat × Reg)) (clock : Nat) (tq : TimerQueue.TQ)
    (timers : List (Nat × TimerRec)) (nextRec : Nat) : Prop where
  ok : TmOk C tq timers nextRec
  iff : ∀ id us dl, lookup live id = some (.timer us dl) ↔ TmView tq timers id us dl
  dl : ∀ id us dl, lookup live id = some (.timer us dl) → dl ≤ clock + us

structure Rel (C : TQContract) (m : M) (s : State) : Prop where
  keys : KeysNodup m.live
  clock : m.clock = s.clock
  imm : RImm m.live s.imm
  net : RNet m.live m.errhup s.net
  tm : RTm C m.live m.clock s.tq s.timers s.nextRec

theorem RImm.congr {live live' : List (Nat × Reg)} {q : Imm}
    (h : ∀ id p, lookup live' id = some (.imm p) ↔ lookup live id = some (.imm p)) (r : RImm live q) : RImm live' q := by
  obtain ⟨l, h1, h2, h3⟩ := r
  exact ⟨l, h1, h2, fun id p => (h id p).trans (h3 id p)⟩

theorem RNet.congr {live live' : List (Nat × Reg)} {eh : List Nat} {n : Net}
    (h : ∀ id fd d rs, lookup live' id = some (.net fd d rs) ↔ lookup live id = some (.net fd d rs))
    (r : RNet live eh n) : RNet live' eh n := by
  refine ⟨r.inv, ?_, ?_, r.ghostE⟩
  · intro id fd d
    rw [← r.iff id fd d]
    exact exists_congr fun rs => h id fd d rs
  · intro j e d id he hr hs
    obtain ⟨rs, h1, h2⟩ := r.ghostR j e d id he hr hs
    exact ⟨rs, (h id e.fd d rs).mpr h1, h2⟩

theorem RTm.congr {C : TQContract} {live live' : List (Nat × Reg)} {clock : Nat} {tq : TimerQueue.TQ}
    {timers : List (Nat × TimerRec)} {nextRec : Nat}
    (h : ∀ id us dl, lookup live' id = some (.timer us dl) ↔ lookup live id = some (.timer us dl))
    (r : RTm C live clock tq timers nextRec) : RTm C live' clock tq timers nextRec :=
  ⟨r.ok, fun id us dl => (h id us dl).trans (r.iff id us dl), fun id us dl hh => r.dl id us dl ((h id us dl).mp hh)⟩

/-- when the monitor accepts a callback: the registration is in the table; a socket has been reported ready since it was
    registered, or has ERR/HUP in the latest poll; a timer is due -/
theorem step_cb {m : M} {id : Nat} {reg : Reg} (hl : lookup m.live id = some reg)
    (hdue : match reg with
      | .imm _ => True
      | .net fd _ rs => rs = true ∨ fd ∈ m.errhup
      | .timer _ dl => dl ≤ m.clock) :
    C04.step m (.cb id) = .ok { m with live := remove m.live id } := by
  delta C04.step
  cases reg with
  | imm p => simp only [hl]; rfl
  | net fd d rs =>
    have : (rs || m.errhup.contains fd) = true := by
      rcases hdue with h | h <;> simp [h]
    simp only [hl, this, if_true]; rfl
  | timer us dl => simp only [hl, ge_iff_le, show dl ≤ m.clock from hdue, if_true]; rfl

variable {C : TQContract} {m : M} {s : State}

theorem lookup_none_of_not_live (r : Rel C m s) (id : Nat)
    (h : isLive s id = false) : lookup m.live id = none := by
  obtain ⟨h1, h2, h3⟩ := notLive_views h
  cases hl : lookup m.live id with
  | none => rfl
  | some reg =>
    exfalso
    cases reg with
    | imm p =>
      obtain ⟨l, hq, _, hiff⟩ := r.imm
      exact h1 l hq p ((hiff id p).mp hl)
    | net fd d rs => exact h2 fd d ((r.net.iff id fd d).mp ⟨rs, hl⟩)
    | timer us dl => exact h3 us dl ((r.tm.iff id us dl).mp hl)

theorem lookup_insert_fresh {live : List (Nat × Reg)} (hk : KeysNodup live) (id : Nat) (r : Reg) (h : lookup live id = none)
    (id' : Nat) (reg : Reg) :
    lookup ((id, r) :: remove live id) id' = some reg ↔ (id' = id ∧ reg = r) ∨ lookup live id' = some reg := by
  rw [lookup_replace hk]
  constructor
  · rintro (h1 | h1)
    · exact Or.inl h1
    · exact Or.inr h1.2
  · rintro (h1 | h1)
    · exact Or.inl h1
    · refine Or.inr ⟨fun hi => ?_, h1⟩
      rw [hi, h] at h1; cases h1

/-! Each part of the relation reads only its own kind of entry, so a change to the entry of one `id` does not
show in the lookups of any value `reg` that is neither the old nor the new entry. -/

theorem lookup_set_other {live : List (Nat × Reg)} (hk : KeysNodup live) {id : Nat} {r reg : Reg} (hr : reg ≠ r)
    (ho : lookup live id ≠ some reg) (id' : Nat) :
    lookup ((id, r) :: remove live id) id' = some reg ↔ lookup live id' = some reg := by
  rw [lookup_replace hk]
  constructor
  · rintro (⟨_, h⟩ | ⟨_, h⟩)
    · exact absurd h hr
    · exact h
  · intro h
    exact Or.inr ⟨by rintro rfl; exact ho h, h⟩

theorem lookup_drop_other {live : List (Nat × Reg)} (hk : KeysNodup live) {id : Nat} {reg : Reg}
    (ho : lookup live id ≠ some reg) (id' : Nat) : lookup (remove live id) id' = some reg ↔ lookup live id' = some reg := by
  rw [lookup_remove_iff hk]
  exact ⟨fun h => h.2, fun h => ⟨by rintro rfl; exact ho h, h⟩⟩

theorem rel_regImm (r : Rel C m s) (id prio : Nat)
    (hl : isLive s id = false) (hp : prio < 32) :
    ∃ q', immRegister s.imm id prio = some q' ∧
      Rel C { m with live := (id, .imm prio) :: remove m.live id } { s with imm := q' } := by
  have hnone := lookup_none_of_not_live r id hl
  obtain ⟨l, hq, hnd, hiff⟩ := r.imm
  obtain ⟨q', heq, hq'⟩ := immRegister_rq s.imm l id prio hq hp
  refine ⟨q', heq, ⟨keys_cons_remove _ _ _ r.keys, r.clock, ?_, ?_, ?_⟩⟩
  · refine ⟨l ++ [⟨id, prio⟩], hq', idsNodup_snoc hnd id prio ?_, ?_⟩
    · intro ha
      obtain ⟨i, hi, rfl⟩ := List.mem_map.mp ha
      have := (hiff i.id i.prio).mpr hi
      rw [hnone] at this; cases this
    · intro id' p
      rw [lookup_insert_fresh r.keys _ _ hnone, List.mem_append, List.mem_singleton, hiff]
      constructor
      · rintro (⟨rfl, h2⟩ | h)
        · cases h2; exact Or.inr rfl
        · exact Or.inl h
      · rintro (h | h)
        · exact Or.inr h
        · cases h; exact Or.inl ⟨rfl, rfl⟩
  · exact r.net.congr fun id' fd d rs => lookup_set_other r.keys (by nofun) (by rw [hnone]; nofun) id'
  · exact r.tm.congr fun id' us dl => lookup_set_other r.keys (by nofun) (by rw [hnone]; nofun) id'

/-- registration `id` (an immediate) leaves the table: cancelled, or taken by `events_immediate_get` -/
theorem rel_remove_imm (r : Rel C m s) (id p : Nat) (l : List C05.Imm) (q' : Imm)
    (hnd : IdsNodup l) (hiff : ∀ id p, lookup m.live id = some (.imm p) ↔ (⟨id, p⟩ : C05.Imm) ∈ l)
    (hm : (⟨id, p⟩ : C05.Imm) ∈ l) (hq' : RQ q' (l.filter (fun i => i.id != id))) :
    Rel C { m with live := remove m.live id } { s with imm := q' } := by
  have hlive : lookup m.live id = some (.imm p) := (hiff id p).mpr hm
  have hl := lookup_remove_iff r.keys id
  refine ⟨keys_remove _ _ r.keys, r.clock, ?_, ?_, ?_⟩
  · refine ⟨_, hq', filter_idsNodup hnd id, ?_⟩
    intro id' p'
    rw [hl, hiff, List.mem_filter]
    simp only [bne_iff_ne, ne_eq, and_comm]
  · exact r.net.congr fun id' fd d rs => lookup_drop_other r.keys (by rw [hlive]; nofun) id'
  · exact r.tm.congr fun id' us dl => lookup_drop_other r.keys (by rw [hlive]; nofun) id'

theorem rel_cancelImm (r : Rel C m s) (id p : Nat)
    (hp : immPrioOf s.imm id = some p) :
    ∃ q', immCancel s.imm id p = some q' ∧ Rel C { m with live := remove m.live id } { s with imm := q' } := by
  obtain ⟨l, hq, hnd, hiff⟩ := r.imm
  have hm := immPrioOf_some s.imm l id p hq hp
  obtain ⟨q', heq, hq'⟩ := immCancel_rq s.imm l id p hq hnd hm
  exact ⟨q', heq, rel_remove_imm r id p l q' hnd hiff hm hq'⟩

/-! The ghost facts of `RNet` speak of positions in `fds[]`; what the operations are described by is the report per
descriptor (`rev`, `EventsNetAbs`).  `RNet.of_rev` builds the one from the other, `RNet.justified` and `RNet.rev_errhup` read it. -/

theorem RNet.of_rev {live : List (Nat × Reg)} {eh : List Nat} {n : Net} (hinv : Inv n)
    (hiff : ∀ id fd d, (∃ rs, lookup live id = some (.net fd d rs)) ↔ slot n fd d = some id)
    (hr : ∀ fd d id, (rev n fd).dir d = true → slot n fd d = some id →
      ∃ rs, lookup live id = some (.net fd d rs) ∧ (rs = true ∨ fd ∈ eh))
    (he : ∀ fd, (rev n fd).errhup = true → fd ∈ eh) : RNet live eh n :=
  ⟨hinv, hiff, fun j e d id hj hrd hs => hr e.fd d id (by rw [rev_of_get hinv.inv0 hj]; exact hrd) hs,
    fun j e hj hre => he e.fd (by rw [rev_of_get hinv.inv0 hj]; exact hre)⟩

theorem RNet.rev_errhup {live : List (Nat × Reg)} {eh : List Nat} {n : Net} (r : RNet live eh n) (fd : Nat)
    (hr : (rev n fd).errhup = true) : fd ∈ eh := by
  obtain ⟨j, e, hj, rfl, he⟩ := (rev_iff r.inv.inv0 (P := fun b => b.errhup = true) nofun fd).mp hr
  exact r.ghostE j e hj he

/-- a report that lets a registered direction run is one the monitor accepts -/
theorem RNet.justified {live : List (Nat × Reg)} {eh : List Nat} {n : Net} (r : RNet live eh n) {fd : Nat} {d : Dir} {id : Nat}
    (hh : hot (rev n fd) d) (hs : slot n fd d = some id) :
    ∃ rs, lookup live id = some (.net fd d rs) ∧ (rs = true ∨ fd ∈ eh) := by
  rcases hh with h | h
  · obtain ⟨j, e, hj, rfl, he⟩ := (rev_iff r.inv.inv0 (P := fun b => b.dir d = true) (not_dir_empty d) fd).mp h
    exact r.ghostR j e d id hj he hs
  · -- ERR/HUP, which the latest poll reported
    obtain ⟨rs, hrs⟩ := (r.iff id fd d).mpr hs
    exact ⟨rs, hrs, Or.inr (r.rev_errhup fd h)⟩

theorem rel_regNet_ok {id fd : Nat} {d : Dir} {n' : Net} (r : Rel C m s) (hl : isLive s id = false)
    (ha : Added s.net n' id fd d) :
    Rel C { m with live := (id, .net fd d false) :: remove m.live id } { s with net := n' } := by
  have hnone := lookup_none_of_not_live r id hl
  obtain ⟨hinv, hfree, hslot, hrev⟩ := ha
  refine ⟨keys_cons_remove _ _ _ r.keys, r.clock, ?_, .of_rev hinv ?_ ?_ ?_, ?_⟩
  · exact r.imm.congr fun id' p => lookup_set_other r.keys (by nofun) (by rw [hnone]; nofun) id'
  · refine slotGraph_insert r.net.iff hfree hslot fun id' fd' d' => ?_
    simp only [lookup_insert_fresh r.keys _ _ hnone, Reg.net.injEq, exists_or, exists_and_left, exists_eq, and_true]
  · intro fd' d' id' hr hs
    rw [hrev] at hr
    rw [hslot] at hs
    by_cases hc : fd' = fd ∧ d' = d
    · -- the slot was free, so nothing was reported for it
      obtain ⟨rfl, rfl⟩ := hc
      have := rev_slot r.net.inv.inv0 hr
      rw [hfree] at this; cases this
    · rw [if_neg hc] at hs
      obtain ⟨rs, h1, h2⟩ := r.net.justified (Or.inl hr) hs
      exact ⟨rs, (lookup_insert_fresh r.keys _ _ hnone _ _).mpr (Or.inr h1), h2⟩
  · exact fun fd' hr => r.net.rev_errhup fd' (hrev fd' ▸ hr)
  · exact r.tm.congr fun id' us dl => lookup_set_other r.keys (by nofun) (by rw [hnone]; nofun) id'

theorem rnet_drop {live : List (Nat × Reg)} {eh : List Nat} {n n' : Net} {id fd : Nat} {d : Dir} (r : RNet live eh n)
    (hk : KeysNodup live) (hd : Dropped n n' id fd d) : RNet (remove live id) eh n' := by
  have huniq : ∀ fd' d', (∃ rs, lookup live id = some (.net fd' d' rs)) → fd' = fd ∧ d' = d := by
    rintro fd' d' ⟨rs, h1⟩
    obtain ⟨rs0, h0⟩ := (r.iff id fd d).mpr hd.held
    rw [h0] at h1; cases h1; exact ⟨rfl, rfl⟩
  refine .of_rev hd.inv ?_ ?_ fun fd' hr => r.rev_errhup fd' (hd.eh fd' hr)
  · exact slotGraph_drop r.iff hd.held hd.slots huniq fun id' fd' d' => by simp only [lookup_remove_iff hk, exists_and_left]
  · intro fd' d' id' hr hs'
    obtain ⟨rs, h1, h2⟩ := r.justified ((hd.run fd' d' (by rw [hs']; rfl)).mp (Or.inl hr)) (hd.sub fd' d' id' hs')
    refine ⟨rs, (lookup_remove_iff hk _ _ _).mpr ⟨?_, h1⟩, h2⟩
    rintro rfl
    rw [hd.slots, if_pos (huniq fd' d' ⟨rs, h1⟩)] at hs'
    cases hs'

theorem isNet_iff (fd : Nat) (d : Dir) (id : Nat) (reg : Reg) :
    isNet fd d (id, reg) = true ↔ ∃ rs, reg = .net fd d rs := by
  cases reg <;> simp [isNet]

/-- cancelling the registration of `(fd, d)` takes the entry of the id in that slot out of the table -/
theorem cancelNet_eq_remove {live : List (Nat × Reg)} {eh : List Nat} {n : Net} (r : RNet live eh n) (hk : KeysNodup live)
    {id fd : Nat} {d : Dir} (hs : slot n fd d = some id) : live.filter (fun p => !isNet fd d p) = remove live id := by
  refine List.filter_congr ?_
  rintro ⟨k, reg⟩ hp
  have hlk := (lookup_iff_mem hk).mpr hp
  have : isNet fd d (k, reg) = true ↔ k = id := by
    rw [isNet_iff]
    constructor
    · rintro ⟨rs, rfl⟩
      have := (r.iff k fd d).mp ⟨rs, hlk⟩
      rw [hs] at this; exact (Option.some.inj this).symm
    · rintro rfl
      obtain ⟨rs0, h0⟩ := (r.iff k fd d).mpr hs
      rw [hlk] at h0; exact ⟨rs0, Option.some.inj h0⟩
  rw [Bool.eq_iff_iff, Bool.not_eq_true', bne_iff_ne, ← Bool.not_eq_true, this]

/-- the registration `id` in `slot s.net fd d` is dropped and leaves the table -/
theorem rel_drop_net {id fd : Nat} {d : Dir} {n' : Net} (r : Rel C m s) (hd : Dropped s.net n' id fd d) :
    Rel C { m with live := remove m.live id } { s with net := n' } := by
  obtain ⟨rs0, h0⟩ := (r.net.iff id fd d).mpr hd.held
  exact { keys := keys_remove _ _ r.keys, clock := r.clock
          imm := r.imm.congr fun id' p => lookup_drop_other r.keys (by rw [h0]; nofun) id'
          net := rnet_drop r.net r.keys hd
          tm := r.tm.congr fun id' us dl => lookup_drop_other r.keys (by rw [h0]; nofun) id' }

theorem rel_cancelNet_ok {id fd : Nat} {d : Dir} {n' : Net} (r : Rel C m s) (hd : Dropped s.net n' id fd d) :
    Rel C { m with live := m.live.filter (fun p => !isNet fd d p) } { s with net := n' } := by
  rw [cancelNet_eq_remove r.net r.keys hd.held]
  exact rel_drop_net r hd

/-- `events_network_get` found nothing: only ERR/HUP expansions happened -/
theorem rel_net_expanded {n1 : Net} (r : Rel C m s) (hx : Expanded s.net n1) : Rel C m { s with net := n1 } :=
  { r with net := .of_rev hx.inv (fun id fd d => by rw [hx.slots]; exact r.net.iff id fd d)
             (fun fd d id hr hs => r.net.justified ((hx.run fd d (by rw [hs]; rfl)).mp (Or.inl hr)) (hx.sub fd d id hs))
             fun fd hr => r.net.rev_errhup fd (hx.eh fd hr) }

theorem rel_clock (r : Rel C m s) (a : Nat) :
    Rel C { m with clock := m.clock + a } { s with clock := s.clock + a } :=
  { r with clock := by show m.clock + a = s.clock + a; rw [r.clock]
           tm := { r.tm with dl := fun id us dl h => by have := r.tm.dl id us dl h; show dl ≤ m.clock + a + us; omega } }

theorem rel_rescan (r : Rel C m s) : Rel C m { s with net := { s.net with scan := topScan s.net } } :=
  { r with net := { r.net with inv := rescan_inv _ r.net.inv.inv0 } }

theorem lookup_markReady_other (fds : List PollEntry) {live : List (Nat × Reg)} (hk : KeysNodup live) {reg : Reg}
    (hreg : ∀ fd d rs, reg ≠ .net fd d rs) (id : Nat) :
    lookup (live.map (markReady fds)) id = some reg ↔ lookup live id = some reg := by
  have hm : ∀ r0, (markReady fds (id, r0)).2 = reg ↔ r0 = reg := by
    intro r0
    cases r0 with
    | net fd d rs => exact ⟨fun h => absurd h.symm (hreg _ _ _), fun h => absurd h.symm (hreg _ _ _)⟩
    | imm p => exact Iff.rfl
    | timer us dl => exact Iff.rfl
  rw [lookup_map_iff hk _ (markReady_key _)]
  exact ⟨fun ⟨r0, h1, h2⟩ => (hm r0).mp h2 ▸ h1, fun h => ⟨reg, h, (hm reg).mpr rfl⟩⟩

theorem markReady_net (fds : List PollEntry) (id : Nat) (r : Reg) (fd : Nat) (d : Dir) (rs : Bool) :
    (markReady fds (id, r)).2 = .net fd d rs ↔ ∃ rs0, r = .net fd d rs0 ∧ rs = (rs0 || (revOf fds fd).dir d) := by
  cases r with
  | imm p => simp [markReady]
  | timer a b => simp [markReady]
  | net fd0 d0 rs0 =>
    simp only [markReady, Reg.net.injEq]
    constructor
    · rintro ⟨rfl, rfl, rfl⟩; exact ⟨rs0, ⟨rfl, rfl, rfl⟩, rfl⟩
    · rintro ⟨rs1, ⟨rfl, rfl, rfl⟩, rfl⟩; exact ⟨rfl, rfl, rfl⟩

theorem mem_errhup_of_revOf (fds : List PollEntry) (fd : Nat) (h : (revOf fds fd).errhup = true) :
    fd ∈ (fds.filter (fun e => e.rev.errhup)).map (·.fd) := by
  unfold revOf at h
  cases hf : fds.find? (fun e => e.fd == fd) with
  | none => rw [hf] at h; cases h
  | some e =>
    rw [hf] at h
    have hfd : (e.fd == fd) = true := List.find?_some (p := fun e : PollEntry => e.fd == fd) hf
    exact List.mem_map.mpr ⟨e, List.mem_filter.mpr ⟨List.mem_of_find?_eq_some hf, h⟩, beq_iff_eq.mp hfd⟩

/-- a poll that answered (the monitor is shown `fds`): `revents` overwritten, `fdscanpos` reset; the monitor marks what
    was reported -/
theorem rel_poll_ok {fds : List PollEntry} {n' : Net} (r : Rel C m s) (adv : Nat) (hp : Polled s.net n' fds) :
    Rel C { live := m.live.map (markReady fds), clock := m.clock + adv,
            errhup := (fds.filter (fun e => e.rev.errhup)).map (·.fd) }
      { s with clock := s.clock + adv, net := n' } := by
  obtain ⟨hinv, hslot, hrev⟩ := hp
  have hlm := lookup_map_iff r.keys (markReady fds) (markReady_key _)
  -- the monitor's entry of a slot after the poll
  have hnew : ∀ id fd d rs0, lookup m.live id = some (.net fd d rs0) →
      lookup (m.live.map (markReady fds)) id = some (.net fd d (rs0 || (revOf fds fd).dir d)) := fun id fd d rs0 h => by
    rw [hlm]
    exact ⟨_, h, (markReady_net _ _ _ _ _ _).mpr ⟨rs0, rfl, rfl⟩⟩
  refine ⟨keys_map _ _ (markReady_key _) r.keys, by show m.clock + adv = s.clock + adv; rw [r.clock], ?_,
    .of_rev hinv ?_ ?_ ?_, ?_⟩
  · exact r.imm.congr fun id p => lookup_markReady_other _ r.keys (by nofun) id
  · intro id fd d
    rw [hslot, ← r.net.iff id fd d]
    constructor
    · rintro ⟨rs, h⟩
      rw [hlm] at h
      obtain ⟨r0, h1, h2⟩ := h
      obtain ⟨rs0, rfl, _⟩ := (markReady_net _ _ _ _ _ _).mp h2
      exact ⟨rs0, h1⟩
    · rintro ⟨rs0, h⟩
      exact ⟨_, hnew id fd d rs0 h⟩
  · intro fd d id hr hs
    rw [hrev] at hr
    rw [hslot] at hs
    obtain ⟨rs0, h0⟩ := (r.net.iff id fd d).mpr hs
    exact ⟨_, hnew id fd d rs0 h0, Or.inl (by rw [hr, Bool.or_true])⟩
  · intro fd hr
    exact mem_errhup_of_revOf _ fd (hrev fd ▸ hr)
  · exact ((rel_clock r adv).tm).congr fun id us dl => lookup_markReady_other _ r.keys (by nofun) id

/-! Timer steps: the fact of `EventsTmAbs` about `TmView`, carried over to the monitor's table through `RTm.iff`. -/

theorem rel_remove_timer (r : Rel C m s) (id us dl : Nat)
    (hl : lookup m.live id = some (.timer us dl)) (tq' : TimerQueue.TQ)
    (hok : TmOk C tq' (s.timers.filter (fun p => p.1 != id)) s.nextRec) (hrecs : tq'.recs = s.tq.recs) :
    Rel C { m with live := remove m.live id } { s with tq := tq', timers := s.timers.filter (fun p => p.1 != id) } := by
  have hlk := lookup_remove_iff r.keys id
  refine ⟨keys_remove _ _ r.keys, r.clock,
    r.imm.congr fun id' p => lookup_drop_other r.keys (by rw [hl]; nofun) id',
    r.net.congr fun id' fd d rs => lookup_drop_other r.keys (by rw [hl]; nofun) id', hok, ?_, ?_⟩
  · intro id' us' dl'
    rw [hlk, tmView_remove hrecs, r.tm.iff]
  · intro id' us' dl' h
    exact r.tm.dl id' us' dl' ((hlk _ _).mp h).2

theorem rel_cancelTimer (r : Rel C m s) (id : Nat) (t : TimerRec)
    (ht : timerOf s id = some t) :
    ∃ q', TimerQueue.delete s.tq t.qrec = some q' ∧
      Rel C { m with live := remove m.live id } { s with tq := q', timers := s.timers.filter (fun p => p.1 != id) } := by
  have hm := timerOf_some_mem s id t ht
  obtain ⟨us, dl, hv, _⟩ := tmView_of_mem r.tm.ok id t hm
  obtain ⟨q', hd, hok, hrecs⟩ := tm_delete r.tm.ok id t hm
  exact ⟨q', hd, rel_remove_timer r id us dl ((r.tm.iff id us dl).mpr hv) q' hok hrecs⟩

/-- `events_timer_get` released timer `id`: it is due, and the monitor accepts `cb id` -/
theorem rel_timerGet_some (r : Rel C m s) (q' : TimerQueue.TQ) (rr id : Nat)
    (hg : TimerQueue.getptr s.tq ((s.clock / 1000000 : Nat) : Int) ((s.clock % 1000000 : Nat) : Int) = (q', some (rr, id))) :
    ∃ m', C04.step m (.cb id) = .ok m' ∧
      Rel C m' { s with tq := q', timers := s.timers.filter (fun p => p.1 != id) } := by
  obtain ⟨us, dl, hv, hdue, _, hok, hrecs⟩ := tm_getptr_some r.tm.ok s.clock q' rr id hg
  have hl := (r.tm.iff id us dl).mpr hv
  exact ⟨_, step_cb hl (r.clock ▸ hdue), rel_remove_timer r id us dl hl q' hok hrecs⟩

/-- timer `id` is (re)armed: the table gets the entry `timer us (clock + us)` in place of whatever `id` had -/
theorem RTm.set {live : List (Nat × Reg)} {clock : Nat} {tq tq' : TimerQueue.TQ} {timers timers' : List (Nat × TimerRec)}
    {n n' : Nat} (r : RTm C live clock tq timers n) (hk : KeysNodup live) (id us : Nat) (hok : TmOk C tq' timers' n')
    (hview : ∀ id' us' dl', TmView tq' timers' id' us' dl' ↔
      (id' = id ∧ us' = us ∧ dl' = clock + us) ∨ (id' ≠ id ∧ TmView tq timers id' us' dl')) :
    RTm C ((id, .timer us (clock + us)) :: remove live id) clock tq' timers' n' := by
  refine ⟨hok, fun id' us' dl' => ?_, fun id' us' dl' h => ?_⟩
  · rw [lookup_replace hk, hview, r.iff]
    simp only [Reg.timer.injEq]
  · rcases (lookup_replace hk _ _ _ _).mp h with ⟨_, h2⟩ | h
    · cases h2; exact Nat.le_refl _
    · exact r.dl id' us' dl' h.2

theorem rel_regTimer (r : Rel C m s) (id usec : Nat) (t : TimerRec) (sec us : Int)
    (hl : isLive s id = false) (hq : t.qrec = s.nextRec) (ho : TV (t.osec, t.ousec) usec)
    (hgt : gettimeout s.clock t.osec t.ousec = (sec, us)) :
    Rel C { m with live := (id, .timer usec (m.clock + usec)) :: remove m.live id }
      { s with tq := TimerQueue.add s.tq s.nextRec sec us id, timers := (id, t) :: s.timers, nextRec := s.nextRec + 1 } := by
  have hnone := lookup_none_of_not_live r id hl
  obtain ⟨hok, hview⟩ := tm_add r.tm.ok m.clock id usec t sec us (not_timer_of_not_live s id hl) hq ho (r.clock ▸ hgt)
  exact ⟨keys_cons_remove _ _ _ r.keys, r.clock,
    r.imm.congr fun id' p => lookup_set_other r.keys (by nofun) (by rw [hnone]; nofun) id',
    r.net.congr fun id' fd d rs => lookup_set_other r.keys (by nofun) (by rw [hnone]; nofun) id', r.tm.set r.keys id usec hok hview⟩

theorem rel_resetTimer (r : Rel C m s) (id : Nat) (t : TimerRec) (sec us : Int)
    (ht : timerOf s id = some t) (hgt : gettimeout s.clock t.osec t.ousec = (sec, us)) :
    ∃ q' us0 dl0, TimerQueue.increase s.tq t.qrec sec us = some q' ∧ lookup m.live id = some (.timer us0 dl0) ∧
      Rel C { m with live := (id, .timer us0 (m.clock + us0)) :: remove m.live id } { s with tq := q' } := by
  have hm := timerOf_some_mem s id t ht
  obtain ⟨us0, dl0, hv, _⟩ := tmView_of_mem r.tm.ok id t hm
  have hl := (r.tm.iff id us0 dl0).mpr hv
  obtain ⟨q', hinc, hok, hview⟩ := tm_reset r.tm.ok m.clock id t sec us us0 dl0 hm hv (r.tm.dl id us0 dl0 hl) (r.clock ▸ hgt)
  exact ⟨q', us0, dl0, hinc, hl, keys_cons_remove _ _ _ r.keys, r.clock,
    r.imm.congr fun id' p => lookup_set_other r.keys (by nofun) (by rw [hl]; nofun) id',
    r.net.congr fun id' fd d rs => lookup_set_other r.keys (by nofun) (by rw [hl]; nofun) id', r.tm.set r.keys id us0 hok hview⟩

end Percival.Proofs.EventsC04
