import Percival.Model.Events
import Percival.Proofs.PairedArrays
/-!
# The invariants of `events_network.c` are inductive (C04/C05 helper lemmas)

`Inv0` is the comment block's invariants 1–5 (plus `ev0`: `events` only ever holds POLLIN/POLLOUT; with 1,
3 and 4 a listed pollfd has a non-empty mask); `I6` is invariant 6 in the form the code actually maintains:
`fds[j].revents != 0  ==>  j <= fdscanpos` (and `fdscanpos != (size_t)(-1)`).

Invariant 1 says that `S[]` and `fds[]` point at each other (`Proofs/PairedArrays`), so the pair is a
finite map `entry n` from descriptors to pollfds; invariants 2–5 say, descriptor by descriptor, that
`S[fd]` and `entry n fd` agree (`Content`, `inv0_iff`).  Every function of the file is an update of the
two maps `slot` and `entry`; positions in `fds[]` matter for invariant 6 only.
-/
namespace Percival.Proofs.EventsNet
open Percival.Spec.Events Percival.Model.Events

structure Inv0 (n : Net) : Prop where
  i1a : ∀ (i : Nat) (s : Sock) (p : Nat), n.S[i]? = some s → s.pollpos = some p →
          ∃ e : PollFd, n.fds[p]? = some e ∧ e.fd = i
  i1b : ∀ (j : Nat) (e : PollFd), n.fds[j]? = some e → ∃ s : Sock, n.S[e.fd]? = some s ∧ s.pollpos = some j
  i2  : ∀ (i : Nat) (s : Sock), n.S[i]? = some s → (s.reader.isSome = true ∨ s.writer.isSome = true) →
          s.pollpos.isSome = true
  i3  : ∀ (i : Nat) (s : Sock), n.S[i]? = some s → s.reader = none → s.writer = none → s.pollpos = none
  i4  : ∀ (j : Nat) (e : PollFd) (s : Sock), n.fds[j]? = some e → n.S[e.fd]? = some s →
          (s.reader.isSome = e.ev.r ∧ s.writer.isSome = e.ev.w)
  i5  : ∀ (j : Nat) (e : PollFd), n.fds[j]? = some e →
          (e.rev.r = true → e.ev.r = true) ∧ (e.rev.w = true → e.ev.w = true)
  ev0 : ∀ (j : Nat) (e : PollFd), n.fds[j]? = some e → e.ev.e = false ∧ e.ev.h = false

/-- every pollfd with a non-zero `revents` is at or below position `p` -/
def Below (n : Net) (p : Nat) : Prop :=
  ∀ (j : Nat) (e : PollFd), n.fds[j]? = some e → e.rev.any = true → j ≤ p

/-- invariant 6 -/
def I6 (n : Net) : Prop :=
  ∀ (j : Nat) (e : PollFd), n.fds[j]? = some e → e.rev.any = true → ∃ p, n.scan = some p ∧ j ≤ p

structure Inv (n : Net) : Prop where
  inv0 : Inv0 n
  i6 : I6 n

theorem lt_of_get {α : Type} {a : Array α} {i : Nat} {x : α} (h : a[i]? = some x) : i < a.size :=
  (Array.getElem?_eq_some_iff.mp h).1

theorem get_set {α : Type} {a : Array α} {i : Nat} (h : i < a.size) (x : α) (j : Nat) :
    (a.setIfInBounds i x)[j]? = if j = i then some x else a[j]? := by
  rw [Array.getElem?_setIfInBounds, if_pos h]
  by_cases hij : i = j
  · rw [if_pos hij, if_pos hij.symm]
  · rw [if_neg hij, if_neg (Ne.symm hij)]

theorem of_set_some {α : Type} {a : Array α} {i j : Nat} {x y : α} (h : (a.setIfInBounds i x)[j]? = some y) :
    (j = i ∧ y = x) ∨ (j ≠ i ∧ a[j]? = some y) := by
  rw [Array.getElem?_setIfInBounds] at h
  split at h
  · next hij =>
    split at h
    · cases h; exact Or.inl ⟨hij.symm, rfl⟩
    · cases h
  · next hij => exact Or.inr ⟨fun hh => hij hh.symm, h⟩

theorem setPollpos_eq {S : Array Sock} {fd : Nat} {s : Sock} (pp : Option Nat) (h : S[fd]? = some s) :
    setPollpos S fd pp = some (S.setIfInBounds fd { s with pollpos := pp }) := by
  unfold setPollpos; rw [h]

theorem get_setPollpos {S S' : Array Sock} {fd : Nat} {pp : Option Nat} (h : setPollpos S fd pp = some S') (i : Nat) :
    S'[i]? = if i = fd then (S[fd]?).map (fun s => { s with pollpos := pp }) else S[i]? := by
  cases hs : S[fd]? with
  | none => simp [setPollpos, hs] at h
  | some s =>
    rw [setPollpos_eq pp hs] at h
    cases h
    exact get_set (lt_of_get hs) _ i

theorem setPollpos_isSome {S : Array Sock} {fd : Nat} {s : Sock} (pp : Option Nat) (h : S[fd]? = some s) :
    ∃ S', setPollpos S fd pp = some S' :=
  ⟨_, setPollpos_eq pp h⟩

theorem inv_init : Inv ({} : Net) := by
  constructor
  · constructor <;> intros <;> simp_all
  · intro j e h; simp at h

/-- `*slot = NULL; clearbit(pollpos, bit)` as done by `events_network_cancel` and `events_network_get` -/
def dropDir (n : Net) (fd : Nat) (s : Sock) (pp : Nat) (d : Dir) : Option Net :=
  clearbit { n with S := n.S.setIfInBounds fd (s.set d none) } pp d

/-- the registration slot `S[i].reader` / `S[i].writer` (none when `i` is beyond the list) -/
def slot (n : Net) (i : Nat) (d : Dir) : Option Nat := (n.S[i]?).bind (·.get d)

/-! ### The invariants as a finite map from descriptors to pollfds -/

/-- invariants 4, 5 and `ev0` for a socket and the pollfd it points at -/
structure Linked (s : Sock) (e : PollFd) : Prop where
  r : s.reader.isSome = e.ev.r
  w : s.writer.isSome = e.ev.w
  rev : (e.rev.r = true → e.ev.r = true) ∧ (e.rev.w = true → e.ev.w = true)
  ev0 : e.ev.e = false ∧ e.ev.h = false

/-- invariants 2–5 for one socket and its pollfd (`none`: it has none) -/
def Content (s : Sock) (oe : Option PollFd) : Prop :=
  (oe.isSome = true ↔ (s.reader.isSome = true ∨ s.writer.isSome = true)) ∧ ∀ e, oe = some e → Linked s e

theorem Content.none {s : Sock} (h : ¬ (s.reader.isSome = true ∨ s.writer.isSome = true)) : Content s none :=
  ⟨⟨fun hq => (nomatch hq), fun hq => absurd hq h⟩, fun _ he => (nomatch he)⟩

/-- `S[]` and `fds[]` point at each other -/
abbrev NPtr (n : Net) : Prop := Paired.Ptr Sock.pollpos PollFd.fd (fun i => n.S[i]?) (fun j => n.fds[j]?)

/-- the pollfd of descriptor `fd` -/
def entry (n : Net) (fd : Nat) : Option PollFd :=
  Paired.entry Sock.pollpos (fun i => n.S[i]?) (fun j => n.fds[j]?) fd

section
variable {n n' : Net} {fd pp i j p : Nat} {s s' : Sock} {e e' : PollFd}

theorem entry_eq (hs : n.S[fd]? = some s) (hp : s.pollpos = some p) : entry n fd = n.fds[p]? :=
  Paired.entry_eq hs hp

theorem entry_none (hs : n.S[fd]? = some s) (hp : s.pollpos = none) : entry n fd = none :=
  Paired.entry_none hs hp

theorem entry_absent (hs : n.S[fd]? = none) : entry n fd = none := by
  rw [entry, Paired.entry, hs]; rfl

theorem of_entry (he : entry n fd = some e) : ∃ s p, n.S[fd]? = some s ∧ s.pollpos = some p ∧ n.fds[p]? = some e :=
  Paired.of_entry he

/-- where the pollfd of a descriptor is read is decided by `S[]` alone -/
theorem entry_cases (n : Net) (i : Nat) :
    (∀ n' : Net, n'.S = n.S → entry n' i = none) ∨ ∃ p : Nat, ∀ n' : Net, n'.S = n.S → entry n' i = n'.fds[p]? := by
  cases h : (n.S[i]?).bind Sock.pollpos with
  | none => exact .inl fun n' hS => by rw [entry, Paired.entry, hS, h]; rfl
  | some p => exact .inr ⟨p, fun n' hS => by rw [entry, Paired.entry, hS, h]; rfl⟩

theorem inv0_iff : Inv0 n ↔ NPtr n ∧ ∀ i s, n.S[i]? = some s → Content s (entry n i) := by
  constructor
  · intro h
    refine ⟨⟨h.i1a, h.i1b⟩, fun i s hs => ?_⟩
    cases hp : s.pollpos with
    | none =>
      rw [entry_none hs hp]
      exact Content.none fun hq => by have := h.i2 i s hs hq; rw [hp] at this; cases this
    | some p =>
      obtain ⟨e, he, rfl⟩ := h.i1a i s p hs hp
      rw [entry_eq hs hp, he]
      refine ⟨⟨fun _ => ?_, fun _ => rfl⟩, fun e' he' => ?_⟩
      · cases hr : s.reader with
        | some _ => exact Or.inl rfl
        | none =>
          cases hw : s.writer with
          | some _ => exact Or.inr rfl
          | none => rw [h.i3 _ s hs hr hw] at hp; cases hp
      · cases he'
        exact ⟨(h.i4 p e s he hs).1, (h.i4 p e s he hs).2, h.i5 p e he, h.ev0 p e he⟩
  · rintro ⟨hP, hC⟩
    have key : ∀ (j : Nat) (e : PollFd), n.fds[j]? = some e → ∃ s, n.S[e.fd]? = some s ∧ Linked s e := by
      intro j e he
      obtain ⟨s, hs, hp⟩ := hP.back j e he
      exact ⟨s, hs, (hC _ s hs).2 e (by rw [entry_eq hs hp]; exact he)⟩
    refine ⟨hP.fwd, hP.back, fun i s hs hq => ?_, fun i s hs hr hw => ?_, fun j e s he hs => ?_, fun j e he => ?_,
      fun j e he => ?_⟩
    · cases hp : s.pollpos with
      | some _ => rfl
      | none => have := (hC i s hs).1.mpr hq; rw [entry_none hs hp] at this; cases this
    · cases hp : s.pollpos with
      | none => rfl
      | some p =>
        obtain ⟨e, he, _⟩ := hP.fwd i s p hs hp
        have := (hC i s hs).1.mp (by rw [entry_eq hs hp, he]; rfl)
        rw [hr, hw] at this
        simp at this
    · obtain ⟨s1, hs1, hl⟩ := key j e he
      rw [hs] at hs1; cases hs1
      exact ⟨hl.r, hl.w⟩
    · obtain ⟨_, _, hl⟩ := key j e he
      exact hl.rev
    · obtain ⟨_, _, hl⟩ := key j e he
      exact hl.ev0

theorem Inv0.entry_of_get (h : Inv0 n) (he : n.fds[j]? = some e) : entry n e.fd = some e :=
  (inv0_iff.mp h).1.entry_of_get (j := j) he

theorem Inv0.get_of_entry (h : Inv0 n) (he : entry n fd = some e) : e.fd = fd ∧ ∃ j : Nat, n.fds[j]? = some e :=
  ⟨(inv0_iff.mp h).1.key_of_entry he, by
    obtain ⟨_, p, _, _, hb⟩ := of_entry he
    exact ⟨p, hb⟩⟩

theorem Inv0.linked (h : Inv0 n) (hs : n.S[i]? = some s) (hp : s.pollpos = some p) :
    ∃ e, n.fds[p]? = some e ∧ e.fd = i ∧ Linked s e := by
  obtain ⟨e, he, hfd⟩ := h.i1a i s p hs hp
  exact ⟨e, he, hfd, ((inv0_iff.mp h).2 i s hs).2 e (by rw [entry_eq hs hp]; exact he)⟩

/-- the pollfd of socket `i` is at `S[i].pollpos` and nowhere else -/
theorem Inv0.unique (h : Inv0 n) (hs : n.S[i]? = some s) (hp : s.pollpos = some p) (he : n.fds[j]? = some e)
    (hfd : e.fd = i) : j = p :=
  (inv0_iff.mp h).1.unique hs hp he hfd

theorem Inv0.scan (h : Inv0 n) (sc : Option Nat) : Inv0 { n with scan := sc } :=
  ⟨h.i1a, h.i1b, h.i2, h.i3, h.i4, h.i5, h.ev0⟩

theorem Inv0.content (h : Inv0 n) (he : entry n fd = some e) : ∃ s, n.S[fd]? = some s ∧ Linked s e := by
  obtain ⟨s, _, hs, _, _⟩ := of_entry he
  exact ⟨s, hs, ((inv0_iff.mp h).2 fd s hs).2 e he⟩

/-- invariant 4 through the maps: the registered directions are the ones polled for -/
theorem Inv0.slot_ev (h : Inv0 n) (he : entry n fd = some e) (d : Dir) : (slot n fd d).isSome = e.ev.dir d := by
  obtain ⟨s, hs, hl⟩ := h.content he
  simp only [slot, hs, Option.bind_some]
  cases d
  · exact hl.r
  · exact hl.w

/-- invariant 5 through the maps -/
theorem Inv0.rev_ev (h : Inv0 n) (he : entry n fd = some e) (d : Dir) (hr : e.rev.dir d = true) : e.ev.dir d = true := by
  obtain ⟨_, _, hl⟩ := h.content he
  cases d
  · exact hl.rev.1 hr
  · exact hl.rev.2 hr

/-- the pollfds change in `revents` only (`g`: what becomes of the entry at a position) -/
theorem Inv0.of_entries (h : Inv0 n) (hS : n'.S = n.S)
    (hF : ∀ j : Nat, ∃ g : PollFd → PollFd, n'.fds[j]? = (n.fds[j]?).map g ∧ ∀ e, (g e).fd = e.fd ∧ (g e).ev = e.ev ∧
      ((e.rev.r = true → e.ev.r = true) ∧ (e.rev.w = true → e.ev.w = true) →
        ((g e).rev.r = true → e.ev.r = true) ∧ ((g e).rev.w = true → e.ev.w = true))) : Inv0 n' := by
  obtain ⟨hP, hC⟩ := inv0_iff.mp h
  refine inv0_iff.mpr ⟨⟨fun i s p hs hp => ?_, fun j e' he' => ?_⟩, fun i s hs => ?_⟩
  · rw [hS] at hs
    obtain ⟨e, he, hfd⟩ := hP.fwd i s p hs hp
    obtain ⟨g, hg, hge⟩ := hF p
    exact ⟨g e, by rw [hg, he]; rfl, (hge e).1.trans hfd⟩
  · obtain ⟨g, hg, hge⟩ := hF j
    rw [hg] at he'
    obtain ⟨e, he, rfl⟩ := Option.map_eq_some_iff.mp he'
    rw [hS, (hge e).1]
    exact hP.back j e he
  · have hs' := hs
    rw [hS] at hs
    have hc := hC i s hs
    cases hp : s.pollpos with
    | none => rw [entry_none hs' hp]; rw [entry_none hs hp] at hc; exact hc
    | some p =>
      obtain ⟨g, hg, hge⟩ := hF p
      rw [entry_eq hs' hp, hg]
      rw [entry_eq hs hp] at hc
      cases he : n.fds[p]? with
      | none => rw [he] at hc; exact hc
      | some e =>
        rw [he] at hc
        have hl := hc.2 e rfl
        obtain ⟨_, hev, h5⟩ := hge e
        exact ⟨hc.1, fun e1 he1 => by cases he1; exact ⟨hev ▸ hl.r, hev ▸ hl.w, hev ▸ h5 hl.rev, hev ▸ hl.ev0⟩⟩

/-- `S[fd]` and its pollfd are replaced together.  The pollfd is where the socket pointed, or at the
    end of `fds` if it pointed nowhere (`growpollfd`); nothing else in `fds` changes. -/
theorem Inv0.put (h : Inv0 n) {F : Array PollFd} (hs : n.S[fd]? = some s)
    (hpos : s.pollpos.getD n.fds.size = p) (hp' : s'.pollpos = some p) (hfd : e'.fd = fd) (hc : Content s' (some e'))
    (hFp : F[p]? = some e') (hF : ∀ j, j ≠ p → F[j]? = n.fds[j]?) :
    Inv0 { n with S := n.S.setIfInBounds fd s', fds := F } ∧
      ∀ i, entry { n with S := n.S.setIfInBounds fd s', fds := F } i = if i = fd then some e' else entry n i := by
  obtain ⟨hP, hC⟩ := inv0_iff.mp h
  obtain ⟨hP', hE⟩ := hP.put (A' := fun i => (n.S.setIfInBounds fd s')[i]?) (B' := fun j => F[j]?) hs
    (fun q hq => by rw [hq] at hpos; exact hpos)
    (fun hq => by rw [hq] at hpos; exact Array.getElem?_eq_none_iff.mpr (by rw [← hpos]; exact Nat.le_refl _))
    hp' hfd (get_set (lt_of_get hs) s') hFp hF
  refine ⟨inv0_iff.mpr ⟨hP', fun i t ht => ?_⟩, hE⟩
  rw [entry, hE]
  rcases of_set_some ht with ⟨rfl, rfl⟩ | ⟨hne, ht⟩
  · rw [if_pos rfl]; exact hc
  · rw [if_neg hne]; exact hC i t ht

/-- `n'` is `n` after the compaction in `clearbit` (`memcpy(&fds[pollpos], &fds[nfds - 1], ...); nfds--`)
    has deleted the pollfd at `pp`, which belonged to socket `fd`: the last pollfd has taken its
    place and its socket points there, and `S[fd]` has become `s'` -/
structure Removed (n n' : Net) (fd pp : Nat) (s' : Sock) (last : PollFd) : Prop where
  scan : n'.scan = n.scan
  lastAt : n.fds[n.fds.size - 1]? = some last
  S : ∀ i, n'.S[i]? = if i = fd then some s' else
    if i = last.fd then (n.S[i]?).map ({ · with pollpos := some pp }) else n.S[i]?
  fds : ∀ j, n'.fds[j]? = if j < n.fds.size - 1 then (if j = pp then some last else n.fds[j]?) else none

variable {last : PollFd}

/-- every pollfd of `n'` is one of `n`, from the same or a higher position -/
theorem Removed.of_get (hr : Removed n n' fd pp s' last) (hj : n'.fds[j]? = some e) :
    ∃ j0, j ≤ j0 ∧ n.fds[j0]? = some e := by
  rw [hr.fds] at hj
  split at hj
  · split at hj
    · cases hj; exact ⟨_, by omega, hr.lastAt⟩
    · exact ⟨j, Nat.le_refl _, hj⟩
  · cases hj

theorem Removed.slot (hr : Removed n n' fd pp s' last) (i : Nat) (d : Dir) :
    slot n' i d = if i = fd then s'.get d else slot n i d := by
  unfold EventsNet.slot
  rw [hr.S]
  split
  · rfl
  · split
    · cases n.S[i]? with
      | none => rfl
      | some t => cases d <;> rfl
    · rfl

theorem Removed.erase (hr : Removed n n' fd pp s' last) (h : Inv0 n) (hs : n.S[fd]? = some s) (hp : s.pollpos = some pp)
    (hp' : s'.pollpos = none) (hc : Content s' none) :
    Inv0 n' ∧ ∀ i, entry n' i = if i = fd then none else entry n i := by
  obtain ⟨hP, hC⟩ := inv0_iff.mp h
  obtain ⟨hP', hE⟩ := hP.erase (A' := fun i => n'.S[i]?) (B' := fun j => n'.fds[j]?) (m := n.fds.size)
    (mv := ({ · with pollpos := some pp })) hs hp (fun j b hj => lt_of_get hj) hr.lastAt hp' (fun _ => rfl) hr.S hr.fds
  refine ⟨inv0_iff.mpr ⟨hP', fun i t ht => ?_⟩, hE⟩
  rw [entry, hE]
  rw [hr.S] at ht
  split at ht
  · next hi => cases ht; rw [if_pos hi]; exact hc
  · next hi =>
    rw [if_neg hi]
    split at ht
    · obtain ⟨t0, ht0, rfl⟩ := Option.map_eq_some_iff.mp ht
      obtain ⟨h1, h2⟩ := hC i t0 ht0
      exact ⟨h1, fun e he => ⟨(h2 e he).r, (h2 e he).w, (h2 e he).rev, (h2 e he).ev0⟩⟩
    · exact hC i t ht

end

/-- the entry left at `pp` when the bit is cleared but the other direction stays -/
def clearedEntry (e : PollFd) (d : Dir) : PollFd := { e with ev := setDir e.ev d false, rev := setDir e.rev d false }

/-- the pollfd left when direction `d` of entry `e` is dropped: none when no direction remains -/
def dropped (e : PollFd) (d : Dir) : Option PollFd :=
  if (clearedEntry e d).ev.r = false ∧ (clearedEntry e d).ev.w = false then none else some (clearedEntry e d)

/-- entry `e` polling for direction `d` as well -/
def armed (e : PollFd) (d : Dir) : PollFd := { e with ev := setDir e.ev d true }

theorem Linked.clear {s : Sock} {e : PollFd} (hl : Linked s e) (d : Dir) : Linked (s.set d none) (clearedEntry e d) := by
  obtain ⟨hr, hw, ⟨h5r, h5w⟩, h0⟩ := hl
  cases d
  · exact ⟨rfl, hw, ⟨fun hh => Bool.noConfusion hh, h5w⟩, h0⟩
  · exact ⟨hr, rfl, ⟨h5r, fun hh => Bool.noConfusion hh⟩, h0⟩

theorem Linked.set {s : Sock} {e : PollFd} (hl : Linked s e) (d : Dir) (id : Nat) :
    Linked (s.set d (some id)) (armed e d) := by
  obtain ⟨hr, hw, ⟨h5r, h5w⟩, h0⟩ := hl
  cases d
  · exact ⟨rfl, hw, ⟨fun _ => rfl, h5w⟩, h0⟩
  · exact ⟨hr, rfl, ⟨h5r, fun _ => rfl⟩, h0⟩

theorem Content.of_linked {s : Sock} {e : PollFd} (hl : Linked s e) {d : Dir} {id : Nat} (hget : s.get d = some id) :
    Content s (some e) := by
  refine ⟨⟨fun _ => ?_, fun _ => rfl⟩, fun e' he' => by cases he'; exact hl⟩
  cases d
  · exact Or.inl (by rw [show s.reader = some id from hget]; rfl)
  · exact Or.inr (by rw [show s.writer = some id from hget]; rfl)

theorem clearedEntry_any {e : PollFd} {d : Dir} (h : (clearedEntry e d).rev.any = true) : e.rev.any = true := by
  cases d <;> simp only [clearedEntry, setDir, Bits.any, Bool.or_eq_true] at h ⊢
  · exact h.imp (Or.imp (Or.imp (fun hh => nomatch hh) id) id) id
  · exact h.imp (Or.imp (Or.imp id (fun hh => nomatch hh)) id) id

theorem Sock.get_set (s : Sock) (d d' : Dir) (v : Option Nat) : (s.set d v).get d' = if d' = d then v else s.get d' := by
  cases d <;> cases d' <;> rfl

theorem slot_set {n n' : Net} {fd : Nat} {s s' : Sock} (hs : n.S[fd]? = some s) (d : Dir) (v : Option Nat)
    (hget : ∀ d', s'.get d' = (s.set d v).get d') (hS : n'.S = n.S.setIfInBounds fd s') (i : Nat) (d' : Dir) :
    slot n' i d' = if i = fd ∧ d' = d then v else slot n i d' := by
  unfold slot
  rw [hS, get_set (lt_of_get hs)]
  by_cases hi : i = fd
  · subst hi
    rw [if_pos rfl, hs, Option.bind_some, Option.bind_some, hget, Sock.get_set]
    by_cases hd : d' = d
    · rw [if_pos hd, if_pos ⟨rfl, hd⟩]
    · rw [if_neg hd, if_neg (fun hh => hd hh.2)]
  · rw [if_neg hi, if_neg (fun hh => hi hh.1)]

/-- invariant 6 survives when entries with `revents` only move down -/
theorem I6.mono {n n' : Net} (h : I6 n) (hsc : n'.scan = n.scan)
    (hpos : ∀ (j : Nat) (e' : PollFd), n'.fds[j]? = some e' → e'.rev.any = true →
      ∃ (j0 : Nat) (e : PollFd), j ≤ j0 ∧ n.fds[j0]? = some e ∧ e.rev.any = true) : I6 n' := by
  intro j e' hj hany
  obtain ⟨j0, e, hle, he, hany0⟩ := hpos j e' hj hany
  obtain ⟨p, hp, hjp⟩ := h j0 e he hany0
  exact ⟨p, hsc.trans hp, Nat.le_trans hle hjp⟩

/-- `n'` is `n` without the registration in `slot n fd d`, `e` being the pollfd of `fd`: that slot is emptied,
    and the direction dropped from the pollfd -/
structure Drops (n n' : Net) (fd : Nat) (d : Dir) (e : PollFd) : Prop where
  slot : ∀ i d', slot n' i d' = if i = fd ∧ d' = d then none else slot n i d'
  entry : ∀ i, entry n' i = if i = fd then dropped e d else entry n i

section
variable (n : Net) (fd : Nat) (s : Sock) (pp : Nat) (d : Dir)

/-- the two outcomes of `dropDir`: the pollfd is deleted, or stays with the bit cleared -/
theorem dropDir_cases (h : Inv0 n) (hs : n.S[fd]? = some s) (hpp : s.pollpos = some pp) :
    ∃ e, n.fds[pp]? = some e ∧ e.fd = fd ∧ Linked s e ∧
      if (clearedEntry e d).ev.r = false ∧ (clearedEntry e d).ev.w = false then
        ∃ n' last, dropDir n fd s pp d = some n' ∧ Removed n n' fd pp { s.set d none with pollpos := none } last
      else dropDir n fd s pp d = some { n with
        S := n.S.setIfInBounds fd (s.set d none), fds := n.fds.setIfInBounds pp (clearedEntry e d) } := by
  obtain ⟨e, he, rfl, hl⟩ := h.linked hs hpp
  refine ⟨e, he, rfl, hl, ?_⟩
  have hfdlt := lt_of_get hs
  have hpplt := lt_of_get he
  obtain ⟨last, hlast⟩ : ∃ l, n.fds[n.fds.size - 1]? = some l :=
    ⟨n.fds[n.fds.size - 1]'(by omega), Array.getElem?_eq_getElem _⟩
  obtain ⟨sl, hsl, hslpp⟩ := h.i1b _ _ hlast
  have hS1 : (n.S.setIfInBounds e.fd (s.set d none))[e.fd]? = some (s.set d none) :=
    Array.getElem?_setIfInBounds_self_of_lt hfdlt
  unfold dropDir clearbit
  simp only [he]
  split
  · next hz =>
    have hz' := hz
    simp only [clearedEntry] at hz'
    simp only [hz', and_self, if_true, setPollpos_eq none hS1, Array.setIfInBounds_setIfInBounds]
    by_cases hne : pp = n.fds.size - 1
    · subst hne
      rw [he] at hlast; cases hlast
      simp only [ne_eq, not_true_eq_false, if_false]
      refine ⟨_, e, rfl, rfl, he, fun i => ?_, fun j => ?_⟩
      · rw [show ({ n with S := n.S.setIfInBounds e.fd _, fds := n.fds.pop } : Net).S[i]? = _ from get_set hfdlt _ i]
        split
        · rfl
        · rfl
      · show n.fds.pop[j]? = _
        rw [Array.getElem?_pop]
        split
        · next hlt => rw [if_neg (Nat.ne_of_lt hlt)]
        · rfl
    · have hlf : last.fd ≠ e.fd := fun hc => hne (h.unique hs hpp hlast hc).symm
      have hb : n.fds.back? = some last := by simp [Array.back?, hlast]
      have hS2 : (n.S.setIfInBounds e.fd { s.set d none with pollpos := none })[last.fd]? = some sl := by
        rw [get_set hfdlt, if_neg hlf]; exact hsl
      simp only [ne_eq, hne, not_false_eq_true, if_true, hb, setPollpos_eq (some pp) hS2]
      refine ⟨_, last, rfl, rfl, hlast, fun i => ?_, fun j => ?_⟩
      · show ((n.S.setIfInBounds e.fd _).setIfInBounds last.fd _)[i]? = _
        rw [get_set (by rw [Array.size_setIfInBounds]; exact lt_of_get hsl), get_set hfdlt]
        by_cases hi : i = e.fd
        · rw [if_neg (fun hh => hlf (hh.symm.trans hi)), if_pos hi, if_pos hi]
        · rw [if_neg hi, if_neg hi]
          split
          · next hil => rw [hil, hsl]; rfl
          · rfl
      · show ((n.fds.setIfInBounds pp last).pop)[j]? = _
        rw [Array.getElem?_pop, Array.size_setIfInBounds, get_set hpplt]
  · next hz =>
    have hz' := hz
    simp only [clearedEntry] at hz'
    simp only [hz', if_false]
    rfl

/-- what `events_network_cancel` does, and `events_network_get` for the event it returns -/
theorem dropDir_upd (h : Inv n) (hs : n.S[fd]? = some s) (hpp : s.pollpos = some pp) :
    ∃ e n', entry n fd = some e ∧ dropDir n fd s pp d = some n' ∧ Inv n' ∧ n'.scan = n.scan ∧ Drops n n' fd d e := by
  obtain ⟨e, he, hefd, hl, hc⟩ := dropDir_cases n fd s pp d h.inv0 hs hpp
  have hl' := hl.clear d
  have hent : entry n fd = some e := by rw [entry_eq hs hpp]; exact he
  split at hc
  · next hz =>
    obtain ⟨n', last, heq, hr⟩ := hc
    obtain ⟨h', hE⟩ := hr.erase h.inv0 hs hpp rfl
      (Content.none fun hq => by rw [hl'.r, hl'.w, hz.1, hz.2] at hq; exact hq.elim (nomatch ·) (nomatch ·))
    refine ⟨e, n', hent, heq, ⟨h', h.i6.mono hr.scan fun j e' hj hany => ?_⟩, hr.scan, fun i d' => ?_,
      by simpa only [dropped, hz, and_self, if_true] using hE⟩
    · obtain ⟨j0, hle, hj0⟩ := hr.of_get hj
      exact ⟨j0, e', hle, hj0, hany⟩
    · rw [hr.slot, ← slot_set (n' := { n with S := n.S.setIfInBounds fd (s.set d none) }) hs d none (fun _ => rfl) rfl]
      split
      · next hi => simp only [slot, hi, show (n.S.setIfInBounds fd (s.set d none))[fd]? = _ from
          Array.getElem?_setIfInBounds_self_of_lt (lt_of_get hs), Option.bind_some]; cases d' <;> rfl
      · next hi => simp only [slot, show (n.S.setIfInBounds fd (s.set d none))[i]? = _ from
          Array.getElem?_setIfInBounds_ne (Ne.symm hi)]
  · next hz =>
    have hp' : (s.set d none).pollpos = some pp := by cases d <;> exact hpp
    obtain ⟨h', hE⟩ := h.inv0.put hs (by rw [hpp]; rfl) hp' (e' := clearedEntry e d) hefd
      ⟨by rw [hl'.r, hl'.w]; revert hz; cases (clearedEntry e d).ev.r <;> cases (clearedEntry e d).ev.w <;> simp,
        fun e1 he1 => by cases he1; exact hl'⟩
      (Array.getElem?_setIfInBounds_self_of_lt (lt_of_get he)) (fun j hj => Array.getElem?_setIfInBounds_ne (Ne.symm hj))
    refine ⟨e, _, hent, hc, ⟨h', h.i6.mono rfl fun j e' hj hany => ?_⟩, rfl, slot_set hs d none (fun _ => rfl) rfl,
      by simpa only [dropped, hz, if_false] using hE⟩
    rcases of_set_some hj with ⟨rfl, rfl⟩ | ⟨_, hj⟩
    · exact ⟨j, e, Nat.le_refl _, he, clearedEntry_any hany⟩
    · exact ⟨j, e', Nat.le_refl _, hj, hany⟩

end

end Percival.Proofs.EventsNet
