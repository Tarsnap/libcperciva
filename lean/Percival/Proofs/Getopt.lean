import Percival.Model.Getopt
/-! Helper lemmas for C18: reads and strings, `searchopt` against the Spec's lookups, the registration pass, the
invariant of an initialised parser. -/
namespace Percival.Proofs.Getopt
open Percival.Spec.Getopt Percival.Model.Getopt

theorem rd_nil_zero : rd [] 0 = pure 0 := by simp [rd]
theorem rd_cons_zero (c : UInt8) (cs : Str) : rd (c :: cs) 0 = pure c := by simp [rd]
theorem rd_cons_succ (c : UInt8) (cs : Str) (i : Nat) : rd (c :: cs) (i + 1) = rd cs i := by
  unfold rd
  by_cases h : i < cs.length
  · simp [h]
  · simp [h]

theorem rd_append_length (p : Str) (t : Str) : rd (p ++ t) p.length = rd t 0 := by
  induction p with
  | nil => simp
  | cons c p ih => simpa [rd_cons_succ] using ih

theorem rd_append_length_succ (p : Str) (t : Str) : rd (p ++ t) (p.length + 1) = rd t 1 := by
  induction p with
  | nil => simp
  | cons c p ih => simpa [rd_cons_succ] using ih

theorem rd_ok {s : Str} {i : Nat} (h : i ≤ s.length) : ∃ c, rd s i = pure c := by
  unfold rd
  by_cases h1 : i < s.length
  · exact ⟨s[i], by simp [h1]⟩
  · exact ⟨0, by simp [h1]; omega⟩

theorem nulFree_nil : NulFree [] := by simp [NulFree]
theorem nulFree_cons {c : UInt8} {cs : Str} : NulFree (c :: cs) ↔ c ≠ 0 ∧ NulFree cs := by
  simp [NulFree]
theorem nulFree_drop {a : Str} (n : Nat) (h : NulFree a) : NulFree (a.drop n) :=
  fun b hb => h b (List.mem_of_mem_drop hb)

theorem cstr_of_nulFree {s : Str} (h : NulFree s) : cstr s = s := by
  have := List.takeWhile_append_of_pos (p := (· != 0)) (l₂ := []) fun c hc => bne_iff_ne.mpr (h c hc)
  simpa [cstr] using this

theorem dash_ne_zero : dash ≠ 0 := by decide
theorem eqc_ne_zero : eqc ≠ 0 := by decide
theorem eqc_ne_dash : eqc ≠ dash := by decide

theorem nulFree_short {c : UInt8} (hc : c ≠ 0) : NulFree [dash, c] :=
  nulFree_cons.mpr ⟨dash_ne_zero, nulFree_cons.mpr ⟨hc, nulFree_nil⟩⟩

theorem strncmpEq_shift (x y : UInt8) (a b : Str) (n k : Nat) :
    strncmpEq (x :: a) (y :: b) n (k + 1) = strncmpEq a b n k := by
  induction n generalizing k with
  | zero => simp [strncmpEq]
  | succ n ih => simp [strncmpEq, rd_cons_succ, ih]

theorem strncmpEq_prefix (a b : Str) (ha : NulFree a) :
    strncmpEq a b a.length 0 = pure (a.isPrefixOf b) := by
  induction a generalizing b with
  | nil => simp [strncmpEq]
  | cons x a ih =>
    have hx := (nulFree_cons.mp ha).1
    have ha' := (nulFree_cons.mp ha).2
    cases b with
    | nil => simp [strncmpEq, rd_cons_zero, rd_nil_zero, hx]
    | cons y b =>
      by_cases hxy : x = y
      · subst hxy
        simp [strncmpEq, rd_cons_zero, hx, strncmpEq_shift, ih b ha']
      · have hb : (x == y) = false := by simp [hxy]
        simp [strncmpEq, rd_cons_zero, hxy, List.isPrefixOf, hb]

/-- `Spec.matchOpt` as `searchopt` computes it: the name is a prefix of the word, and what follows it is nothing (the
    option itself), `=` and a value, or something else (no match) -/
theorem matchOpt_eq (o : Opt) (w : Str) :
    matchOpt o w =
      if o.name.isPrefixOf w then
        match w.drop o.name.length with
        | [] => some none
        | c :: t => if c = eqc then some (some t) else none
      else none := by
  unfold matchOpt
  by_cases hp : o.name.isPrefixOf w = true
  · obtain ⟨t, rfl⟩ := List.isPrefixOf_iff_prefix.mp hp
    rw [if_pos hp, List.drop_left]
    cases t with
    | nil => simp
    | cons c t =>
      have hne : o.name ++ c :: t ≠ o.name := fun e => by simpa using congrArg List.length e
      have hpre : (o.name ++ [eqc]).isPrefixOf (o.name ++ c :: t) = decide (c = eqc) := by
        rw [Bool.eq_iff_iff, List.isPrefixOf_iff_prefix, List.prefix_append_right_inj]
        simp [eq_comm]
      by_cases hc : c = eqc <;> simp [hne, hpre, hc]
  · have h1 : w ≠ o.name := fun e => hp (e ▸ List.isPrefixOf_iff_prefix.mpr (List.prefix_refl _))
    have h2 : ¬ (o.name ++ [eqc]).isPrefixOf w = true := fun h =>
      hp (List.isPrefixOf_iff_prefix.mpr ((List.prefix_append _ _).trans (List.isPrefixOf_iff_prefix.mp h)))
    rw [if_neg h1, if_neg h2, if_neg hp]

theorem rd_drop {s : Str} {i : Nat} (h : i ≤ s.length) : rd s i = pure ((s.drop i).headD 0) := by
  unfold rd
  by_cases h1 : i < s.length
  · rw [dif_pos h1, List.drop_eq_getElem_cons h1]
    rfl
  · obtain rfl : i = s.length := by omega
    simp

def slotOf : Line → Option Slot
  | .opt n h => some ⟨n, n.length, h⟩
  | _ => none

def NamesOK (lines : List Line) : Prop :=
  ∀ n h, Line.opt n h ∈ lines → ValidName n ∧ NulFree n

theorem namesOK_cons {l : Line} {lines : List Line} (h : NamesOK (l :: lines)) : NamesOK lines :=
  fun n hh hm => h n hh (List.mem_cons_of_mem _ hm)

theorem searchSlots_replicate (os : Str) (d k i : Nat) :
    searchSlots os d (List.replicate k none) i = pure d := by
  induction k generalizing i with
  | zero => simp [searchSlots]
  | succ k ih => simp [List.replicate_succ, searchSlots, ih]

theorem tableOf_nil : (tableOf []).opts = [] := rfl
theorem tableOf_cons_opt (n : Str) (h : Bool) (rest : List Line) :
    (tableOf (.opt n h :: rest)).opts = ⟨n, h⟩ :: (tableOf rest).opts := by
  simp [tableOf]
theorem tableOf_cons_blank (rest : List Line) : (tableOf (.blank :: rest)).opts = (tableOf rest).opts := by
  simp [tableOf]
theorem tableOf_cons_missing (rest : List Line) : (tableOf (.missing :: rest)).opts = (tableOf rest).opts := by
  simp [tableOf]

/-- `r`, the result of a search for `os` started at slot `i` of the switch, is what `Spec.lookupLong` finds: the
    default `d`, or the line of the option found -/
def Found (lines : List Line) (os : Str) (d i r : Nat) : Prop :=
  match lookupLong (tableOf lines).opts os with
  | none => r = d
  | some (o, v) => ∃ j, r = i + j ∧ lines[j]? = some (.opt o.name o.hasArg) ∧ matchOpt ⟨o.name, o.hasArg⟩ os = some v

theorem searchSlots_spec (lines : List Line) (hn : NamesOK lines) (os : Str) (hos : NulFree os) (d k i : Nat) :
    ∃ r, searchSlots os d (lines.map slotOf ++ List.replicate k none) i = pure r ∧ Found lines os d i r := by
  induction lines generalizing i with
  | nil => exact ⟨d, by simp [searchSlots_replicate], rfl⟩
  | cons l rest ih =>
    obtain ⟨r, hr, hf⟩ := ih (namesOK_cons hn) (i + 1)
    -- a line that does not match: the answer is that of the rest, one further on
    have skip : lookupLong (tableOf (l :: rest)).opts os = lookupLong (tableOf rest).opts os →
        Found (l :: rest) os d i r := by
      intro hl
      unfold Found at hf ⊢
      rw [hl]
      cases hlr : lookupLong (tableOf rest).opts os with
      | none => rw [hlr] at hf; exact hf
      | some ov =>
        rw [hlr] at hf
        obtain ⟨j, rfl, h1, h2⟩ := hf
        exact ⟨j + 1, by omega, by simpa using h1, h2⟩
    cases l with
    | opt n h =>
      have hnf : NulFree n := (hn n h (by simp)).2
      simp only [List.map_cons, slotOf, List.cons_append, searchSlots, strncmpEq_prefix n os hnf, pure_bind]
      have hit : ∀ v, matchOpt ⟨n, h⟩ os = some v → Found (.opt n h :: rest) os d i i := fun v hm => by
        have hl : lookupLong (tableOf (.opt n h :: rest)).opts os = some (⟨n, h⟩, v) := by
          rw [tableOf_cons_opt, lookupLong, hm]
        rw [Found, hl]
        exact ⟨0, rfl, rfl, hm⟩
      have miss : matchOpt ⟨n, h⟩ os = none → Found (.opt n h :: rest) os d i r := fun hm =>
        skip (by simp only [tableOf_cons_opt, lookupLong, hm])
      have hm := matchOpt_eq ⟨n, h⟩ os
      cases hp : n.isPrefixOf os with
      | false => exact ⟨r, by simpa using hr, miss (by simpa [hp] using hm)⟩
      | true =>
        -- the byte after the matched prefix decides
        rw [rd_drop (List.isPrefixOf_iff_prefix.mp hp).length_le]
        cases hd : os.drop n.length with
        | nil => exact ⟨i, by simp, hit _ (by simpa [hp, hd] using hm)⟩
        | cons c t =>
          have hc0 : c ≠ 0 := hos c (List.mem_of_mem_drop (hd ▸ List.mem_cons_self ..))
          by_cases hce : c = eqc
          · exact ⟨i, by simp [hce], hit _ (by simpa [hp, hd, hce] using hm)⟩
          · exact ⟨r, by simpa [hc0, hce] using hr, miss (by simpa [hp, hd, hce] using hm)⟩
    | blank => exact ⟨r, hr, skip (by rw [tableOf_cons_blank])⟩
    | missing => exact ⟨r, hr, skip (by rw [tableOf_cons_missing])⟩

/-! ## single-character options: `Spec.lookupShort` through `Spec.lookupLong` -/

theorem validName_length {n : Str} (h : ValidName n) : 2 ≤ n.length := by
  rcases h with ⟨c, rfl, _⟩ | ⟨c, cs, rfl⟩ <;> simp

theorem matchOpt_short (o : Opt) (hv : ValidName o.name) (c : UInt8) :
    matchOpt o [dash, c] = if o.name = [dash, c] then some none else none := by
  rw [matchOpt_eq]
  by_cases h : o.name = [dash, c]
  · simp [h]
  · have : ¬ o.name.isPrefixOf [dash, c] = true := fun hp =>
      h ((List.isPrefixOf_iff_prefix.mp hp).eq_of_length_le (by simpa using validName_length hv))
    rw [if_neg this, if_neg h]

theorem lookupLong_short (opts : List Opt) (hv : ∀ o ∈ opts, ValidName o.name) (c : UInt8) :
    lookupLong opts [dash, c] = (lookupShort opts c).map (fun o => (o, none)) := by
  induction opts with
  | nil => simp [lookupLong, lookupShort]
  | cons o rest ih =>
    have ih' := ih (fun o ho => hv o (List.mem_cons_of_mem _ ho))
    simp only [lookupLong, matchOpt_short o (hv o (by simp)) c]
    by_cases h : o.name = [dash, c]
    · simp [h, lookupShort]
    · simp only [h, if_false, ih']
      simp [lookupShort, h]

/-! ## registration: the dummy pass through the switch -/

/-- slot of the last `GETOPT_MISSING_ARG` line (`cur` if there is none) -/
def lastMissing : List Line → Nat → Nat → Nat
  | [], _, cur => cur
  | .missing :: rest, ln, _ => lastMissing rest (ln + 1) ln
  | .blank :: rest, ln, cur => lastMissing rest (ln + 1) cur
  | .opt _ _ :: rest, ln, cur => lastMissing rest (ln + 1) cur

theorem validName_ok {n : Str} (hv : ValidName n) (hn : NulFree n) : validName n = pure true := by
  rcases hv with ⟨c, rfl, hc⟩ | ⟨c, cs, rfl⟩
  · have hc0 : c ≠ 0 := hn c (by simp)
    simp [validName, rd_cons_zero, rd_cons_succ, rd_nil_zero, hc, hc0]
  · have hc0 : c ≠ 0 := hn c (by simp)
    simp [validName, rd_cons_zero, rd_cons_succ, hc0, dash_ne_zero]

theorem set_append_length {α : Type} (a : List α) (x y : α) (b : List α) :
    (a ++ x :: b).set a.length y = a ++ y :: b := by
  induction a with
  | nil => simp
  | cons c a ih => simp [ih]

theorem tableOf_append (a b : List Line) : (tableOf (a ++ b)).opts = (tableOf a).opts ++ (tableOf b).opts := by
  simp [tableOf]

theorem mem_tableOf {lines : List Line} {n : Str} {h : Bool} :
    (⟨n, h⟩ : Opt) ∈ (tableOf lines).opts ↔ Line.opt n h ∈ lines := by
  simp only [tableOf, List.mem_filterMap]
  constructor
  · rintro ⟨l, hl, he⟩
    cases l <;> simp at he
    obtain ⟨rfl, rfl⟩ := he
    exact hl
  · intro hm
    exact ⟨_, hm, rfl⟩

theorem lookupLong_none {opts : List Opt} {w : Str} (h : ∀ o ∈ opts, matchOpt o w = none) :
    lookupLong opts w = none := by
  induction opts with
  | nil => rfl
  | cons o rest ih =>
    simp [lookupLong, h o (by simp), ih (fun o ho => h o (List.mem_cons_of_mem _ ho))]

/-- `Spec.Table.WF` in the form the registration pass uses it -/
theorem wf_split {done rest : List Line} {n : Str} {h : Bool}
    (hwf : (tableOf (done ++ .opt n h :: rest)).WF) : lookupLong (tableOf done).opts n = none := by
  have hpw := hwf.2
  rw [tableOf_append, tableOf_cons_opt, List.pairwise_append] at hpw
  exact lookupLong_none fun o ho => hpw.2.2 o ho ⟨n, h⟩ (by simp)

theorem namesOK_of_wf {lines : List Line} (hwf : (tableOf lines).WF) : NamesOK lines :=
  fun n h hm => hwf.1 ⟨n, h⟩ (mem_tableOf.mpr hm)

theorem regLines_ok (rest : List Line) : ∀ (done : List Line) (s : St),
    s.optreset = false → s.initialized = false →
    s.opts = some (done.map slotOf ++ List.replicate rest.length none) →
    (tableOf (done ++ rest)).WF →
    regLines rest done.length s =
      pure { s with opts := some ((done ++ rest).map slotOf),
                    optMissing := lastMissing rest done.length s.optMissing } := by
  induction rest with
  | nil =>
    intro done s _ _ ho _
    cases s
    simp_all [regLines, lastMissing]
  | cons l rest ih =>
    intro done s hr hi ho hwf
    have hlen : (done ++ [l]).length = done.length + 1 := by simp
    have happ : done ++ l :: rest = (done ++ [l]) ++ rest := by simp
    cases l with
    | blank =>
      have := ih (done ++ [Line.blank]) s hr hi (by simp [ho, slotOf, List.replicate_succ]) (by rwa [← happ])
      rw [hlen] at this
      simp [regLines, this, lastMissing]
    | missing =>
      have := ih (done ++ [Line.missing]) { s with optMissing := done.length } hr hi
        (by simp [ho, slotOf, List.replicate_succ]) (by rwa [← happ])
      rw [hlen] at this
      simp [regLines, registerMissing, hr, hi, lastMissing]
      simpa [hr, hi] using this
    | opt n h =>
      have hnames := namesOK_of_wf hwf
      have hn := hnames n h (by simp)
      have hdone : NamesOK done := fun n h hm => hnames n h (by simp [hm])
      have hsearch : searchopt s n = pure s.optDefault := by
        obtain ⟨r, hr, hf⟩ := searchSlots_spec done hdone n hn.2 s.optDefault (rest.length + 1) 0
        rw [Found, wf_split hwf] at hf
        simp only [searchopt, ho, List.length_cons]
        rw [hr, show r = s.optDefault from hf]
      have hset : (done.map slotOf ++ List.replicate (rest.length + 1) none).set done.length
          (some ⟨n, (cstr n).length, h⟩) = (done ++ [Line.opt n h]).map slotOf ++ List.replicate rest.length none := by
        have := set_append_length (done.map slotOf) none (some ⟨n, (cstr n).length, h⟩) (List.replicate rest.length none)
        simp only [List.length_map] at this
        rw [List.replicate_succ, this]; simp [slotOf, cstr_of_nulFree hn.2]
      have := ih (done ++ [Line.opt n h])
        { s with opts := some ((done ++ [Line.opt n h]).map slotOf ++ List.replicate rest.length none) }
        hr hi rfl (by rwa [← happ])
      rw [hlen] at this
      simp only [List.length_cons] at ho
      simp [regLines, registerOpt, hr, hi, ho, validName_ok hn.1 hn.2, hsearch, hset, lastMissing]
      simpa [hr, hi] using this

structure Inv (lines : List Line) (s : St) : Prop where
  reset : s.optreset = false
  init : s.initialized = true
  opts : s.opts = some (lines.map slotOf)
  nopts : s.nopts = lines.length
  dflt : s.optDefault = lines.length + 1
  miss : s.optMissing = lastMissing lines 0 (lines.length + 1)

/-- the state in which the first real `getopt` call of a parse happens -/
def ready (lines : List Line) (argv : List Str) (s : St) : St :=
  { reset argv { s with optarg := none } with
    opts := some (lines.map slotOf), nopts := lines.length,
    optMissing := lastMissing lines 0 (lines.length + 1), optDefault := lines.length + 1,
    initialized := true }

theorem ready_inv (lines : List Line) (argv : List Str) (s : St) : Inv lines (ready lines argv s) :=
  ⟨rfl, rfl, rfl, rfl, rfl, rfl⟩

theorem ready_optind (lines : List Line) (argv : List Str) (s : St) : (ready lines argv s).optind = 1 := rfl
theorem ready_packed (lines : List Line) (argv : List Str) (s : St) : (ready lines argv s).packed = none := rfl

theorem getopt_reset (argv : List Str) (s : St) (h : s.optreset = true) :
    getopt argv s = pure (.dummy, reset argv { s with optarg := none }) := by
  simp [getopt, h, reset]

theorem initPass_ok (lines : List Line) (hwf : (tableOf lines).WF) (argv : List Str) (s : St) :
    initPass lines (reset argv { s with optarg := none }) = pure (ready lines argv s) := by
  have h := regLines_ok lines []
    { reset argv { s with optarg := none } with
      opts := some (List.replicate lines.length none), nopts := lines.length,
      optMissing := lines.length + 1, optDefault := lines.length + 1 }
    rfl rfl (by simp) (by simpa using hwf)
  simp only [List.length_nil] at h
  simp only [initPass, setrange, reset, Bool.false_eq_true, if_false, pure_bind]
  simp only [reset] at h
  rw [h]
  simp [ready, reset]

end Percival.Proofs.Getopt
