import Percival.Model.HashStep
import Percival.Proofs.Sha256Refines
import Percival.Proofs.Sha1Refines
import Percival.Proofs.Md5Refines
import Percival.Proofs.Pbkdf2Stream
import Percival.Proofs.CrcMain
/-! `Model.HashStep.stepOp` (what `pmodel hash` runs): the contexts it carries are the model's streaming
contexts over the bytes it records (`StOk` is preserved), hence every digest line has L1 = L2. -/
namespace Percival.Proofs.HashStep
open Percival.Spec Percival.Model Percival.Model.HashStep
open Percival.Proofs.MDStream Percival.Proofs.HmacStream

structure FamOK (f : Fam) where
  p : MD.Params
  ok : HashOK f.h p
  spec : ∀ m, f.spec m = MD.hash p m
  hmacSpec : ∀ k m, f.hmacSpec k m = Spec.Hmac.hmac (MD.hash p) k m

def famOK : (a : AlgId) → FamOK a.fam
  | .sha256 => ⟨Spec.Sha256.params, Sha256T.hashOK, fun _ => rfl, fun _ _ => rfl⟩
  | .sha1 => ⟨Spec.Sha1.params, Sha1T.hashOK, fun _ => rfl, fun _ _ => rfl⟩
  | .md5 => ⟨Spec.Md5.params, Md5T.hashOK, fun _ => rfl, fun _ _ => rfl⟩

variable {f : Fam} (fo : FamOK f)

def Agrees : Out → Prop
  | .digest l1 l2 => l2 = some l1
  | .crc l1 _ l2 => l2 = l1
  | _ => True

theorem streamed_inv (c : Hash.Ctx f.h.alg) (msg : Bytes) (h : Streamed f c msg) : Inv fo.ok.rf c msg := by
  obtain ⟨chunks, rfl, rfl⟩ := h
  have := foldl_inv fo.ok.rf (Hash.init f.h.alg) [] chunks (init_inv fo.ok.rf)
  rw [List.nil_append] at this
  exact this

theorem hstreamed_hinv (c : Hmac.Ctx f.h) (k msg : Bytes) (h : HStreamed f c k msg) : HInv fo.ok c k msg := by
  obtain ⟨c0, chunks, hc0, rfl, rfl⟩ := h
  obtain ⟨c1, hc1, hi⟩ := init_hinv fo.ok k
  rw [hc0] at hc1
  cases hc1
  have := foldl_hinv fo.ok c0 k [] chunks hi
  rw [List.nil_append] at this
  exact this

include fo in
theorem final_spec (c : Hash.Ctx f.h.alg) (msg : Bytes) (h : Streamed f c msg) : f.h.final c = f.spec msg := by
  rw [fo.spec, fo.ok.final c msg (streamed_inv fo c msg h)]

include fo in
theorem hfinal_spec (c : Hmac.Ctx f.h) (k msg : Bytes) (h : HStreamed f c k msg) :
    Hmac.final f.h c = some (f.hmacSpec k msg) := by
  rw [final_hinv fo.ok c k msg (hstreamed_hinv fo c k msg h), fo.hmacSpec]

include fo in
theorem buf_spec (b : Bytes) : f.h.final (f.update f.init b) = f.spec b :=
  final_spec fo _ _ ⟨[b], by simp, rfl⟩

include fo in
theorem hmac_buf_spec (k b : Bytes) : Hmac.buf f.h k b = some (f.hmacSpec k b) := by
  obtain ⟨c, hc, hf⟩ := hmac_stream_eq_spec fo.ok k [b]
  simp only [List.foldl_cons, List.foldl_nil, List.flatten_cons, List.flatten_nil, List.append_nil] at hf
  simp [Hmac.buf, hc, hf, fo.hmacSpec]

theorem slot_init : SlotOk ({} : Slot f) := by
  constructor
  · intro c msg h; cases h
  · intro c k msg h; cases h

theorem slot_closed (s : Slot f) (hm : ∀ c k msg, s.m = some (c, k, msg) → HStreamed f c k msg) :
    SlotOk { s with h := none } := by
  constructor
  · intro c msg h; cases h
  · exact hm

theorem slotOk_h {s : Slot f} (hs : SlotOk s) {c msg} (fg : Bool) (hc : fg = false → Streamed f c msg) :
    SlotOk { s with h := some (c, msg), forged := fg } :=
  ⟨fun _ _ h hf => by cases h; exact hc hf, hs.m⟩

theorem slotOk_m {s : Slot f} (hs : SlotOk s) {c k msg} (hc : HStreamed f c k msg) :
    SlotOk { s with m := some (c, k, msg) } :=
  ⟨hs.h, fun _ _ _ h => by cases h; exact hc⟩

theorem streamed_update (c : Hash.Ctx f.h.alg) (msg b : Bytes) (h : Streamed f c msg) :
    Streamed f (f.update c b) (msg ++ b) := by
  obtain ⟨chunks, rfl, rfl⟩ := h
  exact ⟨chunks ++ [b], by simp, by simp [Fam.update]⟩

theorem hstreamed_update (c : Hmac.Ctx f.h) (k msg b : Bytes) (h : HStreamed f c k msg) :
    HStreamed f (Hmac.update f.h c b) k (msg ++ b) := by
  obtain ⟨c0, chunks, hc0, rfl, rfl⟩ := h
  exact ⟨c0, chunks ++ [b], hc0, by simp, by simp⟩

include fo in
theorem stepSlot_ok (s : Slot f) (hs : SlotOk s) (op : SlotOp) :
    SlotOk (stepSlot f s op).1 ∧ Agrees (stepSlot f s op).2 := by
  cases op with
  | init => exact ⟨slotOk_h hs false fun _ => ⟨[], rfl, rfl⟩, trivial⟩
  | addcnt k =>
    unfold stepSlot
    cases hh : s.h with
    | none => simp only; exact ⟨hs, trivial⟩
    | some cm =>
      exact ⟨slotOk_h hs true nofun, trivial⟩
  | upd b =>
    unfold stepSlot
    cases hh : s.h with
    | none => simp only; exact ⟨hs, trivial⟩
    | some cm =>
      obtain ⟨c, msg⟩ := cm
      exact ⟨slotOk_h hs s.forged fun hf => streamed_update c msg b (hs.h c msg hh hf), trivial⟩
  | fin =>
    unfold stepSlot
    cases hh : s.h with
    | none => simp only; exact ⟨hs, trivial⟩
    | some cm =>
      obtain ⟨c, msg⟩ := cm
      simp only
      split
      · exact ⟨slot_closed s hs.m, trivial⟩
      · rename_i hf
        refine ⟨slot_closed s hs.m, ?_⟩
        show some (f.h.final c) = some (f.spec msg)
        rw [final_spec fo c msg (hs.h c msg hh (by simpa using hf))]
  | buf b =>
    refine ⟨hs, ?_⟩
    show some (f.h.final (f.update f.init b)) = some (f.spec b)
    rw [buf_spec fo]
  | hmac k b => exact ⟨hs, hmac_buf_spec fo k b⟩
  | hmacinit k =>
    simp only [stepSlot]
    split
    · rename_i c hc
      exact ⟨slotOk_m hs ⟨_, [], hc, rfl, rfl⟩, trivial⟩
    · refine ⟨⟨hs.h, ?_⟩, trivial⟩
      intro c' k' msg' h; cases h
  | hmacupd b =>
    unfold stepSlot
    cases hm : s.m with
    | none => simp only; exact ⟨hs, trivial⟩
    | some ckm =>
      obtain ⟨c, k, msg⟩ := ckm
      exact ⟨slotOk_m hs (hstreamed_update c k msg b (hs.m c k msg hm)), trivial⟩
  | hmacfin =>
    unfold stepSlot
    cases hm : s.m with
    | none => simp only; exact ⟨hs, trivial⟩
    | some ckm =>
      obtain ⟨c, k, msg⟩ := ckm
      refine ⟨⟨hs.h, fun _ _ _ h => by cases h⟩, ?_⟩
      exact hfinal_spec fo c k msg (hs.m c k msg hm)

def slotOf (st : St) : (a : AlgId) → Slot a.fam
  | .sha256 => st.s256
  | .sha1 => st.s1
  | .md5 => st.s5

theorem stepOp_slot (st : St) (a : AlgId) (op : SlotOp) :
    slotOf (stepOp st (.slot a op)).1 a = (stepSlot a.fam (slotOf st a) op).1 ∧
    (stepOp st (.slot a op)).2 = (stepSlot a.fam (slotOf st a) op).2 := by
  cases a <;> exact ⟨rfl, rfl⟩

theorem st_init : StOk ({} : St) :=
  ⟨slot_init, slot_init, slot_init, fun _ _ h => by cases h⟩

theorem crc_final_spec (s : UInt32) (data : Bytes)
    (h : ∃ chunks : List Bytes, chunks.flatten = data ∧ s = chunks.foldl Crc32c.update Crc32c.init) :
    Crc32c.final s = Spec.Crc32c.crc32c data := by
  obtain ⟨chunks, rfl, rfl⟩ := h
  rw [CrcMain.update_chunks, CrcMain.model_eq_spec]

theorem stepOp_ok (st : St) (hs : StOk st) (op : Op) (hop : InContract op) :
    StOk (stepOp st op).1 ∧ Agrees (stepOp st op).2 := by
  cases op with
  | slot a sop =>
    cases a with
    | sha256 =>
      obtain ⟨h1, h2⟩ := stepSlot_ok (famOK .sha256) st.s256 hs.s256 sop
      exact ⟨⟨h1, hs.s1, hs.s5, hs.crc⟩, h2⟩
    | sha1 =>
      obtain ⟨h1, h2⟩ := stepSlot_ok (famOK .sha1) st.s1 hs.s1 sop
      exact ⟨⟨hs.s256, h1, hs.s5, hs.crc⟩, h2⟩
    | md5 =>
      obtain ⟨h1, h2⟩ := stepSlot_ok (famOK .md5) st.s5 hs.s5 sop
      exact ⟨⟨hs.s256, hs.s1, h1, hs.crc⟩, h2⟩
  | pbkdf2 P S c dk =>
    exact ⟨hs, Pbkdf2Stream.pbkdf2_stream_eq_spec Sha256T.hashOK P S c dk hop⟩
  | pbkdf2sum P S c dk => exact ⟨hs, trivial⟩
  | big n cut =>
    refine ⟨hs, ?_⟩
    simp only [stepOp]
    split <;> trivial
  | bigd a n seed =>
    refine ⟨hs, ?_⟩
    simp only [stepOp]
    split <;> trivial
  | crc b => exact ⟨hs, CrcMain.model_eq_spec b⟩
  | crcinit =>
    refine ⟨⟨hs.s256, hs.s1, hs.s5, ?_⟩, trivial⟩
    intro s data h
    simp only [stepOp, Option.some.injEq, Prod.mk.injEq] at h
    obtain ⟨rfl, rfl⟩ := h
    exact ⟨[], rfl, rfl⟩
  | crcupd b =>
    unfold stepOp
    cases hc : st.crc with
    | none => simp only; exact ⟨hs, trivial⟩
    | some sd =>
      obtain ⟨s, data⟩ := sd
      refine ⟨⟨hs.s256, hs.s1, hs.s5, ?_⟩, trivial⟩
      intro s' data' h
      simp only [Option.some.injEq, Prod.mk.injEq] at h
      obtain ⟨rfl, rfl⟩ := h
      obtain ⟨chunks, rfl, rfl⟩ := hs.crc s data hc
      exact ⟨chunks ++ [b], by simp, by simp⟩
  | crcfin =>
    unfold stepOp
    cases hc : st.crc with
    | none => simp only; exact ⟨hs, trivial⟩
    | some sd =>
      obtain ⟨s, data⟩ := sd
      exact ⟨hs, crc_final_spec s data (hs.crc s data hc)⟩

theorem runOps_ok (ops : List Op) (st : St) (hs : StOk st) (hops : ∀ op ∈ ops, InContract op) :
    StOk (runOps st ops).1 ∧ ∀ o ∈ (runOps st ops).2, Agrees o := by
  induction ops generalizing st with
  | nil => exact ⟨hs, fun o ho => by cases ho⟩
  | cons op ops ih =>
    obtain ⟨h1, h2⟩ := stepOp_ok st hs op (hops op (List.mem_cons_self ..))
    obtain ⟨i1, i2⟩ := ih _ h1 (fun o ho => hops o (List.mem_cons_of_mem _ ho))
    refine ⟨i1, ?_⟩
    intro o ho
    simp only [runOps, List.mem_cons] at ho
    rcases ho with rfl | ho
    · exact h2
    · exact i2 o ho

theorem runOps_fst (ops : List Op) (st : St) :
    (runOps st ops).1 = ops.foldl (fun s op => (stepOp s op).1) st := by
  induction ops generalizing st with
  | nil => rfl
  | cons op ops ih => simp only [runOps, List.foldl_cons]; exact ih _

theorem runOps_append (s : St) (xs ys : List Op) :
    runOps s (xs ++ ys) = ((runOps (runOps s xs).1 ys).1, (runOps s xs).2 ++ (runOps (runOps s xs).1 ys).2) := by
  induction xs generalizing s with
  | nil => rfl
  | cons x xs ih => simp only [List.cons_append, runOps, ih]

theorem runOps_concat_last (s : St) (xs : List Op) (op : Op) :
    (runOps s (xs ++ [op])).2.getLast? = some (stepOp (runOps s xs).1 op).2 := by
  rw [runOps_append]
  simp [runOps]

def slotFeed (f : Fam) (s : Slot f) (chunks : List Bytes) : Slot f :=
  chunks.foldl (fun s b => (stepSlot f s (.upd b)).1) s

theorem slotFeed_spec (s : Slot f) (c : Hash.Ctx f.h.alg) (msg : Bytes) (hh : s.h = some (c, msg))
    (chunks : List Bytes) :
    (slotFeed f s chunks).h = some (chunks.foldl (Hash.update f.h.alg) c, msg ++ chunks.flatten) ∧
    (slotFeed f s chunks).forged = s.forged := by
  induction chunks generalizing s c msg with
  | nil => simp [slotFeed, hh]
  | cons b bs ih =>
    have h1 : (stepSlot f s (.upd b)).1.h = some (f.update c b, msg ++ b) := by simp only [stepSlot, hh]
    have h2 : (stepSlot f s (.upd b)).1.forged = s.forged := by simp only [stepSlot, hh]
    obtain ⟨i1, i2⟩ := ih _ _ _ h1
    simp only [slotFeed, List.foldl_cons, List.flatten_cons] at i1 i2 ⊢
    rw [i1, i2, h2, List.append_assoc]
    exact ⟨rfl, rfl⟩

include fo in
theorem slot_stream_fin (s : Slot f) (chunks : List Bytes) :
    (stepSlot f (slotFeed f (stepSlot f s .init).1 chunks) .fin).2
      = .digest (f.spec chunks.flatten) (some (f.spec chunks.flatten)) := by
  obtain ⟨h1, h2⟩ := slotFeed_spec (stepSlot f s .init).1 f.init [] rfl chunks
  have hf : (slotFeed f (stepSlot f s .init).1 chunks).forged = false := h2
  rw [List.nil_append] at h1
  generalize slotFeed f (stepSlot f s .init).1 chunks = s' at h1 hf
  have hfin : f.h.final (chunks.foldl (Hash.update f.h.alg) f.init) = f.spec chunks.flatten :=
    final_spec fo _ _ ⟨chunks, rfl, rfl⟩
  simp only [stepSlot, h1, hf, Bool.false_eq_true, if_false, hfin]

theorem feed (a : AlgId) (st : St) (chunks : List Bytes) :
    slotOf ((chunks.map fun b => Op.slot a (.upd b)).foldl (fun s op => (stepOp s op).1) st) a
      = slotFeed a.fam (slotOf st a) chunks := by
  induction chunks generalizing st with
  | nil => rfl
  | cons b bs ih => simp only [List.map_cons, List.foldl_cons, ih, (stepOp_slot st a (.upd b)).1]; rfl

theorem fam_spec (a : AlgId) : a.fam.spec = a.spec := by cases a <;> rfl

theorem stream_fin (st : St) (a : AlgId) (chunks : List Bytes) :
    (stepOp (runOps st (streamOps a chunks)).1 (.slot a .fin)).2
      = .digest (a.spec chunks.flatten) (some (a.spec chunks.flatten)) := by
  rw [runOps_fst, ← fam_spec, (stepOp_slot _ a .fin).2]
  simp only [streamOps, List.foldl_cons, feed, (stepOp_slot st a .init).1]
  exact slot_stream_fin (famOK a) (slotOf st a) chunks

theorem stepSlot_forged (s : Slot f) (op : SlotOp) (hop : ∀ k, op ≠ .addcnt k) (hs : s.forged = false) :
    (stepSlot f s op).1.forged = false := by
  cases op with
  | addcnt k => exact absurd rfl (hop k)
  | init => rfl
  | buf b => exact hs
  | hmac k b => exact hs
  | upd b => unfold stepSlot; cases s.h <;> exact hs
  | fin =>
    unfold stepSlot
    cases s.h with
    | none => exact hs
    | some cm => simp only; split <;> exact hs
  | hmacinit k => simp only [stepSlot]; split <;> exact hs
  | hmacupd b => unfold stepSlot; cases s.m <;> exact hs
  | hmacfin => unfold stepSlot; cases s.m <;> exact hs

theorem stepOp_forged (st : St) (op : Op) (a : AlgId) (hop : ∀ k, op ≠ .slot a (.addcnt k))
    (hs : st.forged a = false) : (stepOp st op).1.forged a = false := by
  cases op with
  | slot b sop =>
    cases b <;> cases a <;> first
      | exact hs
      | exact stepSlot_forged _ sop (fun k h => hop k (by rw [h])) hs
  | pbkdf2 P S c dk => exact hs
  | pbkdf2sum P S c dk => exact hs
  | big n cut => exact hs
  | bigd a n seed => exact hs
  | crc b => exact hs
  | crcinit => exact hs
  | crcupd b => unfold stepOp; cases st.crc <;> exact hs
  | crcfin => unfold stepOp; cases st.crc <;> exact hs

theorem runOps_forged (ops : List Op) (st : St) (a : AlgId) (hops : ∀ k, Op.slot a (.addcnt k) ∉ ops)
    (hs : st.forged a = false) : (runOps st ops).1.forged a = false := by
  induction ops generalizing st with
  | nil => exact hs
  | cons op ops ih =>
    simp only [runOps]
    apply ih
    · intro k hk; exact hops k (List.mem_cons_of_mem _ hk)
    · apply stepOp_forged _ _ _ _ hs
      intro k hk; exact hops k (hk ▸ List.mem_cons_self ..)

theorem patChunk_length (seed off len : Nat) : (patChunk seed off len).length = len := by
  simp [patChunk]

theorem patChunks_flatten (seed : Nat) (k off rest : Nat) (h : rest ≤ k * bigdChunk) :
    (patChunks seed k off rest).flatten = (List.range' off rest).map (patByte seed) := by
  induction k generalizing off rest with
  | zero =>
    have : rest = 0 := by omega
    subst this
    rfl
  | succ k ih =>
    have hl : min bigdChunk rest ≤ rest := Nat.min_le_right _ _
    have hr : rest - min bigdChunk rest ≤ k * bigdChunk := by
      rw [Nat.succ_mul] at h
      omega
    simp only [patChunks, List.flatten_cons, ih _ _ hr, patChunk, ← List.map_append]
    congr 1
    rw [List.range'_append_1]
    congr 1
    omega

theorem le_nChunks_mul (n : Nat) : n ≤ nChunks n * bigdChunk := by
  unfold nChunks bigdChunk
  omega

theorem pattern_eq_map (n seed : Nat) : pattern n seed = (List.range n).map (patByte seed) := by
  rw [pattern, patChunks_flatten seed _ 0 n (le_nChunks_mul n), List.range_eq_range']

theorem pattern_length (n seed : Nat) : (pattern n seed).length = n := by
  simp [pattern_eq_map]

theorem feedPattern_eq_foldl (f : Fam) (seed : Nat) (k off rest : Nat) (c : Hash.Ctx f.h.alg) :
    f.feedPattern seed k off rest c = (patChunks seed k off rest).foldl f.update c := by
  induction k generalizing off rest c with
  | zero => rfl
  | succ k ih => simp only [Fam.feedPattern, patChunks, List.foldl_cons, ih]

include fo in
theorem bigd_spec (n seed : Nat) : f.bigd n seed = f.spec (pattern n seed) := by
  rw [Fam.bigd, feedPattern_eq_foldl]
  exact final_spec fo _ _ ⟨patChunks seed (nChunks n) 0 n, rfl, rfl⟩

theorem alg_bigd_spec (a : AlgId) (n seed : Nat) : a.fam.bigd n seed = a.spec (pattern n seed) := by
  rw [← fam_spec]
  exact bigd_spec (famOK a) n seed

end Percival.Proofs.HashStep
