import Percival.Model.UpStep
/-!
# C14: what `Model.UpStep.stepOp` (the function `pmodel upmodel` runs) does

`callOf s op` names the library call (`AllocFail.Op`) a protocol line stands for; `Stands s op c` is `callOf s op = some c`
turned inside out (one constructor per line that passes the harness' checks, with what the checks have established).
`call` is `AllocFail.stepR` (`call_eq_stepR`).  `stepOp_elim` is the whole of `stepOp` as one rule: a schedule line
replaces the oracle's decision function, `end` is `releaseAll`, a call line is skipped by the harness, refused by the
model as outside the contract (the state stays), or carried out by `stepR` and booked.
-/
namespace Percival.Proofs.UpStep
open Percival.Model Percival.Model.AllocFail Percival.Model.UpStep
open Percival.Model.DsStep (sched)

theorem call_eq_stepR (w : World) (c : AllocFail.Op) : ((call w c).1, (call w c).2.2) = stepR w c := by
  cases c <;> simp only [call, stepR]
  case read fd => rcases networkRead w fd with ⟨_ | _, _⟩ <;> rfl
  case write fd => rcases networkWrite w fd with ⟨_ | _, _⟩ <;> rfl
  case accept fd => rcases networkAccept w fd with ⟨_ | _, _⟩ <;> rfl
  case connect a t s => rcases networkConnect w a t s with ⟨_ | _, _⟩ <;> rfl
  case nbrInit fd => rcases netbufReadInit w fd with ⟨_ | _, _⟩ <;> rfl
  case nbwInit fd => rcases netbufWriteInit w fd with ⟨_ | _, _⟩ <;> rfl
  case http a l s => rcases httpRequest w a l s with ⟨_ | _, _⟩ <;> rfl
  case https a l s hl => rcases httpsRequest w a l s hl with ⟨_ | _, _⟩ <;> rfl

/-- an op that is a library call (not a schedule line, not `end`) -/
def isCall : UpStep.Op → Bool
  | .failat _ | .failfrom _ | .failoff | .end_ => false
  | _ => true

theorem book_w (s : S) (op : UpStep.Op) (o : Option Nat) (ok : Bool) : (book s op o ok).w = s.w := by
  unfold book
  split <;> (try rfl)
  split <;> rfl

end Percival.Proofs.UpStep

namespace Percival.Proofs.UpMonSound
open Percival.Model Percival.Model.AllocFail Percival.Model.UpStep
open Percival.Model.Connect (AddrOutcome)

abbrev UOp := Percival.Model.UpStep.Op
abbrev LOp := Percival.Model.AllocFail.Op

theorem book_w (s : S) (op : UOp) (o : Option Nat) (ok : Bool) : (book s op o ok).w = s.w :=
  UpStep.book_w s op o ok

def startCall (k : NetKind) (fd : Nat) : LOp :=
  match k with | .read => .read fd | .write => .write fd | .accept => .accept fd

inductive Stands (s : S) : UOp → LOp → Prop
  | start (k : NetKind) (h sl : Nat) (hlt : h < MAXOBJ) (hsl : sl < NSLOT) (hl : look (tabOf s k) h = none)
      (hb : slotBusy s.w.ev (FDBASE + sl) (k == .write) = false) :
      Stands s (.start k h sl) (startCall k (FDBASE + sl))
  | nbrInit (h sl : Nat) (hlt : h < MAXOBJ) (hsl : sl < NSLOT) (hl : look s.nbr h = none) :
      Stands s (.nbrInit h sl) (.nbrInit (FDBASE + sl))
  | nbwInit (h sl : Nat) (hlt : h < MAXOBJ) (hsl : sl < NSLOT) (hl : look s.nbw h = none) :
      Stands s (.nbwInit h sl) (.nbwInit (FDBASE + sl))
  | ncStart (h : Nat) (a : List AddrOutcome) (tm : Option Int) (hlt : h < MAXOBJ) (hl : look s.conn h = none) :
      Stands s (.ncStart h a tm) (.connect a tm (freshFd s.w))
  | hqStart (h : Nat) (a : List AddrOutcome) (pl : Nat) (hlt : h < MAXOBJ) (hl : look s.http h = none) :
      Stands s (.hqStart h a pl) (.http a (headLen pl) (freshFd s.w))
  | hqsStart (h : Nat) (a : List AddrOutcome) (pl hn : Nat) (hlt : h < MAXOBJ) (hl : look s.http h = none) :
      Stands s (.hqsStart h a pl hn) (.https a (headLen pl) (freshFd s.w) hn)
  | nbrWait (h len rid : Nat) (r : Reader) (ho : obj s.nbr h = some rid)
      (hf : s.w.readers.find? (·.id == rid) = some r) (hc : r.readCookie = none) (hi : r.immediate = false)
      (hs : len > 0 → slotBusy s.w.ev r.fd false = false) : Stands s (.nbrWait h len) (.nbrWait rid len)
  | nbwReserve (h len wid : Nat) (x : Writer) (ho : obj s.nbw h = some wid)
      (hf : s.w.writers.find? (·.id == wid) = some x) (hres : x.reserved = false) :
      Stands s (.nbwReserve h len) (.nbwReserve wid len)
  | nbwConsume (h len wid : Nat) (x : Writer) (ho : obj s.nbw h = some wid)
      (hf : s.w.writers.find? (·.id == wid) = some x) (hres : x.reserved = true) (hlen : len ≤ resvOf s h)
      (hs : x.curr = none → slotBusy s.w.ev x.fd true = false) : Stands s (.nbwConsume h len) (.nbwConsume wid len)
  | nbwWrite (h len wid : Nat) (x : Writer) (ho : obj s.nbw h = some wid)
      (hf : s.w.writers.find? (·.id == wid) = some x) (hres : x.reserved = false)
      (hs : x.curr = none → slotBusy s.w.ev x.fd true = false) : Stands s (.nbwWrite h len) (.nbwWrite wid len)
  | rel (k : RelKind) (h c : Nat) (ho : obj (relTab s k) h = some c) : Stands s (.rel k h) (relCall k c)

theorem ite_ite_eq_some {α : Type} {p : Prop} [Decidable p] {b : Bool} {x y : α}
    (h : (if p then (if b = true then none else some x) else none) = some y) : p ∧ b = false ∧ x = y := by
  split at h
  · split at h
    · cases h
    · exact ⟨‹p›, Bool.eq_false_iff.2 ‹_›, Option.some.inj h⟩
  · cases h

theorem stands_of_callOf {s : S} {op : UOp} {c : LOp} (hc : callOf s op = some c) : Stands s op c := by
  cases op with
  | failat _ => cases hc
  | failfrom _ => cases hc
  | failoff => cases hc
  | end_ => cases hc
  | start k h sl =>
    obtain ⟨hlt, hb, rfl⟩ := ite_ite_eq_some hc
    simp only [Bool.or_eq_false_iff, Option.isSome_eq_false_iff, Option.isNone_iff_eq_none] at hb
    exact .start k h sl hlt.1 hlt.2 hb.1 hb.2
  | nbrInit h sl =>
    obtain ⟨hlt, hb, rfl⟩ := ite_ite_eq_some hc
    simp only [Option.isSome_eq_false_iff, Option.isNone_iff_eq_none] at hb
    exact .nbrInit h sl hlt.1 hlt.2 hb
  | nbwInit h sl =>
    obtain ⟨hlt, hb, rfl⟩ := ite_ite_eq_some hc
    simp only [Option.isSome_eq_false_iff, Option.isNone_iff_eq_none] at hb
    exact .nbwInit h sl hlt.1 hlt.2 hb
  | ncStart h a tm =>
    obtain ⟨hlt, hb, rfl⟩ := ite_ite_eq_some hc
    simp only [Bool.or_eq_false_iff, Option.isSome_eq_false_iff, Option.isNone_iff_eq_none] at hb
    exact .ncStart h a tm hlt hb.1
  | hqStart h a pl =>
    obtain ⟨hlt, hb, rfl⟩ := ite_ite_eq_some hc
    simp only [Bool.or_eq_false_iff, Option.isSome_eq_false_iff, Option.isNone_iff_eq_none] at hb
    exact .hqStart h a pl hlt hb.1.1
  | hqsStart h a pl hn =>
    obtain ⟨hlt, hb, rfl⟩ := ite_ite_eq_some hc
    simp only [Bool.or_eq_false_iff, Option.isSome_eq_false_iff, Option.isNone_iff_eq_none] at hb
    exact .hqsStart h a pl hn hlt hb.1.1.1
  | rel k h =>
    obtain ⟨x, hx, rfl⟩ := Option.map_eq_some_iff.1 hc
    exact .rel k h x hx
  | nbrWait h len =>
    simp only [callOf] at hc
    split at hc
    · cases hc
    · rename_i rid ho
      split at hc
      · cases hc
      · rename_i r hf
        split at hc
        · cases hc
        · rename_i hb
          cases hc
          simp only [Bool.or_eq_true, Bool.and_eq_true, decide_eq_true_eq, not_or, not_and, Bool.not_eq_true,
            Option.isSome_eq_false_iff, Option.isNone_iff_eq_none] at hb
          exact .nbrWait h len rid r ho hf hb.1.1 hb.1.2 hb.2
  | nbwReserve h len =>
    simp only [callOf] at hc
    split at hc
    · cases hc
    · rename_i wid ho
      split at hc
      · cases hc
      · rename_i x hf
        split at hc
        · cases hc
        · rename_i hb
          cases hc
          exact .nbwReserve h len wid x ho hf (Bool.eq_false_iff.2 hb)
  | nbwConsume h len =>
    simp only [callOf] at hc
    split at hc
    · cases hc
    · rename_i wid ho
      split at hc
      · cases hc
      · rename_i x hf
        split at hc
        · cases hc
        · rename_i hb
          cases hc
          simp only [Bool.or_eq_true, Bool.not_eq_eq_eq_not, Bool.not_true, decide_eq_true_eq, Bool.and_eq_true,
            Option.isNone_iff_eq_none, not_or, Bool.not_eq_false, Nat.not_lt, not_and, Bool.not_eq_true] at hb
          exact .nbwConsume h len wid x ho hf hb.1.1 hb.1.2 hb.2
  | nbwWrite h len =>
    simp only [callOf] at hc
    split at hc
    · cases hc
    · rename_i wid ho
      split at hc
      · cases hc
      · rename_i x hf
        split at hc
        · cases hc
        · rename_i hb
          cases hc
          simp only [Bool.or_eq_true, Bool.and_eq_true, Option.isNone_iff_eq_none, not_or, Bool.not_eq_true, not_and] at hb
          exact .nbwWrite h len wid x ho hf hb.1 hb.2

theorem kindOf_of_callOf {s : S} {op : UOp} {c : LOp} (hc : callOf s op = some c) : kindOf op = .call := by
  cases op <;> first | rfl | cases hc

/-- replacing the allocation schedule (`failat` / `failfrom` / `failoff`) -/
def setF (w : World) (f : Nat → Nat → Bool) : World := { w with m := { w.m with f := f } }

/-- `left` is what `end` shows of the model's own lists when they are not empty -/
theorem stepOp_elim {motive : S × Out → Prop} (s : S) (op : UOp)
    (sched : kindOf op = .sched → ∀ f, motive ({ s with w := setF s.w f }, .word .ok))
    (end_ : op = .end_ → ∀ left, motive (releaseAll s, .end_ (releaseAll s).w.m.live (releaseAll s).w.m.n left))
    (skip : kindOf op = .call → callOf s op = none → motive (s, .word .skip))
    (contract : ∀ c, callOf s op = some c → (stepR s.w c).1 = .contract → motive (s, onContract s op))
    (done : ∀ c, callOf s op = some c → (stepR s.w c).1 ≠ .contract →
      motive ({ book s op (call s.w c).2.1 ((stepR s.w c).1 == .ok) with w := (stepR s.w c).2 },
        line ((stepR s.w c).1 == .ok) s.w (stepR s.w c).2)) :
    motive (stepOp s op) := by
  have hcall : kindOf op = .call → motive (match callOf s op with
      | none => (s, .word .skip)
      | some c =>
        match call s.w c with
        | (.contract, _, _) => (s, onContract s op)
        | (rc, o, w') => ({ book s op o (rc == .ok) with w := w' }, line (rc == .ok) s.w w')) := fun hk => by
    cases hc : callOf s op with
    | none => exact skip hk hc
    | some c =>
      have h1 := congrArg Prod.fst (UpStep.call_eq_stepR s.w c)
      have h2 := congrArg Prod.snd (UpStep.call_eq_stepR s.w c)
      have hd := done c hc
      show motive (match call s.w c with
        | (.contract, _, _) => (s, onContract s op)
        | (rc, o, w') => ({ book s op o (rc == .ok) with w := w' }, line (rc == .ok) s.w w'))
      rcases hcall : call s.w c with ⟨rc, o, w'⟩
      rw [hcall] at h1 h2 hd
      simp only at h1 h2 hd
      rw [← h1, ← h2] at hd
      cases rc with
      | contract => exact contract c hc h1.symm
      | ok => exact hd nofun
      | fail => exact hd nofun
  cases op with
  | failat k => exact sched rfl _
  | failfrom k => exact sched rfl _
  | failoff => exact sched rfl _
  | end_ => exact end_ rfl _
  | _ => exact hcall rfl

end Percival.Proofs.UpMonSound

/-! The rule, read off for the three kinds of line (`Properties/C14.lean`, `exec_up_step`, `exec_up_other`). -/
namespace Percival.Proofs.UpStep
open Percival.Model Percival.Model.AllocFail Percival.Model.UpStep
open Percival.Proofs.UpMonSound (stepOp_elim kindOf_of_callOf)

theorem stepOp_call (s : S) (op : UpStep.Op) (c : AllocFail.Op) (hc : callOf s op = some c) :
    ((stepR s.w c).1 = .contract → stepOp s op = (s, onContract s op)) ∧
    ((stepR s.w c).1 ≠ .contract →
      (stepOp s op).1.w = (stepR s.w c).2 ∧ (stepOp s op).2 = line ((stepR s.w c).1 == .ok) s.w (stepR s.w c).2) := by
  have hk := kindOf_of_callOf hc
  refine stepOp_elim (motive := fun r => ((stepR s.w c).1 = .contract → r = (s, onContract s op)) ∧
    ((stepR s.w c).1 ≠ .contract → r.1.w = (stepR s.w c).2 ∧ r.2 = line ((stepR s.w c).1 == .ok) s.w (stepR s.w c).2)) s op
    (fun h => by rw [hk] at h; cases h) (fun h => by subst h; cases hc) (fun _ h => by rw [hc] at h; cases h)
    (fun c' hc' hr => ?_) (fun c' hc' hr => ?_)
  · cases hc.symm.trans hc'; exact ⟨fun _ => rfl, fun h => absurd hr h⟩
  · cases hc.symm.trans hc'; exact ⟨fun h => absurd h hr, fun _ => ⟨rfl, rfl⟩⟩

theorem stepOp_skip (s : S) (op : UpStep.Op) (h : isCall op = true) (hc : callOf s op = none) :
    stepOp s op = (s, .word .skip) :=
  have hk : kindOf op = .call := by cases op <;> first | rfl | cases h
  stepOp_elim (motive := fun r => r = (s, .word .skip)) s op (fun h' => by rw [hk] at h'; cases h')
    (fun he => by subst he; cases h) (fun _ _ => rfl) (fun c hc' => by rw [hc] at hc'; cases hc')
    (fun c hc' => by rw [hc] at hc'; cases hc')

theorem stepOp_sched (s : S) (op : UpStep.Op) (h : isCall op = false) (he : op ≠ .end_) :
    (stepOp s op).2 = .word .ok ∧
    ∃ f, (stepOp s op).1 = { s with w := { s.w with m := { s.w.m with f := f } } } := by
  cases op <;> simp [isCall] at h
  · exact ⟨rfl, _, rfl⟩
  · exact ⟨rfl, _, rfl⟩
  · exact ⟨rfl, _, rfl⟩
  · exact absurd rfl he

theorem stepOp_end (s : S) :
    (stepOp s .end_).1.w.m.live = (endWorld s).m.live ∧
    ∃ left, (stepOp s .end_).2 = .end_ (endWorld s).m.live (endWorld s).m.n left := by
  simp only [stepOp, releaseAll]
  exact ⟨trivial, _, rfl⟩

end Percival.Proofs.UpStep
