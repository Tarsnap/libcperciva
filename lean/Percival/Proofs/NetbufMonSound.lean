import Percival.Proofs.NetbufMonWriter
/-!
# C07: the monitor accepts the model (soundness of `pmodel netbufmon` for `pmodel netbuf`)

`Sound s m`: the executable model's state `s` and the monitor's state `m` describe the same situation
(`RRel` for the reader, `WRel` for the writer), the model has not failed, and its reader and writer are states of
`NetbufRead.run` / `NetbufWrite.run` from the initial states (`Hist`: the line protocol moves them by steps of their
models only).  `step_sound`: from related states,
for every protocol line, the monitor accepts what `stepOp` answers and the states are related again.  So along
every sequence of lines the model never fails (`bad = none`: no access outside a buffer, no assertion, no contract
violation, the fuel of `spinR` is never exhausted) and the monitor never rejects.
-/
namespace Percival.Proofs.NetbufMonSound
open Percival Percival.Spec.ByteStream Percival.Spec.NetbufMon Percival.Model.Netbuf Percival.Model
open Percival.Model.NetbufStep Percival.Proofs.NetbufWrite Percival.Proofs.NetbufMonTok Percival.Proofs.NetbufStep

def SameMR (m m' : MSt) : Prop :=
  m'.items = m.items ∧ m'.known = m.known ∧ m'.waiting = m.waiting ∧ m'.loopJ = m.loopJ ∧ m'.loopK = m.loopK ∧
    m'.loopN = m.loopN

theorem judgeSend_ok (m : MSt) (D' : Bytes) (failed' : Bool) (k : Nat) (delta : Bytes) (fc : Nat)
    (hf : m.failed = false) (hk : k ≤ m.wq.length)
    (h : SendOK m.pending D' failed' (m.wq.take k) delta fc (k < m.wq.length)) :
    ∃ m', judgeSend m delta.length (shownOf delta delta.length) fc k = (m', none) ∧
      m'.pending = (if failed' then [] else D') ∧ m'.wq = m.wq.drop k ∧ m'.failed = failed' ∧ m'.resv = m.resv ∧
      SameMR m m' := by
  have hpre : delta <+: m.pending := by
    rcases h.cases with ⟨_, _, _, e4, _⟩ | ⟨A0, _, _, _, _, _, e5⟩
    · rw [← e4]; exact List.prefix_append _ _
    · exact e5
  have hlen := hpre.length_le
  have htake : m.pending.take delta.length = delta := (List.prefix_iff_eq_take.1 hpre).symm
  unfold judgeSend
  rw [if_neg (by simp [hf]), if_neg (by omega), if_neg (by simp [htake]), if_neg (by omega)]
  simp only []
  split
  · rename_i hb
    exact absurd hb (not_or.2 ⟨Nat.not_lt.2 h.lo, Nat.not_lt.2 h.hi⟩)
  rcases h.cases with ⟨e1, rfl, rfl, e4, e5⟩ | ⟨A0, hA, e1, rfl, rfl, e4, e5⟩
  · simp only [nfail] at e1
    rw [if_neg (by omega), if_neg (by simp), if_neg (fun hne => hne e1), if_neg ?_]
    · refine ⟨_, rfl, ?_, rfl, hf, rfl, rfl, rfl, rfl, rfl, rfl, rfl⟩
      show m.pending.drop delta.length = _
      rw [← e4]; simp
    · rintro ⟨hb1, hb2⟩
      have hmore : k < m.wq.length := by simpa using hb1
      rw [← e4, e5 hmore] at hb2
      simp at hb2
  · rw [if_pos rfl, if_neg ?_, if_neg (by omega)]
    · exact ⟨_, rfl, rfl, rfl, rfl, rfl, rfl, rfl, rfl, rfl, rfl, rfl⟩
    · show ¬(nfail (m.wq.take k) ≠ 1 ∨ _)
      rw [hA, nfail_append, e1]
      simp [nfail]

theorem judgeSend_failed (m : MSt) (hf : m.failed = true) : judgeSend m 0 (shownOf [] 0) 0 0 = (m, none) := by
  unfold judgeSend
  rw [if_pos hf, if_neg (by simp)]

theorem RRel.of_same {s s' : XSt} {m m' : MSt} {a : Reader} (h : RRel s m a) (hs : SameR s s') (hm : SameMR m m') :
    RRel s' m' a := by
  cases s; cases s'; cases m; cases m'
  obtain ⟨rfl, rfl, rfl, rfl, rfl, rfl⟩ := hs
  obtain ⟨rfl, rfl, rfl, rfl, rfl, rfl⟩ := hm
  exact ⟨h.rel, h.toks, h.known, h.waiting, h.waitk, h.loopN, h.loopJK, h.rqne⟩

theorem WRel.of_same {s s' : XSt} {m m' : MSt} (h : WRel s m) (hs : SameW s s') (hm : SameMW m m') : WRel s' m' := by
  cases s; cases s'; cases m; cases m'
  obtain ⟨rfl, rfl, rfl, rfl⟩ := hs
  obtain ⟨rfl, rfl, rfl, rfl⟩ := hm
  exact ⟨h.inv, h.resv, h.wresv, h.failed, h.wq, h.acc, h.pos, h.pend, h.pendF⟩

structure Sound (s : XSt) (m : MSt) : Prop where
  bad : s.bad = none
  r : ∃ a, RRel s m a
  w : WRel s m
  hist : Hist s

theorem sound_init : Sound {} {} := ⟨rfl, ⟨_, rrel_init⟩, wrel_init, hist_init⟩

theorem RRel.pending_iff {s : XSt} {m : MSt} {a : Reader} (h : RRel s m a) :
    s.r.pending = .none ↔ m.waiting = none := by
  rw [h.waiting]
  cases haw : a.waiting with
  | none => exact ⟨fun _ => rfl, fun _ => Proofs.NetbufRead.pending_none_of h.rel haw⟩
  | some k => rcases (Proofs.NetbufRead.pendRel_some haw).1 h.rel.pend with ⟨hp, _⟩ | ⟨hp, _⟩ <;> simp [hp]

theorem RRel.avail {s : XSt} {m : MSt} {a : Reader} (h : RRel s m a) : avail s.r = a.visible.length := by
  rw [h.rel.avail]; rfl

/-- the writer's pending data contains the part of the buffer in flight that was already sent -/
theorem wpos_le {s : XSt} (hi : Inv s.w) (hp : PosOK s) : s.wpos ≤ (pendingData s.w).length := by
  unfold PosOK at hp
  cases hc : s.w.curr with
  | none => rw [hc] at hp; omega
  | some wb =>
    rw [hc] at hp
    have := data_length (hi.c wb hc).1
    simp only [pendingData, currData, hc, List.length_append]
    omega

theorem D_append {s s' : XSt} (hi : Inv s.w) (hp : PosOK s) (d : Bytes) (hpos : s'.wpos = s.wpos)
    (hpd : pendingData s'.w = pendingData s.w ++ d) : D s' = D s ++ d := by
  simp only [D, hpos, hpd]
  rw [List.drop_append_of_le_length (wpos_le hi hp)]

theorem pending_write {s : XSt} {m : MSt} (hw : WRel s m) {w' : NetbufWrite.W} (d : Bytes)
    (hf' : w'.failed = s.w.failed) (hpd : s.w.failed = false → pendingData w' = pendingData s.w ++ d) :
    (w'.failed = false → (if m.failed then m.pending else m.pending ++ d) = D { s with w := w' }) ∧
    (w'.failed = true → (if m.failed then m.pending else m.pending ++ d) = []) := by
  rw [hf', hw.failed]
  refine ⟨fun hf0 => ?_, fun hf0 => ?_⟩
  · rw [hf0, if_neg (by simp), hw.pend hf0, D_append (s' := { s with w := w' }) hw.inv hw.pos d rfl (hpd hf0)]
  · rw [hf0, if_pos rfl]
    exact hw.pendF hf0

theorem posOK_of_call {s s' : XSt} (hp : PosOK s) (hi' : Inv s'.w) (hpos : s'.wpos = s.wpos)
    (hcur : ∀ wb, s.w.curr = some wb → s'.w.curr = some wb) : PosOK s' := by
  unfold PosOK at hp ⊢
  cases hc : s.w.curr with
  | some wb => rw [hc] at hp; rw [hcur wb hc, hpos]; exact hp
  | none =>
    rw [hc] at hp
    cases hc' : s'.w.curr with
    | none => rw [hpos]; exact hp
    | some wb2 => rw [hpos, hp]; exact (hi'.c wb2 hc').2

theorem mon_expect_contract (m : MSt) (why : String) : expect m .contract .contract why = (m, none) := by
  simp [expect]

/-- to check a line: what the model answers, that the monitor accepts it, and that the states are related again -/
theorem accepted {s s' : XSt} {m m' : MSt} {op : Op} (o : Out) (hst : stepOp s op = (s', o))
    (hmon : monStep m op o.ans = (m', none)) (h' : Sound s' m') :
    ∃ m', monStep m op (stepOp s op).2.ans = (m', none) ∧ Sound (stepOp s op).1 m' := by
  rw [hst]
  exact ⟨m', hmon, h'⟩

theorem refused {s : XSt} {m : MSt} (h : Sound s m) {op : Op} (o : Out) (hst : stepOp s op = (s, o))
    (hmon : monStep m op o.ans = (m, none)) :
    ∃ m', monStep m op (stepOp s op).2.ans = (m', none) ∧ Sound (stepOp s op).1 m' :=
  accepted o hst hmon h

/-- reader calls and script lines leave the writer half alone (for states written as updates of `s` and `m` that is
`rfl` field by field) -/
theorem sound_of_reader {s s' : XSt} {m m' : MSt} {a' : Reader} (h : Sound s m) (hb : s'.bad = none)
    (hr : RRel s' m' a') (hh : RHist s'.r) (hs : SameW s s' := by exact ⟨rfl, rfl, rfl, rfl⟩)
    (hm : SameMW m m' := by exact ⟨rfl, rfl, rfl, rfl⟩) : Sound s' m' :=
  ⟨hb, ⟨a', hr⟩, h.w.of_same hs hm, hh, hs.1 ▸ h.hist.2⟩

theorem ans_spin (recs : List CbRec) (f l : Nat) (sh : Shown) (u : Nat) (r : NetbufRead.R) (w : NetbufWrite.W) :
    (Out.spin recs f l sh u r w).ans = .spin (recs.map convRec) f l sh u := by
  simp only [Out.ans]
  refine congrArg (fun x => Ans.spin x f l sh u) (List.map_congr_left ?_)
  intro x _
  cases x with
  | succ a sh => cases sh <;> rfl
  | status v => rfl

theorem stepOp_spin (s : XSt) (hbad : s.bad = none) (hres : s.w.reserved = false) :
    stepOp s .spin =
      let X := spinR (s.loopN + rqWeight s.rq + 2) s []
      let Y := spinW X.1 X.1.wq [] 0 0
      match Y.1.bad with
      | some b => (Y.1, .failed b)
      | none => (Y.1, .spin X.2 Y.2.2.1 Y.2.1.length (shownOf Y.2.1 Y.2.1.length) Y.2.2.2 Y.1.r Y.1.w) := by
  simp only [stepOp, hbad, hres, Bool.false_eq_true, if_false]
  rfl

theorem judgeRecs_nil_of_quiet {s : XSt} {m : MSt} {a : Reader} (h : RRel s m a) (hq : Quiet s) :
    judgeRecs m [] = (m, none) := by
  unfold judgeRecs
  cases hmw : m.waiting with
  | none => rfl
  | some k =>
    simp only
    have haw : a.waiting = some k := by rw [← h.waiting]; exact hmw
    rcases hq with hp | ⟨hp, hrq⟩
    · have := h.pending_iff.1 hp
      rw [hmw] at this; cases this
    · rcases (Proofs.NetbufRead.pendRel_some haw).1 h.rel.pend with ⟨hp', _⟩ | ⟨_, _, hlt, _⟩
      · rw [hp] at hp'; cases hp'
      have hdb := dataBefore_of h.toks
      rw [hrq] at hdb
      simp only [qtoks, lead, List.length_nil, Nat.add_zero] at hdb
      have hfm : firstMark m.items = none := by
        rw [firstMark_eq, h.toks, markOf_bytes, hrq]; rfl
      rw [if_neg (by omega), if_neg (by simp [hfm])]

theorem sound_of_writer {s s' : XSt} {m m' : MSt} (h : Sound s m) (hb : s'.bad = none)
    (hw : WRel s' m') (hh : WHist s'.w) (hs : SameR s s' := by exact ⟨rfl, rfl, rfl, rfl, rfl, rfl⟩)
    (hm : SameMR m m' := by exact ⟨rfl, rfl, rfl, rfl, rfl, rfl⟩) : Sound s' m' := by
  obtain ⟨a, hr⟩ := h.r
  exact ⟨hb, ⟨a, hr.of_same hs hm⟩, hw, hs.1 ▸ h.hist.1, hh⟩

theorem sound_recv_script {s : XSt} {m : MSt} (h : Sound s m) (x : KAns) (items' : List RItem)
    (htk : toks items' = toks m.items ++ qtoks [x]) (hne : ∀ d, x = .data d → d ≠ []) :
    Sound { s with rq := s.rq ++ [x] } { m with items := items' } := by
  obtain ⟨a, hr⟩ := h.r
  refine sound_of_reader h h.bad (a' := a)
    ⟨hr.rel, ?_, hr.known, hr.waiting, hr.waitk, hr.loopN, hr.loopJK, ?_⟩ h.hist.1
  · show toks items' = _ ++ qtoks (s.rq ++ [x])
    rw [htk, qtoks_append, hr.toks, List.append_assoc]
  · intro d hd
    rcases List.mem_append.1 hd with hd | hd
    · exact hr.rqne d hd
    · exact hne d (List.mem_singleton.1 hd).symm

theorem sound_send_script {s : XSt} {m : MSt} (h : Sound s m) (x : SAns) (hx : ∀ n, x = .accept n → 0 < n) :
    Sound { s with wq := s.wq ++ [x] } { m with wq := m.wq ++ [x] } := by
  have hw := h.w
  refine sound_of_writer h h.bad ⟨hw.inv, hw.resv, hw.wresv, hw.failed, ?_, ?_, hw.pos, hw.pend, hw.pendF⟩ h.hist.2
  · show m.wq ++ _ = s.wq ++ _
    rw [hw.wq]
  · intro n hn
    rcases List.mem_append.1 hn with hn | hn
    · exact hw.acc n hn
    · exact hx n (List.mem_singleton.1 hn).symm

theorem step_sound (s : XSt) (m : MSt) (h : Sound s m) (op : Op) :
    ∃ m', monStep m op (stepOp s op).2.ans = (m', none) ∧ Sound (stepOp s op).1 m' := by
  obtain ⟨a, hr⟩ := h.r
  have hbad := h.bad
  have hw := h.w
  have hav := hr.avail
  have hdb := dataBefore_of hr.toks
  have hbusy : m.waiting ≠ none → s.r.pending ≠ .none ∧ m.waiting.isSome = true :=
    fun hmw => ⟨fun hp => hmw (hr.pending_iff.1 hp), Option.isSome_iff_ne_none.2 hmw⟩
  have hresv : ∀ n0, m.resv = some n0 → s.w.reserved = true :=
    fun n0 e => (e ▸ hw.resv : ResvRel s.w (some n0)).1
  cases op with
  -- reader calls: refused (`refused`) while a wait is outstanding, otherwise by the reader lemma of the call
  | rWait k =>
    by_cases hmw : m.waiting = none
    · have hp := hr.pending_iff.2 hmw
      have haw : a.waiting = none := by rw [← hr.waiting]; exact hmw
      obtain ⟨r', e, hr', -⟩ := Proofs.NetbufRead.wait_rel hr.rel haw k
      have hst : stepOp s (.rWait k) = ({ s with waitk := k, loopN := 0, r := r' }, .okR r') := by
        simp [stepOp, hbad, hp, e, rOp]
      rw [hst]
      refine ⟨{ m with waiting := some k, loopJ := 0, loopK := k, loopN := 0 }, by simp [monStep, hmw, Out.ans], ?_⟩
      exact sound_of_reader h hbad
        ⟨hr', hr.toks, hr.known, rfl, fun k' hk' => by simpa using hk', rfl, fun h0 => by simp at h0, hr.rqne⟩
        (h.hist.1.wait k e)
    · exact refused h .contract (by simp [stepOp, hbad, (hbusy hmw).1])
        (by simp [monStep, (hbusy hmw).2, Out.ans, expect])
  | rLoop j k n =>
    by_cases hmw : m.waiting = none
    · have hp := hr.pending_iff.2 hmw
      have haw : a.waiting = none := by rw [← hr.waiting]; exact hmw
      obtain ⟨r', e, hr', -⟩ := Proofs.NetbufRead.wait_rel hr.rel haw k
      have hst : stepOp s (.rLoop j k n) = ({ s with waitk := k, loopJ := j, loopK := k, loopN := n, r := r' }, .okR r') := by
        simp [stepOp, hbad, hp, e, rOp]
      rw [hst]
      refine ⟨{ m with waiting := some k, loopJ := j, loopK := k, loopN := n }, by simp [monStep, hmw, Out.ans], ?_⟩
      exact sound_of_reader h hbad
        ⟨hr', hr.toks, hr.known, rfl, fun k' hk' => by simpa using hk', rfl, fun _ => ⟨rfl, rfl⟩, hr.rqne⟩
        (h.hist.1.wait k e)
    · exact refused h .contract (by simp [stepOp, hbad, (hbusy hmw).1])
        (by simp [monStep, (hbusy hmw).2, Out.ans, expect])
  | rPeek =>
    have hpeek : NetbufRead.peek s.r = .ok a.visible := by
      rw [Proofs.NetbufRead.peek_eq hr.rel.geo, hr.rel.win]
    have hst : stepOp s .rPeek = (s, .peek a.visible.length (shownOf a.visible a.visible.length) s.r) := by
      simp [stepOp, hbad, hpeek, hav]
    rw [hst]
    have htd : takeData a.visible.length m.items = a.visible := by
      rw [takeData_of hr.toks _ (Nat.le_refl _), List.take_length]
    refine ⟨{ m with known := a.visible.length }, ?_, ?_⟩
    · simp only [Out.ans, monStep]
      rw [if_neg (by have := hr.known; omega), if_neg (by omega), if_neg (by simp [htd])]
    · exact sound_of_reader h hbad
        ⟨hr.rel, hr.toks, Nat.le_refl _, hr.waiting, hr.waitk, hr.loopN, hr.loopJK, hr.rqne⟩
        h.hist.1
  | rConsume j =>
    by_cases hmw : m.waiting = none
    · have hp := hr.pending_iff.2 hmw
      have haw : a.waiting = none := by rw [← hr.waiting]; exact hmw
      by_cases hj : j ≤ a.visible.length
      · obtain ⟨r', e, hr', -⟩ := Proofs.NetbufRead.consume_rel hr.rel haw j hj
        have hst : stepOp s (.rConsume j) = ({ s with r := r' }, .okR r') := by
          simp [stepOp, hbad, hp, hav, e, rOp]; omega
        rw [hst]
        refine ⟨{ m with items := dropData j m.items, known := m.known - j }, ?_, ?_⟩
        · simp only [Out.ans, monStep, hmw, Option.isSome_none, Bool.false_eq_true, if_false, if_true]
          rw [if_neg (by omega)]
        · refine sound_of_reader h hbad (a' := { a with consumed := a.consumed + j })
            ⟨hr', ?_, ?_, hr.waiting, hr.waitk, hr.loopN, hr.loopJK, hr.rqne⟩ (h.hist.1.consume j e)
          · show toks (dropData j m.items) = _
            rw [toks_dropData _ _ (by omega), hr.toks, drop_bytes _ _ _ hj, visible_consume]
          · show m.known - j ≤ _
            rw [visible_consume, List.length_drop]; have := hr.known; omega
      · refine refused h .contract (by simp [stepOp, hbad, hp, hav]; omega) ?_
        simp only [Out.ans, monStep, hmw, Option.isSome_none, Bool.false_eq_true, if_false]
        rw [if_neg (by decide), if_pos trivial, if_neg (by have := hr.known; omega)]
    · exact refused h .contract (by simp [stepOp, hbad, (hbusy hmw).1])
        (by simp [monStep, (hbusy hmw).2, Out.ans, expect])
  | rConsumeUpto j =>
    by_cases hmw : m.waiting = none
    · have hp := hr.pending_iff.2 hmw
      have haw : a.waiting = none := by rw [← hr.waiting]; exact hmw
      have hj : min j a.visible.length ≤ a.visible.length := Nat.min_le_right _ _
      obtain ⟨r', e, hr', -⟩ := Proofs.NetbufRead.consume_rel hr.rel haw _ hj
      have hst : stepOp s (.rConsumeUpto j) = ({ s with r := r' }, .okN (min j a.visible.length) r') := by
        simp [stepOp, hbad, hp, hav, e]
      rw [hst]
      refine ⟨{ m with items := dropData (min j a.visible.length) m.items,
                       known := if min j a.visible.length < j then 0 else m.known - min j a.visible.length }, ?_, ?_⟩
      · simp only [Out.ans, monStep, hmw, Option.isSome_none, Bool.false_eq_true, if_false]
        rw [if_neg (by omega), if_neg (by omega), if_neg (by have := hr.known; omega)]
      · refine sound_of_reader h hbad (a' := { a with consumed := a.consumed + min j a.visible.length })
          ⟨hr', ?_, ?_, hr.waiting, hr.waitk, hr.loopN, hr.loopJK, hr.rqne⟩ (h.hist.1.consume _ e)
        · show toks (dropData _ m.items) = _
          rw [toks_dropData _ _ (by omega), hr.toks, drop_bytes _ _ _ hj, visible_consume]
        · show (if min j a.visible.length < j then 0 else m.known - min j a.visible.length) ≤ _
          rw [visible_consume, List.length_drop]; have := hr.known; split <;> omega
    · exact refused h .contract (by simp [stepOp, hbad, (hbusy hmw).1])
        (by simp [monStep, (hbusy hmw).2, Out.ans, expect])
  | rCancel =>
    have hst : stepOp s .rCancel = ({ s with loopN := 0, r := NetbufRead.cancel s.r }, .okR (NetbufRead.cancel s.r)) := by
      simp [stepOp, hbad, rOp]
    rw [hst]
    refine ⟨{ m with waiting := none, loopN := 0 }, by simp [monStep, Out.ans], ?_⟩
    exact sound_of_reader h hbad (a' := { a with waiting := none })
      ⟨hr.rel.idle, hr.toks, hr.known, rfl, fun _ h0 => by simp at h0, rfl,
       fun h0 => by simp at h0, hr.rqne⟩ h.hist.1.cancel
  -- script lines: both sides append the same answer (`accepted` with `sound_recv_script` / `sound_send_script`)
  | netDeliver d =>
    by_cases hd : d.isEmpty = true
    · exact refused h .badOp (by simp [stepOp, hbad, hd]) (by simp [monStep, hd, Out.ans, expect])
    · exact accepted .ok (by simp [stepOp, hbad, hd]) (by simp [monStep, hd, Out.ans, script])
        (sound_recv_script h (.data d) (m.items ++ [.data d]) (by rw [toks_append]; rfl)
          (fun _ e h0 => by cases e; rw [h0] at hd; exact hd rfl))
  | netEagain =>
    exact accepted .ok (by simp [stepOp, hbad]) (by simp [monStep, Out.ans, expect])
      (sound_recv_script h .eagain m.items (List.append_nil _).symm (fun _ e => by cases e))
  | netEof =>
    exact accepted .ok (by simp [stepOp, hbad]) (by simp [monStep, Out.ans, script])
      (sound_recv_script h .eof (m.items ++ [.eof]) (by rw [toks_append]; rfl) (fun _ e => by cases e))
  | netErr =>
    exact accepted .ok (by simp [stepOp, hbad]) (by simp [monStep, Out.ans, script])
      (sound_recv_script h .err (m.items ++ [.err]) (by rw [toks_append]; rfl) (fun _ e => by cases e))
  | netAccept n =>
    by_cases hn : n = 0
    · exact refused h .badOp (by simp [stepOp, hbad, hn]) (by simp [monStep, hn, Out.ans, expect])
    · exact accepted .ok (by simp [stepOp, hbad, hn]) (by simp [monStep, hn, Out.ans, script])
        (sound_send_script h (.accept n) (fun _ e => by cases e; omega))
  | netWeagain =>
    exact accepted .ok (by simp [stepOp, hbad]) (by simp [monStep, Out.ans, script])
      (sound_send_script h .eagain (fun _ e => by cases e))
  | netSendfail =>
    exact accepted .ok (by simp [stepOp, hbad]) (by simp [monStep, Out.ans, script])
      (sound_send_script h .fail (fun _ e => by cases e))
  -- writer calls: refused when the reservation state does not allow them, otherwise by the writer lemma of the call
  | wReserve n =>
    cases hmr : m.resv with
    | some n0 =>
      exact refused h .contract (by simp [stepOp, hbad, hresv n0 hmr]) (by simp [monStep, hmr, Out.ans, expect])
    | none =>
      have hrr : ResvRel s.w none := hmr ▸ hw.resv
      have hres : s.w.reserved = false := hrr
      obtain ⟨w', e, hi', hr', hpd, hf', hc'⟩ := reserve_spec hw.inv hrr n
      have hst : stepOp s (.wReserve n) = ({ s with wresv := n, w := w' }, .okW w') := by
        simp [stepOp, hbad, hres, e, wOp]
      rw [hst]
      refine ⟨{ m with resv := some n }, by simp [monStep, hmr, Out.ans], ?_⟩
      have hD : D { s with wresv := n, w := w' } = D s := by simp only [D, hpd]
      refine sound_of_writer h hbad ⟨hi', hr', fun n' hn' => by simpa using hn', by rw [hw.failed]; exact hf'.symm, hw.wq,
        hw.acc, posOK_of_call hw.pos hi' rfl (fun wb hc => by show w'.curr = _; rw [hc', hc]), ?_, ?_⟩
        (h.hist.2.step _ _ (step_reserve e))
      · intro hf
        show m.pending = _
        rw [hD]; exact hw.pend (by rw [← hf']; exact hf)
      · intro hf
        exact hw.pendF (by rw [← hf']; exact hf)
  | wConsume d =>
    cases hmr : m.resv with
    | none =>
      have hres : s.w.reserved = false := (hmr ▸ hw.resv : ResvRel s.w none)
      exact refused h .contract (by simp [stepOp, hbad, hres]) (by simp [monStep, hmr, Out.ans, expect])
    | some n =>
      have hrr : ResvRel s.w (some n) := hmr ▸ hw.resv
      have hres : s.w.reserved = true := hrr.1
      have hwr : s.wresv = n := hw.wresv n hmr
      by_cases hd : d.length ≤ n
      · obtain ⟨w', e, hi', hr', hf', hpd, _, hcur⟩ := consume_spec hw.inv n hrr d hd
        have hst : stepOp s (.wConsume d) = ({ s with w := w' }, .okW w') := by
          simp [stepOp, hbad, hres, hwr, e, wOp]; omega
        rw [hst]
        refine ⟨{ m with resv := none, pending := if m.failed then m.pending else m.pending ++ d }, ?_, ?_⟩
        · simp only [Out.ans, monStep, hmr]
          rw [if_neg (by omega), if_pos trivial]
        · exact sound_of_writer h hbad ⟨hi', hr', fun n' hn' => by simp at hn', by rw [hw.failed]; exact hf'.symm, hw.wq,
            hw.acc, posOK_of_call hw.pos hi' rfl hcur,
            (pending_write hw d hf' hpd).1, (pending_write hw d hf' hpd).2⟩
            (h.hist.2.step _ _ (step_consume e))
      · refine refused h .contract (by simp [stepOp, hbad, hres, hwr]; omega) ?_
        simp only [Out.ans, monStep, hmr]
        rw [if_pos (by omega)]
        simp [expect]
  | wWrite d =>
    cases hmr : m.resv with
    | some n0 =>
      exact refused h .contract (by simp [stepOp, hbad, hresv n0 hmr]) (by simp [monStep, hmr, Out.ans, expect])
    | none =>
      have hrr : ResvRel s.w none := hmr ▸ hw.resv
      have hres : s.w.reserved = false := hrr
      obtain ⟨w', e, hi', hr', hf', hpd, _, hcur⟩ := write_spec hw.inv hrr d
      have hst : stepOp s (.wWrite d) = ({ s with w := w' }, .okW w') := by
        simp [stepOp, hbad, hres, e, wOp]
      rw [hst]
      refine ⟨{ m with pending := if m.failed then m.pending else m.pending ++ d }, by simp [monStep, hmr, Out.ans], ?_⟩
      exact sound_of_writer h hbad ⟨hi', by rw [hmr]; exact hr', hw.wresv, by rw [hw.failed]; exact hf'.symm, hw.wq,
        hw.acc, posOK_of_call hw.pos hi' rfl hcur,
        (pending_write hw d hf' hpd).1, (pending_write hw d hf' hpd).2⟩
        (h.hist.2.step _ _ (step_write e))
  -- the event loop: `spinR_sound` for the records, then `spinW_sound` and `judgeSend_ok` for what the peer got
  | spin =>
    cases hmr : m.resv with
    | some n0 =>
      exact refused h .contract (by simp [stepOp, hbad, hresv n0 hmr]) (by simp [monStep, hmr, Out.ans, expect])
    | none =>
      have hrr : ResvRel s.w none := hmr ▸ hw.resv
      have hres : s.w.reserved = false := hrr
      rw [stepOp_spin s hbad hres]
      simp only []
      obtain ⟨new, m1, a1, e1, _, hj1, hr1, hh1, hb1, hq1, hsw1, hmw1⟩ :=
        spinR_sound (s.loopN + rqWeight s.rq + 2) s m a [] hr h.hist.1 hbad (by unfold need; split <;> omega)
      generalize spinR (s.loopN + rqWeight s.rq + 2) s [] = X at e1 hr1 hh1 hb1 hq1 hsw1 ⊢
      obtain ⟨s1, recs⟩ := X
      simp only [List.nil_append] at e1
      subst e1
      simp only at hr1 hh1 hb1 hq1 hsw1 ⊢
      have hhw1 : WHist s1.w := hsw1.1 ▸ h.hist.2
      have hjr : judgeRecs m (recs.map convRec) = (m1, none) := by
        have := hj1 []
        rw [List.append_nil] at this
        rw [this]; exact judgeRecs_nil_of_quiet hr1 hq1
      have hw1 : WRel s1 m1 := hw.of_same hsw1 hmw1
      have hmr1 : m1.resv = none := by rw [hmw1.2.2.2]; exact hmr
      have hrr1 : ResvRel s1.w none := hmr1 ▸ hw1.resv
      cases hf1 : s1.w.failed with
      | true =>
        have hc1 := hw1.inv.failedIdle hf1
        rw [spinW_idle s1 s1.wq [] 0 0 hc1]
        simp only [hb1]
        refine ⟨m1, ?_, ?_⟩
        · rw [ans_spin]
          simp only [monStep, hmr, Option.isSome_none, Bool.false_eq_true, if_false, hjr, List.length_nil]
          exact judgeSend_failed m1 (by rw [hw1.failed]; exact hf1)
        · exact ⟨rfl, ⟨a1, hr1.of_same ⟨rfl, rfl, rfl, rfl, rfl, rfl⟩ ⟨rfl, rfl, rfl, rfl, rfl, rfl⟩⟩,
            hw1.of_same ⟨rfl, rfl, rfl, rfl⟩ ⟨rfl, rfl, rfl, rfl⟩, hh1, hhw1⟩
      | false =>
        have hY := spinW_sound s1.wq s1 [] 0 0 hw1.inv hhw1 hrr1 hw1.pos hb1 hf1 hw1.acc
        generalize spinW s1 s1.wq [] 0 0 = Y at hY ⊢
        obtain ⟨s2, peer, fails, used⟩ := Y
        obtain ⟨k, delta, fc, hk, epeer, efails, eused, hwq2, hinv2, hhw2, hresv2, hpos2, hbad2, hsame2, hwresv2, hsend⟩ := hY
        simp only [List.nil_append, Nat.zero_add] at epeer efails eused hwq2 hinv2 hresv2 hpos2 hbad2 hsame2 hwresv2 hsend
        subst epeer efails eused
        simp only [hbad2]
        rw [← hw1.pend hf1, ← hw1.wq] at hsend
        obtain ⟨m2, hjs, mpend, mwq, mfailed, mresv, msame⟩ :=
          judgeSend_ok m1 (D s2) s2.w.failed used peer fails (by rw [hw1.failed]; exact hf1)
            (by rw [hw1.wq]; exact hk) hsend
        refine ⟨m2, ?_, ?_⟩
        · rw [ans_spin]
          simp only [monStep, hmr, Option.isSome_none, Bool.false_eq_true, if_false, hjr]
          exact hjs
        · refine ⟨hbad2, ⟨a1, hr1.of_same hsame2 msame⟩, ⟨hinv2, (by rw [mresv, hmr1]; exact hresv2),
            (fun n hn => by rw [mresv, hmr1] at hn; cases hn), mfailed, (by rw [mwq, hw1.wq, hwq2]), ?_, hpos2, ?_, ?_⟩,
            hsame2.1 ▸ hh1, hhw2⟩
          · intro n hn
            rw [hwq2] at hn
            exact hw1.acc n (List.mem_of_mem_drop hn)
          · intro hf
            rw [mpend, hf]; rfl
          · intro hf
            rw [mpend, hf]; rfl

theorem run_sound (ops : List Op) : ∀ (s : XSt) (m : MSt), Sound s m →
    acceptsRun m (ops.zip ((runOps s ops).2.map Out.ans)) = true ∧ ∃ m', Sound (runOps s ops).1 m' := by
  induction ops with
  | nil => intro s m h; exact ⟨rfl, m, h⟩
  | cons op ops ih =>
    intro s m h
    obtain ⟨m', e, h'⟩ := step_sound s m h op
    obtain ⟨i1, i2⟩ := ih _ m' h'
    refine ⟨?_, i2⟩
    simp only [runOps, List.map_cons, List.zip_cons_cons, acceptsRun, e]
    exact i1

theorem run_all {P : Out → Prop} (hP : ∀ s m, Sound s m → ∀ op, P (stepOp s op).2) (ops : List Op) :
    ∀ (s : XSt) (m : MSt), Sound s m → ∀ o ∈ (runOps s ops).2, P o := by
  induction ops with
  | nil => intro s m _ o ho; simp [runOps] at ho
  | cons op ops ih =>
    intro s m h o ho
    obtain ⟨m', _, h'⟩ := step_sound s m h op
    simp only [runOps, List.mem_cons] at ho
    rcases ho with rfl | ho
    · exact hP s m h op
    · exact ih _ m' h' o ho

/-- every callback record of a `spin` line could be printed (no `0:<a>:model-oob`) -/
def OutReadable : Out → Prop
  | .spin recs _ _ _ _ _ _ => ∀ r ∈ recs, Readable r
  | _ => True

/-- what a line other than `spin` answers: no callback records, and `peek` shows its bytes through `shownOf` -/
def Plain : Out → Prop
  | .spin .. => False
  | .peek n sh _ => ∃ b, sh = shownOf b n
  | _ => True

theorem rOp_plain (s : XSt) (res : Res NetbufRead.R) : Plain (rOp s res).2 := by
  unfold rOp; split <;> trivial

theorem wOp_plain (s : XSt) (res : Res NetbufWrite.W) : Plain (wOp s res).2 := by
  unfold wOp; split <;> trivial

theorem stepOp_plain (s : XSt) (op : Op) (hop : op ≠ .spin) : Plain (stepOp s op).2 := by
  unfold stepOp
  split
  · trivial
  · cases op with
    | spin => exact absurd rfl hop
    | rPeek =>
      simp only []
      split
      · exact ⟨_, rfl⟩
      · trivial
    | _ =>
      simp only []
      (repeat' split) <;> first | trivial | exact rOp_plain _ _ | exact wOp_plain _ _

theorem Plain.readable {o : Out} (h : Plain o) : OutReadable o := by
  cases o with
  | spin => exact h.elim
  | _ => trivial

theorem step_readable (s : XSt) (m : MSt) (h : Sound s m) (op : Op) : OutReadable (stepOp s op).2 := by
  by_cases hop : op = .spin
  · subst hop
    by_cases hres : s.w.reserved = true
    · have hst : stepOp s .spin = (s, .contract) := by simp [stepOp, h.bad, hres]
      rw [hst]; trivial
    · rw [stepOp_spin s h.bad (by simpa using hres)]
      simp only []
      obtain ⟨a, hr⟩ := h.r
      obtain ⟨new, m1, a1, e1, hrd, _⟩ :=
        spinR_sound (s.loopN + rqWeight s.rq + 2) s m a [] hr h.hist.1 h.bad (by unfold need; split <;> omega)
      split
      · trivial
      · show ∀ r ∈ _, Readable r
        rw [e1]; simpa using hrd
  · exact (stepOp_plain s op hop).readable

theorem run_readable (ops : List Op) : ∀ (s : XSt) (m : MSt), Sound s m →
    ∀ o ∈ (runOps s ops).2, OutReadable o :=
  run_all step_readable ops

theorem monStep_other (m : MSt) (op : Op) : (monStep m op .other).2 ≠ none := by
  cases op <;> simp [monStep, expect, script] <;> (repeat' split) <;> simp

theorem run_no_failed (ops : List Op) : ∀ (s : XSt) (m : MSt), Sound s m →
    ∀ o ∈ (runOps s ops).2, ∀ f, o ≠ .failed f :=
  run_all (P := fun o => ∀ f, o ≠ .failed f) (fun s m h op f hf => by
    obtain ⟨m', e, _⟩ := step_sound s m h op
    rw [hf] at e
    exact monStep_other m op (congrArg Prod.snd e)) ops

end Percival.Proofs.NetbufMonSound
