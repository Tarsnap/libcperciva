import Percival.Model.GetoptStep
import Percival.Proofs.Ascii
/-!
# C18 helper lemmas: the option tables of `harness/h_getopt.c` are well-formed (they register without dying),
so `parse_follows_grammar` applies to every `parse` line of `pmodel getopt`.
-/
namespace Percival.Proofs.GetoptTables
open Percival.Model.Getopt Percival.Spec.Getopt Percival.Model.GetoptStep

def validNameB : Str → Bool
  | [d, c] => d == dash && c != dash
  | d1 :: d2 :: _ :: _ => d1 == dash && d2 == dash
  | _ => false

theorem validNameB_sound (n : Str) (h : validNameB n = true) : ValidName n := by
  match n, h with
  | [d, c], h =>
    simp only [validNameB, Bool.and_eq_true, beq_iff_eq, bne_iff_ne, ne_eq] at h
    exact Or.inl ⟨c, by rw [h.1], h.2⟩
  | d1 :: d2 :: c :: cs, h =>
    simp only [validNameB, Bool.and_eq_true, beq_iff_eq] at h
    exact Or.inr ⟨c, cs, by rw [h.1, h.2]⟩

def wfB (T : Table) : Bool :=
  T.opts.all (fun o => validNameB o.name && o.name.all (· != 0)) &&
  decide (T.opts.Pairwise fun earlier later => matchOpt earlier later.name = none)

theorem wfB_sound (T : Table) (h : wfB T = true) : T.WF := by
  simp only [wfB, Bool.and_eq_true, List.all_eq_true, bne_iff_ne, ne_eq, decide_eq_true_eq] at h
  exact ⟨fun o ho => ⟨validNameB_sound _ (h.1 o ho).1, (h.1 o ho).2⟩, h.2⟩

/-- `b` computed from the UTF-8 bytes of the text where these are ASCII -/
def bytesOf (s : String) : Str :=
  if s.toUTF8.data.toList.all (· < 128) then s.toUTF8.data.toList else b s

theorem b_eq_bytesOf : b = bytesOf := funext fun s => by
  unfold bytesOf
  split
  · exact Ascii.toList_map_eq_utf8 s ‹_›
  · rfl

/-- One evaluation over all nine tables, by the kernel, with the names read off their bytes: t8 has a 300-character
name, and `String.toList` (UTF-8 decoding) is slow to evaluate on it. -/
theorem tables_wf : ∀ lines ∈ tables, (tableOf lines).WF := fun lines h =>
  wfB_sound _ (List.all_eq_true.mp (by rw [tables, b_eq_bytesOf]; decide +kernel : tables.all (wfB ∘ tableOf) = true) lines h)

end Percival.Proofs.GetoptTables
