import Percival.Proofs.CrcWord
/-! `Model.Crc32c` computes `Spec.Crc32c.crc32c`, for every way of splitting the data across
`CRC32C_Update` calls; `Valid data crc` holds of `crc32c data` only (`valid_unique`, `valid_iff`); and
`crc32c` and RFC 3720's `iscsi` as the bit-serial word register (`crc32c_eq_bitStep`,
`iscsi_eq_bitStep`), the form the known-answer tests evaluate. -/
namespace Percival.Proofs.CrcMain
open Percival.Spec Percival.Spec.Crc32c Percival.Proofs.CrcPoly Percival.Proofs.CrcWord Percival.Proofs.Bits
open Percival.Model.Crc32c

theorem bytesLoop_bits (s : UInt32) (data : Bytes) : bytesLoop s data = (bitsLSB data).foldl bitStep s := by
  induction data generalizing s with
  | nil => rfl
  | cons b rest ih =>
    simp only [bytesLoop, bitsLSB, List.flatMap_cons, List.foldl_append]
    rw [ih, step1_bits]
    rfl

theorem update_eq_bytesLoop (s : UInt32) (data : Bytes) : update s data = bytesLoop s data := by
  fun_induction update s data with
  | case1 s b0 b1 b2 b3 rest ih => rw [ih, step4_eq]; rfl
  | case2 s bs h => rfl

theorem update_bits (s : UInt32) (data : Bytes) : update s data = (bitsLSB data).foldl bitStep s := by
  rw [update_eq_bytesLoop, bytesLoop_bits]

theorem bitsLSB_append (a b : Bytes) : bitsLSB (a ++ b) = bitsLSB a ++ bitsLSB b := by
  simp [bitsLSB]

theorem update_chunks (s : UInt32) (chunks : List Bytes) :
    chunks.foldl update s = update s chunks.flatten := by
  induction chunks generalizing s with
  | nil => rfl
  | cons c cs ih =>
    simp only [List.foldl_cons, List.flatten_cons]
    rw [ih, update_bits, update_bits, update_bits, bitsLSB_append, List.foldl_append]

/-! ### `CRC32C_Final`: the state, little-endian, is the register's coefficients as bytes -/

theorem byte_bits (b : UInt8) : byteOfBits (bitsOfByte b) = b := by
  rw [show byteOfBits (bitsOfByte b) = UInt8.ofNat (lsb ((bitsOfByte b).take 8)) from rfl,
    List.take_of_length_le (by simp [bitsOfByte]), lsb_bitsOfByte, UInt8.ofNat_toNat]

theorem byteOfBits_append (b : UInt8) (rest : List Bool) : byteOfBits (bitsOfByte b ++ rest) = b := by
  rw [byteOfBits_take]
  have : (bitsOfByte b ++ rest).take 8 = bitsOfByte b := by
    rw [List.take_append_of_le_length (by simp [bitsOfByte])]
    exact List.take_of_length_le (by simp [bitsOfByte])
  rw [this, byte_bits]

theorem bytes_bits (l : Bytes) : bytesOfBits l.length (bitsLSB l) = l := by
  induction l with
  | nil => rfl
  | cons b rest ih =>
    simp only [bitsLSB, List.flatMap_cons, List.length_cons] at ih ⊢
    have hne : bitsOfByte b ++ List.flatMap bitsOfByte rest ≠ [] := by simp [bitsOfByte]
    generalize hx : bitsOfByte b ++ List.flatMap bitsOfByte rest = x at *
    cases x with
    | nil => exact absurd rfl hne
    | cons y ys =>
      simp only [bytesOfBits]
      rw [← hx, byteOfBits_append, List.drop_append_of_le_length (by simp [bitsOfByte])]
      have : (bitsOfByte b).drop 8 = [] := List.drop_of_length_le (by simp [bitsOfByte])
      rw [this, List.nil_append, ih]

/-- the byte `final` stores at offset `k / 8`, as bits -/
theorem bitsOfByte_shr (s k : UInt32) (hk : k.toNat < 32) :
    bitsOfByte ((s >>> k) &&& 0xff).toUInt8 = (List.range 8).map fun j => s.toNat.testBit (k.toNat + j) := by
  refine List.map_congr_left fun j hj => ?_
  have hj : j < 8 := List.mem_range.mp hj
  simp only [UInt32.toNat_toUInt8, UInt32.toNat_and, UInt32.toNat_shiftRight, Nat.mod_eq_of_lt hk]
  rw [show (255 : UInt32).toNat = 2^8 - 1 by rfl, Nat.and_two_pow_sub_one_eq_mod, Nat.mod_mod_of_dvd _ (by decide),
    Nat.testBit_mod_two_pow, Nat.testBit_shiftRight]
  simp [hj]

theorem bits_final (s : UInt32) : bitsLSB (final s) = coeffs s := by
  have h0 := bitsOfByte_shr s 0 (by decide)
  rw [show s >>> 0 = s by apply UInt32.toNat_inj.mp; simp] at h0
  rw [final, bitsLSB, List.flatMap_cons, List.flatMap_cons, List.flatMap_cons, List.flatMap_cons, List.flatMap_nil,
    h0, bitsOfByte_shr s 8 (by decide), bitsOfByte_shr s 16 (by decide), bitsOfByte_shr s 24 (by decide),
    coeffs, show 32 = 8 + (8 + (8 + 8)) from rfl, List.range_add, List.range_add, List.range_add]
  simp [List.map_append, Function.comp_def, ← Nat.add_assoc]
theorem final_eq (s : UInt32) : final s = bytesOfBits 4 (coeffs s) := by
  have h := bytes_bits (final s)
  rw [bits_final] at h
  exact h.symm

theorem model_eq_spec (data : Bytes) : final (update init data) = crc32c data := by
  rw [final_eq, update_bits, coeffs_run, crc32c_eq]

theorem crc32c_eq_bitStep (data : Bytes) : crc32c data = final ((bitsLSB data).foldl bitStep init) := by
  rw [← model_eq_spec, update_bits]

/-- the register on `Nat` (`OnNat`), a byte at a time: the form the known-answer tests evaluate -/
def crcN (r : Nat) (data : Bytes) : Nat := data.foldl (fun s b => OnNat.A (Nat.xor s b.toNat)) r

theorem update_eq_crcN (s : UInt32) (data : Bytes) : update s data = UInt32.ofNat (crcN s.toNat data) := by
  rw [update_eq_bytesLoop]
  induction data generalizing s with
  | nil => exact (UInt32.ofNat_toNat).symm
  | cons b rest ih =>
    rw [bytesLoop, ih, step1_eq, toNat_A, UInt32.toNat_xor, UInt8.toNat_toUInt32, crcN, crcN, List.foldl_cons]
    rfl

theorem crc32c_eq_crcN (data : Bytes) : crc32c data = final (UInt32.ofNat (crcN init.toNat data)) := by
  rw [← model_eq_spec, update_eq_crcN]

theorem coeffs_not (r : UInt32) : coeffs (~~~r) = (coeffs r).map (!·) := by
  apply List.ext_getElem
  · simp [coeffs]
  · intro i h1 h2
    have hi : i < 32 := by simpa [coeffs] using h1
    simp only [coeffs, List.getElem_map, List.getElem_range, UInt32.toNat_not]
    rw [show UInt32.size - 1 - r.toNat = 2 ^ 32 - (r.toNat + 1) by have := r.toNat_lt; simp only [UInt32.size]; omega,
      Nat.testBit_two_pow_sub_succ r.toNat_lt, decide_eq_true hi, Bool.true_and]

theorem iscsi_eq_bitStep (data : Bytes) :
    iscsi data = final (~~~ (bitsLSB data).foldl bitStep 0xffffffff) := by
  have hones : coeffs 0xffffffff = List.replicate 32 true := by decide
  have hfold := reduce_eq_fold castagnoli.tail (by rw [castagnoli_tail_length]; decide) (bitsLSB data)
    (List.replicate 32 true) (by rw [castagnoli_tail_length]; simp)
  rw [castagnoli_tail_length, zx_comm] at hfold
  have hlen : (bitsLSB data ++ List.replicate 32 false).length - (List.replicate 32 true).length =
      (bitsLSB data).length := by simp
  have hn : (bitsLSB data ++ List.replicate 32 false).length + 1 - castagnoli.length = (bitsLSB data).length := by
    simp [castagnoli, bitsMSB32]
  rw [final_eq, coeffs_not, coeffs_fold, hones, ← hfold, iscsi, mod, addFront_eq_zx_pad _ _ (by simp), hlen,
    zx_comm (List.replicate 32 true ++ _), zx_length _ _ (by simp), hn]
theorem iscsi_eq_crcN (data : Bytes) : iscsi data = final (~~~ UInt32.ofNat (crcN 0xffffffff data)) := by
  rw [iscsi_eq_bitStep, ← update_bits, update_eq_crcN]
  rfl

theorem zx_eq_zeros (a b : Poly) (h : a.length = b.length) (hz : ∀ x ∈ zx a b, x = false) : a = b := by
  induction a generalizing b with
  | nil => cases b with
    | nil => rfl
    | cons _ _ => simp at h
  | cons x xs ih =>
    cases b with
    | nil => simp at h
    | cons y ys =>
      simp only [zx_cons, List.mem_cons, forall_eq_or_imp] at hz
      rw [ih ys (Nat.succ.inj h) hz.2, show x = y by revert hz; cases x <;> cases y <;> simp]

theorem valid_unique (data crc : Bytes) (h : Valid data crc) : crc = crc32c data := by
  obtain ⟨hl, hm⟩ := h
  have hcl : (bitsLSB crc).length = 32 := by rw [bitsLSB_length, hl]
  unfold IsMultiple codeword mod at hm
  have hn : (true :: (bitsLSB data ++ bitsLSB crc)).length + 1 - castagnoli.length = (true :: bitsLSB data).length := by
    simp [hcl, castagnoli, bitsMSB32]
  rw [hn] at hm
  have hsplit : true :: (bitsLSB data ++ bitsLSB crc) =
      zx ((true :: bitsLSB data) ++ List.replicate 32 false)
        (List.replicate (true :: bitsLSB data).length false ++ bitsLSB crc) := by
    rw [zx_append _ _ _ _ (by simp), zx_zeros_right, ← hcl, zx_zeros_left]; rfl
  rw [hsplit, reduce_zx _ _ _ _ (by simp [hcl]), reduce_zeros] at hm
  have := zx_eq_zeros _ _ (by rw [← rem, rem_length, hcl]) hm
  rw [crc32c_eq, rem, this]
  have := bytes_bits crc
  rw [hl] at this
  exact this.symm

theorem valid_iff (data crc : Bytes) : Valid data crc ↔ crc = crc32c data :=
  ⟨valid_unique data crc, fun h => h ▸ spec_valid data⟩

end Percival.Proofs.CrcMain
