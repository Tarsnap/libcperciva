import Percival.Proofs.CpuAesSpec
/-! Shapes of `Spec.Aes` (16-byte blocks and round keys from well-formed input), read off the lane transcription
`Model.CpuAesni.Fips`, in which they hold by typing: a byte string of length 16 is `R.bytes` of a register, and
`Proofs/CpuAesSpec` carries the cipher and the key schedule across. -/
namespace Percival.Proofs.Aes
open Percival.Spec.Aes Percival.Model.CpuAesni Percival.Proofs.CpuAesSpec

theorem rounds_cons (rk : List UInt8) (rest : List (List UInt8)) (s : List UInt8) (h : rest ≠ []) :
    rounds (rk :: rest) s = rounds rest (round s rk) := by
  match rest, h with
  | r :: rs, _ => rfl

theorem nextWord_rot {nk i : Nat} (prev back : List UInt8) (h : i % nk = 0) :
    nextWord nk i prev back = xorBytes back (xorBytes (subWord (rotWord prev)) (rcon (i / nk))) := by
  simp only [nextWord, if_pos h]

theorem nextWord_sub {nk i : Nat} (prev back : List UInt8) (h6 : nk > 6) (h : i % nk = 4) :
    nextWord nk i prev back = xorBytes back (subWord prev) := by
  simp only [nextWord, if_neg (show ¬ i % nk = 0 by omega), if_pos (And.intro h6 h)]

theorem nextWord_plain {nk i : Nat} (prev back : List UInt8) (h0 : i % nk ≠ 0) (h4 : i % nk ≠ 4) :
    nextWord nk i prev back = xorBytes back prev := by
  simp only [nextWord, if_neg h0, if_neg (show ¬ (nk > 6 ∧ i % nk = 4) from fun h => h4 h.2)]

theorem exists_regs : ∀ rks : List (List UInt8), (∀ rk ∈ rks, rk.length = 16) → ∃ rs : List R, rs.map R.bytes = rks
  | [], _ => ⟨[], rfl⟩
  | rk :: rks, h => by
    obtain ⟨r, _, hr⟩ := ofBytes_bytes rk (h rk List.mem_cons_self)
    obtain ⟨rs, hrs⟩ := exists_regs rks fun x hx => h x (List.mem_cons_of_mem _ hx)
    exact ⟨r :: rs, by rw [List.map_cons, hr, hrs]⟩

theorem cipher_length (rks : List (List UInt8)) (blk : List UInt8) (h2 : 2 ≤ rks.length)
    (hk : ∀ rk ∈ rks, rk.length = 16) (hb : blk.length = 16) : (cipher rks blk).length = 16 := by
  obtain ⟨rs, rfl⟩ := exists_regs rks hk
  obtain ⟨b, _, rfl⟩ := ofBytes_bytes blk hb
  have hc := cipher_bytes rs b (by rwa [List.length_map] at h2)
  cases hf : Fips.cipher rs b with
  | none => rw [hf] at hc; cases hc
  | some c => rw [hf] at hc; rw [← Option.some.inj hc]; rfl

theorem keyExpansion_spec (key : List UInt8) (h : key.length = 16 ∨ key.length = 32) :
    (keyExpansion key).length = key.length / 4 + 7 ∧ ∀ rk ∈ keyExpansion key, rk.length = 16 := by
  rw [← roundKeys_eq_spec key h]
  refine ⟨by rw [List.length_map, roundKeys_count key h], fun rk hrk => ?_⟩
  obtain ⟨r, _, rfl⟩ := List.mem_map.mp hrk
  rfl

theorem encryptBlock_length (key blk : List UInt8) (h : key.length = 16 ∨ key.length = 32)
    (hb : blk.length = 16) : (encryptBlock key blk).length = 16 := by
  have := keyExpansion_spec key h
  exact cipher_length _ _ (by rw [this.1]; omega) this.2 hb

end Percival.Proofs.Aes
