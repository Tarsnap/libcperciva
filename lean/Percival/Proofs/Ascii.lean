/-! The characters of a string all of whose UTF-8 bytes are below 128 are those bytes.

`String.toList` decodes UTF-8, which is slow to evaluate on a literal; the bytes of a literal are at hand.  A model
that turns ASCII text into bytes through `toList` can therefore be evaluated on the bytes instead. -/
namespace Percival.Proofs.Ascii

/-- a character outside ASCII is encoded with a first byte of at least 192 -/
theorem utf8EncodeChar_head (c : Char) (hc : ¬c.val.toNat ≤ 127) : ∃ x ∈ String.utf8EncodeChar c, ¬x < 128 := by
  have big : ∀ n, 192 ≤ n → n < 256 → ¬UInt8.ofNat n < 128 := fun n h1 h2 => by
    rw [UInt8.lt_iff_toNat_lt, UInt8.toNat_ofNat']
    show ¬n % 256 < 128
    omega
  unfold String.utf8EncodeChar
  simp only [if_neg hc]
  split
  · exact ⟨_, List.mem_cons_self, big _ (by omega) (by omega)⟩
  · split
    · exact ⟨_, List.mem_cons_self, big _ (by omega) (by omega)⟩
    · exact ⟨_, List.mem_cons_self, big _ (by omega) (by omega)⟩

theorem utf8EncodeChar_ascii (c : Char) (h : ∀ x ∈ String.utf8EncodeChar c, x < 128) :
    String.utf8EncodeChar c = [UInt8.ofNat c.toNat] := by
  have hc : c.val.toNat ≤ 127 := Decidable.byContradiction fun hc =>
    (utf8EncodeChar_head c hc).elim fun x hx => hx.2 (h x hx.1)
  unfold String.utf8EncodeChar
  simp only [if_pos hc]
  rfl

theorem map_eq_flatMap_utf8 (l : List Char) (h : ∀ x ∈ l.flatMap String.utf8EncodeChar, x < 128) :
    l.map (fun c => UInt8.ofNat c.toNat) = l.flatMap String.utf8EncodeChar := by
  induction l with
  | nil => rfl
  | cons c l ih =>
    rw [List.flatMap_cons] at h ⊢
    rw [List.map_cons, utf8EncodeChar_ascii c fun x hx => h x (List.mem_append_left _ hx),
      ih fun x hx => h x (List.mem_append_right _ hx)]
    rfl

theorem toList_map_eq_utf8 (s : String) (h : s.toUTF8.data.toList.all (· < 128) = true) :
    s.toList.map (fun c => UInt8.ofNat c.toNat) = s.toUTF8.data.toList := by
  obtain ⟨l, rfl⟩ := s.exists_eq_ofList
  have e : (String.ofList l).toUTF8.data.toList = l.flatMap String.utf8EncodeChar := by
    rw [String.toUTF8, String.toByteArray_ofList, List.utf8Encode, List.data_toByteArray, List.toList_toArray]
  rw [e] at h ⊢
  rw [String.toList_ofList]
  exact map_eq_flatMap_utf8 l fun x hx => of_decide_eq_true (List.all_eq_true.mp h x hx)

theorem toList_loop (bs : ByteArray) (i : Nat) (r : List UInt8) :
    ByteArray.toList.loop bs i r = r.reverse ++ bs.data.toList.drop i := by
  induction k : bs.size - i generalizing i r with
  | zero =>
    have hi : bs.data.toList.length ≤ i := by rw [Array.length_toList]; exact Nat.le_of_sub_eq_zero k
    rw [ByteArray.toList.loop, if_neg (Nat.not_lt.mpr (Nat.le_of_sub_eq_zero k)), List.drop_of_length_le hi,
      List.append_nil]
  | succ k ih =>
    have hi : i < bs.size := by omega
    have hi' : i < bs.data.toList.length := by rw [Array.length_toList]; exact hi
    rw [ByteArray.toList.loop, if_pos hi, ih (i+1) _ (by omega), List.reverse_cons, List.append_assoc,
      List.drop_eq_getElem_cons hi']
    congr 2
    simpa [ByteArray.get!] using getElem!_pos bs.data i hi

/-- the UTF-8 bytes of a text, without going through `ByteArray.toList` (a loop by well-founded recursion) -/
theorem toUTF8_toList_ofList (l : List Char) : (String.ofList l).toUTF8.toList = l.flatMap String.utf8EncodeChar := by
  rw [ByteArray.toList, toList_loop, List.reverse_nil, List.nil_append, List.drop_zero, String.toUTF8,
    String.toByteArray_ofList, List.utf8Encode, List.data_toByteArray, List.toList_toArray]

end Percival.Proofs.Ascii
