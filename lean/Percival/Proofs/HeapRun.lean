import Percival.Proofs.HeapCreate
import Percival.Model.HeapRun
/-!
# C13: every reachable state; the model's traces are accepted by the monitor
-/
namespace Percival.Proofs.Heap
open Percival.Model Percival.Model.Heap Percival.Model.HeapRun Percival.Spec Percival.Spec.PQ

structure Reach (s : St) : Prop where
  inv : Inv s.key s.h
  perm : s.h.a.toList.Perm s.live

theorem isLeast_perm {key : Nat → Int} {l l' : List Nat} {e : Nat} (hp : l.Perm l')
    (h : IsLeast key l e) : IsLeast key l' e :=
  ⟨hp.mem_iff.mp h.1, fun x hx => h.2 x (hp.mem_iff.mpr hx)⟩

theorem Inv.handle_valid {key : Nat → Int} {h : Heap} (hi : Inv key h) {e : Nat} (he : e ∈ h.a.toList) :
    ∃ rc, posOf h e = some rc ∧ h.a[rc]? = some e :=
  let ⟨rc, hrc⟩ := (mem_iff_get _ _).mp he
  ⟨rc, hi.handles rc e hrc, hrc⟩

theorem upd_ne (key : Nat → Int) (e x : Nat) (k : Int) (h : x ≠ e) : upd key e k x = key x := by
  simp [upd, h]

theorem upd_eq (key : Nat → Int) (e : Nat) (k : Int) : upd key e k e = k := by
  simp [upd]

theorem perm_erase_of_cons {l l' : List Nat} {x : Nat} (h : l.Perm (x :: l')) : (l.erase x).Perm l' := by
  have := h.erase x
  simpa using this

theorem perm_live_erase {a a' live : List Nat} {x : Nat} (hp : a.Perm live) (hperm : a.Perm (x :: a')) :
    a'.Perm (live.erase x) :=
  (perm_erase_of_cons (hp.symm.trans hperm)).symm

theorem live_nil_of_getmin_none {h : Heap} {live : List Nat} (hp : h.a.toList.Perm live)
    (hg : getmin h = none) : live = [] := by
  rw [(getmin_none_iff h).mp hg] at hp
  exact hp.symm.eq_nil

theorem drainList_ok (key : Nat → Int) (fuel : Nat) (h : Heap) (live : List Nat) (hi : Inv key h)
    (hp : h.a.toList.Perm live) (hs : h.a.size = fuel) :
    drainOk key live (drainList key fuel h) = true := by
  induction fuel generalizing h live with
  | zero =>
    have : h.a = #[] := Array.eq_empty_of_size_eq_zero hs
    rw [this] at hp
    have : live = [] := by simpa using hp
    subst this
    simp [drainList, drainOk]
  | succ fuel ih =>
    obtain ⟨h', x, hdel, hi', hx, _, hperm, hsz⟩ := delete_spec key h 0 hi (by omega)
    have hg : getmin h = some x := hx
    have hdm : deletemin key h = some h' := hdel
    simp only [drainList, hg, hdm, drainOk, Bool.and_eq_true]
    constructor
    · rw [isLeast_iff]; exact isLeast_perm hp (getmin_isLeast key h x hi hg)
    · apply ih h' _ hi'
      · exact perm_live_erase hp hperm
      · omega

theorem step_ok (s : St) (op : Op) (hr : Reach s) :
    Reach (step s op).1 ∧
    monStep ⟨s.key, s.live⟩ op (step s op).2 = (⟨(step s op).1.key, (step s op).1.live⟩, true) := by
  obtain ⟨hi, hp⟩ := hr
  cases op with
  | create ps =>
    simp only [step, monStep]
    split
    · rename_i hnd
      exact ⟨⟨create_inv _ _ hnd, create_perm _ _⟩, by simp⟩
    · exact ⟨⟨hi, hp⟩, by simp⟩
  | add e k =>
    simp only [step, monStep]
    split
    · exact ⟨⟨hi, hp⟩, by simp⟩
    · rename_i hc
      have hc' : e ∉ s.live := by simpa using hc
      have hfresh : ∀ i : Nat, s.h.a[i]? ≠ some e := by
        intro i hie; exact hc' (hp.mem_iff.mp ((mem_iff_get _ _).mpr ⟨i, hie⟩))
      refine ⟨⟨add_inv_key _ s.key _ _ hi hfresh fun x hx => upd_ne _ _ _ _ hx, ?_⟩, by simp⟩
      exact (add_perm _ _ _).trans ((List.perm_cons e).mpr hp)
  | getmin =>
    simp only [step, monStep]
    refine ⟨⟨hi, hp⟩, ?_⟩
    cases hg : getmin s.h with
    | none => simp [getminOk, live_nil_of_getmin_none hp hg]
    | some e =>
      have := isLeast_perm hp (getmin_isLeast s.key s.h e hi hg)
      simp only [getminOk, (isLeast_iff _ _ _).mpr this]
  | delmin =>
    simp only [step]
    cases hg : getmin s.h with
    | none =>
      simp only [monStep]
      exact ⟨⟨hi, hp⟩, by simp [live_nil_of_getmin_none hp hg]⟩
    | some e =>
      obtain ⟨h', hdel, hi', hperm⟩ := delete_at s.key s.h 0 e hi hg
      have hdm : deletemin s.key s.h = some h' := hdel
      simp only [hdm, monStep]
      refine ⟨⟨hi', perm_live_erase hp hperm⟩, ?_⟩
      have := isLeast_perm hp (getmin_isLeast s.key s.h e hi hg)
      simp only [(isLeast_iff _ _ _).mpr this]
  | del e =>
    simp only [step, monStep]
    by_cases hc : s.live.contains e = true
    · have hc' : e ∈ s.live := by simpa using hc
      obtain ⟨rc, hpos, hrc⟩ := hi.handle_valid (hp.mem_iff.mpr hc')
      obtain ⟨h', hdel, hi', hperm⟩ := delete_at s.key s.h rc e hi hrc
      simp only [hc, Bool.not_true, Bool.false_eq_true, if_false, hpos, hdel]
      exact ⟨⟨hi', perm_live_erase hp hperm⟩, by simp⟩
    · simp only [hc, Bool.not_false, if_true]
      exact ⟨⟨hi, hp⟩, by simp⟩
  | inc e k =>
    simp only [step, monStep]
    split
    · exact ⟨⟨hi, hp⟩, by simp⟩
    · rename_i hcond
      simp only [Bool.or_eq_true, Bool.not_eq_true', decide_eq_true_eq, not_or, Bool.not_eq_false,
        Int.not_lt] at hcond
      obtain ⟨hc, hk⟩ := hcond
      have hc' : e ∈ s.live := by simpa using hc
      obtain ⟨rc, hpos, hrc⟩ := hi.handle_valid (hp.mem_iff.mpr hc')
      simp only [hpos, increase_eq _ s.h rc (lt_of_get hrc)]
      refine ⟨⟨?_, (siftDown_perm _ true _ _ _ _).trans hp⟩, by simp⟩
      exact inv_siftDown_of_key (upd s.key e k) s.key s.h rc e hi hrc (fun x hx => upd_ne _ _ _ _ hx)
        (by rw [upd_eq]; exact hk)
  | dec e k =>
    simp only [step, monStep]
    split
    · exact ⟨⟨hi, hp⟩, by simp⟩
    · rename_i hcond
      simp only [Bool.or_eq_true, Bool.not_eq_true', decide_eq_true_eq, not_or, Bool.not_eq_false,
        Int.not_lt, gt_iff_lt] at hcond
      obtain ⟨hc, hk⟩ := hcond
      have hc' : e ∈ s.live := by simpa using hc
      obtain ⟨rc, hpos, hrc⟩ := hi.handle_valid (hp.mem_iff.mpr hc')
      simp only [hpos, decrease_eq _ s.h rc (lt_of_get hrc)]
      refine ⟨⟨?_, (siftUp_perm _ true _ _ _).trans hp⟩, by simp⟩
      exact inv_siftUp_of_key (upd s.key e k) s.key s.h rc e hi hrc (fun x hx => upd_ne _ _ _ _ hx)
        (by rw [upd_eq]; exact hk)
  | incmin k =>
    simp only [step]
    cases hg : getmin s.h with
    | none => simp only [monStep]; exact ⟨⟨hi, hp⟩, trivial⟩
    | some e =>
      simp only
      split
      · simp only [monStep]; exact ⟨⟨hi, hp⟩, trivial⟩
      · rename_i hk
        simp only [monStep]
        refine ⟨⟨?_, ?_⟩, ?_⟩
        · exact inv_siftDown_of_key (upd s.key e k) s.key s.h 0 e hi hg (fun x hx => upd_ne _ _ _ _ hx)
            (by rw [upd_eq]; omega)
        · exact (siftDown_perm _ true _ _ _ _).trans hp
        · have := isLeast_perm hp (getmin_isLeast s.key s.h e hi hg)
          simp only [(isLeast_iff _ _ _).mpr this]
  | drain =>
    simp only [step, monStep]
    refine ⟨⟨inv_empty _, by simp [Heap.empty]⟩, ?_⟩
    rw [drainList_ok s.key _ s.h s.live hi hp rfl]

theorem reach_init : Reach St.init := ⟨inv_empty _, by simp [St.init, Heap.empty]⟩

theorem reach_run (s : St) (ops : List Op) (hr : Reach s) : Reach (run s ops) := by
  induction ops generalizing s with
  | nil => exact hr
  | cons op ops ih => exact ih _ (step_ok s op hr).1

theorem accepts_trace (s : St) (ops : List Op) (hr : Reach s) :
    accepts ⟨s.key, s.live⟩ (trace s ops) = true := by
  induction ops generalizing s with
  | nil => rfl
  | cons op ops ih =>
    have := step_ok s op hr
    simp only [trace, accepts, this.2, Bool.true_and]
    exact ih _ this.1

end Percival.Proofs.Heap
