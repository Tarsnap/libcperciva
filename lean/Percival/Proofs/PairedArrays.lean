/-!
# Two arrays that point at each other represent a finite map

`events_network.c` keeps a record per descriptor (`S[]`, with a position `pollpos` into the second
array) and a dense array of entries (`fds[]`, each naming its descriptor).  When the two point at each
other (`Ptr`) the pair is a finite map from keys to entries (`entry`), and the two things the C does
to the pair — write the entry of a key in place or at the end, delete an entry by moving the last
one into the hole — are `insert` and `erase` on that map (`Ptr.put`, `Ptr.erase`).  The arrays are
given by their lookup functions, so `Array` and `List` models both fit.
-/
namespace Percival.Proofs.Paired

variable {α β : Type} {pos : α → Option Nat} {key : β → Nat}
  {A A' : Nat → Option α} {B B' : Nat → Option β}

structure Ptr (pos : α → Option Nat) (key : β → Nat) (A : Nat → Option α) (B : Nat → Option β) : Prop where
  fwd : ∀ i a p, A i = some a → pos a = some p → ∃ b, B p = some b ∧ key b = i
  back : ∀ j b, B j = some b → ∃ a, A (key b) = some a ∧ pos a = some j

def entry (pos : α → Option Nat) (A : Nat → Option α) (B : Nat → Option β) (i : Nat) : Option β :=
  ((A i).bind pos).bind B

theorem entry_eq {i p : Nat} {a : α} (ha : A i = some a) (hp : pos a = some p) : entry pos A B i = B p := by
  simp only [entry, ha, Option.bind_some, hp]

theorem entry_none {i : Nat} {a : α} (ha : A i = some a) (hp : pos a = none) : entry pos A B i = none := by
  simp only [entry, ha, Option.bind_some, hp, Option.bind_none]

theorem of_entry {i : Nat} {b : β} (h : entry pos A B i = some b) :
    ∃ a p, A i = some a ∧ pos a = some p ∧ B p = some b := by
  unfold entry at h
  obtain ⟨p, hp, hb⟩ := Option.bind_eq_some_iff.mp h
  obtain ⟨a, ha, hp⟩ := Option.bind_eq_some_iff.mp hp
  exact ⟨a, p, ha, hp, hb⟩

namespace Ptr
variable (h : Ptr pos key A B)
include h

theorem entry_of_get {j : Nat} {b : β} (hb : B j = some b) : entry pos A B (key b) = some b := by
  obtain ⟨a, ha, hp⟩ := h.back j b hb
  rw [entry_eq ha hp]; exact hb

theorem key_of_entry {i : Nat} {b : β} (he : entry pos A B i = some b) : key b = i := by
  obtain ⟨a, p, ha, hp, hb⟩ := of_entry he
  obtain ⟨b', hb', hk⟩ := h.fwd i a p ha hp
  rw [hb] at hb'; cases hb'; exact hk

theorem unique {i j p : Nat} {a : α} {b : β} (ha : A i = some a) (hp : pos a = some p) (hb : B j = some b)
    (hk : key b = i) : j = p := by
  obtain ⟨a', ha', hp'⟩ := h.back j b hb
  rw [hk, ha] at ha'; cases ha'
  rw [hp] at hp'; cases hp'; rfl

/-- **insert**: record `k` becomes `a'`, which points at `p`, and `B p` becomes an entry `b'` for `k`;
    `p` is where record `k` pointed before, or a free place if it pointed nowhere -/
theorem put {k p : Nat} {a a' : α} {b' : β} (ha : A k = some a) (hp : ∀ q, pos a = some q → q = p)
    (hfree : pos a = none → B p = none) (hp' : pos a' = some p) (hk : key b' = k)
    (hA : ∀ i, A' i = if i = k then some a' else A i) (hBp : B' p = some b') (hB : ∀ j, j ≠ p → B' j = B j) :
    Ptr pos key A' B' ∧ ∀ i, entry pos A' B' i = if i = k then some b' else entry pos A B i := by
  -- among the old entries, the one of `k` is the one at `p`, if there is one
  have hq : ∀ j b, B j = some b → (key b = k ↔ j = p) := by
    intro j b hj
    refine ⟨fun hh => ?_, fun hh => ?_⟩
    · obtain ⟨a1, ha1, hp1⟩ := h.back j b hj
      rw [hh, ha] at ha1; cases ha1
      exact hp j hp1
    · subst hh
      cases hpa : pos a with
      | none => rw [hfree hpa] at hj; cases hj
      | some q =>
        obtain ⟨b1, hb1, hk1⟩ := h.fwd k a q ha hpa
        rw [hp q hpa, hj] at hb1; cases hb1; exact hk1
  have hE : ∀ i, entry pos A' B' i = if i = k then some b' else entry pos A B i := by
    intro i
    by_cases hi : i = k
    · rw [if_pos hi, entry_eq (by rw [hA, if_pos hi]) hp', hBp]
    · rw [if_neg hi]
      unfold entry
      rw [hA, if_neg hi]
      cases hai : A i with
      | none => rfl
      | some a1 =>
        rw [Option.bind_some]
        cases hp1 : pos a1 with
        | none => rfl
        | some q =>
          obtain ⟨b1, hb1, hk1⟩ := h.fwd i a1 q hai hp1
          exact hB q fun hh => hi (hk1.symm.trans ((hq q b1 hb1).mpr hh))
  refine ⟨⟨fun i a1 q hi hq1 => ?_, fun j b1 hj => ?_⟩, hE⟩
  · rw [hA] at hi
    split at hi
    · next hik =>
      cases hi; rw [hp'] at hq1; cases hq1
      exact ⟨b', hBp, hk.trans hik.symm⟩
    · next hik =>
      obtain ⟨b1, hb1, hk1⟩ := h.fwd i a1 q hi hq1
      exact ⟨b1, by rw [hB q fun hh => hik (hk1.symm.trans ((hq q b1 hb1).mpr hh))]; exact hb1, hk1⟩
  · by_cases hjp : j = p
    · subst hjp
      rw [hBp] at hj; cases hj
      exact ⟨a', by rw [hA, if_pos hk], hp'⟩
    · rw [hB j hjp] at hj
      obtain ⟨a1, ha1, hp1⟩ := h.back j b1 hj
      exact ⟨a1, by rw [hA, if_neg fun hh => hjp ((hq j b1 hj).mp hh)]; exact ha1, hp1⟩

/-- **erase**: `B` has `m` entries; the one at `pp`, of key `k`, is overwritten by the last one, `bl`, and the
    array shortened; record `k` becomes `a'`, which points nowhere, and the record `bl` names is repointed
    at `pp` (`mv`; it is record `k` itself when `pp` is the last place, and then `a'` stands) -/
theorem erase {k pp m : Nat} {a a' : α} {bl : β} {mv : α → α} (ha : A k = some a) (hp : pos a = some pp)
    (hm : ∀ j b, B j = some b → j < m) (hl : B (m - 1) = some bl) (hp' : pos a' = none)
    (hmv : ∀ a, pos (mv a) = some pp)
    (hA : ∀ i, A' i = if i = k then some a' else if i = key bl then (A i).map mv else A i)
    (hB : ∀ j, B' j = if j < m - 1 then (if j = pp then some bl else B j) else none) :
    Ptr pos key A' B' ∧ ∀ i, entry pos A' B' i = if i = k then none else entry pos A B i := by
  obtain ⟨b0, hb0, hk0⟩ := h.fwd k a pp ha hp
  have hpm := hm pp b0 hb0
  -- a record other than `k` that points somewhere: where it points now, and that its entry is there
  have hmoved : ∀ i a1 q, i ≠ k → A i = some a1 → pos a1 = some q →
      ∃ a1' q', A' i = some a1' ∧ pos a1' = some q' ∧ B' q' = B q := by
    intro i a1 q hi hai hq
    obtain ⟨b1, hb1, hk1⟩ := h.fwd i a1 q hai hq
    have hqm := hm q b1 hb1
    have hqp : q ≠ pp := fun hh => hi (hk1.symm.trans (by rw [hh, hb0] at hb1; cases hb1; exact hk0))
    rw [hA, if_neg hi]
    by_cases hil : i = key bl
    · have : m - 1 = q := h.unique hai hq hl hil.symm
      rw [if_pos hil, hai]
      exact ⟨mv a1, pp, rfl, hmv a1, by rw [hB, if_pos (by omega), if_pos rfl, ← this, hl]⟩
    · have : q ≠ m - 1 := fun hh => hil (by rw [hh, hl] at hb1; cases hb1; exact hk1.symm)
      rw [if_neg hil]
      exact ⟨a1, q, hai, hq, by rw [hB, if_pos (by omega), if_neg hqp]⟩
  have hE : ∀ i, entry pos A' B' i = if i = k then none else entry pos A B i := by
    intro i
    by_cases hi : i = k
    · rw [if_pos hi, entry_none (by rw [hA, if_pos hi]) hp']
    · rw [if_neg hi]
      cases hai : A i with
      | none => simp only [entry, hA, if_neg hi, hai, Option.map_none, ite_self, Option.bind_none]
      | some a1 =>
        cases hq : pos a1 with
        | none =>
          have : i ≠ key bl := fun hh => by
            obtain ⟨al, hal, hpl⟩ := h.back _ bl hl
            rw [← hh, hai] at hal; cases hal
            rw [hq] at hpl; cases hpl
          rw [entry_none hai hq, entry_none (by rw [hA, if_neg hi, if_neg this]; exact hai) hq]
        | some q =>
          obtain ⟨a1', q', h1, h2, h3⟩ := hmoved i a1 q hi hai hq
          rw [entry_eq h1 h2, entry_eq hai hq, h3]
  refine ⟨⟨fun i a1' q' hi hq' => ?_, fun j b1 hj => ?_⟩, hE⟩
  · have he := hE i
    rw [entry_eq hi hq'] at he
    by_cases hik : i = k
    · rw [hA, if_pos hik] at hi; cases hi; rw [hp'] at hq'; cases hq'
    · rw [if_neg hik] at he
      cases hb : B' q' with
      | some b1 => exact ⟨b1, rfl, h.key_of_entry (by rw [← he, hb])⟩
      | none =>
        -- record `i` points somewhere now, so it did before, and its entry has moved with it
        exfalso
        rw [hA, if_neg hik] at hi
        obtain ⟨a1, q, hai, hq⟩ : ∃ a1 q, A i = some a1 ∧ pos a1 = some q := by
          split at hi
          · next hil =>
            obtain ⟨al, hal, hpl⟩ := h.back _ bl hl
            exact ⟨al, m - 1, by rw [hil]; exact hal, hpl⟩
          · exact ⟨a1', q', hi, hq'⟩
        obtain ⟨b1, hb1, _⟩ := h.fwd i a1 q hai hq
        rw [hb, entry_eq hai hq, hb1] at he; cases he
  · rw [hB] at hj
    split at hj
    · next hlt =>
      split at hj
      · next hjp =>
        cases hj
        obtain ⟨al, hal, hpl⟩ := h.back _ bl hl
        have hne : key bl ≠ k := fun hh => by have := h.unique ha hp hl hh; omega
        exact ⟨mv al, by rw [hA, if_neg hne, if_pos rfl, hal]; rfl, by rw [hmv, hjp]⟩
      · next hjp =>
        obtain ⟨a1, ha1, hp1⟩ := h.back j b1 hj
        have hne : key b1 ≠ k := fun hh => hjp (h.unique ha hp hj hh)
        have hnl : key b1 ≠ key bl := fun hh => by have := h.unique ha1 hp1 hl hh.symm; omega
        exact ⟨a1, by rw [hA, if_neg hne, if_neg hnl]; exact ha1, hp1⟩
    · cases hj

end Ptr

end Percival.Proofs.Paired
