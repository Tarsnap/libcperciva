import Percival.Spec.Aes
/-! `Spec.Aes` for the kernel.  One look-up in the nested `Vector` literal of Figure 7 costs the kernel as much as the
rest of a round, and a block needs 160 of them (200 with its key schedule).  Here the table is one numeral read by a shift
(`sb`, equal to `Aes.sbox` on all 256 bytes), and `keyExpansionW` / `cipherW` are `Spec.Aes`'s own text with the S-box as a
parameter: with `Aes.sbox` they are the Spec (`keyExpansion_eq`, `encryptBlock_eq`), with `sb` they evaluate about 2.4
times faster.  The labelled vectors rewrite with these equations and then evaluate. -/
namespace Percival.Proofs.AesEval
open Percival.Spec.Aes

/-- Figure 7 as one number: entry `b` at bits `8b … 8b+7` -/
def sboxNat : Nat :=
  0x16bb54b00f2d99416842e6bf0d89a18cdf2855cee9871e9b948ed9691198f8e19e1dc186b95735610ef6034866b53e708a8bbd4b1f74dde8c6b4a61c2e2578ba08ae7a65eaf4566ca94ed58d6d37c8e779e4959162acd3c25c2406490a3a32e0db0b5ede14b8ee4688902a22dc4f816073195d643d7ea7c41744975fec130ccdd2f3ff1021dab6bcf5389d928f40a351a89f3c507f02f94585334d43fbaaefd0cf584c4a39becb6a5bb1fc20ed00d153842fe329b3d63b52a05a6e1b1a2c830975b227ebe28012079a059618c323c7041531d871f1e5a534ccf73f362693fdb7c072a49cafa2d4adf04759fa7dc982ca76abd7fe2b670130c56f6bf27b777c63

def sbN (n : Nat) : UInt8 := (sboxNat >>> (8 * n)).toUInt8

def sb (b : UInt8) : UInt8 := sbN b.toNat

/-- Figure 7 read row by row against a function of the index (walking each row once is much cheaper for the kernel than
    256 look-ups) -/
theorem sbox_of_rows (f : Nat → UInt8)
    (h : sboxTable.toList.map (·.toList) = (List.range 16).map fun r => (List.range 16).map fun c => f (16 * r + c))
    (b : UInt8) : sbox b = f b.toNat := by
  have hi : b.toNat / 16 < 16 := by have := b.toNat_lt; omega
  have hj : b.toNat % 16 < 16 := by omega
  have h := congrArg (fun L => (L[b.toNat / 16]?).bind (·[b.toNat % 16]?)) h
  simp only [List.length_map, Vector.length_toList, hi, getElem?_pos, List.getElem_map, Vector.getElem_toList,
    Option.bind_some, hj, List.length_range, List.getElem_range, Option.some.injEq, Nat.div_add_mod] at h
  rw [← h]; rfl

theorem sbox_eq : sbox = sb := funext (sbox_of_rows sbN (by decide +kernel))

/-! ### multiplication in GF(2⁸) for the kernel

The S-box sweeps (`CpuAesSpec.sbox_rows`, `KAT.AesSbox`) multiply some ten thousand times.  `gmulN` is the shift-and-add
product without branches and with its eight steps written out; `gmul_spec` says that ANY shift-and-add product on `Nat`
whose doubling is `xtimeN` below 256 is `gmulN` there, so each transcription of §4.2 rewrites to it before it is evaluated.
The steps are written `Nat.xor x y`, `Nat.mul x y`, … and not `x ^^^ y`, `x * y`: the kernel computes the former on literals at
once and has to unfold three instances to find it in the latter (a factor of two to three on these sweeps). -/

/-- `Fips.xtime` on `Nat`: bit 8 of `2 * a` is cleared by adding the modulus `x⁸ + x⁴ + x³ + x + 1` -/
def xtimeN (a : Nat) : Nat := Nat.xor (Nat.mul 2 a) (Nat.mul (Nat.div a 128) 0x11b)

def gmulAuxN : Nat → Nat → Nat → Nat → Nat
  | 0, _, _, acc => acc
  | n+1, a, b, acc => gmulAuxN n (xtimeN a) (b / 2) (acc ^^^ b % 2 * a)

def gstepN (k : Nat → Nat → Nat → Nat) (a b acc : Nat) : Nat :=
  k (xtimeN a) (Nat.div b 2) (Nat.xor acc (Nat.mul (Nat.mod b 2) a))

/-- `gmulAuxN 8 a b 0` with the eight steps written out: the kernel is faster on this than on the recursion -/
def gmulN (a b : Nat) : Nat :=
  gstepN (gstepN (gstepN (gstepN (gstepN (gstepN (gstepN (gstepN fun _ _ acc => acc))))))) a b 0

theorem gmulN_eq (a b : Nat) : gmulN a b = gmulAuxN 8 a b 0 := rfl

theorem xtimeN_lt : ∀ a, a < 256 → xtimeN a < 256 := by decide +kernel

theorem gmulAuxN_lt : ∀ (n a b acc : Nat), a < 256 → acc < 256 → gmulAuxN n a b acc < 256
  | 0, _, _, _, _, h => h
  | n+1, a, b, acc, ha, h => by
    have : b % 2 * a < 256 := by rcases Nat.mod_two_eq_zero_or_one b with h | h <;> rw [h] <;> omega
    exact gmulAuxN_lt n _ _ _ (xtimeN_lt a ha) (Nat.xor_lt_two_pow (n := 8) h this)

structure ShiftAdd (xt : Nat → Nat) (g : Nat → Nat → Nat → Nat → Nat) : Prop where
  dbl : ∀ a, a < 256 → xt a = xtimeN a
  zero : ∀ a b acc, g 0 a b acc = acc
  succ : ∀ n a b acc, g (n + 1) a b acc = g n (xt a) (b / 2) (if b % 2 = 1 then acc ^^^ a else acc)

theorem ShiftAdd.gmul {xt : Nat → Nat} {g : Nat → Nat → Nat → Nat → Nat} (h : ShiftAdd xt g) (a b : Nat) (ha : a < 256) :
    g 8 a b 0 = gmulN a b ∧ gmulN a b < 256 := by
  have : ∀ (n a b acc : Nat), a < 256 → g n a b acc = gmulAuxN n a b acc := by
    intro n
    induction n with
    | zero => intro a b acc _; exact h.zero a b acc
    | succ n ih =>
      intro a b acc ha
      rw [h.succ, h.dbl a ha, ih _ _ _ (xtimeN_lt a ha), gmulAuxN]
      congr 1
      split
      · rename_i h; rw [h, Nat.one_mul]
      · rw [show b % 2 = 0 by omega, Nat.zero_mul, Nat.xor_zero]
  exact ⟨this 8 a b 0 ha, gmulN_eq a b ▸ gmulAuxN_lt 8 a b 0 ha (by decide)⟩

/-- `x·(x²·(x⁴·(…·x^(2ⁿ))))` for a product `m`; the inverse `b²⁵⁴ = b²·(b⁴·(…·(b⁶⁴·b¹²⁸)))` is `prodSq m 6 (m b b)` -/
def prodSq (m : Nat → Nat → Nat) : Nat → Nat → Nat
  | 0, x => x
  | n+1, x => m x (prodSq m n (m x x))

theorem prodSq_congr (m m' : Nat → Nat → Nat) (h : ∀ a b, a < 256 → m a b = m' a b ∧ m' a b < 256) :
    ∀ (n x : Nat), x < 256 → prodSq m n x = prodSq m' n x
  | 0, _, _ => rfl
  | n+1, x, hx => by
    rw [prodSq, prodSq, (h x x hx).1, prodSq_congr m m' h n _ (h x x hx).2, (h x _ hx).1]

def ginvN (b : Nat) : Nat := prodSq gmulN 6 (gmulN b b)

theorem ShiftAdd.ginv {xt : Nat → Nat} {g : Nat → Nat → Nat → Nat → Nat} (h : ShiftAdd xt g) (b : Nat) (hb : b < 256) :
    prodSq (fun a b => g 8 a b 0) 6 (g 8 b b 0) = ginvN b := by
  rw [prodSq_congr _ gmulN h.gmul 6 _ ((h.gmul b b hb).1 ▸ (h.gmul b b hb).2), (h.gmul b b hb).1, ginvN]

/-- a sweep over `0 … N-1` carried over to a predicate that is cheaper to evaluate -/
theorem all_range_of (N : Nat) (p q : Nat → Bool) (hq : (List.range N).all q = true) (h : ∀ n, n < N → p n = q n) :
    (List.range N).all p = true :=
  List.all_eq_true.mpr fun n hn => (h n (List.mem_range.mp hn)).trans (List.all_eq_true.mp hq n hn)

variable (sb : UInt8 → UInt8)

def roundsW : List Bytes → Bytes → Bytes
  | [], _ => []
  | [last], s => addRoundKey (shiftRows (s.map sb)) last
  | rk :: rest, s => roundsW rest (addRoundKey (mixColumns (shiftRows (s.map sb))) rk)

def cipherW (roundKeys : List Bytes) (block : Bytes) : Bytes :=
  match roundKeys with
  | rk0 :: rest => if block.length = 16 then roundsW sb rest (addRoundKey block rk0) else []
  | [] => []

def nextWordW (nk i : Nat) (prev back : Bytes) : Bytes :=
  xorBytes back
    (if i % nk = 0 then xorBytes ((rotWord prev).map sb) (rcon (i / nk))
     else if nk > 6 ∧ i % nk = 4 then prev.map sb
     else prev)

def expandLoopW (nk : Nat) : (n : Nat) → (i : Nat) → (window : List Bytes) → List Bytes
  | 0, _, _ => []
  | n+1, i, window =>
    match window, window.getLast? with
    | back :: rest, some prev =>
      nextWordW sb nk i prev back :: expandLoopW nk n (i + 1) (rest ++ [nextWordW sb nk i prev back])
    | _, _ => []

def keyExpansionW (key : Bytes) : List Bytes :=
  if key.length = 16 ∨ key.length = 32 then
    chunks 16 (key.length / 4 + 6 + 1)
      (chunks 4 (key.length / 4) key ++
        expandLoopW sb (key.length / 4) (4 * (key.length / 4 + 6 + 1) - key.length / 4) (key.length / 4)
          (chunks 4 (key.length / 4) key)).flatten
  else []

theorem roundsW_sbox : ∀ (rks : List Bytes) (s : Bytes), roundsW sbox rks s = rounds rks s
  | [], _ => rfl
  | [_], _ => rfl
  | _ :: r :: rest, _ => (roundsW_sbox (r :: rest) _).trans rfl

theorem expandLoopW_sbox (nk : Nat) : ∀ (n i : Nat) (w : List Bytes), expandLoopW sbox nk n i w = expandLoop nk n i w
  | 0, _, _ => rfl
  | n+1, i, [] => rfl
  | n+1, i, back :: rest => by
    cases h : (back :: rest).getLast? with
    | none => simp only [expandLoopW, expandLoop, h]
    | some prev => simp only [expandLoopW, expandLoop, h, expandLoopW_sbox nk n]; rfl

omit sb in
theorem keyExpansion_eq : keyExpansion = keyExpansionW AesEval.sb := by
  funext key
  rw [← sbox_eq, keyExpansionW, expandLoopW_sbox]; rfl

omit sb in
theorem cipher_eq : cipher = cipherW AesEval.sb := by
  funext rks blk
  rw [← sbox_eq]
  cases rks with
  | nil => rfl
  | cons rk0 rest => simp only [cipher, cipherW, roundsW_sbox]

omit sb in
theorem encryptBlock_eq : encryptBlock = fun key => cipherW AesEval.sb (keyExpansionW AesEval.sb key) := by
  funext key
  rw [← keyExpansion_eq, ← cipher_eq]; rfl

end Percival.Proofs.AesEval
