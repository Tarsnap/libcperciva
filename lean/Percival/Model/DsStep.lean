import Percival.Model.EArray
import Percival.Model.EQueue
import Percival.Model.SeqMap
import Percival.Model.MPool
import Percival.Spec.DSMon
/-!
# The function `pmodel ds` runs (C12 / C14)

The line protocol of `harness/h_ds.c` around the models of elasticarray.c / elasticqueue.c / seqptrmap.c /
mpool.h: at most one object of each kind exists at a time; the allocator is the oracle `Mem` with the harness'
failure schedule (`failat k`, `failfrom k`, `failoff`; requests above `cap` always fail); the caller's data are
`patBytes seed n`.  Every answer has an L1 part (status, observable sizes, `rf` = allocation requests refused
during the operation, data handed to the caller) and an L2 part (internal fields, `live` = library blocks
allocated, `req` = sizes requested during the operation).  `stepOp` is everything `Driver/Ds.lean` used to do
besides parsing and printing; the operations on an existing object are `EArray.step`, `EQueue.step`,
`SeqMap.step`, `MPool.step` (`Proofs/DsLines.lean`).
-/
namespace Percival.Model.DsStep
open Percival.Model Percival.Spec.DS Percival.Spec.DSMon

def cap : Nat := 2^22

/-- the allocation oracle of the harness: requests above `cap` fail; `mode` 1 = the `k`-th request after
`base` fails, 2 = every request from the `k`-th on -/
def sched (mode k base : Nat) : Nat → Nat → Bool := fun n sz =>
  let idx := n - base + 1
  decide (sz ≤ cap) && !(mode == 1 && idx == k) && !(mode == 2 && idx ≥ k)

structure S where
  m : Mem := { f := sched 0 0 0 }
  ea : Option EArray.EA := none
  eq : Option EQueue.EQ := none
  sm : Option SeqMap.SM := none
  mpSize : Nat := 4                     -- cache size of the pool in use (`MPOOL(name, type, size)`)
  mp : MPool.MP := MPool.init 4
  inUse : List Nat := []
  /-- the other pools of the process (`mp_use`): cache size ↦ (pool, its objects in use).  The entry of the size in
  use is not read (`S.pool`); a pool never taken is in its load-time state. -/
  parked : Nat → MPool.MP × List Nat := fun k => (MPool.init k, [])

/-- size of the objects the pool hands out -/
def objSize : Nat := 40

/-- the cache sizes the harness instantiates `MPOOL` with (`mp_init <size>`; 4 when a case starts).  The pool model
`MPool` and its theorems take the size as a parameter (`MPool.init size`, every size). -/
def poolSizes : List Nat := [1, 2, 3, 4]

/-! ## typed output -/

inductive Word where
  | ok | skip | badOp | oob | assert
  deriving Repr, DecidableEq

/-- allocator part of L2: blocks allocated now, sizes requested during the operation (oldest first) -/
structure L2c where
  live : Int
  req : List Nat
  deriving Repr, DecidableEq

def l2c (m m' : Mem) : L2c := { live := m'.live, req := (m'.log.take (m'.n - m.n)).reverse }

def rf (m m' : Mem) : Nat := m'.refusals - m.refusals

structure EqL2 where
  off : Nat
  sz : Nat
  al : Nat
  c : L2c
  deriving Repr, DecidableEq

structure SmL2 where
  moff : Int
  mlen : Nat
  qoff : Nat
  qlen : Nat
  sz : Nat
  al : Nat
  c : L2c
  deriving Repr, DecidableEq

structure MpL2 where
  stack : List Nat
  asz : Nat
  na : Nat
  ne : Nat
  st : Bool
  dyn : Bool
  c : L2c
  deriving Repr, DecidableEq

def eqL2 (q : EQueue.EQ) (m m' : Mem) : EqL2 := { off := q.offset, sz := q.ea.size, al := q.ea.alloc, c := l2c m m' }

def smL2 (s : SeqMap.SM) (m m' : Mem) : SmL2 :=
  { moff := s.offset, mlen := s.len, qoff := s.q.offset, qlen := s.q.len, sz := s.q.ea.size, al := s.q.ea.alloc,
    c := l2c m m' }

def mpL2 (p : MPool.MP) (m m' : Mem) : MpL2 :=
  { stack := p.stack, asz := p.allocsize, na := p.nallocs, ne := p.nempties, st := p.state, dyn := p.dyn, c := l2c m m' }

/-- what `eq_get` / `eq_dump` add to the queue line -/
inductive EqExtra where
  | none | null | record (b : List UInt8) | recs (l : List (Option (List UInt8)))
  deriving Repr, DecidableEq

inductive MpObj where
  | none | null | obj (x : Nat)
  deriving Repr, DecidableEq

inductive Out where
  | word (w : Word)
  | ended (live : Int) (n : Nat)                                    -- `end live= leaked=0 | n=`
  | initFail (rf : Nat) (c : L2c)                                   -- `fail rf= | …`
  | ea (st : St) (sz al rf : Nat) (out : Option (Nat × List UInt8)) (c : L2c)
  | eaExport (rf n : Nat) (out : List UInt8) (c : L2c)
  | freed (c : L2c)                                                 -- `ok | …`
  | eq (st : St) (len rf : Nat) (x : EqExtra) (l2 : EqL2)
  | smInit (rf : Nat) (l2 : SmL2)
  | sm (st : St) (rf : Nat) (num : Option Int) (ptr : Option Nat) (l2 : SmL2)
  | mp (rf : Nat) (o : MpObj) (l2 : MpL2)
  | mpExit (c : L2c)                                                -- `ok leaked=0 | …`
  deriving Repr, DecidableEq

/-- the array line for the array `a` after an operation that took the allocator from `m` to `m'` -/
def eaOut (st : St) (a : EArray.EA) (m m' : Mem) (out : Option (Nat × List UInt8)) (mEnd : Mem) : Out :=
  .ea st a.size a.alloc (rf m m') out (l2c m mEnd)

/-- release everything (`end`, and what the harness does between cases) -/
def freeAll (s : S) : S :=
  let m := match s.ea with | some a => EArray.free a s.m | none => s.m
  let m := match s.eq with | some q => EQueue.free q m | none => m
  let m := match s.sm with | some x => SeqMap.free x m | none => m
  { s with m := m, ea := none, eq := none, sm := none }

/-- the pool of cache size `k` and its objects in use -/
def S.pool (s : S) (k : Nat) : MPool.MP × List Nat := if k = s.mpSize then (s.mp, s.inUse) else s.parked k

/-- the exit of one pool: its handler (`mpool_atexit`); the harness itself releases the objects still in use -/
def exitOne (m : Mem) (pu : MPool.MP × List Nat) : Mem :=
  pu.2.foldl (fun m _ => m.free false) (MPool.atexit pu.1 m).2

/-- the sizes of the pools that are not the one in use -/
def otherSizes (cur : Nat) : List Nat := poolSizes.filter (· != cur)

/-- process exit for the pools (`mp_exit`, `end`, `mp_init`): the exit handler of **every** pool — the one in use and
the parked ones — runs, the harness releases the objects still in use; every pool is in its load-time state again -/
def poolExit (s : S) : S :=
  let m := exitOne s.m (s.mp, s.inUse)
  let m := (otherSizes s.mpSize).foldl (fun m k => exitOne m (s.parked k)) m
  { s with m := m, mp := MPool.init s.mpSize, inUse := [], parked := fun k => (MPool.init k, []) }

/-- an operation on the array, if there is one (else `skip`) and the record length is positive (else `bad`) -/
def onEa (s : S) (reclen : Option Nat) (bad : Word) (k : EArray.EA → RecLen → S × Out) : S × Out :=
  match s.ea with
  | none => (s, .word .skip)
  | some a =>
    match reclen with
    | none => k a ⟨1, Nat.one_pos⟩
    | some r =>
      match mkRecLen r with
      | none => (s, .word bad)
      | some r => k a r

def stepOp (s : S) (op : Op) : S × Out :=
  let m := s.m
  match op with
  | .failat k => ({ s with m := { m with f := sched 1 k m.n } }, .word .ok)
  | .failfrom k => ({ s with m := { m with f := sched 2 k m.n } }, .word .ok)
  | .failoff => ({ s with m := { m with f := sched 0 0 0 } }, .word .ok)
  | .end_ =>
    let s' := poolExit (freeAll s)
    (s', .ended s'.m.live s'.m.n)
  -- ---------------------------------------------------------------- elastic array
  | .eaInit nrec reclen seed =>
    match mkRecLen reclen with
    | none => (s, .word .badOp)
    | some r =>
      let m0 := match s.ea with | some a => EArray.free a m | none => m
      match EArray.init nrec r m0 with
      | (none, m') => ({ s with m := m', ea := none }, .initFail (rf m0 m') (l2c m0 m'))
      | (some a, m') =>
        let a := match EArray.fillFrom a 0 (patBytes seed a.size) with | some a' => a' | none => a
        ({ s with m := m', ea := some a }, eaOut .ok a m0 m' none m')
  | .eaResize nrec reclen seed => onEa s (some reclen) .badOp fun a r =>
      match EArray.resizeRec a nrec r m with
      | (true, a', m') =>
        let a' := match EArray.fillFrom a' a.size (patBytes seed (a'.size - a.size)) with | some x => x | none => a'
        ({ s with m := m', ea := some a' }, eaOut .ok a' m m' none m')
      | (false, a', m') => ({ s with m := m', ea := some a' }, eaOut .fail a' m m' none m')
  | .eaAppend nrec reclen seed => onEa s (some reclen) .badOp fun a r =>
      let data := if nrec ≤ dataMax / r.val then patBytes seed (nrec * r.val) else [0]
      match EArray.append a data nrec r m with
      | (st, a', m') => ({ s with m := m', ea := some a' }, eaOut st a' m m' none m')
  | .eaShrink nrec reclen => onEa s (some reclen) .badOp fun a r =>
      match EArray.shrink a nrec r m with
      | (a', m') => ({ s with m := m', ea := some a' }, eaOut .ok a' m m' none m')
  | .eaTrunc => onEa s none .badOp fun a _ =>
      match EArray.truncate a m with
      | (ok, a', m') => ({ s with m := m', ea := some a' }, eaOut (if ok then .ok else .fail) a' m m' none m')
  | .eaGet pos reclen => onEa s (some reclen) .skip fun a r =>
      match EArray.getRec a pos r with
      | some b => (s, eaOut .ok a m m (some (1, b)) m)
      | none => (s, .word .skip)
  | .eaSet pos reclen seed => onEa s (some reclen) .skip fun a r =>
      match EArray.setRec a pos r (patBytes seed r.val) with
      | some a' => ({ s with ea := some a' }, eaOut .ok a' m m none m)
      | none => (s, .word .skip)
  | .eaGetsize reclen => onEa s (some reclen) .badOp fun a r =>
      (s, eaOut .ok a m m (some (EArray.getsize a r, [])) m)
  | .eaDump => onEa s none .badOp fun a _ =>
      (s, eaOut .ok a m m (some (a.size, a.buf.take a.size)) m)
  | .eaDup reclen => onEa s (some reclen) .badOp fun a r =>
      match EArray.exportdup a r m with
      | (.ok, some (b, n), m') =>
        let m'' := m'.free false     -- the harness frees the copy
        ({ s with m := m'' }, eaOut .ok a m m' (some (n, b)) m'')
      | (st, _, m') => ({ s with m := m' }, eaOut st a m m' none m')
  | .eaExport reclen => onEa s (some reclen) .badOp fun a r =>
      match EArray.exportBuf a r m with
      | (some (b, n), a', m') =>
        let m'' := m'.free (a'.alloc == 0)   -- the harness frees the exported block
        ({ s with m := m'', ea := none }, .eaExport (rf m m') n (b.take a'.size) (l2c m m''))
      | (none, a', m') => ({ s with m := m', ea := some a' }, eaOut .fail a' m m' none m')
  | .eaFree => onEa s none .badOp fun a _ =>
      let m' := EArray.free a m
      ({ s with m := m', ea := none }, .freed (l2c m m'))
  -- -------------------------------------------------------------- elastic queue
  | .eqInit reclen =>
    match mkRecLen reclen with
    | none => (s, .word .badOp)
    | some r =>
      let m0 := match s.eq with | some q => EQueue.free q m | none => m
      match EQueue.init r m0 with
      | (none, m') => ({ s with m := m', eq := none }, .initFail (rf m0 m') (l2c m0 m'))
      | (some q, m') => ({ s with m := m', eq := some q }, .eq .ok q.len (rf m0 m') .none (eqL2 q m0 m'))
  | .eqAdd seed =>
    match s.eq with
    | none => (s, .word .skip)
    | some q =>
      match EQueue.add q (patBytes seed q.reclen.val) m with
      | (st, q', m') => ({ s with m := m', eq := some q' }, .eq st q'.len (rf m m') .none (eqL2 q' m m'))
  | .eqDel =>
    match s.eq with
    | none => (s, .word .skip)
    | some q =>
      match EQueue.delete q m with
      | (st, q', m') => ({ s with m := m', eq := some q' }, .eq st q'.len (rf m m') .none (eqL2 q' m m'))
  | .eqLen =>
    match s.eq with
    | none => (s, .word .skip)
    | some q => (s, .eq .ok (EQueue.getlen q) 0 .none (eqL2 q m m))
  | .eqGet pos =>
    match s.eq with
    | none => (s, .word .skip)
    | some q =>
      match EQueue.get q pos with
      | .null => (s, .eq .ok q.len 0 .null (eqL2 q m m))
      | .record b => (s, .eq .ok q.len 0 (.record b) (eqL2 q m m))
      | .oob => (s, .word .oob)
  | .eqSet pos seed =>
    match s.eq with
    | none => (s, .word .skip)
    | some q =>
      if pos ≥ q.len then (s, .word .skip) else
      match EQueue.set q pos (patBytes seed q.reclen.val) with
      | some q' => ({ s with eq := some q' }, .eq .ok q'.len 0 .none (eqL2 q' m m))
      | none => (s, .word .oob)
  | .eqDump =>
    match s.eq with
    | none => (s, .word .skip)
    | some q =>
      let recs := (List.range q.len).map fun i =>
        match EQueue.get q i with | .record b => some b | _ => none
      (s, .eq .ok q.len 0 (.recs recs) (eqL2 q m m))
  | .eqFree =>
    match s.eq with
    | none => (s, .word .skip)
    | some q =>
      let m' := EQueue.free q m
      ({ s with m := m', eq := none }, .freed (l2c m m'))
  -- -------------------------------------------------------------- sequential pointer map
  | .smInit =>
    let m0 := match s.sm with | some x => SeqMap.free x m | none => m
    match SeqMap.init m0 with
    | (none, m') => ({ s with m := m', sm := none }, .initFail (rf m0 m') (l2c m0 m'))
    | (some x, m') => ({ s with m := m', sm := some x }, .smInit (rf m0 m') (smL2 x m0 m'))
  | .smAdd p =>
    match s.sm with
    | none => (s, .word .skip)
    | some x =>
      match SeqMap.add x p m with
      | (.num i, x', m') => ({ s with m := m', sm := some x' }, .sm .ok (rf m m') (some i) none (smL2 x' m m'))
      | (.fail, x', m') => ({ s with m := m', sm := some x' }, .sm .fail (rf m m') (some (-1)) none (smL2 x' m m'))
      | (.assertFail, _, _) => (s, .word .assert)
      | (.oob, _, _) => (s, .word .oob)
  | .smGet i =>
    match s.sm with
    | none => (s, .word .skip)
    | some x =>
      match SeqMap.get x i with
      | .ptr p => (s, .sm .ok 0 none (some p) (smL2 x m m))
      | .oob => (s, .word .oob)
  | .smDel i =>
    match s.sm with
    | none => (s, .word .skip)
    | some x =>
      match SeqMap.delete x i m with
      | (st, x', m') => ({ s with m := m', sm := some x' }, .sm st (rf m m') none none (smL2 x' m m'))
  | .smMin =>
    match s.sm with
    | none => (s, .word .skip)
    | some x => (s, .sm .ok 0 (some (SeqMap.getmin x)) none (smL2 x m m))
  | .smFree =>
    match s.sm with
    | none => (s, .word .skip)
    | some x =>
      let m' := SeqMap.free x m
      ({ s with m := m', sm := none }, .freed (l2c m m'))
  -- -------------------------------------------------------------- object pool
  | .mpInit size =>
    -- end the pool in use (exit handler, objects in use released by the harness), take the one of cache size `size`
    if !poolSizes.contains size then (s, .word .badOp) else
    let s' := poolExit s
    ({ s' with mpSize := size, mp := MPool.init size }, .freed (l2c m s'.m))
  | .mpUse size =>
    -- switch the pool in use; no exit handling: the pool left stays alive (parked) with its cache and its objects
    if !poolSizes.contains size then (s, .word .badOp) else
    let parked' : Nat → MPool.MP × List Nat := fun j => if j = s.mpSize then (s.mp, s.inUse) else s.parked j
    let s' := { s with mpSize := size, mp := (parked' size).1, inUse := (parked' size).2, parked := parked' }
    (s', .mp 0 .none (mpL2 s'.mp m m))
  | .mpMalloc =>
    match MPool.malloc s.mp objSize m with
    | (some x, p', m') => ({ s with m := m', mp := p', inUse := x :: s.inUse }, .mp (rf m m') (.obj x) (mpL2 p' m m'))
    | (none, p', m') => ({ s with m := m', mp := p' }, .mp (rf m m') .null (mpL2 p' m m'))
  | .mpFree x =>
    if !s.inUse.contains x then (s, .word .skip) else
    match MPool.free s.mp x m with
    | (p', m') => ({ s with m := m', mp := p', inUse := s.inUse.erase x }, .mp (rf m m') .none (mpL2 p' m m'))
  | .mpFreenth j =>
    -- the in-use object with the (j mod count)-th smallest id
    let sorted := s.inUse.mergeSort (· ≤ ·)
    match sorted[j % sorted.length]? with
    | none => (s, .word .skip)
    | some x =>
      match MPool.free s.mp x m with
      | (p', m') =>
        ({ s with m := m', mp := p', inUse := s.inUse.erase x }, .mp (rf m m') (.obj x) (mpL2 p' m m'))
  | .mpExit =>
    let s' := poolExit s
    (s', .mpExit (l2c m s'.m))

/-- final state and the outputs, in order -/
def runOps (s : S) : List Op → S × List Out
  | [] => (s, [])
  | op :: ops =>
    let r := stepOp s op
    let rs := runOps r.1 ops
    (rs.1, r.2 :: rs.2)

end Percival.Model.DsStep
