import Percival.Proofs.GetoptMain
import Percival.Proofs.GetoptProgress
import Percival.Proofs.GetoptTables
import Percival.Proofs.GetoptExamples
import Percival.Proofs.GetoptUnique
/-!
# C18 — command-line parsing follows the documented option grammar for every argv

`Spec.Getopt.parseArgv T argv` is the documented grammar (`Spec/Getopt.lean`); `Model.Getopt.run lines argv s`
is the model of `util/getopt.c` + the `GETOPT_*` macros: set `optreset = 1` in an **arbitrary** prior
state `s`, then run the user loop `while ((ch = GETOPT(argc, argv)) != NULL) GETOPT_SWITCH(ch) {…}` over
the switch `lines` (any layout: blank lines, options with/without argument, with or without
`GETOPT_MISSING_ARG`, in any order).  Hypotheses everywhere: the table registers without `DIE()`
(`Table.WF`) and the words of `argv` are C strings (no NUL).  No bound on `argv`, on word lengths or on
the table.
-/
namespace Percival.C18
open Percival.Spec.Getopt Percival.Model.Getopt Percival.Proofs.Getopt

/-- **Main theorem.**  For every switch, every argument vector and every prior state, the loop
    completes (no out-of-bounds read, no failed assertion, fuel suffices), user code sees exactly the
    reports of the documented grammar, in order — registered options at their own label with the right
    argument (packed, attached, separate, `=value`), unknown options / a missing argument / an unwanted
    `=value` at `GETOPT_DEFAULT` resp. `GETOPT_MISSING_ARG` — and the final `optind` is the index of the
    first operand (lone `-` not consumed, `--` consumed). -/
theorem parse_follows_grammar (lines : List Line) (argv : List Str) (s : St)
    (hwf : (tableOf lines).WF) (hnul : ∀ a ∈ argv, NulFree a) :
    ∃ evs sf, run lines argv s = .ok (evs, sf) ∧
      evs.map (·.1) = (parseArgv (tableOf lines) argv).1 ∧
      sf.optind = (parseArgv (tableOf lines) argv).2 := by
  obtain ⟨evs, sf, h1, h2, h3⟩ := loop_spec lines hwf argv hnul { s with optreset := true } rfl
  exact ⟨evs, sf, h1 _ (Nat.le_refl _), h2, h3⟩

/-- hypotheses satisfiable, conclusion not trivial: packed `-ab x`, `--bar=1`, unwanted `--foo=2`, unknown `-q`,
    `--bar --` (the `--` is an argument), then `--` ends the options; `optind` = 9 -/
example : (tableOf exLines).WF ∧ (∀ a ∈ exArgv, NulFree a) ∧
    parseArgv (tableOf exLines) exArgv =
      ([⟨.opt, b "-a", none⟩, ⟨.optarg, b "-b", some (b "x")⟩, ⟨.optarg, b "--bar", some (b "1")⟩,
        ⟨.dflt, b "--foo", none⟩, ⟨.dflt, b "-q", none⟩, ⟨.optarg, b "--bar", some (b "--")⟩], 9) :=
  ⟨exLines_wf, exArgv_nulFree, by decide⟩

/-- **With and without a missing-argument handler.**  The same theorem read off for a missing argument:
    it reaches `GETOPT_MISSING_ARG` exactly when the switch has one, otherwise `GETOPT_DEFAULT`. -/
theorem missing_argument_routing (lines : List Line) (argv : List Str) (s : St)
    (hwf : (tableOf lines).WF) (hnul : ∀ a ∈ argv, NulFree a) (n : Str)
    (hlast : ((parse (tableOf lines) (argv.drop 1)).1).getLast? = some (Ev.missing n)) :
    ∃ evs sf, run lines argv s = .ok (evs, sf) ∧
      (evs.map (·.1)).getLast? =
        some ⟨if (lines.any fun | .missing => true | _ => false) then .missingArg else .dflt, n, none⟩ := by
  obtain ⟨evs, sf, h1, h2, _⟩ := parse_follows_grammar lines argv s hwf hnul
  refine ⟨evs, sf, h1, ?_⟩
  rw [h2]
  simp only [parseArgv, List.getLast?_map, hlast, Option.map_some, route]
  rfl

example : ((parse (tableOf exLines) (exArgvMissing.drop 1)).1).getLast? = some (Ev.missing (b "--bar")) ∧
    ((parse (tableOf exLinesNoMissing) (exArgvMissing.drop 1)).1).getLast? = some (Ev.missing (b "--bar")) ∧
    (parseArgv (tableOf exLines) exArgvMissing).1.getLast? = some ⟨.missingArg, b "--bar", none⟩ ∧
    (parseArgv (tableOf exLinesNoMissing) exArgvMissing).1.getLast? = some ⟨.dflt, b "--bar", none⟩ := by
  decide

/-- **Reset + reparse = fresh parse.**  Whatever happened before (a finished parse, a parse abandoned in
    the middle of a pack, another switch), setting `optreset` and parsing gives the reports and `optind`
    of a freshly started process. -/
theorem reset_reparse_eq_fresh (lines : List Line) (argv : List Str) (s : St)
    (hwf : (tableOf lines).WF) (hnul : ∀ a ∈ argv, NulFree a) :
    ∃ evs sf evs' sf', run lines argv s = .ok (evs, sf) ∧ run lines argv St.fresh = .ok (evs', sf') ∧
      evs.map (·.1) = evs'.map (·.1) ∧ sf.optind = sf'.optind := by
  obtain ⟨evs, sf, h1, h2, h3⟩ := parse_follows_grammar lines argv s hwf hnul
  obtain ⟨evs', sf', h1', h2', h3'⟩ := parse_follows_grammar lines argv St.fresh hwf hnul
  exact ⟨evs, sf, evs', sf', h1, h1', h2.trans h2'.symm, h3.trans h3'.symm⟩

/-- … and when there is an `argv[0]`, not only the reports but every intermediate and the final internal
    state coincide (with `argc = 0` the stale `cmdname` is the one field `reset` keeps). -/
theorem reset_reparse_same_states (lines : List Line) (argv : List Str) (s : St)
    (hwf : (tableOf lines).WF) (hne : argv ≠ []) :
    run lines argv s = run lines argv St.fresh := by
  rw [run_start lines hwf, run_start lines hwf, ready_congr lines argv s St.fresh (Or.inl hne)]

/-- a prior state in the middle of a pack of another vector, with a stale table -/
example : ∃ s : St, s.packed = some (1, 2) ∧ s.optind = 1 ∧ s.initialized = true ∧ s.optreset = false ∧
    (tableOf exLines).WF ∧ exArgv ≠ [] :=
  ⟨{ packed := some (1, 2), optind := 1, initialized := true, optreset := false,
     opts := some [none, none], nopts := 2 }, rfl, rfl, rfl, rfl, exLines_wf, by decide⟩

/-- **Memory safety of the model.**  Every read of the parse is inside a word
    (at most its terminating NUL) or inside `argv[0 … argc-1]`, the slot array is indexed within its
    allocation, and no `assert`/`DIE` fires: the outcome is never an error. -/
theorem never_out_of_bounds (lines : List Line) (argv : List Str) (s : St)
    (hwf : (tableOf lines).WF) (hnul : ∀ a ∈ argv, NulFree a) (e : Fail) :
    run lines argv s ≠ .error e := by
  obtain ⟨evs, sf, h, _⟩ := parse_follows_grammar lines argv s hwf hnul
  rw [h]
  exact fun h => nomatch h

/-- the out-of-bounds outcome exists in the model: reading past the terminator, or `argv[argc]` -/
example : rd (b "-a") 3 = .error .oob ∧ rd (b "-a") 2 = .ok 0 ∧ arg exArgv exArgv.length = .error .oob :=
  ⟨rfl, rfl, rfl⟩

/-- **Termination 1: the loop needs no more than one call per byte plus one per word (+2), and more
    fuel changes nothing.** -/
theorem loop_fuel_sufficient (lines : List Line) (argv : List Str) (s : St)
    (hwf : (tableOf lines).WF) (hnul : ∀ a ∈ argv, NulFree a) (fuel : Nat) (hfuel : fuelFor argv ≤ fuel) :
    loop lines argv fuel { s with optreset := true } = run lines argv s := by
  obtain ⟨evs, sf, h, _⟩ := loop_spec lines hwf argv hnul { s with optreset := true } rfl
  rw [run, h fuel hfuel, h _ (Nat.le_refl _)]

example : fuelFor exArgv = 47 ∧ (tableOf exLines).WF := ⟨by decide, exLines_wf⟩

/-- **Termination 2: each step consumes input.**  In an initialised parser whose cursor is inside
    `argv` (`optind ≤ argc`; a pack cursor strictly inside `argv[optind]`), every `getopt` call that
    returns an option leaves the cursor inside `argv` and strictly further on: a later word, or the same
    word and a larger offset.  (These states are closed under the step, and parsing starts in one:
    `ready_inv`, `ready_cursorOK`.) -/
theorem step_consumes_input (lines : List Line) (argv : List Str) (hnul : ∀ a ∈ argv, NulFree a)
    (s s' : St) (ch : Str) (hinv : Inv lines s) (hc : CursorOK argv s)
    (h : Percival.Model.Getopt.getopt argv s = .ok (.os ch, s')) :
    CursorOK argv s' ∧ Inv lines s' ∧
      (s.optind < s'.optind ∨ (s.optind = s'.optind ∧ offset s < offset s')) :=
  getopt_progress hnul hinv hc h

example : Inv exLines (ready exLines exArgv St.fresh) ∧ CursorOK exArgv (ready exLines exArgv St.fresh) ∧
    ∃ ch s', Percival.Model.Getopt.getopt exArgv (ready exLines exArgv St.fresh) = .ok (.os ch, s') :=
  ⟨ready_inv _ _ _, ready_cursorOK _ _ _ (by decide), _, _, rfl⟩

/-- **The table is discovered correctly.**  The dummy pass through the switch (`getopt_setrange`, one
    `getopt_register_opt` / `getopt_register_missing` per labelled line) never dies on a well-formed table
    and leaves one slot per source line: the option written there, or an empty slot. -/
theorem registration_pass (lines : List Line) (argv : List Str) (s : St) (hwf : (tableOf lines).WF) :
    ∃ s', initPass lines (reset argv { s with optarg := none }) = .ok s' ∧ Inv lines s' ∧
      s'.optind = 1 ∧ s'.packed = none :=
  ⟨ready lines argv s, initPass_ok lines hwf argv s, ready_inv _ _ _, rfl, rfl⟩

example : (ready exLines exArgv St.fresh).opts =
    some [none, some ⟨b "-a", 2, false⟩, some ⟨b "-b", 2, true⟩, some ⟨b "--foo", 5, false⟩,
          some ⟨b "--bar", 5, true⟩, none] ∧ (ready exLines exArgv St.fresh).optMissing = 5 := by
  decide

/-- **The grammar is unambiguous for sensible tables.**  `Spec.lookupLong` takes the first matching
    option in source order; when the names are distinct, valid, and no long name contains `=`, at most one
    option can match a word, so the order of the table is irrelevant. -/
theorem lookup_unique (opts : List Opt)
    (hv : ∀ o ∈ opts, ValidName o.name ∧ EqFreeLong o.name)
    (hd : opts.Pairwise (fun a b => a.name ≠ b.name)) (w : Str) (o : Opt) (v : Option Str)
    (ho : o ∈ opts) (hm : matchOpt o w = some v) : lookupLong opts w = some (o, v) :=
  lookupLong_unique opts hv hd w o v ho hm

example : (⟨b "--bar", true⟩ : Opt) ∈ exOpts ∧
    matchOpt ⟨b "--bar", true⟩ (b "--bar=1") = some (some (b "1")) ∧
    exOpts.Pairwise (fun x y => x.name ≠ y.name) ∧ EqFreeLong (b "--bar") := by
  refine ⟨by decide, by decide, by decide, ?_⟩
  intro _; decide

/-! ## The function the executable runs

`pmodel getopt` applies `Model.GetoptStep.stepOp` to every parsed line; `Driver/Getopt.lean` only parses and prints.
The L1 part of a `parse` line is printed from `Spec.Getopt.parseArgv`, the L2 part from the model's states. -/

open Percival.Model.GetoptStep Percival.Proofs.GetoptTables in
/-- the option tables of `harness/h_getopt.c` are well-formed (they register without dying) -/
theorem exec_tables_wf : ∀ lines ∈ tables, (tableOf lines).WF := tables_wf

example : Model.GetoptStep.tables.length = 9 := rfl

open Percival.Model.GetoptStep Percival.Proofs.GetoptTables in
/-- **L1 = the model's own reports, from every prior state, and never a failure**: for each table of the harness,
every NUL-free `argv`, every `k` and *every* state `s` left by earlier lines (a finished parse, or one abandoned
after `k` reports in the middle of a packed group of another vector), a `parse` line answers with the reports of
the grammar — which are exactly the reports the model of getopt.c makes (`evs.map (·.1)`), cut after `k` when the
loop is abandoned — and the final `optind` of the grammar is the model's; `fail:oob`, `fail:abort`, `fail:fuel`
are never printed. -/
theorem exec_parse_follows_grammar (s : St) (t k : Nat) (argv : List Str) (lines : List Line)
    (ht : tables[t]? = some lines) (hnul : ∀ a ∈ argv, NulFree a) :
    ∃ evs sf, run lines argv s = .ok (evs, sf) ∧
      (stepOp s (.parse t k argv)).2 =
        (if k > 0 ∧ k ≤ evs.length then .parsed ((evs.map (·.1)).take k) true 0 ((evs.take k).map (·.2)) none
         else .parsed (evs.map (·.1)) false sf.optind (evs.map (·.2)) (some sf)) := by
  have hwf := tables_wf lines (List.mem_of_getElem? ht)
  obtain ⟨evs, sf, h1, h2, h3⟩ := parse_follows_grammar lines argv s hwf hnul
  refine ⟨evs, sf, h1, ?_⟩
  simp only [stepOp, ht, h1, ← h2, ← h3]
  split <;> rfl

example : Model.GetoptStep.tables[0]? = some exLines ∧ (∀ a ∈ exArgv, NulFree a) :=
  ⟨rfl, Proofs.Getopt.exArgv_nulFree⟩

end Percival.C18
