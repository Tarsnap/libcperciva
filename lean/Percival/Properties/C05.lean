import Percival.Proofs.EventsC05Loop
import Percival.Proofs.TimerQueue
import Percival.Proofs.EventsStep
import Percival.Proofs.EventsAns
import Percival.Proofs.EventsC04Run
import Percival.Proofs.EventsLines
/-!
# C05 — event loop: dispatch order, progress and status propagation

`Spec.Events.C05` is the monitor that encodes the property statement over observable traces (the
implementation's traces are judged by it on every run of the check).  Proved here: every trace of
the model (`Model.Events`, which follows `events_run_internal` statement by statement) is accepted
by that monitor; the immediate-event machinery (`heads[32]` + `minq`) refines one stable priority
queue; the timeout handed to `poll` — at first, and again after every EINTR — is never more than the
time to the earliest deadline rounded up to a millisecond (for every deadline: `C05.ceilMs` has no upper
limit), exactly that below 2147483 s, and 0 exactly when the deadline has passed.  The timer queue is
used through the C13 contract (`TQContract`).
-/
namespace Percival.C05
open Percival.Spec.Events Percival.Model.Events
open Percival.Proofs.EventsImm Percival.Proofs.EventsTQ Percival.Proofs.EventsC05

/-- **P2 (`immediate_fifo_refines`).** `events_immediate.c`'s 32 FIFO queues plus `minq` implement one
    stable priority queue: if the queues hold the list `l` (in registration order; `RQ q l`), then
    register appends, cancel removes that registration, and `events_immediate_get` returns exactly
    `C05.nextImm l` — an element of least priority value, the oldest of that priority — and removes it;
    it returns NULL exactly on the empty queue. -/
theorem immediate_fifo_refines (q : Imm) (l : List C05.Imm) (h : RQ q l) :
    (∀ id prio, prio < 32 → ∃ q', immRegister q id prio = some q' ∧ RQ q' (l ++ [⟨id, prio⟩])) ∧
    (∀ id p, IdsNodup l → (⟨id, p⟩ : C05.Imm) ∈ l →
        ∃ q', immCancel q id p = some q' ∧ RQ q' (l.filter (fun i => i.id != id))) ∧
    ((l = [] ∧ (immGet q).2 = none ∧ RQ (immGet q).1 []) ∨
     (∃ j, C05.nextImm l = some j ∧ (immGet q).2 = some j.id ∧ RQ (immGet q).1 (l.erase j))) :=
  ⟨fun id prio hp => immRegister_rq q l id prio h hp,
   fun id p hn hm => immCancel_rq q l id p h hn hm,
   immGet_rq q l h⟩

/-- what "next" means: least priority value, first-in-first-out within it -/
theorem nextImm_least_oldest (l : List C05.Imm) (j : C05.Imm) (h : C05.nextImm l = some j) :
    j ∈ l ∧ (∀ i ∈ l, j.prio ≤ i.prio) ∧ ∃ rest, proj l j.prio = j.id :: rest :=
  let ⟨h1, h2, rest, h3, _⟩ := nextImm_spec l j h
  ⟨h1, h2, rest, h3⟩

example : RQ {} [] := rq_init

example : C05.nextImm [⟨1, 5⟩, ⟨2, 3⟩, ⟨3, 5⟩, ⟨4, 3⟩] = some ⟨2, 3⟩ := by decide

/-- three registrations with two priorities: the queues hold them, and `get` releases 2 (priority 3) first -/
example : ∃ q1 q2 q3, immRegister {} 1 5 = some q1 ∧ immRegister q1 2 3 = some q2 ∧ immRegister q2 3 5 = some q3 ∧
    (immGet q3).2 = some 2 := by
  refine ⟨_, _, _, rfl, rfl, rfl, ?_⟩
  decide +kernel

/-- **timeout.** For a timer due at `dl` µs with the clock at `clock` µs, the timeout `t` that
    `events_timer_min` followed by `events_network_select`'s conversion (`tv2ms`) hands to `poll`
    * never exceeds `⌈(dl - clock)/1000⌉` ms — `C05.ceilMs`, the property's "rounded up to a millisecond",
      which has no upper limit: this holds for *every* deadline, also one more than `INT_MAX` ms (24.8 days)
      away;
    * is exactly that whenever less than `INT_MAX / 1000` = 2147483 s are left;
    * from 2147483 s on is 2147483000 ms = `(INT_MAX / 1000) * 1000` (the loop then wakes up early, finds
      nothing due and is called again);
    * is never negative, and is 0 exactly when the timer is due (no blocking then; no busy loop before).

    The first clause holds since the fix of finding F12 (`notes/F12-fix.md`); the unfixed code violates it: with
    2147483 s and 0 … 646000 µs left it asks for `INT_MAX` = 2147483647 ms, up to 647 ms beyond the deadline. -/
theorem select_timeout_ceil (clock dl : Nat) :
    let t := selectTimeout (some (timerDiff clock ((dl / 1000000 : Nat) : Int) ((dl % 1000000 : Nat) : Int)))
    t ≤ C05.ceilMs (dl - clock) ∧
    (dl - clock < 2147483000000 → t = C05.ceilMs (dl - clock)) ∧
    (2147483000000 ≤ dl - clock → t = 2147483000) ∧
    0 ≤ t ∧ (t = 0 ↔ dl ≤ clock) :=
  let h := timeout_spec (selectTimeout_timerDiff clock dl)
  ⟨h.1, h.2.1, h.2.2.1, h.2.2.2.1, h.2.2.2.2.trans (by omega)⟩

example : selectTimeout (some (timerDiff 1500 0 2501)) = 2 ∧ selectTimeout (some (timerDiff 1500 0 2500)) = 1 ∧
    selectTimeout (some (timerDiff 3000 0 2500)) = 0 ∧ selectTimeout none = -1 := by decide

/-- the saturation point, with the clock at 1.5 s: 2147482.999999 s, 2147483.000000 s, 2147483.647 s,
    2147483.647001 s, 2147484 s and 3·10⁹ s ahead — timeout and `ceilMs` of the time left (equal in the
    first case, the timeout smaller in all others) -/
example :
    (selectTimeout (some (timerDiff 1500000 2147484 499999)) = 2147483000 ∧ C05.ceilMs (2147484499999 - 1500000) = 2147483000) ∧
    (selectTimeout (some (timerDiff 1500000 2147484 500000)) = 2147483000 ∧ C05.ceilMs (2147484500000 - 1500000) = 2147483000) ∧
    (selectTimeout (some (timerDiff 1500000 2147485 147000)) = 2147483000 ∧ C05.ceilMs (2147485147000 - 1500000) = 2147483647) ∧
    (selectTimeout (some (timerDiff 1500000 2147485 147001)) = 2147483000 ∧ C05.ceilMs (2147485147001 - 1500000) = 2147483648) ∧
    (selectTimeout (some (timerDiff 1500000 2147485 500000)) = 2147483000 ∧ C05.ceilMs (2147485500000 - 1500000) = 2147484000) ∧
    (selectTimeout (some (timerDiff 1500000 3000000001 500000)) = 2147483000 ∧ C05.ceilMs (3000000001500000 - 1500000) = 3000000000000) ∧
    -- 2147482.998999 s: a millisecond less
    (selectTimeout (some (timerDiff 1500000 2147484 498999)) = 2147482999 ∧ C05.ceilMs (2147484498999 - 1500000) = 2147482999) := by decide

/-- **timeout after EINTR.** A finite wait for the timer due at `dl` µs started with the clock at `clock`
    µs (`tv` = `events_timer_min`'s answer, `tstart` = the reading `events_network_select` takes before
    the first poll).  When poll fails with EINTR and the clock then reads `tnow` (it never runs
    backwards), the loop polls again with a timeout `t` computed from what is left until the deadline —
    not the full timeout again: `t` never exceeds `⌈(dl - tnow)/1000⌉` ms (for every deadline, however
    far away), is exactly that whenever less than 2147483 s are left, is 2147483000 ms from there on, is
    never negative and is 0 exactly when the deadline has passed.  By induction this holds after any
    number of EINTRs, since `tv` and `tstart` are fixed and only `tnow` moves. -/
theorem select_timeout_after_eintr (clock dl tnow : Nat) (h : clock ≤ tnow) :
    let t := timeLeft (timerDiff clock ((dl / 1000000 : Nat) : Int) ((dl % 1000000 : Nat) : Int)) clock tnow
    t ≤ C05.ceilMs (dl - tnow) ∧
    (dl - tnow < 2147483000000 → t = C05.ceilMs (dl - tnow)) ∧
    (2147483000000 ≤ dl - tnow → t = 2147483000) ∧
    0 ≤ t ∧ (t = 0 ↔ dl ≤ tnow) := by
  have e : timeLeft (timerDiff clock ((dl / 1000000 : Nat) : Int) ((dl % 1000000 : Nat) : Int)) clock tnow =
      satMs (dl - tnow) := by
    rw [((TV.split dl).timerDiff clock).timeLeft clock tnow]
    congr 1
    omega
  have h := timeout_spec e
  exact ⟨h.1, h.2.1, h.2.2.1, h.2.2.2.1, h.2.2.2.2.trans (by omega)⟩

example : timeLeft (timerDiff 0 1 1) 0 1000 = 1000 ∧ timeLeft (timerDiff 0 1 1) 0 1001 = 999 ∧
    timeLeft (timerDiff 0 1 1) 0 1000000 = 1 ∧ timeLeft (timerDiff 0 1 1) 0 1000001 = 0 ∧
    timeLeft (timerDiff 0 1 1) 0 5000000 = 0 := by decide

/-- a wait for a timer 3·10⁹ s ahead, interrupted when 3·10⁹ s, 2147484 s, 2147483.647001 s, 2147483.647 s,
    2147483.000000 s, 2147482.999999 s (equal to the ceiling from here on), 2147482.999 s are left, at the
    deadline and after it -/
example :
    timeLeft (timerDiff 7 3000000000 7) 7 7 = 2147483000 ∧
    timeLeft (timerDiff 7 3000000000 7) 7 (3000000000000007 - 2147484000000) = 2147483000 ∧
    timeLeft (timerDiff 7 3000000000 7) 7 (3000000000000007 - 2147483647001) = 2147483000 ∧
    timeLeft (timerDiff 7 3000000000 7) 7 (3000000000000007 - 2147483647000) = 2147483000 ∧
    timeLeft (timerDiff 7 3000000000 7) 7 (3000000000000007 - 2147483000000) = 2147483000 ∧
    timeLeft (timerDiff 7 3000000000 7) 7 (3000000000000007 - 2147482999999) = 2147483000 ∧
    timeLeft (timerDiff 7 3000000000 7) 7 (3000000000000007 - 2147482999000) = 2147482999 ∧
    timeLeft (timerDiff 7 3000000000 7) 7 3000000000000007 = 0 ∧
    timeLeft (timerDiff 7 3000000000 7) 7 3000000000000008 = 0 := by decide


/-- **P1 (`run_admissible_C05`).** For every program (top-level API calls; callback scripts that
    register, cancel, reset, request an interrupt, move the clock, return any status; all priorities;
    tied deadlines; scripted poll answers with ERR/HUP, EINTR — with any amount of time passing before the signal, any
    number of times in a row —, a signal whose handler calls `events_interrupt()` during any poll (infinite, finite
    or zero timeout, at any position among the other answers, whatever becomes ready or expires next), and clock
    advance) and every fuel, the
    trace of the model is accepted by the C05 monitor: immediates run in `nextImm` order and before any
    socket or timer callback; a timer runs only when no socket reported by the latest poll is waiting,
    no timer has an earlier deadline, and — while a socket registration is held — a poll has come back in
    this call after its previous callback (the loop looks at the registered descriptors between any callback
    and the next timer: a descriptor that became ready while the callback ran wins); no poll blocks while something is runnable, none blocks
    indefinitely while a timer is registered or beyond `ceilMs` of the time to the earliest deadline; a
    call that starts with something runnable, or wakes up for a registered descriptor or an expired
    timer, runs a callback before it returns, and does not return 0 (uninterrupted) while the latest
    poll's report or an expired timer is still outstanding; after a non-zero status or with an
    interrupt request pending nothing more is dispatched and the return value is that status / 0; an
    interrupt request made by a signal handler while poll was waiting (timeout ≠ 0) stops dispatching at
    once — no callback is started and no further poll issued in that call, which returns 0 (one made during
    the non-blocking poll between two callbacks lets the pass finish: at most one more callback);
    `events_network_cancel`/`register` answer ENOENT/EEXIST exactly for absent/present registrations
    (events not yet run stay registered).

    The model is that of `events_network_select` with the fix of finding F11 (`notes/F11-fix.md`): after
    EINTR a finite wait goes on with what is left of it by the monotonic clock.  The unfixed code (poll
    restarted with the full timeout) violates the statement unless no time passes during an EINTR.
    Likewise for finding F12 (`notes/F12-fix.md`): the monitor's `ceilMs` is plain rounding up with no upper
    limit, and the model's `tv2ms` saturates to 2147483000 ms; the unfixed code (`INT_MAX` ms from 2147483 s
    on) violates the statement for every timer 2147483 s + 0 … 646000 µs ahead. -/
theorem run_admissible_C05 (C : TQContract) (fuel : Nat) (prog : List Top) :
    C05.admissible (run fuel prog) = true :=
  run_admissible C fuel prog

/-- a program with everything in it: priorities out of order, a socket with ERR, tied timers, a reset,
    a status that stops the first run, an interrupt requested from a callback, EINTRs with time passing -/
def demo : List Top :=
  [ .script 1 ⟨0, [.regImm 6 0]⟩, .script 2 ⟨7, []⟩, .script 5 ⟨0, [.interrupt, .regImm 7 1]⟩,
    .api (.regImm 1 5), .api (.regImm 2 3), .api (.regImm 3 5), .api (.regNet 4 9 .rd), .api (.regNet 5 9 .wr),
    .api (.regTimer 8 1000), .api (.regTimer 9 1000), .api (.resetTimer 8),
    .run, .run, .pollAns (.eintr 100), .pollAns (.eintr 1), .pollAns (.ans 700 [(9, { e := true })]), .run, .run, .run, .run ]

example : (run 50 demo).length = 49 ∧ C05.admissible (run 50 demo) = true := by decide +kernel

/-- the EINTR restart: 1000 µs, then 1 µs, then 999000 µs pass before three signals; the waits are
    1001 ms, then 1000 ms (999001 µs left, rounded up), 999 ms (999000 µs left) and 0 ms (nothing
    left: the timer runs) -/
example : run 50 [.api (.regTimer 0 1000001), .pollAns (.eintr 1000), .pollAns (.eintr 1), .pollAns (.eintr 999000), .run] =
    [.op (.regTimer 0 1000001) .ok, .runBegin, .poll 1001 1000 [] .eintr, .poll 1000 1 [] .eintr, .poll 999 999000 [] .eintr,
     .poll 0 0 [] .ok, .poll 0 0 [] .ok, .cb 0, .cbEnd 0, .poll 0 0 [] .ok, .ret 0] := by
  decide +kernel

/-- a signal handler calls `events_interrupt()` while the loop waits 5 ms for a timer, at the very moment of the deadline,
    and the descriptor is ready at the next poll: the call returns 0 at once — no zero-timeout poll, no callback —, the
    interrupt flag is cleared, both events are still registered, and the next call runs them (socket first) -/
example : run 50 [.api (.regNet 1 3 .rd), .api (.regTimer 2 5000), .pollAns (.intr 5000),
                  .pollAns (.ans 0 [(3, { r := true })]), .run, .run] =
    [.op (.regNet 1 3 .rd) .ok, .op (.regTimer 2 5000) .ok,
     .runBegin, .poll 5 5000 [⟨3, { r := true }, {}⟩] .intr, .ret 0,
     .runBegin, .poll 0 0 [⟨3, { r := true }, { r := true }⟩] .ok, .cb 1, .cbEnd 0, .poll 0 0 [] .ok, .cb 2, .cbEnd 0,
     .poll 0 0 [] .ok, .ret 0] := by
  decide +kernel

/-- the same signal during an infinite wait, after an EINTR without a request, and during the non-blocking poll that
    follows a callback (there the pass goes on: the expired timer still runs, then dispatching stops) -/
example : run 50 [.api (.regNet 1 3 .rd), .pollAns (.eintr 7), .pollAns (.intr 9), .run,
                  .api (.regTimer 2 0), .pollAns (.ans 0 [(3, { r := true })]), .pollAns (.intr 0), .run] =
    [.op (.regNet 1 3 .rd) .ok,
     .runBegin, .poll (-1) 7 [⟨3, { r := true }, {}⟩] .eintr, .poll (-1) 9 [⟨3, { r := true }, {}⟩] .intr, .ret 0,
     .op (.regTimer 2 0) .ok,
     .runBegin, .poll 0 0 [⟨3, { r := true }, { r := true }⟩] .ok, .cb 1, .cbEnd 0, .poll 0 0 [] .intr, .cb 2, .cbEnd 0, .ret 0] := by
  decide +kernel

/-- finding F12's input: a timer 2147483.5 s ahead.  The first call waits 2147483000 ms
    (not `INT_MAX` ms, which would end 147 ms after the deadline), finds nothing due and returns 0; the
    next call waits the remaining 500 ms and runs the timer at its deadline -/
example : run 50 [.api (.regTimer 0 2147483500000), .run, .run] =
    [.op (.regTimer 0 2147483500000) .ok,
     .runBegin, .poll 2147483000 2147483000000 [] .ok, .poll 0 0 [] .ok, .ret 0,
     .runBegin, .poll 500 500000 [] .ok, .poll 0 0 [] .ok, .cb 0, .cbEnd 0, .poll 0 0 [] .ok, .ret 0] := by
  decide +kernel

/-- two timers that have both expired at the same wake-up and a descriptor that becomes ready while the first timer's
    callback runs: the loop looks again (zero-timeout poll) after every callback, so the socket's callback runs between
    the two timers (T S T) -/
example : run 50 [.api (.regNet 0 4 .wr), .api (.regTimer 1 1000), .api (.regTimer 2 251000), .pollAns (.ans 251001 []),
                  .pollAns (.ans 0 []), .pollAns (.ans 0 [(4, { w := true })]), .run] =
    [.op (.regNet 0 4 .wr) .ok, .op (.regTimer 1 1000) .ok, .op (.regTimer 2 251000) .ok,
     .runBegin, .poll 1 251001 [⟨4, { w := true }, {}⟩] .ok, .poll 0 0 [⟨4, { w := true }, {}⟩] .ok, .cb 1, .cbEnd 0,
     .poll 0 0 [⟨4, { w := true }, { w := true }⟩] .ok, .cb 0, .cbEnd 0, .poll 0 0 [] .ok, .cb 2, .cbEnd 0,
     .poll 0 0 [] .ok, .ret 0] := by
  decide +kernel

/-- the monitor is not vacuous -/
example :
    -- a timer right after another callback, a socket registered, no poll in between (what a loop does that skips the
    -- zero-timeout poll because "the last poll found nothing": the seeded change `C05-r6-3`) / with the look /
    -- a plain EINTR is not a look / nothing to look at without socket registrations / the first callback of a call /
    -- a look cut short by an interrupt request lets the pass finish (Observation 2)
    C05.admissible [.op (.regNet 0 4 .wr) .ok, .op (.regTimer 1 1000) .ok, .op (.regTimer 2 251000) .ok, .runBegin,
                    .poll 1 251001 [⟨4, { w := true }, {}⟩] .ok, .cb 1, .cbEnd 0, .cb 2] = false ∧
    C05.admissible [.op (.regNet 0 4 .wr) .ok, .op (.regTimer 1 1000) .ok, .op (.regTimer 2 251000) .ok, .runBegin,
                    .poll 1 251001 [⟨4, { w := true }, {}⟩] .ok, .cb 1, .cbEnd 0, .poll 0 0 [⟨4, { w := true }, {}⟩] .ok,
                    .cb 2, .cbEnd 0, .poll 0 0 [⟨4, { w := true }, {}⟩] .ok, .ret 0] = true ∧
    C05.admissible [.op (.regNet 0 4 .wr) .ok, .op (.regTimer 1 1000) .ok, .op (.regTimer 2 251000) .ok, .runBegin,
                    .poll 1 251001 [⟨4, { w := true }, {}⟩] .ok, .cb 1, .cbEnd 0, .poll 0 0 [⟨4, { w := true }, {}⟩] .eintr,
                    .cb 2] = false ∧
    C05.admissible [.op (.regTimer 1 1000) .ok, .op (.regTimer 2 251000) .ok, .runBegin, .poll 1 251001 [] .ok,
                    .cb 1, .cbEnd 0, .cb 2, .cbEnd 0, .ret 0] = true ∧
    C05.admissible [.op (.regNet 0 4 .wr) .ok, .op (.regTimer 1 0) .ok, .runBegin, .cb 1] = false ∧
    C05.admissible [.op (.regNet 0 4 .wr) .ok, .op (.regTimer 1 0) .ok, .op (.regTimer 2 0) .ok, .runBegin,
                    .poll 0 0 [⟨4, { w := true }, {}⟩] .ok, .cb 1, .cbEnd 0, .poll 0 0 [⟨4, { w := true }, {}⟩] .intr,
                    .cb 2, .cbEnd 0, .ret 0] = true := by
  decide +kernel

/-- the monitor is not vacuous -/
example :
    -- the ceiling has no upper limit: `INT_MAX` ms is too long for a deadline 2147483.5 s or 2147483.000001 s away
    -- (what the code without the fix of F12 asks for); the exact ceiling and anything shorter is accepted, and for
    -- a deadline beyond `INT_MAX` ms any `int` is
    C05.admissible [.op (.regTimer 0 2147483500000) .ok, .runBegin, .poll 2147483647 2147483647000 [] .ok] = false ∧
    C05.admissible [.op (.regTimer 0 2147483000001) .ok, .runBegin, .poll 2147483647 2147483647000 [] .ok] = false ∧
    C05.admissible [.op (.regTimer 0 2147483500000) .ok, .runBegin, .poll 2147483501 2147483501000 [] .ok] = false ∧
    C05.admissible [.op (.regTimer 0 2147483500000) .ok, .runBegin, .poll 2147483500 2147483500000 [] .ok] = true ∧
    C05.admissible [.op (.regTimer 0 2147483500000) .ok, .runBegin, .poll 2147483000 2147483000000 [] .ok, .poll 0 0 [] .ok, .ret 0] = true ∧
    C05.admissible [.op (.regTimer 0 2147483647001) .ok, .runBegin, .poll 2147483647 2147483647000 [] .ok, .poll 0 0 [] .ok, .ret 0] = true ∧
    C05.admissible [.op (.regTimer 0 2147483500000) .ok, .runBegin, .poll 2147483000 2147483000000 [] .eintr,
                    .poll 2147483647 0 [] .ok] = false ∧
    -- priority order / FIFO
    C05.admissible [.op (.regImm 1 5) .ok, .op (.regImm 2 3) .ok, .runBegin, .cb 1] = false ∧
    C05.admissible [.op (.regImm 1 5) .ok, .op (.regImm 2 5) .ok, .runBegin, .cb 2] = false ∧
    -- a timer before a socket the latest poll reported
    C05.admissible [.op (.regNet 1 3 .rd) .ok, .op (.regTimer 2 0) .ok, .runBegin,
                    .poll 0 0 [⟨3, { r := true }, { r := true }⟩] .ok, .cb 2] = false ∧
    -- blocking too long / with something runnable
    C05.admissible [.op (.regTimer 2 1500) .ok, .runBegin, .poll 3 3000 [] .ok] = false ∧
    -- restarting with the full timeout after EINTR (the code without the fix of F11) / with what is left
    C05.admissible [.op (.regTimer 0 1000001) .ok, .runBegin, .poll 1001 1000 [] .eintr, .poll 1001 1001000 [] .ok] = false ∧
    C05.admissible [.op (.regTimer 0 1000001) .ok, .runBegin, .poll 1001 1000 [] .eintr, .poll 1000 1000000 [] .ok] = true ∧
    C05.admissible [.op (.regTimer 0 1500) .ok, .runBegin, .poll 2 1500 [] .eintr, .poll 1 1000 [] .ok] = false ∧
    C05.admissible [.op (.regTimer 2 1500) .ok, .runBegin, .poll 2 2000 [] .ok, .cb 2, .cbEnd 0, .poll 0 0 [] .ok, .ret 0] = true ∧
    C05.admissible [.op (.regImm 1 0) .ok, .runBegin, .poll (-1) 0 [] .ok] = false ∧
    -- progress
    C05.admissible [.op (.regImm 1 0) .ok, .runBegin, .ret 0] = false ∧
    C05.admissible [.op (.regTimer 2 1500) .ok, .runBegin, .poll 2 2000 [] .ok, .ret 0] = false ∧
    -- status / interrupt
    C05.admissible [.op (.regImm 1 0) .ok, .op (.regImm 2 0) .ok, .runBegin, .cb 1, .cbEnd 7, .cb 2] = false ∧
    C05.admissible [.op (.regImm 1 0) .ok, .runBegin, .cb 1, .cbEnd 7, .ret 0] = false ∧
    C05.admissible [.op (.regImm 1 0) .ok, .op (.regImm 2 0) .ok, .runBegin, .cb 1, .op .interrupt .ok, .cbEnd 0, .cb 2] = false ∧
    -- an interrupt request made by a signal handler while poll waits (infinite / finite timeout): return 0 at once —
    -- no look for more descriptors, no callback for the descriptor that is ready by then or the timer that expires
    -- at that moment (what the code does if the flag is tested only at the end of a pass: the seeded change `C05-r4-3`)
    C05.admissible [.op (.regNet 1 3 .rd) .ok, .runBegin, .poll (-1) 5 [⟨3, { r := true }, {}⟩] .intr, .ret 0] = true ∧
    C05.admissible [.op (.regNet 1 3 .rd) .ok, .runBegin, .poll (-1) 5 [⟨3, { r := true }, {}⟩] .intr,
                    .poll 0 0 [⟨3, { r := true }, { r := true }⟩] .ok] = false ∧
    C05.admissible [.op (.regNet 1 3 .rd) .ok, .runBegin, .poll (-1) 5 [⟨3, { r := true }, {}⟩] .stuck,
                    .poll 0 0 [⟨3, { r := true }, { r := true }⟩] .ok] = false ∧
    C05.admissible [.op (.regNet 1 3 .rd) .ok, .runBegin, .poll (-1) 5 [⟨3, { r := true }, {}⟩] .intr, .cb 1] = false ∧
    C05.admissible [.op (.regTimer 2 1000) .ok, .runBegin, .poll 1 1000 [] .intr, .cb 2] = false ∧
    C05.admissible [.op (.regTimer 2 1000) .ok, .runBegin, .poll 1 1000 [] .intr, .ret 0] = true ∧
    C05.admissible [.op (.regTimer 2 1000) .ok, .runBegin, .poll 1 1000 [] .intr, .ret (-1)] = false ∧
    -- … during the non-blocking poll of a pass: that pass may still run one event, nothing after it
    C05.admissible [.op (.regTimer 2 0) .ok, .op (.regTimer 3 0) .ok, .runBegin, .poll 0 0 [] .ok, .poll 0 0 [] .intr,
                    .cb 2, .cbEnd 0, .ret 0] = true ∧
    C05.admissible [.op (.regTimer 2 0) .ok, .op (.regTimer 3 0) .ok, .runBegin, .poll 0 0 [] .ok, .poll 0 0 [] .intr,
                    .cb 2, .cbEnd 0, .cb 3] = false ∧
    -- unfired registrations stay
    C05.admissible [.op (.regNet 1 3 .rd) .ok, .op (.cancelNet 3 .rd) .enoent] = false := by
  decide +kernel


/-! ## `events_spin`

`Top.spin` is a program op like `Top.run`, so `run_admissible_C05` above already speaks about every program that calls
`events_spin(&done)` any number of times (model: `eventsSpin` = `spinLoop`, the C's `while` loop around `runInternal`,
sharing `intr`; `done` is set by the op `done` — from a callback or by the program — and cleared by the caller after the
call).  The monitor judges the whole call without knowing where one turn of the loop ends: the order clauses apply
unchanged; after a non-zero status nothing runs and that value is returned; after an interrupt request nothing runs and
0 is returned; 0 is returned otherwise only if `done` is set; `done` set before the call: nothing at all runs; once `done`
is set no poll that may block is issued; the request is consumed (`spinRet` clears `intr`: a following `run` is judged as
a fresh call).  Proof (`Proofs/EventsC05Loop.lean`): the invariant `SpinTop rc` at the loop's test — if the monitor's `stop`
is set it is `some rc` (and for 0 an interrupt request is pending or `done` was set before the call), else `rc = 0` and, unless interrupted, a callback is
owed (`Owed`) only if something is runnable — gives `BegunS` (what a turn needs: no stop, that, `done` clear) when the C condition holds
and `SpinExit` (what `spinRet` checks) when it does not; a turn is `runInternal_weak`: the `events_run_internal` proof
starts from `BegunS` and the value `b` the monitor's `polled` has on entry (false right after `runBegin`, anything in a turn
of `events_spin`), and ends with `b = false → PollDone`, which `ret` needs and `spinRet` does not look at. -/

/-- `done` set by the first of two immediates: the turn in progress finishes (the second immediate runs), the loop ends,
    0 is returned; the following `events_run` is a fresh call -/
example : run 50 [.script 1 ⟨0, [.done]⟩, .api (.regImm 1 0), .api (.regImm 2 0), .spin, .run] =
    [.op (.regImm 1 0) .ok, .op (.regImm 2 0) .ok, .spinBegin, .cb 1, .op .done .ok, .cbEnd 0, .cb 2, .cbEnd 0, .spinRet 0,
     .runBegin, .poll (-1) 0 [] .stuck, .ret 0] := by
  decide +kernel

/-- two turns (an immediate, then a timer 2 ms ahead whose callback sets `done`); `done` set before the call: nothing
    runs; a status ends the call and is returned -/
example : run 50 [.script 2 ⟨0, [.done]⟩, .script 3 ⟨7, []⟩, .api (.regImm 1 0), .api (.regTimer 2 2000), .spin,
                  .api .done, .api (.regImm 3 0), .spin, .spin] =
    [.op (.regImm 1 0) .ok, .op (.regTimer 2 2000) .ok,
     .spinBegin, .cb 1, .cbEnd 0, .poll 2 2000 [] .ok, .poll 0 0 [] .ok, .cb 2, .op .done .ok, .cbEnd 0, .poll 0 0 [] .ok, .spinRet 0,
     .op .done .ok, .op (.regImm 3 0) .ok, .spinBegin, .spinRet 0,
     .spinBegin, .cb 3, .cbEnd 7, .spinRet 7] := by
  decide +kernel

/-- the spin clauses are not vacuous -/
example :
    -- `done` set before the call: no callback, no poll
    C05.admissible [.op .done .ok, .op (.regImm 1 0) .ok, .spinBegin, .cb 1] = false ∧
    C05.admissible [.op .done .ok, .spinBegin, .poll (-1) 0 [] .stuck] = false ∧
    C05.admissible [.op .done .ok, .op (.regImm 1 0) .ok, .spinBegin, .spinRet 0] = true ∧
    -- 0 only with `done` set or after an interrupt request
    C05.admissible [.op (.regImm 1 0) .ok, .spinBegin, .cb 1, .cbEnd 0, .spinRet 0] = false ∧
    C05.admissible [.op (.regImm 1 0) .ok, .spinBegin, .cb 1, .op .done .ok, .cbEnd 0, .spinRet 0] = true ∧
    C05.admissible [.spinBegin, .poll (-1) 0 [] .stuck, .spinRet 0] = true ∧
    -- the status is returned, and nothing runs after it
    C05.admissible [.op (.regImm 1 0) .ok, .spinBegin, .cb 1, .cbEnd 7, .spinRet 0] = false ∧
    C05.admissible [.op (.regImm 1 0) .ok, .spinBegin, .cb 1, .cbEnd 7, .spinRet 7] = true ∧
    C05.admissible [.op (.regImm 1 0) .ok, .op (.regImm 2 0) .ok, .spinBegin, .cb 1, .cbEnd 7, .cb 2] = false ∧
    -- once `done` is set no poll that may block; the look between two callbacks is fine
    C05.admissible [.op (.regImm 1 0) .ok, .spinBegin, .cb 1, .op .done .ok, .cbEnd 0, .poll (-1) 0 [] .stuck] = false ∧
    C05.admissible [.op (.regTimer 1 0) .ok, .spinBegin, .poll 0 0 [] .ok, .poll 0 0 [] .ok, .cb 1, .op .done .ok, .cbEnd 0,
                    .poll 0 0 [] .ok, .spinRet 0] = true ∧
    -- the order clauses apply to the whole call
    C05.admissible [.op (.regImm 1 5) .ok, .op (.regImm 2 3) .ok, .spinBegin, .cb 1] = false ∧
    -- the interrupt request is consumed: the next `events_run` is a fresh call and has to run what is runnable
    C05.admissible [.spinBegin, .poll (-1) 0 [] .stuck, .spinRet 0, .op (.regImm 1 0) .ok, .runBegin, .ret 0] = false ∧
    C05.admissible [.spinBegin, .poll (-1) 0 [] .stuck, .spinRet 0, .op (.regImm 1 0) .ok, .runBegin, .cb 1, .cbEnd 0, .ret 0] = true := by
  decide +kernel

/-! ## closed form: the timer-queue contract is discharged by the C13 theorems -/

open Percival.Proofs.TQ in
/-- the six timer-queue statements the event-loop proofs rely on, as proved for `Model.TimerQueue` in C13 -/
def tqContract : TQContract :=
  { TQInv := TQInv, empty := tq_inv_empty, add := tq_add, delete := tq_delete, increase := tq_increase,
    getmin := tq_getmin, getptr := tq_getptr }

/-- `run_admissible_C05` with no hypothesis left about the timer queue -/
theorem run_admissible_C05_closed (fuel : Nat) (prog : List Top) : C05.admissible (run fuel prog) = true :=
  run_admissible_C05 tqContract fuel prog

/-! ## the functions the executables run (see the section of the same name in `Properties/C04.lean`) -/

open Percival.Proofs.EventsStep in
/-- **Soundness of the executable C05 monitor for the model**: for every program, feeding the lines that
`pmodel events` prints (`Model.Events.runOps`) to `pmodel eventsmon c05`, line by line, yields `ok` on every line. -/
theorem model_lines_accepted_C05 (prog : List Top) : acceptsLines false true {} (runOps {} prog).2 = true :=
  lines_accepted false true prog nofun fun _ => run_ok_of_admissible (run_admissible_C05_closed runFuel prog)

example : acceptsLines false true {} [[.runBegin, .ret 5]] = false := by decide

open Percival.Proofs.EventsStep in
/-- … and with both monitors at once (`pmodel eventsmon` without argument, as the C04/C05 checks of other
properties' components run it) -/
theorem model_lines_accepted_both (prog : List Top) : acceptsLines true true {} (runOps {} prog).2 = true :=
  lines_accepted true true prog
    (fun _ => Percival.Proofs.EventsC04.run_ok_of_admissible (Percival.Proofs.EventsC04.run_admissible tqContract runFuel prog))
    fun _ => run_ok_of_admissible (run_admissible_C05_closed runFuel prog)

example : acceptsLines true true {} [[.op (.regImm 1 0) .ok], [.runBegin, .cb 1, .cbEnd 0, .ret 0]] = true := by decide

/-! ## The monitor reads what the model prints

The typed output of a line of `pmodel events` is its list of events, and that list is what
`model_lines_accepted_C05` feeds to the monitor (there is no projection in between).  `Driver/Events.step` prints
`showEvs evs ++ " | " ++ l2 state`, where `showEvs evs` is the tokens `Events.evToks evs` (one per event, `ok` if there
is none) joined by single spaces; `Driver/Eventsmon.parseLine` is the reader `pmodel eventsmon` applies to the tokens
of the part before ` | `.  `Proofs/EventsAns.lean`: the `:`-separated fields of an event, the `,` / `/`-separated poll
array, the `rweh` bit strings, numbers and words — everything between the typed events and the token list. -/

open Percival.Proofs.EventsAns in
/-- **For every list of events, reading the L1 tokens printed for it gives back the list** (in particular every
single event is read back from its token), and cutting the L1 part of the printed line at the spaces gives back exactly
these tokens (no token contains a space).  Not covered: that `Driver/Loop.loopMon` cuts the line with
`String.splitOn " "` (a different splitting function than the `String.split ' '` of the statement) and that
`tools/vlib.py` cuts at ` | `; `KAT/EventsAns.lean` tests these on an event of every shape. -/
theorem monitor_reads_printed_answer (evs : List Ev) :
    Driver.Eventsmon.parseLine (Driver.Events.evToks evs) = some evs ∧
    (∀ e, Driver.Events.parseEv (Driver.Events.showEv e) = some e) ∧
    Driver.Events.splitCh ' ' (Driver.Events.showEvs evs) = Driver.Events.evToks evs ∧
    Driver.Events.showEvs evs = " ".intercalate (Driver.Events.evToks evs) :=
  ⟨parseLine_evToks evs, parseEv_showEv, split_l1 evs, rfl⟩

/-- the tokens of a real line -/
example : Driver.Events.evToks [.op (.regNet 1 3 .rd) .eexist,
      .poll (-1) 500 [⟨3, { r := true, w := true }, { e := true }⟩, ⟨4, {}, {}⟩] .intr, .cb 1, .cbEnd (-1), .ret 7] =
    ["rn:1:3:r:eexist", "poll:-1:500:3/rw/e,4/-/-:intr", "cb:1", "end:-1", "ret:7"] ∧
    Driver.Events.evToks [] = ["ok"] := by decide +kernel

open Percival.Proofs.EventsAns in
/-- **Every case, at the level of the text the two executables exchange** (C05 monitor).  For every list of input
lines (token lists) that `pmodel events` can read, `prog` being what it reads: the lines it prints (`printed`:
`Driver/Events.step` along the case) are the tokens `evToks` of the events of `runOps`, joined by spaces, followed by
` | ` and the L2 text of the state; and **`Driver/Eventsmon.step` — the whole function `pmodel eventsmon c05` applies to
(operation line, answer line) — run along the case on the L1 tokens the model prints, answers `ok` on every line**. -/
theorem monitor_accepts_printed_run (lines : List (List String)) (prog : List Top)
    (hp : lines.mapM Driver.Events.parseTop = some prog) :
    printed {} lines =
      List.zipWith (fun evs st => Driver.Events.showEvs evs ++ " | " ++ Driver.Events.l2 st)
        (runOps {} prog).2 (statesAfter {} prog) ∧
    verdicts false true {} (lines.zip ((runOps {} prog).2.map Driver.Events.evToks)) =
      List.replicate lines.length "ok" :=
  ⟨printed_eq lines prog {} hp,
   verdicts_ok false true lines _ {} ((mapM_length _ lines prog hp).trans (runOps_length prog {}).symm) (model_lines_accepted_C05 prog)⟩

open Percival.Proofs.EventsAns in
/-- **Every case, at the level of the text the two executables exchange** (both monitors at once).  For every list of input
lines (token lists) that `pmodel events` can read, `prog` being what it reads: the lines it prints (`printed`:
`Driver/Events.step` along the case) are the tokens `evToks` of the events of `runOps`, joined by spaces, followed by
` | ` and the L2 text of the state; and **`Driver/Eventsmon.step` — the whole function `pmodel eventsmon` applies to
(operation line, answer line) — run along the case on the L1 tokens the model prints, answers `ok` on every line**. -/
theorem monitor_accepts_printed_run_both (lines : List (List String)) (prog : List Top)
    (hp : lines.mapM Driver.Events.parseTop = some prog) :
    printed {} lines =
      List.zipWith (fun evs st => Driver.Events.showEvs evs ++ " | " ++ Driver.Events.l2 st)
        (runOps {} prog).2 (statesAfter {} prog) ∧
    verdicts true true {} (lines.zip ((runOps {} prog).2.map Driver.Events.evToks)) =
      List.replicate lines.length "ok" :=
  ⟨printed_eq lines prog {} hp,
   verdicts_ok true true lines _ {} ((mapM_length _ lines prog hp).trans (runOps_length prog {}).symm) (model_lines_accepted_both prog)⟩

/-- input lines that are read as a program: a registration, a poll answer, a run -/
example : [["reg_imm", toString (1 : Nat), toString (0 : Nat)], ["pollintr", toString (5 : Nat)], ["run"]].mapM
      Driver.Events.parseTop = some [.api (.regImm 1 0), .pollAns (.eintr 5), .run] := by
  simp only [List.mapM_cons, List.mapM_nil, Driver.Events.parseTop.eq_2, Driver.Events.parseTop.eq_13,
    Driver.Events.parseTop.eq_15, Proofs.TokText.nat_rt]
  rfl
/-- the monitor executable does reject printed text: a return value no callback produced -/
example : (Driver.Eventsmon.step false true {} ["run"] (Driver.Events.evToks [.runBegin, .ret 5])).2 =
    "bad C05: returned 5 although no callback returned a non-zero status" := by
  rw [Proofs.EventsAns.step_evToks]; decide +kernel

end Percival.C05
