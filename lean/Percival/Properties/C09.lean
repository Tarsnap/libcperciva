import Percival.Proofs.HttpRequest
import Percival.Proofs.HttpDecode
import Percival.Proofs.HttpSeg
import Percival.Proofs.HttpSamples
import Percival.Proofs.HttpStep
/-!
# C09 — the HTTP client decodes every well-formed response exactly; the request is sent verbatim

`Spec/HttpResp.lean`: response values, their wire format `serialize`, well-formedness `WF`; the request's
wire format `Request.wire`.  Model: `Model/Http.lean`, `Model/HttpRequest.lean`.
-/
namespace Percival.C09
open Percival.Model Percival.Spec.HttpResp
open Percival.Proofs.HttpSamples (sample)

/-- **Request sent verbatim.**  The bytes `http_request` queues for the server (the header built by the
`stpcpy` sequence, then the body) are exactly method SP path SP `HTTP/1.1` CRLF, each header as
`name ": " value CRLF` in order, a blank line, and the body; the sanity assertion on the pre-computed
length never fails. -/
theorem request_sent_verbatim (r : HttpRequest.Request) :
    HttpRequest.serializeRequest r = some (Percival.Proofs.HttpRequest.toSpec r).wire :=
  Percival.Proofs.HttpRequest.serializeRequest_eq r

/-- "POST /x HTTP/1.1", one header `A: b`, body "hi" -/
example : HttpRequest.serializeRequest { method := [80, 79, 83, 84], path := [47, 120], headers := [([65], [98])], body := [104, 105] }
    = some [80, 79, 83, 84, 32, 47, 120, 32, 72, 84, 84, 80, 47, 49, 46, 49, 13, 10, 65, 58, 32, 98, 13, 10, 13, 10, 104, 105] := by
  decide

/-- **The length computed before allocating is exact**: `req_headlen` = length of the header written. -/
theorem request_length_exact (r : HttpRequest.Request) :
    (HttpRequest.buildHead r).length = HttpRequest.headLen r :=
  Percival.Proofs.HttpRequest.headLen_exact r

example : HttpRequest.headLen { method := [71, 69, 84], path := [47], headers := [([65], [98]), ([67], [])], body := [] } = 29 := by
  decide

/-- **Batch decoding (P1).**  For every well-formed response value `r` (`Spec.HttpResp.Resp.WF`: any number
of interim 1xx header blocks, a final status line `HTTP/1.x sss reason` with 200 ≤ sss ≤ 599, any header
fields `name ":" OWS value OWS` without CR/LF/NUL, framing by `Content-Length`, by `Transfer-Encoding: chunked`
with any non-empty chunks and `;`-extensions, or by connection close; no body after the header block for HEAD,
204 and 304), every body limit `max ≥ |body|` and whatever `sscanf` stores for out-of-range numerals: when the
whole wire format `serialize r` is buffered at the first wait, the run ends in exactly one callback, with exactly
`r`'s status, exactly its header names and values (optional white space trimmed) in order, and exactly its body.
(`hsz`: the body has at most `SIZE_MAX - 2` bytes — any body that exists in memory.) -/
theorem decode_serialize (ovf : Bool → Nat → Int) (r : Resp) (ishead : Bool) (max : Nat)
    (hwf : r.WF ishead) (hmax : (expectedBody r ishead).length ≤ max)
    (hsz : r.framing.body.length + 2 ≤ Http.SIZE_MAX) :
    ∃ ws, Http.runAll ovf (Percival.Proofs.HttpDecode.whole (serialize r ishead).length) () ishead max (serialize r ishead) =
      .callback (some { status := (r.final.status : Int), headers := expectedHeaders r,
                        body := some (expectedBody r ishead) }) ws :=
  Percival.Proofs.HttpDecode.decode_serialize ovf r ishead max hwf hmax hsz

example : sample.WF false := Percival.Proofs.HttpStep.sample_wf

/-- **Segmentation independence (P2).**  For every well-formed `r` whose header blocks are at most `MAXHDR + 1`
bytes and whose chunk-size lines (size, extension) are shorter than `MAXCHLEN - 1` bytes — the client's own limits;
beyond them the C rejects a response when it arrives in small enough pieces —, every limit `max ≥ |body|`, and
**every** behaviour of the buffered reader and the network which delivers the stream completely (`oracle`: any
state machine answering every wait with "at least `k` bytes, `extra` more" — every segmentation into reads down to
single bytes, every position of the reader's buffer boundary; when the stream cannot satisfy a wait the run reports
EOF): the run ends in exactly one callback with exactly `r`'s status, header names and values (optional white space
trimmed) in order, and exactly its body. -/
theorem decode_any_segmentation {σ : Type} (ovf : Bool → Nat → Int) (oracle : σ → Nat → Nat → σ × Http.Arrival)
    (hfa : ∀ s c k, ∃ e, (oracle s c k).2 = Http.Arrival.more e)
    (o : σ) (r : Resp) (ishead : Bool) (max : Nat)
    (hwf : r.WF ishead) (hmax : (expectedBody r ishead).length ≤ max)
    (hsz : r.framing.body.length + 2 ≤ Http.SIZE_MAX)
    (hblocks : (∀ b ∈ r.interim, b.serialize.length ≤ Percival.Gen.Http.MAXHDR + 1) ∧
      r.final.serialize.length ≤ Percival.Gen.Http.MAXHDR + 1)
    (hlines : ∀ cs le tail, r.framing = .chunked cs le tail →
      (∀ c ∈ cs, (hex c.1.length ++ c.2).length + 1 < Percival.Gen.Http.MAXCHLEN) ∧
      ([48] ++ le).length + 1 < Percival.Gen.Http.MAXCHLEN) :
    ∃ ws, Http.runAll ovf oracle o ishead max (serialize r ishead) =
      .callback (some { status := (r.final.status : Int), headers := expectedHeaders r,
                        body := some (expectedBody r ishead) }) ws :=
  Percival.Proofs.HttpSeg.decode_run ovf oracle _ (Percival.Proofs.HttpSeg.delivers_of_more hfa) o { r, ishead, max }
    ⟨hwf, hmax, hsz⟩ (fun _ _ _ _ => Or.inl ⟨hblocks, hlines⟩) trivial

/-- `sample` satisfies the size hypotheses; delivered one byte per wait it decodes to status 200, `A: b`,
    `Transfer-Encoding: chunked`, body "hi!" -/
example : (∀ b ∈ sample.interim, b.serialize.length ≤ Percival.Gen.Http.MAXHDR + 1) ∧
    sample.final.serialize.length ≤ Percival.Gen.Http.MAXHDR + 1 := by
  refine ⟨?_, by decide⟩
  intro b hb
  simp only [sample, List.mem_singleton] at hb
  subst hb
  decide

example :
    (match Http.runAll (fun _ _ => 0) (fun (_ : Unit) _ _ => ((), Http.Arrival.more 0)) () false 3 (serialize sample false) with
     | .callback (some r) _ => decide (r.status = 200) && r.body == some [104, 105, 33] &&
         r.headers == [([65], [98]), (sTransferEncoding, sChunked)]
     | _ => false) = true := by decide +kernel

/-- constants of `http.c` on which `decode_serialize` depends (regenerated from the source) -/
theorem gen_constants : Percival.Gen.Http.INTERIM_MIN = 100 ∧ Percival.Gen.Http.INTERIM_MAX = 199 ∧
    Percival.Gen.Http.NOBODY_A = 204 ∧ Percival.Gen.Http.NOBODY_B = 304 ∧
    Percival.Gen.Http.STATUS_MIN = 100 ∧ Percival.Gen.Http.STATUS_MAX = 599 := by decide

/-! ## the function the executable runs (`pmodel http`: `Model/HttpStep.lean`, component `httpwf`) -/

open Percival.Model.HttpStep Percival.Proofs.HttpStep in
/-- **The `run` line of a well-formed case is the Spec's answer.**  `runCase` is the function behind a `run` line
of `pmodel http`.  When the case carries a response value `r` (`wff` line) whose wire format `serialize r` is the
server's stream (`mkWf` keeps the value only then: `exec_value_is_stream`), `r` is well-formed and within the
client's own limits (as in `decode_any_segmentation`), its body fits the caller's limit, the connection is made,
nobody cancels, no `send` fails, the stream ends with EOF, and the `recv` script — any segment sizes, cycled — has no
two EAGAINs in a row (`SegOK`: the model's event loop has fuel for one EAGAIN per byte): the executable's answer is
exactly one callback with exactly `r`'s status, header names and values in order, and exactly its body — `serialize`
decoded, for every segmentation —; in particular never `spec-mismatch`, never `NULL`, never `toobig`. -/
theorem exec_wellformed_decoded (c : Cfg) (g : Bool) (r : Resp)
    (hval : c.wf = some r) (hdata : c.data = serialize r (HttpRequest.isHead c.req))
    (hwf : r.WF (HttpRequest.isHead c.req)) (hmax : (expectedBody r (HttpRequest.isHead c.req)).length ≤ c.limit)
    (hsz : r.framing.body.length + 2 ≤ Http.SIZE_MAX)
    (hblocks : (∀ b ∈ r.interim, b.serialize.length ≤ Percival.Gen.Http.MAXHDR + 1) ∧
      r.final.serialize.length ≤ Percival.Gen.Http.MAXHDR + 1)
    (hlines : ∀ cs le tail, r.framing = .chunked cs le tail →
      (∀ c ∈ cs, (hex c.1.length ++ c.2).length + 1 < Percival.Gen.Http.MAXCHLEN) ∧
      ([48] ++ le).length + 1 < Percival.Gen.Http.MAXCHLEN)
    (hc : c.cancel = none) (hcr : c.cancelRecv = none) (hsf : c.sndfail = none) (hconn : c.conn < 2)
    (hend : c.endReset = false) (hseg : SegOK (segOf c)) :
    ∃ sent rs tr, runCase c g = .fin g c.early 1
      (some (some { status := (r.final.status : Int), headers := expectedHeaders r, body := some (expectedBody r (HttpRequest.isHead c.req)) }))
      sent true rs tr :=
  runCase_wellformed c g r hval hdata hwf hmax hsz hblocks hlines hc hcr hsf hconn hend hseg

open Percival.Model.HttpStep Percival.Proofs.HttpStep in
/-- the hypotheses hold for the sample value delivered as 2 bytes, EAGAIN, 5 bytes, …, with limit 3 = |body| -/
example : exWf.wf = some sample ∧ exWf.data = serialize sample (HttpRequest.isHead exWf.req) ∧
    sample.WF (HttpRequest.isHead exWf.req) ∧ (expectedBody sample (HttpRequest.isHead exWf.req)).length ≤ exWf.limit ∧
    SegOK (segOf exWf) ∧ exWf.cancel = none ∧ exWf.conn < 2 :=
  ⟨rfl, by decide, sample_wf, by decide, segOK_of_b _ (by decide +kernel), rfl, by decide⟩

open Percival.Model.HttpStep Percival.Proofs.HttpStep in
/-- … and this is what the executable computes for it: status 200, `A: b` and `Transfer-Encoding: chunked`, body "hi!" -/
example :
    (match runCase exWf false with
     | .fin false false 1 (some (some x)) _ true _ _ => decide (x.status = 200) && x.body == some [104, 105, 33] &&
         x.headers == [([65], [98]), (sTransferEncoding, sChunked)]
     | _ => false) = true := by decide +kernel

open Percival.Model.HttpStep in
/-- **The value judged is the stream played.**  A response value which `mkWf` (the `wff` line) keeps has the
generated server stream as its wire format: `hval`/`hdata` of `exec_wellformed_decoded` hold for every case built
by the protocol. -/
theorem exec_value_is_stream (c : Cfg) (f : Framing) (r : Resp) (hne : c.wfBlocks ≠ []) (h : (mkWf c f).1.wf = some r) :
    (mkWf c f).1.data = serialize r (HttpRequest.isHead (mkWf c f).1.req) :=
  Percival.Proofs.HttpStep.mkWf_sound c f r hne h

open Percival.Model.HttpStep in
example : (mkWf { chunks := [serialize sample false], wfBlocks := [sample.final] ++ sample.interim.reverse } sample.framing).2 = true := by
  decide +kernel

end Percival.C09
