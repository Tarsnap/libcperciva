import Percival.Proofs.HeapEx
import Percival.Proofs.HeapStep
import Percival.Proofs.HeapAns
/-!
# C13 — pointer heap and timer queue are correct priority queues with stable handles

All theorems are about `Percival.Model.Heap` / `Percival.Model.TimerQueue` (the executable model
that is compared in lock-step with `datastruct/ptrheap.c` / `timerqueue.c` on every run) for an
arbitrary comparison `key : Nat → Int`, arbitrary sizes and arbitrary operation sequences.

`Inv key h` (defined in `Proofs/HeapOps.lean`, unfolded by `inv_iff` below) says: ids pairwise
distinct; the position last reported through `setreccookie` for the element in slot `i` is `i`;
parent ≤ child on every edge.
-/
namespace Percival.C13
open Percival.Model Percival.Model.Heap Percival.Model.HeapRun
open Percival.Proofs.Heap Percival.Proofs.TQ Percival.Spec.PQ

/-- what `Inv` says, in terms of plain array indexing -/
theorem inv_iff (key : Nat → Int) (h : Heap) :
    Inv key h ↔
      (∀ i j (hi : i < h.a.size) (hj : j < h.a.size), h.a[i] = h.a[j] → i = j) ∧
      (∀ i (hi : i < h.a.size), posOf h h.a[i] = some i) ∧
      (∀ i (hi : i < h.a.size), 0 < i → key (h.a[(i-1)/2]'(by omega)) ≤ key h.a[i]) := by
  constructor
  · intro H
    exact ⟨fun i j hi hj heq => H.distinct i j _ (Array.getElem?_eq_getElem hi) (heq ▸ Array.getElem?_eq_getElem hj),
      fun i hi => H.handles i _ (Array.getElem?_eq_getElem hi),
      fun i hi h0 => H.ordered i _ _ h0 (Array.getElem?_eq_getElem hi) (Array.getElem?_eq_getElem (by omega))⟩
  · intro ⟨H1, H2, H3⟩
    constructor
    · intro i j x hi hj
      obtain ⟨si, ei⟩ := Array.getElem?_eq_some_iff.mp hi
      obtain ⟨sj, ej⟩ := Array.getElem?_eq_some_iff.mp hj
      exact H1 i j si sj (ei.trans ej.symm)
    · intro i x hi
      obtain ⟨si, ei⟩ := Array.getElem?_eq_some_iff.mp hi
      exact ei ▸ H2 i si
    · intro i c q h0 hc hq
      obtain ⟨si, ei⟩ := Array.getElem?_eq_some_iff.mp hc
      obtain ⟨sq, eq⟩ := Array.getElem?_eq_some_iff.mp hq
      exact ei ▸ eq ▸ H3 i si h0

example : Inv exKey exHeap ∧ exHeap.a = #[3, 1, 9, 5, 4, 7] := ⟨exHeap_inv, by decide +kernel⟩

theorem heap_inv_empty (key : Nat → Int) : Inv key Heap.empty := inv_empty key

example : Heap.empty.a.size = 0 := rfl

/-- `ptrheap_create` on distinct pointers: invariant from nothing; holds exactly the given pointers -/
theorem heap_create (key : Nat → Int) (ptrs : List Nat) (hnd : ptrs.Nodup) :
    Inv key (create key ptrs) ∧ (create key ptrs).a.toList.Perm ptrs :=
  ⟨create_inv key ptrs hnd, create_perm key ptrs⟩

example : [5, 3, 7, 1, 4, 9].Nodup ∧ (create exKey [5, 3, 7, 1, 4, 9]).a ≠ #[5, 3, 7, 1, 4, 9] :=
  ⟨by decide +kernel, by decide +kernel⟩

/-- `ptrheap_add` of a fresh id: invariant kept, multiset gains exactly `e` -/
theorem heap_add (key : Nat → Int) (h : Heap) (e : Nat) (hi : Inv key h) (hf : e ∉ h.a.toList) :
    Inv key (add key h e) ∧ (add key h e).a.toList.Perm (e :: h.a.toList) :=
  ⟨add_inv key h e hi (fun i hie => hf ((mem_iff_get _ _).mpr ⟨i, hie⟩)), add_perm key h e⟩

-- 6 (key 0) stays below 9 (key 0): ties stop the sift-up; 12 (key 0) climbs two levels past 5 and 1
example : Inv exKey exHeap ∧ 6 ∉ exHeap.a.toList ∧ (add exKey exHeap 6).a = #[3, 1, 9, 5, 4, 7, 6] :=
  ⟨exHeap_inv, by decide +kernel, by decide +kernel⟩
example : 12 ∉ (add exKey exHeap 8).a.toList ∧ (add exKey (add exKey exHeap 8) 12).a = #[3, 12, 9, 1, 4, 7, 8, 5] :=
  ⟨by decide +kernel, by decide +kernel⟩

/-- `ptrheap_delete(H, rc)` with `rc < nelems`: succeeds, invariant kept, and the element removed is
exactly the one in slot `rc`, i.e. the one for which position `rc` was most recently reported;
nothing else leaves or enters.  (Covers the stale last slot and `heapify` over the old length.) -/
theorem heap_delete (key : Nat → Int) (h : Heap) (rc : Nat) (hi : Inv key h) (hrc : rc < h.a.size) :
    ∃ h' x, delete key h rc = some h' ∧ Inv key h' ∧ h.a[rc]? = some x ∧ posOf h x = some rc ∧
      h.a.toList.Perm (x :: h'.a.toList) := by
  obtain ⟨h', x, h1, h2, h3, h4, h5, _⟩ := delete_spec key h rc hi hrc
  exact ⟨h', x, h1, h2, h3, h4, h5⟩

-- slot 0 (`heapify` over the old length takes the moved 7 below 9) and slot 3 (the moved 7, key 1, is not below its
-- parent 1, key 1: `heapify` again, at a leaf)
example : Inv exKey exHeap ∧ 0 < exHeap.a.size ∧ (delete exKey exHeap 0).map (·.a) = some #[9, 1, 7, 5, 4] :=
  ⟨exHeap_inv, by decide +kernel, by decide +kernel⟩
example : 3 < exHeap.a.size ∧ (delete exKey exHeap 3).map (·.a) = some #[3, 1, 9, 7, 4] :=
  ⟨by decide +kernel, by decide +kernel⟩

/-- `ptrheap_deletemin` on a non-empty heap removes exactly the element `getmin` returns -/
theorem heap_deletemin (key : Nat → Int) (h : Heap) (hi : Inv key h) (hne : 0 < h.a.size) :
    ∃ h' e, getmin h = some e ∧ deletemin key h = some h' ∧ Inv key h' ∧
      h.a.toList.Perm (e :: h'.a.toList) := by
  obtain ⟨h', x, h1, h2, h3, _, h5, _⟩ := delete_spec key h 0 hi hne
  exact ⟨h', x, h3, h1, h2, h5⟩

example : Inv exKey exHeap ∧ 0 < exHeap.a.size := ⟨exHeap_inv, by decide +kernel⟩

/-- `ptrheap_decrease(H, rc)` on a heap that is ordered except that the element at `rc` may be smaller
than its ancestors -/
theorem heap_decrease (key : Nat → Int) (h h' : Heap) (rc : Nat)
    (hd : ∀ i j x : Nat, h.a[i]? = some x → h.a[j]? = some x → i = j)
    (hp : ∀ i x : Nat, h.a[i]? = some x → posOf h x = some i)
    (hex : OrderedExcept key h h.a.size rc) (hg : GrandOK key h h.a.size rc)
    (hr : decrease key h rc = some h') : Inv key h' ∧ h'.a.toList.Perm h.a.toList := by
  unfold decrease at hr
  split at hr <;> cases hr
  exact ⟨inv_siftUp key rc h rc (Nat.le_mul_of_pos_left rc (by decide)) ⟨hd, hp⟩ hex hg, siftUp_perm key true _ _ _⟩

-- element 7 in slot 5 gets key -1: ordered except at 5 upward; it travels to the root
example : OrderedExcept (upd exKey 7 (-1)) exHeap exHeap.a.size 5 ∧ GrandOK (upd exKey 7 (-1)) exHeap exHeap.a.size 5 ∧
    (decrease (upd exKey 7 (-1)) exHeap 5).map (·.a) = some #[7, 1, 3, 5, 4, 9] :=
  have h := decrease_pre_of_key (upd exKey 7 (-1)) exKey exHeap 5 7 exHeap_inv (by decide +kernel)
    (fun x hx => upd_ne _ _ _ _ hx) (by decide +kernel)
  ⟨h.1, h.2, by decide +kernel⟩

/-- the same in terms of the API contract: the key of the element at `rc` (and no other) has decreased -/
theorem heap_decrease_key (key0 key : Nat → Int) (h : Heap) (rc e : Nat) (hi : Inv key0 h)
    (he : h.a[rc]? = some e) (hsame : ∀ x, x ≠ e → key x = key0 x) (hle : key e ≤ key0 e) :
    ∃ h', decrease key h rc = some h' ∧ Inv key h' ∧ h'.a.toList.Perm h.a.toList := by
  exact ⟨_, decrease_eq key h rc (lt_of_get he), inv_siftUp_of_key key key0 h rc e hi he hsame hle,
    siftUp_perm key true _ _ _⟩

example : Inv exKey exHeap ∧ exHeap.a[5]? = some 7 ∧ (∀ x, x ≠ 7 → upd exKey 7 (-1) x = exKey x) ∧
    upd exKey 7 (-1) 7 ≤ exKey 7 :=
  ⟨exHeap_inv, by decide +kernel, fun x hx => upd_ne _ _ _ _ hx, by decide +kernel⟩

/-- `ptrheap_increase(H, rc)` on a heap that is ordered except below `rc` -/
theorem heap_increase (key : Nat → Int) (h h' : Heap) (rc : Nat)
    (hd : ∀ i j x : Nat, h.a[i]? = some x → h.a[j]? = some x → i = j)
    (hp : ∀ i x : Nat, h.a[i]? = some x → posOf h x = some i)
    (hex : OrderedBelowExcept key h h.a.size 0 rc) (hg : ParentOK key h h.a.size 0 rc)
    (hr : increase key h rc = some h') : Inv key h' ∧ h'.a.toList.Perm h.a.toList := by
  unfold increase at hr
  split at hr <;> cases hr
  exact ⟨inv_siftDown key _ h rc (Nat.le_add_left _ _) ⟨hd, hp⟩ hex hg, siftDown_perm key true _ _ _ _⟩

-- element 1 in slot 1 gets key 5: it sinks below 4
example : OrderedBelowExcept (upd exKey 1 5) exHeap exHeap.a.size 0 1 ∧ ParentOK (upd exKey 1 5) exHeap exHeap.a.size 0 1 ∧
    (increase (upd exKey 1 5) exHeap 1).map (·.a) = some #[3, 4, 9, 5, 1, 7] :=
  have h := increase_pre_of_key (upd exKey 1 5) exKey exHeap 1 1 exHeap_inv (by decide +kernel)
    (fun x hx => upd_ne _ _ _ _ hx) (by decide +kernel)
  ⟨h.1, h.2, by decide +kernel⟩

theorem heap_increase_key (key0 key : Nat → Int) (h : Heap) (rc e : Nat) (hi : Inv key0 h)
    (he : h.a[rc]? = some e) (hsame : ∀ x, x ≠ e → key x = key0 x) (hge : key0 e ≤ key e) :
    ∃ h', increase key h rc = some h' ∧ Inv key h' ∧ h'.a.toList.Perm h.a.toList := by
  exact ⟨_, increase_eq key h rc (lt_of_get he), inv_siftDown_of_key key key0 h rc e hi he hsame hge,
    siftDown_perm key true _ _ _ _⟩

example : Inv exKey exHeap ∧ exHeap.a[1]? = some 1 ∧ (∀ x, x ≠ 1 → upd exKey 1 5 x = exKey x) ∧
    exKey 1 ≤ upd exKey 1 5 1 :=
  ⟨exHeap_inv, by decide +kernel, fun x hx => upd_ne _ _ _ _ hx, by decide +kernel⟩

/-- `ptrheap_increasemin(H)` on a heap that is ordered except below the root -/
theorem heap_increasemin (key : Nat → Int) (h : Heap)
    (hd : ∀ i j x : Nat, h.a[i]? = some x → h.a[j]? = some x → i = j)
    (hp : ∀ i x : Nat, h.a[i]? = some x → posOf h x = some i)
    (hex : OrderedBelowExcept key h h.a.size 0 0) :
    Inv key (increasemin key h) ∧ (increasemin key h).a.toList.Perm h.a.toList :=
  ⟨inv_siftDown key _ h 0 (Nat.le_add_left _ _) ⟨hd, hp⟩ hex fun _ _ _ h0 => absurd h0 (Nat.lt_irrefl 0),
    siftDown_perm key true _ _ _ _⟩

example : OrderedBelowExcept (upd exKey 3 1) exHeap exHeap.a.size 0 0 ∧
    (increasemin (upd exKey 3 1) exHeap).a = #[9, 1, 3, 5, 4, 7] :=
  ⟨(increase_pre_of_key (upd exKey 3 1) exKey exHeap 0 3 exHeap_inv (by decide +kernel)
      (fun x hx => upd_ne _ _ _ _ hx) (by decide +kernel)).1, by decide +kernel⟩

theorem heap_increasemin_key (key0 key : Nat → Int) (h : Heap) (e : Nat) (hi : Inv key0 h)
    (he : getmin h = some e) (hsame : ∀ x, x ≠ e → key x = key0 x) (hge : key0 e ≤ key e) :
    Inv key (increasemin key h) ∧ (increasemin key h).a.toList.Perm h.a.toList :=
  ⟨inv_siftDown_of_key key key0 h 0 e hi he hsame hge, siftDown_perm key true _ _ _ _⟩

example : Inv exKey exHeap ∧ getmin exHeap = some 3 ∧ (∀ x, x ≠ 3 → upd exKey 3 1 x = exKey x) ∧
    exKey 3 ≤ upd exKey 3 1 3 :=
  ⟨exHeap_inv, by decide +kernel, fun x hx => upd_ne _ _ _ _ hx, by decide +kernel⟩

/-- `ptrheap_getmin`: NULL exactly on the empty heap, otherwise a least element of the multiset -/
theorem getmin_least (key : Nat → Int) (h : Heap) (hi : Inv key h) :
    (getmin h = none ↔ h.a.toList = []) ∧
    ∀ e, getmin h = some e → e ∈ h.a.toList ∧ ∀ x ∈ h.a.toList, key e ≤ key x :=
  ⟨getmin_none_iff h, fun e he => getmin_isLeast key h e hi he⟩

-- two elements (3 and 9) have the least key 0
example : Inv exKey exHeap ∧ getmin exHeap = some 3 ∧ exKey 9 = exKey 3 := ⟨exHeap_inv, by decide +kernel, by decide +kernel⟩

/-- the position most recently reported for a live element identifies exactly that element:
slot `rc` holds `e` iff `rc` is the last position reported for `e` -/
theorem handle_identifies (key : Nat → Int) (h : Heap) (hi : Inv key h) (e rc : Nat)
    (he : e ∈ h.a.toList) : posOf h e = some rc ↔ h.a[rc]? = some e :=
  handle_iff key h hi e rc he

example : Inv exKey exHeap ∧ 4 ∈ exHeap.a.toList ∧ posOf exHeap 4 = some 4 := ⟨exHeap_inv, by decide +kernel, by decide +kernel⟩

/-- In every state reachable by any finite sequence of create/add/getmin/delmin/del/inc/dec/incmin/drain
(keys changing along the way; out-of-contract operations are skipped exactly as the harness skips
them) the invariant holds for the current keys and the array holds exactly the live ids. -/
theorem reachable_inv (ops : List Op) :
    Inv (run St.init ops).key (run St.init ops).h ∧
    (run St.init ops).h.a.toList.Perm (run St.init ops).live :=
  have h := reach_run St.init ops reach_init
  ⟨h.inv, h.perm⟩

example : (run St.init (exOps.take 13)).h.a = #[9, 7, 5, 4, 2] ∧ (run St.init exOps).h.a = #[1] := ⟨by decide +kernel, by decide +kernel⟩

/-- Every answer the model gives is accepted by the property monitor (`Spec.PQ.monStep`, which judges
`getmin` by `getminOk`, `delmin`/`incmin` by `isLeast`, `drain` by `drainOk`, and demands `ok` for every
in-contract add/del/inc/dec): the model's traces are admissible. -/
theorem model_trace_accepted (ops : List Op) : accepts MSt.init (trace St.init ops) = true :=
  accepts_trace St.init ops reach_init

-- the example trace answers every op for real (no `skip`), and the monitor does reject a wrong answer
example : (trace St.init exOps).map (·.2) =
    [.ok, .ok, .ok, .min (some 4), .ok, .min (some 2), .ok, .ok, .okId 2, .okId 3, .ok, .ok, .min (some 9),
     .drained [9, 7, 2, 5, 4], .ok] := by decide +kernel
example : accepts MSt.init [(.add 1 5, .ok), (.add 2 3, .ok), (.getmin, .min (some 1))] = false := by decide +kernel

/-- `tvKey` is `tvcmp`: lexicographic on `(tv_sec, tv_usec)` for every 64-bit `tv_usec` -/
theorem tvKey_lexicographic (s u s' u' : Int) (hu : -2^63 ≤ u ∧ u < 2^63) (hu' : -2^63 ≤ u' ∧ u' < 2^63) :
    TimerQueue.tvKey s u ≤ TimerQueue.tvKey s' u' ↔ (s < s' ∨ (s = s' ∧ u ≤ u')) :=
  tvKey_le_iff s u s' u' hu hu'

example : (-2^63 ≤ (999999 : Int) ∧ (999999 : Int) < 2^63) ∧
    TimerQueue.tvKey 1 999999 ≤ TimerQueue.tvKey 2 0 := ⟨by decide +kernel, by decide +kernel⟩

theorem tq_empty_inv : TQInv TimerQueue.empty := tq_inv_empty

example : TimerQueue.empty.h.a.size = 0 := rfl

/-- `timerqueue_add` with a fresh record: invariant (hence every existing handle) kept -/
theorem tq_add_inv (q : TimerQueue.TQ) (r : Nat) (sec usec : Int) (ptr : Nat) (hi : TQInv q)
    (hf : r ∉ q.h.a.toList) :
    TQInv (TimerQueue.add q r sec usec ptr) ∧
    (TimerQueue.add q r sec usec ptr).h.a.toList.Perm (r :: q.h.a.toList) ∧
    (TimerQueue.add q r sec usec ptr).recs = (r, ⟨sec, usec, ptr⟩) :: q.recs :=
  tq_add q r sec usec ptr hi hf

example : TQInv exQ ∧ 4 ∉ exQ.h.a.toList ∧ exQ.h.a = #[3, 2, 1] := ⟨exQ_inv, by decide +kernel, by decide +kernel⟩

/-- `timerqueue_delete(Q, cookie)` of a live record: the `rc` stored in the record resolves, exactly
that record leaves, invariant kept, bindings untouched -/
theorem tq_delete_inv (q : TimerQueue.TQ) (r : Nat) (hi : TQInv q) (hr : r ∈ q.h.a.toList) :
    ∃ q', TimerQueue.delete q r = some q' ∧ TQInv q' ∧ q.h.a.toList.Perm (r :: q'.h.a.toList) ∧
      q'.recs = q.recs :=
  tq_delete q r hi hr

example : TQInv exQ ∧ 2 ∈ exQ.h.a.toList := ⟨exQ_inv, by decide +kernel⟩

/-- `timerqueue_increase(Q, cookie, tv)` of a live record to a time not earlier than its old one -/
theorem tq_increase_inv (q : TimerQueue.TQ) (r : Nat) (sec usec : Int) (old : TimerQueue.Rec) (hi : TQInv q)
    (hr : r ∈ q.h.a.toList) (hold : TimerQueue.lookup q.recs r = some old)
    (hge : TimerQueue.tvKey old.sec old.usec ≤ TimerQueue.tvKey sec usec) :
    ∃ q', TimerQueue.increase q r sec usec = some q' ∧ TQInv q' ∧ q'.h.a.toList.Perm q.h.a.toList ∧
      q'.recs = (r, { old with sec, usec }) :: q.recs :=
  tq_increase q r sec usec old hi hr hold hge

example : TQInv exQ ∧ 3 ∈ exQ.h.a.toList ∧ TimerQueue.lookup exQ.recs 3 = some ⟨2, 7, 103⟩ ∧
    TimerQueue.tvKey 2 7 ≤ TimerQueue.tvKey 9 0 ∧
    (TimerQueue.increase exQ 3 9 0).map (·.h.a) = some #[2, 3, 1] :=
  ⟨exQ_inv, by decide +kernel, rfl, by decide +kernel, by decide +kernel⟩

/-- handles stay valid: under the invariant — which every add/delete/increase/getptr preserves — the `rc`
last stored in any live record locates exactly that record in the heap -/
theorem tq_handles_valid (q : TimerQueue.TQ) (hi : TQInv q) (r : Nat) (hr : r ∈ q.h.a.toList) :
    ∃ rc, posOf q.h r = some rc ∧ q.h.a[rc]? = some r :=
  tq_handle_valid q hi r hr

example : TQInv exQ ∧ 1 ∈ exQ.h.a.toList ∧ posOf exQ.h 1 = some 2 := ⟨exQ_inv, by decide +kernel, by decide +kernel⟩

/-- `timerqueue_getmin`: NULL iff empty, else the time of a record with least time -/
theorem tq_getmin_least (q : TimerQueue.TQ) (hi : TQInv q) :
    match TimerQueue.getmin q with
    | none => q.h.a.toList = []
    | some (s, u) => ∃ r x, IsLeast (TimerQueue.key q.recs) q.h.a.toList r ∧
        TimerQueue.lookup q.recs r = some x ∧ s = x.sec ∧ u = x.usec :=
  tq_getmin q hi

example : TQInv exQ ∧ TimerQueue.getmin exQ = some (2, 7) := ⟨exQ_inv, by decide +kernel⟩

/-- `timerqueue_getptr(Q, tv)`: if something is released it is a record of least time, that time is
`≤ tv`, the pointer is the one stored with the record, and exactly that record leaves; if nothing is
released then every live record is later than `tv` and the queue is unchanged. -/
theorem tq_getptr_spec (q : TimerQueue.TQ) (sec usec : Int) (hi : TQInv q) :
    match TimerQueue.getptr q sec usec with
    | (q', some (r, p)) =>
        IsLeast (TimerQueue.key q.recs) q.h.a.toList r ∧
        TimerQueue.key q.recs r ≤ TimerQueue.tvKey sec usec ∧
        (∃ x, TimerQueue.lookup q.recs r = some x ∧ p = x.ptr) ∧
        TQInv q' ∧ q.h.a.toList.Perm (r :: q'.h.a.toList) ∧ q'.recs = q.recs
    | (q', none) => q' = q ∧ ∀ x ∈ q.h.a.toList, TimerQueue.key q.recs x > TimerQueue.tvKey sec usec :=
  tq_getptr q sec usec hi

example : TQInv exQ ∧ (TimerQueue.getptr exQ 2 7).2 = some (3, 103) ∧ (TimerQueue.getptr exQ 2 6).2 = none :=
  ⟨exQ_inv, by decide +kernel, by decide +kernel⟩

/-- a drain (repeated `getptr` with the same `tv`, nothing added in between) releases records in
non-decreasing time order; each is due, was live at the start, and comes with its stored pointer -/
theorem tq_drain_sorted (sec usec : Int) (fuel : Nat) (q : TimerQueue.TQ) (hi : TQInv q) :
    (tqDrain sec usec fuel q).Pairwise (fun a b => TimerQueue.key q.recs a.1 ≤ TimerQueue.key q.recs b.1) ∧
    ∀ a ∈ tqDrain sec usec fuel q,
      TimerQueue.key q.recs a.1 ≤ TimerQueue.tvKey sec usec ∧ a.1 ∈ q.h.a.toList ∧
      ∃ x, TimerQueue.lookup q.recs a.1 = some x ∧ a.2 = x.ptr :=
  tq_drain sec usec fuel q hi

example : TQInv exQ ∧ tqDrain 5 0 10 exQ = [(3, 103), (1, 101), (2, 102)] ∧ tqDrain 4 0 10 exQ = [(3, 103)] :=
  ⟨exQ_inv, by decide +kernel, by decide +kernel⟩

/-- In every state reachable by any finite sequence of timer-queue add/delete/increase/getmin/getptr
(equal and distinct times) the invariant holds — so every live record's handle is valid — and the heap
holds exactly the live records. -/
theorem tq_reachable_inv (ops : List TOp) :
    TQInv (trun TSt.init ops).q ∧ (trun TSt.init ops).q.h.a.toList.Perm (trun TSt.init ops).live :=
  have h := treach_run TSt.init ops treach_init
  ⟨h.inv, h.perm⟩

example : (trun TSt.init (exTOps.take 8)).q.h.a = #[3, 4, 1] ∧ (trun TSt.init exTOps).q.h.a = #[4] :=
  ⟨by decide +kernel, by decide +kernel⟩

/-- Every answer of the timer-queue model is accepted by the monitor `Spec.PQ.tmonStep`: `getptr` by
`getptrOk` (least, due, or nothing due) plus "the pointer is the one stored with the record", `getmin` by
"the least live time", and every in-contract add/delete/increase must succeed. -/
theorem tq_trace_accepted (ops : List TOp) : taccepts TMSt.init (ttrace TSt.init ops) = true := by
  have := taccepts_trace TSt.init ops treach_init
  rw [mOf_init] at this; exact this

example : (ttrace TSt.init exTOps).map (·.2) =
    [.ok, .ok, .ok, .ok, .tmin (some (2, 7)), .rel none, .ok, .ok, .rel (some (3, 103)), .rel (some (1, 101)),
     .rel none, .tmin (some (9, 1))] := by decide +kernel
example : taccepts TMSt.init [(.add 1 5 0 101, .ok), (.add 2 3 0 102, .ok), (.get 9 0, .rel (some (1, 101)))] = false := by
  decide +kernel

/-! ## The functions the executables run

`pmodel heap` applies `Model.HeapStep.stepOp` to every parsed line and `pmodel heapmon` applies
`Spec.PQ.monStepX` to every (operation, implementation's answer) pair; `Driver/Heap.lean` and
`Driver/Heapmon.lean` contain nothing but the parsers and printers.  `stepOp` keeps the caller's keys and the
"position most recently reported" in hash maps and cuts the notification log after every operation; the
theorems below say that this is the model the theorems above are about and the monitor of `Spec/PQMon.lean`
in another representation, so that everything above is a statement about what is compared with the C code. -/

open Percival.Model.HeapStep Percival.Proofs.HeapStep

/-- One step of the heap half of the executable is one step of `HeapRun.step` on the state it stands for
(`mk f L`: the array of `f`, the log `L`, the keys `keyFn f.keys`, the live list of `f`), as long as the hash
map `f.pos` agrees with "last position reported in `L`": same answer, corresponding states again, and the
part of the line after ` | ` shows the model's array and the notifications the step put on the log. -/
theorem hstep_refines (f : HSt) (L : List (Nat × Nat)) (hp : PosOk f L) (op : Op) :
    ∃ L', (step (mk f L) op).1 = mk (hstep f op).1 L' ∧ PosOk (hstep f op).1 L' ∧
      (hstep f op).2.ans = (step (mk f L) op).2 ∧
      ∀ x, (hstep f op).2.l2 = some x → x.a = (step (mk f L) op).1.h.a ∧ ∃ L0, L' = x.notes ++ L0 :=
  hstep_mk f L hp op

example : PosOk {} [] ∧ mk {} [] = ⟨Heap.empty, keyFn {}, []⟩ := ⟨posOk_nil, rfl⟩

/-- the same for the timer-queue half and `HeapRun.tstep` -/
theorem tstep_refines (f : HeapStep.TSt) (L : List (Nat × Nat)) (hp : TPosOk f L) (op : TOp) :
    ∃ L', (tstep (mkT f L) op).1 = mkT (tstepX f (.op op)).1 L' ∧ TPosOk (tstepX f (.op op)).1 L' ∧
      (tstepX f (.op op)).2.ans = .ans (tstep (mkT f L) op).2 ∧
      ∀ x, (tstepX f (.op op)).2.l2 = some x → x.a = (tstep (mkT f L) op).1.q.h.a :=
  tstep_mk f L hp op

example : TPosOk {} [] ∧ (mkT {} []).live = [] := ⟨posOk_nil, rfl⟩

/-- the final drain of a timer-queue case prints the pointers that repeated `getptr` on the model's queue releases -/
theorem tdrain_refines (f : HeapStep.TSt) (L : List (Nat × Nat)) (sec usec : Int) :
    (tstepX f (.drain sec usec)).2.ans =
      .drained ((tqDrain sec usec (mkT f L).q.h.a.size (mkT f L).q).map (·.2)) :=
  tdrain_mk f L sec usec

example : (tstepX {} (.drain 5 0)).2.ans = .drained [] := rfl

/-- The monitor executable's step is `monStep` / `tmonStepI` on the monitor state its hash maps stand for. -/
theorem monitor_exec_is_spec (s : FMSt) (t : FTMSt) (op : Op) (a : Ans) (top : TOpI) (ta : TAnsI) :
    ((monStepF s op a).1.abs = (monStep s.abs op a).1 ∧ (monStepF s op a).2 = (monStep s.abs op a).2) ∧
    ((tmonStepIF t top ta).1.abs = (tmonStepI t.abs top ta).1 ∧ (tmonStepIF t top ta).2 = (tmonStepI t.abs top ta).2) :=
  ⟨monStepF_abs s op a, tmonStepIF_abs t top ta⟩

example : (monStep (FMSt.abs {}) (.add 1 5) .ok).2 = true ∧ (monStep (FMSt.abs {}) (.add 1 5) .skip).2 = false :=
  ⟨by decide +kernel, by decide +kernel⟩

/-- **Soundness of the monitor for the model, end to end.**  For every sequence of protocol operations
(heap and timer-queue operations mixed), feeding what `pmodel heap` prints before ` | ` to `pmodel heapmon`
yields `ok` on every line — under `OpsOk`: a timer is added with a pointer that no live timer stores (the
implementation's `getptr` line shows only the pointer), and a timer-queue drain is made at a time not
earlier than any live timer (else it cannot release everything, which the monitor demands of a drain). -/
theorem run_ops_accepted (ops : List XOp) (hok : OpsOk {} ops) :
    acceptsX {} ((ops.map XOp.toI).zip ((runOps {} ops).2.map XOut.l1)) = true :=
  (runOps_rel ops {} {} xrel_init hok).1

example : OpsOk {} [.h (.add 1 5), .h (.add 2 3), .h .getmin, .h (.del 1), .h .drain] :=
  ⟨trivial, trivial, trivial, trivial, trivial, trivial⟩
example : OpsOk {} [.t (.op (.add 1 5 0 101)), .t (.op .getmin), .t (.drain 9 0)] := by
  refine ⟨fun r hr => (by cases hr), trivial, ?_, trivial⟩
  intro r hr
  have : r = 1 := by simpa [stepOp, tstepX, tfinish] using hr
  subst this
  simp [stepOp, tstepX, tfinish, TimerQueue.add, TimerQueue.key, TimerQueue.lookup, TimerQueue.tvKey, HeapStep.TSt.q]

/-- **Invariant of the executable's state.**  After every operation sequence: the ids in the heap array are
pairwise distinct, the hash map `pos` gives the slot of every element (so the handle operations act on the
element meant), parent ≤ child on every edge under the current keys, and the array holds exactly the live ids;
the same for the timer queue, whose every live record has a time. -/
theorem run_ops_invariant (ops : List XOp) (hok : OpsOk {} ops) :
    let f := (runOps {} ops).1
    ((∀ i j x : Nat, f.h.a[i]? = some x → f.h.a[j]? = some x → i = j) ∧
     (∀ i x : Nat, f.h.a[i]? = some x → f.h.pos[x]? = some i) ∧
     (∀ i c q : Nat, 0 < i → f.h.a[i]? = some c → f.h.a[(i-1)/2]? = some q → keyFn f.h.keys q ≤ keyFn f.h.keys c) ∧
     f.h.a.toList.Perm f.h.live) ∧
    ((∀ i j x : Nat, f.t.a[i]? = some x → f.t.a[j]? = some x → i = j) ∧
     (∀ i x : Nat, f.t.a[i]? = some x → f.t.pos[x]? = some i) ∧
     (∀ i c q : Nat, 0 < i → f.t.a[i]? = some c → f.t.a[(i-1)/2]? = some q →
        TimerQueue.key f.t.recs q ≤ TimerQueue.key f.t.recs c) ∧
     (∀ r ∈ f.t.live, ∃ x, TimerQueue.lookup f.t.recs r = some x) ∧
     f.t.a.toList.Perm f.t.live) := by
  obtain ⟨m', ⟨L, hp, hr, -⟩, ⟨L', hp', hr', -, -⟩⟩ := (runOps_rel ops {} {} xrel_init hok).2
  exact ⟨⟨hr.inv.distinct, fun i x hx => (hp x).trans (hr.inv.handles i x hx), hr.inv.ordered, hr.perm⟩,
    hr'.inv.inv.distinct, fun i x hx => (hp' x).trans (hr'.inv.inv.handles i x hx), hr'.inv.inv.ordered,
    fun r hrl => hr'.inv.bound r (hr'.perm.mem_iff.mpr hrl), hr'.perm⟩

example : OpsOk {} [.h (.add 1 5), .h (.inc 1 7), .h .delmin] := ⟨trivial, trivial, trivial, trivial⟩

/-! ## The monitor reads what the model prints: `XOut.l1` is read ∘ print

`Driver/Heap.render o` is the tokens `Heap.l1Toks o` joined by single spaces, then ` | ` and the L2 part (by definition);
`Driver/Heapmon.parseAns` is the reader `pmodel heapmon` applies to the tokens of the part before ` | `.
`Proofs/HeapAns.lean`: number printing and reading (`Nat.repr` / `Int.repr` / `String.toNat?` / `String.toInt?`), the
`,`-separated id lists, the words `none` / `-` — everything between the typed output and the token list. -/

open Percival.Proofs.HeapAns in
/-- **For every typed output `o` of the model, reading the L1 tokens it prints as the answer to an operation of the
same object (heap / timer queue) gives `o.l1`** — the answer `run_ops_accepted` feeds to the monitor; the output of
`stepOp` is always of the operation's object; cutting the L1 part of the printed line at the spaces gives back exactly
these tokens (no token contains a space).  Not covered: that `Driver/Loop.loopMon` cuts the line with
`String.splitOn " "` (a different splitting function than the `String.split ' '` of the statement) and that
`tools/vlib.py` cuts at ` | `; `KAT/HeapAns.lean` tests these on an output of every shape. -/
theorem monitor_reads_printed_answer (o : XOut) :
    (∀ op, sameKind op o → Driver.Heapmon.parseAns op (Driver.Heap.l1Toks o) = some o.l1) ∧
    (∀ s op, sameKind (XOp.toI op) (stepOp s op).2) ∧
    Driver.Heapmon.splitCh ' ' (" ".intercalate (Driver.Heap.l1Toks o)) = Driver.Heap.l1Toks o ∧
    Driver.Heap.render o =
      " ".intercalate (Driver.Heap.l1Toks o) ++ (match Driver.Heap.l2Str o with | some s => " | " ++ s | none => "") :=
  ⟨fun op h => parseAns_l1Toks op o h, stepOp_sameKind, split_l1 o, rfl⟩

/-- the tokens of real lines: `ok 3 | log=… a=…`, `rel 42 | r=7 …` (the record is not shown at L1), `tdrain 5,0` -/
example : Driver.Heap.l1Toks (.h { ans := .okId 3, l2 := some { notes := [(3, 0)], a := #[3] } }) = ["ok", "3"] ∧
    Driver.Heap.l1Toks (.t { ans := .ans (.rel (some (7, 42))) }) = ["rel", "42"] ∧
    Driver.Heap.l1Toks (.t { ans := .ans (.tmin (some (-3, 5))) }) = ["tmin", "-3", "5"] ∧
    Driver.Heap.l1Toks (.t { ans := .drained [5, 0] }) = ["tdrain", "5,0"] ∧
    Driver.Heap.l1Toks (.h { ans := .drained [] }) = ["drain", "-"] := by decide +kernel
open Percival.Proofs.HeapAns in
example : sameKind (.h .getmin) (.h { ans := .min (some 3) }) ∧ ¬ sameKind (.t .drain) (.h { ans := .min (some 3) }) :=
  ⟨trivial, id⟩

open Percival.Proofs.HeapAns in
/-- **Every case, at the level of the text the two executables exchange.**  For every list of operation lines
(token lists) that `pmodel heap` can read — `ops` being what it reads — and that is within `OpsOk`:
the lines `pmodel heap` prints (`printed`: `Driver/Heap.step` along the case) are `render` of the outputs of `runOps`;
`pmodel heapmon` reads each operation line as the same operation (`parseOp = parse.map toI`); and
**`Driver/Heapmon.step` — the whole function the monitor executable applies to (operation line, answer line) — run
along the case on the L1 tokens the model prints, answers `ok` on every line** (`verdicts`). -/
theorem monitor_accepts_printed_run (lines : List (List String)) (ops : List XOp)
    (hp : lines.mapM Driver.Heap.parse = some ops) (hok : OpsOk {} ops) :
    printed {} lines = (runOps {} ops).2.map Driver.Heap.render ∧
    (∀ l, Driver.Heapmon.parseOp l = (Driver.Heap.parse l).map XOp.toI) ∧
    verdicts {} (lines.zip ((runOps {} ops).2.map Driver.Heap.l1Toks)) = List.replicate lines.length "ok" :=
  ⟨printed_eq lines ops {} hp, parseOp_eq, verdicts_ok lines ops {} {} hp (run_ops_accepted ops hok)⟩

/-- operation lines that are read as the first demonstration case of `run_ops_accepted` -/
example : [["add", toString (1 : Nat), toString (5 : Int)], ["add", toString (2 : Nat), toString (3 : Int)], ["getmin"],
      ["del", toString (1 : Nat)], ["drain"]].mapM Driver.Heap.parse =
    some [.h (.add 1 5), .h (.add 2 3), .h .getmin, .h (.del 1), .h .drain] := by
  rw [List.mapM_cons, List.mapM_cons, List.mapM_cons, List.mapM_cons, List.mapM_cons, List.mapM_nil,
    Driver.Heap.parse, Driver.Heap.parse, Driver.Heap.parse, Driver.Heap.parse, Driver.Heap.parse]
  simp only [Proofs.TokText.nat_rt, Proofs.TokText.int_rt]
  rfl
/-- the monitor executable does reject: `skip` as the answer to a legal `add` -/
example : (Driver.Heapmon.step {} ["add", toString (1 : Nat), toString (5 : Int)] ["skip"]).2 = "bad add failed" := by
  simp only [Driver.Heapmon.step, Driver.Heapmon.parseOp, Proofs.TokText.nat_rt, Proofs.TokText.int_rt]
  rfl

end Percival.C13
