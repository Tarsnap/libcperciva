import Percival.Proofs.HashStep
import Percival.Proofs.Sha256Eval
import Percival.Proofs.Sha1Eval
/-!
# C01 — digests, HMACs, PBKDF2 and CRC32C equal their specified functions

`Model.*` are the executable models of `alg/sha256.c`, `alg/sha1.c`, `alg/md5.c`, `alg/crc32c.c`
(portable paths) that `pmodel hash` runs in lock-step with the real code; `Spec.*` are FIPS 180-4,
RFC 1321, RFC 2104, RFC 8018 §5.2 and the GF(2) meaning of CRC32C.  Only property theorems here;
helper lemmas are in `Proofs/`.
-/
namespace Percival.C01
open Percival.Spec (Bytes)
open Percival.Model

/-! ## Digests: every partition of the message across update calls gives the specified digest

No hypothesis on lengths: the model's bit counters wrap mod 2^64 like the C's, and `Spec.MD.padding`
uses `8·len mod 2^64`, which is the standards' length field for every message of < 2^64 bits. -/

/-- SHA-256: `SHA256_Init`, any sequence of `SHA256_Update`s, `SHA256_Final` = FIPS 180-4 SHA-256 -/
theorem sha256_stream_eq_spec (chunks : List Bytes) :
    Sha256.final (chunks.foldl Sha256.update Sha256.init) = Spec.Sha256.hash chunks.flatten :=
  Proofs.MDStream.stream256_eq_spec Proofs.Sha256T.refines chunks

example : Sha256.final ([[0x61], [], [0x62, 0x63]].foldl Sha256.update Sha256.init)
    = Spec.Sha256.hash [0x61, 0x62, 0x63] := sha256_stream_eq_spec _

/-- SHA-1 -/
theorem sha1_stream_eq_spec (chunks : List Bytes) :
    Sha1.final (chunks.foldl Sha1.update Sha1.init) = Spec.Sha1.hash chunks.flatten :=
  Proofs.MDStream.streamUpd_eq_spec Proofs.Sha1T.refines chunks

example : Sha1.final ([[0x61], [], [0x62, 0x63]].foldl Sha1.update Sha1.init)
    = Spec.Sha1.hash [0x61, 0x62, 0x63] := sha1_stream_eq_spec _

/-- MD5 -/
theorem md5_stream_eq_spec (chunks : List Bytes) :
    Md5.final (chunks.foldl Md5.update Md5.init) = Spec.Md5.hash chunks.flatten :=
  Proofs.MDStream.streamUpd_eq_spec Proofs.Md5T.refines chunks

example : Md5.final ([[0x61], [], [0x62, 0x63]].foldl Md5.update Md5.init)
    = Spec.Md5.hash [0x61, 0x62, 0x63] := md5_stream_eq_spec _

/-- the one-shot interfaces (`*_Buf`) agree with streaming and with the specification -/
theorem oneshot_eq_spec (m : Bytes) :
    Sha256.buf m = Spec.Sha256.hash m ∧ Sha1.buf m = Spec.Sha1.hash m ∧ Md5.buf m = Spec.Md5.hash m :=
  ⟨Proofs.MDStream.buf256_eq_spec Proofs.Sha256T.refines m, Proofs.MDStream.bufUpd_eq_spec Proofs.Sha1T.refines m,
   Proofs.MDStream.bufUpd_eq_spec Proofs.Md5T.refines m⟩

example : Sha256.buf [1, 2, 3] = Spec.Sha256.hash [1, 2, 3] := (oneshot_eq_spec _).1

/-! ## The bit counters (carry lemmas) -/

/-- SHA-1's `count[0]:count[1]` after `SHA1_Update` of `len` bytes is the old value `+ 8·len mod 2^64` -/
theorem sha1_count_carry (c : Hash.Count2) (len : Nat) :
    ((Hash.cntSha1.add c len).c0.toNat * 2^32 + (Hash.cntSha1.add c len).c1.toNat)
      = (c.c0.toNat * 2^32 + c.c1.toNat + 8 * len) % 2^64 :=
  Proofs.Counters.addLoHi_val c.c1 c.c0 len

/-- the carry into the high word does happen -/
example : Hash.addLoHi 0xfffffff8 0 1 = (0, 1) := by decide

/-- MD5's `count[1]:count[0]` likewise -/
theorem md5_count_carry (c : Hash.Count2) (len : Nat) :
    ((Hash.cntMd5.add c len).c1.toNat * 2^32 + (Hash.cntMd5.add c len).c0.toNat)
      = (c.c1.toNat * 2^32 + c.c0.toNat + 8 * len) % 2^64 :=
  Proofs.Counters.addLoHi_val c.c0 c.c1 len

/-- with a high part in the length as well (`len = 2^29` bytes = `2^32` bits) -/
example : Hash.addLoHi 0xfffffff8 7 (2^29 + 1) = (0, 9) := by decide

/-! ## The compression functions: macro-structured C = textbook -/

/-- `SHA256_Transform` (rotating register file, `Ch = (x&(y^z))^z`, `Maj = (x&(y|z))|(y&z)`, schedule
    extended 16 words at a time) is FIPS 180-4 §6.2.2 on every state and every 64-byte block -/
theorem sha256_transform_eq_fips (s : Sha256.State) (block : Bytes) (h : block.length = 64) :
    Proofs.Sha256T.R (Sha256.transform s block) = Spec.Sha256.compress (Proofs.Sha256T.R s) block :=
  Proofs.Sha256T.transform_eq s block h

example : Proofs.Sha256T.R (Sha256.transform Sha256.initialState (List.replicate 64 0x61))
    = Spec.Sha256.compress Spec.Sha256.H0 (List.replicate 64 0x61) := by
  rw [sha256_transform_eq_fips _ _ (by simp), Proofs.Sha256T.init_eq]

/-- `SHA1_Transform` is FIPS 180-4 §6.1.2 -/
theorem sha1_transform_eq_fips (s : Sha1.State) (block : Bytes) (h : block.length = 64) :
    Proofs.Sha1T.R (Sha1.transform s block) = Spec.Sha1.compress (Proofs.Sha1T.R s) block :=
  Proofs.Sha1T.transform_eq s block h

example : Proofs.Sha1T.R (Sha1.transform Sha1.initialState (List.replicate 64 0x61))
    = Spec.Sha1.compress Spec.Sha1.H0 (List.replicate 64 0x61) := by
  rw [sha1_transform_eq_fips _ _ (by simp), Proofs.Sha1T.init_eq]

/-- `MD5_Transform` is RFC 1321 §3.4 -/
theorem md5_transform_eq_rfc (s : Md5.State) (block : Bytes) (h : block.length = 64) :
    Proofs.Md5T.R (Md5.transform s block) = Spec.Md5.compress (Proofs.Md5T.R s) block :=
  Proofs.Md5T.transform_eq s block h

example : Proofs.Md5T.R (Md5.transform Md5.initialState (List.replicate 64 0x61))
    = Spec.Md5.compress Spec.Md5.init (List.replicate 64 0x61) := by
  rw [md5_transform_eq_rfc _ _ (by simp), Proofs.Md5T.init_eq]

/-! ## HMAC = RFC 2104 for every key length and every partition of the message

`Hmac.init` / `Hmac.final` return `Option` because the C indexes the key hash and the inner hash
with literal lengths (32/20/16); the theorems say the answer is always `some` of the RFC's value. -/

theorem hmac_sha256_eq_spec (key : Bytes) (chunks : List Bytes) :
    ∃ c, Hmac.init Hmac.sha256 key = some c ∧
      Hmac.final Hmac.sha256 (chunks.foldl (Hmac.update Hmac.sha256) c)
        = some (Spec.Hmac.hmacSha256 key chunks.flatten) :=
  Proofs.HmacStream.hmac_stream_eq_spec Proofs.Sha256T.hashOK key chunks

theorem hmac_sha1_eq_spec (key : Bytes) (chunks : List Bytes) :
    ∃ c, Hmac.init Hmac.sha1 key = some c ∧
      Hmac.final Hmac.sha1 (chunks.foldl (Hmac.update Hmac.sha1) c)
        = some (Spec.Hmac.hmacSha1 key chunks.flatten) :=
  Proofs.HmacStream.hmac_stream_eq_spec Proofs.Sha1T.hashOK key chunks

theorem hmac_md5_eq_spec (key : Bytes) (chunks : List Bytes) :
    ∃ c, Hmac.init Hmac.md5 key = some c ∧
      Hmac.final Hmac.md5 (chunks.foldl (Hmac.update Hmac.md5) c)
        = some (Spec.Hmac.hmacMd5 key chunks.flatten) :=
  Proofs.HmacStream.hmac_stream_eq_spec Proofs.Md5T.hashOK key chunks

/-- the one-shot `HMAC_*_Buf` -/
theorem hmac_oneshot_eq_spec (key m : Bytes) :
    Hmac.buf Hmac.sha256 key m = some (Spec.Hmac.hmacSha256 key m) ∧
    Hmac.buf Hmac.sha1 key m = some (Spec.Hmac.hmacSha1 key m) ∧
    Hmac.buf Hmac.md5 key m = some (Spec.Hmac.hmacMd5 key m) :=
  ⟨Proofs.HmacStream.hmac_buf_eq_spec Proofs.Sha256T.hashOK key m, Proofs.HmacStream.hmac_buf_eq_spec Proofs.Sha1T.hashOK key m,
   Proofs.HmacStream.hmac_buf_eq_spec Proofs.Md5T.hashOK key m⟩

/-- a key longer than the block (rehash path) and a two-call message -/
example : ∃ c, Hmac.init Hmac.sha256 (List.replicate 131 0xaa) = some c ∧
    Hmac.final Hmac.sha256 ([[1, 2], [3]].foldl (Hmac.update Hmac.sha256) c)
      = some (Spec.Hmac.hmacSha256 (List.replicate 131 0xaa) [1, 2, 3]) := hmac_sha256_eq_spec _ _

/-! ## PBKDF2-HMAC-SHA256 = RFC 8018 §5.2 for every password, salt, `c ≥ 1` and `dkLen`

(`INT(i)` is taken mod 2^32 on both sides, so no bound on `dkLen` is needed; the RFC itself is only
defined for `dkLen ≤ 32·(2^32 − 1)`, which the C asserts.) -/

theorem pbkdf2_eq_spec (P S : Bytes) (c dkLen : Nat) (hc : 1 ≤ c) :
    Pbkdf2.pbkdf2 P S c dkLen = some (Spec.Pbkdf2.pbkdf2Sha256 P S c dkLen) :=
  Proofs.Pbkdf2Stream.pbkdf2_stream_eq_spec Proofs.Sha256T.hashOK P S c dkLen hc

/-- two iterations, a last block of 8 bytes -/
example : Pbkdf2.pbkdf2 [0x70] [0x73] 2 40 = some (Spec.Pbkdf2.pbkdf2Sha256 [0x70] [0x73] 2 40) :=
  pbkdf2_eq_spec _ _ _ _ (by decide)

/-! ## CRC32C has the documented algebraic meaning

`Spec.Crc32c.Valid data crc` is the sentence of `crc32c.h`: the bit string `1 ‖ data ‖ crc`, each
byte least-significant bit first, is a multiple of the Castagnoli polynomial `0x11EDC6F41` over
GF(2).  The portable code never looks at the buffer's address, so "all alignments" is vacuous for
the model (the harness varies the alignment against the real code). -/

/-- `CRC32C_Init`, any sequence of `CRC32C_Update`s (4-byte table loop + byte loop), `CRC32C_Final`:
    the result satisfies the documented sentence, for every data and every split -/
theorem crc_divisible (chunks : List Bytes) :
    Spec.Crc32c.Valid chunks.flatten (Crc32c.final (chunks.foldl Crc32c.update Crc32c.init)) := by
  rw [Proofs.CrcMain.update_chunks, Proofs.CrcMain.model_eq_spec]
  exact Proofs.CrcPoly.spec_valid _

example : Spec.Crc32c.Valid [0x68, 0x65, 0x6c, 0x6c, 0x6f]
    (Crc32c.final ([[0x68, 0x65], [], [0x6c, 0x6c, 0x6f]].foldl Crc32c.update Crc32c.init)) :=
  crc_divisible [[0x68, 0x65], [], [0x6c, 0x6c, 0x6f]]

/-- … and it is the value the sentence determines (`Spec.Crc32c.crc32c` = remainder of `(1 ‖ data)·x³²`) -/
theorem crc_eq_spec (chunks : List Bytes) :
    Crc32c.final (chunks.foldl Crc32c.update Crc32c.init) = Spec.Crc32c.crc32c chunks.flatten := by
  rw [Proofs.CrcMain.update_chunks, Proofs.CrcMain.model_eq_spec]

/-- the sentence has exactly one solution, so `Valid` is not a weak statement -/
theorem crc_valid_unique (data crc : Bytes) (h : Spec.Crc32c.Valid data crc) : crc = Spec.Crc32c.crc32c data :=
  Proofs.CrcMain.valid_unique data crc h

example : ¬ Spec.Crc32c.Valid [0x41] [0x46, 0x64, 0xd3, 0x49] := by decide

/-- one iteration of the slice-by-4 loop is four iterations of the byte loop -/
theorem crc_slice4_eq_4_bytes (s : UInt32) (b0 b1 b2 b3 : UInt8) :
    Crc32c.step4 s b0 b1 b2 b3 = Crc32c.step1 (Crc32c.step1 (Crc32c.step1 (Crc32c.step1 s b0) b1) b2) b3 :=
  Proofs.CrcWord.step4_eq s b0 b1 b2 b3

example : Crc32c.step4 0x82f63b78 1 2 3 4
    = Crc32c.step1 (Crc32c.step1 (Crc32c.step1 (Crc32c.step1 0x82f63b78 1) 2) 3) 4 := crc_slice4_eq_4_bytes _ _ _ _ _

/-- the table-driven byte step is eight steps of the bit-serial reflected shift register -/
theorem crc_byte_step (s : UInt32) (b : UInt8) :
    Crc32c.step1 s b = (Spec.Crc32c.bitsOfByte b).foldl Proofs.CrcWord.bitStep s :=
  Proofs.CrcWord.step1_bits s b

example : Crc32c.step1 0 0x80 = (Spec.Crc32c.bitsOfByte 0x80).foldl Proofs.CrcWord.bitStep 0 := crc_byte_step _ _

/-- the assertion in `init()` (`T0[0x80] == T_0_0x80`) holds -/
theorem crc_init_assertion : Crc32c.initAssertion = true := by
  unfold Crc32c.initAssertion Crc32c.T0
  rw [Vector.getElem_ofFn]
  decide

/-! ## `Gen = Spec`: the constants read off the C source are the standards' constants

(The macro bodies are compared textually by the extractor; a change there fails the extraction.) -/

theorem gen_sha256_K : Gen.Sha256.Krnd = Spec.Sha256.K := Proofs.Sha256T.K_toList
theorem gen_sha256_H0 : Gen.Sha256.initialState =
    [Spec.Sha256.H0.a, Spec.Sha256.H0.b, Spec.Sha256.H0.c, Spec.Sha256.H0.d,
     Spec.Sha256.H0.e, Spec.Sha256.H0.f, Spec.Sha256.H0.g, Spec.Sha256.H0.h] := by decide +kernel
theorem gen_sha256_rotations :
    Gen.Sha256.bigS0 = (2, 13, 22) ∧ Gen.Sha256.bigS1 = (6, 11, 25) ∧
    Gen.Sha256.smallS0 = (7, 18, 3) ∧ Gen.Sha256.smallS1 = (17, 19, 10) := by decide +kernel
theorem gen_PAD : Gen.Sha256.PAD = 0x80 :: List.replicate 63 0 ∧ Gen.Sha1.PAD = 0x80 :: List.replicate 63 0 ∧
    Gen.Md5.PAD = 0x80 :: List.replicate 63 0 := by decide +kernel
theorem gen_sha1_H0 : Gen.Sha1.initialState =
    [Spec.Sha1.H0.a, Spec.Sha1.H0.b, Spec.Sha1.H0.c, Spec.Sha1.H0.d, Spec.Sha1.H0.e] := by decide +kernel
theorem gen_sha1_K : ∀ t : Fin 80,
    (Gen.Sha1.roundK.getD (Gen.Sha1.roundKind.getD t.val 0) 0) = Spec.Sha1.K t.val := by decide +kernel
theorem gen_md5_init : Gen.Md5.initialState =
    [Spec.Md5.init.a, Spec.Md5.init.b, Spec.Md5.init.c, Spec.Md5.init.d] := by decide +kernel
theorem gen_md5_tables : Gen.Md5.stepT = Spec.Md5.T ∧ Gen.Md5.stepShift = Spec.Md5.sTable ∧
    (List.range 64).map (fun i => (i * ((Gen.Md5.wordIndex.getD (Gen.Md5.stepKind.getD i 0) (0, 0)).1)
      + (Gen.Md5.wordIndex.getD (Gen.Md5.stepKind.getD i 0) (0, 0)).2) % 16) = Spec.Md5.kTable :=
  ⟨Proofs.Md5T.stepT_toList, Proofs.Md5T.stepShift_toList, by decide +kernel⟩
theorem gen_crc_poly : Gen.Crc32c.poly = Spec.Crc32c.castagnoliLow := by decide

/-! ## The executable: every line `pmodel hash` prints

`pmodel hash` parses a line into a `Model.HashStep.Op`, applies `Model.HashStep.stepOp` and prints the
`Model.HashStep.Out` (`Driver/Hash.lean`: `parse`, `render`, nothing else).  `stepOp` computes the L1 part of a
digest line with the `Spec` function on the bytes *it recorded* and the L2 part by finalising the model context
*it carried along*.  The theorems below say that the two are equal in every line of every run, because
every reachable state satisfies `StOk`: each context is `_Init` followed by `_Update` calls over exactly the
recorded bytes (`Streamed` / `HStreamed`; for CRC32C the same with `CRC32C_Update`), unless its bit counter was
forged by the white-box op `addcnt` — then `fin` prints `forged` and no L1 part (`Out.forged`). -/

open Percival.Model.HashStep in
/-- **One line.**  From a state satisfying the invariant, any op (PBKDF2 with `c ≥ 1`) leads to a state
satisfying it, and if the line printed is a digest line (`<l1> | d=<l2>`: `fin`, `buf`, `hmac`, `hmacfin`,
`pbkdf2`) then the model's digest is the specified one; likewise for a CRC line (`crc`, `crcfin`). -/
theorem exec_step_l1_eq_l2 (st : St) (h : StOk st) (op : Op) (hop : InContract op) :
    StOk (stepOp st op).1 ∧
    (∀ l1 l2, (stepOp st op).2 = .digest l1 l2 → l2 = some l1) ∧
    (∀ l1 s l2, (stepOp st op).2 = .crc l1 s l2 → l2 = l1) := by
  obtain ⟨h1, h2⟩ := Proofs.HashStep.stepOp_ok st h op hop
  refine ⟨h1, ?_, ?_⟩
  · intro l1 l2 e; rw [e] at h2; exact h2
  · intro l1 s l2 e; rw [e] at h2; exact h2

open Percival.Model.HashStep in
/-- **Every run: L1 digest = L2 digest unless forged.**  For every op sequence from the initial state, the
final state satisfies the invariant and in every digest line and every CRC line printed on the way the L2
part (the model's streaming context finalised) is the L1 part (the Spec's value of the recorded bytes).  A `fin`
of a forged context prints `Out.forged`, which has no L1 part. -/
theorem exec_digest_l1_eq_l2 (ops : List Op) (hops : ∀ op ∈ ops, InContract op) :
    StOk (runOps {} ops).1 ∧
    ∀ o ∈ (runOps {} ops).2,
      (∀ l1 l2, o = .digest l1 l2 → l2 = some l1) ∧ (∀ l1 s l2, o = .crc l1 s l2 → l2 = l1) := by
  obtain ⟨h1, h2⟩ := Proofs.HashStep.runOps_ok ops {} Proofs.HashStep.st_init hops
  refine ⟨h1, fun o ho => ⟨?_, ?_⟩⟩
  · intro l1 l2 e; have := h2 o ho; rw [e] at this; exact this
  · intro l1 s l2 e; have := h2 o ho; rw [e] at this; exact this

open Percival.Model.HashStep in
/-- non-vacuity: `init`, an update of 60 bytes, an update of 10 bytes (crossing the block boundary), `fin`
prints a digest line — SHA-256("a"⁶⁰"b"¹⁰) = 6c058b95… on both sides -/
example : (runOps {} [.slot .sha256 .init, .slot .sha256 (.upd (List.replicate 60 0x61)),
      .slot .sha256 (.upd (List.replicate 10 0x62)), .slot .sha256 .fin]).2.getLast? =
    some (.digest
      [108, 5, 139, 149, 43, 220, 211, 217, 28, 178, 163, 152, 193, 11, 50, 69, 243, 150, 249, 15, 132, 169, 208, 248,
        29, 216, 15, 195, 132, 57, 236, 190]
      (some [108, 5, 139, 149, 43, 220, 211, 217, 28, 178, 163, 152, 193, 11, 50, 69, 243, 150, 249, 15, 132, 169, 208,
        248, 29, 216, 15, 195, 132, 57, 236, 190])) := by
  -- the ops are `streamOps` followed by `fin`
  have h : Spec.Sha256.hash [List.replicate 60 0x61, List.replicate 10 0x62].flatten =
      [108, 5, 139, 149, 43, 220, 211, 217, 28, 178, 163, 152, 193, 11, 50, 69, 243, 150, 249, 15, 132, 169, 208, 248,
        29, 216, 15, 195, 132, 57, 236, 190] := by rw [Proofs.Sha256Eval.hash_eq]; decide +kernel
  rw [← h]
  exact (Proofs.HashStep.runOps_concat_last {} (streamOps .sha256 [List.replicate 60 0x61, List.replicate 10 0x62]) _).trans
    (congrArg some (Proofs.HashStep.stream_fin {} .sha256 _))

open Percival.Model.HashStep in
/-- non-vacuity of the invariant: a state with an open SHA-1 context, an open HMAC-MD5 context and an open CRC -/
example : let st := (runOps {} [.slot .sha1 .init, .slot .sha1 (.upd [1, 2, 3]), .slot .md5 (.hmacinit [7]),
      .slot .md5 (.hmacupd [8, 9]), .crcinit, .crcupd [4, 5, 6, 7, 8]]).1
    StOk st ∧ (st.s1.h.map (·.2)) = some [1, 2, 3] ∧ (st.s5.m.map (·.2)) = some ([7], [8, 9]) ∧
      (st.crc.map (·.2)) = some [4, 5, 6, 7, 8] :=
  ⟨(exec_digest_l1_eq_l2 _ (fun _ h => by simp at h; rcases h with rfl | rfl | rfl | rfl | rfl | rfl <;> trivial)).1,
   by decide +kernel, by decide +kernel, by decide +kernel⟩

open Percival.Model.HashStep in
/-- **The recorded bytes are the bytes fed.**  From *any* state: `init a`, one `upd a` per chunk (any partition),
then `fin a` prints the specified digest of the concatenation of the chunks, at L1 and at L2. -/
theorem exec_stream_digest (st : St) (a : AlgId) (chunks : List Bytes) :
    (stepOp (runOps st (streamOps a chunks)).1 (.slot a .fin)).2
      = .digest (a.spec chunks.flatten) (some (a.spec chunks.flatten)) :=
  Proofs.HashStep.stream_fin st a chunks

open Percival.Model.HashStep in
example : (stepOp (runOps {} (streamOps .md5 [[0x61], [], [0x62, 0x63]])).1 (.slot .md5 .fin)).2
    = .digest (Spec.Md5.hash [0x61, 0x62, 0x63]) (some (Spec.Md5.hash [0x61, 0x62, 0x63])) :=
  exec_stream_digest _ _ _

/-! ### `bigd`: tens of MiB against the model

`bigd a n seed` makes the implementation hash the `n` bytes `pattern n seed` (byte `i` = `patByte seed i`).  `pmodel`
cannot run the `Spec` function on a list of that size; it folds the model's `_Update` over chunks of 2^16 bytes
produced on the fly and prints the model's `_Final`.  That digest *is* the specified one: -/

open Percival.Model.HashStep in
/-- the message of `bigd a n seed` has `n` bytes -/
theorem pattern_length (n seed : Nat) : (pattern n seed).length = n :=
  Proofs.HashStep.pattern_length n seed

open Percival.Model.HashStep in
/-- byte `i` of it is `(uint8_t)(seed + i*7 + (i>>8)*13 + (i>>16)*101)`, the expression in `harness/h_hash.c` -/
theorem pattern_bytes (n seed : Nat) : pattern n seed = (List.range n).map (patByte seed) :=
  Proofs.HashStep.pattern_eq_map n seed

open Percival.Model.HashStep in
/-- **`bigd` prints the specified digest of the pattern** (or `skip` beyond 2^30 bytes / a seed that is not a byte);
the state is not touched.  By `sha256_stream_eq_spec` / `sha1_stream_eq_spec` / `md5_stream_eq_spec` on the chunk list. -/
theorem exec_bigd_eq_spec (st : St) (a : AlgId) (n seed : Nat) :
    stepOp st (.bigd a n seed)
      = (st, if bigdOk n seed then .streamed (a.spec (pattern n seed)) else .skip) := by
  simp only [stepOp, Proofs.HashStep.alg_bigd_spec]

open Percival.Model.HashStep in
/-- non-vacuity: 70 bytes (one block and a tail) -/
example : stepOp {} (.bigd .sha1 70 3) = ({}, .streamed (Spec.Sha1.hash ((List.range 70).map (patByte 3)))) := by
  rw [exec_bigd_eq_spec, pattern_bytes]; rfl

open Percival.Model.HashStep in
/-- the chunking is real: 2^16 + 5 bytes are two chunks, of 2^16 and of 5 bytes -/
example : (patChunks 9 (nChunks (2^16 + 5)) 0 (2^16 + 5)).map List.length = [2^16, 5] := by
  simp [patChunks, nChunks, bigdChunk, Proofs.HashStep.patChunk_length]

open Percival.Model.HashStep in
/-- **`forged` only after `addcnt`.**  A run without `addcnt a` leaves `a`'s context unforged, so its `fin` lines
are digest lines (judged at L1), never `forged` lines. -/
theorem exec_forged_only_after_addcnt (ops : List Op) (a : AlgId) (hops : ∀ k, Op.slot a (.addcnt k) ∉ ops) :
    (runOps {} ops).1.forged a = false :=
  Proofs.HashStep.runOps_forged ops {} a hops (by cases a <;> rfl)

open Percival.Model.HashStep in
example : (∀ k, Op.slot .sha1 (.addcnt k) ∉ [Op.slot .sha256 .init, .slot .sha256 (.addcnt 3), .slot .sha1 .init]) ∧
    (runOps {} [.slot .sha256 .init, .slot .sha256 (.addcnt 3), .slot .sha1 .init]).1.forged .sha256 = true := by
  refine ⟨?_, by decide +kernel⟩
  intro k h; simp at h

open Percival.Model.HashStep in
/-- the exclusion is needed: after `addcnt` the model's digest (count says one more block than was hashed) is
not the Spec's digest of the recorded bytes, and the line printed is a `forged` line -/
example : (runOps {} [.slot .sha1 .init, .slot .sha1 (.addcnt 1), .slot .sha1 .fin]).2.getLast? =
      some (.forged [90, 160, 132, 188, 252, 57, 45, 32, 9, 142, 229, 1, 206, 121, 127, 66, 101, 133, 139, 39]) ∧
    Spec.Sha1.hash [] ≠ [90, 160, 132, 188, 252, 57, 45, 32, 9, 142, 229, 1, 206, 121, 127, 66, 101, 133, 139, 39] := by
  -- the forged context is `H⁽⁰⁾` with one block counted and nothing absorbed: its digest is a value of the Spec
  have hc : Proofs.MDStream.InvAt Proofs.Sha1T.refines Spec.Sha1.H0 1 (add1 (Hash.init Sha1.alg) 1) [] :=
    ⟨rfl, by decide, Proofs.Sha1T.init_eq, rfl⟩
  have e : (runOps {} [.slot .sha1 .init, .slot .sha1 (.addcnt 1), .slot .sha1 .fin]).2.getLast? =
      some (.forged (Sha1.alg.digest (Hash.padUpd Sha1.alg (add1 (Hash.init Sha1.alg) 1)).state)) := rfl
  rw [e, Proofs.Sha1T.refines.digest, Proofs.MDStream.padUpd_stateAt _ _ _ _ _ hc, Proofs.Sha1Eval.hash_eq]
  exact ⟨congrArg (some ∘ Out.forged) ((Proofs.Sha1Eval.eval.out_absorb 1 Spec.Sha1.H0 _ (by decide)).trans
    (by decide +kernel)), by decide +kernel⟩

end Percival.C01
