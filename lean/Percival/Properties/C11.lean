import Percival.Model.EntropyStep
import Percival.Proofs.Entropy
import Percival.Proofs.OsEntropy
import Percival.Proofs.EntropyStep
/-!
# C11 — the random generator is HMAC_DRBG(SHA-256) over OS entropy, reseeded on schedule

`Model.Entropy` is `crypto/crypto_entropy.c` (static `drbg`, `instantiated`, the chunking loop, the
`reseed_counter > RESEED_INTERVAL` test); `Cfg.source` holds the literals of the *current* source
(`Gen.Entropy`, regenerated on every run).  `Spec.HmacDrbg` is SP 800-90A §10.1.2;
`Spec.HmacDrbg.Service` is the generator used as §9 prescribes (instantiate from 48 bytes of OS
entropy, ≤ 65 536-byte pieces, Reseed with 32 bytes when Generate answers "reseed required");
`Spec.HmacDrbg.Scheduled` writes the failure-free schedule out as arithmetic.
The OS is an arbitrary script `Oracle = List (Option bytes)` (`none` = failure).

`abs st` is the SP 800-90A state the static variables denote (`none` while `instantiated = 0`),
`Inv 256 st` says an instantiated state has `1 ≤ reseed_counter ≤ 257` and 32-byte Key, V.
-/
namespace Percival.C11
open Percival Percival.Spec Percival.Proofs.Entropy
open Percival.Spec.HmacDrbg (State Oracle Outcome getEntropy pieces std)
open Percival.Model.Entropy (Cfg Drbg St)

/-- every literal the algorithm of `crypto_entropy.c` depends on has the documented value:
    SP 800-90A §10.1.2 constants (Key = 0x00…, V = 0x01…, separators 0x00 / 0x01, counter set to 1
    by instantiate and reseed and incremented by 1, 32-byte blocks), 48-byte and 32-byte seeds,
    `RESEED_INTERVAL` = 256, `GENERATE_MAXLEN` = 65536 -/
theorem gen_is_documented : Cfg.source = Cfg.doc 256 65536 := by decide

/-- the remaining literals and comparison operators have the shape the model assumes: buffers are
    as long as what is read into them, `Vx[32]` is the separator position, HMAC keys/values are 32
    bytes and `V ‖ sep` is 33, all three `32`s of `generate`'s loop agree, `update(NULL, 0)`,
    `instantiated` goes 0 → 1, and the tests are `reseed_counter > RESEED_INTERVAL`,
    `buflen > GENERATE_MAXLEN`, `datalen != 0` -/
theorem gen_shape :
    Gen.Entropy.keyLen = 32 ∧ Gen.Entropy.vLen = 32 ∧
    Gen.Entropy.instBufLen = 48 ∧ Gen.Entropy.reseedBufLen = 32 ∧
    Gen.Entropy.sepIndex0 = 32 ∧ Gen.Entropy.sepIndex1 = 32 ∧
    Gen.Entropy.hmacKeyLen = 32 ∧ Gen.Entropy.hmacVxSepLen = 33 ∧
    Gen.Entropy.hmacVBuf = 32 ∧ Gen.Entropy.hmacVBufV = 32 ∧
    Gen.Entropy.blockStep = 32 ∧ Gen.Entropy.blockFull = 32 ∧ Gen.Entropy.blockCopy = 32 ∧
    Gen.Entropy.blockHmac = 32 ∧ Gen.Entropy.blockHmacV = 32 ∧
    Gen.Entropy.generateFinalUpdate = 0 ∧
    Gen.Entropy.instantiatedInit = 0 ∧ Gen.Entropy.instantiatedSet = 1 ∧
    Gen.Entropy.secondStageOp = "!=" ∧ Gen.Entropy.secondStageRhs = 0 ∧
    Gen.Entropy.reseedTestOp = ">" ∧ Gen.Entropy.chunkTestOp = ">" := by decide

/-- the numbers are ones SP 800-90A allows for HMAC_DRBG with SHA-256 (Table 2, §8.6.7): interval
    ≤ 2^48, request ≤ 2^19 bits, entropy input ≥ 256 bits, nonce ≥ 128 bits; and they are the
    property's numbers `std` -/
theorem gen_within_standard :
    Gen.Entropy.reseedInterval ≤ HmacDrbg.maxReseedInterval ∧
    Gen.Entropy.generateMaxlen = HmacDrbg.maxBytesPerRequest ∧
    Gen.Entropy.reseedSeedLen ≥ HmacDrbg.minEntropyLen ∧
    Gen.Entropy.instSeedLen ≥ HmacDrbg.minEntropyLen + HmacDrbg.minNonceLen ∧
    params Gen.Entropy.reseedInterval Gen.Entropy.generateMaxlen = std ∧
    Gen.Entropy.instSeedLen = std.entropyLen + std.nonceLen ∧
    Gen.Entropy.reseedSeedLen = std.reseedLen := by decide

/-! ## the bytes are SP 800-90A HMAC_DRBG's, for every call sequence and every OS behaviour -/

/-- **One call, any state, any OS script, any length**: `crypto_entropy_read` answers exactly as
    the SP 800-90A service does from the state the static variables denote — same outcome (the same
    bytes, or failure), same resulting (Key, V, reseed_counter) / un-instantiated state, same OS
    answers consumed. -/
theorem read_refines (st : St) (o : Oracle) (n : Nat) :
    mapSt abs (Model.Entropy.read Cfg.source st o n) = HmacDrbg.Service.read std (abs st) o n := by
  rw [gen_is_documented]
  exact read_eq fits_source st o n

/-- **Every sequence of request lengths, every entropy stream (failures anywhere)**: the answers
    of the library's generator, started from the zero-initialised static state, are those of
    HMAC_DRBG(SHA-256) instantiated from 48 bytes of OS entropy, served in ≤ 65 536-byte Generate
    calls, reseeded with 32 bytes whenever Generate reports that 256 calls have been made. -/
theorem run_refines (o : Oracle) (requests : List Nat) :
    Model.Entropy.run Cfg.source St.init o requests = HmacDrbg.Service.run std none o requests := by
  rw [gen_is_documented]
  exact run_eq fits_source requests St.init o

/-- **The exact schedule** when the OS does not fail: with `seed0` the first (48-byte) answer and
    `seeds` the later (32-byte) ones, the outputs are those of `Scheduled.run`, in which Generate
    number `k+1` since instantiation is preceded by a Reseed iff `k > 0 ∧ 256 ∣ k` — a reseed after
    every 256 Generate calls, never earlier, never later — each request of `n` bytes being the
    pieces `65536, …, 65536` and, unless it is 0, `n mod 65536`.  (`Scheduled.run = some outs` says the script has a
    seed for each of those reseeds.) -/
theorem run_schedule (seed0 : Bytes) (seeds : List Bytes) (requests : List Nat) (outs : List Bytes)
    (h0 : seed0.length = 48) (hs : ∀ e ∈ seeds, e.length = 32)
    (h : HmacDrbg.Scheduled.run std seed0 seeds requests = some outs) :
    Model.Entropy.run Cfg.source St.init (some seed0 :: seeds.map some) requests = outs.map .ok := by
  rw [run_refines]
  exact run_scheduled 256 65536 (by decide) (by decide) (by decide) seed0 seeds requests outs h0 hs h

/-- how the C's counter realises that schedule: when `k` Generate calls have been made since
    instantiation the counter holds `ctrAt 256 k` (1 at first, then `(k−1) mod 256 + 2`), and the
    test `reseed_counter > 256` is true exactly when `k > 0 ∧ 256 ∣ k` -/
theorem reseed_test_iff (k : Nat) : ctrAt 256 k > 256 ↔ (k > 0 ∧ k % 256 = 0) :=
  ctrAt_gt (by decide) k

/-- OS failure at instantiation: the call fails, **nothing** is changed (the generator stays
    un-instantiated, so the next call asks the OS again), one OS answer is consumed. -/
theorem instantiate_failure (st : St) (o o' : Oracle) (n : Nat)
    (hu : st.instantiated = false) (hg : getEntropy 48 o = (none, o')) :
    Model.Entropy.read Cfg.source st o n = (.fail, st, o') := by
  rw [gen_is_documented]
  exact read_instantiate_fails 256 65536 st n hu hg

/-- OS failure at a reseed: if the call needs more Generate calls than the counter still allows
    (`pieces + reseed_counter > 257`; the reseed may fall between pieces of the call) and the OS
    fails, the call fails; the state stays instantiated with `reseed_counter = 257`, i.e. *past* the
    interval, so no later call can generate before a reseed has succeeded. -/
theorem reseed_failure (st : St) (o o' : Oracle) (n : Nat)
    (hi : st.instantiated = true) (hc : st.drbg.reseedCounter.toNat ≤ 257)
    (hn : (pieces 65536 n).length + st.drbg.reseedCounter.toNat > 257)
    (hg : getEntropy 32 o = (none, o')) :
    ∃ st', Model.Entropy.read Cfg.source st o n = (.fail, st', o') ∧ st'.instantiated = true ∧
      st'.drbg.reseedCounter.toNat = 257 := by
  rw [gen_is_documented]
  exact read_reseed_fails fits_source st n hi hc hn hg

/-- **Every call, from every state**: it never trips `generate`'s assertions (`abort`); a success
    returns exactly `n` bytes and leaves the generator instantiated; the invariant is preserved;
    and after a *failed* call either nothing has changed and the generator is still un-instantiated,
    or it is instantiated with the counter past the interval (the next Generate must be preceded by
    a successful reseed — `read_refines`: SP 800-90A's Generate refuses otherwise). -/
theorem call_outcome (st : St) (o : Oracle) (n : Nat) (r : Outcome) (st' : St) (o' : Oracle)
    (h : Model.Entropy.read Cfg.source st o n = (r, st', o')) :
    r ≠ .abort ∧ (∀ out, r = .ok out → out.length = n ∧ st'.instantiated = true) ∧
    (Inv 256 st → Inv 256 st') ∧
    (r = .fail → (st'.instantiated = false ∧ st' = st) ∨
                 (st'.instantiated = true ∧ st'.drbg.reseedCounter.toNat > 256)) := by
  rw [gen_is_documented] at h
  exact read_props fits_source st o n r st' o' h

/-- **Invariant over all call sequences, failures included**: whatever was requested and whatever
    the OS did, the state is un-instantiated or has `1 ≤ reseed_counter ≤ 257` (at most 256
    Generate calls since the last successful seeding) and 32-byte Key and V. -/
theorem reachable_invariant (o : Oracle) (requests : List Nat) :
    Inv 256 (Model.Entropy.runFull Cfg.source St.init o requests).2.1 := by
  rw [gen_is_documented]
  exact runFull_inv fits_source requests St.init o (inv_init 256)

/-- over all call sequences: one answer per request, never `abort`, every success has exactly the
    requested length -/
theorem run_outcomes_wellformed (o : Oracle) (requests : List Nat) :
    (Model.Entropy.run Cfg.source St.init o requests).length = requests.length ∧
    ∀ r n, (r, n) ∈ (Model.Entropy.run Cfg.source St.init o requests).zip requests →
      r ≠ .abort ∧ ∀ out, r = .ok out → out.length = n := by
  rw [gen_is_documented]
  exact run_outcomes fits_source requests St.init o

/-- requests above 65536 bytes are consecutive Generate calls -/
example : pieces 65536 131073 = [65536, 65536, 1] ∧ pieces 65536 65536 = [65536] ∧
    pieces 65536 65537 = [65536, 1] ∧ pieces 65536 0 = [] ∧ pieces 65536 33 = [33] := by decide

/-- `run_schedule`: a script with enough seeds exists — 48 + 32 bytes serve a 131 073-byte request
    and 300 one-byte requests (303 Generate calls, one reseed) -/
example : (HmacDrbg.Scheduled.run std (List.replicate 48 7) [List.replicate 32 9]
    (131073 :: List.replicate 300 1)).isSome = true := by decide +kernel

/-- … and the reseed really is used: without the second answer the schedule cannot be served -/
example : (HmacDrbg.Scheduled.run std (List.replicate 48 7) [] (131073 :: List.replicate 300 1)).isSome = false := by
  decide +kernel

/-- the counter over the first reseed: 1, 2, …, 257 (reseed), 2, … -/
example : ctrAt 256 0 = 1 ∧ ctrAt 256 1 = 2 ∧ ctrAt 256 255 = 256 ∧ ctrAt 256 256 = 257 ∧
    ctrAt 256 257 = 2 ∧ ctrAt 256 512 = 257 := by decide

/-- `instantiate_failure`: the zero state with a failing / wrong-length / exhausted OS -/
example : St.init.instantiated = false ∧ getEntropy 48 [none, some []] = (none, [some []]) ∧
    getEntropy 48 [some (List.replicate 47 0)] = (none, []) ∧ getEntropy 48 [] = (none, []) := by decide

/-- `reseed_failure` / `Inv`: an instantiated state at the end of its interval, one more byte asked -/
example :
    let st : St := { drbg := { key := List.replicate 32 1, v := List.replicate 32 2, reseedCounter := 257 },
                     instantiated := true }
    Inv 256 st ∧ st.drbg.reseedCounter.toNat ≤ 257 ∧
    (pieces 65536 1).length + st.drbg.reseedCounter.toNat > 257 ∧ getEntropy 32 [none] = (none, []) := by
  refine ⟨fun _ => by decide, by decide, by decide, by decide⟩

/-- … and a reseed that falls between the pieces of one call: counter 256, three pieces -/
example : (pieces 65536 131073).length + (256 : UInt32).toNat > 257 := by decide

/-- the whole machine on a small instance (reseed interval 2, pieces of 4 bytes; same lemmas, the
    parameters are universally quantified in `Proofs.Entropy`): OS failure at instantiation, retry,
    a two-piece request, a failing reseed, the retry that succeeds — model and specification agree
    and the outcomes are as the theorems say -/
example :
    (Model.Entropy.run (Cfg.doc 2 4) St.init [none, some (List.replicate 48 3), none, some (List.replicate 32 4)] [1, 5, 0, 2, 2]).map
      (fun r => match r with | .ok out => some out.length | _ => none)
    = [none, some 5, some 0, none, some 2] := by decide +kernel

/-- `entropy_read` hands `crypto_entropy.c` exactly the next `n` bytes the operating system
    produced, in order — for every fragmentation of the reads (short reads of any sizes); the
    assumption "entropy_read fills exactly the requested bytes or fails" used above is thereby a
    theorem about the model of `util/entropy.c`, which is tied to the code by its own harness. -/
theorem os_entropy_exact (n : Nat) (stream : List UInt8) (script : List Model.OsEntropy.ReadAns)
    (h : (Model.OsEntropy.entropyRead true n stream script).ok = true) :
    (Model.OsEntropy.entropyRead true n stream script).got = stream.take n ∧ n ≤ stream.length := by
  unfold Model.OsEntropy.entropyRead at h ⊢
  simp only [if_true] at h ⊢
  have := Percival.Proofs.OsEntropy.fill_ok (n + 1) n stream script { ok := false, got := [], calls := [] } h
  simpa using this

/-- a failing `open` makes the call fail; an end-of-file or a `read` error — **whatever its `errno`**
    (`EINTR` and `EAGAIN` are not retried: the C tests `lenread == -1` only) — makes the call fail at
    **every position**: as the first answer or after any short reads `ks` that cannot have filled the
    buffer yet (read `i` hands over at most `ksᵢ+1` bytes, `Σ (ksᵢ+1) < n`); what the script says
    afterwards (`as`) is irrelevant.  (Then `instantiate_failure` / `reseed_failure` apply.) -/
theorem os_entropy_failure (n : Nat) (stream : List UInt8) (as : List Model.OsEntropy.ReadAns) :
    (Model.OsEntropy.entropyRead false n stream as).ok = false ∧
    ∀ (e : Model.OsEntropy.Errno) (ks : List Nat), (ks.map (· + 1)).sum < n →
      (Model.OsEntropy.entropyRead true n stream (ks.map .chunk ++ .eof :: as)).ok = false ∧
      (Model.OsEntropy.entropyRead true n stream (ks.map .chunk ++ .err e :: as)).ok = false := by
  refine ⟨rfl, fun e ks hks => ⟨?_, ?_⟩⟩ <;> simp only [Model.OsEntropy.entropyRead, if_true]
  · exact Percival.Proofs.OsEntropy.fill_fails_at ks _ (Or.inl rfl) _ _ _ _ _ (by omega) hks
  · exact Percival.Proofs.OsEntropy.fill_fails_at ks _ (Or.inr ⟨e, rfl⟩) _ _ _ _ _ (by omega) hks

/-- `EINTR` on the fourth read, after 16 + 1 + 30 of 48 bytes: the call fails -/
example : (Model.OsEntropy.entropyRead true 48 (List.replicate 60 7) ([15, 0, 29].map .chunk ++ .err .eintr :: [.chunk 99])).ok = false :=
  ((os_entropy_failure 48 _ _).2 .eintr [15, 0, 29] (by decide)).2

/-- the same from the other side: a call that succeeds has seen only positive `read` results (no `-1`
    of any kind, no `0`) — and, by `os_entropy_exact`, delivered exactly the OS's bytes -/
theorem os_entropy_success_reads (n : Nat) (stream : List UInt8) (script : List Model.OsEntropy.ReadAns)
    (h : (Model.OsEntropy.entropyRead true n stream script).ok = true) :
    ∀ c ∈ (Model.OsEntropy.entropyRead true n stream script).calls, 0 < c.2 := by
  unfold Model.OsEntropy.entropyRead at h ⊢
  simp only [if_true] at h ⊢
  intro c hc
  rcases Percival.Proofs.OsEntropy.fill_ok_calls _ _ _ _ _ h c hc with h' | h'
  · simp at h'
  · exact h'

example : (Model.OsEntropy.entropyRead true 5 [1, 2, 3, 4, 5, 6, 7] [.chunk 1, .chunk 0, .chunk 9]).ok = true := by decide

example : (Model.OsEntropy.entropyRead true 5 [1, 2, 3, 4, 5, 6, 7] [.chunk 1, .chunk 0, .chunk 9]).got = [1, 2, 3, 4, 5] := by decide

/-! ## One call of any length = the same request made in calls of 65536 bytes

What the harness op `bigread` observes (`same <n>`): the bytes one `crypto_entropy_read(buf, n)` stores — for n ≥ 2^32
as for any other n — are those of `crypto_entropy_read` called for 65536 bytes at a time and once more for the rest,
from the same generator state and the same OS answers; the generator state afterwards (Key, V, reseed_counter: the
reseed schedule) and the OS answers consumed are the same too; if a reseed fails on the way, both fail there. -/

/-- `readChunked` (fuel = n) is the single call: every state, every OS script, every n -/
theorem read_eq_chunks (st : St) (o : Oracle) (n : Nat) :
    Model.Entropy.read Cfg.source st o n = Model.Entropy.readChunked Cfg.source n st o n :=
  (readChunked_eq Cfg.source (by decide) n st o n (Nat.le_refl n)).symm

/-- … for every configuration with a positive `GENERATE_MAXLEN` (not only the literals of this source) -/
theorem read_eq_chunks_cfg (c : Cfg) (hM : 0 < c.generateMaxlen) (st : St) (o : Oracle) (n : Nat) :
    Model.Entropy.read c st o n = Model.Entropy.readChunked c n st o n :=
  (readChunked_eq c hM n st o n (Nat.le_refl n)).symm

/-- the calls of the chunked sequence: ⌈n / 65536⌉ of them (one for n = 0), none longer than 65536, n bytes in all -/
theorem chunk_sizes (n : Nat) :
    (∀ k ∈ Model.Entropy.chunkSizes 65536 n n, k ≤ 65536) ∧ (Model.Entropy.chunkSizes 65536 n n).sum = n ∧
    (Model.Entropy.chunkSizes 65536 n n).length = (n - 1) / 65536 + 1 :=
  chunkSizes_spec 65536 (by decide) n n (Nat.le_refl n)

/-- what `bigread … cmp` prints as `first=`: a request of more than 65536 bytes begins with the bytes of a request
    for 65536 bytes, and fails if that one fails -/
theorem read_first_piece (st : St) (o : Oracle) (n : Nat) (hn : n > 65536) :
    (∀ out1 st1 o1, Model.Entropy.read Cfg.source st o 65536 = (.ok out1, st1, o1) →
      Model.Entropy.read Cfg.source st o n = Model.Entropy.prepend out1 (Model.Entropy.read Cfg.source st1 o1 (n - 65536))) ∧
    (∀ r st1 o1, Model.Entropy.read Cfg.source st o 65536 = (r, st1, o1) → (∀ out, r ≠ .ok out) →
      Model.Entropy.read Cfg.source st o n = (r, st1, o1)) := by
  have hs := read_split Cfg.source (by decide) st o n hn
  have hM : Cfg.source.generateMaxlen = 65536 := by decide
  rw [hM] at hs
  constructor
  · intro out1 st1 o1 h1
    rw [hs, h1]
    rfl
  · intro r st1 o1 h1 hr
    rw [hs, h1]
    cases r with
    | ok out => exact absurd rfl (hr out)
    | fail => rfl
    | abort => rfl

example : Model.Entropy.chunkSizes 4 9 9 = [4, 4, 1] ∧ Model.Entropy.chunkSizes 4 8 8 = [4, 4] ∧
    Model.Entropy.chunkSizes 4 0 0 = [0] := by decide

/-! ## The functions the executables run

`pmodel drbg` applies `Model.EntropyStep.stepOp` to every parsed line, `pmodel osent` applies `osStep`; the drivers
only parse and print. -/

open Percival.Model.EntropyStep in
/-- the two sides of the executable's state correspond: the specification's state is the abstraction of the
model's static variables and both have the same OS answers left -/
def ExecRel (s : Model.EntropyStep.St) : Prop := s.ref = abs s.m ∧ s.refOracle = s.mOracle

open Percival.Model.EntropyStep in
/-- **L1 = L2 on every line**: for every sequence of `ent` / `read` lines, in every `read` line the outcome the
specification gives (what `pmodel drbg` prints before ` | `) is the outcome of the model of crypto_entropy.c
(printed after it), and the two sides stay in correspondence. -/
theorem exec_step_spec_eq_model (s : Model.EntropyStep.St) (h : ExecRel s) (op : Model.EntropyStep.Op) :
    ExecRel (stepOp s op).1 ∧
    (∀ r1 r2 m q, (stepOp s op).2 = .read r1 r2 m q → r1 = r2) ∧
    (∀ n r1 r2 m q, (stepOp s op).2 = .bigfull n r1 r2 m q → r1 = r2) ∧
    (∀ n r1 r2, (stepOp s op).2 = .bigcmp n r1 r2 → r1 = r2) :=
  Proofs.EntropyStep.stepOp_refines s h op

open Percival.Model.EntropyStep in
theorem exec_run_spec_eq_model (ops : List Model.EntropyStep.Op) :
    ExecRel (runOps {} ops).1 ∧
    ∀ o ∈ (runOps {} ops).2, (∀ r1 r2 m q, o = .read r1 r2 m q → r1 = r2) ∧
      (∀ n r1 r2 m q, o = .bigfull n r1 r2 m q → r1 = r2) ∧ (∀ n r1 r2, o = .bigcmp n r1 r2 → r1 = r2) :=
  Proofs.EntropyStep.runOps_refines ops {} Proofs.EntropyStep.rel_init

open Percival.Model.EntropyStep in
example : ((runOps {} [.ent (some (List.replicate 48 7)), .read 5]).2.map fun
      | .read (.ok b) (.ok b') _ q => (b.length, b'.length, q)
      | _ => (0, 0, 0)) = [(0, 0, 0), (5, 5, 0)] := by decide +kernel

open Percival.Model.EntropyStep in
/-- `pmodel osent`: on success the model stored exactly what the line shows as specified — the first `n` bytes
of the OS stream; a failing `open` makes the call fail -/
theorem exec_os_line (n : Nat) (stream : List UInt8) (script : List Model.OsEntropy.ReadAns) :
    ((osStep true n stream script).ok = true → (osStep true n stream script).got = (osStep true n stream script).spec) ∧
    (osStep false n stream script).ok = false :=
  ⟨fun h => (os_entropy_exact n stream script h).1, (os_entropy_failure n stream script).1⟩

open Percival.Model.EntropyStep in
example : (osStep true 5 [1, 2, 3, 4, 5, 6, 7] [.chunk 1, .chunk 0, .chunk 9]).ok = true := by decide

end Percival.C11
