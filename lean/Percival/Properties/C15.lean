import Percival.Proofs.JsonSafe
import Percival.Proofs.B64
import Percival.Proofs.HexEndian
import Percival.Proofs.SockLines
import Percival.Proofs.ParsersStep
/-! # C15 — parsers of untrusted text and bytes never touch memory outside their input

Every model function below reads memory only through `Model.rd` (bounds-checked: a read outside the object it was
given yields the outcome `Res.oob`) and loops on explicit fuel (`Res.nofuel` when exhausted).  Each theorem says:
for EVERY input, the outcome is `Res.ok …` (so: no out-of-bounds read, termination within the fuel the model
itself supplies) and the returned value is inside its documented range.  `strto*`, `inet_pton`, `fgets`, the libc
string functions are trusted (DESIGN §4); getopt / humansize / PARSENUM are modelled by C18 / C16 and only observed
under ASan here.  Only property theorems here; helper lemmas are in `Proofs/`. -/
namespace Percival.C15
open Percival.Model Percival.Gen

/-! ## Constants taken from the source -/

/-- the line buffers of aws_readkeys / readpass_file are large enough for `fgets` to make progress -/
theorem gen_linebufs : 2 ≤ CodecTables.awsLineBuf ∧ 2 ≤ CodecTables.maxPassLen := by decide
example : CodecTables.awsLineBuf = 1024 ∧ CodecTables.maxPassLen = 2048 := by decide

/-- `json_find(buf, end, s)`: for every buffer and every key string, no read outside `[buf, end)` or the key, the
    loop fuel suffices, and the returned pointer lies in `[buf, end]`.
    (A faithful model of json.c before fix 32e00b3 returns `oob` on `{"x":{"a":1,` — F5.) -/
theorem json_find_safe (b : Buf) (key : List UInt8) : ∃ j, Json.jsonFind b (cstr key) = .ok j ∧ j ≤ b.size :=
  Proofs.JsonSafe.jsonFind_ok b key
/-- the F5 input: the answer is `end` = 12 -/
example : Json.jsonFind #[0x7b, 0x22, 0x78, 0x22, 0x3a, 0x7b, 0x22, 0x61, 0x22, 0x3a, 0x31, 0x2c] (cstr [0x6b]) = .ok 12 := by
  decide +kernel

/-- every helper of json.c, started at any pointer `i` in `[buf, end]` (`skip_string`: `i < end`, as in every call),
    returns a pointer in `[i, end]` without reading outside the buffer -/
theorem json_helpers_safe (b : Buf) (i : Nat) (hi : i ≤ b.size) :
    (∃ j, Json.skipWs b i = .ok j ∧ i ≤ j ∧ j ≤ b.size) ∧
    (∃ j, Json.skipLiteral b i = .ok j ∧ i ≤ j ∧ j ≤ b.size) ∧
    (∃ j, Json.skipNumber b i = .ok j ∧ i ≤ j ∧ j ≤ b.size) ∧
    (∃ j, Json.skipValue b i = .ok j ∧ i ≤ j ∧ j ≤ b.size) ∧
    (i < b.size → ∃ j, Json.skipString b i = .ok j ∧ i + 1 ≤ j ∧ j ≤ b.size) ∧
    (∀ key : List UInt8, ∃ j fd, Json.matchStr b (cstr key) i = .ok (j, fd) ∧ i ≤ j ∧ j ≤ b.size) :=
  ⟨Proofs.JsonSafe.skipWs_ok b i hi, Proofs.JsonSafe.skipLiteral_ok b i hi, Proofs.JsonSafe.skipNumber_ok b i hi,
   Proofs.JsonSafe.skipValue_ok b i hi, fun h => Proofs.JsonSafe.skipString_ok b i h,
   fun key => Proofs.JsonSafe.matchStr_ok b key i hi⟩
/-- a string ending in an unfinished `\u` escape, and 10 unbalanced `[` -/
example : Json.skipString #[0x22, 0x5c, 0x75, 0x31] 0 = .ok 3 ∧
    Json.skipValue #[0x5b, 0x5b, 0x5b, 0x5b, 0x5b, 0x5b, 0x5b, 0x5b, 0x5b, 0x5b] 0 = .ok 10 := by decide +kernel

/-- the fuel the model gives the mutually recursive skippers always suffices (fuel-sufficiency lemma) -/
theorem json_fuel_suffices (b : Buf) (f i : Nat) (hi : i ≤ b.size) (hf : Json.valueFuel b i ≤ f) :
    ∃ j, Json.skipValueF b f i = .ok j ∧ i ≤ j ∧ j ≤ b.size :=
  (Proofs.JsonSafe.inv_all b f).value i hi (by simp only [Json.valueFuel] at hf; omega)
example : Json.valueFuel #[0x5b, 0x5d] 0 = 9 := by decide

/-- `b64decode(in, inlen, out, outlen)` on any block of `inlen` bytes: it reads only `in[0 … inlen)`, and when it
    accepts it has stored exactly `(inlen / 4) * 3` bytes (the documented size of `out`) and `*outlen` is at most that. -/
theorem b64decode_safe (inb : Buf) :
    ∃ r, B64.b64decode inb inb.size = .ok r ∧
      ∀ w n, r = some (w, n) → w.length = 3 * (inb.size / 4) ∧ n ≤ w.length := by
  rw [← Array.length_toList]
  by_cases h : Spec.Rfc4648.WF inb.toList
  · obtain ⟨w, n, h1, _, h3, h4⟩ := Proofs.B64.b64decode_wf_at (Proofs.At.whole inb) h
    exact ⟨_, h1, fun w' n' hw => by cases hw; exact ⟨h3, h4⟩⟩
  · exact ⟨none, Proofs.B64.b64decode_not_wf_at (Proofs.At.whole inb) h, nofun⟩
/-- a NUL and a pad character in the middle -/
example : B64.b64decode #[0x41, 0x00, 0x41, 0x41] 4 = .ok none ∧ B64.b64decode #[0x41, 0x3d, 0x41, 0x41] 4 = .ok none := by
  decide

/-- `unhexify(in, out, len)` on any C string, for any `len` (also far beyond the string): it reads nothing past the
    terminating NUL, and when it succeeds it has stored exactly `len` bytes. -/
theorem unhexify_safe (s : List UInt8) (hs : ∀ c ∈ s, c ≠ 0) (len : Nat) :
    ∃ r, Hex.unhexify (cstr s) len = .ok r ∧ ∀ w, r = some w → w.length = len := by
  refine ⟨_, Proofs.Hex.unhexify_cstr s hs len, ?_⟩
  intro w hw
  split at hw
  · rename_i hle
    have := Proofs.Hex.decode_length _ w hw
    simp at this
    omega
  · cases hw
/-- `len` three times the string's length -/
example : Hex.unhexify (cstr [0x61, 0x62]) 3 = .ok none := by decide

/-- the same on a block of at least `2 * len` bytes that has no terminator -/
theorem unhexify_safe_block (inb : Buf) (len : Nat) (h : 2 * len ≤ inb.size) :
    ∃ r, Hex.unhexify inb len = .ok r ∧ ∀ w, r = some w → w.length = len := by
  have h' : 2 * len ≤ inb.toList.length := by simpa using h
  refine ⟨_, Proofs.Hex.unhexify_at (Proofs.At.whole inb) len h', fun w hw => ?_⟩
  have := Proofs.Hex.decode_length _ w hw
  simp at this
  omega
example : Hex.unhexify #[0x61, 0x62, 0x63, 0x64] 2 = .ok (some [0xab, 0xcd]) := by decide

open Percival.Model.SockAddr

/-- `sock_addr_deserialize(buf, buflen)` on an arbitrary block — hostile length fields included: no read outside
    the block; it either rejects or returns an address whose `name` block has exactly `namelen` bytes, namely the
    `buflen - 12` bytes that follow the header. -/
theorem sock_addr_deserialize_safe (buf : Buf) :
    ∃ r, deserialize buf buf.size = .ok r ∧
      ∀ a, r = some a → a.WF ∧ buf.size = 12 + a.namelen.toNat ∧ a.name.toList = buf.toList.drop 12 :=
  Proofs.SockAddr.deserialize_safe buf
/-- a length field of 2^32 - 1 on a 13-byte block -/
example : deserialize #[2, 0, 0, 0, 1, 0, 0, 0, 0xff, 0xff, 0xff, 0xff, 7] 13 = .ok none := by decide

/-- `sock_resolve` (whatever `inet_pton` answers) and `sock_addr_ensure_port` on any C string: nothing is read
    outside the string (in particular `s[strlen(s) - 1]`, `ips[strlen(ips) - 1]`, `cr[-1]` are inside), and
    `ensure_port` returns the string itself or the string with ":0" appended. -/
theorem sock_text_parsers_safe (pton4 pton6 : List UInt8 → Option (List UInt8)) (addr : List UInt8)
    (h0 : ∀ c ∈ addr, c ≠ 0) :
    (∃ r, resolve pton4 pton6 (cstr addr) = .ok r) ∧
    (∃ r, ensurePort (cstr addr) = .ok r ∧ (r = addr ∨ r = addr ++ [0x3a, 0x30])) :=
  ⟨⟨_, Proofs.SockAddr.resolve_eq pton4 pton6 addr h0⟩, Proofs.SockAddr.ensurePort_safe addr h0⟩
/-- `[`, `[:1`, `[]:1` and the empty string -/
example : resolve (fun _ => none) (fun _ => none) (cstr [0x5b]) = .ok .err ∧
    resolve (fun _ => none) (fun _ => none) (cstr [0x5b, 0x3a, 0x31]) = .ok .err ∧
    resolve (fun _ => none) (fun _ => none) (cstr [0x5b, 0x5d, 0x3a, 0x31]) = .ok .err ∧
    resolve (fun _ => none) (fun _ => none) (cstr []) = .ok .err := by decide +kernel

open Percival.Model.Lines

/-- `aws_readkeys` on a file with ANY content (lines longer than the buffer, no final newline, embedded NUL, …)
    and any previous content of its line buffer: every access stays inside `buf`, the loop ends, and the result is
    failure or two strings without NUL/CR/LF, each shorter than the buffer. -/
theorem aws_readkeys_safe (init : Buf) (hsz : 2 ≤ init.size) (file : List UInt8) :
    ∃ r, awsReadkeys init file = .ok r ∧
      ∀ id secret, r = .keys id secret → id.length < init.size ∧ secret.length < init.size ∧
        ∀ c ∈ id ++ secret, c ≠ 0 ∧ c ≠ 0x0a ∧ c ≠ 0x0d := by
  obtain ⟨r, hr, hg⟩ := Proofs.Lines.awsReadkeys_good init hsz file
  refine ⟨r, hr, fun id secret h => ?_⟩
  obtain ⟨g1, g2⟩ := hg id secret h
  exact ⟨g1.1, g2.1, fun c hc => (List.mem_append.mp hc).elim (g1.2 c) (g2.2 c)⟩
/-- a 7-byte buffer, a line that does not fit -/
example : awsReadkeys (Array.replicate 7 0xaa) [0x41, 0x3d, 0x42, 0x43, 0x44, 0x45, 0x46, 0x47, 0x48, 0x0a] = .ok .fail := by
  decide +kernel

/-- `readpass_file` likewise; a returned passphrase is shorter than `MAXPASSLEN` and has no NUL/CR/LF. -/
theorem readpass_file_safe (init : Buf) (hsz : 2 ≤ init.size) (file : List UInt8) :
    ∃ r, readpassFile init file = .ok r ∧
      ∀ pw, r = some pw → pw.length < init.size ∧ ∀ c ∈ pw, c ≠ 0 ∧ c ≠ 0x0a ∧ c ≠ 0x0d :=
  Proofs.Lines.readpassFile_safe init hsz file
/-- "ab\r\n" in an 8-byte buffer, and an over-long line -/
example : readpassFile (Array.replicate 8 0xaa) [0x61, 0x62, 0x0d, 0x0a] = .ok (some [0x61, 0x62]) ∧
    readpassFile (Array.replicate 4 0xaa) [0x61, 0x62, 0x63, 0x64, 0x0a] = .ok none := by decide +kernel

/-! ## The executable: `Model.ParsersStep.stepOp`, the function `pmodel parsers` runs on every protocol line

For every op family of the `parsers` component whose L1 part is the verdict `inrange`: for EVERY input the answer of
`stepOp` is `Ranged.inrange …` / a model outcome `Res.ok …` inside the documented range — never `oob`, `nofuel` or
`outOfRange`.  These are the theorems above instantiated at exactly the calls `stepOp` makes (`cbytes` = the C string
a token stands for: the bytes before its first NUL). -/
open Percival.Model.ParsersStep

/-- `jfind`: for every buffer and key token the answer is `inrange j` with `j` in `[0, |doc|]`. -/
theorem exec_jfind (doc key : List UInt8) : ∃ j, stepOp (.jfind doc key) = .jfind (.inrange j) ∧ j ≤ doc.length := by
  obtain ⟨j, h, hj⟩ := json_find_safe doc.toArray (cbytes key)
  have hj' : j ≤ doc.length := by simpa using hj
  exact ⟨j, by simp only [stepOp, h, ranged, decide_eq_true hj', if_true], hj'⟩
/-- the F5 input with the key token `k\0k` -/
example : stepOp (.jfind [0x7b, 0x22, 0x78, 0x22, 0x3a, 0x7b, 0x22, 0x61, 0x22, 0x3a, 0x31, 0x2c] [0x6b, 0x00, 0x6b]) =
    .jfind (.inrange 12) := by decide +kernel

/-- `skipv` at any offset inside the buffer (or at its end): the answer is `inrange j` with `j` in `[off, |doc|]`. -/
theorem exec_skipv (doc : List UInt8) (off : Nat) (h : off ≤ doc.length) :
    ∃ j, stepOp (.skipv doc off) = .skipv (.inrange j) ∧ off ≤ j ∧ j ≤ doc.length := by
  obtain ⟨j, hj, h1, h2⟩ := (json_helpers_safe doc.toArray off (by simpa using h)).2.2.2.1
  have h2' : j ≤ doc.length := by simpa using h2
  exact ⟨j, by simp only [stepOp, hj, ranged, decide_eq_true (And.intro h1 h2'), if_true], h1, h2'⟩
/-- 10 unbalanced `[` -/
example : stepOp (.skipv [0x5b, 0x5b, 0x5b, 0x5b, 0x5b, 0x5b, 0x5b, 0x5b, 0x5b, 0x5b] 0) = .skipv (.inrange 10) := by
  decide +kernel

/-- `b64dec` on any block: the model's outcome is `ok`, and an accepted text has stored exactly `(|inp| / 4) * 3`
    bytes with `*outlen` at most that. -/
theorem exec_b64dec_inrange (inp : List UInt8) :
    ∃ l1 r, stepOp (.b64dec inp) = .b64dec l1 (.ok r) ∧
      ∀ w n, r = some (w, n) → w.length = 3 * (inp.length / 4) ∧ n ≤ w.length := by
  obtain ⟨r, h, hr⟩ := b64decode_safe inp.toArray
  rw [List.size_toArray] at h hr
  exact ⟨_, r, by simp only [stepOp, h]; rfl, hr⟩
example : stepOp (.b64dec [0x41, 0x00, 0x41, 0x41]) = .b64dec none (.ok none) := by decide +kernel

/-- `unhex` on the C string of any token, for any `len`: the model's outcome is `ok`, and on success exactly `len`
    bytes were stored. -/
theorem exec_unhex_inrange (inp : List UInt8) (len : Nat) :
    ∃ l1 r, stepOp (.unhex inp len) = .unhex l1 (.ok r) ∧ ∀ w, r = some w → w.length = len := by
  obtain ⟨r, h, hr⟩ := unhexify_safe (cbytes inp) (Proofs.ParsersStep.cbytes_ne0 inp) len
  exact ⟨_, r, by simp only [stepOp, h]; rfl, hr⟩
/-- `len` three times the string's length -/
example : stepOp (.unhex [0x61, 0x62] 3) = .unhex none (.ok none) := by decide +kernel

/-- `unhexb` within its contract (`2 * len ≤ |inp|`, a block without terminator): likewise. -/
theorem exec_unhexb_inrange (inp : List UInt8) (len : Nat) (h : 2 * len ≤ inp.length) :
    ∃ l1 r, stepOp (.unhexb inp len) = .unhexb l1 (.ok r) ∧ ∀ w, r = some w → w.length = len := by
  obtain ⟨r, hr, hw⟩ := unhexify_safe_block inp.toArray len (by simpa using h)
  exact ⟨_, r, by simp only [stepOp, if_neg (Nat.not_lt.mpr h), hr]; rfl, hw⟩
example : stepOp (.unhexb [0x61, 0x00, 0x63, 0x64] 2) = .unhexb none (.ok none) := by decide +kernel

/-- `sdes` on an arbitrary block: the answer is `inrange`: NULL, or an address whose name block has exactly `namelen`
    bytes, the bytes after the 12-byte header. -/
theorem exec_sdes (buf : List UInt8) :
    ∃ r, stepOp (.sdes buf) = .sdes (.inrange r) ∧
      ∀ a, r = some a → a.WF ∧ buf.length = 12 + a.namelen.toNat ∧ a.name.toList = buf.drop 12 := by
  obtain ⟨r, h, hr⟩ := sock_addr_deserialize_safe buf.toArray
  rw [List.size_toArray] at h hr
  refine ⟨r, ?_, hr⟩
  have hok : sdesOk buf.length r = true := by
    cases r with
    | none => rfl
    | some a =>
      obtain ⟨h1, h2, _⟩ := hr a rfl
      unfold SockAddr.WF at h1
      exact decide_eq_true ⟨h1, by omega⟩
  simp only [stepOp, h, ranged, hok, if_true]
/-- a length field of 2^32 - 1 on a 13-byte block; a one-byte name -/
example : stepOp (.sdes [2, 0, 0, 0, 1, 0, 0, 0, 0xff, 0xff, 0xff, 0xff, 7]) = .sdes (.inrange none) ∧
    stepOp (.sdes [2, 0, 0, 0, 1, 0, 0, 0, 1, 0, 0, 0, 7]) =
      .sdes (.inrange (some { family := 2, socktype := 1, namelen := 1, name := #[7] })) := by decide +kernel

/-- `ensure` on the C string `s` of any token: the model's outcome is `ok`, the string itself or `s ++ ":0"`. -/
theorem exec_ensure (addr : List UInt8) :
    ∃ r, stepOp (.ensure addr) = .ensure (.ok r) ∧ (r = cbytes addr ∨ r = cbytes addr ++ [0x3a, 0x30]) := by
  obtain ⟨r, h, hr⟩ := (sock_text_parsers_safe (fun _ => none) (fun _ => none) (cbytes addr)
    (Proofs.ParsersStep.cbytes_ne0 addr)).2
  exact ⟨r, by simp only [stepOp, h], hr⟩
/-- `[::1]` -/
example : stepOp (.ensure [0x5b, 0x3a, 0x3a, 0x31, 0x5d]) = .ensure (.ok [0x5b, 0x3a, 0x3a, 0x31, 0x5d, 0x3a, 0x30]) := by
  decide +kernel

/-- `awskeys` on a file with any content (the line buffer has its size in the source, filled with 0xaa): the model's
    outcome is `ok`: failure, or two strings without NUL/CR/LF shorter than the buffer. -/
theorem exec_awskeys (file : List UInt8) :
    ∃ r, stepOp (.awskeys file) = .awskeys (.ok r) ∧
      ∀ id secret, r = .keys id secret → id.length < CodecTables.awsLineBuf ∧ secret.length < CodecTables.awsLineBuf ∧
        ∀ c ∈ id ++ secret, c ≠ 0 ∧ c ≠ 0x0a ∧ c ≠ 0x0d := by
  obtain ⟨r, h, hr⟩ := aws_readkeys_safe (Array.replicate CodecTables.awsLineBuf 0xaa)
    (by rw [Array.size_replicate]; exact gen_linebufs.1) file
  rw [Array.size_replicate] at hr
  exact ⟨r, by simp only [stepOp, h], hr⟩
/-- `ACCESS_KEY_ID=A\nACCESS_KEY_SECRET=B\n` -/
example : stepOp (.awskeys ("ACCESS_KEY_ID=A\nACCESS_KEY_SECRET=B\n".toUTF8.toList)) = .awskeys (.ok (.keys [0x41] [0x42])) := by
  decide +kernel

/-- `readpass` on a file with any content: the model's outcome is `ok`: failure, or a passphrase without NUL/CR/LF
    shorter than `MAXPASSLEN`. -/
theorem exec_readpass (file : List UInt8) :
    ∃ r, stepOp (.readpass file) = .readpass (.ok r) ∧
      ∀ pw, r = some pw → pw.length < CodecTables.maxPassLen ∧ ∀ c ∈ pw, c ≠ 0 ∧ c ≠ 0x0a ∧ c ≠ 0x0d := by
  obtain ⟨r, h, hr⟩ := readpass_file_safe (Array.replicate CodecTables.maxPassLen 0xaa)
    (by rw [Array.size_replicate]; exact gen_linebufs.2) file
  rw [Array.size_replicate] at hr
  exact ⟨r, by simp only [stepOp, h], hr⟩
/-- `ab\r\n` -/
example : stepOp (.readpass [0x61, 0x62, 0x0d, 0x0a]) = .readpass (.ok (some [0x61, 0x62])) := by decide +kernel

/-- `sres` on the C string of any token (with `Spec.Inet` in the place of `inet_pton` / `inet_ntop`): resolving never
    reads outside the string and ends; the answer is `err`, `host`, or an address — and then `sock_addr_prettyprint`
    of that address reads only inside its name block and yields a text (never `oob`, `nofuel`, or NULL). -/
theorem exec_sres (addr : List UInt8) :
    stepOp (.sres addr) = .sres .err ∨ stepOp (.sres addr) = .sres .host ∨
      ∃ a text again, stepOp (.sres addr) = .sres (.addr a text again) := by
  rcases Proofs.ParsersStep.sres_safe (cbytes addr) (Proofs.ParsersStep.cbytes_ne0 addr) with h | h | ⟨a, t, g, h⟩
  · exact Or.inl (by simp only [stepOp, h])
  · exact Or.inr (Or.inl (by simp only [stepOp, h]))
  · exact Or.inr (Or.inr ⟨a, t, g, by simp only [stepOp, h]⟩)
/-- `[`, `a.b:80`, and `/tmp/s` followed by a NUL and junk -/
example : stepOp (.sres [0x5b]) = .sres .err ∧ stepOp (.sres "a.b:80".toUTF8.toList) = .sres .host ∧
    stepOp (.sres "/tmp/s\x00junk".toUTF8.toList) = .sres (.addr (mkUn "/tmp/s".toUTF8.toList) "/tmp/s".toUTF8.toList true) := by
  refine ⟨by decide +kernel, by decide +kernel, ?_⟩
  -- the C string is `/tmp/s`; for a Unix path `sres_unix` says what comes out (evaluating the 108-byte name is slow)
  have e : cbytes "/tmp/s\x00junk".toUTF8.toList = "/tmp/s".toUTF8.toList := by decide +kernel
  show Out.sres (sres (cbytes _)) = _
  rw [e, Proofs.ParsersStep.sres_unix _ (by decide +kernel) (by decide +kernel) (by decide +kernel)]

/-- `humansize` / `parsenum` / `getopt` lines (modelled by C16 / C18): `stepOp` only echoes the op; the real code
    runs under ASan, nothing is compared beyond the word `inrange`. -/
theorem exec_observed (o : Observed) : stepOp (.observed o) = .observed o := rfl
example : stepOp (.observed .getopt) ≠ .ooc := by decide

end Percival.C15
