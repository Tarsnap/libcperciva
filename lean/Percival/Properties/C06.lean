import Percival.Proofs.NetIOStep
/-!
# C06 — asynchronous read/write/connect/accept complete exactly once, byte-exact

The kernel's behaviour is an arbitrary script (`List Ans`): any fragmentation, any number of
EAGAIN/EWOULDBLOCK/EINTR answers, EOF or a hard error at any point.  A request is a function of
that script, so "exactly one completion" is structural: `runRead`/`runWrite` return either one
`done n` (the callback value) or `pending` (still registered, script exhausted); the theorems
say what `n` and the buffers are.  The lock-step run against the real code (L2: every
`recv`/`send` with its length argument and result) is what ties these functions to
`callback_buf` in network_read.c / network_write.c.
-/
namespace Percival.C06
open Percival.Model.NetIO Percival.Model.Connect Percival.Proofs.NetIO Percival.Proofs.Connect

/-- **read, success**: for every `0 < buflen`, `minread ≤ buflen`, kernel script and fuel, a
    completed read with `n > 0` has `minread ≤ n ≤ buflen`, its buffer holds exactly the next
    `n` bytes of the peer's stream, and the rest of the stream is still queued (nothing lost,
    duplicated or reordered). -/
theorem read_done_exact (buflen minread fuel : Nat) (q q' : List Ans) (s' : ReadSt) (n : Int)
    (h0 : 0 < buflen) (hm : minread ≤ buflen)
    (h : runRead fuel (readInit buflen minread) q = .done n s' q') :
    n = -1 ∨ n = 0 ∨
      (n = s'.got.length ∧ minread ≤ s'.got.length ∧ 1 ≤ s'.got.length ∧ s'.got.length ≤ buflen ∧
       s'.got = (streamOf q).take s'.got.length ∧ streamOf q' = (streamOf q).drop s'.got.length) := by
  have := runRead_spec fuel (readInit buflen minread) q (readInit_inv buflen minread h0 hm)
  rw [h] at this
  rcases this with h3 | h3 | ⟨e1, e2, e3, e4, e5⟩
  · exact Or.inl h3
  · exact Or.inr (Or.inl h3)
  · have e5 : s'.got ++ streamOf q' = streamOf q := e5
    rw [← e5]
    exact Or.inr (Or.inr ⟨e1, e2, e3, e4, (List.take_left' rfl).symm, (List.drop_left' rfl).symm⟩)

/-- **read, still pending**: if the script runs out first, the request stays registered, has
    consumed the whole script, and holds exactly the stream so far (fewer than `minread` bytes,
    unless nothing has arrived). -/
theorem read_pending_exact (buflen minread fuel : Nat) (q q' : List Ans) (s' : ReadSt)
    (h0 : 0 < buflen) (hm : minread ≤ buflen)
    (h : runRead fuel (readInit buflen minread) q = .pending s' q') :
    q' = [] ∧ s'.got = streamOf q ∧ (s'.got.length < minread ∨ s'.got = []) := by
  have := runRead_spec fuel (readInit buflen minread) q (readInit_inv buflen minread h0 hm)
  rw [h] at this
  obtain ⟨e0, _, (e2 : s'.minlen = minread), e3, e4⟩ := this
  exact ⟨e0, e4, e2 ▸ e3.need⟩

/-- **read, termination**: with fuel above the script's weight the run never stops for lack of
    fuel — it ends in a callback or in `pending` with the script consumed. -/
theorem read_terminates (buflen minread : Nat) (q : List Ans) (h0 : 0 < buflen) (hm : minread ≤ buflen) :
    runRead (weight q + 1) (readInit buflen minread) q ≠ .fuel :=
  runRead_fuel _ _ _ (readInit_inv buflen minread h0 hm) (Nat.lt_succ_self _)

/-- **write**: for every non-empty buffer, `minwrite ≤ buflen` and kernel script: whatever
    happens, the bytes handed to the socket are exactly a prefix `buf[0..pos)` of the buffer, in
    order; a successful completion reports `n = pos` with `minwrite ≤ n ≤ buflen`. -/
theorem write_done_exact (buf : List UInt8) (minwrite fuel : Nat) (q q' : List Ans) (s' : WriteSt) (n : Int)
    (h0 : 0 < buf.length) (hm : minwrite ≤ buf.length)
    (h : runWrite fuel (writeInit buf minwrite) q = .done n s' q') :
    s'.sent = buf.take s'.pos ∧ s'.pos ≤ buf.length ∧
      (n = -1 ∨ (n = s'.pos ∧ minwrite ≤ s'.pos ∧ 1 ≤ s'.pos)) := by
  have := runWrite_spec fuel (writeInit buf minwrite) q (writeInit_inv buf minwrite h0 hm)
  rw [h] at this
  exact this

/-- **write, still pending**: the script is used up and the bytes sent so far are a proper prefix of the buffer. -/
theorem write_pending_exact (buf : List UInt8) (minwrite fuel : Nat) (q q' : List Ans) (s' : WriteSt)
    (h0 : 0 < buf.length) (hm : minwrite ≤ buf.length)
    (h : runWrite fuel (writeInit buf minwrite) q = .pending s' q') :
    q' = [] ∧ s'.sent = buf.take s'.pos ∧ s'.pos < buf.length := by
  have := runWrite_spec fuel (writeInit buf minwrite) q (writeInit_inv buf minwrite h0 hm)
  rw [h] at this
  obtain ⟨e0, (e1 : s'.buf = buf), _, e3⟩ := this
  exact ⟨e0, e1 ▸ e3.sent, e1 ▸ e3.pos⟩

/-- **accept**: retried exactly on EAGAIN/EWOULDBLOCK/ECONNABORTED/EINTR; the callback carries the
    first accepted socket, or -1 on the first hard error; otherwise the request stays pending. -/
theorem accept_exact (k s : Nat) (r : List AccAns) :
    runAccept (List.replicate k .retry ++ .conn s :: r) = (some (s : Int), r) ∧
    runAccept (List.replicate k .retry ++ .hard :: r) = (some (-1), r) ∧
    runAccept (List.replicate k .retry) = (none, []) :=
  ⟨runAccept_retry k _, runAccept_retry k _, by
    rw [← List.append_nil (List.replicate k _)]
    exact runAccept_retry k []⟩

/-- **connect**: for every list of per-address outcomes (fails at once, fails asynchronously,
    hangs, succeeds; with or without a per-address timeout) the attempt produces exactly one
    callback carrying the socket of the *first* address that connects (descriptor number
    `fd + i` because every earlier address consumed one socket), or exactly one callback with
    -1 when none does, or no callback at all when an address hangs and no timeout was asked for. -/
theorem connect_callback_exact (timeo : Bool) (addrs : List AddrOutcome) (fd : Nat) :
    cbs (run timeo addrs fd).1 =
      match firstSuccess timeo addrs 0 with
      | some (some i) => [((fd + i : Nat) : Int)]
      | some none => [-1]
      | none => [] := by
  rw [run_eq_runAll]
  exact cbs_runAll timeo addrs 0 fd

/-- **connect, order**: addresses are tried strictly in list order, one socket each -/
theorem connect_in_order (timeo : Bool) (addrs : List AddrOutcome) (fd : Nat) :
    ∃ n, n ≤ addrs.length ∧ socks (run timeo addrs fd).1 = (List.range n).map (fun j => (fd + j, j)) := by
  rw [run_eq_runAll]
  obtain ⟨n, hn, hs⟩ := socks_runAll timeo addrs 0 fd
  exact ⟨n, hn, by simpa using hs⟩

/-- **connect, no descriptor leak**: every socket of a failed attempt has been closed; the only
    descriptor left open is the one handed to the callback (or the one still being waited on). -/
theorem connect_closes_failed (timeo : Bool) (addrs : List AddrOutcome) (fd : Nat) :
    stillOpen (run timeo addrs fd).1 [] =
      match firstSuccess timeo addrs 0 with
      | some (some i) => [fd + i]
      | some none => []
      | none => [fd + (addrs.takeWhile (· ≠ .hang)).length] := by
  rw [run_eq_runAll]
  exact stillOpen_runAll timeo addrs 0 fd [] fun _ h => absurd h List.not_mem_nil

example : runRead 100 (readInit 8 4) [.again, .data 1 [2], .again, .data 3 [4, 5], .data 6 []] =
    .done 5 { buflen := 8, minlen := 4, got := [1, 2, 3, 4, 5], calls := [(6, 3), (6, -1), (8, 2), (8, -1)] } [.data 6 []] := by
  rfl
example : (run true [.failNow, .hang, .asyncFail, .success, .success] 20).1 =
    [.sock 20 0, .close 20, .sock 21 1, .close 21, .sock 22 2, .close 22, .sock 23 3, .cb 23] := by decide +kernel
example : firstSuccess true [.failNow, .hang, .asyncFail, .success, .success] 0 = some (some 3) := by decide +kernel

/-! ## The function the executable runs

`pmodel netio` applies `Model.NetIOStep.stepOp` to every parsed line (`Driver/Netio.lean` contains only the
parser and the printer).  `stepOp` keeps, per descriptor, the scripted kernel queues and the outstanding
requests, and `spin` drives every request with `runRead`/`runWrite`/`runAccept`/`Connect.spin`.  The theorems of
this section lift the request theorems above through that bookkeeping: they are about the `Out` values the
executable prints.  `OpOk` is the API contract of `network_read`/`network_write` (`0 < buflen`,
`min ≤ buflen`); `StOk` says that every outstanding request satisfies the invariant of its loop. -/

open Percival.Model Percival.Model.NetIOStep Percival.Proofs.NetIOStep

/-- in every state reachable by operations within the API contract every outstanding request satisfies the
invariant of its loop (`ReadInv` / `WriteInv`) -/
theorem run_ops_state_ok (ops : List Op) (ho : ∀ op ∈ ops, OpOk op) : StOk (runOps {} ops).1 :=
  runOps_ok ops {} stOk_init ho

example : ∀ op ∈ [Op.krecv 3 [.again, .data 1 [2, 3]], .read 3 8 2, .read 3 8 2, .spin, .spin], OpOk op := by
  intro op h; simp only [List.mem_cons, List.not_mem_nil, or_false] at h
  rcases h with h | h | h | h | h <;> subst h <;> simp [OpOk]
example : (runOps {} [.krecv 3 [.again, .data 1 [2, 3]], .read 3 8 2, .read 3 8 2, .spin, .spin]).2 =
    [.ok, .ok, .busy, .spin [.read 3 3 [1, 2, 3]] [.r 3 [(8, 3), (8, -1)]], .spin [] []] := by decide +kernel

/-- **never `FUEL`**: the fuel `weight q + 2` that `spin` gives the request loops is sufficient -/
theorem spin_never_out_of_fuel (s : NetIOStep.St) (hs : StOk s) (l1 : List Completion) (l2 : List Trace)
    (h : (stepOp s .spin).2 = .spin l1 l2) (i : Nat) :
    Completion.readFuel i ∉ l1 ∧ Completion.writeFuel i ∉ l1 :=
  spin_no_fuel s hs l1 l2 h i

example : StOk {} ∧ (stepOp {} .spin).2 = .spin [] [] := ⟨stOk_init, by decide +kernel⟩

/-- **read: byte-exact, reported once**.  A read callback `r<fd>:<n>:<data>` printed by a `spin` belongs to a
read request `r` that was outstanding on that descriptor; afterwards the descriptor has no read request, so
the callback cannot be reported again; and for `n > 0`: `minread ≤ n ≤ buflen` and the buffer handed over,
followed by the peer's bytes still queued, is exactly what had arrived for this request in earlier `spin`s
followed by the peer's bytes that were queued — nothing lost, duplicated or reordered. -/
theorem spin_read_completion_exact (s : NetIOStep.St) (hs : StOk s) (l1 : List Completion) (l2 : List Trace)
    (h : (stepOp s .spin).2 = .spin l1 l2) (i : Nat) (n : Int) (data : List UInt8)
    (hc : Completion.read i n data ∈ l1) :
    ∃ f r f', s.fds[i]? = some f ∧ f.rd = some r ∧ (stepOp s .spin).1.fds[i]? = some f' ∧ f'.rd = none ∧
      (n = -1 ∨ n = 0 ∨ (n = data.length ∧ r.minlen ≤ data.length ∧ 1 ≤ data.length ∧ data.length ≤ r.buflen ∧
        data ++ streamOf f'.rq = r.got ++ streamOf f.rq)) :=
  spin_completion s hs l1 l2 h _ hc

/-- **write: a prefix of the buffer, reported once** -/
theorem spin_write_completion_exact (s : NetIOStep.St) (hs : StOk s) (l1 : List Completion) (l2 : List Trace)
    (h : (stepOp s .spin).2 = .spin l1 l2) (i : Nat) (n : Int) (sent : List UInt8)
    (hc : Completion.write i n sent ∈ l1) :
    ∃ f w f' pos, s.fds[i]? = some f ∧ f.wr = some w ∧ (stepOp s .spin).1.fds[i]? = some f' ∧ f'.wr = none ∧
      sent = w.buf.take pos ∧ pos ≤ w.buf.length ∧ (n = -1 ∨ (n = pos ∧ w.minlen ≤ pos ∧ 1 ≤ pos)) :=
  spin_completion s hs l1 l2 h _ hc

example : (runOps {} [.ksend 2 [.room 1, .again, .room 7], .write 2 3 [9, 8, 7, 6], .spin]).2 =
    [.ok, .ok, .spin [.write 2 4 [9, 8, 7, 6]] [.w 2 [(2, 2), (2, -1), (4, 2)]]] := by decide +kernel

/-- **no request is lost**: an outstanding read stays on its descriptor through every operation except
`cancel r` on that descriptor and the `spin` that reports its callback.  Together with
`spin_read_completion_exact` (the request is gone after its callback): every read completes at most once,
and is pending until it does or is cancelled. -/
theorem read_request_never_lost (s : NetIOStep.St) (hs : StOk s) (op : Op) (i : Nat) (f : Fd) (r : ReadSt)
    (hi : s.fds[i]? = some f) (hr : f.rd = some r) :
    (∃ f', (stepOp s op).1.fds[i]? = some f' ∧ f'.rd.isSome = true) ∨ op = .cancel .r i ∨
    (op = .spin ∧ ∃ l1 l2 n d, (stepOp s op).2 = .spin l1 l2 ∧ Completion.read i n d ∈ l1) := by
  have hfr : f.rd.isSome = true := hr ▸ rfl
  -- the request functions other than those for reads leave `rd` alone in either branch
  have keep (j : Nat) (g : Fd → Fd × Out) := onFd_rd_kept s j g i f hi hfr
  cases op with
  | read fd bl ml => exact .inl (keep fd _ fun x hx => by rw [if_pos hx]; exact hx)
  | write fd ml buf => exact .inl (keep fd _ fun x hx => by split <;> exact hx)
  | accept fd => exact .inl (keep fd _ fun x hx => by split <;> exact hx)
  | krecv fd items => exact .inl (keep fd _ fun x hx => hx)
  | ksend fd items => exact .inl (keep fd _ fun x hx => hx)
  | kacc fd items => exact .inl (keep fd _ fun x hx => hx)
  | cancel which fd =>
    cases which with
    | r =>
      by_cases hfd : fd = i
      · exact .inr (.inl (hfd ▸ rfl))
      · exact .inl ⟨f, (onFd_get s fd _ i f hi).trans (by rw [if_neg hfd]), hfr⟩
    | w => exact .inl (keep fd _ fun x hx => by split <;> exact hx)
    | a => exact .inl (keep fd _ fun x hx => by split <;> exact hx)
  | connect timeo addrs => exact .inl ⟨f, (stepOp_connect_fds s timeo addrs).symm ▸ hi, hfr⟩
  | cancelc => exact .inl ⟨f, (stepOp_cancelc_fds s).symm ▸ hi, hfr⟩
  | fdbase n => exact .inl ⟨f, hi, hfr⟩
  | spin =>
    obtain ⟨l2, h1, _⟩ := stepOp_spin s
    rcases (spinRead_spec i f (hs f (List.mem_of_getElem? hi)).rd).2.2 hfr with e | ⟨n, d, e⟩
    · exact .inl ⟨_, stepOp_spin_get s i f hi, (spinFd_rd i f).1 ▸ e⟩
    · refine .inr (.inr ⟨rfl, _, l2, n, d, h1,
        List.mem_append_left _ ((spinAll_mem s.fds _).mpr ⟨i, f, hi, ?_⟩)⟩)
      rw [spinFd_compl]
      exact List.mem_append_left _ (List.mem_append_left _ e)

example : (runOps {} [.read 3 8 4, .krecv 3 [.data 1 [2]], .spin, .krecv 3 [.data 3 [4]], .spin]).2 =
    [.ok, .ok, .spin [] [.r 3 [(8, 2)]], .ok, .spin [.read 3 4 [1, 2, 3, 4]] [.r 3 [(6, 2)]]] := by decide +kernel

/-- **connect: at most one callback per attempt**; after it the attempt is gone -/
theorem spin_connect_at_most_once (s : NetIOStep.St) : ∃ l1 l2, (stepOp s .spin).2 = .spin l1 l2 ∧
    (connectVals l1 = [] ∨ ∃ v, connectVals l1 = [v] ∧ s.conn.isSome = true ∧ (stepOp s .spin).1.conn = none) := by
  obtain ⟨l2, h1, _, h3⟩ := stepOp_spin s
  refine ⟨_, l2, h1, ?_⟩
  cases hc : s.conn with
  | none => exact .inl (connectVals_spin s.fds [])
  | some tc =>
    obtain ⟨timeo, cst⟩ := tc
    rw [hc] at h3
    show connectVals (_ ++ cbsOf _) = [] ∨ _
    rw [connectVals_spin]
    rcases spin_once timeo connFuel cst s.nextfd with h | ⟨v, h, hf⟩
    · exact .inl h
    · refine .inr ⟨v, h, rfl, h3.trans ?_⟩
      show (if (Connect.spin timeo connFuel cst s.nextfd).2.1 == .finished then none else _) = none
      rw [hf]
      rfl

/-- **connect: the callback the executable prints is the specified one**: an accepted `connect` followed by a
`spin` reports exactly one callback carrying the socket of the first address that connects, or exactly one
`-1`, or none when an address hangs and no timeout was asked for (`firstSuccess`, on the at most `maxAddrs`
addresses the harness passes). -/
theorem connect_then_spin_eq_spec (s : NetIOStep.St) (hc : s.conn = none) (timeo : Bool) (addrs : List AddrOutcome) :
    (stepOp s (.connect timeo addrs)).2 = .ok ∧
    ∃ l1 l2, (stepOp (stepOp s (.connect timeo addrs)).1 .spin).2 = .spin l1 l2 ∧
      connectVals l1 =
        match firstSuccess timeo (addrs.take maxAddrs) 0 with
        | some (some i) => [((s.nextfd + i : Nat) : Int)]
        | some none => [-1]
        | none => [] := by
  obtain ⟨h1, l1, l2, h2, h3⟩ := connect_spin_is_run s hc timeo addrs
  exact ⟨h1, l1, l2, h2, by rw [h3]; exact connect_callback_exact timeo (addrs.take maxAddrs) s.nextfd⟩

example : (runOps {} [.connect true [.failNow, .hang, .success], .spin, .spin]).2 =
    [.ok, .spin [.connect 22] [.conn [.sock 20 0, .close 20, .sock 21 1, .close 21, .sock 22 2]], .spin [] []] := by decide +kernel

end Percival.C06
