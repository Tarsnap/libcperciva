import Percival.Model.Wipe
import Percival.Gen.Wipe
import Percival.Proofs.WipeVerdicts
/-!
# C20 — key material is wiped

`Gen.Wipe` is regenerated from `/repo` on every run: the statement lists of the functions that
finalise hash/HMAC contexts, free expanded AES keys and AES-CTR streams, run the Diffie–Hellman
`BIGNUM` ladder and unwind `aws_readkeys`.  The theorems below are (a) general facts about the
judgements of `Model.Wipe` — what a `true` verdict means for *any* statement list — and (b) the
verdicts on the current source, decided by kernel evaluation.  Input-independence is the content:
none of the judgements mentions a message, key, private value or blinding value, so they hold
for all of them and for every call sequence that ends in the function concerned.

Not expressible here (observed at run time by `harness/h_wipe.c` in an `-O2` build, see DESIGN):
that the compiler keeps the zeroing, and what OpenSSL does inside `BN_clear_free`.
-/
namespace Percival.C20
open Percival.Model.Wipe Percival.Model.WipeLang Percival.Gen.Wipe

/-- `allConfigs`: the judgement holds for the statement list of *every* preprocessor configuration the
    translator found (`#ifdef HWACCEL … #else … #endif` gives one list per branch), and there is one. -/
theorem allConfigs_sound (cfgs : List (String × List Stmt)) (p : List Stmt → Bool) (h : allConfigs cfgs p = true) :
    cfgs ≠ [] ∧ ∀ c ∈ cfgs, p c.2 = true := by
  unfold allConfigs at h
  simp only [Bool.and_eq_true, Bool.not_eq_eq_eq_not, Bool.not_true, List.isEmpty_eq_false_iff] at h
  exact ⟨h.1, fun c hc => (List.all_eq_true.mp h.2) c hc⟩

/-- a call statement of the body is among `callsOf` -/
private theorem mem_callsOf (body : List Stmt) (dst fn : String) (args : List String) (fail : Option String)
    (h : Stmt.call dst fn args fail ∈ body) : (dst, fn, args) ∈ callsOf body := by
  induction body with
  | nil => cases h
  | cons s r ih =>
    rcases List.mem_cons.mp h with rfl | hin
    · simp [callsOf]
    · cases s <;> simp [callsOf, ih hin]

/-- `noHiddenRealloc`: no statement of the body calls `getline`, `getdelim`, `realloc` or `reallocarray`.
    These are the library functions that may *move* a buffer: the old block — with the line that was read
    into it, possibly the secret line — is released inside libc, unwiped, and no `free` shows in the
    caller.  With none of them called, every block the function gives back to the allocator is given back
    by a `free` statement of the translated source, where `freesAreWiped` can judge it. -/
theorem noHiddenRealloc_sound (body : List Stmt) (h : noHiddenRealloc body = true) :
    ∀ dst fn args fail, Stmt.call dst fn args fail ∈ body → fn ∉ mayReallocFns := by
  intro dst fn args fail hin
  have := (List.all_eq_true.mp h) _ (mem_callsOf body dst fn args fail hin)
  simpa using this

/-- `onlyHandledBy x allowed`: whatever is handed the object `x` is one of the `allowed` functions — so a
    release of `x` can only happen through them, and each of them is judged separately. -/
theorem onlyHandledBy_sound (x : String) (allowed : List String) (body : List Stmt) (h : onlyHandledBy x allowed body = true) :
    ∀ dst fn args fail, Stmt.call dst fn args fail ∈ body → mentions x args = true → fn ∈ allowed := by
  intro dst fn args fail hin hm
  have := (List.all_eq_true.mp h) _ (mem_callsOf body dst fn args fail hin)
  simpa [hm] using this

/-- A block that is zeroed over its whole length holds none of its previous bytes:
    whatever it held, every byte handed to `free` is 0. -/
theorem zeroed_block_has_no_secret (block : List UInt8) :
    ∀ b ∈ List.replicate block.length (0 : UInt8), b = 0 := by
  intro b hb
  exact (List.mem_replicate.mp hb).2

/-- `pathsClean` really quantifies over every exit path the interpreter enumerates, and on each
    of them every release of an object holding secret-derived data is a `BN_clear_free`. -/
theorem pathsClean_sound (secrets : List String) (body : List Stmt) (h : pathsClean secrets body = true) :
    ∀ p ∈ paths body { tainted := secrets } body, ∀ e ∈ p.st.evs, e.tainted = true → e.kind = "BN_clear_free" := by
  intro p hp e he ht
  unfold pathsClean at h
  have hp' := (List.all_eq_true.mp h) p hp
  unfold pathClean at hp'
  simp only [Bool.and_eq_true] at hp'
  have := (List.all_eq_true.mp hp'.1.1) e he
  simp only [ht, Bool.not_true, Bool.false_or, beq_iff_eq] at this
  exact this

/-- … and no object holding secret-derived data is left allocated when the function returns. -/
theorem pathsClean_no_live_secret (secrets : List String) (body : List Stmt) (h : pathsClean secrets body = true) :
    ∀ p ∈ paths body { tainted := secrets } body, ∀ v ∈ p.st.live, p.st.tainted.contains v = false := by
  intro p hp v hv
  unfold pathsClean at h
  have hp' := (List.all_eq_true.mp h) p hp
  unfold pathClean at hp'
  simp only [Bool.and_eq_true] at hp'
  have := (List.all_eq_true.mp hp'.1.2) v hv
  simpa using this

/-- `dominatedByWipe`: walking back from the `free`, the first statement that touches the block is
    a zeroing of the whole block, and no label (join point) lies in between. -/
theorem dominatedByWipe_sound (x : String) (sizes : List String) (before : List Stmt)
    (h : dominatedByWipe x sizes before = true) :
    ∃ pre sz rest dst fail, before = pre ++ Stmt.call dst "insecure_memzero" [x, sz] fail :: rest ∧ sz ∈ sizes ∧
      (∀ s ∈ pre, (∀ l, s ≠ .label l) ∧ ∀ d f a fl, s = .call d f a fl → mentions x a = false) := by
  induction before with
  | nil => simp [dominatedByWipe] at h
  | cons s r ih =>
    -- a statement that is no label and does not touch the block joins the prefix
    have skip : dominatedByWipe x sizes r = true → (∀ l, s ≠ .label l) →
        (∀ d f a fl, s = .call d f a fl → mentions x a = false) →
        ∃ pre sz rest dst fail, s :: r = pre ++ Stmt.call dst "insecure_memzero" [x, sz] fail :: rest ∧ sz ∈ sizes ∧
          (∀ s ∈ pre, (∀ l, s ≠ .label l) ∧ ∀ d f a fl, s = .call d f a fl → mentions x a = false) :=
      fun h hl hc => by
      obtain ⟨pre, sz, rest, d, f, he, hs, hp⟩ := ih h
      refine ⟨s :: pre, sz, rest, d, f, by rw [he]; rfl, hs, ?_⟩
      intro s' hs'
      rcases List.mem_cons.mp hs' with rfl | hin
      · exact ⟨hl, hc⟩
      · exact hp s' hin
    cases s with
    | label l => simp [dominatedByWipe] at h
    | call dst fn args fail =>
      simp only [dominatedByWipe] at h
      by_cases hm : mentions x args = true
      · rw [if_pos hm] at h
        simp only [Bool.and_eq_true, beq_iff_eq] at h
        obtain ⟨hfn, hargs⟩ := h
        match args, hargs with
        | [a, sz], hargs =>
          simp only [Bool.and_eq_true, beq_iff_eq, List.contains_eq_mem, decide_eq_true_eq] at hargs
          refine ⟨[], sz, r, dst, fail, ?_, hargs.2, by simp⟩
          simp [hfn, hargs.1]
      · rw [if_neg hm] at h
        exact skip h (fun _ => nofun) fun _ _ _ _ heq => by cases heq; simpa using hm
    | cond c l => exact skip h (fun _ => nofun) fun _ _ _ _ => nofun
    | goto l => exact skip h (fun _ => nofun) fun _ _ _ _ => nofun
    | ret => exact skip h (fun _ => nofun) fun _ _ _ _ => nofun

/-- an accepted reach set contains every configuration some path leads to -/
theorem reachSet_complete (env : KEnv) (prog : List Stmt) (r : List KCfg) (h : reachSet env prog = some r) :
    ∀ c, KReach env prog c → c ∈ r := by
  unfold reachSet at h
  split at h
  · next r' _ =>
    split at h
    · next hc =>
      cases h
      unfold closedSet at hc
      simp only [Bool.and_eq_true, List.all_eq_true, List.contains_iff_mem] at hc
      intro c hr
      induction hr with
      | start => exact hc.1
      | step _ hs ih => exact hc.2 _ ih _ hs
    · cases h
  · cases h

/-- `errorPathsClean`: on EVERY path through the function (`KReach`: unboundedly long, loops included), whenever the
    statement reached releases the key object as it is (`free` of the object or an alias, or a `realloc` of it), the
    object is not `dirty` there — no statement on the way from its allocation or last whole-object wipe stored
    key-derived data into it (`applyEff_dirty` below: `dirty` arises from such a store and from nothing else). -/
theorem errorPathsClean_sound (obj : String) (secrets scalars : List String) (body : List Stmt)
    (h : errorPathsClean obj secrets scalars body = true) :
    ∀ c, KReach (mkKEnv obj secrets scalars body) body c → ∀ s, body[c.1]? = some s →
      effect (mkKEnv obj secrets scalars body) s = .release → c.2 ≠ .dirty := by
  intro c hr s hs he hd
  unfold errorPathsClean at h
  simp only [Bool.and_eq_true] at h
  obtain ⟨_, h⟩ := h
  split at h
  · next r hrs =>
    have hin := reachSet_complete _ _ r hrs c hr
    have hb := (List.all_eq_true.mp h) c hin
    simp [badAt, hs, he, hd] at hb
  · cases h

/-- the object becomes `dirty` only through a statement that stores key-derived data into it … -/
theorem applyEff_dirty (k : KSt) (e : Eff) (h : applyEff k e = .dirty) : e = .store ∨ (k = .dirty ∧ e = .none) := by
  cases k <;> cases e <;> simp_all [applyEff]

/-- … every such statement makes it `dirty` … -/
theorem applyEff_store (k : KSt) : applyEff k .store = .dirty := by cases k <;> rfl

/-- … and it stays `dirty` until it is wiped over its whole allocated size, released, or replaced by a new block -/
theorem applyEff_stays_dirty (e : Eff) (h : applyEff .dirty e ≠ .dirty) :
    e = .release ∨ e = .wipedRelease ∨ e = .wipe ∨ e = .fresh := by
  cases e <;> simp_all [applyEff]

/-- what counts as such a store: the arguments mention a key-derived name, and the destination is not a plain
    variable or a function that may write through its arguments is handed the object (or an alias) -/
theorem effect_store (env : KEnv) (dst fn : String) (args : List String) (fail : Option String)
    (h : effect env (.call dst fn args fail) = .store) : storesKey env dst fn args = true := by
  unfold effect at h
  simp only at h
  -- `effect` is a cascade of tests each ending in one constructor; only the test of `storesKey` ends in `.store`
  split at h
  · cases h
  · split at h
    · cases h
    · split at h
      · split at h
        · split at h <;> cases h
        · cases h
      · split at h
        · split at h <;> cases h
        · split at h
          · assumption
          · cases h

/-- SHA-256, SHA-1, MD5: `*_Final` ends by zeroing the whole context object. -/
theorem hash_contexts_wiped :
    allConfigs sha256FinalConfigs (wipedDirect "ctx" "SHA256_CTX") = true ∧
    allConfigs sha1FinalConfigs (wipedDirect "ctx" "SHA1_CTX") = true ∧
    allConfigs md5FinalConfigs (wipedDirect "ctx" "MD5_CTX") = true := by decide +kernel

/-- HMAC contexts: HMAC-SHA256 zeroes the whole object; HMAC-SHA1 and HMAC-MD5 consist of exactly
    an inner and an outer hash context (struct layout from the headers), each finalised — hence
    zeroed by the theorem above — with nothing touching the object afterwards. -/
theorem hmac_contexts_wiped :
    allConfigs hmacSha256FinalConfigs (wipedDirect "ctx" "HMAC_SHA256_CTX") = true ∧
    hmacSha256CtxFields = [("SHA256_CTX", "ictx"), ("SHA256_CTX", "octx")] ∧
    allConfigs hmacSha1FinalConfigs (wipedByMembers "ctx" "SHA1_Final" (hmacSha1CtxFields.map (·.2))) = true ∧
    hmacSha1CtxFields = [("SHA1_CTX", "ictx"), ("SHA1_CTX", "octx")] ∧
    allConfigs hmacMd5FinalConfigs (wipedByMembers "ctx" "MD5_Final" (hmacMd5CtxFields.map (·.2))) = true ∧
    hmacMd5CtxFields = [("MD5_CTX", "ictx"), ("MD5_CTX", "octx")] := by decide +kernel

/-- The one-shot helpers zero their stack contexts too. -/
theorem oneshot_contexts_wiped :
    allConfigs sha256BufConfigs (wipedDirect "&ctx" "SHA256_CTX") = true ∧
    allConfigs hmacSha256BufConfigs (wipedDirect "&ctx" "HMAC_SHA256_CTX") = true ∧
    allConfigs aesctrBufConfigs (wipedDirect "stream" "struct crypto_aesctr") = true := by decide +kernel

/-- Expanded AES keys.  In every configuration (hardware support compiled in or not) the software
    branch of `crypto_aes_key_free` — reached at run time whenever the accelerated code is not
    selected — zeroes the block over exactly the size `crypto_aes_key_expand` allocated it with,
    immediately before `free`; the only other things the key is handed to are the AES-NI / ARM
    release functions, which do the same for their own layouts. -/
theorem aes_keys_wiped_before_free :
    allConfigs aesKeyFreeConfigs (freesSomething "key") = true ∧
    (∃ sz, allConfigs aesKeyExpandConfigs (fun b => mallocSize "kexp" b == some sz) = true ∧
           allConfigs aesKeyFreeConfigs (freesAreWiped "key" [sz]) = true) ∧
    allConfigs aesKeyFreeConfigs (onlyHandledBy "key" aesKeyHandlers) = true ∧
    allConfigs aesKeyFreeAesniConfigs (freesSomething "key") = true ∧
    (∃ sz, allConfigs aesKeyExpandAesniConfigs (fun b => mallocSize "kexp" b == some sz) = true ∧
           allConfigs aesKeyFreeAesniConfigs (freesAreWiped "key" [sz]) = true) ∧
    allConfigs aesKeyFreeAesniConfigs (onlyHandledBy "key" ["insecure_memzero", "free"]) = true ∧
    allConfigs aesKeyFreeArmConfigs (freesSomething "key") = true ∧
    (∃ sz, allConfigs aesKeyExpandArmConfigs (fun b => mallocSize "kexp" b == some sz) = true ∧
           allConfigs aesKeyFreeArmConfigs (freesAreWiped "key" [sz]) = true) ∧
    allConfigs aesKeyFreeArmConfigs (onlyHandledBy "key" ["insecure_memzero", "free"]) = true := by
  refine ⟨by decide +kernel, ⟨"sizeof(AES_KEY)", by decide +kernel, by decide +kernel⟩, by decide +kernel,
    by decide +kernel, ⟨"sizeof(struct crypto_aes_key_aesni)", by decide +kernel, by decide +kernel⟩, by decide +kernel,
    by decide +kernel, ⟨"sizeof(struct crypto_aes_key_arm)", by decide +kernel, by decide +kernel⟩, by decide +kernel⟩

/-- The build the harness observes is one of the judged configurations, and in it BOTH run-time
    branches exist: the dispatch to the AES-NI release function and the software fall-through. -/
theorem aes_key_free_dispatch_nonvacuous :
    aesKeyFreeConfigs.head? = some ("CPUSUPPORT_X86_AESNI HWACCEL", aesKeyFree) ∧
    2 ≤ aesKeyFreeConfigs.length ∧
    (callsOf aesKeyFree).any (fun c => c.2.1 == "crypto_aes_key_free_aesni" && mentions "key" c.2.2) = true ∧
    freesSomething "key" aesKeyFree = true := by decide +kernel

/-- the parameter that carries the raw key in the key-expand functions (for `crypto_aesctr_alloc` and
    `crypto_aesctr_init`, whose parameter `key` is the expanded key, the statements write `["key"]`) -/
def keyParams : List String := ["key_unexpanded"]

/-- Key-expand functions: in every configuration, on every path (success, failing allocation, failing
    `AES_set_encrypt_key`, unsupported key length) the key object is never handed back to the allocator by a plain
    `free` after a statement that may have stored key-derived data into it.  The only unwiped `free(kexp)` of the source is
    reached from the allocation directly (unsupported length) or from a failed `AES_set_encrypt_key`. -/
theorem aes_key_expand_error_paths_clean :
    allConfigs aesKeyExpandConfigs (errorPathsClean "kexp" keyParams aesKeyExpandScalars) = true ∧
    allConfigs aesKeyExpandAesniConfigs (errorPathsClean "kexp" keyParams aesKeyExpandAesniScalars) = true ∧
    allConfigs aesKeyExpandArmConfigs (errorPathsClean "kexp" keyParams aesKeyExpandArmScalars) = true ∧
    allConfigs aesctrAllocConfigs (errorPathsClean "stream" ["key"] aesctrAllocScalars) = true ∧
    allConfigs aesctrInitConfigs (errorPathsClean "stream" ["key"] aesctrInitScalars) = true :=
  Proofs.WipeVerdicts.keyObjectPaths.1

/-- non-vacuity of the above: in every configuration of each key-expand function some path returns an object that
    holds key-derived data (the key parameter is recognised and its stores are seen) and some path releases the
    object (there is an error path to judge); `crypto_aesctr_init` stores the key pointer into the stream. -/
theorem aes_key_expand_paths_nonvacuous :
    allConfigs aesKeyExpandConfigs (returnsLoadedObject "kexp" keyParams aesKeyExpandScalars) = true ∧
    allConfigs aesKeyExpandConfigs (releasesOnSomePath "kexp" keyParams aesKeyExpandScalars) = true ∧
    allConfigs aesKeyExpandAesniConfigs (returnsLoadedObject "kexp" keyParams aesKeyExpandAesniScalars) = true ∧
    allConfigs aesKeyExpandAesniConfigs (releasesOnSomePath "kexp" keyParams aesKeyExpandAesniScalars) = true ∧
    allConfigs aesKeyExpandArmConfigs (returnsLoadedObject "kexp" keyParams aesKeyExpandArmScalars) = true ∧
    allConfigs aesKeyExpandArmConfigs (releasesOnSomePath "kexp" keyParams aesKeyExpandArmScalars) = true ∧
    allConfigs aesctrInitConfigs (returnsLoadedObject "stream" ["key"] aesctrInitScalars) = true := by
  exact Proofs.WipeVerdicts.keyObjectPaths.2

/-- AES-CTR stream objects likewise. -/
theorem aesctr_stream_wiped_before_free :
    allConfigs aesctrFreeConfigs (freesSomething "stream") = true ∧
    (∃ sz, allConfigs aesctrAllocConfigs (fun b => mallocSize "stream" b == some sz) = true ∧
           allConfigs aesctrFreeConfigs (freesAreWiped "stream" [sz]) = true) ∧
    allConfigs aesctrFreeConfigs (onlyHandledBy "stream" ["insecure_memzero", "free"]) = true :=
  ⟨by decide +kernel, ⟨"sizeof(struct crypto_aesctr)", by decide +kernel, by decide +kernel⟩, by decide +kernel⟩

/-- `aws_readkeys`: on every error exit the secret string is zeroed over its whole length
    before it is freed. -/
theorem aws_secret_wiped_before_free :
    allConfigs awsReadkeysConfigs (freesSomething "*key_secret") = true ∧
    allConfigs awsReadkeysConfigs (freesAreWiped "*key_secret" ["strlen(*key_secret)"]) = true := by decide +kernel

/-- `aws_readkeys` never hands a line buffer to a function that may move it (see
    `noHiddenRealloc_sound`): a line read after the secret line cannot push a copy of the secret
    back to the allocator from inside libc. -/
theorem aws_line_buffer_never_moved :
    allConfigs awsReadkeysConfigs noHiddenRealloc = true := by decide +kernel

/-- Diffie–Hellman: on all exit paths of `blinded_modexp` (success, each failing OpenSSL call, the
    entropy failure, the two result-length checks) every `BIGNUM` that holds the private exponent,
    the blinding value or anything computed from them is released with `BN_clear_free`, and none
    stays allocated; the wrappers add nothing secret of their own. -/
theorem dh_secrets_cleared_on_every_path :
    allConfigs blindedModexpConfigs (pathsClean ["priv"]) = true ∧
    allConfigs dhGeneratePubConfigs (pathsClean ["priv"]) = true ∧
    allConfigs dhComputeConfigs (pathsClean ["priv"]) = true := by decide +kernel

/-- non-vacuity: the ladder has many exit paths, and all but at most two of them (the failures before
    anything secret exists) release at least one tainted object -/
theorem dh_paths_nonvacuous :
    10 ≤ (paths blindedModexp { tainted := ["priv"] } blindedModexp).length ∧
    (paths blindedModexp { tainted := ["priv"] } blindedModexp).length ≤ pathsWithTaintedRelease ["priv"] blindedModexp + 2 := by
  decide +kernel

example : pathsClean ["priv"]
    [.call "priv_bn" "BN_bin2bn" ["priv", "32", "NULL"] (some "err0"), .call "" "BN_free" ["priv_bn"] none, .ret,
     .label "err0", .ret] = false := by decide
example : freesAreWiped "key" ["sizeof(AES_KEY)"]
    [.call "" "insecure_memzero" ["key", "sizeof(AES_KEY)"] none, .label "out", .call "" "free" ["key"] none] = false := by decide
example : wipedDirect "ctx" "SHA256_CTX"
    [.call "" "insecure_memzero" ["ctx", "sizeof(SHA256_CTX)"] none, .call "" "SHA256_Update" ["ctx", "x", "1"] none] = false := by decide
/-- the wipe in the `#else` of `#ifdef HWACCEL`: the configuration with hardware support loses it -/
example : allConfigs
    [("HWACCEL", [.cond "key == NULL" "<return>", .cond "!(hwaccel == HW_X86_AESNI)" "<else1>",
                  .call "" "crypto_aes_key_free_aesni" ["(void *)key"] none, .ret, .label "<else1>",
                  .call "" "free" ["key"] none]),
     ("", [.cond "key == NULL" "<return>", .call "" "insecure_memzero" ["key", "sizeof(AES_KEY)"] none,
           .call "" "free" ["key"] none])]
    (freesAreWiped "key" ["sizeof(AES_KEY)"]) = false := by decide
/-- the first round key is loaded before the key length is looked at: the `default:` branch frees raw key bytes -/
example : errorPathsClean "kexp" ["key_unexpanded"] ["len"]
    [.call "kexp" "malloc" ["sizeof(struct K)"] (some "err0"),
     .call "kexp->rkeys[0]" "_mm_loadu_si128" ["(const __m128i *)&key_unexpanded[0]"] none,
     .cond "case 16" "<case2>", .goto "<case3>",
     .label "<case2>", .call "" "expand_128" ["kexp->rkeys"] none, .goto "<swend1>",
     .label "<case3>", .goto "err1",
     .label "<swend1>", .ret,
     .label "err1", .call "" "free" ["kexp"] none, .label "err0", .ret] = false := by
  rw [errorPathsClean, Proofs.WipeVerdicts.mkKEnv_eq]; decide +kernel
/-- the same with the load inside the accepted cases only, or with a whole-object wipe before the `free`: accepted -/
example : errorPathsClean "kexp" ["key_unexpanded"] ["len"]
    [.call "kexp" "malloc" ["sizeof(struct K)"] (some "err0"),
     .cond "case 16" "<case2>", .goto "<case3>",
     .label "<case2>", .call "kexp->rkeys[0]" "_mm_loadu_si128" ["(const __m128i *)&key_unexpanded[0]"] none, .goto "<swend1>",
     .label "<case3>", .goto "err1",
     .label "<swend1>", .ret,
     .label "err1", .call "" "free" ["kexp"] none, .label "err0", .ret] = true := by
  rw [errorPathsClean, Proofs.WipeVerdicts.mkKEnv_eq]; decide +kernel
example : errorPathsClean "kexp" ["key_unexpanded"] ["len"]
    [.call "kexp" "malloc" ["sizeof(struct K)"] (some "err0"),
     .call "" "memcpy" ["kexp->raw", "key_unexpanded", "16"] none,
     .cond "len != 16" "err1", .ret,
     .label "err1", .call "" "insecure_memzero" ["kexp", "sizeof(struct K)"] none, .call "" "free" ["kexp"] none,
     .label "err0", .ret] = true := by
  rw [errorPathsClean, Proofs.WipeVerdicts.mkKEnv_eq]; decide +kernel
/-- through a local copy and an alias, in a loop whose error exit is taken on a later round; a partial wipe does not count -/
example : errorPathsClean "kexp" ["key_unexpanded"] ["len", "i"]
    [.call "kexp" "malloc" ["sizeof(struct K)"] (some "err0"),
     .call "rk" "" ["kexp->rkeys"] none,
     .label "<loop1>", .cond "!(<loop>)" "<endloop2>",
     .cond "i >= 2" "err1",
     .call "" "memcpy" ["tmp", "&key_unexpanded[16 * i]", "16"] none,
     .call "rk[i]" "load" ["tmp"] none,
     .goto "<loop1>", .label "<endloop2>", .ret,
     .label "err1", .call "" "insecure_memzero" ["kexp", "16"] none, .call "" "free" ["kexp"] none,
     .label "err0", .ret] = false := by
  rw [errorPathsClean, Proofs.WipeVerdicts.mkKEnv_eq]; decide +kernel
/-- a line buffer grown by `getline` -/
example : noHiddenRealloc [.call "" "getline" ["&buf", "&buflen", "f"] none] = false := by decide
/-- a release hidden in the error block of a failing call is walked (out-of-line block, `goto` followed) -/
example : pathsClean ["priv"]
    [.call "priv_bn" "BN_bin2bn" ["priv", "32", "NULL"] (some "err0"),
     .call "" "BN_add" ["priv_bn", "priv_bn", "x"] (some "<blk1>"),
     .call "" "BN_clear_free" ["priv_bn"] none, .label "err0", .ret,
     .label "<blk1>", .call "" "BN_free" ["priv_bn"] none, .goto "err0"] = false := by decide
/-- a pointer found null on the jumping branch holds nothing -/
example : pathsClean ["priv"]
    [.call "b" "BN_bin2bn" ["priv", "32", "NULL"] none, .cond "b == NULL" "err0",
     .call "" "BN_clear_free" ["b"] none, .label "err0", .ret] = true := by decide

end Percival.C20
