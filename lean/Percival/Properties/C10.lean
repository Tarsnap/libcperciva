import Percival.Model.DHStep
import Percival.Proofs.DH
import Percival.Proofs.DhAns
/-!
# C10 — Diffie–Hellman: exact group-14 exponentiation, agreement, blinding-independent

Obligations `gen_*` tie the constants of the *current* source (`Gen.DH`, regenerated on every
run) to RFC 3526 and to the documented lengths; the remaining theorems are about
`Model.DH` for all private values, peers and blinding values.
-/
namespace Percival.C10
open Percival Percival.Model.DH Percival.Proofs.DH
open Percival.Spec.DH (ofBE)

/-- the 256 modulus bytes in `crypto_dh_group14.c` denote the RFC 3526 group-14 prime -/
theorem gen_group14_is_rfc3526 :
    Gen.DH.group14.length = 256 ∧ Spec.DH.ofBE Gen.DH.group14 = Spec.DH.p := by
  decide +kernel

/-- `two_exp_256` really is 2^256, and it is added 4 times to the private value (2^258) and once
    to the blinding value; lengths and the sanity comparison are as documented -/
theorem gen_constants :
    Spec.DH.ofBE Gen.DH.twoExp256 = 2^256 ∧ Gen.DH.twoExp256.length = 33 ∧
    Gen.DH.twoExp256Len = 33 ∧ Gen.DH.modulusLen = 256 ∧
    Gen.DH.nAddPriv = 4 ∧ Gen.DH.nAddBlinding = 1 ∧
    Gen.DH.publen = 256 ∧ Gen.DH.privlen = 32 ∧ Gen.DH.keylen = 256 ∧
    Gen.DH.sanityCmpLen = 256 ∧ Gen.DH.sanityRejectOp = ">=" := by
  decide +kernel

private theorem modulus_eq : modulus = Spec.DH.p := by
  unfold modulus
  rw [gen_constants.2.2.2.1, ← gen_group14_is_rfc3526.1, List.take_length]
  exact gen_group14_is_rfc3526.2

private theorem two256_eq : two256 = 2^256 := by
  unfold two256
  rw [gen_constants.2.2.1, ← gen_constants.2.1, List.take_length]
  exact gen_constants.1

private theorem mod_p_lt (x : Nat) : x % Spec.DH.p < 256^256 :=
  Nat.lt_trans (Nat.mod_lt _ (by decide +kernel)) (by decide +kernel)

/-- `blinded_modexp` computes `a^(2^258 + priv) mod p`, whatever the blinding value is, and
    exports it as exactly 256 big-endian bytes (leading zeros included). -/
theorem blindedModexp_eq (a : Nat) (priv blinding : List UInt8)
    (hp : priv.length = 32) (hb : blinding.length = 32) :
    blindedModexp a priv blinding =
      some (toBE 256 (a^(Spec.DH.offset + Spec.DH.ofBE priv) % Spec.DH.p)) := by
  have hx : ofBE priv < 2^256 := by have := ofBE_lt_two_pow priv; rwa [hp] at this
  have hr : ofBE blinding < 2^256 := by have := ofBE_lt_two_pow blinding; rwa [hb] at this
  have h4 : (2:Nat)^258 = 4 * 2^256 := by decide +kernel
  unfold blindedModexp
  simp only [gen_constants.2.2.2.2.1, gen_constants.2.2.2.2.2.1, two256_eq, modulus_eq, powMod_eq]
  have hle : ofBE blinding + 1 * 2^256 ≤ ofBE priv + 4 * 2^256 := by
    generalize (2:Nat)^256 = k at *; omega
  rw [if_pos hle, blinded_identity _ _ _ _ hle]
  have hexp : ofBE priv + 4 * 2^256 = Spec.DH.offset + Spec.DH.ofBE priv := by
    unfold Spec.DH.offset; rw [h4]; omega
  rw [hexp]
  unfold exportPub
  rw [gen_constants.2.2.2.2.2.2.1]
  obtain ⟨hfit, hpad⟩ := pad_bn2bin 256 _ (mod_p_lt (a^(Spec.DH.offset + Spec.DH.ofBE priv)))
  rw [if_neg (by omega), hpad]

/-- public value: `2^(2^258 + x) mod p` as 256 big-endian bytes, for every private value and
    every blinding value -/
theorem generatePub_eq (priv blinding : List UInt8) (hp : priv.length = 32) (hb : blinding.length = 32) :
    generatePub priv blinding = some (toBE 256 (Spec.DH.pub (Spec.DH.ofBE priv))) :=
  blindedModexp_eq 2 priv blinding hp hb

/-- shared key: `y^(2^258 + x) mod p` for every peer value `y` (any 256 bytes: 0, 1, p−1, p,
    p+1, 2^2048−1 included) -/
theorem compute_eq (pub priv blinding : List UInt8) (hp : priv.length = 32) (hb : blinding.length = 32) :
    compute pub priv blinding =
      some (toBE 256 (Spec.DH.shared (Spec.DH.ofBE pub) (Spec.DH.ofBE priv))) :=
  blindedModexp_eq _ priv blinding hp hb

/-- the result never depends on the blinding drawn internally -/
theorem blinding_independent (a : Nat) (priv b1 b2 : List UInt8)
    (hp : priv.length = 32) (h1 : b1.length = 32) (h2 : b2.length = 32) :
    blindedModexp a priv b1 = blindedModexp a priv b2 := by
  rw [blindedModexp_eq a priv b1 hp h1, blindedModexp_eq a priv b2 hp h2]

/-- two parties always derive the same key -/
theorem agreement (x y bx by' bx' by'' : List UInt8) (px py : List UInt8)
    (hx : x.length = 32) (hy : y.length = 32)
    (h1 : bx.length = 32) (h2 : by'.length = 32) (h3 : bx'.length = 32) (h4 : by''.length = 32)
    (hpx : generatePub x bx = some px) (hpy : generatePub y by' = some py) :
    compute py x bx' = compute px y by'' := by
  rw [generatePub_eq x bx hx h1] at hpx
  rw [generatePub_eq y by' hy h2] at hpy
  have e1 := Option.some.inj hpx
  have e2 := Option.some.inj hpy
  subst e1; subst e2
  rw [compute_eq _ x bx' hx h3, compute_eq _ y by'' hy h4]
  rw [ofBE_toBE 256 (Spec.DH.pub _) (mod_p_lt _), ofBE_toBE 256 (Spec.DH.pub _) (mod_p_lt _)]
  unfold Spec.DH.shared Spec.DH.pub
  rw [← Nat.pow_mod, ← Nat.pow_mod, ← Nat.pow_mul, ← Nat.pow_mul, Nat.mul_comm]

/-- the exported strings are exactly 256 bytes and denote the value (so leading zero bytes are
    part of the result, not dropped) -/
theorem export_roundtrip (n : Nat) (h : n < 256^256) :
    (toBE 256 n).length = 256 ∧ Spec.DH.ofBE (toBE 256 n) = n :=
  ⟨toBE_length _ _, ofBE_toBE _ _ h⟩

/-- the sanity check accepts a 256-byte public value exactly when it is numerically below p -/
theorem sanitycheck_iff (pub : List UInt8) (h : pub.length = 256) :
    sanitycheck pub = some (decide (Spec.DH.ofBE pub < Spec.DH.p)) := by
  unfold sanitycheck
  rw [gen_constants.2.2.2.2.2.2.2.2.2.2, gen_constants.2.2.2.2.2.2.2.2.2.1]
  have e1 : pub.take 256 = pub := by rw [← h, List.take_length]
  have e2 : Gen.DH.group14.take 256 = Gen.DH.group14 := by
    rw [← gen_group14_is_rfc3526.1, List.take_length]
  rw [e1, e2, memcmp_eq pub Gen.DH.group14 (by rw [h, gen_group14_is_rfc3526.1]), gen_group14_is_rfc3526.2]
  simp only [rejectBy, if_true, Option.map_some]
  congr 1
  by_cases hc : ofBE pub < Spec.DH.p
  · simp [hc]
  · rw [if_neg hc]
    split <;> simp [hc]

example : (List.replicate 32 (7 : UInt8)).length = 32 := by decide
example : sanitycheck (List.replicate 256 0xff) = some false := by decide +kernel
example : sanitycheck (List.replicate 255 0 ++ [1]) = some true := by decide +kernel

/-! ## The functions the executables run

`pmodel dh` applies `Model.DHStep.stepOp` to every parsed line (L1 = the specified value `specPow`, L2 = the
model of crypto_dh.c), `pmodel dhmon` applies `Model.DHStep.monStep`; the drivers only parse and print. -/

open Percival.Model.DHStep in
/-- the value printed at L1 is the specified one: `a^(2^258 + x) mod p`, big-endian in 256 bytes -/
theorem exec_spec_value (a : Nat) (priv : List UInt8) :
    specPow a priv = toBE 256 (a^(Spec.DH.offset + Spec.DH.ofBE priv) % Spec.DH.p) := by
  unfold specPow; rw [Proofs.DH.powMod_eq]

open Percival.Model.DHStep in
example : (specPow 2 (List.replicate 32 0)).length = 256 := by
  rw [exec_spec_value, Proofs.DH.toBE_length]

open Percival.Model.DHStep in
/-- **L2 = L1 on every line within the contract** (32-byte private value and blinding): the model's result in
the `Out` of `stepOp` is `some` of the specified value, for public-key generation, key generation and the
shared-key computation (any peer value); for `sanity` (256-byte peer value) both parts agree. -/
theorem exec_model_eq_spec :
    (∀ priv b : List UInt8, priv.length = 32 → b.length = 32 →
      stepOp (.pub priv (some b)) = .value (specPow 2 priv) (some (specPow 2 priv))) ∧
    (∀ y priv b : List UInt8, priv.length = 32 → b.length = 32 →
      stepOp (.compute y priv (some b)) = .value (specPow (Spec.DH.ofBE y) priv) (some (specPow (Spec.DH.ofBE y) priv))) ∧
    (∀ priv b : List UInt8, priv.length = 32 → b.length = 32 →
      stepOp (.generate (some priv) (some b)) = .generated priv (specPow 2 priv) (some (specPow 2 priv))) ∧
    (∀ y : List UInt8, y.length = 256 →
      stepOp (.sanity y) = .sanity (decide (Spec.DH.ofBE y < Spec.DH.p)) (some (decide (Spec.DH.ofBE y < Spec.DH.p)))) := by
  refine ⟨?_, ?_, ?_, ?_⟩
  · intro priv b hp hb
    simp only [stepOp, exec_spec_value, generatePub_eq priv b hp hb, Spec.DH.pub]
  · intro y priv b hp hb
    simp only [stepOp, exec_spec_value, compute_eq y priv b hp hb, Spec.DH.shared]
  · intro priv b hp hb
    simp only [stepOp, exec_spec_value, generatePub_eq priv b hp hb, Spec.DH.pub]
  · intro y hy
    simp only [stepOp, sanitycheck_iff y hy]

example : (List.replicate 32 (7 : UInt8)).length = 32 ∧ (List.replicate 256 (0 : UInt8)).length = 256 := ⟨List.length_replicate .., List.length_replicate ..⟩

open Percival.Model.DHStep in
/-- **Soundness of the monitor for the model**: whatever the model answers to a call within the contract — the
value, or a failure — `monStep` accepts; and it rejects every other value. -/
theorem monitor_accepts_model :
    (∀ priv b : List UInt8, priv.length = 32 → b.length = 32 →
      ∀ v, generatePub priv b = some v → monStep (.pub priv) (.ok v) = true) ∧
    (∀ y priv b : List UInt8, priv.length = 32 → b.length = 32 →
      ∀ v, compute y priv b = some v → monStep (.compute y priv) (.ok v) = true) ∧
    (∀ op, monStep op .fail = true) ∧
    (∀ op v, monStep op (.ok v) = true ↔ v = want op) := by
  refine ⟨?_, ?_, fun _ => rfl, fun op v => by simp [monStep]⟩
  · intro priv b hp hb v hv
    rw [generatePub_eq priv b hp hb] at hv
    have hv' := (Option.some.inj hv).symm
    have h : toBE 256 (Spec.DH.pub (Spec.DH.ofBE priv)) = want (.pub priv) := by
      simp only [want, exec_spec_value, Spec.DH.pub]
    exact decide_eq_true (hv'.trans h)
  · intro y priv b hp hb v hv
    rw [compute_eq y priv b hp hb] at hv
    have hv' := (Option.some.inj hv).symm
    have h : toBE 256 (Spec.DH.shared (Spec.DH.ofBE y) (Spec.DH.ofBE priv)) = want (.compute y priv) := by
      simp only [want, exec_spec_value, Spec.DH.shared]
    exact decide_eq_true (hv'.trans h)

open Percival.Model.DHStep in
example : monStep (.pub (List.replicate 32 0)) (.ok [1, 2, 3]) = false := by decide +kernel

/-! ## The monitor reads what is printed

`monitor_accepts_model` is about typed answers (`.ok v` with `v` the value the model computes, `.fail`).  The text
`pmodel dhmon` reads is the implementation's L1 part, `ok <hex of the value it computed>` / `fail` — for the model:
`Driver/Dh.optToks m`, the tokens of the *L2* part `pmodel dh` prints (its L1 part, `Driver/Dh.l1Toks`, is the
specified value).  `Proofs/DhAns.lean`: hex printing and reading of values and of the operation line. -/

open Percival.Model.DHStep Percival.Proofs.DhAns in
/-- **Reading the printed tokens gives the typed answer**: for every outcome `m` of a call (`some v` / `none`)
`parseAns (optToks m)` is `.ok v` / `.fail`; for every typed output `o` of `pmodel dh`, `parseAns (l1Toks o) = o.ans`
(`.fail`, `.ok <specified value>`, and `.other` for the lines that are not answers of the failure-injection protocol);
the printed texts split back into exactly these tokens at the spaces (no token contains one), and `render o` is the
L1 tokens joined by single spaces, then ` | ` and the L2 part.  Not covered: that `Driver/Loop.loopMon` cuts the line
with `String.splitOn " "` (not the `String.split ' '` of the statement) and `tools/vlib.py` at ` | `; `KAT/DhAns.lean`
tests these on an output of every shape. -/
theorem monitor_reads_printed_answer (o : Out) (m : Option (List UInt8)) :
    (Driver.Dhmon.parseAns (Driver.Dh.optToks m) = ansOfOpt m ∧
     Driver.Dsmon.splitCh ' ' (Driver.Dh.showOpt m) = Driver.Dh.optToks m) ∧
    (Driver.Dhmon.parseAns (Driver.Dh.l1Toks o) = o.ans ∧
     Driver.Dsmon.splitCh ' ' (" ".intercalate (Driver.Dh.l1Toks o)) = Driver.Dh.l1Toks o ∧
     Driver.Dh.render o =
       " ".intercalate (Driver.Dh.l1Toks o) ++ (match Driver.Dh.l2Str o with | some s => " | " ++ s | none => "")) :=
  ⟨⟨parseAns_optToks m, split_opt m⟩, parseAns_l1Toks o, split_l1 o, rfl⟩

/-- the tokens of real lines -/
example : Driver.Dh.l1Toks (.value [0, 1, 254] (some [7])) = ["ok", "0001fe"] ∧
    Driver.Dh.optToks (some [7]) = ["ok", "07"] ∧ Driver.Dh.optToks none = ["fail"] ∧
    Driver.Dh.l1Toks (.generated [1] [2] none) = ["ok", "01", "02"] := by decide +kernel

open Percival.Model.DHStep Percival.Driver Percival.Proofs.DhAns in
/-- **`pmodel dhmon` prints `ok` on the model's printed answer** — `Driver/Dhmon.mon`, the whole function the
executable applies to the tokens of the operation line and of the answer line, evaluated on printed text: for a
32-byte private value and blinding (any peer value), on the operation line `pub` / `pubf k` / `compute` / `computef k`
(the fields after the private value are not read by the monitor) and

* the tokens of what the model of crypto_dh.c computes (`generatePub` / `compute`: `ok <value>`, or `fail`), or
* `fail` (a call may fail), or
* the L1 tokens of the line `pmodel dh` prints for the call (`stepOp`: the specified value; `fail | fail` with a
  failing blinding), or
* the tokens of the line `pmodel dhmon model` prints (`Dhmon.model`),

the verdict is `ok`; and an answer `ok <v>` is accepted only if `v` is the specified value. -/
theorem monitor_accepts_printed (priv b : List UInt8) (hp : priv.length = 32) (hb : b.length = 32)
    (y : List UInt8) (k bt : String) :
    (∀ op ∈ [["pub", hexOfBytes priv, bt], ["pubf", k, hexOfBytes priv, bt]],
      (Dhmon.mon () op (Dh.optToks (generatePub priv b))).2 = "ok" ∧
      (Dhmon.mon () op (Dh.optToks none)).2 = "ok" ∧
      (Dhmon.mon () op (Dh.l1Toks (stepOp (.pub priv (some b))))).2 = "ok" ∧
      (Dhmon.mon () op (Dh.l1Toks (stepOp (.pub priv none)))).2 = "ok" ∧
      (Dhmon.mon () op (Dsmon.splitCh ' ' (Dhmon.model () op).2)).2 = "ok" ∧
      ∀ v, (Dhmon.mon () op (Dh.optToks (some v))).2 = "ok" ↔ v = specPow 2 priv) ∧
    (∀ op ∈ [["compute", hexOfBytes y, hexOfBytes priv, bt], ["computef", k, hexOfBytes y, hexOfBytes priv, bt]],
      (Dhmon.mon () op (Dh.optToks (compute y priv b))).2 = "ok" ∧
      (Dhmon.mon () op (Dh.optToks none)).2 = "ok" ∧
      (Dhmon.mon () op (Dh.l1Toks (stepOp (.compute y priv (some b))))).2 = "ok" ∧
      (Dhmon.mon () op (Dh.l1Toks (stepOp (.compute y priv none)))).2 = "ok" ∧
      (Dhmon.mon () op (Dsmon.splitCh ' ' (Dhmon.model () op).2)).2 = "ok" ∧
      ∀ v, (Dhmon.mon () op (Dh.optToks (some v))).2 = "ok" ↔ v = specPow (Spec.DH.ofBE y) priv) := by
  have hpub : generatePub priv b = some (want (.pub priv)) := by
    rw [generatePub_eq priv b hp hb]; simp only [want, exec_spec_value, Spec.DH.pub]
  have hcomp : compute y priv b = some (want (.compute y priv)) := by
    rw [compute_eq y priv b hp hb]; simp only [want, exec_spec_value, Spec.DH.shared]
  have key : ∀ (op : List String) (o : MOp), Dhmon.parseOp op = some o → ∀ model : Option (List UInt8),
      (Dhmon.mon () op (Dh.optToks (some (want o)))).2 = "ok" ∧
      (Dhmon.mon () op (Dh.optToks none)).2 = "ok" ∧
      (Dhmon.mon () op (Dh.l1Toks (.value (want o) model))).2 = "ok" ∧
      (Dhmon.mon () op (Dh.l1Toks .failed)).2 = "ok" ∧
      (Dhmon.mon () op (Dsmon.splitCh ' ' (Dhmon.model () op).2)).2 = "ok" ∧
      ∀ v, (Dhmon.mon () op (Dh.optToks (some v))).2 = "ok" ↔ v = want o := by
    intro op o hop model
    refine ⟨?_, ?_, ?_, mon_l1Toks_failed op o hop, ?_, ?_⟩
    · rw [mon_optToks op o _ hop]; simp [ansOfOpt, monStep]
    · rw [mon_optToks op o _ hop]; simp [ansOfOpt, monStep]
    · rw [mon_l1Toks_value op o _ _ hop]; simp [monStep]
    · rw [model_line op o hop, ← Dh.showOpt, split_opt, mon_optToks op o _ hop]; simp [ansOfOpt, monStep]
    · intro v
      rw [mon_optToks op o _ hop]
      by_cases h : v = want o <;> simp [ansOfOpt, monStep, h]
  constructor
  · intro op hop
    have hop' : Dhmon.parseOp op = some (.pub priv) := by
      rcases List.mem_cons.1 hop with rfl | hop
      · exact parseOp_pub priv bt
      · rw [List.mem_singleton.1 hop]; exact parseOp_pubf k priv bt
    have := key op _ hop' (generatePub priv b)
    simpa only [hpub, stepOp, want] using this
  · intro op hop
    have hop' : Dhmon.parseOp op = some (.compute y priv) := by
      rcases List.mem_cons.1 hop with rfl | hop
      · exact parseOp_compute y priv bt
      · rw [List.mem_singleton.1 hop]; exact parseOp_computef k y priv bt
    have := key op _ hop' (compute y priv b)
    simpa only [hcomp, stepOp, want] using this

example : (List.replicate 32 (7 : UInt8)).length = 32 := List.length_replicate ..
open Percival.Model.DHStep Percival.Driver in
/-- the monitor executable does reject a printed wrong value, and an unreadable answer -/
example : (Dhmon.mon () ["pubf", "3", hexOfBytes (List.replicate 32 0), "-"] ["ok", "010203"]).2 ≠ "ok" ∧
    (Dhmon.mon () ["pubf", "3", hexOfBytes (List.replicate 32 0), "-"] ["ok", "xyz"]).2 ≠ "ok" := by
  constructor
  · rw [show ["ok", "010203"] = Dh.optToks (some [1, 2, 3]) by decide +kernel,
      Proofs.DhAns.mon_optToks _ (.pub (List.replicate 32 0)) _ (Proofs.DhAns.parseOp_pubf ..)]
    rw [if_neg (by decide +kernel)]; decide
  · decide +kernel

end Percival.C10
