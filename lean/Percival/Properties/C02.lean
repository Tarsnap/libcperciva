import Percival.Proofs.AesCtr
import Percival.Proofs.AesNi
import Percival.Proofs.AesStep
import Percival.KAT.Aes
/-!
# C02 — AES-CTR = SP 800-38A CTR with FIPS-197 AES

The stream object against the keystream for any block function, the AES-NI key expansion and block encryption against
FIPS-197, the data taken from the source (`Gen`), and the function the executable runs.  Proofs are in
`Proofs/AesCtr.lean`, `Proofs/AesNi.lean`, `Proofs/AesStep.lean`.

`enc : κ → Bytes → Bytes` is the block cipher under an expanded key (any function that maps 16-byte
blocks to 16-byte blocks); `Model.AesCtr` is the statement-level model of `crypto_aesctr*.c`.
A `Call` is one `crypto_aesctr_stream` call: its input bytes and whether the dispatcher takes the
AES-NI routing for it (`hw`; only consulted for calls of ≥ 16 bytes, exactly as in the C).
-/
namespace Percival.C02
open Percival.Spec Percival.Model.AesCtr Percival.Proofs.AesCtr

/-- all input bytes of a sequence of calls, in order -/
abbrev allInput (calls : List Call) : List UInt8 := (calls.map (·.data)).flatten

/-- **P1.**  For every block function, key, nonce, initial memory contents, and every sequence of stream
    calls of any sizes (0-length, sub-block, straddling, multi-block) with *every* routing of each call to the
    portable or the bulk path, totalling < 2⁶⁴ bytes: no call fails, each call returns as many bytes as it
    was given, and the concatenated outputs are the concatenated inputs XORed with the keystream
    `E(nonce_be64 ‖ 0_be64) ‖ E(nonce_be64 ‖ 1_be64) ‖ …` of SP 800-38A.  Counter carries out of the low
    byte (block 256), the low two bytes (block 65536), … are inside this quantifier. -/
theorem ctr_calls_eq_spec {κ : Type} (enc : κ → List UInt8 → List UInt8)
    (hE : ∀ k b, b.length = 16 → (enc k b).length = 16)
    (raw : Raw) (hraw : raw.pblk.length = 16) (key : κ) (nonce : UInt64) (calls : List Call)
    (hlim : (allInput calls).length < 2^64) :
    ∃ s0 s outs, init raw key nonce = some s0 ∧ streamCalls enc s0 calls = some (s, outs) ∧
      outs.flatten = Ctr.stream (enc key) nonce (allInput calls) ∧
      outs.map List.length = calls.map (·.data.length) := by
  obtain ⟨s0, s, outs, h0, hrun, hflat, hlens, _⟩ := init_streamCalls_spec enc key nonce (hE key) raw hraw calls hlim
  exact ⟨s0, s, outs, h0, hrun, hflat, hlens⟩

/-- hypotheses satisfiable / non-trivial: a toy cipher, garbage initial memory, four calls (sub-block, empty,
    straddling multi-block on the bulk path, whole block on the portable path) -/
example : ((init (κ := UInt8) ⟨7, [], List.replicate 16 0xa5⟩ 3 0x0102030405060708).bind fun s0 =>
    (streamCalls (fun k b => b.map (· + k)) s0
      [⟨[1,2,3], true⟩, ⟨[], false⟩, ⟨List.replicate 30 9, true⟩, ⟨List.replicate 16 1, false⟩]).map
      fun r => (r.2.map List.length, r.1.bytectr, r.1.pblk)) =
    some ([3, 0, 30, 16], 49, [1,2,3,4,5,6,7,8, 0,0,0,0,0,0,0,3]) := by decide

/-- **Partition independence.**  Two ways of cutting the same data into calls (and of routing the calls)
    produce the same bytes. -/
theorem ctr_partition_independent {κ : Type} (enc : κ → List UInt8 → List UInt8)
    (hE : ∀ k b, b.length = 16 → (enc k b).length = 16)
    (raw raw' : Raw) (hraw : raw.pblk.length = 16) (hraw' : raw'.pblk.length = 16)
    (key : κ) (nonce : UInt64) (calls calls' : List Call)
    (hsame : allInput calls = allInput calls') (hlim : (allInput calls).length < 2^64) :
    ∃ s0 s outs s0' s' outs', init raw key nonce = some s0 ∧ streamCalls enc s0 calls = some (s, outs) ∧
      init raw' key nonce = some s0' ∧ streamCalls enc s0' calls' = some (s', outs') ∧
      outs.flatten = outs'.flatten := by
  obtain ⟨s0, s, outs, h1, h2, h3, _⟩ := ctr_calls_eq_spec enc hE raw hraw key nonce calls hlim
  obtain ⟨s0', s', outs', h1', h2', h3', _⟩ :=
    ctr_calls_eq_spec enc hE raw' hraw' key nonce calls' (by rw [← hsame]; exact hlim)
  exact ⟨s0, s, outs, s0', s', outs', h1, h2, h1', h2', by rw [h3, h3', hsame]⟩

example : allInput [⟨[1,2,3], true⟩, ⟨[4,5], false⟩] = allInput [⟨[1], false⟩, ⟨[], true⟩, ⟨[2,3,4,5], true⟩] := by
  decide

/-- **Encrypting twice restores the input.**  A second stream with the same key and nonce, fed the output
    of the first under any other partition/routing, returns the original data. -/
theorem ctr_twice_is_identity {κ : Type} (enc : κ → List UInt8 → List UInt8)
    (hE : ∀ k b, b.length = 16 → (enc k b).length = 16)
    (raw raw' : Raw) (hraw : raw.pblk.length = 16) (hraw' : raw'.pblk.length = 16)
    (key : κ) (nonce : UInt64) (calls calls' : List Call) (hlim : (allInput calls).length < 2^64)
    (s0 s : Stream κ) (outs : List (List UInt8))
    (h0 : init raw key nonce = some s0) (hrun : streamCalls enc s0 calls = some (s, outs))
    (hfeed : allInput calls' = outs.flatten) :
    ∃ s0' s' outs', init raw' key nonce = some s0' ∧ streamCalls enc s0' calls' = some (s', outs') ∧
      outs'.flatten = allInput calls := by
  obtain ⟨t0, t, o, g1, g2, g3, _⟩ := ctr_calls_eq_spec enc hE raw hraw key nonce calls hlim
  rw [h0] at g1; cases g1
  rw [hrun] at g2; cases g2
  have hlen : (allInput calls').length = (allInput calls).length := by
    rw [hfeed, g3, stream_length _ _ (hE key)]
  obtain ⟨s0', s', outs', h1', h2', h3', _⟩ :=
    ctr_calls_eq_spec enc hE raw' hraw' key nonce calls' (by rw [hlen]; exact hlim)
  refine ⟨s0', s', outs', h1', h2', ?_⟩
  rw [h3', hfeed, g3, stream_involutive _ _ (hE key)]

example : ((init (κ := UInt8) ⟨0, [], List.replicate 16 0⟩ 3 5).bind fun s0 =>
    (streamCalls (fun k b => b.map (· + k)) s0 [⟨List.replicate 20 7, false⟩]).map fun r =>
      decide (allInput [⟨r.2.flatten.take 3, true⟩, ⟨r.2.flatten.drop 3, true⟩] = r.2.flatten ∧
        r.2.flatten ≠ List.replicate 20 7)) = some true := by decide

/-- **Re-initialisation restarts the keystream.**  After any history, `crypto_aesctr_init2` with a new nonce —
    keeping the key (`newkey = none`, the C's `key == NULL`) or replacing it — makes the following calls
    produce the SP 800-38A stream for that key and nonce from block 0. -/
theorem init2_restarts_keystream {κ : Type} (enc : κ → List UInt8 → List UInt8)
    (hE : ∀ k b, b.length = 16 → (enc k b).length = 16)
    (raw : Raw) (hraw : raw.pblk.length = 16) (key : κ) (nonce : UInt64) (before : List Call)
    (hlim : (allInput before).length < 2^64)
    (newkey : Option κ) (nonce' : UInt64) (calls : List Call) (hlim' : (allInput calls).length < 2^64) :
    ∃ s0 s outs0 s1 s2 outs, init raw key nonce = some s0 ∧ streamCalls enc s0 before = some (s, outs0) ∧
      init2 s newkey nonce' = some s1 ∧ streamCalls enc s1 calls = some (s2, outs) ∧
      outs.flatten = Ctr.stream (enc (pickKey newkey key)) nonce' (allInput calls) := by
  obtain ⟨s0, s, outs0, h0, hrun, _, _, hinvs, _⟩ := init_streamCalls_spec enc key nonce (hE key) raw hraw before hlim
  obtain ⟨s1, h1, hinv1, hz1⟩ := init2_spec enc s newkey nonce' hinvs.len
  have hz1' : s1.bytectr.toNat = 0 := by rw [hz1]; rfl
  rw [hinvs.keyOk] at hinv1
  obtain ⟨s2, outs, hrun2, hflat, _, _, _⟩ :=
    streamCalls_spec enc _ nonce' (hE _) calls s1 hinv1 (by rw [hz1']; simpa [inputs] using hlim')
  refine ⟨s0, s, outs0, s1, s2, outs, h0, hrun, h1, hrun2, ?_⟩
  rw [hflat, hz1', stream_eq_streamAt _ _ (hE _)]; rfl

example : ((init (κ := UInt8) ⟨0, [], List.replicate 16 0⟩ 3 5).bind fun s0 =>
    (streamCalls (fun k b => b.map (· + k)) s0 [⟨List.replicate 21 7, true⟩]).bind fun r =>
      (init2 r.1 none 6).map fun s1 => (r.1.pblk, s1.key, s1.bytectr, s1.pblk)) =
    some ([0,0,0,0,0,0,0,5, 0,0,0,0,0,0,0,1], 3, 0, [0,0,0,0,0,0,0,6, 0,0,0,0,0,0,0,0xff]) := by decide

/-- **The counter block at any index.**  After exactly `16·k` bytes (any partition, any routing) the next
    `cipherblock_generate` encrypts precisely `nonce_be64 ‖ k_be64` — for every `k < 2⁶⁰`, so through every
    carry of the one-byte increment (`k = 256, 65536, 2²⁴, …`). -/
theorem counter_block_at_any_index {κ : Type} (enc : κ → List UInt8 → List UInt8)
    (hE : ∀ k b, b.length = 16 → (enc k b).length = 16)
    (raw : Raw) (hraw : raw.pblk.length = 16) (key : κ) (nonce : UInt64) (calls : List Call) (k : Nat)
    (hk : (allInput calls).length = 16 * k) (hlim : 16 * k < 2^64) :
    ∃ s0 s outs s', init raw key nonce = some s0 ∧ streamCalls enc s0 calls = some (s, outs) ∧
      generate enc s = some s' ∧ s'.pblk = Ctr.counterBlock nonce k ∧
      s'.buf = enc key (Ctr.counterBlock nonce k) := by
  have hin : (inputs calls).length = 16 * k := hk
  obtain ⟨s0, s, outs, h0, hrun, _, _, hinvs, hpos⟩ :=
    init_streamCalls_spec enc key nonce (hE key) raw hraw calls (by rw [hin]; exact hlim)
  rw [hin] at hpos
  have hg := generate_spec s hinvs (by omega)
  have hd : s.bytectr.toNat / 16 = k := by omega
  rw [hd] at hg
  exact ⟨s0, s, outs, _, h0, hrun, hg, rfl, rfl⟩

example : (allInput [⟨List.replicate 20 0, true⟩, ⟨List.replicate 12 0, false⟩]).length = 16 * 2 := by decide

/-- **`crypto_aesctr_buf`** (one-shot) computes the same function. -/
theorem ctr_buf_eq_spec {κ : Type} (enc : κ → List UInt8 → List UInt8)
    (hE : ∀ k b, b.length = 16 → (enc k b).length = 16)
    (raw : Raw) (hraw : raw.pblk.length = 16) (key : κ) (nonce : UInt64) (hw : Bool) (data : List UInt8)
    (hlim : data.length < 2^64) :
    ctrBuf enc hw raw key nonce data = some (Ctr.stream (enc key) nonce data) :=
  ctrBuf_of_raw enc key nonce (hE key) raw hraw hw data hlim

example : ctrBuf (κ := UInt8) (fun k b => b.map (· + k)) true ⟨0, [], List.replicate 16 0⟩ 1 2 [9, 9, 9] =
    some [9 ^^^ 1, 9 ^^^ 1, 9 ^^^ 1] := by decide

/-! ## The block cipher

For the software path (`AES_set_encrypt_key` / `AES_encrypt` of OpenSSL) the block cipher is *modelled* as
FIPS-197 (trusted; observed by L1 on every run).  For the AES-NI path the C is modelled instruction by
instruction (`Model/AesNi.lean`, Intel SDM semantics, immediates/indices from `Gen.AesConst`) and proved
equal to FIPS-197 below. -/

/-- a 128- or 256-bit AES key -/
abbrev AesKey := { k : List UInt8 // k.length = 16 ∨ k.length = 32 }

/-- FIPS-197 under a key -/
def aesEnc (k : AesKey) (b : List UInt8) : List UInt8 := Aes.encryptBlock k.1 b

/-- **AES-CTR with FIPS-197 AES** (instance of P1): for every 128/256-bit key, nonce, call sequence, routing. -/
theorem aes_ctr_calls_eq_spec (raw : Raw) (hraw : raw.pblk.length = 16) (key : AesKey) (nonce : UInt64)
    (calls : List Call) (hlim : (allInput calls).length < 2^64) :
    ∃ s0 s outs, init raw key nonce = some s0 ∧ streamCalls aesEnc s0 calls = some (s, outs) ∧
      outs.flatten = Ctr.stream (Aes.encryptBlock key.1) nonce (allInput calls) ∧
      outs.map List.length = calls.map (·.data.length) :=
  ctr_calls_eq_spec aesEnc (fun k b hb => Proofs.Aes.encryptBlock_length k.1 b k.2 hb) raw hraw key nonce calls hlim

example : ∃ key : AesKey, key.1 = List.replicate 16 0 := ⟨⟨List.replicate 16 0, by decide⟩, rfl⟩

/-- **AES-NI key expansion = FIPS-197 KeyExpansion** (`crypto_aes_key_expand_aesni`, both key sizes):
    the `MKRKEY128`/`MKRKEY256` sequences with the immediates found in the source produce exactly the
    `Nr+1` round keys of §5.2, and `nr` is `Nr`. -/
theorem aesni_keyexp_eq_fips (key : List UInt8) (h : key.length = 16 ∨ key.length = 32) :
    Model.AesNi.keyExpand key = some ⟨Aes.keyExpansion key, key.length / 4 + 6⟩ :=
  Proofs.AesNi.keyExpand_eq_fips key h

example : (Model.AesNi.keyExpand (List.replicate 32 7)).map (·.nr) = some 14 := by decide +kernel

/-- **AES-NI block encryption = FIPS-197 Cipher** (`crypto_aes_key_expand_aesni` then
    `crypto_aes_encrypt_block_aesni`): for every 128/256-bit key and every block. -/
theorem aesni_block_eq_fips (key blk : List UInt8) (h : key.length = 16 ∨ key.length = 32)
    (hb : blk.length = 16) :
    (Model.AesNi.keyExpand key).bind (Model.AesNi.encryptBlock blk) = some (Aes.encryptBlock key blk) :=
  Proofs.AesNi.niKey_encrypt key blk h hb

example : (Model.AesNi.keyExpand Gen.AesConst.selfTestKey0).bind (Model.AesNi.encryptBlock Gen.AesConst.selfTestPtext0) =
    some Gen.AesConst.selfTestCtext0 :=
  (aesni_block_eq_fips _ _ (by decide) (by decide)).trans (congrArg some KAT.Aes.fips197_C1)

/-- the block function of the AES-NI build: expand (at `crypto_aes_key_expand` time), then encrypt -/
def aesniEnc (k : AesKey) (b : List UInt8) : List UInt8 :=
  match (Model.AesNi.keyExpand k.1).bind (Model.AesNi.encryptBlock b) with
  | some c => c
  | none => []

/-- **End to end for the AES-NI build**: instruction-level key expansion and block encryption inside the
    stream state machine (any calls, any routing) = SP 800-38A CTR with FIPS-197 AES. -/
theorem aesni_ctr_calls_eq_spec (raw : Raw) (hraw : raw.pblk.length = 16) (key : AesKey) (nonce : UInt64)
    (calls : List Call) (hlim : (allInput calls).length < 2^64) :
    ∃ s0 s outs, init raw key nonce = some s0 ∧ streamCalls aesniEnc s0 calls = some (s, outs) ∧
      outs.flatten = Ctr.stream (Aes.encryptBlock key.1) nonce (allInput calls) :=
  calls_eq_spec_of_agree aesniEnc (fun k => Aes.encryptBlock k.1)
    (fun k b hb => by unfold aesniEnc; rw [aesni_block_eq_fips k.1 b k.2 hb])
    (fun k b hb => Proofs.Aes.encryptBlock_length k.1 b k.2 hb) raw hraw key nonce calls hlim

example : aesniEnc ⟨Gen.AesConst.selfTestKey1, by decide⟩ Gen.AesConst.selfTestPtext1 = Gen.AesConst.selfTestCtext1 := by
  unfold aesniEnc
  rw [aesni_block_eq_fips _ _ (by decide) (by decide)]
  exact KAT.Aes.fips197_C3

/-! ## `Gen` obligations: data taken from the current source -/

/-- the two self-test vectors in `crypto_aes.c` are FIPS-197 AES (they are FIPS-197 C.1 and C.3) -/
theorem gen_selftest_vectors_are_fips :
    Aes.encryptBlock Gen.AesConst.selfTestKey0 Gen.AesConst.selfTestPtext0 = Gen.AesConst.selfTestCtext0 ∧
    Aes.encryptBlock Gen.AesConst.selfTestKey1 Gen.AesConst.selfTestPtext1 = Gen.AesConst.selfTestCtext1 :=
  ⟨KAT.Aes.fips197_C1, KAT.Aes.fips197_C3⟩

/-- the immediates of the `MKRKEY128` / `MKRKEY256` invocations are FIPS-197's `Rcon[1..10]`, resp.
    `Rcon[1..7]` with the 0xff/0xaa alternation; round-key indices are consecutive; `nr` = Nr -/
theorem gen_aesni_immediates :
    Gen.AesConst.mkrkey128Calls = (List.range 10).map (fun j => (j + 1, Aes.rconByte (j + 1))) ∧
    Gen.AesConst.mkrkey256Calls = (List.range 13).map (fun j =>
      (j + 2, if j % 2 = 0 then (0xff, Aes.rconByte (j / 2 + 1)) else (0xaa, 0x00))) ∧
    Gen.AesConst.nr128 = 10 ∧ Gen.AesConst.nr256 = 14 ∧
    Gen.AesConst.aesencIdx = [1, 2, 3, 4, 5, 6, 7, 8, 9] ∧ Gen.AesConst.aesencIdxLong = [10, 11, 12, 13] := by
  decide

/-! ## The function the executable runs

`pmodel aes [hw]` is `render ∘ Model.AesStep.stepOp ∘ parse` (`Driver/Aes.lean`).  `stepOp` keeps, next to the model's
`struct crypto_aesctr`, a Spec-side description of the stream (`skey`, `nonce`, `pos`) from which the L1 part of
every line is computed, and compares the model's bytes with it (`same`; printed as `model!=spec` when false).
`Proofs.AesStep.ExecInv st`: if a stream object is live, the representation invariant of `struct crypto_aesctr`
holds for `skey`/`nonce` and `bytectr = pos`.  `Op.inContract`: fewer than 2⁶⁴ bytes per stream life (`stream`,
`streamzero`: `pos + length < 2⁶⁴`; the white-box `seek nb`: `16·nb < 2⁶⁴`; `buf`: `length < 2⁶⁴`) — beyond it the
C's `uint64_t bytectr` wraps and the Spec's position does not, so the hypothesis cannot be dropped.  No op breaks the
invariant deliberately: the white-box ops `seek` and `bigstream` write down a state that *satisfies* it
(`exec_seek_is_streamed_state`), and `raw` (the poison bytes of a fresh object) is overwritten by `init`. -/
section exec
open Percival.Model.AesStep Percival.Proofs.AesStep

/-- **Invariant preservation, per step.**  From a state whose Spec-side bookkeeping describes the model's stream
    object, every op within the contract leads to such a state, and its answer is neither `model!=spec` (the model's
    bytes are the Spec's) nor `model-oob` (no out-of-bounds access, failed `assert` or exhausted loop in the model). -/
theorem exec_step_preserves_invariant (st : St) (h : ExecInv st) (op : Op) (hc : op.inContract st = true) :
    ExecInv (stepOp st op).1 ∧ (stepOp st op).2.mismatch = false ∧ (stepOp st op).2 ≠ .modelOob :=
  stepOp_inv st h op hc

/-- the hypotheses hold at a state with a live stream in the middle of a block (AES-256, position 20) -/
example : ExecInv (runOps {} [.expand (List.replicate 32 1), .init 5, .stream (List.replicate 20 7)]).1 ∧
    ((runOps {} [.expand (List.replicate 32 1), .init 5, .stream (List.replicate 20 7)]).1.live.map (·.pos)) = some 20 ∧
    (Op.stream [1, 2, 3]).inContract
      (runOps {} [.expand (List.replicate 32 1), .init 5, .stream (List.replicate 20 7)]).1 = true :=
  ⟨(runOps_inv _ _ (init_inv false) (by decide +kernel)).1, by decide +kernel⟩

/-- **The executable never prints `model!=spec`.**  For every op sequence within the contract, from the initial
    state of `pmodel aes` (`hw = false`) and of `pmodel aes hw`: no answer has `same = false` and none is `model-oob`.
    So on every `stream`/`streamzero`/`bigstream`/`buf` line the bytes computed by the statement-level model of
    crypto_aesctr*.c (either routing) are the L1 part, which is `Spec.Ctr.streamAt`/`stream` of FIPS-197 AES. -/
theorem exec_never_model_ne_spec (hw : Bool) (ops : List Op) (hc : allInContract { hw := hw } ops = true) :
    ∀ o ∈ (runOps { hw := hw } ops).2, o.mismatch = false ∧ o ≠ .modelOob :=
  (runOps_inv ops _ (init_inv hw) hc).2

/-- non-vacuity: a run within the contract whose answers are stream answers (not `skip`): AES-128, a 20-byte call
    crossing a block boundary on the bulk routing, a white-box jump to block 2⁵⁶ − 1, a 33-byte call carrying
    through seven counter bytes, `init2` with a new 256-bit key, a 3-byte call -/
example :
    let ops : List Op := [.expand (List.replicate 16 3), .init 0x0102030405060708, .stream (List.replicate 20 7),
      .seek (2^56 - 1), .stream (List.replicate 33 9), .init2 6 (some (List.replicate 32 4)), .stream [1, 2, 3]]
    allInContract { hw := true } ops = true ∧
    ((runOps { hw := true } ops).2.map fun
      | .stream w same s => (w.length, same, s.bytectr.toNat)
      | .state s => (0, false, s.bytectr.toNat)
      | _ => (0, false, 0)) =
      [(0, false, 0), (0, false, 0), (20, true, 20), (0, false, 16 * (2^56 - 1)), (33, true, 16 * (2^56 - 1) + 33),
       (0, false, 0), (3, true, 3)] := by
  intro ops
  -- `same` is `true` on every line by `exec_never_model_ne_spec`: the model's bytes need not be evaluated, and the
  -- contract and the other columns are evaluated together (they share the run)
  have hb : allInContract { hw := true } ops = true ∧ List.map (fun
      | .stream w _ s => (w.length, true, s.bytectr.toNat)
      | .state s => (0, false, s.bytectr.toNat)
      | _ => (0, false, 0)) (runOps { hw := true } ops).2 =
      [(0, false, 0), (0, false, 0), (20, true, 20), (0, false, 16 * (2^56 - 1)), (33, true, 16 * (2^56 - 1) + 33),
       (0, false, 0), (3, true, 3)] := by decide +kernel +revert
  refine ⟨hb.1, (List.map_congr_left fun o ho => ?_).trans hb.2⟩
  have hm := (exec_never_model_ne_spec true ops hb.1 o ho).1
  cases o with
  | stream w same s => cases same with
    | true => rfl
    | false => cases hm
  | _ => rfl

/-- **The Spec-side bookkeeping is the Spec.**  After `expand key; init nonce`, the L1 parts of any sequence of
    `stream` lines (any sizes, < 2⁶⁴ bytes in total), concatenated, are SP 800-38A CTR with FIPS-197 AES of the
    concatenated inputs; each line has `same = true`. -/
theorem exec_stream_lines_are_spec_stream (hw : Bool) (key : List UInt8) (hk : key.length = 16 ∨ key.length = 32)
    (nonce : UInt64) (ds : List (List UInt8)) (hlim : ds.flatten.length < 2^64) :
    ∃ o1 o2 outs, (runOps { hw := hw } (.expand key :: .init nonce :: ds.map .stream)).2 = o1 :: o2 :: outs ∧
      outs.length = ds.length ∧ (∀ o ∈ outs, ∃ w s, o = .stream w true s) ∧
      (outs.map Out.want).flatten = Ctr.stream (Aes.encryptBlock key) nonce ds.flatten := by
  obtain ⟨hwf, hx⟩ := expandKey_eq key hk
  obtain ⟨s0, h0, hl0⟩ := init_spec ⟨Aes.keyExpansion key, hwf⟩ nonce
  have hrun := runStreams_spec ds
    { hw := hw, key := some ⟨Aes.keyExpansion key, hwf⟩, nikey := Model.AesNi.keyExpand key,
      live := some { s := s0, skey := ⟨Aes.keyExpansion key, hwf⟩, nonce := nonce, pos := 0 } }
    _ rfl hl0 (by simpa using hlim)
  refine ⟨.expanded (if hw then some ((Model.AesNi.keyExpand key).map (·.rkeys.flatten)) else none), .state s0, _, ?_,
    hrun.1, hrun.2.1, ?_⟩
  · simp only [runOps, stepOp, hx, h0]
  · rw [hrun.2.2]
    show Ctr.streamAt (enc ⟨Aes.keyExpansion key, hwf⟩) nonce 0 ds.flatten = _
    rw [← stream_eq_streamAt _ _ (enc_length _)]; rfl

example : (([[1, 2, 3], [], List.replicate 30 (9 : UInt8)] : List (List UInt8)).flatten.length < 2^64) := by decide

/-- **The white-box `seek` is justified.**  `seek (n+1)` applied to a stream object with any history `before` writes
    down exactly the state that the same object has after *any* sequence of calls totalling `16·(n+1)` bytes
    (`counter_block_at_any_index`: counter field = be64(n)), except that `buf` keeps its contents — and `buf` is
    not read before the next `cipherblock_generate` at a block boundary (`Proofs.AesCtr.inv_setBuf`). -/
theorem exec_seek_is_streamed_state (key : Key) (nonce : UInt64) (before calls : List Call) (n : Nat)
    (hb : (allInput before).length < 2^64) (hk : (allInput calls).length = 16 * (n + 1)) (hlim : 16 * (n + 1) < 2^64) :
    ∃ s0 sb outsb s outs, init raw key nonce = some s0 ∧ streamCalls enc s0 before = some (sb, outsb) ∧
      streamCalls enc s0 calls = some (s, outs) ∧ seekState sb n = some { s with buf := sb.buf } := by
  obtain ⟨s0, h0, hinv, hz⟩ := init_of_raw enc raw raw_len key nonce
  obtain ⟨sb, outsb, hrb, _, _, hinvb, _⟩ :=
    streamCalls_spec enc key nonce (enc_length key) before s0 hinv (by rw [hz, Nat.zero_add]; exact hb)
  have hin : (inputs calls).length = 16 * (n + 1) := hk
  obtain ⟨s, outs, hr, _, _, hinvs, hpos⟩ :=
    streamCalls_spec enc key nonce (enc_length key) calls s0 hinv (by rw [hz, hin]; omega)
  rw [hz, hin, Nat.zero_add] at hpos
  exact ⟨s0, sb, outsb, s, outs, h0, hrb, hr, seekState_eq_streamed key nonce sb s n hinvb hinvs hpos⟩

example : (allInput [⟨List.replicate 20 0, true⟩, ⟨List.replicate 12 0, false⟩]).length = 16 * (1 + 1) := by decide

/-- **`pmodel aes hw`: the instruction-level L2 parts are the Spec's.**  For every op sequence (no contract needed): the
    ciphertext that the AESENC/AESENCLAST model prints after `ni=` on a `block` line is the FIPS-197 ciphertext printed
    as L1, and the round keys printed after `rk=` on an `expand` line are FIPS-197 KeyExpansion of a key (`∃ k`: the
    proof takes the key on the line, the statement does not say which) — never `model-oob`. -/
theorem exec_hw_l2_eq_spec (hw : Bool) (ops : List Op) :
    ∀ o ∈ (runOps { hw := hw } ops).2, (∀ ct ni, o = .block ct (some ni) → ni = some ct) ∧
      (∀ rk, o = .expanded (some rk) → ∃ k, rk = some (Aes.keyExpansion k).flatten) :=
  runOps_hw_l2 ops _ (init_keyInv hw)

example : ((runOps { hw := true } [.expand Gen.AesConst.selfTestKey1, .block Gen.AesConst.selfTestPtext1]).2.map fun
      | .block ct (some ni) => (ct, ni)
      | .expanded (some (some rk)) => ([], some (rk.take 4))
      | _ => ([], none)) =
    [([], some (Gen.AesConst.selfTestKey1.take 4)), (Gen.AesConst.selfTestCtext1, some Gen.AesConst.selfTestCtext1)] := by
  -- the `ni=` part is the ciphertext by `exec_hw_l2_eq_spec`: only FIPS-197 is evaluated
  refine (List.map_congr_left fun o ho => ?_).trans
    (?_ : List.map (fun
      | .block ct (some _) => (ct, some ct)
      | .expanded (some (some rk)) => ([], some (rk.take 4))
      | _ => ([], none)) _ = _)
  · obtain ⟨h, _⟩ := exec_hw_l2_eq_spec true _ o ho
    cases o with
    | block ct ni => cases ni with
      | none => rfl
      | some ni => rw [h ct ni rfl]
    | expanded rk => rcases rk with _ | _ | rk <;> rfl
    | _ => rfl
  · decide +kernel

end exec

end Percival.C02
