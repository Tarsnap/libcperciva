import Percival.Proofs.CpuPaths
import Percival.Proofs.CpuAesni
import Percival.Spec.AesFailMon
import Percival.Proofs.AesStep
import Percival.Proofs.CpuStep
import Percival.KAT.Aes
/-!
# C03 — every CPU-accelerated code path computes the same function as the portable one

*What is proved here, for all inputs:* the SSE4.2 `CRC32C_Update_SSE42` (both the 64-bit and the
32-bit-loads variant) tiles the buffer exactly once with aligned loads and computes the byte-wise
CRC, hence a CRC32C stream gives `Spec.Crc32c.crc32c` of the concatenated data **whatever path each
call takes** (every address, every length, every partition, every per-call selection); the SSE2
message schedule of `SHA256_Transform_sse2` is the FIPS 180-4 schedule, hence SHA-256 computed
through the SSE2 transform is `Spec.Sha256.hash`; the SHA-NI transform (`SHA256RNDS2/MSG1/MSG2`) is the FIPS 180-4
compression function; AES-NI key expansion (`AESKEYGENASSIST`, both key sizes) and block encryption
(`AESENC/AESENCLAST`) are FIPS-197 KeyExpansion and Cipher, and the transcription of FIPS-197 they are stated against
is `Spec.Aes`; every line of `pmodel cpu` (`exec_*`) is judged by the Specs, for every build.

*What is assumed:* the instruction semantics of `Model.CpuPaths` / `Model.CpuAesni` (transcribed
from the Intel SDM; each instruction is additionally run against the CPU on random operands by the
`insn` op of the correspondence check).  Not modelled: `cpuid` detection and the self-tests.  The AES-CTR bulk loop of
`crypto_aesctr_aesni.c` enters through C02's statement-level model (`exec_ctr`, for every routing).
-/
namespace Percival.C03
open Percival Percival.Spec Percival.Model.CpuPaths Percival.Proofs.CpuPaths

/-! ## the constants of the current source -/

/-- `CRC32C_Update_SSE42`: thresholds, mask, stride, the loads of both variants; the dispatch
    thresholds of `CRC32C_Update` (8) and `crypto_aesctr_stream` (16); the initial CRC state -/
theorem gen_crc_constants :
    Gen.CpuPaths.sse42MinLen = 8 ∧ Gen.CpuPaths.sse42I0 = 0 ∧ Gen.CpuPaths.sse42PreSub = 8 ∧
    Gen.CpuPaths.sse42PreMask = 7 ∧ Gen.CpuPaths.sse42BlockMod = 8 ∧ Gen.CpuPaths.sse42BodyCmp = "<" ∧
    Gen.CpuPaths.sse42Stride = 8 ∧ Gen.CpuPaths.sse42Loads64 = [(0, 8)] ∧
    Gen.CpuPaths.sse42Loads32 = [(0, 4), (4, 4)] ∧ Gen.CpuPaths.sse42TailBound = 8 ∧
    Gen.CpuPaths.crcDispatchMinLen = 8 ∧ Gen.CpuPaths.crcInitState = 0x82f63b78 ∧
    Gen.CpuPaths.ctrDispatchMinLen = 16 := by
  decide +kernel

/-- the initial CRC state `T_0_0x80` is the Castagnoli polynomial's low 32 coefficients, reflected
    (= the remainder after the implicit leading 1 bit) -/
theorem gen_crc_init_is_castagnoli :
    polyOfState Gen.CpuPaths.crcInitState = Spec.Crc32c.castagnoli.tail := by
  decide +kernel

/-! ## index arithmetic of `CRC32C_Update_SSE42` -/

/-- For every buffer address and every `len ≥ 8`, in both variants, the head / body / tail loops
    visit the offsets `0, 1, …, len − 1` exactly once and in order. -/
theorem sse42_split_covers (v : Variant) (addr len : Nat) (h : 8 ≤ len) :
    (accesses v addr len).flatMap (fun ow => List.range' ow.1 ow.2) = List.range len := by
  rw [consec_flatMap (consec_accesses v addr len h), List.range_eq_range']; rfl

example : accesses .x64 5 21 = [(0,1), (1,1), (2,1), (3, 8), (11, 8), (19,1), (20,1)] := by decide +kernel
example : accesses .x32 5 21 = [(0,1), (1,1), (2,1), (3, 4), (7, 4), (11, 4), (15, 4), (19,1), (20,1)] := by
  decide +kernel

/-- Every access is a single byte, or a load of the variant's width (8 resp. 4 bytes) whose
    *address* is a multiple of that width (in the 64-bit variant: every 8-byte load is 8-aligned). -/
theorem sse42_loads_aligned (v : Variant) (addr len : Nat) :
    ∀ ow ∈ accesses v addr len,
      ow.2 = 1 ∨ (ow.2 = (match v with | .x64 => 8 | .x32 => 4) ∧ (addr + ow.1) % ow.2 = 0) := by
  intro ow how
  rw [accesses_eq, List.mem_append, List.mem_append] at how
  rcases how with (how | how) | how
  · left; simp only [headAcc, List.mem_map] at how; obtain ⟨_, _, rfl⟩ := how; rfl
  · right; exact body_aligned v _ _ _ addr (preBlock_aligned addr) ow how
  · left; simp only [tailAcc, List.mem_map] at how; obtain ⟨_, _, rfl⟩ := how; rfl

example : (accesses .x64 5 21).filter (·.2 ≠ 1) = [(3, 8), (11, 8)] ∧ (5 + 3) % 8 = 0 := by decide +kernel

/-! ## the `CRC32` instruction is the reflected CRC step -/

/-- `_mm_crc32_u64(s, le64(b0…b7))` = eight `_mm_crc32_u8` in address order -/
theorem crc32_u64_eq_8_bytes (s : UInt32) (b0 b1 b2 b3 b4 b5 b6 b7 : UInt8) :
    crc32Insn s [b0, b1, b2, b3, b4, b5, b6, b7] =
      byteStep (byteStep (byteStep (byteStep (byteStep (byteStep (byteStep (byteStep s b0) b1) b2) b3) b4) b5) b6) b7 :=
  crc32Insn_eq_fold s _

/-- `_mm_crc32_u32(s, le32(b0…b3))` = four `_mm_crc32_u8` in address order -/
theorem crc32_u32_eq_4_bytes (s : UInt32) (b0 b1 b2 b3 : UInt8) :
    crc32Insn s [b0, b1, b2, b3] = byteStep (byteStep (byteStep (byteStep s b0) b1) b2) b3 :=
  crc32Insn_eq_fold s _

/-- `_mm_crc32_u8` is the CRC step of the specification: in polynomial terms the new remainder is
    `(r·x⁸ + byte·x³²) mod castagnoli` (`feed`), bits of the byte least significant first. -/
theorem crc32_u8_eq_byte_step (s : UInt32) (b : UInt8) :
    polyOfState (byteStep s b) =
      Spec.Crc32c.mod (Spec.Crc32c.addFront (Spec.Crc32c.bitsOfByte b ++ List.replicate 32 false) (polyOfState s))
        Spec.Crc32c.castagnoli := by
  have := polyOfState_fold s [b]
  simp only [List.foldl_cons, List.foldl_nil] at this
  rw [this]
  simp only [feed, Spec.Crc32c.mod, length_addFront, length_castagnoli, Spec.Crc32c.bitsLSB,
    List.flatMap_cons, List.flatMap_nil, List.append_nil, List.length_append, List.length_replicate]
  rfl

example : byteStep 0x82f63b78 0x68 = 282866004 ∧ crc32Insn 0 [1, 0, 0, 0] = 0xdd45aab8 := by
  rw [show byteStep 0x82f63b78 0x68 = [0x68].foldl byteStep 0x82f63b78 from rfl, crc32Insn_eq_fold, fold_byteStep_crcN,
    fold_byteStep_crcN]
  decide +kernel

/-- **The accelerated update is the byte step folded over the data** — for every address (all
    residues mod 8, indeed every `addr`), every length ≥ 8, both variants; none of the three
    `assert`s of the C function can fail and no load leaves the buffer (`some`). -/
theorem sse42_eq_bytewise (v : Variant) (addr : Nat) (s : UInt32) (buf : Bytes) (h : 8 ≤ buf.length) :
    updateSse42 v addr s buf = some (buf.foldl byteStep s) :=
  updateSse42_eq v addr s buf h

example : updateSse42 .x32 3 0x82f63b78 [104, 101, 108, 108, 111, 32, 119, 111, 114, 108, 100] = some 0xaa0b13ca := by
  rw [updateSse42_eq _ _ _ _ (by decide), fold_byteStep_crcN]
  decide +kernel

/-- Out of contract (`len < 8`, which `CRC32C_Update` never passes): the model says `none`. -/
theorem sse42_short_is_out_of_contract (v : Variant) (addr : Nat) (s : UInt32) (buf : Bytes)
    (h : buf.length < 8) : updateSse42 v addr s buf = none := by
  simp only [updateSse42, minLen_eq]; rw [if_pos h]

example : updateSse42 .x64 0 0 [1, 2, 3] = none := by decide +kernel

/-- **Feature selection cannot change a CRC32C.**  A stream of `CRC32C_Update` calls — each at its
    own address, of its own length (0, < 8, ≥ 8, …), each taking whichever path (`none` =
    portable, `some .x64`, `some .x32`; the selection may even differ from call to call) — never
    fails and ends in a state whose little-endian encoding (`CRC32C_Final`) is
    `Spec.Crc32c.crc32c` of the concatenated data. -/
theorem crc_any_path_eq_spec (calls : List Call) :
    ∃ s, crcStream calls Gen.CpuPaths.crcInitState = some s ∧
      crcFinal s = Spec.Crc32c.crc32c (calls.flatMap (·.data)) :=
  ⟨_, crcStream_eq calls _, fold_eq_spec _⟩

example : crcStream [⟨some .x64, 5, [104, 101, 108]⟩, ⟨some .x64, 8, [108, 111, 32, 119, 111, 114, 108, 100]⟩,
    ⟨none, 0, []⟩] Gen.CpuPaths.crcInitState = some 0xaa0b13ca := by
  rw [crcStream_eq, fold_byteStep_crcN]
  decide +kernel

/-- Corollary: two streams with the same concatenated data agree, whatever their partitions,
    alignments and paths. -/
theorem crc_partition_and_path_independent (c1 c2 : List Call)
    (h : c1.flatMap (·.data) = c2.flatMap (·.data)) :
    (crcStream c1 Gen.CpuPaths.crcInitState).map crcFinal = (crcStream c2 Gen.CpuPaths.crcInitState).map crcFinal := by
  rw [crcStream_eq, crcStream_eq, h]

example : (crcStream [⟨some .x32, 1, [1,2,3,4,5,6,7,8,9]⟩] Gen.CpuPaths.crcInitState).map crcFinal =
    (crcStream [⟨none, 0, [1,2,3,4]⟩, ⟨some .x64, 7, [5,6,7,8,9]⟩] Gen.CpuPaths.crcInitState).map crcFinal :=
  crc_partition_and_path_independent _ _ rfl

/-! ## the SSE2 message schedule of `SHA256_Transform_sse2` -/

/-- every immediate of `sha256_sse2.c` that `Model.CpuPaths` §4 writes as a literal: the rotation
    and shift counts of `s0_128` (7, 18, 3) and `s1_128_*` (`srli_epi64` by 17, 19; `srli_epi32` by
    10), every `_MM_SHUFFLE`, the byte shifts by 8, `mm_bswap_epi32`, the argument wiring of `MSG4`
    and of its four calls, the four block loads, the loop `for (i = 0; i < 64; i += 16)` with
    `if (i == 48) break`, the sixteen `RNDr` lines per iteration -/
theorem gen_sse2_constants :
    Gen.CpuPaths.sse2S0 = [7, 18, 3] ∧
    Gen.CpuPaths.sse2S1High = ([1, 1, 0, 0], [17, 19], 10, [2, 0, 2, 0], 8) ∧
    Gen.CpuPaths.sse2S1Low = ([3, 3, 2, 2], [17, 19], 10, [2, 0, 2, 0], 8) ∧
    Gen.CpuPaths.sse2SpanShuf = [0, 3, 2, 1] ∧
    Gen.CpuPaths.sse2Bswap = (8, 8, [2, 3, 0, 1], [2, 3, 0, 1]) ∧
    Gen.CpuPaths.sse2Msg4Args = [2, 3, 0, 1, 0, 3] ∧
    Gen.CpuPaths.sse2Loads = [(0, 0, 0), (1, 16, 4), (2, 32, 8), (3, 48, 12)] ∧
    Gen.CpuPaths.sse2Msg4Calls =
      [(0, [0, 1, 2, 3], 16), (1, [1, 2, 3, 0], 20), (2, [2, 3, 0, 1], 24), (3, [3, 0, 1, 2], 28)] ∧
    Gen.CpuPaths.sse2Loop = [0, 64, 16, 48] ∧
    Gen.CpuPaths.sse2RoundsPerIter = [0, 1, 2, 3, 4, 5, 6, 7, 8, 9, 10, 11, 12, 13, 14, 15] := by
  decide +kernel

/-- the round code of `sha256_sse2.c` (`Ch Maj ROTR S0 S1 RND RNDr`, the sixteen `RNDr` lines, the
    initial `memcpy(S, state, 32)` and the final `state[i] += S[i]`) is textually the portable
    file's, and its `Krnd` table is FIPS 180-4 §4.2.2 -/
theorem gen_sse2_rounds_are_portable :
    Gen.CpuPaths.sse2RoundCodeSameAsPortable = true ∧ Gen.CpuPaths.sse2K = Sha256.K := by
  decide +kernel

/-- `sha256_shani.c`: the 64 immediates of the sixteen `RNDMSG` lines are `K₀ … K₆₃`; the byte selector of
    `be32dec_128`; the four `0x1B` state shuffles; `RND4` (order of `K` in `IMM4`, which of `S[0]`/`S[1]` each
    `SHA256RNDS2` reads and writes, the 8-byte shift between them); `MSG4` (`W[(i+k) % 4]` offsets, `PALIGNR`
    by 4); `RNDMSG` (`if (i < 12) MSG4(W, i + 4)`); the straight-line shape of the function -/
theorem gen_shani_constants :
    Gen.CpuPaths.shaniK = Sha256.K ∧
    Gen.CpuPaths.shaniBswapSel = [12, 13, 14, 15, 8, 9, 10, 11, 4, 5, 6, 7, 0, 1, 2, 3] ∧
    Gen.CpuPaths.shaniStateShuf = [0x1B, 0x1B, 0x1B, 0x1B] ∧
    Gen.CpuPaths.shaniRnd4 = [3, 2, 1, 0, 1, 1, 0, 8, 0, 0, 1] ∧
    Gen.CpuPaths.shaniMsg4 = [0, 0, 1, 0, 0, 3, 2, 4, 0, 0, 3] ∧
    Gen.CpuPaths.shaniRndMsg = [12, 4] ∧
    Gen.CpuPaths.shaniShapeRecognised = true := by
  decide +kernel

/-- `PSRLQ` by 17 (19) on a 64-bit lane that holds the same 32-bit word twice leaves `ROTR¹⁷`
    (`ROTR¹⁹`) of that word in the low half — the trick behind `s1_128_low/high` -/
theorem sse2_srli_epi64_is_rotr (x : UInt32) :
    (srli64Lane x x 17).1 = Sha256.rotr x 17 ∧ (srli64Lane x x 19).1 = Sha256.rotr x 19 :=
  ⟨srli64Lane_rot x 17 (by decide) (by decide), srli64Lane_rot x 19 (by decide) (by decide)⟩

example : (srli64Lane 0x80000001 0x80000001 17).1 = 0x0000c000 := by decide +kernel

/-- **`MSG4` computes the next four schedule words.**  With the sixteen previous words in
    `X0 … X3` (`X0 = W[j-16..j-13]`, …, `X3 = W[j-4..j-1]`), the four lanes of `MSG4(X0,X1,X2,X3)`
    are the next four values of the FIPS 180-4 recurrence (`Spec.Sha256.extend` keeps its list
    newest first). -/
theorem sse2_msg4_eq_schedule (X0 X1 X2 X3 : V4) (older : List UInt32) :
    Sha256.extend 4 (X3.lanes.reverse ++ X2.lanes.reverse ++ X1.lanes.reverse ++ X0.lanes.reverse ++ older) =
      (msg4 X0 X1 X2 X3).lanes.reverse ++
        (X3.lanes.reverse ++ X2.lanes.reverse ++ X1.lanes.reverse ++ X0.lanes.reverse ++ older) :=
  extend4 0 X0 X1 X2 X3 older

example : msg4 ⟨1, 2, 3, 4⟩ ⟨5, 6, 7, 8⟩ ⟨9, 10, 11, 12⟩ ⟨13, 14, 15, 16⟩ =
    ⟨Sha256.smallSigma1 15 + 10 + Sha256.smallSigma0 2 + 1, 101367821, 3020350282, 1107812741⟩ := by decide +kernel

/-- `mm_bswap_epi32(_mm_loadu_si128(p))` = the four big-endian words at `p` -/
theorem sse2_load_is_be32 (b0 b1 b2 b3 b4 b5 b6 b7 b8 b9 b10 b11 b12 b13 b14 b15 : UInt8) :
    loadBswap [b0, b1, b2, b3, b4, b5, b6, b7, b8, b9, b10, b11, b12, b13, b14, b15] =
      some ⟨be32 b0 b1 b2 b3, be32 b4 b5 b6 b7, be32 b8 b9 b10 b11, be32 b12 b13 b14 b15⟩ :=
  loadBswap_eq ..

/-- **The array `W[0..63]` that `SHA256_Transform_sse2` computes is the FIPS 180-4 message
    schedule of the block** (for every 64-byte block). -/
theorem sse2_schedule_eq_spec (block : Bytes) (h : block.length = 64) :
    sse2W block = some (Sha256.schedule block) := sse2W_eq block h

/-- not a block: the model says so instead of inventing a value -/
theorem sse2_schedule_needs_a_block (block : Bytes) (h : block.length ≠ 64) : sse2W block = none := by
  simp [sse2W, loadBlock, h]

/-- **`SHA256_Transform_sse2` is the FIPS 180-4 compression function**, given that its rounds are
    the portable file's (`gen_sse2_rounds_are_portable`; that the portable macro structure is the
    textbook round is C01's `sha256_transform_eq_fips`). -/
theorem sse2_transform_eq_compress (H : Sha256.Regs) (block : Bytes) (h : block.length = 64) :
    transformSse2 H block = some (Sha256.compress H block) := transformSse2_eq H block h

example : transformSse2 Sha256.H0 (0x61 :: 0x62 :: 0x63 :: 0x80 :: (List.replicate 59 0 ++ [0x18])) =
    some ⟨0xba7816bf, 0x8f01cfea, 0x414140de, 0x5dae2223, 0xb00361a3, 0x96177a9c, 0xb410ff61, 0xf20015ad⟩ := by
  decide +kernel

/-! ## SHA-NI -/

/-- `RND4` of `sha256_shani.c` (two `SHA256RNDS2` with the SDM's semantics, `S[0] = ABEF`,
    `S[1] = CDGH`) is four FIPS 180-4 rounds on the working variables -/
theorem shani_rnd4_is_four_rounds (r : Sha256.Regs) (w : V4) (k0 k1 k2 k3 : UInt32) :
    rnd4 ⟨abef r, cdgh r⟩ w k0 k1 k2 k3 =
      ⟨abef (Sha256.round (Sha256.round (Sha256.round (Sha256.round r k0 w.x0) k1 w.x1) k2 w.x2) k3 w.x3),
       cdgh (Sha256.round (Sha256.round (Sha256.round (Sha256.round r k0 w.x0) k1 w.x1) k2 w.x2) k3 w.x3)⟩ :=
  rnd4_eq r w k0 k1 k2 k3

/-- `MSG4` of `sha256_shani.c` (`SHA256MSG1`, `PALIGNR`, `SHA256MSG2`) computes the same four
    schedule words as `MSG4` of `sha256_sse2.c`, i.e. (`sse2_msg4_eq_schedule`) the FIPS recurrence -/
theorem shani_msg4_eq_schedule (X0 X1 X2 X3 : V4) (older : List UInt32) :
    Sha256.extend 4 (X3.lanes.reverse ++ X2.lanes.reverse ++ X1.lanes.reverse ++ X0.lanes.reverse ++ older) =
      (msg4ni X0 X1 X2 X3).lanes.reverse ++
        (X3.lanes.reverse ++ X2.lanes.reverse ++ X1.lanes.reverse ++ X0.lanes.reverse ++ older) := by
  rw [msg4ni_eq]; exact extend4 0 X0 X1 X2 X3 older

example : msg4ni ⟨1, 2, 3, 4⟩ ⟨5, 6, 7, 8⟩ ⟨9, 10, 11, 12⟩ ⟨13, 14, 15, 16⟩ =
    ⟨67559435, 101367821, 3020350282, 1107812741⟩ := by decide +kernel

/-- **`SHA256_Transform_shani` is the FIPS 180-4 compression function** for every chaining value
    and every 64-byte block (state shuffles in and out, `be32dec_128`, sixteen `RNDMSG`). -/
theorem shani_transform_eq_compress (H : Sha256.Regs) (block : Bytes) (h : block.length = 64) :
    transformShani H block = some (Sha256.compress H block) := transformShani_eq H block h

example : transformShani Sha256.H0 (0x61 :: 0x62 :: 0x63 :: 0x80 :: (List.replicate 59 0 ++ [0x18])) =
    some ⟨0xba7816bf, 0x8f01cfea, 0x414140de, 0x5dae2223, 0xb00361a3, 0x96177a9c, 0xb410ff61, 0xf20015ad⟩ := by
  decide +kernel

theorem shani_transform_needs_a_block (H : Sha256.Regs) (block : Bytes) (h : block.length ≠ 64) :
    transformShani H block = none := by
  simp [transformShani, loadBlockNi, h]

/-- **Feature selection cannot change a SHA-256 chaining value.**  Any sequence of 64-byte blocks,
    each compressed by whichever accelerated variant (SSE2 or SHA-NI; the choice may differ per
    block), yields exactly the specification's chaining `foldl compress`; so SHA-256 through any
    mixture of paths is `Spec.Sha256.hash` by C01's generic Merkle–Damgård theorem, whose compression
    function is a parameter.  (The portable variant = `Spec.Sha256.compress` is C01's
    `sha256_transform_eq_fips`.) -/
theorem sha_any_accel_path_eq_spec (H : Sha256.Regs) (calls : List (ShaPath × Bytes))
    (h : ∀ pb ∈ calls, pb.2.length = 64) :
    absorbAccel H calls = some ((calls.map (·.2)).foldl Sha256.compress H) := absorbAccel_eq H calls h

example : absorbAccel Sha256.H0 [(.shani, List.replicate 64 0x61), (.sse2, List.replicate 64 0x62)] =
    some ([List.replicate 64 0x61, List.replicate 64 0x62].foldl Sha256.compress Sha256.H0) :=
  sha_any_accel_path_eq_spec _ _ (by decide)

/-! ## AES-NI (`crypto_aes_aesni.c`)

`Model.CpuAesni.Fips` is a self-contained transcription of FIPS-197 (C02 owns `Spec.Aes`; the two
are identified at the end of this file: `fips_transcription_eq_spec`, `aesni_encrypt_eq_spec`); FIPS-197 Appendix C.1 / C.3 are proved about it (and about the
AES-NI model) in `KAT/CpuAesni.lean`. -/

section aesni
open Percival.Model.CpuAesni Percival.Proofs.CpuAesni

/-- every immediate and index of `crypto_aes_aesni.c` the model relies on: `MKRKEY128/256` (which
    round keys feed `_s` and `_t`, byte shifts 4 and 8, shuffle `0xff`), the ten AES-128 rcon
    immediates, the thirteen AES-256 (shuffle, rcon) pairs, the round-key indices of the encrypt
    function with its `if (nr > 10)`, `len == 16 → nr = 10`, `len == 32 → nr = 14`, the key loads -/
theorem gen_aesni_constants :
    Gen.CpuPaths.aesniMkrkey128 = [1, 1, 4, 8] ∧ Gen.CpuPaths.aesniShuffle128 = 0xff ∧
    Gen.CpuPaths.aesniMkrkey256 = [2, 1, 4, 8] ∧
    Gen.CpuPaths.aesniRcon128 = [0x01, 0x02, 0x04, 0x08, 0x10, 0x20, 0x40, 0x80, 0x1b, 0x36] ∧
    Gen.CpuPaths.aesniShufRcon256 = [(0xff, 0x01), (0xaa, 0x00), (0xff, 0x02), (0xaa, 0x00), (0xff, 0x04),
      (0xaa, 0x00), (0xff, 0x08), (0xaa, 0x00), (0xff, 0x10), (0xaa, 0x00), (0xff, 0x20), (0xaa, 0x00),
      (0xff, 0x40)] ∧
    Gen.CpuPaths.aesniEncXor = 0 ∧ Gen.CpuPaths.aesniEncFirst = [1, 2, 3, 4, 5, 6, 7, 8, 9] ∧
    Gen.CpuPaths.aesniNrSplit = 10 ∧ Gen.CpuPaths.aesniEncSecond = [10, 11, 12, 13] ∧
    Gen.CpuPaths.aesniKeyLen128 = 16 ∧ Gen.CpuPaths.aesniNr128 = 10 ∧
    Gen.CpuPaths.aesniKeyLen256 = 32 ∧ Gen.CpuPaths.aesniNr256 = 14 ∧
    Gen.CpuPaths.aesniLoadsRecognised = true := by
  decide +kernel

/-- the immediates are FIPS-197's: `Rcon[1..10]` for AES-128; for AES-256 round key `m` uses
    `RotWord`+`Rcon[m/2]` (shuffle `0xff`) when `m` is even and `SubWord` only (shuffle `0xaa`) when odd -/
theorem gen_aesni_rcon_is_fips :
    RconFrom 1 Gen.CpuPaths.aesniRcon128 ∧ Sched256 2 Gen.CpuPaths.aesniShufRcon256 :=
  ⟨rconFrom_gen, sched256_gen⟩

/-- `AESENC` (SDM: ShiftRows, SubBytes, MixColumns, xor round key) is one FIPS-197 round
    (SubBytes, ShiftRows, MixColumns, AddRoundKey); `AESENCLAST` is the final round -/
theorem aesenc_is_fips_round (s k : R) :
    aesenc s k = Fips.addRoundKey (Fips.mixColumns (Fips.shiftRows (Fips.subBytes s))) k ∧
    aesenclast s k = Fips.addRoundKey (Fips.shiftRows (Fips.subBytes s)) k :=
  ⟨aesenc_eq s k, aesenclast_eq s k⟩

/-- **`crypto_aes_encrypt_block_aesni_m128i` is the FIPS-197 Cipher** over the same round keys,
    for `nr = 10` (11 round keys) and `nr = 14` (15 round keys) -/
theorem aesenc_rounds_eq_fips_cipher (rks : List R) (inp : R) :
    (rks.length = 11 → encryptBlock rks 10 inp = Fips.cipher rks inp) ∧
    (rks.length = 15 → encryptBlock rks 14 inp = Fips.cipher rks inp) :=
  ⟨fun h => encryptBlock_11 rks h inp, fun h => encryptBlock_15 rks h inp⟩

/-- too few round keys for `nr`: the model reports the out-of-bounds read -/
example : encryptBlock [⟨W4.zero, W4.zero, W4.zero, W4.zero⟩] 10 ⟨W4.zero, W4.zero, W4.zero, W4.zero⟩ = none := by
  decide +kernel

/-- **`crypto_aes_key_expand_128_aesni` is FIPS-197 KeyExpansion (Nk = 4)**: the eleven round
    keys made by `MKRKEY128` (`PSLLDQ`/`PXOR` prefix-xor + `AESKEYGENASSIST` + `PSHUFD 0xff`) are
    `w[0..43]` -/
theorem mkrkey128_eq_keyexpansion (k : R) :
    expand128 k = some (Fips.roundKeys (Fips.keyExpansion k.words)) := expand128_eq k

/-- **`crypto_aes_key_expand_256_aesni` is FIPS-197 KeyExpansion (Nk = 8)**: fifteen round keys,
    `w[0..59]`, alternating `0xff`/`0xaa` shuffles -/
theorem mkrkey256_eq_keyexpansion (k0 k1 : R) :
    expand256 k0 k1 = some (Fips.roundKeys (Fips.keyExpansion (k0.words ++ k1.words))) := expand256_eq k0 k1

/-- **Key expansion + block encryption through AES-NI = FIPS-197 AES**, for every 16- or 32-byte
    key and every block (`crypto_aes_key_expand_aesni` + `crypto_aes_encrypt_block_aesni`) -/
theorem aesni_encrypt_eq_fips (key : List UInt8) (inp : R) (h : key.length = 16 ∨ key.length = 32) :
    aesniEncrypt key inp = Fips.encrypt (Fips.keyWords key) inp := aesniEncrypt_eq key inp h

/-- any other key length: `crypto_aes_key_expand_aesni` fails (`warn0`, `NULL`) -/
theorem aesni_rejects_other_key_lengths (key : List UInt8) (inp : R) (h : key.length ≠ 16 ∧ key.length ≠ 32) :
    aesniEncrypt key inp = none := by
  unfold aesniEncrypt
  rw [keyLen128_eq, keyLen256_eq, if_neg h.1, if_neg h.2]

example : aesniEncrypt [1, 2, 3] ⟨W4.zero, W4.zero, W4.zero, W4.zero⟩ = none := by decide +kernel

end aesni

/-! ## the dispatch self-test under an allocation failure (`pmodel aesfailmon`) -/

/-- **What the `aes-selftest-allocfail` monitor expects is the Spec.**  For a 16-byte block and a 128/256-bit first
    key: the harness' stream input exists (48 bytes, `blk[j mod 16] + j`); the expected block ciphertexts are FIPS-197
    under the two keys; the expected stream output is SP 800-38A CTR (nonce 7) of that input — which is also what the
    statement-level model of `crypto_aesctr_buf` (C02) computes under the expanded first key on *either* routing
    (portable or AES-NI bulk loop), so a self-test that silently selects the other path cannot change it; and the
    monitor accepts exactly these answers (and `fail`). -/
theorem aesfail_expect_is_spec (k1 k2 blk : List UInt8) (h1 : k1.length = 16 ∨ k1.length = 32)
    (hb : blk.length = 16) (hw : Bool) :
    ∃ sin e rks, AesFailMon.pattern blk = some sin ∧ sin.length = 48 ∧
      (∀ j, j < 48 → sin[j]? = blk[j % 16]?.map (· + UInt8.ofNat j)) ∧
      AesFailMon.expect k1 blk k2 = some e ∧
      e.c1 = Aes.encryptBlock k1 blk ∧ e.c2 = Aes.encryptBlock k2 blk ∧
      e.c3 = Ctr.stream (Aes.encryptBlock k1) 7 sin ∧
      Model.AesStep.expandKey k1 = some rks ∧
      Model.AesCtr.ctrBuf Model.AesStep.enc hw Model.AesStep.raw rks 7 sin = some e.c3 ∧
      AesFailMon.accepts e (.ct (some e.c1) (some e.c2) (some e.c3)) = true ∧ AesFailMon.accepts e .fail = true := by
  obtain ⟨sin, hsin, hlen, hget⟩ := Proofs.CpuStep.pattern_spec blk (Nat.le_of_eq hb.symm)
  obtain ⟨hwf, hx⟩ := Proofs.AesStep.expandKey_eq k1 h1
  refine ⟨sin, _, _, hsin, hlen, hget, by rw [AesFailMon.expect, hsin]; rfl, rfl, rfl, rfl, hx, ?_, ?_, rfl⟩
  · rw [Proofs.AesStep.ctrBuf_spec hw _ 7 _ (by rw [hlen]; decide +kernel)]; rfl
  · simp [AesFailMon.accepts]

example : AesFailMon.pattern (List.replicate 16 0xf0) = some ((List.range 48).map fun j => 0xf0 + UInt8.ofNat j) := by
  decide +kernel

/-! ## The function the executable runs (`pmodel cpu` = `render ∘ Model.CpuStep.stepOp cfg ∘ parse`) -/
section crcAndSchedule
open Percival.Model.CpuStep Percival.Proofs.CpuStep

/-- **A `crc` line, for every build.**  Whatever variant the build selects (`cfg.crc`), whatever the buffer address
    and the partition into calls: the L1 part is `Spec.Crc32c.crc32c` of the concatenated chunks; the L2 part has one
    state per `CRC32C_Update` call, none of them a model failure (`oob`), and the state after the last call,
    little-endian (`CRC32C_Final`), *is* the L1 part — the routing table `callsOf` and the instruction-level models it
    routes to cannot disagree with the Spec. -/
theorem exec_crc_line (cfg : Cfg) (align : Nat) (cs : List (List UInt8)) :
    ∃ states, stepOp cfg (.crc align cs) = .crc (Spec.Crc32c.crc32c cs.flatten) states ∧
      states.length = cs.length ∧ (∀ o ∈ states, o ≠ none) ∧
      (cs ≠ [] → ∃ s, states.getLast? = some (some s) ∧ crcFinal s = Spec.Crc32c.crc32c cs.flatten) := by
  obtain ⟨h1, h2, h3⟩ := crcStates_spec (callsOf cfg.crc align cs) Gen.CpuPaths.crcInitState
  refine ⟨_, rfl, by rw [h1, callsOf_length], h2, fun hne => ?_⟩
  have hne' : callsOf cfg.crc align cs ≠ [] := by
    intro h; have := callsOf_length cfg.crc cs align; rw [h] at this
    exact hne (List.eq_nil_of_length_eq_zero this.symm)
  exact ⟨_, h3 hne', by rw [callsOf_data]; exact fold_eq_spec _⟩

/-- two calls (3 bytes: portable branch; 9 bytes at address 6: the SSE4.2 routine with 32-bit loads) -/
example : (match stepOp ⟨.software, some .x32⟩ (.crc 3 [[104, 101, 108], [108, 111, 32, 119, 111, 114, 108, 100, 33]]) with
    | .crc c st => (c, st)
    | _ => ([], [])) = ([50, 8, 19, 122], [some 3185642536, some 2048067634]) := by decide +kernel

/-- **An `xform` line.**  On the portable and on the SSE2 build the scratch array `W` shown as L2 is the FIPS 180-4
    message schedule of the block (so the two builds print the same line); the L2 part of `exec_xform_line` on these
    two builds. -/
theorem exec_xform_schedule (blk : List UInt8) (h : blk.length = 64) :
    scheduleOf .sse2 blk = some (Spec.Sha256.schedule blk) ∧ scheduleOf .software blk = some (Spec.Sha256.schedule blk) :=
  ⟨sse2_schedule_eq_spec blk h, rfl⟩

example : (List.replicate 64 (0 : UInt8)).length = 64 := by decide +kernel

end crcAndSchedule

/-! ## `pmodel cpu`, the remaining op families

`aesblock` and `ctr` are computed by `Model.CpuStep.aesBlock` / `ctrStream` through the transcription
`Model.CpuAesni.Fips`; `Proofs/CpuAesSpec.lean` proves that transcription equal to `Spec.Aes` (S-box by inversion = the table of
Figure 7, state as lanes = state as bytes, schedule kept newest first = sliding window), so the theorems below are stated
against `Spec.Aes.encryptBlock` and `Spec.Ctr.stream` — the objects of C02's theorems.  `l2Of`, `CtrPathOk`, `L2Agrees`,
`niEnc`, `niEncB` are defined (with their meaning) in `Proofs/CpuStep.lean`.

Op families of `stepOp` and their theorems: `crc` — `exec_crc_line`; `xform` — `exec_xform_schedule`, `exec_xform_line`;
`sha` — `exec_sha_line`; `aesblock` — `exec_aesblock`; `ctr` — `exec_ctr`; `insn crc32 / aesenc / aesenclast / keygen*` —
`exec_insn_crc32`, `exec_insn_aes`; `insn rnds2 / msg1 / msg2 / alignr4 / srli64_*` — none: the answer is the SDM
transcription itself (the trusted base of `shani_*` / `sse2_*` above, which are about compositions of these instructions);
`path` / `force` — constants (the arguments are echoed by `render`). -/
section bridge
open Percival.Model.CpuAesni Percival.Proofs.CpuAesni

/-- **The FIPS-197 transcription `Model.CpuAesni.Fips` is `Spec.Aes`.**  The S-box computed as inverse in GF(2⁸) followed
    by the affine map is the table of Figure 7 (all 256 bytes); for a 128/256-bit key the round keys of the
    transcription (schedule kept newest first, as lanes) are `Spec.Aes.keyExpansion` (sliding window, as byte strings);
    and the cipher gives `Spec.Aes.encryptBlock` on every block (`R.bytes`: the register in memory order).  Every
    theorem of the AES-NI section above that mentions `Fips.…` is thereby a theorem about `Spec.Aes`. -/
theorem fips_transcription_eq_spec :
    (∀ b, Fips.sbox b = Aes.sbox b) ∧
    ∀ key : List UInt8, key.length = 16 ∨ key.length = 32 →
      (Fips.roundKeys (Fips.keyExpansion (Fips.keyWords key))).map R.bytes = Aes.keyExpansion key ∧
      ∀ inp : R, (Fips.encrypt (Fips.keyWords key) inp).map R.bytes = some (Aes.encryptBlock key inp.bytes) :=
  ⟨Proofs.CpuAesSpec.sbox_eq, fun key h =>
    ⟨Proofs.CpuAesSpec.roundKeys_eq_spec key h, Proofs.CpuAesSpec.encrypt_eq_spec key h⟩⟩

example : Fips.sbox 0x53 = 0xed ∧ Aes.sbox 0x53 = 0xed ∧ (List.replicate 32 (9 : UInt8)).length = 32 := by decide +kernel

/-- **AES-NI key expansion + block encryption = `Spec.Aes.encryptBlock`** (`aesni_encrypt_eq_fips` carried over to the
    Spec shared with C02), and the round keys made by `MKRKEY128` / `MKRKEY256` are `Spec.Aes.keyExpansion` of the key bytes. -/
theorem aesni_encrypt_eq_spec (key : List UInt8) (inp : R) (h : key.length = 16 ∨ key.length = 32) :
    (aesniEncrypt key inp).map R.bytes = some (Aes.encryptBlock key inp.bytes) := by
  rw [aesniEncrypt_eq key inp h]; exact Proofs.CpuAesSpec.encrypt_eq_spec key h inp

theorem aesni_round_keys_eq_spec (k0 k1 : R) :
    (expand128 k0).map (·.map R.bytes) = some (Aes.keyExpansion k0.bytes) ∧
    (expand256 k0 k1).map (·.map R.bytes) = some (Aes.keyExpansion (k0.bytes ++ k1.bytes)) :=
  expand_bytes k0 k1

/-- FIPS-197 C.3 (AES-256) through the AES-NI model, read off `Spec.Aes` -/
example : (aesniEncrypt (List.range 32 |>.map UInt8.ofNat)
      ⟨⟨0x00, 0x11, 0x22, 0x33⟩, ⟨0x44, 0x55, 0x66, 0x77⟩, ⟨0x88, 0x99, 0xaa, 0xbb⟩, ⟨0xcc, 0xdd, 0xee, 0xff⟩⟩).map R.bytes =
    some [0x8e, 0xa2, 0xb7, 0xca, 0x51, 0x67, 0x45, 0xbf, 0xea, 0xfc, 0x49, 0x90, 0x4b, 0x49, 0x60, 0x89] := by
  rw [aesni_encrypt_eq_spec _ _ (by decide)]
  exact congrArg some KAT.Aes.fips197_C3

end bridge

section otherOps
open Percival.Model.CpuStep Percival.Proofs.CpuStep

/-- **An `aesblock` line, for every build, is judged by `Spec.Aes`.**  For a 128/256-bit key and a 16-byte block the
    answer of `stepOp` (computed through the transcription `Model.CpuAesni.Fips`, proved equal to `Spec.Aes` in
    `Proofs/CpuAesSpec.lean`) is `Spec.Aes.encryptBlock` under the FIPS-197 key expansion — and so is what the model of
    each code path a build can route to computes: the software path (`crypto_aes_key_expand` = FIPS-197 KeyExpansion,
    `crypto_aes_encrypt_block` = Cipher: `Model.AesStep`), and `crypto_aes_key_expand_aesni` +
    `crypto_aes_encrypt_block_aesni` by the instruction-level model of C03 (`Model.CpuAesni`) and by that of C02
    (`Model.AesNi`).  (The line has no L2 part.) -/
theorem exec_aesblock (cfg : Cfg) (key blk : List UInt8) (hk : key.length = 16 ∨ key.length = 32)
    (hb : blk.length = 16) :
    stepOp cfg (.aesblock key blk) = .block (Aes.encryptBlock key blk) ∧
    (Model.AesStep.expandKey key).map (fun rks => Model.AesStep.enc rks blk) = some (Aes.encryptBlock key blk) ∧
    (Model.CpuAesni.R.ofBytes blk).bind (fun b => (Model.CpuAesni.aesniEncrypt key b).map (·.bytes)) =
      some (Aes.encryptBlock key blk) ∧
    (Model.AesNi.keyExpand key).bind (Model.AesNi.encryptBlock blk) = some (Aes.encryptBlock key blk) := by
  refine ⟨?_, ?_, aesni_bytes_eq_spec key blk hk hb, Proofs.AesNi.niKey_encrypt key blk hk hb⟩
  · simp only [stepOp, aesBlock_eq_spec key blk hk hb]
  · obtain ⟨hwf, hx⟩ := Proofs.AesStep.expandKey_eq key hk
    rw [hx]; rfl

/-- the hypotheses hold for the key and block of FIPS-197 C.1; the line is then the published ciphertext -/
example : stepOp ⟨.other, none⟩ (.aesblock [0, 1, 2, 3, 4, 5, 6, 7, 8, 9, 10, 11, 12, 13, 14, 15]
      [0x00, 0x11, 0x22, 0x33, 0x44, 0x55, 0x66, 0x77, 0x88, 0x99, 0xaa, 0xbb, 0xcc, 0xdd, 0xee, 0xff]) =
    .block [0x69, 0xc4, 0xe0, 0xd8, 0x6a, 0x7b, 0x04, 0x30, 0xd8, 0xcd, 0xb7, 0x80, 0x70, 0xb4, 0xc5, 0x5a] := by
  rw [(exec_aesblock _ _ _ (by decide) (by decide)).1]
  exact congrArg Out.block KAT.Aes.fips197_C1

/-- outside the contract of `crypto_aes_key_expand` / of a block (what the harness also answers with `bad-op`) -/
theorem exec_aesblock_bad (cfg : Cfg) (key blk : List UInt8)
    (h : ¬ ((key.length = 16 ∨ key.length = 32) ∧ blk.length = 16)) :
    stepOp cfg (.aesblock key blk) = .badOp := by
  simp only [stepOp, aesBlock_none key blk h]

example : ¬ (((List.replicate 24 (0 : UInt8)).length = 16 ∨ (List.replicate 24 (0 : UInt8)).length = 32) ∧
    (List.replicate 16 (0 : UInt8)).length = 16) := by decide +kernel

/-- **A `ctr` line, for every build, is judged by `Spec.Ctr` over `Spec.Aes`.**  For a 128/256-bit key and an 8-byte
    nonce field `be64(nonce)` (every 8-byte string is one: `exec_ctr_every_nonce_field`):

    * L1: the bytes `stepOp` answers are SP 800-38A CTR — `Spec.Ctr.stream`, the function of C02's theorems — of
      `Spec.Aes.encryptBlock key`, nonce `nonce`, of the data;
    * L2 (`l2Of`): `bytectr = data.length`; nonce half of `pblk` = `be64(nonce)`; counter half = `be64(⌈n/16⌉ − 1)` (`none` =
      only byte 15 = 0xff is determined, before the first block); `buf` = the keystream block `n / 16` when `n` is not
      a multiple of 16 (else not shown);
    * **the routed code paths give exactly this** (`CtrPathOk`): run C02's statement-level model of
      crypto_aesctr*.c — `crypto_aesctr_init` on a fresh object with any memory contents `raw`, then one
      `crypto_aesctr_stream` per call for **every partition** `calls` of the data into calls (0-length, < 16, ≥ 16, …)
      and **every routing** of each call (`hw`: portable byte/block loop or the AES-NI bulk loop) — over each of the
      three block functions a build can have: FIPS-197 under the software-expanded key (`Model.AesStep.enc`), the
      AES-NI instruction model of C03 (`niEnc`), the AES-NI instruction model of C02 (`niEncB`).  No call fails, every
      call returns as many bytes as it was given, the concatenated outputs are the L1 part, and what the harness shows
      of the final `struct crypto_aesctr` is the L2 part.  Needs `data.length < 2⁶⁴` (`uint64_t bytectr`).

    The buffer alignments and the in-place flag of the protocol line are not part of the typed op (`parse` drops them:
    `Model.AesCtr` has no addresses); the partition is dropped too — it is universally quantified here. -/
theorem exec_ctr (cfg : Cfg) (key data : List UInt8) (nonce : UInt64) (hk : key.length = 16 ∨ key.length = 32) :
    stepOp cfg (.ctr key (Ctr.be64 nonce.toNat) data) =
      .ctr (Ctr.stream (Aes.encryptBlock key) nonce data) (l2Of key nonce data) ∧
    ∀ (raw : Model.AesCtr.Raw) (calls : List Model.AesCtr.Call), raw.pblk.length = 16 →
      (calls.map (·.data)).flatten = data → data.length < 2^64 →
      (∃ rks, Model.AesStep.expandKey key = some rks ∧
        CtrPathOk Model.AesStep.enc rks raw nonce calls (Ctr.stream (Aes.encryptBlock key) nonce data)
          (l2Of key nonce data)) ∧
      CtrPathOk niEnc ⟨key, hk⟩ raw nonce calls (Ctr.stream (Aes.encryptBlock key) nonce data) (l2Of key nonce data) ∧
      CtrPathOk niEncB ⟨key, hk⟩ raw nonce calls (Ctr.stream (Aes.encryptBlock key) nonce data)
        (l2Of key nonce data) := by
  refine ⟨by simp only [stepOp, ctrStream_eq_spec key data nonce hk], ?_⟩
  intro raw calls hraw hdata hlim
  subst hdata
  obtain ⟨hwf, hx⟩ := Proofs.AesStep.expandKey_eq key hk
  exact ⟨⟨_, hx, ctrPath_ok Model.AesStep.enc _ key hk (fun _ _ => rfl) raw hraw nonce calls hlim⟩,
    ctrPath_ok niEnc ⟨key, hk⟩ key hk (niEnc_eq_spec ⟨key, hk⟩) raw hraw nonce calls hlim,
    ctrPath_ok niEncB ⟨key, hk⟩ key hk (niEncB_eq_spec ⟨key, hk⟩) raw hraw nonce calls hlim⟩

/-- AES-128, nonce 0x0102030405060708, 20 zero bytes (one whole block and four bytes of the next): the line
    `ecc8…8841 | bytectr=20 pblk=0102030405060708 0000000000000001 buf=b9dc…d327`; and a partition of these 20 bytes into
    three calls (3 bytes; 0 bytes; 17 bytes on the bulk loop) to which the second half of the theorem applies -/
example : stepOp ⟨.software, none⟩ (.ctr (List.replicate 16 1) [1, 2, 3, 4, 5, 6, 7, 8] (List.replicate 20 0)) =
      .ctr [0xec, 0xc8, 0xe1, 0xec, 0x1c, 0x04, 0xe7, 0xaf, 0x13, 0x7b, 0x1e, 0x76, 0xd5, 0x43, 0xbc, 0x5e, 0xb9, 0xdc, 0x88, 0x41]
        { bytectr := 20, nonce := [1, 2, 3, 4, 5, 6, 7, 8], counter := some [0, 0, 0, 0, 0, 0, 0, 1],
          buf := [0xb9, 0xdc, 0x88, 0x41, 0x14, 0x95, 0xcb, 0xcd, 0xa7, 0xf0, 0x1d, 0x18, 0xea, 0xf3, 0xd3, 0x27] } ∧
    (([⟨[0, 0, 0], true⟩, ⟨[], false⟩, ⟨List.replicate 17 0, true⟩] : List Model.AesCtr.Call).map (·.data)).flatten =
      List.replicate 20 0 ∧ (List.replicate 20 (0 : UInt8)).length < 2^64 := by
  refine ⟨?_, by decide +kernel, by decide +kernel⟩
  have h := (exec_ctr ⟨.software, none⟩ (List.replicate 16 1) (List.replicate 20 0) 0x0102030405060708 (by decide)).1
  rw [show Ctr.be64 (0x0102030405060708 : UInt64).toNat = [1, 2, 3, 4, 5, 6, 7, 8] by decide +kernel] at h
  rw [h]
  exact congr (congrArg Out.ctr (by rw [Proofs.AesEval.encryptBlock_eq]; decide +kernel))
    (by simp only [l2Of, CtrL2.mk.injEq, Proofs.AesEval.encryptBlock_eq]; decide +kernel)

/-- the nonce field of a `ctr` line is any 8-byte string: each is `be64` of a 64-bit nonce, so `exec_ctr` covers them all -/
theorem exec_ctr_every_nonce_field (nb : List UInt8) (hn : nb.length = 8) : ∃ nonce : UInt64, Ctr.be64 nonce.toNat = nb :=
  be64_surj nb hn

example : ([0xff, 0, 1, 2, 3, 4, 5, 0x80] : List UInt8).length = 8 := by decide +kernel

/-- outside the contract (key length, nonce field): `bad-op`, as the harness -/
theorem exec_ctr_bad (cfg : Cfg) (key nb data : List UInt8)
    (h : ¬ ((key.length = 16 ∨ key.length = 32) ∧ nb.length = 8)) :
    stepOp cfg (.ctr key nb data) = .badOp := by
  simp only [stepOp, ctrStream_none key nb data h]

example : ¬ (((List.replicate 16 (0 : UInt8)).length = 16 ∨ (List.replicate 16 (0 : UInt8)).length = 32) ∧
    ([1, 2, 3] : List UInt8).length = 8) := by decide +kernel

/-- **A `sha` / `shaparts` line.**  The answer is `Spec.Sha256.hash` of the data (no L2 part; `parse` concatenates the
    parts of `shaparts`), and that is what every accelerated build computes: cut the padded message into its 64-byte
    blocks and compress each block with whichever accelerated transform (`SHA256_Transform_sse2` or `_shani`, the
    choice free per block) — the digest of the final chaining value is the L1 part. -/
theorem exec_sha_line (cfg : Cfg) (data : List UInt8) :
    stepOp cfg (.sha data) = .digest (Sha256.hash data) ∧
    ∀ calls : List (ShaPath × List UInt8), (∀ pb ∈ calls, pb.2.length = 64) →
      (calls.map (·.2)).flatten = data ++ MD.padding Sha256.params data.length →
      (absorbAccel Sha256.H0 calls).map Sha256.out = some (Sha256.hash data) := by
  refine ⟨rfl, fun calls h hcut => ?_⟩
  rw [absorbAccel_eq Sha256.H0 calls h, Option.map_some]
  have := absorb_flatten Sha256.params (calls.map (·.2)) Sha256.H0 (by
    intro b hb
    obtain ⟨pb, hpb, rfl⟩ := List.mem_map.mp hb
    exact h pb hpb)
  rw [hcut] at this
  show some (Sha256.out _) = some (Sha256.params.out (MD.absorb Sha256.params Sha256.H0 _))
  rw [this]; rfl

/-- "abc": one padded block, through the SHA-NI transform -/
example : ([(ShaPath.shani, 0x61 :: 0x62 :: 0x63 :: 0x80 :: (List.replicate 59 0 ++ [0x18]))].map (·.2)).flatten =
    [0x61, 0x62, 0x63] ++ MD.padding Sha256.params 3 := by decide +kernel

/-- **An `xform` line, for every build.**  For a 32-byte chaining value and a 64-byte block: the L1 part is the FIPS
    180-4 compression function (`Spec.Sha256.compress`) — which is also what the models of `SHA256_Transform_sse2` and
    `SHA256_Transform_shani` compute — and the L2 part is the FIPS 180-4 message schedule of the block on the builds
    that expose `W` (portable, SSE2), absent on the others. -/
theorem exec_xform_line (cfg : Cfg) (s blk : List UInt8) (hs : s.length = 32) (hb : blk.length = 64) :
    ∃ r, regsOfBytes s = some r ∧
      stepOp cfg (.xform s blk) = .xform (Sha256.out (Sha256.compress r blk))
        (match cfg.sha with
          | .other => none
          | _ => some (Sha256.schedule blk)) ∧
      transformSse2 r blk = some (Sha256.compress r blk) ∧ transformShani r blk = some (Sha256.compress r blk) := by
  obtain ⟨r, hr⟩ := regsOfBytes_some s hs
  refine ⟨r, hr, ?_, transformSse2_eq r blk hb, transformShani_eq r blk hb⟩
  simp only [stepOp, hr, hb, hs, and_self, if_true]
  congr 1
  cases cfg.sha
  · rfl
  · exact sse2W_eq blk hb
  · rfl

example : (List.replicate 32 (7 : UInt8)).length = 32 ∧ (List.replicate 64 (1 : UInt8)).length = 64 := by decide +kernel

/-- out of contract sizes: `bad-op` -/
theorem exec_xform_bad (cfg : Cfg) (s blk : List UInt8) (h : ¬ (s.length = 32 ∧ blk.length = 64)) :
    stepOp cfg (.xform s blk) = .badOp := by
  simp only [stepOp]
  split
  · rw [if_neg (fun hc => h ⟨hc.2, hc.1⟩)]
  · rfl

example : ¬ ((List.replicate 32 (7 : UInt8)).length = 32 ∧ (List.replicate 63 (1 : UInt8)).length = 64) := by decide +kernel

/-- **`insn crc32`**: the `CRC32` instruction on a 1-, 4- or 8-byte source is the byte step of the CRC folded over the
    source bytes in address order (`crc32_u8_eq_byte_step`: the reflected Castagnoli step of the Spec) -/
theorem exec_insn_crc32 (cfg : Cfg) (a b c d : UInt8) (src : List UInt8)
    (h : src.length = 1 ∨ src.length = 4 ∨ src.length = 8) :
    stepOp cfg (.insn (some (.crc32 [a, b, c, d] src))) = .insn (some (.word (src.foldl byteStep (le32 a b c d)))) := by
  rw [stepOp_insn, insn_crc32 a b c d src h]

example : stepOp ⟨.other, none⟩ (.insn (some (.crc32 [0x78, 0x3b, 0xf6, 0x82] [0x68]))) =
    .insn (some (.word 282866004)) := by
  rw [exec_insn_crc32 _ _ _ _ _ _ (by decide)]
  exact congrArg (fun w => Out.insn (some (InsnRes.word w))) (by decide +kernel)

/-- **`insn aesenc` / `aesenclast` / `keygen*`**: on 16-byte operands the SDM transcription of `Model.CpuAesni` that the
    executable runs gives one FIPS-197 round (`Spec.Aes.round`: SubBytes, ShiftRows, MixColumns, AddRoundKey), the
    final round (`Spec.Aes.finalRound`), and the same bytes as C02's independent transcription of `AESKEYGENASSIST`
    (`Model.AesNi.aeskeygenassist`, over `Spec.Aes.subWord` / `rotWord`). -/
theorem exec_insn_aes (cfg : Cfg) (a b : List UInt8) (imm : UInt8) (ha : a.length = 16) (hb : b.length = 16) :
    stepOp cfg (.insn (some (.aesenc a b))) = .insn (some (.reg (Aes.round a b))) ∧
    stepOp cfg (.insn (some (.aesenclast a b))) = .insn (some (.reg (Aes.finalRound a b))) ∧
    stepOp cfg (.insn (some (.keygen imm a))) = .insn (some (.reg (Model.AesNi.aeskeygenassist a imm))) := by
  obtain ⟨ra, _, rfl⟩ := Proofs.CpuAesSpec.ofBytes_bytes a ha
  obtain ⟨rb, _, rfl⟩ := Proofs.CpuAesSpec.ofBytes_bytes b hb
  exact ⟨by rw [stepOp_insn, insn_aesenc], by rw [stepOp_insn, insn_aesenclast], by rw [stepOp_insn, insn_keygen]⟩

example : (List.replicate 16 (0x5a : UInt8)).length = 16 := by decide +kernel

end otherOps

end Percival.C03
