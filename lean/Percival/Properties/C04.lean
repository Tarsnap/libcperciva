import Percival.Proofs.EventsC04Run
import Percival.Proofs.TimerQueue
import Percival.Proofs.EventsStep
import Percival.Proofs.EventsAns
import Percival.Proofs.EventsLines
/-!
# C04 — event loop: a callback runs at most once, only while registered, only when due

`Model.Events` follows `events/events.c`, `events_immediate.c`, `events_network.c`, `events_timer.c`
statement by statement; `Spec.Events.C04` is the monitor that encodes the property statement over
observable traces.  The theorems: the comment-block invariants of `events_network.c` are inductive
(and no array access of that file is ever out of bounds), and every trace the model can produce —
for every program of register/cancel/reset calls issued from outside and from inside callbacks,
every poll/clock schedule, every fuel — is accepted by the monitor.

The timer queue is used through the contract `TQContract` (the statements proved for
`Model.TimerQueue` in C13, `Percival.Proofs.TQ`).
-/
namespace Percival.C04
open Percival.Spec.Events Percival.Model.Events
open Percival.Proofs.EventsNet Percival.Proofs.EventsTQ Percival.Proofs.EventsC04

/-- The invariants documented in `events_network.c` (1–5 as written; 6 in the form the code
    maintains, `revents != 0 ⇒ j ≤ fdscanpos` with `fdscanpos ≠ (size_t)(-1)`) hold initially and are
    kept by `events_network_register` (incl. `growsocketlist`/`growpollfd`), `events_network_cancel`
    and `events_network_get` (both through `clearbit` and its compaction), by a poll that answers, and
    by the `fdscanpos` reset of `events_network_select`; under them none of these functions indexes
    `S[]` or `fds[]` out of bounds (the model's `none` outcome). -/
theorem network_invariants_inductive :
    Inv ({} : Net) ∧
    (∀ (n : Net) (id fd : Nat) (d : Dir), Inv n → ∃ n' r, netRegister n id fd d = some (n', r) ∧ Inv n') ∧
    (∀ (n : Net) (fd : Nat) (d : Dir), Inv n → ∃ n' r, netCancel n fd d = some (n', r) ∧ Inv n') ∧
    (∀ (n : Net) (a : List (Nat × Bits)), Inv n → Inv { polled n a with scan := topScan (polled n a) }) ∧
    (∀ (n : Net), Inv n → Inv { n with scan := topScan n }) ∧
    (∀ (n : Net), Inv n → ∃ n' r, netGet n = some (n', r) ∧ Inv n') := by
  refine ⟨inv_init, ?_, ?_, ?_, ?_, ?_⟩
  · intro n id fd d h
    rcases netRegister_upd n id fd d h with ⟨_, _, heq⟩ | ⟨_, n', heq, hinv, _⟩
    · exact ⟨n, _, heq, h⟩
    · exact ⟨n', _, heq, hinv⟩
  · intro n fd d h
    rcases netCancel_upd n fd d h with ⟨_, heq⟩ | ⟨_, _, n', _, _, heq, hinv, _⟩
    · exact ⟨n, _, heq, h⟩
    · exact ⟨n', _, heq, hinv⟩
  · intro n a h; exact polled_inv n a h.inv0
  · intro n h; exact rescan_inv n h.inv0
  · intro n h
    rcases netGet_upd n h with ⟨n', heq, hinv, _⟩ | ⟨id, _, n', _, _, _, heq, ht⟩
    · exact ⟨n', none, heq, hinv⟩
    · exact ⟨n', some id, heq, ht.inv⟩

/-- three registrations: descriptor 3 with both directions, descriptor 5 with one -/
def demoNet : Option Net := do
  let (n1, _) ← netRegister {} 7 3 .rd
  let (n2, _) ← netRegister n1 8 3 .wr
  let (n3, _) ← netRegister n2 9 5 .rd
  pure n3

example : demoNet.map (fun n => (n.fds.size, n.S.size)) = some (2, 6) := by decide +kernel

example : ∀ n, demoNet = some n → Inv n := by
  obtain ⟨h0, h1, _⟩ := network_invariants_inductive
  intro n hn
  unfold demoNet at hn
  obtain ⟨a, ra, ea, ia⟩ := h1 {} 7 3 .rd h0
  obtain ⟨b, rb, eb, ib⟩ := h1 a 8 3 .wr ia
  obtain ⟨c, rc, ec, ic⟩ := h1 b 9 5 .rd ib
  simp only [ea, eb, ec, Option.bind_eq_bind, Option.bind_some, Option.pure_def, Option.some.injEq] at hn
  rw [← hn]; exact ic

/-- **P1 (`run_admissible_C04`).** For every program (top-level API calls, callback scripts issuing
    API calls from inside callbacks — including cancelling or re-registering the descriptor being
    scanned, registering an id again after it fired, interrupt requests and non-zero statuses —
    scripted poll answers with ERR/HUP and EINTR, clock advances) and every fuel, the trace of the
    model is accepted by the C04 monitor: each callback invocation is of a registration that exists at
    that moment (never a second time, never after a cancel); a socket callback only if a poll reported
    its direction since it was registered or the latest poll reported ERR/HUP on its descriptor; a
    timer callback only when the clock has reached its registration/reset time plus its timeout.
    `cancel`/`reset` of a registration that does not exist is answered `skip` by the program
    executor (the API contract), network cancels of missing registrations are in scope. -/
theorem run_admissible_C04 (C : TQContract) (fuel : Nat) (prog : List Top) :
    C04.admissible (run fuel prog) = true :=
  run_admissible C fuel prog

/-- the state reached by any program is, unless the model ran out of fuel, related to the monitor's
    state: in particular the `events_network.c` invariants hold, no out-of-bounds access happened,
    and the ghost facts `revents & POLLIN ⇒ ready-since-registered ∨ ERR/HUP in the latest poll`,
    `revents & (POLLERR|POLLHUP) ⇒ latest poll reported ERR/HUP` hold (`RNet.ghostR`, `RNet.ghostE`) -/
theorem run_state_related (C : TQContract) (fuel : Nat) (prog : List Top) :
    let s := prog.foldl (stepTop fuel) {}
    s.fault = false → ∃ m, C04.run {} s.trace.reverse = .ok m ∧ Rel C m s := by
  intro s hf
  have h0 : Weak C ({} : State) := Or.inl ⟨rfl, {}, rfl, rel_init C⟩
  have := good_of_weak (foldl_weak C fuel prog {} h0) hf
  exact this.2

/-- a program on which all of it happens: read+write on one descriptor with ERR, a callback cancelling
    the other direction and re-arming itself, two timers with equal deadlines, a reset, an interrupt -/
def demo : List Top :=
  [ .script 1 ⟨0, [.cancelNet 3 .wr, .regNet 1 3 .rd, .regImm 5 2]⟩, .script 5 ⟨0, [.interrupt]⟩,
    .api (.regNet 1 3 .rd), .api (.regNet 2 3 .wr), .api (.regTimer 3 1000), .api (.regTimer 4 1000),
    .api (.resetTimer 3), .pollAns (.ans 500 [(3, { e := true })]), .run, .api (.clock 600), .run, .run ]

example : (run 50 demo).length = 30 ∧ C04.admissible (run 50 demo) = true := by decide +kernel

/-- the monitor is not vacuous: it rejects a second invocation, an invocation after cancel, an
    unjustified socket callback and an early timer -/
example : C04.admissible [.op (.regImm 1 0) .ok, .cb 1, .cb 1] = false ∧
    C04.admissible [.op (.regNet 1 3 .rd) .ok, .op (.cancelNet 3 .rd) .ok, .cb 1] = false ∧
    C04.admissible [.op (.regNet 1 3 .rd) .ok, .poll (-1) 0 [⟨3, { r := true }, {}⟩] .ok, .cb 1] = false ∧
    C04.admissible [.op (.regNet 1 3 .rd) .ok, .poll (-1) 0 [⟨3, { r := true }, { h := true }⟩] .ok, .cb 1] = true ∧
    C04.admissible [.op (.regTimer 1 1000) .ok, .op (.clock 999) .ok, .cb 1] = false ∧
    C04.admissible [.op (.regTimer 1 1000) .ok, .op (.clock 999) .ok, .op (.resetTimer 1) .ok, .op (.clock 1000) .ok, .cb 1,
                    .op (.regTimer 1 5) .ok, .op (.clock 5) .ok, .cb 1] = true := by decide


/-! ## closed form: the timer-queue contract is discharged by the C13 theorems -/

open Percival.Proofs.TQ in
/-- the six timer-queue statements the event-loop proofs rely on, as proved for `Model.TimerQueue` in C13 -/
def tqContract : TQContract :=
  { TQInv := TQInv, empty := tq_inv_empty, add := tq_add, delete := tq_delete, increase := tq_increase,
    getmin := tq_getmin, getptr := tq_getptr }

/-- `run_admissible_C04` with no hypothesis left about the timer queue -/
theorem run_admissible_C04_closed (fuel : Nat) (prog : List Top) : C04.admissible (run fuel prog) = true :=
  run_admissible_C04 tqContract fuel prog

/-! ## the functions the executables run

`pmodel events` applies `Model.Events.stepOp` to every parsed line: `stepTop runFuel` with the event log cut
before and after (the line shows the events of this step).  `pmodel eventsmon` applies `Spec.Events.monStep` to the
events of every line of the implementation.  The drivers contain only the parsers and the printers. -/

open Percival.Proofs.EventsStep in
/-- **The model does not read its event log** (so cutting it is invisible), and the lines printed for a program
are exactly the trace `run` of that program — the object of `run_admissible_C04` — cut into lines. -/
theorem exec_lines_are_run (prog : List Top) :
    (∀ (s : State) (T : List Ev) (t : Top), stepTop runFuel (app s T) t = app (stepTop runFuel s t) T) ∧
    run runFuel prog = (runOps {} prog).2.flatten :=
  ⟨fun s T t => stepTop_app runFuel s T t, run_eq_lines prog⟩

example : (runOps {} demo).2.flatten.length = 30 := by
  rw [← (exec_lines_are_run demo).2]; decide +kernel

open Percival.Proofs.EventsStep in
/-- **Soundness of the executable C04 monitor for the model**: for every program, feeding the lines that
`pmodel events` prints to `pmodel eventsmon c04`, line by line, yields `ok` on every line. -/
theorem model_lines_accepted_C04 (prog : List Top) : acceptsLines true false {} (runOps {} prog).2 = true :=
  lines_accepted true false prog (fun _ => run_ok_of_admissible (run_admissible_C04_closed runFuel prog)) nofun

-- the monitor pair does reject: a callback that was never registered
example : acceptsLines true false {} [[.cb 7]] = false := by decide

/-! ## The monitor reads what the model prints

The typed output of a line of `pmodel events` is its list of events, and that list is what
`model_lines_accepted_C04` feeds to the monitor (there is no projection in between).  `Driver/Events.step` prints
`showEvs evs ++ " | " ++ l2 state`, where `showEvs evs` is the tokens `Events.evToks evs` (one per event, `ok` if there
is none) joined by single spaces; `Driver/Eventsmon.parseLine` is the reader `pmodel eventsmon` applies to the tokens
of the part before ` | `.  `Proofs/EventsAns.lean`: the `:`-separated fields of an event, the `,` / `/`-separated poll
array, the `rweh` bit strings, numbers and words — everything between the typed events and the token list. -/

open Percival.Proofs.EventsAns in
/-- **For every list of events, reading the L1 tokens printed for it gives back the list** (in particular every
single event is read back from its token), and cutting the L1 part of the printed line at the spaces gives back exactly
these tokens (no token contains a space).  Not covered: that `Driver/Loop.loopMon` cuts the line with
`String.splitOn " "` (a different splitting function than the `String.split ' '` of the statement) and that
`tools/vlib.py` cuts at ` | `; `KAT/EventsAns.lean` tests these on an event of every shape. -/
theorem monitor_reads_printed_answer (evs : List Ev) :
    Driver.Eventsmon.parseLine (Driver.Events.evToks evs) = some evs ∧
    (∀ e, Driver.Events.parseEv (Driver.Events.showEv e) = some e) ∧
    Driver.Events.splitCh ' ' (Driver.Events.showEvs evs) = Driver.Events.evToks evs ∧
    Driver.Events.showEvs evs = " ".intercalate (Driver.Events.evToks evs) :=
  ⟨parseLine_evToks evs, parseEv_showEv, split_l1 evs, rfl⟩

/-- the tokens of a real line -/
example : Driver.Events.evToks [.op (.regNet 1 3 .rd) .eexist,
      .poll (-1) 500 [⟨3, { r := true, w := true }, { e := true }⟩, ⟨4, {}, {}⟩] .intr, .cb 1, .cbEnd (-1), .ret 7] =
    ["rn:1:3:r:eexist", "poll:-1:500:3/rw/e,4/-/-:intr", "cb:1", "end:-1", "ret:7"] ∧
    Driver.Events.evToks [] = ["ok"] := by decide +kernel

open Percival.Proofs.EventsAns in
/-- **Every case, at the level of the text the two executables exchange** (C04 monitor).  For every list of input
lines (token lists) that `pmodel events` can read, `prog` being what it reads: the lines it prints (`printed`:
`Driver/Events.step` along the case) are the tokens `evToks` of the events of `runOps`, joined by spaces, followed by
` | ` and the L2 text of the state; and **`Driver/Eventsmon.step` — the whole function `pmodel eventsmon c04` applies to
(operation line, answer line) — run along the case on the L1 tokens the model prints, answers `ok` on every line**. -/
theorem monitor_accepts_printed_run (lines : List (List String)) (prog : List Top)
    (hp : lines.mapM Driver.Events.parseTop = some prog) :
    printed {} lines =
      List.zipWith (fun evs st => Driver.Events.showEvs evs ++ " | " ++ Driver.Events.l2 st)
        (runOps {} prog).2 (statesAfter {} prog) ∧
    verdicts true false {} (lines.zip ((runOps {} prog).2.map Driver.Events.evToks)) =
      List.replicate lines.length "ok" :=
  ⟨printed_eq lines prog {} hp,
   verdicts_ok true false lines _ {} ((mapM_length _ lines prog hp).trans (runOps_length prog {}).symm) (model_lines_accepted_C04 prog)⟩

/-- input lines that are read as a program: a registration, a poll answer, a run -/
example : [["reg_imm", toString (1 : Nat), toString (0 : Nat)], ["pollintr", toString (5 : Nat)], ["run"]].mapM
      Driver.Events.parseTop = some [.api (.regImm 1 0), .pollAns (.eintr 5), .run] := by
  -- `rw` picks the equation of `parseTop` for each literal line; unfolding its `match` would try every pattern
  simp only [List.mapM_cons, List.mapM_nil]
  rw [Driver.Events.parseTop, Driver.Events.parseTop, Driver.Events.parseTop]
  simp only [Proofs.TokText.nat_rt]
  rfl
/-- the monitor executable does reject printed text: a callback that was never registered -/
example : (Driver.Eventsmon.step true false {} ["run"] (Driver.Events.evToks [.runBegin, .cb 7])).2 =
    "bad C04: callback 7 invoked while not registered (second invocation, or after cancel)" := by
  rw [Proofs.EventsAns.step_evToks]; decide +kernel

end Percival.C04
