import Percival.Proofs.B64
import Percival.Proofs.HexEndian
import Percival.Proofs.EndianRT
import Percival.Proofs.SockLines
import Percival.Proofs.JsonSpec
import Percival.Proofs.ParsersStep
import Percival.Proofs.Inet6
/-! # C17 — encoders and decoders are mutually inverse and match their standards

Models: `Model.B64`, `Model.Hex`, `Model.Endian`, `Model.SockAddr`, `Model.Json` (bounds-checked, following
`/repo/util/{b64encode,hexify,sock,sock_util,json}.c` and `sysendian.h`).  Specifications: `Spec.Rfc4648`,
`Spec.Hex`, `Spec.Endian`, `Spec.JVal`, and `Spec.Inet` (`inet_pton` / `inet_ntop` texts; `inet4_pton_ntop`,
`inet6_pton_ntop` and `inet_laws` show that it satisfies `InetLaws`).  Only property theorems here; helper lemmas
are in `Proofs/`. -/
namespace Percival.C17
open Percival.Model Percival.Spec Percival.Gen

/-! ## Tables (regenerated from the source on every run) -/

/-- `b64chars` in b64encode.c is Table 1 of RFC 4648 followed by the pad character -/
theorem gen_b64chars : CodecTables.b64chars = Rfc4648.alphabet ++ [Rfc4648.pad] := Proofs.B64.b64chars_eq
example : CodecTables.b64chars.length = 65 := by decide

/-- `hexchars` in hexify.c is the 16 lower-case digits followed by the 16 upper-case digits -/
theorem gen_hexchars :
    CodecTables.hexchars = (List.range 16).map Spec.Hex.digit ++ (List.range 16).map Proofs.Hex.upperDigit :=
  Proofs.Hex.hexchars_eq
example : CodecTables.hexchars.length = 32 := by decide

/-- json.c: the whitespace set of `skip_ws` is RFC 8259 `ws`; `numchars` is `+-0123456789.eE` -/
theorem gen_json_tables :
    CodecTables.jsonWs = [0x09, 0x0a, 0x0d, 0x20] ∧
    CodecTables.numchars = [0x2b, 0x2d, 0x30, 0x31, 0x32, 0x33, 0x34, 0x35, 0x36, 0x37, 0x38, 0x39, 0x2e, 0x65, 0x45] := by
  decide
example : CodecTables.numchars.length = 15 := by decide

/-! ## Base 64 -/

/-- For every byte string, `b64encode` stores exactly the RFC 4648 text (with padding) and a NUL. -/
theorem b64encode_eq_rfc4648 (b : List UInt8) :
    B64.b64encode b.toArray b.length = .ok (Rfc4648.encode b ++ [0]) :=
  Proofs.B64.b64encode_at (Proofs.At.of_list b)
example : B64.b64encode [0x66, 0x6f].toArray 2 = .ok ([0x5a, 0x6d, 0x38, 0x3d] ++ [0]) := by decide

/-- Decoding the encoding returns the original: `*outlen` is the original length and the first `*outlen`
    stored bytes are the original bytes. -/
theorem b64decode_b64encode (b : List UInt8) :
    ∃ w, B64.b64decode (Rfc4648.encode b).toArray (Rfc4648.encode b).length = .ok (some (w, b.length)) ∧
      w.take b.length = b := by
  obtain ⟨w, n, h1, h2, _, h4⟩ := Proofs.B64.b64decode_wf _ (Proofs.B64.encode_wf b)
  rw [Proofs.B64.decode_encode] at h2
  have hn : n = b.length := by
    have := congrArg List.length h2
    rw [List.length_take] at this
    omega
  subst hn
  exact ⟨w, h1, h2⟩
example : B64.b64decode [0x5a, 0x6d, 0x38, 0x3d].toArray 4 = .ok (some ([0x66, 0x6f, 0x00], 2)) := by decide

/-- The decoder accepts exactly the well-formed texts (`Spec.Rfc4648.WF`: length ≡ 0 mod 4, alphabet characters,
    then at most two `=`; non-canonical trailing bits allowed), and what it returns is what the text denotes. -/
theorem b64decode_accepts_iff_wf (s : List UInt8) :
    (∃ w n, B64.b64decode s.toArray s.length = .ok (some (w, n)) ∧ w.take n = Rfc4648.decode s) ↔ Rfc4648.WF s := by
  constructor
  · intro ⟨w, n, h, _⟩
    apply Classical.byContradiction
    intro hn
    rw [Proofs.B64.b64decode_not_wf s hn] at h
    cases h
  · intro h
    obtain ⟨w, n, h1, h2, _, _⟩ := Proofs.B64.b64decode_wf s h
    exact ⟨w, n, h1, h2⟩
example : Rfc4648.WF [0x5a, 0x6d, 0x39, 0x3d] ∧ ¬ Rfc4648.WF [0x5a, 0x6d, 0x3d, 0x38] := by
  constructor
  · exact (Proofs.B64.wfb_iff _).mp (by decide)
  · intro h; exact absurd ((Proofs.B64.wfb_iff _).mpr h) (by decide)

/-- Everything else is rejected (return value non-zero, nothing stored). -/
theorem b64decode_rejects_not_wf (s : List UInt8) (h : ¬ Rfc4648.WF s) :
    B64.b64decode s.toArray s.length = .ok none := Proofs.B64.b64decode_not_wf s h
example : B64.b64decode [0x5a, 0x6d, 0x3d, 0x38].toArray 4 = .ok none := by decide

/-- The RFC text of any byte string is well formed and denotes that byte string (the Spec is self-consistent). -/
theorem rfc4648_decode_encode (b : List UInt8) : Rfc4648.WF (Rfc4648.encode b) ∧ Rfc4648.decode (Rfc4648.encode b) = b :=
  ⟨Proofs.B64.encode_wf b, Proofs.B64.decode_encode b⟩
example : Rfc4648.decode [0x5a, 0x6d, 0x39, 0x76, 0x59, 0x6d, 0x45, 0x3d] = [0x66, 0x6f, 0x6f, 0x62, 0x61] := by decide

/-! ## Hexadecimal -/

/-- `hexify` stores two digits per byte, high nibble first, from `0-9a-f` only, and a NUL. -/
theorem hexify_lowercase (b : List UInt8) :
    Hex.hexify b.toArray b.length = .ok (Spec.Hex.encode b ++ [0]) ∧
    ∀ c ∈ Spec.Hex.encode b, (0x30 ≤ c ∧ c ≤ 0x39) ∨ (0x61 ≤ c ∧ c ≤ 0x66) :=
  ⟨Proofs.Hex.hexify_at (Proofs.At.of_list b), Proofs.Hex.encode_lower b⟩
example : Hex.hexify #[0x01, 0xab] 2 = .ok ([0x30, 0x31, 0x61, 0x62] ++ [0]) := by decide

/-- Exact behaviour of `unhexify(in, out, len)` on a C string: success iff the string has at least `2 * len`
    characters and the first `2 * len` are hexadecimal digits of either case; then `out` receives their value. -/
theorem unhexify_exact (s : List UInt8) (hs : ∀ c ∈ s, c ≠ 0) (len : Nat) :
    Hex.unhexify (cstr s) len = .ok (if 2 * len ≤ s.length then Spec.Hex.decode (s.take (2 * len)) else none) :=
  Proofs.Hex.unhexify_cstr s hs len
example : Hex.unhexify (cstr [0x61, 0x42, 0x66, 0x46, 0x30]) 2 = .ok (some [0xab, 0xff]) := by decide

/-- Decoding the hex text of `b` — as written by `hexify`, or with any of its letters in upper case — gives `b`. -/
theorem unhexify_hexify_anycase (b s : List UInt8) (hlen : s.length = (Spec.Hex.encode b).length)
    (h : ∀ i (hi : i < s.length), s[i] = (Spec.Hex.encode b)[i]'(by omega) ∨
      s[i] = Proofs.Hex.toUpper ((Spec.Hex.encode b)[i]'(by omega))) :
    Hex.unhexify (cstr s) b.length = .ok (some b) := by
  have hd := Proofs.Hex.decode_anycase b s hlen h
  have hlen2 : s.length = 2 * b.length := by
    have := Proofs.Hex.decode_length s b hd; omega
  rw [Proofs.Hex.unhexify_cstr s (Proofs.Hex.decode_ne0 s b hd) b.length, if_pos (by omega), List.take_of_length_le (by omega), hd]
example : Hex.unhexify (cstr [0x30, 0x31, 0x41, 0x62]) 2 = .ok (some [0x01, 0xab]) := by decide

/-! ## Endian store / load (any offset `p`, i.e. any alignment) -/

/-- 16-bit big-endian: the store writes exactly the two bytes at `p` in the defined order, the load reads the
    value the two bytes at `p` denote, and load ∘ store is the identity. -/
theorem be16_correct (b : Buf) (p : Nat) (x : UInt16) (h : p + 2 ≤ b.size) :
    (∃ b', Endian.be16enc b p x = .ok b' ∧
      b'.toList = b.toList.take p ++ Spec.Endian.beBytes 2 x.toNat ++ b.toList.drop (p + 2) ∧
      Endian.be16dec b' p = .ok x) ∧
    Endian.be16dec b p = .ok (UInt16.ofNat (Spec.Endian.beVal ((b.toList.drop p).take 2))) :=
  ⟨Proofs.Endian.store_load (fun l => UInt16.ofNat (Spec.Endian.beVal l)) (Proofs.Endian.beBytes_length 2 _) h
      (Proofs.Endian.be16enc_spec b p x h) (fun b' => Proofs.Endian.be16dec_spec b' p)
      (by rw [Proofs.Endian.beVal_beBytes 2 _ x.toNat_lt, UInt16.ofNat_toNat]),
    Proofs.Endian.be16dec_spec b p h⟩
example : Endian.be16enc #[0, 0, 0, 0] 1 0x0102 = .ok #[0, 1, 2, 0] := by decide

theorem le16_correct (b : Buf) (p : Nat) (x : UInt16) (h : p + 2 ≤ b.size) :
    (∃ b', Endian.le16enc b p x = .ok b' ∧
      b'.toList = b.toList.take p ++ Spec.Endian.leBytes 2 x.toNat ++ b.toList.drop (p + 2) ∧
      Endian.le16dec b' p = .ok x) ∧
    Endian.le16dec b p = .ok (UInt16.ofNat (Spec.Endian.leVal ((b.toList.drop p).take 2))) :=
  ⟨Proofs.Endian.store_load (fun l => UInt16.ofNat (Spec.Endian.leVal l)) (Proofs.Endian.leBytes_length 2 _) h
      (Proofs.Endian.le16enc_spec b p x h) (fun b' => Proofs.Endian.le16dec_spec b' p)
      (by rw [Proofs.Endian.leVal_leBytes 2 _ x.toNat_lt, UInt16.ofNat_toNat]),
    Proofs.Endian.le16dec_spec b p h⟩
example : Endian.le16enc #[0, 0, 0, 0] 1 0x0102 = .ok #[0, 2, 1, 0] := by decide

theorem be32_correct (b : Buf) (p : Nat) (x : UInt32) (h : p + 4 ≤ b.size) :
    (∃ b', Endian.be32enc b p x = .ok b' ∧
      b'.toList = b.toList.take p ++ Spec.Endian.beBytes 4 x.toNat ++ b.toList.drop (p + 4) ∧
      Endian.be32dec b' p = .ok x) ∧
    Endian.be32dec b p = .ok (UInt32.ofNat (Spec.Endian.beVal ((b.toList.drop p).take 4))) :=
  ⟨Proofs.Endian.store_load (fun l => UInt32.ofNat (Spec.Endian.beVal l)) (Proofs.Endian.beBytes_length 4 _) h
      (Proofs.Endian.be32enc_spec b p x h) (fun b' => Proofs.Endian.be32dec_spec b' p)
      (by rw [Proofs.Endian.beVal_beBytes 4 _ x.toNat_lt, UInt32.ofNat_toNat]),
    Proofs.Endian.be32dec_spec b p h⟩
example : Endian.be32enc #[9, 9, 9, 9, 9, 9, 9] 3 0x01020304 = .ok #[9, 9, 9, 1, 2, 3, 4] := by decide

theorem le32_correct (b : Buf) (p : Nat) (x : UInt32) (h : p + 4 ≤ b.size) :
    (∃ b', Endian.le32enc b p x = .ok b' ∧
      b'.toList = b.toList.take p ++ Spec.Endian.leBytes 4 x.toNat ++ b.toList.drop (p + 4) ∧
      Endian.le32dec b' p = .ok x) ∧
    Endian.le32dec b p = .ok (UInt32.ofNat (Spec.Endian.leVal ((b.toList.drop p).take 4))) :=
  ⟨Proofs.Endian.store_load (fun l => UInt32.ofNat (Spec.Endian.leVal l)) (Proofs.Endian.leBytes_length 4 _) h
      (Proofs.Endian.le32enc_spec b p x h) (fun b' => Proofs.Endian.le32dec_spec b' p)
      (by rw [Proofs.Endian.leVal_leBytes 4 _ x.toNat_lt, UInt32.ofNat_toNat]),
    Proofs.Endian.le32dec_spec b p h⟩
example : Endian.le32dec #[9, 4, 3, 2, 1] 1 = .ok 0x01020304 := by decide

theorem be64_correct (b : Buf) (p : Nat) (x : UInt64) (h : p + 8 ≤ b.size) :
    (∃ b', Endian.be64enc b p x = .ok b' ∧
      b'.toList = b.toList.take p ++ Spec.Endian.beBytes 8 x.toNat ++ b.toList.drop (p + 8) ∧
      Endian.be64dec b' p = .ok x) ∧
    Endian.be64dec b p = .ok (UInt64.ofNat (Spec.Endian.beVal ((b.toList.drop p).take 8))) :=
  ⟨Proofs.Endian.store_load (fun l => UInt64.ofNat (Spec.Endian.beVal l)) (Proofs.Endian.beBytes_length 8 _) h
      (Proofs.Endian.be64enc_spec b p x h) (fun b' => Proofs.Endian.be64dec_spec b' p)
      (by rw [Proofs.Endian.beVal_beBytes 8 _ x.toNat_lt, UInt64.ofNat_toNat]),
    Proofs.Endian.be64dec_spec b p h⟩
example : Endian.be64dec #[0, 1, 2, 3, 4, 5, 6, 7, 8] 1 = .ok 0x0102030405060708 := by decide

theorem le64_correct (b : Buf) (p : Nat) (x : UInt64) (h : p + 8 ≤ b.size) :
    (∃ b', Endian.le64enc b p x = .ok b' ∧
      b'.toList = b.toList.take p ++ Spec.Endian.leBytes 8 x.toNat ++ b.toList.drop (p + 8) ∧
      Endian.le64dec b' p = .ok x) ∧
    Endian.le64dec b p = .ok (UInt64.ofNat (Spec.Endian.leVal ((b.toList.drop p).take 8))) :=
  ⟨Proofs.Endian.store_load (fun l => UInt64.ofNat (Spec.Endian.leVal l)) (Proofs.Endian.leBytes_length 8 _) h
      (Proofs.Endian.le64enc_spec b p x h) (fun b' => Proofs.Endian.le64dec_spec b' p)
      (by rw [Proofs.Endian.leVal_leBytes 8 _ x.toNat_lt, UInt64.ofNat_toNat]),
    Proofs.Endian.le64dec_spec b p h⟩
example : Endian.le64dec #[8, 7, 6, 5, 4, 3, 2, 1] 0 = .ok 0x0102030405060708 := by decide

/-- the Spec's two byte orders are inverse to their valuations -/
theorem endian_spec_inverse (n x : Nat) (h : x < 256 ^ n) :
    Spec.Endian.beVal (Spec.Endian.beBytes n x) = x ∧ Spec.Endian.leVal (Spec.Endian.leBytes n x) = x :=
  ⟨Proofs.Endian.beVal_beBytes n x h, Proofs.Endian.leVal_leBytes n x h⟩
example : Spec.Endian.beBytes 4 0x01020304 = [1, 2, 3, 4] := by decide

/-! ## Socket addresses -/
open Percival.Model.SockAddr

/-- A socket address survives serialise / deserialise unchanged; the buffer has the documented length. -/
theorem sock_addr_deserialize_serialize (a : SockAddr) (h : a.WF) :
    ∃ bytes, serialize a = .ok bytes ∧ bytes.length = 12 + a.namelen.toNat ∧
      deserialize bytes.toArray bytes.length = .ok (some a) := by
  have hc := Proofs.SockAddr.copyOut_name a h
  have hb := Proofs.At.of_list (bytes32 a.family ++ (bytes32 a.socktype ++ (bytes32 a.namelen ++ a.name.toList)))
  have hl : (bytes32 a.family ++ (bytes32 a.socktype ++ (bytes32 a.namelen ++ a.name.toList))).length = 12 + a.namelen.toNat := by
    unfold SockAddr.WF at h
    simp [bytes32, h]; omega
  refine ⟨_, by simp only [serialize, hc, Res.ok_bind, List.append_assoc], hl, ?_⟩
  have := Proofs.SockAddr.deserialize_of _ a.family a.socktype a.namelen (by simpa using hl) (Proofs.SockAddr.read32_at hb)
    (Proofs.SockAddr.read32_at (hb.drop 4)) (Proofs.SockAddr.read32_at (hb.drop 8))
  rw [List.size_toArray] at this
  rw [this]
  cases a
  rfl
example : (mkIn [1, 2, 3, 4] 80).WF := by unfold SockAddr.WF; decide

/-- … and duplicate. -/
theorem sock_addr_dup_eq (a : SockAddr) (h : a.WF) : dup a = .ok a := by
  simp [dup, Proofs.SockAddr.copyOut_name a h]
example : dup (mkIn [1, 2, 3, 4] 80) = .ok (mkIn [1, 2, 3, 4] 80) := by decide

/-- A bracketed numeric IPv4 / IPv6 literal with a port in 1..65535 resolves to the address `inet_pton` says the
    literal denotes, with that port; a Unix path (leading '/', shorter than `sun_path`) to the `sockaddr_un` holding it. -/
theorem sock_resolve_literals (pton4 pton6 : List UInt8 → Option (List UInt8)) (t a : List UInt8) (p : Nat)
    (h0 : ∀ c ∈ t, c ≠ 0) (h1 : 1 ≤ p) (h2 : p ≤ 65535) :
    ((∀ c ∈ t, c ≠ 0x3a) → pton4 t = some a →
      resolve pton4 pton6 (cstr ([0x5b] ++ t ++ [0x5d, 0x3a] ++ decimal p)) = .ok (.addr (mkIn a p))) ∧
    (0x3a ∈ t → pton6 t = some a →
      resolve pton4 pton6 (cstr ([0x5b] ++ t ++ [0x5d, 0x3a] ++ decimal p)) = .ok (.addr (mkIn6 a p))) ∧
    (t.head? = some 0x2f → t.length < sunPathSize → resolve pton4 pton6 (cstr t) = .ok (.addr (mkUn t))) :=
  ⟨fun hc ht => Proofs.SockAddr.resolve_v4 pton4 pton6 t a p ht hc h0 h1 h2,
   fun hc ht => Proofs.SockAddr.resolve_v6 pton4 pton6 t a p ht hc h0 h1 h2,
   fun hs hl => Proofs.SockAddr.resolve_unix pton4 pton6 t hs h0 hl⟩
example : resolve (fun _ => some [1, 2, 3, 4]) (fun _ => none) (cstr [0x5b, 0x31, 0x2e, 0x32, 0x2e, 0x33, 0x2e, 0x34, 0x5d, 0x3a, 0x38, 0x30]) =
    .ok (.addr (mkIn [1, 2, 3, 4] 80)) := by decide

/-- Printing an IPv4 / IPv6 / Unix address yields a string that resolves back to the same address
    (given `inet_pton ∘ inet_ntop = id`, `InetLaws`; ports 1..65535; paths up to the `sun_path` limit). -/
theorem sock_resolve_prettyprint (pton4 pton6 ntop4 ntop6 : List UInt8 → Option (List UInt8))
    (L : InetLaws pton4 pton6 ntop4 ntop6) (p : Nat) (h1 : 1 ≤ p) (h2 : p ≤ 65535) :
    (∀ a, a.length = 4 → ∃ s, prettyprint ntop4 ntop6 (mkIn a p) = .ok (some s) ∧
        resolve pton4 pton6 (cstr s) = .ok (.addr (mkIn a p))) ∧
    (∀ a, a.length = 16 → ∃ s, prettyprint ntop4 ntop6 (mkIn6 a p) = .ok (some s) ∧
        resolve pton4 pton6 (cstr s) = .ok (.addr (mkIn6 a p))) ∧
    (∀ path, path.head? = some 0x2f → (∀ c ∈ path, c ≠ 0) → path.length < sunPathSize →
        prettyprint ntop4 ntop6 (mkUn path) = .ok (some path) ∧
        resolve pton4 pton6 (cstr path) = .ok (.addr (mkUn path))) := by
  refine ⟨?_, ?_, ?_⟩
  · intro a ha
    obtain ⟨t, ht, hp, hc, h0⟩ := L.v4 a ha
    exact ⟨_, Proofs.SockAddr.prettyprint_in ntop4 ntop6 a t p ha ht h2,
      Proofs.SockAddr.resolve_v4 pton4 pton6 t a p hp hc h0 h1 h2⟩
  · intro a ha
    obtain ⟨t, ht, hp, hc, h0⟩ := L.v6 a ha
    exact ⟨_, Proofs.SockAddr.prettyprint_in6 ntop4 ntop6 a t p ha ht h2,
      Proofs.SockAddr.resolve_v6 pton4 pton6 t a p hp hc h0 h1 h2⟩
  · intro path hs h0 hl
    exact ⟨Proofs.SockAddr.prettyprint_un ntop4 ntop6 path h0 hl, Proofs.SockAddr.resolve_unix pton4 pton6 path hs h0 hl⟩
example : prettyprint (fun _ => some [0x31, 0x2e, 0x32, 0x2e, 0x33, 0x2e, 0x34]) (fun _ => none) (mkIn [1, 2, 3, 4] 8080) =
    .ok (some [0x5b, 0x31, 0x2e, 0x32, 0x2e, 0x33, 0x2e, 0x34, 0x5d, 0x3a, 0x38, 0x30, 0x38, 0x30]) := by decide +kernel

/-! ## JSON -/
open Percival.Spec.JVal

/-- For every value with every choice of whitespace (`JDoc`), placed anywhere in a buffer and followed by anything
    that can follow a value (`followOK`), `skip_value` consumes exactly the text of that value.
    (False of json.c before fix 169c9b0 — F8: `[1, 2]`.) -/
theorem skip_value_consumes_exactly (pre : List UInt8) (d : JDoc) (post : List UInt8) (hd : d.WF)
    (hf : followOK d post) :
    Json.skipValue (pre ++ d.ser ++ post).toArray pre.length = .ok (pre.length + d.ser.length) :=
  Proofs.JsonSpec.skipValue_exact pre d post hd hf
/-- the F8 witness `[1, 2]` followed by `,` -/
example : (JDoc.arr (.more [] (.num [0x31]) [] (.one [0x20] (.num [0x32]) []))).ser = [0x5b, 0x31, 0x2c, 0x20, 0x32, 0x5d] ∧
    Json.skipValue [0x5b, 0x31, 0x2c, 0x20, 0x32, 0x5d, 0x2c].toArray 0 = .ok 6 := by decide +kernel

/-- On the text of any value `d` (any layout), preceded by whitespace and followed by anything, `json_find`
    returns `Spec.JVal.expectedFind`: if `d` is an object, the offset of the value of the first top-level member
    whose name, after decoding the simple escapes, equals the key (names with `\u` never match), else the end. -/
theorem json_find_spec (lead : Ws) (d : JDoc) (trail key : List UInt8) (hl : WsWF lead) (hd : d.WF)
    (hk : ∀ c ∈ key, c ≠ 0) :
    Json.jsonFind (lead ++ d.ser ++ trail).toArray (cstr key) = .ok (expectedFind lead d trail key) :=
  Proofs.JsonSpec.jsonFind_spec lead d trail key hl hd hk
/-- `{"x":[1, 2],"k":3}`, key `k` (the F8 input): the value `3` is at offset 16 -/
example : Json.jsonFind [0x7b, 0x22, 0x78, 0x22, 0x3a, 0x5b, 0x31, 0x2c, 0x20, 0x32, 0x5d, 0x2c, 0x22, 0x6b, 0x22, 0x3a, 0x33, 0x7d].toArray (cstr [0x6b]) = .ok 16 := by decide +kernel

/-- `expectedFind` spelled out: a selected member always has a position; the answer is the end iff no member's
    decoded name equals the key. -/
theorem expectedFind_meaning (lead : Ws) (ms : JMembers) (trail key : List UInt8) :
    (∀ m, find key (JDoc.obj ms).erase = some m →
      ∃ p, ms.valuePos m = some p ∧ expectedFind lead (.obj ms) trail key = lead.length + 1 + p) ∧
    (find key (JDoc.obj ms).erase = none →
      expectedFind lead (.obj ms) trail key = (lead ++ (JDoc.obj ms).ser ++ trail).length) := by
  constructor
  · intro m hm
    obtain ⟨p, hp⟩ := Proofs.JsonSpec.valuePos_of_findMember key ms m (by simpa [find, JDoc.erase] using hm)
    exact ⟨p, hp, by simp [expectedFind, hm, hp]⟩
  · intro hn
    simp [expectedFind, hn]; omega
example : find [0x6b] (JVal.obj [([.raw 0x61], .null), ([.uni 0x30 0x30 0x36 0x62], .null), ([.esc 0x6e], .null), ([.raw 0x6b], .null)]) = some 3 := by
  decide

/-! ## The executable: `Model.ParsersStep.stepOp`, the function `pmodel parsers` runs on every protocol line

For every op family of the `codec` component: the L1 part of the `Out` is the Spec's value and the L2 part (the
model of the C) equals it — the theorems above instantiated at exactly the calls `stepOp` makes (`cbytes` = the C
string a token stands for: the bytes before its first NUL). -/
open Percival.Model.ParsersStep

/-- `b64enc`: L1 = the RFC 4648 text and a NUL = L2, for every input. -/
theorem exec_b64enc (b : List UInt8) :
    stepOp (.b64enc b) = .b64enc (Rfc4648.encode b ++ [0]) (.ok (Rfc4648.encode b ++ [0])) := by
  simp only [stepOp, b64encode_eq_rfc4648]
example : stepOp (.b64enc [0x66, 0x6f]) = .b64enc [0x5a, 0x6d, 0x38, 0x3d, 0] (.ok [0x5a, 0x6d, 0x38, 0x3d, 0]) := by
  decide +kernel

/-- `b64dec`: on a well-formed text L1 is `some` of what the text denotes and the model accepts, its first `*outlen`
    stored bytes being that; on any other text L1 is `none` and the model rejects. -/
theorem exec_b64dec (s : List UInt8) :
    (Rfc4648.WF s → ∃ w n, stepOp (.b64dec s) = .b64dec (some (Rfc4648.decode s)) (.ok (some (w, n))) ∧
        w.take n = Rfc4648.decode s ∧ w.length = 3 * (s.length / 4)) ∧
    (¬ Rfc4648.WF s → stepOp (.b64dec s) = .b64dec none (.ok none)) := by
  constructor
  · intro h
    obtain ⟨w, n, h1, h2, h3, _⟩ := Proofs.B64.b64decode_wf s h
    exact ⟨w, n, by simp only [stepOp, (Proofs.B64.wfb_iff s).mpr h, if_true, h1], h2, h3⟩
  · intro h
    have hb : Rfc4648.wfb s = false := Bool.eq_false_iff.mpr (mt (Proofs.B64.wfb_iff s).mp h)
    simp only [stepOp, hb, Bool.false_eq_true, if_false, b64decode_rejects_not_wf s h]
example : stepOp (.b64dec [0x5a, 0x6d, 0x39, 0x3d]) = .b64dec (some [0x66, 0x6f]) (.ok (some ([0x66, 0x6f, 0x40], 2))) ∧
    stepOp (.b64dec [0x5a, 0x6d, 0x3d, 0x38]) = .b64dec none (.ok none) := by decide +kernel

/-- `b64dec` of the RFC text of `b`: L1 = `b`, and the model returns length `|b|` and the bytes `b`. -/
theorem exec_b64dec_b64enc (b : List UInt8) :
    ∃ w, stepOp (.b64dec (Rfc4648.encode b)) = .b64dec (some b) (.ok (some (w, b.length))) ∧ w.take b.length = b := by
  obtain ⟨w, h1, h2⟩ := b64decode_b64encode b
  refine ⟨w, ?_, h2⟩
  simp only [stepOp, (Proofs.B64.wfb_iff _).mpr (rfc4648_decode_encode b).1, if_true, (rfc4648_decode_encode b).2, h1]
example : stepOp (.b64dec (Rfc4648.encode [0x66, 0x6f])) = .b64dec (some [0x66, 0x6f]) (.ok (some ([0x66, 0x6f, 0x00], 2))) := by
  decide +kernel

/-- `hexify`: L1 = the lower-case hex text and a NUL = L2, for every input. -/
theorem exec_hexify (b : List UInt8) :
    stepOp (.hexify b) = .hexify (Spec.Hex.encode b ++ [0]) (.ok (Spec.Hex.encode b ++ [0])) := by
  simp only [stepOp, (hexify_lowercase b).1]
example : stepOp (.hexify [0x01, 0xab]) = .hexify [0x30, 0x31, 0x61, 0x62, 0] (.ok [0x30, 0x31, 0x61, 0x62, 0]) := by
  decide +kernel

/-- `unhex` (the token as a C string `s`, any `len`): L1 = the value of the first `2 * len` characters if there are
    that many and all are hex digits, else `none`; L2 = L1. -/
theorem exec_unhex (inp : List UInt8) (len : Nat) :
    stepOp (.unhex inp len) =
      .unhex (if 2 * len ≤ (cbytes inp).length then Spec.Hex.decode ((cbytes inp).take (2 * len)) else none)
        (.ok (if 2 * len ≤ (cbytes inp).length then Spec.Hex.decode ((cbytes inp).take (2 * len)) else none)) := by
  simp only [stepOp, unhexify_exact (cbytes inp) (Proofs.ParsersStep.cbytes_ne0 inp) len]
example : stepOp (.unhex [0x61, 0x42, 0x66, 0x46, 0x30, 0x00, 0x31] 2) = .unhex (some [0xab, 0xff]) (.ok (some [0xab, 0xff])) ∧
    stepOp (.unhex [0x61, 0x42, 0x00, 0x46] 2) = .unhex none (.ok none) := by decide +kernel

/-- `unhex` of the hex text of `b` with `len = |b|`: L1 = L2 = `b`. -/
theorem exec_unhex_hexify (b : List UInt8) :
    stepOp (.unhex (Spec.Hex.encode b) b.length) = .unhex (some b) (.ok (some b)) := by
  have hd := Proofs.Hex.decode_encode b
  have hl : (Spec.Hex.encode b).length = 2 * b.length := (Proofs.Hex.decode_length _ _ hd).symm
  rw [exec_unhex, Proofs.ParsersStep.cbytes_id _ (Proofs.Hex.decode_ne0 _ _ hd), if_pos (by omega), List.take_of_length_le (by omega), hd]
example : stepOp (.unhex (Spec.Hex.encode [0x01, 0xab]) 2) = .unhex (some [0x01, 0xab]) (.ok (some [0x01, 0xab])) := by
  decide +kernel

/-- `unhexb` (a block without terminator, within the contract `2 * len ≤ |inp|`): L1 = the value of the first
    `2 * len` bytes if none is NUL and all are hex digits, else `none`; L2 = L1. -/
theorem exec_unhexb (inp : List UInt8) (len : Nat) (h : 2 * len ≤ inp.length) :
    stepOp (.unhexb inp len) =
      .unhexb (if (inp.take (2 * len)).all (· != 0) then Spec.Hex.decode (inp.take (2 * len)) else none)
        (.ok (if (inp.take (2 * len)).all (· != 0) then Spec.Hex.decode (inp.take (2 * len)) else none)) := by
  simp only [stepOp, if_neg (Nat.not_lt.mpr h), Proofs.Hex.unhexify_at (Proofs.At.of_list inp) len h, Proofs.Hex.decode_nul]
example : stepOp (.unhexb [0x61, 0x62, 0x63, 0x64] 2) = .unhexb (some [0xab, 0xcd]) (.ok (some [0xab, 0xcd])) := by
  decide +kernel

/-- `endian` (any of the six routines, any offset with the access inside the buffer, any value — truncated to the
    width by the C prototype): L1 = the buffer with the `w.bytes` bytes at `off` replaced by the defined byte order of
    `x`, and the value the bytes at `off` denote; L2 (what the model's store wrote, what its load returned) = L1. -/
theorem exec_endian (be : Bool) (w : Width) (off x : Nat) (buf : List UInt8) (h : off + w.bytes ≤ buf.length) :
    stepOp (.endian be w off x buf) =
      .endian w
        (buf.take off ++ (if be then Spec.Endian.beBytes w.bytes x else Spec.Endian.leBytes w.bytes x) ++ buf.drop (off + w.bytes))
        (if be then Spec.Endian.beVal ((buf.drop off).take w.bytes) else Spec.Endian.leVal ((buf.drop off).take w.bytes))
        (.ok (buf.take off ++ (if be then Spec.Endian.beBytes w.bytes x else Spec.Endian.leBytes w.bytes x) ++ buf.drop (off + w.bytes)))
        (.ok (if be then Spec.Endian.beVal ((buf.drop off).take w.bytes) else Spec.Endian.leVal ((buf.drop off).take w.bytes))) :=
  Proofs.ParsersStep.endianOp_eq be w off x buf h
example : stepOp (.endian true .w32 3 0x01020304 [9, 9, 9, 9, 8, 7, 6]) =
    .endian .w32 [9, 9, 9, 1, 2, 3, 4] 0x09080706 (.ok [9, 9, 9, 1, 2, 3, 4]) (.ok 0x09080706) := by decide +kernel

/-- `sser` (any family / socktype, any name block shorter than 2^32): the model serialises to `12 + |name|` bytes,
    deserialising them gives the address back and so does `dup` — the L2 part equals the constant L1 part
    `rt=1 dup=1`. -/
theorem exec_sser (family socktype : UInt32) (name : List UInt8) (h : name.length < 2 ^ 32) :
    ∃ bytes, stepOp (.sser family socktype name) = .sser (.ok (bytes, true, true)) ∧ bytes.length = 12 + name.length := by
  have hwf : SockAddr.WF { family, socktype, namelen := UInt32.ofNat name.length, name := name.toArray } := by
    simp only [SockAddr.WF, List.size_toArray, UInt32.toNat_ofNat']
    omega
  obtain ⟨bytes, h1, h2, h3⟩ := sock_addr_deserialize_serialize _ hwf
  refine ⟨bytes, ?_, by rw [h2, UInt32.toNat_ofNat']; omega⟩
  simp only [stepOp, ParsersStep.sser, h1, mapRes, h3, sock_addr_dup_eq _ hwf, beq_self_eq_true]
example : stepOp (.sser 2 1 [7, 8]) = .sser (.ok ([2, 0, 0, 0, 1, 0, 0, 0, 2, 0, 0, 0, 7, 8], true, true)) := by
  decide +kernel

/-- `skipvv` (the buffer is `pre ++ d.ser ++ post` for a well-formed value `d` followed by something that can
    follow it): L1 = the offset of the end of the value's text = L2. -/
theorem exec_skipvv (pre : List UInt8) (d : JDoc) (post : List UInt8) (hd : d.WF) (hf : followOK d post) :
    stepOp (.skipvv (pre ++ d.ser ++ post) pre d post) =
      .skipvv (.answer (pre.length + d.ser.length) (.ok (pre.length + d.ser.length))) := by
  simp only [stepOp, bne_self_eq_false, Bool.false_eq_true, if_false, skip_value_consumes_exactly pre d post hd hf]
example : stepOp (.skipvv [0x20, 0x5b, 0x31, 0x2c, 0x20, 0x32, 0x5d, 0x2c] [0x20]
      (.arr (.more [] (.num [0x31]) [] (.one [0x20] (.num [0x32]) []))) [0x2c]) =
    .skipvv (.answer 7 (.ok 7)) := by decide +kernel

/-- `jfindv` (the buffer is `lead ++ d.ser ++ trail` with `lead` whitespace and `d` well formed; the key is the C
    string of the token): L1 = `Spec.JVal.expectedFind` = L2. -/
theorem exec_jfindv (lead : Ws) (d : JDoc) (trail key : List UInt8) (hl : WsWF lead) (hd : d.WF) :
    stepOp (.jfindv (lead ++ d.ser ++ trail) key lead d trail) =
      .jfindv (.answer (expectedFind lead d trail (cbytes key)) (.ok (expectedFind lead d trail (cbytes key)))) := by
  simp only [stepOp, bne_self_eq_false, Bool.false_eq_true, if_false,
    json_find_spec lead d trail (cbytes key) hl hd (Proofs.ParsersStep.cbytes_ne0 key)]
/-- `{"x":[1, 2],"k":3}`, key token `k\0junk`: the value `3` is at offset 16 -/
example : stepOp (.jfindv [0x7b, 0x22, 0x78, 0x22, 0x3a, 0x5b, 0x31, 0x2c, 0x20, 0x32, 0x5d, 0x2c, 0x22, 0x6b, 0x22, 0x3a, 0x33, 0x7d]
      [0x6b, 0x00, 0x6a] []
      (.obj (.more [] [.raw 0x78] [] [] (.arr (.more [] (.num [0x31]) [] (.one [0x20] (.num [0x32]) []))) []
        (.one [] [.raw 0x6b] [] [] (.num [0x33]) []))) []) =
    .jfindv (.answer 16 (.ok 16)) := by decide +kernel

/-- an op whose description does not denote its buffer is reported as such (never as an answer) -/
theorem exec_described_mismatch (doc key a : List UInt8) (d : JDoc) (b : List UInt8) (h : a ++ d.ser ++ b ≠ doc) :
    stepOp (.jfindv doc key a d b) = .jfindv .mismatch ∧ stepOp (.skipvv doc a d b) = .skipvv .mismatch := by
  have hb : (a ++ d.ser ++ b != doc) = true := by simpa using h
  simp only [stepOp, hb, if_true, and_self]
example : stepOp (.skipvv [0x5b, 0x5d, 0x20] [] (.arr0 []) [0x21]) = .skipvv .mismatch := by decide +kernel

/-- `Spec.Inet` satisfies the IPv4 half of `InetLaws`: `inet_pton(AF_INET, inet_ntop(AF_INET, a)) = a` for every
    4-byte address, and the text has no `':'` and no NUL. -/
theorem inet4_pton_ntop (a : List UInt8) (h : a.length = 4) :
    ntop4 a = some (Inet.print4 a) ∧ Inet.parse4 (Inet.print4 a) = some a ∧
      (∀ c ∈ Inet.print4 a, c ≠ 0x3a) ∧ (∀ c ∈ Inet.print4 a, c ≠ 0) :=
  ⟨Proofs.ParsersStep.ntop4_eq a h, Proofs.Inet4.parse4_print4 a h,
   fun c hc => (Proofs.Inet4.print4_chars a c hc).2, fun c hc => (Proofs.Inet4.print4_chars a c hc).1⟩
example : Inet.print4 [192, 168, 0, 1] = "192.168.0.1".toUTF8.toList := by decide +kernel

/-- `sres` on a Unix path (leading '/', no NUL, shorter than `sun_path`): L1 = the `sockaddr_un` holding the path;
    L2: its text is the path, and that resolves back to the same address (`m=1`). -/
theorem exec_sres_unix (path : List UInt8) (hs : path.head? = some 0x2f) (h0 : ∀ c ∈ path, c ≠ 0)
    (hl : path.length < sunPathSize) :
    stepOp (.sres path) = .sres (.addr (mkUn path) path true) := by
  simp only [stepOp, Proofs.ParsersStep.cbytes_id path h0, Proofs.ParsersStep.sres_unix path hs h0 hl]
example : stepOp (.sres "/tmp/s".toUTF8.toList) = .sres (.addr (mkUn "/tmp/s".toUTF8.toList) "/tmp/s".toUTF8.toList true) :=
  exec_sres_unix _ (by decide +kernel) (by decide +kernel) (by decide +kernel)

/-- `sres` on a bracketed IPv4 literal `[t]:p` (`t` any text `Spec.Inet.parse4` accepts, port 1..65535): L1 = the
    `sockaddr_in` with the address `t` denotes and port `p`; L2: its text is `[inet_ntop(a)]:p`, and that resolves
    back to the same address (`m=1`) — for EVERY IPv4 address, by `inet4_pton_ntop`. -/
theorem exec_sres_v4 (t a : List UInt8) (p : Nat) (h0 : ∀ c ∈ t, c ≠ 0) (hc : ∀ c ∈ t, c ≠ 0x3a)
    (ht : Inet.parse4 t = some a) (h1 : 1 ≤ p) (h2 : p ≤ 65535) :
    stepOp (.sres ([0x5b] ++ t ++ [0x5d, 0x3a] ++ decimal p)) =
      .sres (.addr (mkIn a p) ([0x5b] ++ Inet.print4 a ++ [0x5d, 0x3a] ++ decimal p) true) := by
  have ha := Proofs.Inet4.parse4_length t a ht
  obtain ⟨_, l2, l3, l4⟩ := inet4_pton_ntop a ha
  simp only [stepOp, Proofs.ParsersStep.cbytes_id _ (Proofs.SockAddr.bracket_nul t _ h0 (Proofs.SockAddr.decimal_nul p)), Proofs.ParsersStep.sres_v4 t a p h0 hc ht h1 h2 l4 l3 l2]
example : stepOp (.sres "[1.2.3.4]:80".toUTF8.toList) =
    .sres (.addr (mkIn [1, 2, 3, 4] 80) "[1.2.3.4]:80".toUTF8.toList true) := by decide +kernel

/-- `sres` on a bracketed IPv6 literal `[t]:p`: L1 = the `sockaddr_in6` with the address `t` denotes and port `p`;
    L2: its text is `[inet_ntop(a)]:p`, which resolves back to the same address if `inet_pton` undoes `inet_ntop` on
    this address. -/
theorem exec_sres_v6_partial (t a : List UInt8) (p : Nat) (h0 : ∀ c ∈ t, c ≠ 0) (hc : 0x3a ∈ t)
    (ht : Inet.parse6 t = some a) (h1 : 1 ≤ p) (h2 : p ≤ 65535)
    (h0' : ∀ c ∈ Inet.print6 a, c ≠ 0) (hc' : 0x3a ∈ Inet.print6 a) (ht' : Inet.parse6 (Inet.print6 a) = some a) :
    stepOp (.sres ([0x5b] ++ t ++ [0x5d, 0x3a] ++ decimal p)) =
      .sres (.addr (mkIn6 a p) ([0x5b] ++ Inet.print6 a ++ [0x5d, 0x3a] ++ decimal p) true) := by
  simp only [stepOp, Proofs.ParsersStep.cbytes_id _ (Proofs.SockAddr.bracket_nul t _ h0 (Proofs.SockAddr.decimal_nul p)), Proofs.ParsersStep.sres_v6 t a p h0 hc ht h1 h2 h0' hc' ht']
/-- `[0:0:0:0:0:0:0:1]:80` is printed as `[::1]:80`; the hypotheses hold for this address -/
example : stepOp (.sres "[0:0:0:0:0:0:0:1]:80".toUTF8.toList) =
      .sres (.addr (mkIn6 [0, 0, 0, 0, 0, 0, 0, 0, 0, 0, 0, 0, 0, 0, 0, 1] 80) "[::1]:80".toUTF8.toList true) ∧
    Inet.parse6 (Inet.print6 [0, 0, 0, 0, 0, 0, 0, 0, 0, 0, 0, 0, 0, 0, 0, 1]) = some [0, 0, 0, 0, 0, 0, 0, 0, 0, 0, 0, 0, 0, 0, 0, 1] ∧
    0x3a ∈ Inet.print6 [0, 0, 0, 0, 0, 0, 0, 0, 0, 0, 0, 0, 0, 0, 0, 1] := by decide +kernel

/-- `abi`: the platform constants the models of sock.c / sock_util.c are written for, as `stepOp` prints them (the
    harness prints the C compiler's; a difference is an L2 divergence). -/
theorem exec_abi : stepOp .abi = .abi 1 2 10 1 108 110 16 28 := rfl
example : stepOp .abi ≠ .ooc := by decide

/-- `Spec.Inet` satisfies the IPv6 half of `InetLaws`: `inet_pton(AF_INET6, inet_ntop(AF_INET6, a)) = a` for EVERY
    16-byte address (all shapes `print6` produces: eight groups; the first longest run of ≥ 2 zero groups written `::`
    at the start, in the middle or at the end; `::a.b.c.d` and `::ffff:a.b.c.d` with a dotted quad), and the text
    contains a `':'` and no NUL. -/
theorem inet6_pton_ntop (a : List UInt8) (h : a.length = 16) :
    ntop6 a = some (Inet.print6 a) ∧ Inet.parse6 (Inet.print6 a) = some a ∧
      0x3a ∈ Inet.print6 a ∧ (∀ c ∈ Inet.print6 a, c ≠ 0) :=
  ⟨Proofs.ParsersStep.ntop6_eq a h, Proofs.Inet6.parse6_print6 a h,
   (Proofs.Inet6.print6_chars a h).1, (Proofs.Inet6.print6_chars a h).2⟩
/-- the shapes: leading `::`, trailing `::`, a run in the middle, no run, a single zero group (not compressed), two
    runs of equal length (the first one is compressed), all zeros, IPv4-compatible and IPv4-mapped (dotted quad) -/
example :
    Inet.print6 [0, 0, 0, 0, 0, 0, 0, 0, 0, 0, 0, 0, 0, 0, 0, 1] = "::1".toUTF8.toList ∧
    Inet.print6 [0x20, 0x01, 0x0d, 0xb8, 0, 0, 0, 0, 0, 0, 0, 0, 0, 0, 0, 0] = "2001:db8::".toUTF8.toList ∧
    Inet.print6 [0x20, 0x01, 0x0d, 0xb8, 0, 0, 0, 0, 0, 0, 0, 0, 0, 0, 0xab, 0x0c] = "2001:db8::ab0c".toUTF8.toList ∧
    Inet.print6 [0, 1, 0, 2, 0, 3, 0, 4, 0, 5, 0, 6, 0, 7, 0, 8] = "1:2:3:4:5:6:7:8".toUTF8.toList ∧
    Inet.print6 [0, 1, 0, 0, 0, 3, 0, 4, 0, 5, 0, 6, 0, 7, 0, 8] = "1:0:3:4:5:6:7:8".toUTF8.toList ∧
    Inet.print6 [0, 1, 0, 0, 0, 0, 0, 4, 0, 5, 0, 0, 0, 0, 0, 8] = "1::4:5:0:0:8".toUTF8.toList ∧
    Inet.print6 [0, 0, 0, 0, 0, 0, 0, 0, 0, 0, 0, 0, 0, 0, 0, 0] = "::".toUTF8.toList ∧
    Inet.print6 [0, 0, 0, 0, 0, 0, 0, 0, 0, 0, 0, 0, 1, 2, 3, 4] = "::1.2.3.4".toUTF8.toList ∧
    Inet.print6 [0, 0, 0, 0, 0, 0, 0, 0, 0, 0, 0xff, 0xff, 1, 2, 3, 4] = "::ffff:1.2.3.4".toUTF8.toList ∧
    Inet.parse6 "1::4:5:0:0:8".toUTF8.toList = some [0, 1, 0, 0, 0, 0, 0, 4, 0, 5, 0, 0, 0, 0, 0, 8] ∧
    Inet.parse6 "::ffff:1.2.3.4".toUTF8.toList = some [0, 0, 0, 0, 0, 0, 0, 0, 0, 0, 0xff, 0xff, 1, 2, 3, 4] := by
  decide +kernel

/-- `Spec.Inet` with the `ntop4` / `ntop6` of the executable satisfies `InetLaws`, the hypothesis of
    `sock_resolve_prettyprint`: that theorem holds for the functions `pmodel parsers` runs. -/
theorem inet_laws : InetLaws Inet.parse4 Inet.parse6 ntop4 ntop6 :=
  ⟨fun a h => ⟨_, (inet4_pton_ntop a h).1, (inet4_pton_ntop a h).2.1, (inet4_pton_ntop a h).2.2.1, (inet4_pton_ntop a h).2.2.2⟩,
   fun a h => ⟨_, (inet6_pton_ntop a h).1, (inet6_pton_ntop a h).2.1, (inet6_pton_ntop a h).2.2.1, (inet6_pton_ntop a h).2.2.2⟩⟩
example : ∃ s, prettyprint ntop4 ntop6 (mkIn6 [0x20, 0x01, 0x0d, 0xb8, 0, 0, 0, 0, 0, 0, 0, 0, 0, 0, 0, 1] 443) = .ok (some s) ∧
    resolve Inet.parse4 Inet.parse6 (cstr s) = .ok (.addr (mkIn6 [0x20, 0x01, 0x0d, 0xb8, 0, 0, 0, 0, 0, 0, 0, 0, 0, 0, 0, 1] 443)) :=
  (sock_resolve_prettyprint _ _ _ _ inet_laws 443 (by decide) (by decide)).2.1 _ rfl

/-- `sres` on a bracketed IPv6 literal `[t]:p` (`t` any text with a `':'` that `Spec.Inet.parse6` accepts, port
    1..65535): L1 = the `sockaddr_in6` with the address `t` denotes and port `p`; L2: its text is `[inet_ntop(a)]:p`,
    and that resolves back to the same address (`m=1`) — for EVERY IPv6 address, by `inet6_pton_ntop`
    (`exec_sres_v6_partial` without its three hypotheses on `Inet.print6 a`). -/
theorem exec_sres_v6 (t a : List UInt8) (p : Nat) (h0 : ∀ c ∈ t, c ≠ 0) (hc : 0x3a ∈ t)
    (ht : Inet.parse6 t = some a) (h1 : 1 ≤ p) (h2 : p ≤ 65535) :
    stepOp (.sres ([0x5b] ++ t ++ [0x5d, 0x3a] ++ decimal p)) =
      .sres (.addr (mkIn6 a p) ([0x5b] ++ Inet.print6 a ++ [0x5d, 0x3a] ++ decimal p) true) := by
  obtain ⟨_, l2, l3, l4⟩ := inet6_pton_ntop a (Proofs.ParsersStep.parse6_length t a ht)
  exact exec_sres_v6_partial t a p h0 hc ht h1 h2 l4 l3 l2
/-- an upper-case, uncompressed spelling of an IPv4-mapped address comes back as `::ffff:1.2.3.4`; a run in the middle -/
example :
    stepOp (.sres "[0:0:0:0:0:FFFF:102:304]:80".toUTF8.toList) =
      .sres (.addr (mkIn6 [0, 0, 0, 0, 0, 0, 0, 0, 0, 0, 0xff, 0xff, 1, 2, 3, 4] 80) "[::ffff:1.2.3.4]:80".toUTF8.toList true) ∧
    stepOp (.sres "[2001:db8:0:0:0:0:0:1]:65535".toUTF8.toList) =
      .sres (.addr (mkIn6 [0x20, 0x01, 0x0d, 0xb8, 0, 0, 0, 0, 0, 0, 0, 0, 0, 0, 0, 1] 65535)
        "[2001:db8::1]:65535".toUTF8.toList true) := by decide +kernel

end Percival.C17
