import Percival.Proofs.NetbufStep
import Percival.Proofs.NetbufAns
/-!
# C07 — buffered reader and writer preserve the byte stream exactly and in order

All statements are about the executable models `Model.NetbufRead` / `Model.NetbufWrite` of
`netbuf_read.c` / `netbuf_write.c` (tied to the C by `./check C07`), for **every** sequence of
application calls and transport completions, of any length and with any sizes.

Hypotheses which appear everywhere:
* *usage contract of netbuf.h*: for the reader, `Reader.init.run ops = some …` (the abstract reader of
  `Spec/ByteStream.lean` accepts the sequence: one wait at a time, consume only what is visible and not
  while a wait is outstanding; callbacks and completions only when awaited); for the writer
  `clientRun none ops = some …` (every `reserve n` is followed at once by `consume d`, `|d| ≤ n`).
* *contract of the transport* (C06, an assumption here): `transportOK init ops` — a completion
  `data d` of the reader's request `(buf + datalen, buflen - datalen, 1)` has `1 ≤ |d| ≤ buflen - datalen`;
  a completion of the writer's request `(buf, datalen, datalen)` arrives only while the request is
  outstanding, reports `datalen` on success and has passed on at most `datalen` bytes on failure.
`Res.ok` in a conclusion means: no access outside a buffer (`oob`), no internal assertion (`abort`),
no contract violation.
-/
namespace Percival.C07
open Percival Percival.Spec.ByteStream Percival.Model.Netbuf Percival.Model

/-- the constants the models take from the current source are the documented ones -/
theorem gen_constants :
    Gen.Netbuf.wbuflen = 4096 ∧ Gen.Netbuf.rbufInit = 4096 ∧ Gen.Netbuf.growFactor = 2 ∧ Gen.Netbuf.readMin = 1 := by
  decide

/-- **Reader refinement.**  For every allowed sequence the model runs to the end inside its buffer, gives
exactly the answers of the abstract reader (callback statuses and the bytes `peek` shows), and ends in a
state with `|buf| = buflen`, `bufpos ≤ datalen ≤ buflen` and `buf[bufpos .. datalen) = received.drop consumed`. -/
theorem reader_refines (ops : List ROp) (a : Reader) (outs : List ROut)
    (hs : Reader.init.run ops = some (a, outs))
    (ht : NetbufRead.transportOK NetbufRead.init ops) :
    ∃ r, NetbufRead.run NetbufRead.init ops = .ok (r, outs) ∧
      r.buf.length = r.buflen ∧ r.bufpos ≤ r.datalen ∧ r.datalen ≤ r.buflen ∧
      (r.buf.drop r.bufpos).take (r.datalen - r.bufpos) = a.received.drop a.consumed := by
  obtain ⟨r, e, h⟩ := Proofs.NetbufRead.run_refines ops Proofs.NetbufRead.rel_init hs ht
  exact ⟨r, e, h.geo.len, h.geo.pos, h.geo.dat, h.win⟩

/- hypotheses satisfiable: growth to 8192, compaction from a non-zero read pointer, end-of-stream -/
example :
    (∃ a outs, Reader.init.run [.wait 5000, .net (.data (List.replicate 4096 7)), .peek,
      .net (.data (List.replicate 1000 9)), .consume 4999, .wait 8192, .net .eof, .peek] = some (a, outs)) ∧
    NetbufRead.transportOK NetbufRead.init [.wait 5000, .net (.data (List.replicate 4096 7)), .peek,
      .net (.data (List.replicate 1000 9)), .consume 4999, .wait 8192, .net .eof, .peek] :=
  Proofs.NetbufRead.hyps_of_sizes (by decide +kernel)

/-- **Nothing lost, duplicated or reordered.**  At the end of every allowed sequence — so at every moment —
`peek` shows exactly: all bytes the transport has delivered, in order of delivery, minus the bytes consumed;
whatever waits, cancellations, end-of-stream or error reports happened in between. -/
theorem reader_stream_exact (ops : List ROp) (a : Reader) (outs : List ROut)
    (hs : Reader.init.run ops = some (a, outs))
    (ht : NetbufRead.transportOK NetbufRead.init ops) :
    ∃ r, NetbufRead.run NetbufRead.init ops = .ok (r, outs) ∧
      NetbufRead.peek r = .ok ((delivered ops).drop (consumedBy ops)) := by
  obtain ⟨r, e, h⟩ := Proofs.NetbufRead.run_refines ops Proofs.NetbufRead.rel_init hs ht
  exact ⟨r, e, by rw [Proofs.NetbufRead.peek_eq h.geo, h.win, Proofs.NetbufRead.visible_of_run hs]⟩

example :
    ((∃ a outs, Reader.init.run [.wait 3, .net (.data [1, 2]), .cancel, .wait 4, .net (.data [3, 4, 5]), .consume 1,
        .peek] = some (a, outs)) ∧
      NetbufRead.transportOK NetbufRead.init [.wait 3, .net (.data [1, 2]), .cancel, .wait 4, .net (.data [3, 4, 5]),
        .consume 1, .peek]) ∧
    (delivered [.wait 3, .net (.data [1, 2]), .cancel, .wait 4, .net (.data [3, 4, 5]), .consume 1, .peek]).drop
      (consumedBy [.wait 3, .net (.data [1, 2]), .cancel, .wait 4, .net (.data [3, 4, 5]), .consume 1, .peek])
      = [2, 3, 4, 5] :=
  ⟨Proofs.NetbufRead.hyps_of_sizes (by decide +kernel), by decide⟩

/-- **The answer to a wait** (a fact about the abstract reader, whose answers the model reproduces by
`reader_refines`).  While `wait k` is outstanding, an event — the immediate callback or a transport
completion — is answered with success *exactly when* `k` unconsumed bytes are there after it; with
end-of-stream / error exactly when the transport says so, which it can only while fewer than `k` bytes
are there; otherwise not at all, and the wait stays outstanding. -/
theorem reader_wait_answer (a a' : Reader) (k : Nat) (op : ROp) (o : ROut)
    (hw : a.waiting = some k) (hev : op = .fire ∨ ∃ ev, op = .net ev)
    (hs : a.step op = some (a', o)) :
    (o = .cb 0 ↔ k ≤ a'.visible.length) ∧
    (o = .cb 1 ↔ op = .net .eof) ∧
    (o = .cb (-1) ↔ op = .net .err) ∧
    (op = .net .eof ∨ op = .net .err → a.visible.length < k ∧ a'.visible = a.visible) ∧
    (o = .none → a'.waiting = some k) ∧
    (o ≠ .none → a'.waiting = none) := by
  have hc := Proofs.NetbufRead.step_cases hs
  rcases hev with rfl | ⟨ev, rfl⟩
  · obtain ⟨k', hw', hk, rfl, rfl⟩ := hc
    cases hw.symm.trans hw'
    simp [Reader.visible] at hk ⊢
    exact hk
  · obtain ⟨k', hw', hk, hc⟩ := hc
    cases hw.symm.trans hw'
    cases ev with
    | err =>
      obtain ⟨rfl, rfl⟩ := hc
      simp [Reader.visible] at hk ⊢
      omega
    | eof =>
      obtain ⟨rfl, rfl⟩ := hc
      simp [Reader.visible] at hk ⊢
      omega
    | data d =>
      obtain ⟨_, rfl, rfl⟩ := hc
      split
      · rename_i hdone
        simp [Reader.visible] at hdone ⊢
        exact hdone
      · rename_i hdone
        simp [Reader.visible] at hdone ⊢
        exact ⟨by omega, hw⟩

example : ∃ a' o, ({ received := [1, 2, 3], consumed := 1, waiting := some 4 } : Reader).step (.net (.data [4, 5]))
    = some (a', o) ∧ o = .cb 0 ∧ a'.visible = [2, 3, 4, 5] :=
  ⟨_, _, rfl, rfl, rfl⟩

/-- **Cancelling a wait loses nothing** (holds since the fix of finding F9).  Stop any allowed sequence
anywhere — in particular in the middle of a wait of which part has arrived — and cancel: every byte delivered
and not consumed is still shown by `peek`, and a new wait for up to that many bytes is answered at once, with
success, without asking the transport, and still shows them. -/
theorem reader_cancel_loses_nothing (ops : List ROp) (a : Reader) (outs : List ROut)
    (hs : Reader.init.run ops = some (a, outs))
    (ht : NetbufRead.transportOK NetbufRead.init ops) :
    ∃ r, NetbufRead.run NetbufRead.init ops = .ok (r, outs) ∧
      NetbufRead.peek (NetbufRead.cancel r) = .ok ((delivered ops).drop (consumedBy ops)) ∧
      ∀ k, k ≤ ((delivered ops).drop (consumedBy ops)).length →
        ∃ r1 r2, NetbufRead.wait (NetbufRead.cancel r) k = .ok r1 ∧ NetbufRead.request r1 = none ∧
          NetbufRead.step r1 .fire = .ok (r2, .cb 0) ∧
          NetbufRead.peek r2 = .ok ((delivered ops).drop (consumedBy ops)) := by
  obtain ⟨r, e, h⟩ := Proofs.NetbufRead.run_refines ops Proofs.NetbufRead.rel_init hs ht
  rw [← Proofs.NetbufRead.visible_of_run hs]
  exact ⟨r, e, Proofs.NetbufRead.cancel_wait h⟩

/- the F9 scenario in small: wait(4); 2 bytes arrive; cancel; 2 more are waiting in the kernel; wait(4) again -/
example :
    ((∃ a outs, Reader.init.run [.wait 4, .net (.data [1, 2])] = some (a, outs)) ∧
      NetbufRead.transportOK NetbufRead.init [.wait 4, .net (.data [1, 2])]) ∧
    (delivered [.wait 4, .net (.data [1, 2])]).drop (consumedBy [.wait 4, .net (.data [1, 2])]) = [1, 2] :=
  ⟨Proofs.NetbufRead.hyps_of_sizes (by decide +kernel), by decide⟩

/-- **Writer refinement.**  For every allowed sequence the model runs to the end inside its buffers; what the
peer has received is a prefix of the concatenation of all writes in call order; as long as the transport
has not failed, received ++ still-pending (the buffer in flight, then the queue) *is* that concatenation;
the failure callback has run exactly once if the transport failed and never otherwise. -/
theorem writer_refines (ops : List WOp) (rs : Option Nat)
    (hc : clientRun none ops = some rs)
    (ht : NetbufWrite.transportOK NetbufWrite.init ops) :
    ∃ w outs, NetbufWrite.run NetbufWrite.init ops = .ok (w, outs) ∧
      sentOf outs <+: writesOf ops ∧
      (hasFail ops = false → sentOf outs ++ Proofs.NetbufWrite.pendingData w = writesOf ops) ∧
      failcbsOf outs = (if hasFail ops = true then 1 else 0) ∧
      w.failed = hasFail ops := by
  obtain ⟨w, outs, e, g, f⟩ := Proofs.NetbufWrite.run_init hc ht
  refine ⟨w, outs, e, g.pre, ?_, ?_, f⟩
  · intro h; exact g.stream (by rw [f]; exact h)
  · rw [g.fcount, f]

/- hypotheses satisfiable: empty write, reserve/consume, a completion, a write behind it, a failure, a later write -/
example :
    (∃ rs, clientRun none [.write [1], .write [], .reserve 10, .consume [2, 3], .net (.done 1), .write [4],
      .net (.fail 1), .write [5]] = some rs) ∧
    NetbufWrite.transportOK NetbufWrite.init [.write [1], .write [], .reserve 10, .consume [2, 3], .net (.done 1),
      .write [4], .net (.fail 1), .write [5]] :=
  Proofs.NetbufWrite.hyps_of_eval (by decide +kernel) (by decide +kernel)

/-- **Everything arrives if the transport never fails**: once no transport request is outstanding, the peer
has received exactly the concatenation of all writes. -/
theorem writer_all_delivered (ops : List WOp) (rs : Option Nat)
    (hc : clientRun none ops = some rs)
    (ht : NetbufWrite.transportOK NetbufWrite.init ops)
    (hnf : hasFail ops = false) :
    ∃ w outs, NetbufWrite.run NetbufWrite.init ops = .ok (w, outs) ∧
      (NetbufWrite.request w = none → sentOf outs = writesOf ops) := by
  obtain ⟨w, outs, e, g, f⟩ := Proofs.NetbufWrite.run_init hc ht
  exact ⟨w, outs, e, fun hreq => g.all_sent (f.trans hnf) (Proofs.NetbufWrite.request_none.1 hreq)⟩

example :
    ((∃ rs, clientRun none [.write [1], .write [2, 3], .write [], .net (.done 1), .net (.done 2)] = some rs) ∧
      NetbufWrite.transportOK NetbufWrite.init [.write [1], .write [2, 3], .write [], .net (.done 1), .net (.done 2)]) ∧
    hasFail [.write [1], .write [2, 3], .write [], .net (.done 1), .net (.done 2)] = false ∧
    (match NetbufWrite.run NetbufWrite.init [.write [1], .write [2, 3], .write [], .net (.done 1), .net (.done 2)] with
     | .ok (w, outs) => (NetbufWrite.request w, sentOf outs)
     | _ => (some [], [])) = (none, [1, 2, 3]) :=
  ⟨Proofs.NetbufWrite.hyps_of_eval (by decide +kernel) (by decide +kernel), by decide, by decide +kernel⟩

/-- **After the first transport failure**: the failure callback has run once; from then on, whatever the
application does (`ops2`), nothing is handed to the transport (no request is ever outstanding again), the
peer receives nothing more, the callback does not run again, and `write` returns success having discarded
the data. -/
theorem writer_after_failure (ops1 ops2 : List WOp) (rs : Option Nat)
    (hc : clientRun none (ops1 ++ ops2) = some rs)
    (ht : NetbufWrite.transportOK NetbufWrite.init (ops1 ++ ops2))
    (hfail : hasFail ops1 = true) :
    ∃ w1 outs1 w2 outs2,
      NetbufWrite.run NetbufWrite.init ops1 = .ok (w1, outs1) ∧ NetbufWrite.run w1 ops2 = .ok (w2, outs2) ∧
      NetbufWrite.run NetbufWrite.init (ops1 ++ ops2) = .ok (w2, outs1 ++ outs2) ∧
      failcbsOf outs1 = 1 ∧ failcbsOf outs2 = 0 ∧ sentOf outs2 = [] ∧
      NetbufWrite.request w1 = none ∧ NetbufWrite.request w2 = none ∧
      (∀ d, NetbufWrite.write w2 d = .ok w2) := by
  obtain ⟨w1, outs1, w2, outs2, rs1, e1, e2, e12, g1, hf1, s2, c2, f2, cur2⟩ :=
    Proofs.NetbufWrite.run_append_failed ops1 ops2 Proofs.NetbufWrite.good_init hc ht hfail
  refine ⟨w1, outs1, w2, outs2, e1, e2, e12, ?_, c2, s2, Proofs.NetbufWrite.request_none.2 (g1.inv.failedIdle hf1),
    Proofs.NetbufWrite.request_none.2 cur2, fun d => ?_⟩
  · have := g1.fcount
    rwa [hf1, Nat.zero_add] at this
  · rw [NetbufWrite.write, if_pos f2]; rfl

example :
    ((∃ rs, clientRun none ([.write [1, 2, 3], .write [4], .net (.fail 2)] ++ [.write [5], .reserve 4, .consume [6]])
        = some rs) ∧
      NetbufWrite.transportOK NetbufWrite.init
        ([.write [1, 2, 3], .write [4], .net (.fail 2)] ++ [.write [5], .reserve 4, .consume [6]])) ∧
    hasFail [.write [1, 2, 3], .write [4], .net (.fail 2)] = true :=
  ⟨Proofs.NetbufWrite.hyps_of_eval (by decide +kernel) (by decide +kernel), by decide⟩

/-- **Zero-length writes are harmless** (holds since the fix of finding F1): whatever is written,
including empty writes and `reserve n; consume 0`, a request handed to the transport is never empty
(`network_write` asserts `buflen != 0`) and lies inside its buffer. -/
theorem writer_requests_nonempty (ops : List WOp) (rs : Option Nat)
    (hc : clientRun none ops = some rs)
    (ht : NetbufWrite.transportOK NetbufWrite.init ops) :
    ∃ w outs, NetbufWrite.run NetbufWrite.init ops = .ok (w, outs) ∧
      ∀ wb, w.curr = some wb → 0 < wb.datalen ∧ wb.datalen ≤ wb.buf.length ∧
        ∃ b, NetbufWrite.request w = some b ∧ b.length = wb.datalen := by
  obtain ⟨w, outs, e, g, -⟩ := Proofs.NetbufWrite.run_init hc ht
  refine ⟨w, outs, e, ?_⟩
  intro wb hwb
  obtain ⟨hok, hpos⟩ := g.inv.c wb hwb
  refine ⟨hpos, by rw [hok.len]; exact hok.dat, wb.data, by simp [NetbufWrite.request, hwb], Proofs.NetbufWrite.data_length hok⟩

example :
    ((∃ rs, clientRun none [.write [], .reserve 10, .consume [], .write [], .write [7]] = some rs) ∧
      NetbufWrite.transportOK NetbufWrite.init [.write [], .reserve 10, .consume [], .write [], .write [7]]) ∧
    (match NetbufWrite.run NetbufWrite.init [.write [], .reserve 10, .consume [], .write [], .write [7]] with
     | .ok (w, _) => NetbufWrite.request w
     | _ => none) = some [7] :=
  ⟨Proofs.NetbufWrite.hyps_of_eval (by decide +kernel) (by decide +kernel), by decide +kernel⟩

/-! ## The functions the executables run

`pmodel netbuf` applies `Model.NetbufStep.stepOp` to every parsed line and `pmodel netbufmon` applies
`Spec.NetbufMon.monStep` to every (operation, implementation's answer) pair; `Driver/Netbuf.lean` and
`Driver/Netbufmon.lean` contain only the parsers and printers.  `stepOp` is the line protocol *around* the two
models: the scripted kernel, the `network_read` / `network_write` loops (`spinR`, `spinW`: total, the reader's
with fuel `loopN + rqWeight rq + 2`, an exhausted fuel being the explicit outcome `model-fuel`), and the harness'
callback program. -/

open Percival.Model.NetbufStep Percival.Proofs.NetbufStep in
/-- **The executable moves the reader and the writer only by steps of their models**: in every state that
`pmodel netbuf` reaches, for every sequence of protocol lines, the reader is the result of
`NetbufRead.run NetbufRead.init` on some sequence of reader operations/events and the writer the result of
`NetbufWrite.run NetbufWrite.init` — the runs that `reader_refines` … `writer_requests_nonempty` are about. -/
theorem exec_states_are_model_runs (ops : List Spec.NetbufMon.Op) :
    (∃ rops outs, NetbufRead.run NetbufRead.init rops = .ok ((runOps {} ops).1.r, outs)) ∧
    (∃ wops outs, NetbufWrite.run NetbufWrite.init wops = .ok ((runOps {} ops).1.w, outs)) :=
  let ⟨_, h⟩ := (Proofs.NetbufMonSound.run_sound ops {} {} Proofs.NetbufMonSound.sound_init).2
  h.hist

open Percival.Model.NetbufStep Percival.Spec.NetbufMon in
example : ((runOps {} [.netDeliver [1, 2, 3], .rWait 2, .spin, .rConsume 1, .rPeek]).2.map Out.ans) =
    [.ok, .ok, .spin [.succ 3 (.hex [1, 2])] 0 0 .none 0, .ok, .peek 2 (.hex [2, 3])] := by decide +kernel

open Percival.Model.NetbufStep Percival.Proofs.NetbufStep in
/-- a model failure (out of bounds, assertion, contract, fuel) is latched: every later line repeats it, so it
cannot be overlooked in the comparison -/
theorem exec_failure_latched (s : NetbufStep.St) (b : Fail) (hb : s.bad = some b) (op : Spec.NetbufMon.Op) :
    stepOp s op = (s, .failed b) :=
  stepOp_latched s b hb op

open Percival.Model.NetbufStep in
example : (stepOp { bad := some .oob } .spin).1.bad = some .oob := rfl

/- the monitor run by hand over the model's own lines on one case (vlib feeds both executables the same cases);
   `monitor_accepts_model` below says this of every case -/
open Percival.Model.NetbufStep Percival.Spec.NetbufMon in
example :
    let ops : List Op := [.netDeliver [1, 2, 3], .rWait 2, .spin, .rConsume 1, .wWrite [7, 8], .netAccept 1, .netAccept 5, .spin]
    let outs := (runOps {} ops).2.map Out.ans
    (ops.zip outs).foldl (fun (acc : Spec.NetbufMon.St × Bool) p =>
      let r := monStep acc.1 p.1 p.2; (r.1, acc.2 && r.2.isNone)) ({}, true) |>.2 = true := by decide +kernel

/-! ## The monitor accepts the model

`Proofs/NetbufMonSound.lean` carries the relation of `reader_refines` (`Proofs.NetbufRead.Rel`) and the invariant of
`writer_refines` (`Proofs.NetbufWrite.Inv`, `pendingData`) through `spinR` / `spinW` together with the monitor's
bookkeeping: the monitor's `items` and the model's buffer window followed by the scripted kernel queue are the same
stream of bytes and end/error marks; the monitor's `pending` is what the writer model still has to send. -/

open Percival.Model.NetbufStep Percival.Spec.NetbufMon in
/-- **Monitor soundness for the model (no false alarm).**  For every sequence of protocol lines — any interleaving
of waits, `r_loop` programs, peeks, consumes, cancels, scripted `recv` / `send` answers of any sizes, reserves,
writes and `spin`s — the monitor `pmodel netbufmon` runs (`monStep`) accepts every answer the model `pmodel netbuf`
runs (`stepOp`) gives.  So code that behaves like the model of which `reader_refines` … `writer_requests_nonempty`
are proved is never reported, and every report of the monitor is a deviation from that model. -/
theorem monitor_accepts_model (ops : List Op) :
    acceptsRun {} (ops.zip ((runOps {} ops).2.map Out.ans)) = true :=
  (Proofs.NetbufMonSound.run_sound ops {} {} Proofs.NetbufMonSound.sound_init).1

/- not vacuous: the run below has a success callback, an `r_loop` program that consumes and
   waits again, an end-of-stream status, a partial `send`, and a failing `send`; and the monitor is not a function
   that accepts everything: the same run with one wrong byte shown, or with a lost failure callback, is rejected. -/
open Percival.Model.NetbufStep Percival.Spec.NetbufMon in
example :
    (runOps {} [.netDeliver [1, 2, 3, 4, 5], .netEof, .rLoop 2 2 3, .wWrite [7, 8, 9], .netAccept 2, .netSendfail,
        .spin]).2.map Out.ans =
      [.ok, .ok, .ok, .ok, .ok, .ok,
       .spin [.succ 5 (.hex [1, 2]), .succ 3 (.hex [3, 4]), .status 1] 1 2 (.hex [7, 8]) 2] ∧
    acceptsRun {} [(.netDeliver [1, 2, 3, 4, 5], .ok), (.netEof, .ok), (.rLoop 2 2 3, .ok), (.wWrite [7, 8, 9], .ok),
        (.netAccept 2, .ok), (.netSendfail, .ok),
        (.spin, .spin [.succ 5 (.hex [1, 2]), .succ 3 (.hex [3, 9]), .status 1] 1 2 (.hex [7, 8]) 2)] = false ∧
    acceptsRun {} [(.netDeliver [1, 2, 3, 4, 5], .ok), (.netEof, .ok), (.rLoop 2 2 3, .ok), (.wWrite [7, 8, 9], .ok),
        (.netAccept 2, .ok), (.netSendfail, .ok),
        (.spin, .spin [.succ 5 (.hex [1, 2]), .succ 3 (.hex [3, 4]), .status 1] 0 2 (.hex [7, 8]) 2)] = false := by
  decide +kernel

open Percival.Model.NetbufStep in
/-- **The model never leaves its contract on any protocol run**: no access outside a buffer, no assertion of the
library, no contract violation of the layer below, and the fuel of the reader's event loop
(`loopN + rqWeight rq + 2`) is never exhausted — for every sequence of protocol lines the failure latch stays
empty (so by `exec_failure_latched` no line `failed …` / `model-fuel` is ever printed by `pmodel netbuf`). -/
theorem exec_never_fails (ops : List Spec.NetbufMon.Op) : (runOps {} ops).1.bad = none :=
  let ⟨_, h⟩ := (Proofs.NetbufMonSound.run_sound ops {} {} Proofs.NetbufMonSound.sound_init).2
  h.bad

open Percival.Model.NetbufStep Percival.Spec.NetbufMon in
example : (runOps {} [.rWait 5000, .netDeliver (List.replicate 6000 7), .spin, .rConsume 4999, .rWait 8192, .netEof,
    .spin]).1.r.buflen = 8192 := by decide +kernel

open Percival.Model.NetbufStep in
/-- … and no line of `pmodel netbuf` is ever `failed oob` / `failed abort` / `failed contract` / `model-fuel`:
the rejection "event loop failed or unreadable answer" of the monitor is never caused by the model. -/
theorem exec_no_failed_line (ops : List Spec.NetbufMon.Op) :
    ∀ o ∈ (runOps {} ops).2, ∀ f, o ≠ Out.failed f :=
  Proofs.NetbufMonSound.run_no_failed ops {} {} Proofs.NetbufMonSound.sound_init

/- the statement is about real outputs: a state whose latch is set does print `failed` -/
open Percival.Model.NetbufStep in
example : (stepOp { bad := some .fuel } .spin).2.ans = .other ∧
    (∃ f, (runOps { bad := some .oob } [.rPeek]).2 = [Out.failed f]) := ⟨rfl, ⟨_, rfl⟩⟩

open Percival.Model.NetbufStep Percival.Proofs.NetbufMonSound in
/-- … and every callback record of every `spin` line shows bytes the model could read from its own buffer (never
`0:<a>:model-oob`).  With this, `Out.ans` — the typed answer `monitor_accepts_model` feeds to the monitor — is what
`Driver/Netbufmon.parseAns` reads from the text `Driver/Netbuf.render` prints on every reachable output
(checked by evaluation on every output shape in `KAT/NetbufAns.lean`; the unreadable record is the only shape on
which the two differ). -/
theorem exec_records_readable (ops : List Spec.NetbufMon.Op) :
    ∀ o ∈ (runOps {} ops).2, OutReadable o :=
  run_readable ops {} {} sound_init

/- `OutReadable` is a real restriction -/
open Percival.Model.NetbufStep Percival.Proofs.NetbufMonSound in
example : ¬ OutReadable (.spin [.succ 4 none] 0 0 .none 0 NetbufRead.init NetbufWrite.init) :=
  fun h => h _ (List.mem_singleton.2 rfl)

/-! ## What the monitor reads from the printed line

`monitor_accepts_model` is about the typed answer `Out.ans o`.  The executables exchange text: `pmodel netbuf` prints
`Driver.Netbuf.render o`, the framework hands the part before ` | ` to `pmodel netbufmon`, whose
`Driver.Netbufmon.parseAns` reads it.  The following theorems close the gap between the two (helpers in
`Proofs/NetbufAns.lean`). -/

open Percival.Model.NetbufStep Percival.Proofs.NetbufMonSound Percival.Proofs.NetbufAns in
/-- **What the monitor reads is the typed answer.**  `Driver.Netbuf.render o` is, by definition, the tokens
`Driver.Netbuf.l1Toks o` joined by single spaces, followed by ` | ` and the L2 part (if any).  For every typed output
`o` — `failed`, `bad-op`, `contract`, `ok` with reader or writer state, `peek`, `ok <n>`, `spin` with any number of
callback records, any statuses (negative ones included), any byte strings shown as `-`, hex or
`#<n>:<16 hex digits>` —
whose records could be printed (`OutReadable`: no `0:<a>:model-oob`) and whose shown byte strings are in the form
`shownOf` produces (`OutCanon`: not `.hex []`, which is printed `-` exactly like `.none`), the monitor's reader
`Driver.Netbufmon.parseAns` applied to these tokens gives exactly `Out.ans o`, and cutting the L1 part of the printed
line at the spaces gives back exactly these tokens (no token contains a space).  Both hypotheses hold for every output
of every run (`exec_records_readable`, `exec_shown_canonical`); without either the conclusion is false (examples
below).  Not covered: that `Driver/Loop.loopMon` cuts the line with `String.splitOn " "` (a different splitting
function than the `String.split ' '` of the statement) and that `tools/vlib.py` cuts at ` | `; `KAT/NetbufAns.lean`
tests these on an output of every shape. -/
theorem monitor_reads_printed_answer (o : Out) (hr : OutReadable o) (hc : OutCanon o) :
    Driver.Netbufmon.parseAns (Driver.Netbuf.l1Toks o) = o.ans ∧
    Driver.Netbufmon.splitCh ' ' (" ".intercalate (Driver.Netbuf.l1Toks o)) = Driver.Netbuf.l1Toks o ∧
    Driver.Netbuf.render o =
      " ".intercalate (Driver.Netbuf.l1Toks o) ++
        (match Driver.Netbuf.l2Str o with | some s => " | " ++ s | none => "") :=
  ⟨parseAns_l1Toks o hr hc, split_l1 o, rfl⟩

/-- the tokens of a real line: a `spin` with a success record, a record with a digest, a negative status -/
example : Driver.Netbuf.l1Toks (.spin [.succ 5 (some (.hex [1, 2])), .succ 70 (some (.digest 70 0x0123456789abcdef)),
      .status (-1)] 1 2 (.hex [7, 8]) 2 NetbufRead.init NetbufWrite.init) =
    ["spin", "r=0:5:0102,0:70:#70:0123456789abcdef,-1", "f=1", "peer=2:0708", "sa=2"] := by decide +kernel

open Percival.Model.NetbufStep Percival.Proofs.NetbufMonSound Percival.Proofs.NetbufAns in
/- the hypotheses are satisfiable on such a line, and each is needed: `.hex []` is printed `-` and read as `.none` -/
example : OutReadable (.spin [.succ 5 (some (.hex [1, 2])), .status (-1)] 1 2 (.hex [7, 8]) 2 NetbufRead.init
      NetbufWrite.init) ∧
    OutCanon (.spin [.succ 5 (some (.hex [1, 2])), .status (-1)] 1 2 (.hex [7, 8]) 2 NetbufRead.init
      NetbufWrite.init) ∧
    Driver.Netbufmon.parseAns (Driver.Netbuf.l1Toks (.peek 0 (.hex []) NetbufRead.init)) ≠
      (Out.peek 0 (.hex []) NetbufRead.init).ans := by
  refine ⟨fun r hr => ?_, ⟨fun a s hm => ?_, by simp [ShownCanon]⟩, ?_⟩
  · simp only [List.mem_cons, List.not_mem_nil, or_false] at hr
    rcases hr with rfl | rfl <;> trivial
  · simp only [List.mem_cons, List.not_mem_nil, or_false, CbRec.succ.injEq, Option.some.injEq, reduceCtorEq] at hm
    obtain ⟨_, rfl⟩ := hm
    simp [ShownCanon]
  · have e : Driver.Netbuf.l1Toks (.peek 0 (.hex []) NetbufRead.init) = ["peek", "0", "-"] := by decide +kernel
    rw [e]
    simp [Driver.Netbufmon.parseAns, Driver.Netbufmon.parseShown, Out.ans, Proofs.TokText.zero_rt]

open Percival.Model.NetbufStep Percival.Proofs.NetbufAns in
/-- **Every shown byte string of every run is canonical**: whatever `pmodel netbuf` prints for `peek`, for a callback
record or for the peer's bytes was made by `shownOf` (`-` only for no bytes, hex for 1..64 bytes, length and FNV-1a
digest above), from every state and for every sequence of protocol lines. -/
theorem exec_shown_canonical (s : NetbufStep.St) (ops : List Spec.NetbufMon.Op) :
    ∀ o ∈ (runOps s ops).2, OutCanon o :=
  run_canon ops s

open Percival.Model.NetbufStep Percival.Spec.NetbufMon in
/- the tokens of a run: a callback record with bytes shown, then a `peek` -/
example : (runOps {} [.netDeliver [1, 2, 3], .rWait 2, .spin, .rPeek]).2.map Driver.Netbuf.l1Toks =
    [["ok"], ["ok"], ["spin", "r=0:3:0102", "f=0", "peer=0:-", "sa=0"], ["peek", "3", "010203"]] := by decide +kernel

open Percival.Model.NetbufStep Percival.Spec.NetbufMon in
/-- **Monitor soundness at the level of printed tokens.**  `monitor_accepts_model` with the answers read back from
the text: for every sequence of protocol lines, cut the L1 part of every line `pmodel netbuf` prints
(`" ".intercalate (l1Toks o)`, see `monitor_reads_printed_answer`) at the spaces and read the tokens with
`Driver.Netbufmon.parseAns`, as `pmodel netbufmon` does: `monStep` accepts every one of these answers. -/
theorem monitor_accepts_printed_run (ops : List Op) :
    acceptsRun {} (ops.zip ((runOps {} ops).2.map fun o =>
      Driver.Netbufmon.parseAns (Driver.Netbufmon.splitCh ' ' (" ".intercalate (Driver.Netbuf.l1Toks o))))) = true :=
  Proofs.NetbufAns.printed_run_ans ops {} {} Proofs.NetbufMonSound.sound_init ▸ monitor_accepts_model ops

open Percival.Model.NetbufStep Percival.Spec.NetbufMon in
/- the answers read from the text of a run with two success callbacks, an end-of-stream status and a failing `send` -/
example : (runOps {} [.netDeliver [1, 2, 3, 4, 5], .netEof, .rLoop 2 2 3, .wWrite [7, 8, 9], .netAccept 2, .netSendfail,
      .spin]).2.map Driver.Netbuf.l1Toks =
    [["ok"], ["ok"], ["ok"], ["ok"], ["ok"], ["ok"],
     ["spin", "r=0:5:0102,0:3:0304,1", "f=1", "peer=2:0708", "sa=2"]] := by decide +kernel

open Percival.Model.NetbufStep Percival.Proofs.NetbufAns in
/-- **The monitor executable says `ok` to every line of the model executable.**  For every sequence of input lines
(token lists; lines that are no operation included: `pmodel netbuf` prints `bad-op` for them and `pmodel netbufmon`
accepts exactly that), feed each line to `Driver.Netbuf.step` — whose printed line is the tokens
`(stepToks s toks).2` joined by single spaces followed by nothing or by ` | ` and the L2 part — and give the line and
these tokens to `Driver.Netbufmon.step`, the function `loopMon` runs: every verdict is `ok`.  This is
`monitor_accepts_printed_run` for the step functions of the two executables themselves (`parseOp` included). -/
theorem exec_monitor_says_ok (lines : List (List String)) :
    verdicts {} {} lines = List.replicate lines.length "ok" ∧
    ∀ (s : NetbufStep.St) (toks : List String),
      (Driver.Netbuf.step s toks).1 = (stepToks s toks).1 ∧
      ∃ l2, (Driver.Netbuf.step s toks).2 = " ".intercalate (stepToks s toks).2 ++ l2 ∧
        (l2 = "" ∨ ∃ t, l2 = " | " ++ t) :=
  ⟨verdicts_ok lines {} {} Proofs.NetbufMonSound.sound_init, step_eq_stepToks⟩

open Percival.Model.NetbufStep Percival.Spec.NetbufMon Percival.Proofs.NetbufAns Percival.Driver in
/- the tokens are those of real lines, and the monitor executable is not a function that says `ok` to everything: a
`peek` line claiming three bytes where none were sent is refused -/
example : (stepToks {} ["r_peek"]).2 = ["peek", "0", "-"] ∧
    (Netbufmon.step {} ["r_peek"] ["peek", "3", "-"]).2 =
      "bad peek shows 3 bytes, only 0 were sent before the end" := by
  refine ⟨by decide +kernel, ?_⟩
  have h3 : ("3" : String).toNat? = some 3 := Proofs.TokText.nat_rt 3
  have ha : Netbufmon.parseAns ["peek", "3", "-"] = .peek 3 .none := by
    simp [Netbufmon.parseAns, Netbufmon.parseShown, h3]
  have ho : Netbuf.parseOp ["r_peek"] = some .rPeek := by simp [Netbuf.parseOp]
  unfold Netbufmon.step; rw [ho, ha]; decide +kernel

/- Full statement (NOT proved): for every output `o` of every run, the tokens `Driver.loopMon` cuts out of the line
`"> " ++ <L1 part of render o> ++ "\n"` are `">" :: ans` with `Driver.Netbufmon.parseAns ans = o.ans`:
    theorem monitor_reads_loop_line (ops : List Op) : ∀ o ∈ (runOps {} ops).2,
      ∃ ans, loopToks (monLine o) = ">" :: ans ∧ Driver.Netbufmon.parseAns ans = o.ans
   Missing: that the loop's cut of that line — `String.trimAscii`, the legacy `String.splitOn " "` (works on raw
   byte positions, no lemmas in core), dropping the empty tokens — is `">"` followed by the pieces of the L1 text
   between its spaces (`loopCutOk o`, the hypothesis `hcut` below; `KAT/NetbufAns.lean` evaluates it at every build on
   an output of every shape and on the outputs of a run).  Everything after that cut is proved. -/
open Percival.Model.NetbufStep Percival.Spec.NetbufMon Percival.Proofs.NetbufAns in
theorem monitor_reads_loop_line_partial (ops : List Op) (o : Out) (ho : o ∈ (runOps {} ops).2)
    (hcut : loopCutOk o = true) :
    ∃ ans, loopToks (monLine o) = ">" :: ans ∧ Driver.Netbufmon.parseAns ans = o.ans :=
  reads_loop_line o (exec_records_readable ops o ho) (exec_shown_canonical {} ops o ho) hcut

open Percival.Model.NetbufStep Percival.Spec.NetbufMon Percival.Proofs.NetbufAns in
/- the line in question for a real output -/
example : (runOps {} [.netDeliver [1, 2, 3], .rWait 2, .spin]).2.map monLine =
    ["> ok\n", "> ok\n", "> spin r=0:3:0102 f=0 peer=0:- sa=0\n"] := by decide +kernel

end Percival.C07
