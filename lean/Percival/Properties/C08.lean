import Percival.Proofs.HttpRun
import Percival.Proofs.HttpStep
import Percival.Proofs.HttpReaderRun
/-!
# C08 — the HTTP client is memory-safe and terminates cleanly on any server byte stream

Model: `Model/Http.lean` (one function per C handler; `abort` = an `assert` of the C fails, an index
leaves its buffer, or a `size_t` subtraction wraps).  `Inv`/`InvBuf`/`RespOK` are in `Proofs/Http.lean`:

* `Inv st h`  : `bodylen = |body|`, `bodylen ≤ alloc ≤ max`; a status in 100..599 once the headers are
  parsed; `bodylen = 0` while reading headers; `chunked` set while reading chunk headers; in `readData`
  the body still expected fits the limit (`bodylen + readlen ≤ max`, or `≤ max + 2` and `readlen ≥ 1`
  for a chunk, whose last two bytes are its EOL).
* `InvBuf st h buf` adds `hepos ≤ |buf|` for `readHeader`.

Resources and cancellation (second half of this file): `Model/HttpRes.lean` threads an explicit resource
state through the same handlers — the multiset of live heap blocks tagged by kind, the pointer fields of
`struct http_cookie`, the outstanding connect / read-wait / write registrations, the open descriptors — and
follows `http_request2`, `callback_connected`, `gotheaders`, `addbody`, `toobig`, `docallback`, `fail`,
`http_request_cancel`, `netbuf_read_{init,wait,wait_cancel,free}`, `netbuf_write_{init,write,free}`/`writbuf`/`poke`
and `network_connect{,_cancel}` statement by statement.  A `free` without a live block, a failing `assert` of
netbuf/network_connect and any use of the cookie after `free(H)` are faults (`RSt.err`).  The environment
(`Turn`) decides, while each wait is pending, how many buffer writes complete, whether the write in progress
fails, whether the caller cancels, and how the wait completes.
-/
namespace Percival.C08
open Percival.Model.Http Percival.Proofs.Http Percival.Gen.Http

/-- **Step invariant (every handler, every snapshot).**  For each of `callback_read_header`(+`gotheaders`),
`callback_chunkedheader`, `callback_readdata`, `callback_read_toeof`, every parser state satisfying the
invariant, every status and every buffer snapshot whatsoever — hence every segmentation and every
position of the reader's buffer boundary —, the handler never aborts (no failed assertion, no access
outside the snapshot or the header copy, no wrapped subtraction), and it ends in exactly one of:
a direct call of the next handler after consuming at least one byte, a wait for strictly more bytes than
remain buffered, or the caller's callback with `NULL` or with a response whose status is in 100..599 and
whose body is no longer than the limit (too big: no body at all).  The invariant is re-established. -/
theorem step_invariant (ovf : Bool → Nat → Int) (st : St) (h : Handler) (s : Status) (buf : Bytes)
    (hinv : InvBuf st h buf) :
    match micro ovf st h s buf with
    | .goto st' c h' => 0 < c ∧ c ≤ buf.length ∧ st'.max = st.max ∧ InvBuf st' h' (buf.drop c)
    | .wait st' c k h' => c ≤ buf.length ∧ buf.length - c < k ∧ st'.max = st.max ∧ InvBuf st' h' (buf.drop c)
    | .done r => RespOK st.max r
    | .abort _ => False := by
  have hm := micro_ok ovf st h s buf hinv
  cases hmm : micro ovf st h s buf <;> (rw [hmm] at hm; exact hm)

example : InvBuf { ishead := false, max := 10, status := 200, chunked := true, readlen := 5, alloc := 4,
                   bodylen := 3, bodyRev := [3, 2, 1] } .readData [7, 8] := by
  simp [InvBuf, Proofs.Http.Inv]

/-- the invariant holds when `callback_connected` starts the response state machine -/
theorem invariant_initially (ishead : Bool) (max : Nat) (buf : Bytes) :
    InvBuf (initSt ishead max) .readHeader buf := initSt_inv ishead max buf

/-- **One event-loop callback.**  Chaining the handlers which the C calls directly from one another on one
snapshot terminates (fuel `|buf| + 1` is never exhausted) without abort, in a wait for strictly more
than is buffered or in the single callback. -/
theorem callback_invariant (ovf : Bool → Nat → Int) (st : St) (h : Handler) (s : Status) (buf : Bytes)
    (hinv : InvBuf st h buf) :
    match step ovf (buf.length + 1) st h s buf 0 with
    | .wait st' c k h' => c ≤ buf.length ∧ buf.length - c < k ∧ st'.max = st.max ∧ InvBuf st' h' (buf.drop c)
    | .done r => RespOK st.max r
    | .abort _ => False := by
  have hm := callback_ok ovf (buf.length + 1) st h s buf hinv (by omega)
  cases hmm : step ovf (buf.length + 1) st h s buf 0 <;> (rw [hmm] at hm; exact hm)

example : InvBuf (initSt false 100) .readHeader [72, 84, 84, 80] := initSt_inv _ _ _

/-- **Whole request.**  For every server byte string `data`, every behaviour of the buffered reader and
the network (`oracle`: any state machine answering each wait with "at least `k` bytes, `extra` more",
EOF or error — every segmentation, EOF at every offset, reset), every body limit (0 included), HEAD or
not, and whatever `sscanf` stores for an out-of-range numeral (`ovf`): the run terminates, no handler
aborts, and it ends with exactly one invocation of the caller's callback; a response handed over has a
status in 100..599 and a body no longer than the limit, an oversized body being reported without any
buffer (`body = none`, the C's `bodylen = (size_t)(-1)`, `body = NULL`). -/
theorem run_terminates_with_one_callback {σ : Type} (ovf : Bool → Nat → Int)
    (oracle : σ → Nat → Nat → σ × Arrival) (o : σ) (ishead : Bool) (max : Nat) (data : Bytes) :
    ∃ r ws, runAll ovf oracle o ishead max data = .callback r ws ∧
      (match r with
       | none => True
       | some r => 100 ≤ r.status ∧ r.status ≤ 599 ∧
          (match r.body with
           | some b => b.length ≤ max
           | none => True)) := by
  obtain ⟨r, ws, h1, h2⟩ := runAll_ok ovf oracle o ishead max data
  refine ⟨r, ws, h1, ?_⟩
  cases r with
  | none => trivial
  | some r => exact h2


/-- a concrete run, delivered one byte at a time (every wait gets exactly what it asked for) -/
example :
    (match runAll (fun _ _ => 0) (fun (_ : Unit) _ _ => ((), Arrival.more 0)) () false 2 Percival.Proofs.HttpSamples.sampleStream with
     | .callback (some r) _ => decide (r.status = 200) && r.body == some [104, 105]
     | _ => false) = true := by decide +kernel

/-- the same response with limit 1, delivered at once: reported as too big, without a buffer -/
example :
    (match runAll (fun _ _ => 0) (fun (_ : Unit) _ _ => ((), Arrival.more 1000)) () false 1 Percival.Proofs.HttpSamples.sampleStream with
     | .callback (some r) _ => decide (r.status = 200) && r.body == none
     | _ => false) = true := by decide +kernel

/-- constants of `http.c` the statements above and the notes refer to (regenerated from the source) -/
theorem gen_constants :
    MAXHDR = 65536 ∧ MAXCHLEN = 256 ∧ WAITCAP = 1048576 ∧ STATUS_MIN = 100 ∧ STATUS_MAX = 599 ∧
    INTERIM_MIN = 100 ∧ INTERIM_MAX = 199 ∧ NOBODY_A = 204 ∧ NOBODY_B = 304 := by decide

open Percival.Model.HttpRes Percival.Proofs.HttpRes Percival.Proofs.HttpRun

/-- **(a) Nothing leaks, nothing is freed twice.**  For every server byte string, every environment
(`oracle`: every segmentation, EOF/reset anywhere, any number of completed request-buffer writes before each
arrival, a failing write at any point, **a call of `http_request_cancel` while any wait is pending**), every
body limit, HEAD or not, a request with or without body, and whatever happens to the connection attempt
(`pre`: cancelled before it completes / refused / connected): the request ends; no fault occurred (no `free`
of a block that is not live, no failed `assert` in netbuf/network_connect, no use of the cookie after it was
freed); **no block is live**, no descriptor is open; and exactly this went to the caller: nothing if the
request was cancelled, else the body buffer — which `http.h` makes the callback's to free — **iff** the
callback got a response with a non-empty body (`body == NULL` exactly when there is no body, when it is too
big, or when the response is `NULL`). -/
theorem leaks_nothing {σ : Type} (ovf : Bool → Nat → Int) (oracle : σ → Nat → Nat → σ × Turn) (o : σ)
    (ishead : Bool) (max : Nat) (data : Bytes) (hasBody : Bool) (pre : Pre) :
    ∃ cbs cancelled r tr, runAllR ovf oracle o ishead max data hasBody pre = .ended cbs cancelled r tr ∧
      r.err = none ∧ r.live = [] ∧ r.fds = 0 ∧
      (cancelled = true → r.handedBody = 0) ∧
      (∀ resp, cbs = [resp] → r.handedBody =
        match resp with
        | none => 0
        | some x =>
          match x.body with
          | none => 0
          | some b => if b.length = 0 then 0 else 1) := by
  obtain ⟨cbs, cancelled, r, tr, hb, hrun, he, hc, hn⟩ := runAllR_ended ovf oracle o ishead max data hasBody pre
  refine ⟨cbs, cancelled, r, tr, hrun, he.ok, he.clean.1, he.fds, fun e => he.handed.trans (hc e).2, fun resp hcb => ?_⟩
  cases cancelled with
  | true => rw [(hc rfl).1] at hcb; cases hcb
  | false =>
    obtain ⟨resp', e, _, hz⟩ := hn rfl
    rw [hcb] at e
    cases e
    rw [he.handed, hz]
    cases resp with
    | none => rfl
    | some x =>
      cases hb : x.body with
      | none => simp [bodyNonEmpty, hb]
      | some b => simp only [bodyNonEmpty, hb]; cases b <;> simp

/-- the sample response delivered bytewise with a request body; the caller cancels while the 53rd wait is
    pending — inside the chunk, when header copy, header array and a partly filled body buffer are live (5
    blocks of `http.c`'s own, 10 in all, a read and a write outstanding): afterwards nothing is live -/
example :
    (match runAllR (fun _ _ => 0) (exOracle 52 1000) 0 false 2 Percival.Proofs.HttpSamples.sampleStream true .connected with
     | .ended cbs c r tr => cbs.isEmpty && c && r.live.isEmpty && r.err.isNone && r.handedBody == 0 &&
         tr.getLast? == some { k := 2, own := 5, total := 10, regs := 2 }
     | _ => false) = true := by decide +kernel

/-- the same run to its end: one block — the body — is the caller's, nothing else is left -/
example :
    (match runAllR (fun _ _ => 0) (exOracle 1000 1000) 0 false 2 Percival.Proofs.HttpSamples.sampleStream true .connected with
     | .ended [some x] false r _ => r.live.isEmpty && r.err.isNone && r.handedBody == 1 && x.body == some [104, 105]
     | _ => false) = true := by
  obtain ⟨x, r, tr, e, h⟩ := Percival.Proofs.HttpStep.exRun_ended
  simp only [e, Bool.and_eq_true] at h ⊢
  exact h.1.1

/-- a HEAD request: the response has an empty body (`bodylen == 0`), no buffer goes to the caller -/
example :
    (match runAllR (fun _ _ => 0) (exOracle 1000 1000) 0 true 2 Percival.Proofs.HttpSamples.sampleStream false .connected with
     | .ended [some x] false r _ => r.live.isEmpty && r.handedBody == 0 && x.body == some []
     | _ => false) = true := by decide +kernel

/-- limit 1: the partly filled body buffer is freed by `toobig`, nothing goes to the caller -/
example :
    (match runAllR (fun _ _ => 0) (exOracle 1000 1000) 0 false 1 Percival.Proofs.HttpSamples.sampleStream false .connected with
     | .ended [some x] false r _ => r.live.isEmpty && r.err.isNone && r.handedBody == 0 && x.body == none
     | _ => false) = true := by decide +kernel

/-- **(b) No callback after cancel.**  If the request ended by the caller's `http_request_cancel` (at any
point: before the connection is made or while any wait is pending, with any amount of data buffered), the
caller's callback was never invoked and **no callback of the library is left that the event loop could still
deliver** (no connect, read-wait or write registration outstanding) — so none can arrive later either. -/
theorem no_callback_after_cancel {σ : Type} (ovf : Bool → Nat → Int) (oracle : σ → Nat → Nat → σ × Turn) (o : σ)
    (ishead : Bool) (max : Nat) (data : Bytes) (hasBody : Bool) (pre : Pre)
    (cbs : List (Option Resp)) (r : RSt) (tr : List Snap)
    (hrun : runAllR ovf oracle o ishead max data hasBody pre = .ended cbs true r tr) :
    cbs = [] ∧ r.ncb = 0 ∧ r.pending = [] := by
  obtain ⟨_, _, _, _, _, e, he, hc, _⟩ := runAllR_ended ovf oracle o ishead max data hasBody pre
  cases hrun.symm.trans e
  exact ⟨(hc rfl).1, by rw [he.ncb, (hc rfl).1]; rfl, he.clean.2.1⟩

/-- the hypothesis is satisfiable at every kind of point: before the connection is made … -/
example : ∃ r, runAllR (fun _ _ => 0) (exOracle 1000 1000) 0 false 2 Percival.Proofs.HttpSamples.sampleStream true .cancel =
    .ended [] true r [] := ⟨_, rfl⟩

/-- … while the very first wait is pending (both request buffers still unwritten), and in the middle of the
    header block -/
example :
    (match runAllR (fun _ _ => 0) (exOracle 0 1000) 0 false 2 Percival.Proofs.HttpSamples.sampleStream true .connected,
           runAllR (fun _ _ => 0) (exOracle 20 1000) 0 false 2 Percival.Proofs.HttpSamples.sampleStream true .connected with
     | .ended [] true r1 _, .ended [] true r2 _ => r1.pending.isEmpty && r2.pending.isEmpty
     | _, _ => false) = true := by decide +kernel

/-- **(c) Exactly one callback, or none if cancelled.**  Every run ends either by cancellation with no
invocation of the caller's callback, or — not cancelled — with exactly one (`r.ncb` counts the invocations
made by `fail`/`docallback`, `cbs` lists their arguments). -/
theorem exactly_one_callback_or_cancelled {σ : Type} (ovf : Bool → Nat → Int) (oracle : σ → Nat → Nat → σ × Turn) (o : σ)
    (ishead : Bool) (max : Nat) (data : Bytes) (hasBody : Bool) (pre : Pre) :
    ∃ cbs cancelled r tr, runAllR ovf oracle o ishead max data hasBody pre = .ended cbs cancelled r tr ∧
      ((cancelled = true ∧ cbs = [] ∧ r.ncb = 0) ∨ (cancelled = false ∧ r.ncb = 1 ∧ ∃ resp, cbs = [resp])) := by
  obtain ⟨cbs, cancelled, r, tr, _, hrun, he, hc, hn⟩ := runAllR_ended ovf oracle o ishead max data hasBody pre
  refine ⟨cbs, cancelled, r, tr, hrun, ?_⟩
  cases cancelled with
  | true => exact Or.inl ⟨rfl, (hc rfl).1, by rw [he.ncb, (hc rfl).1]; rfl⟩
  | false =>
    obtain ⟨resp, e, _, _⟩ := hn rfl
    exact Or.inr ⟨rfl, by rw [he.ncb, e]; rfl, resp, e⟩

/-- both alternatives occur; so do the `NULL` callbacks: refused connection, and a request-buffer write
    failing while the 4th wait is pending (`fail` called from the writer) -/
example :
    (match runAllR (fun _ _ => 0) (exOracle 1000 1000) 0 false 2 Percival.Proofs.HttpSamples.sampleStream true .refused,
           runAllR (fun _ _ => 0) (exOracle 1000 3) 0 false 2 Percival.Proofs.HttpSamples.sampleStream true .connected with
     | .ended [none] false r1 _, .ended [none] false r2 tr => r1.ncb == 1 && r2.ncb == 1 && r2.live.isEmpty && tr.length == 4
     | _, _ => false) = true := by decide +kernel

/-- **(d) No registration survives the request.**  However the request ends (callback or cancel), no
`network_connect`, no `netbuf_read_wait` (network read or immediate) and no `network_write` registration is
outstanding afterwards, and the socket is closed. -/
theorem no_registration_survives {σ : Type} (ovf : Bool → Nat → Int) (oracle : σ → Nat → Nat → σ × Turn) (o : σ)
    (ishead : Bool) (max : Nat) (data : Bytes) (hasBody : Bool) (pre : Pre) :
    ∃ cbs cancelled r tr, runAllR ovf oracle o ishead max data hasBody pre = .ended cbs cancelled r tr ∧
      r.pending = [] ∧ r.regs = 0 ∧ r.fds = 0 := by
  obtain ⟨cbs, cancelled, r, tr, _, hrun, he, _⟩ := runAllR_ended ovf oracle o ishead max data hasBody pre
  exact ⟨cbs, cancelled, r, tr, hrun, he.clean.2.1, he.clean.2.2, he.fds⟩

/-- registrations do exist during the run (a read wait and a write at every snapshot of this run), and
    cancelling a request **after** it completed is outside the contract of `http.h` (the cookie is gone: the
    model reports the use after free) -/
example :
    (match runAllR (fun _ _ => 0) (exOracle 1000 1000) 0 false 2 Percival.Proofs.HttpSamples.sampleStream true .connected with
     | .ended _ false r tr => tr.all (fun s => s.regs == 2) && r.regs == 0 && (cancelR r).err.isSome
     | _ => false) = true := by
  obtain ⟨x, r, tr, e, h⟩ := Percival.Proofs.HttpStep.exRun_ended
  simp only [e, Bool.and_eq_true] at h ⊢
  exact h.1.2

/-- **(e) What the callback gets**, in the resource model: a response handed to the caller has a status in
100..599 and a body no longer than the limit, an oversized body coming without any buffer (`body = none`:
`bodylen = (size_t)(-1)`, `body = NULL`, and by (a) no block handed over). -/
theorem response_in_range {σ : Type} (ovf : Bool → Nat → Int) (oracle : σ → Nat → Nat → σ × Turn) (o : σ)
    (ishead : Bool) (max : Nat) (data : Bytes) (hasBody : Bool) (pre : Pre)
    (x : Resp) (rest : List (Option Resp)) (cancelled : Bool) (r : RSt) (tr : List Snap)
    (hrun : runAllR ovf oracle o ishead max data hasBody pre = .ended (some x :: rest) cancelled r tr) :
    100 ≤ x.status ∧ x.status ≤ 599 ∧
    (match x.body with
     | some b => b.length ≤ max
     | none => r.handedBody = 0) := by
  obtain ⟨_, _, _, _, _, e, he, hc, hn⟩ := runAllR_ended ovf oracle o ishead max data hasBody pre
  cases hrun.symm.trans e
  cases cancelled with
  | true => exact absurd (hc rfl).1 (by simp)
  | false =>
    obtain ⟨resp, e, hr, hz⟩ := hn rfl
    cases e
    refine ⟨hr.1, hr.2.1, ?_⟩
    cases hb : x.body with
    | some b => have := hr.2.2; rw [hb] at this; exact this
    | none => rw [he.handed, hz]; simp [bodyNonEmpty, hb]

example :
    (match runAllR (fun _ _ => 0) (exOracle 1000 1000) 0 false 2 Percival.Proofs.HttpSamples.sampleStream true .connected with
     | .ended (some x :: _) _ _ _ => decide (x.status = 200)
     | _ => false) = true := by
  obtain ⟨x, r, tr, e, h⟩ := Percival.Proofs.HttpStep.exRun_ended
  simp only [e, Bool.and_eq_true] at h ⊢
  exact h.2

/-- … and it is the same decision procedure: when the caller never cancels and no write fails, a connected
request of the resource model ends with the same callback argument and the same sequence of wait lengths as
`Model.Http.runAll` (the model of `run_terminates_with_one_callback` and of C09) on the same reader/network
behaviour. -/
theorem resource_run_refines_run {σ : Type} (ovf : Bool → Nat → Int) (oracle : σ → Nat → Nat → σ × Turn) (o : σ)
    (ishead : Bool) (max : Nat) (data : Bytes) (hasBody : Bool)
    (hq : ∀ o c k, (oracle o c k).2.wfail = false ∧ (oracle o c k).2.cancel = false) :
    eraseOut (runAllR ovf oracle o ishead max data hasBody .connected) =
      some (runAll ovf (arrivals oracle) o ishead max data) :=
  runAllR_erase ovf oracle (fun _ => True) (fun o c k _ => ⟨(hq o c k).1, (hq o c k).2, trivial⟩) o ishead max data hasBody trivial

/-- an environment which never cancels and in which no write fails: any segmentation, any write progress -/
example : ∀ (o c k : Nat), ((fun (n _ _ : Nat) => (n + 1, ({ wrote := n, arrival := .more n } : Turn))) o c k).2.wfail = false ∧
    ((fun (n _ _ : Nat) => (n + 1, ({ wrote := n, arrival := .more n } : Turn))) o c k).2.cancel = false :=
  fun _ _ _ => ⟨rfl, rfl⟩

/-- **`http_request_cancel` at any consistent point.**  Whenever the heap is what the pointer fields of the
cookie say (`Cons`: one block per non-`NULL` pointer, the reader's two and the writer's `1 + 2·(queued + in
progress)` blocks, registrations only where `H` knows them), `http_request_cancel` frees every block of the
request, cancels every registration, closes the socket, faults nowhere, and invokes nothing.  (`cc`: the
`network_connect` cookie while `callback_connected` is running — it is `network_connect`'s to free.) -/
theorem cancel_frees_and_cancels_everything (r : RSt) (cc : Nat) (h : Cons r cc) :
    (cancelR r).err = none ∧ (∀ k, (cancelR r).live.count k = if k = .connect ∧ r.pConnect = false then cc else 0) ∧
    (cancelR r).pending = [] ∧ (cancelR r).fds = 0 ∧ (cancelR r).ncb = r.ncb := by
  obtain ⟨e1, e2, e3, e4, e5, e6, e7, _⟩ := cancel_spec r cc h
  refine ⟨e1, fun k => ?_, by simp [RSt.pending, e3, e4, e5], e6, e7⟩
  rw [e2]
  cases k <;> cases r.pConnect <;> simp

/-- a state holding everything a request can hold at once is consistent (as is the state right after
    `http_request()`, `Proofs.HttpRes.cons_httpRequest`) -/
example : Cons exFull 0 := exFull_cons

/-! ## the function the executable runs (`pmodel http`: `Model/HttpStep.lean`, components `httpmal` and `httpwf`) -/

open Percival.Model.HttpStep in
/-- **Every `run` line the executable prints (`httpmal`: hostile streams, and every other case).**  `runCase` is
the function behind a `run` line: it plays the request of the configuration `c` — any server byte stream, any
`recv` script (any segment sizes, EAGAINs), EOF or reset at the end, any request, any body limit, refused
connection, a failing `send` at any offset, a cancellation after any wait or any `recv` — against
`Model.HttpRes.runAllR` with the scripted reader `readerTurn` as environment and `glibcOvf` for out-of-range
numerals.  For **every** configuration: the model does not abort, fault, or invoke the callback twice (none of
`abort …`, `abort resource-fault`, `abort model: n callbacks`, `abort request-length-assert` can be printed);
the line printed is a `cb=…` line whose `range=` verdict (printed for `g`) is `ok`, with nothing live, no descriptor and no
registration; it reports either a cancelled request without callback or exactly one callback, and a response
handed over has a status in 100..599 and a body no longer than the limit.  `spec-mismatch` can only be printed
when the case carries a response value (`httpwf`; excluded under the hypotheses of `C09.exec_wellformed_decoded`). -/
theorem exec_answer_in_range (c : Cfg) (g : Bool) :
    (∃ resp, runCase c g = .specMismatch resp ∧ c.wf.isSome = true) ∨
    (∃ cb resp sent rs tr, runCase c g = .fin g c.early cb resp sent true rs tr ∧
      rs.live = [] ∧ rs.fds = 0 ∧ rs.regs = 0 ∧
      (match resp with
       | none => cb = 0
       | some none => cb = 1
       | some (some x) => cb = 1 ∧ 100 ≤ x.status ∧ x.status ≤ 599 ∧
          (match x.body with
           | some b => b.length ≤ c.limit
           | none => True))) := by
  have h := Percival.Proofs.HttpStep.runCase_ok c g
  generalize runCase c g = out at h
  cases out with
  | specMismatch resp => exact Or.inl ⟨resp, rfl, h⟩
  | fin g' early cb resp sent rok rs tr =>
    obtain ⟨rfl, rfl, rfl, h4, h5, h6, h7⟩ := h
    refine Or.inr ⟨cb, resp, sent, rs, tr, rfl, h4, h5, h6, ?_⟩
    cases resp with
    | none => exact h7
    | some y =>
      cases y with
      | none => exact h7.1
      | some x => exact h7
  | abortReq => exact absurd h (by simp [Percival.Proofs.HttpStep.RunOK])
  | abort w ws => exact absurd h (by simp [Percival.Proofs.HttpStep.RunOK])
  | fault e ws => exact absurd h (by simp [Percival.Proofs.HttpStep.RunOK])
  | badCallbacks n => exact absurd h (by simp [Percival.Proofs.HttpStep.RunOK])

/-- a hostile case (the sample stream cut after 40 bytes, then a reset, in 3-byte segments): one callback with `NULL`;
    and a complete one with limit 1: the callback gets status 200 and no body buffer (too big) -/
example :
    (match Percival.Model.HttpStep.runCase Percival.Proofs.HttpStep.exMal true,
           Percival.Model.HttpStep.runCase { Percival.Proofs.HttpStep.exMal with
             chunks := [Percival.Proofs.HttpSamples.sampleStream], limit := 1 } true with
     | .fin true false 1 (some none) _ true _ _, .fin true false 1 (some (some x)) _ true _ _ =>
         decide (x.status = 200) && x.body == none
     | _, _ => false) = true := by decide +kernel

open Percival.Model Percival.Model.HttpStep Percival.Proofs.HttpReader Percival.Proofs.NetbufRead in
/-- **The scripted reader against the proved model of `netbuf_read.c`** (`Model.NetbufRead`, C07), step by step.
`Model.HttpStep.Reader` keeps only the buffer *geometry* (`cap`/`bufpos`/`datalen`; the bytes a handler sees are a
prefix of the stream inside `runAllR`).  Whenever it has the geometry of a `NetbufRead.R` in a consistent state
(`Geo`: `bufpos ≤ datalen ≤ buflen = |buf|`) with no wait outstanding:

1. `netbuf_read_consume(c)` followed by `netbuf_read_wait(k)` of `Model.NetbufRead` succeeds inside its buffer, shows
   the old window without its first `c` bytes, is *immediate* exactly when `readerWait` answers at once, and
   otherwise registers a transport read with room for `k` bytes in a buffer whose geometry — grown to
   `max(2·buflen, k)`, compacted, or unchanged — is exactly that of the state `prep rd c k` which `readerWait` hands
   to its event loop (`readerWait_eq`);
2. a `recv` which delivers `d` (non-empty, within the space offered) makes `callback_read` append `d` to the
   window, add `|d|` to `datalen` — what `fill` does to its count — and complete the wait (status 0) exactly when
   `waitlen` bytes are buffered, which is `fill`'s test.

The full statement — for every script of `recv` answers and every sequence of waits the HTTP model issues,
`readerWait rd c k` answers `.more e` / `.eof` / `.err` exactly when `Model.NetbufRead`, driven over the same script,
invokes the callback with status 0 and `k + e` bytes in its window / 1 / -1, with equal geometry afterwards — is
`exec_reader_refines_netbuf` below, which chains (2) along the script.  The counts the run uses (`avail + remaining`
is kept, `.eof` only with the whole stream received) are proved directly in `Proofs.HttpStep.readerWait_spec`. -/
theorem exec_reader_refines_netbuf_partial :
    (∀ (rd : Reader) (nb : NetbufRead.R) (c k : Nat), Geo nb → nb.pending = .none → SameGeo rd nb →
      c ≤ nb.datalen - nb.bufpos →
      ∃ nb2, (NetbufRead.consume nb c >>= fun nb1 => NetbufRead.wait nb1 k) = .ok nb2 ∧ Geo nb2 ∧
        window nb2 = (window nb).drop c ∧
        (k ≤ nb.datalen - nb.bufpos - c →
          nb2.pending = .immediate ∧ SameGeo { rd with bufpos := rd.bufpos + c } nb2) ∧
        (¬ k ≤ nb.datalen - nb.bufpos - c →
          nb2.pending = .read ∧ nb2.waitlen = k ∧ k ≤ nb2.buflen - nb2.bufpos ∧ SameGeo (prep rd c k) nb2)) ∧
    (∀ (nb : NetbufRead.R) (d : List UInt8), Geo nb → nb.pending = .read → nb.waitlen ≤ nb.buflen - nb.bufpos →
      d.length ≠ 0 → d.length ≤ nb.buflen - nb.datalen →
      ∃ nb' st, NetbufRead.callbackRead nb (.data d) = .ok (nb', st) ∧ Geo nb' ∧ window nb' = window nb ++ d ∧
        nb'.buflen = nb.buflen ∧ nb'.bufpos = nb.bufpos ∧ nb'.datalen = nb.datalen + d.length ∧
        nb'.waitlen = nb.waitlen ∧
        (nb.waitlen ≤ nb.datalen + d.length - nb.bufpos → st = some 0 ∧ nb'.pending = .none) ∧
        (¬ nb.waitlen ≤ nb.datalen + d.length - nb.bufpos → st = none ∧ nb'.pending = .read)) :=
  ⟨fun rd nb c k h1 h2 h3 h4 => wait_geometry rd nb c k h1 h2 h3 h4,
   fun nb d h1 h2 h3 h4 h5 => recv_geometry nb d h1 h2 h3 h4 h5⟩

open Percival.Model Percival.Model.HttpStep Percival.Proofs.HttpReader Percival.Proofs.NetbufRead in
/-- the hypotheses hold at the start of every case (the reader of `initReader` has the geometry of
    `netbuf_read_init`'s state), and for a reader with a transport read outstanding -/
example : Geo NetbufRead.init ∧ NetbufRead.init.pending = .none ∧
    SameGeo (initReader {} []) NetbufRead.init ∧
    Geo { NetbufRead.init with pending := .read, waitlen := 5 } :=
  ⟨rel_init.geo, rfl, ⟨rfl, rfl, rfl⟩, ⟨rel_init.geo.len, Nat.le_refl _, Nat.zero_le _⟩⟩

open Percival.Model Percival.Model.HttpStep Percival.Proofs.HttpReader Percival.Proofs.HttpStep
  Percival.Proofs.NetbufRead in
open Percival.Spec.ByteStream (delivered) in
/-- **The scripted reader of `pmodel http` refines the proved model of `netbuf_read.c`, for every script and every
wait** (`exec_reader_refines_netbuf_partial` has its two single steps).  Whenever the reader has the geometry
of a consistent `NetbufRead.R` with no wait outstanding and `rest` are the bytes of the server's stream not yet
received, then for every `c ≤` buffered and every `k`: `readerWait rd c k` answers `a` (`more e` / `eof` / `err`)
exactly as `Model.NetbufRead` does on `netbuf_read_consume(c)`, `netbuf_read_wait(k)` and then — chosen by the same
script — either the immediate callback or a sequence of transport completions `data d₁ … data dₙ [eof | err]`:

* that sequence satisfies the transport contract of C06 (`transportOK`: `1 ≤ |dᵢ| ≤` the space of the request
  outstanding at that moment) and its bytes are the next bytes of the stream (`delivered evs = rest.take …`);
* `NetbufRead.run` stays inside its buffer (`.ok`), makes exactly one callback, the last thing it does, with status
  0 / 1 / -1 for `more` / `eof` / `err`; for `more e` exactly `k + e` bytes are in its window; `eof` / `err` come only
  with the whole stream received and fewer than `k` bytes buffered;
* afterwards its window is the old one without its first `c` bytes followed by the bytes received, no wait is
  outstanding, the geometry is again the reader's and `rest` without the bytes received is what remains — the
  hypotheses of the next wait (the script `seg` and `cancelRecv` are kept), so the statement chains along
  every sequence of waits the HTTP model issues, and `C07.reader_refines` applies to the concatenated runs.

Hypotheses: nobody cancels between two `recv`s (`cancelRecv = none`: the cancel points are the caller's, not the
reader's) and the script has no two EAGAINs in a row (`SegOK`, as the generators guarantee: then `fill`'s fuel
suffices; otherwise `fill` could report a spurious `err`). -/
theorem exec_reader_refines_netbuf (rd : Reader) (nb : NetbufRead.R) (rest : List UInt8) (c k : Nat)
    (hgeo : Geo nb) (hp : nb.pending = .none) (heq : SameGeo rd nb) (hc : c ≤ nb.datalen - nb.bufpos)
    (hcr : rd.cancelRecv = none) (hok : SegOK rd.seg) (hrest : rest.length = rd.remaining) :
    ∃ rd' a evs nb' outs, readerWait rd c k = (rd', some a) ∧
      NetbufRead.run nb (.consume c :: .wait k :: evs) = .ok (nb', .none :: .none :: outs) ∧
      NetbufRead.transportOK nb (.consume c :: .wait k :: evs) ∧
      (evs = [.fire] ∨ AllNet evs) ∧
      delivered evs = rest.take (rd.remaining - rd'.remaining) ∧
      OneCallback evs outs (statusOf a) ∧ (∀ e, a = .more e → nb'.datalen - nb'.bufpos = k + e) ∧
      (a = .eof ∨ a = .err → rd'.remaining = 0 ∧ nb'.datalen - nb'.bufpos < k) ∧
      window nb' = (window nb).drop c ++ delivered evs ∧
      -- the hypotheses of the next wait
      Geo nb' ∧ nb'.pending = .none ∧ SameGeo rd' nb' ∧
      (rest.drop (rd.remaining - rd'.remaining)).length = rd'.remaining ∧
      rd'.cancelRecv = rd.cancelRecv ∧ rd'.seg = rd.seg :=
  readerWait_refines rd nb rest c k hgeo hp heq hc hcr hok hrest

/- the hypotheses hold at the start of a case (here: the 40-byte malformed sample delivered 3 bytes per `recv`), and the
   first wait is answered from the network, not from the buffer -/
open Percival.Model Percival.Model.HttpStep Percival.Proofs.HttpReader Percival.Proofs.HttpStep
  Percival.Proofs.NetbufRead in
example : Geo NetbufRead.init ∧ NetbufRead.init.pending = .none ∧
    SameGeo (initReader exMal []) NetbufRead.init ∧ (initReader exMal []).cancelRecv = none ∧
    SegOK (initReader exMal []).seg ∧ (exMal.data).length = (initReader exMal []).remaining ∧
    (match (readerWait (initReader exMal []) 0 7).2 with | some (.more e) => e | _ => 99) = 2 :=
  ⟨rel_init.geo, rfl, ⟨rfl, rfl, rfl⟩, rfl, segOK_of_b _ (by decide +kernel), rfl, by decide +kernel⟩

end Percival.C08
