import Percival.Proofs.Parsenum
import Percival.Proofs.Humansize
import Percival.Proofs.ParsenumFloat
import Percival.Proofs.IeeeStrtod
import Percival.Proofs.HumansizeExec
import Percival.Proofs.ParsenumStep
/-!
# C16 — numeric text parsing is exact

Integer targets.  `parsenum t bs min max base trailing` is the model of
`PARSENUM_EX(&x, s, min, max, base, trailing)` for a target `x` of integer type `t` on the C string
whose bytes are `cstr bs`; `Accepts base trailing s v` is the language of `Spec/Numeral.lean`
(whole string = white space + one numeral of value `v`; or, with trailing characters allowed, the
longest numeral the string starts with); `InRange t min max v` is "within the requested bounds and
the target type".  The three theorems together say that the answer is a function of the
specification alone: right value, or EINVAL (malformed), or ERANGE (out of range) — never a
wrapped value.

Floating-point targets, human-readable sizes and the function the executable runs follow, each with
its own introduction.
-/
namespace Percival.C16
open Percival.Spec.Numeral Percival.Spec.Parsenum Percival.Model.Strto Percival.Model.Parsenum
open Percival.Proofs.Parsenum

/-- Success, with value `v`, exactly when the string is a numeral of value `v` lying within the
    bounds and the type. -/
theorem parsenum_ok_iff (t : IntTy) (bs : List UInt8) (min max : CVal) (base : Nat) (trailing : Bool)
    (v : Int) (_hbase : ValidBase base) (hb : BoundsOk t min max) :
    parsenum t bs min max base trailing = .ok v ↔
      Accepts base trailing (cstr bs) v ∧ InRange t min max v :=
  (parsenum_governed t bs min max base trailing hb).ok_iff answers v

example : parsenum .u64 [0x20, 0x30, 0x78, 0x31, 0x30] (.s (-5)) (.u 16) 0 false = .ok 16 := by decide +kernel
example : ValidBase 0 ∧ BoundsOk .u64 (.s (-5)) (.u 16) := by
  refine ⟨Or.inl rfl, ?_, ?_, ?_⟩ <;> simp [CVal.Valid, IMIN, IMAX, UMAX, IntTy.signed]

/-- EINVAL exactly when the string is not (does not start with) a numeral of the base. -/
theorem parsenum_einval_iff (t : IntTy) (bs : List UInt8) (min max : CVal) (base : Nat) (trailing : Bool)
    (_hbase : ValidBase base) (hb : BoundsOk t min max) :
    parsenum t bs min max base trailing = .einval ↔ ¬ ∃ v, Accepts base trailing (cstr bs) v :=
  ((parsenum_governed t bs min max base trailing hb).iffs answers).2.1

example : parsenum .i8 [0x30, 0x78, 0x67] (.s (-128)) (.s 127) 16 false = .einval := by decide +kernel
example : parsenum .i8 [0x30, 0x78, 0x67] (.s (-128)) (.s 127) 16 true = .ok 0 := by decide +kernel

/-- ERANGE exactly when the string is a numeral whose value is outside the bounds or the type. -/
theorem parsenum_erange_iff (t : IntTy) (bs : List UInt8) (min max : CVal) (base : Nat) (trailing : Bool)
    (_hbase : ValidBase base) (hb : BoundsOk t min max) :
    parsenum t bs min max base trailing = .erange ↔
      ∃ v, Accepts base trailing (cstr bs) v ∧ ¬ InRange t min max v :=
  ((parsenum_governed t bs min max base trailing hb).iffs answers).2.2

-- F6: "-1" into a 64-bit unsigned target with the full range is ERANGE, not 2^64-1
example : parsenum .u64 [0x2d, 0x31] (.u 0) (.u UMAX) 0 false = .erange := by decide +kernel
example : parsenum .u8 [0x32, 0x35, 0x36] (.s (-7)) (.u 300) 10 false = .erange := by decide +kernel

/-- the value of an accepted string is unique, so the three cases above are exclusive -/
theorem accepts_value_unique (base : Nat) (trailing : Bool) (s : List UInt8) (v w : Int)
    (h1 : Accepts base trailing s v) (h2 : Accepts base trailing s w) : v = w :=
  accepts_unique h1 h2

example : Accepts 10 false [0x2d, 0x37] (-7) :=
  ⟨⟨[], .minus, [], [0x37]⟩, rfl, by simp, Or.inl rfl, by simp, 7, by decide, rfl⟩

/-- the macro never reaches `ASSERT_FAIL` for an integer target with bounds -/
theorem parsenum_never_aborts (t : IntTy) (bs : List UInt8) (min max : CVal) (base : Nat) (trailing : Bool)
    (hb : BoundsOk t min max) : parsenum t bs min max base trailing ≠ .abort := by
  rcases parsenum_governed t bs min max base trailing hb with ⟨-, e⟩ | ⟨x, -, ⟨-, e⟩ | ⟨-, e⟩⟩ <;> rw [e] <;> nofun

example : BoundsOk .i32 (.s (-10)) (.u 100) := by
  refine ⟨?_, ?_, ?_⟩ <;> simp [CVal.Valid, CVal.toInt, InType, IntTy.lo, IntTy.hi, IMIN, IMAX, UMAX, IntTy.signed, IntTy.bits]

/-! The bound-less forms `PARSENUM(&x, s)` / `PARSENUM_EX(&x, s, base, trailing)` (unsigned targets):
    the bounds are the limits of the type. -/

theorem parsenumNoBounds_ok_iff (t : IntTy) (bs : List UInt8) (base : Nat) (trailing : Bool) (v : Int)
    (_hbase : ValidBase base) (ht : t.signed = false) :
    parsenumNoBounds t bs base trailing = .ok v ↔ Accepts base trailing (cstr bs) v ∧ InType t v :=
  (parsenumNoBounds_governed t bs base trailing ht).ok_iff answers v

example : parsenumNoBounds .u32 [0x66, 0x66] 16 false = .ok 255 := by decide +kernel

theorem parsenumNoBounds_einval_iff (t : IntTy) (bs : List UInt8) (base : Nat) (trailing : Bool)
    (_hbase : ValidBase base) (ht : t.signed = false) :
    parsenumNoBounds t bs base trailing = .einval ↔ ¬ ∃ v, Accepts base trailing (cstr bs) v :=
  ((parsenumNoBounds_governed t bs base trailing ht).iffs answers).2.1

example : parsenumNoBounds .u32 [0x66, 0x66] 0 false = .einval := by decide +kernel

theorem parsenumNoBounds_erange_iff (t : IntTy) (bs : List UInt8) (base : Nat) (trailing : Bool)
    (_hbase : ValidBase base) (ht : t.signed = false) :
    parsenumNoBounds t bs base trailing = .erange ↔
      ∃ v, Accepts base trailing (cstr bs) v ∧ ¬ InType t v :=
  ((parsenumNoBounds_governed t bs base trailing ht).iffs answers).2.2

example : parsenumNoBounds .u32 [0x2d, 0x31] 0 false = .erange := by decide +kernel

/-- documented misuse: a signed target without bounds ends in `ASSERT_FAIL` -/
theorem parsenumNoBounds_signed_aborts (t : IntTy) (bs : List UInt8) (base : Nat) (trailing : Bool)
    (ht : t.signed = true) : parsenumNoBounds t bs base trailing = .abort := by
  unfold parsenumNoBounds; rw [ex4_signed_abort _ _ _ _ ht]; rfl

example : IntTy.signed .i16 = true := rfl

/-! ## Floating-point targets (`float`, `double`)

`FAccepts trailing s neg sub` is the language of ISO C 2011 §7.22.1.3 (`Spec/FloatNumeral.lean`): white
space, sign, then a decimal or hexadecimal floating numeral of exact rational value `q` (`sub = .num q`),
or `inf` / `infinity` (`.inf`), or `nan` / `nan(…)` (`.nan`); the whole string, or — with trailing
characters allowed — the longest such prefix.

`Spec/Ieee.lean` says what the conversion must deliver, without any algorithm: `Converts neg sub d` —
`d` is the binary64 datum nearest to the exact value, ties to the even significand, ±inf from the IEEE
overflow threshold on, the sign of the numeral in every case; `ConvRangeError neg sub` — glibc's `ERANGE`
rule (overflow, or inexact and tiny after rounding); `Narrows d v` — `v` is `(float)d`, the binary32 datum
nearest-even to `d`.  The libc model's rounding algorithm (`Model.Strtod.toDouble`, `toBinary32`) is
proved to satisfy these for every rational input (`strtod_correctly_rounded`, `strtod_erange_iff`,
`float_assignment_correctly_rounded`), the specification determines its result
(`correct_rounding_unique`), and the two `parsenum` theorems are stated against the specification alone.
What remains trusted is that the *real* libc's `strtod` is correctly rounding and follows that `ERANGE`
rule; this is observed at L1 on every run. -/

section floats
open Percival.Spec.FloatNumeral Percival.Model.Strtod Percival.Model.ParsenumFloat Percival.Proofs.ParsenumFloat
open Percival.Spec.Ieee Percival.Proofs.Ieee

/-- `strtod`'s conversion (the libc model) returns the correctly rounded `double` of the exact value of
    the numeral: the nearest finite binary64 number, the even one on a tie, ±inf exactly from
    `2^1023·(2 − 2^-53)` on, sign preserved — for every rational magnitude `q ≥ 0` and sign. -/
theorem strtod_correctly_rounded (neg : Bool) (q : Rat) (hq : 0 ≤ q) :
    RoundsTo binary64 neg q (toDouble neg (.num q)).1 :=
  toDouble_converts neg (.num q) hq

-- 0.1 → 3602879701896397 · 2^-55
example : RoundsTo binary64 false (1 / 10) (.fin false (3602879701896397 / 36028797018963968)) :=
  (congrArg (RoundsTo binary64 false (1 / 10)) (by decide +kernel)).mp
    (strtod_correctly_rounded false (1 / 10) (by decide +kernel))
-- 9007199254740993 = 2^53 + 1 is a midpoint: ties to the even 2^53
example : RoundsTo binary64 true 9007199254740993 (.fin true 9007199254740992) :=
  (congrArg (RoundsTo binary64 true 9007199254740993) (by decide +kernel)).mp
    (strtod_correctly_rounded true 9007199254740993 (by decide +kernel))
-- 0x1.8p-1074 (1.5 × the smallest subnormal) ties to the even 2 · 2^-1074; 2^1024 overflows
set_option exponentiation.threshold 2000 in
example : RoundsTo binary64 false (3 / ((2 ^ 1075 : Nat) : Rat)) (.fin false (2 / ((2 ^ 1074 : Nat) : Rat))) :=
  (congrArg (RoundsTo binary64 false _) (by decide +kernel)).mp (strtod_correctly_rounded false _ (by decide +kernel))
set_option exponentiation.threshold 2000 in
set_option linter.constructorNameAsVariable false in      -- the linter itself runs out of stack on 2^1024
example : RoundsTo binary64 false ((2 ^ 1024 : Nat) : Rat) (.inf false) := by
  have h := strtod_correctly_rounded false ((2 ^ 1024 : Nat) : Rat) (by decide +kernel)
  rwa [show (toDouble false (.num ((2 ^ 1024 : Nat) : Rat))).1 = .inf false by decide +kernel] at h

/-- `strtod` (the libc model) leaves `ERANGE` exactly when the specification's range error holds:
    the exact value is at or above the overflow threshold, or it is below `2^-1022·(1 − 2^-54)` in
    magnitude (tiny after rounding) and not a binary64 number (inexact). -/
theorem strtod_erange_iff (neg : Bool) (sub : Subject) (h : ∀ q, sub = .num q → 0 ≤ q) :
    (toDouble neg sub).2 = .erange ↔ ConvRangeError neg sub :=
  toDouble_erange_iff neg sub (by cases sub <;> simp_all [SubjectNonneg])

-- 0x0.fffffffffffffbp-1022 rounds to 2^-1022 but is tiny after rounding: ERANGE;
-- 0x0.fffffffffffffcp-1022 is not tiny; 2^-1074 is exact; 2^1024 overflows
set_option exponentiation.threshold 2000 in
example : ConvRangeError false (.num (0xfffffffffffffb / ((2 ^ 1078 : Nat) : Rat))) :=
  (strtod_erange_iff _ _ (fun _ h => by cases h; decide +kernel)).mp (by decide +kernel)
set_option exponentiation.threshold 2000 in
example : ¬ ConvRangeError false (.num (0xfffffffffffffc / ((2 ^ 1078 : Nat) : Rat))) := fun h =>
  absurd ((strtod_erange_iff _ _ (fun _ h => by cases h; decide +kernel)).mpr h) (by decide +kernel)
set_option exponentiation.threshold 2000 in
example : ¬ ConvRangeError true (.num (1 / ((2 ^ 1074 : Nat) : Rat))) := fun h =>
  absurd ((strtod_erange_iff _ _ (fun _ h => by cases h; decide +kernel)).mpr h) (by decide +kernel)
set_option exponentiation.threshold 2000 in
example : ConvRangeError true (.num ((2 ^ 1024 : Nat) : Rat)) :=
  (strtod_erange_iff _ _ (fun _ h => by cases h; decide +kernel)).mp (by decide +kernel)

/-- the assignment of the `double` result to a `float` target (the model's `toBinary32`) is the correct
    second rounding: nearest-even binary32 number, ±inf from `2^127·(2 − 2^-24)` on. -/
theorem float_assignment_correctly_rounded (d : Fl) (h : ∀ n mag, d = .fin n mag → 0 ≤ mag) :
    Narrows d (toBinary32 d) :=
  toBinary32_narrows d (by cases d <;> simp_all [FlNonneg])

-- (float)16777217.0 = 2^24 (tie to even); (float)1e39 = +inf
example : Narrows (.fin false 16777217) (.fin false 16777216) :=
  (congrArg (Narrows _) (by decide +kernel)).mp
    (float_assignment_correctly_rounded (.fin false 16777217) (fun _ _ h => by cases h; decide +kernel))
example : Narrows (.fin true (10 ^ 39)) (.inf true) :=
  (congrArg (Narrows _) (by decide +kernel)).mp
    (float_assignment_correctly_rounded (.fin true (10 ^ 39)) (fun _ _ h => by cases h; decide +kernel))

/-- the specification is not ambiguous: at most one datum is the correctly rounded value (of two
    equally near numbers exactly one has an even significand) -/
theorem correct_rounding_unique (neg : Bool) (sub : Subject) (d d' v v' : Fl)
    (h1 : Converts neg sub d) (h2 : Converts neg sub d') (h3 : Narrows d v) (h4 : Narrows d v') :
    d = d' ∧ v = v' :=
  ⟨converts_unique h1 h2, narrows_unique h3 h4⟩

example : Converts false (.num (1 / 10)) (.fin false (3602879701896397 / 36028797018963968)) ∧
    Narrows (.fin false (3602879701896397 / 36028797018963968)) (.fin false (13421773 / 134217728)) :=
  ⟨(congrArg (Converts false (.num (1 / 10))) (by decide +kernel)).mp
      (strtod_correctly_rounded false (1 / 10) (by decide +kernel)),
    (congrArg (Narrows _) (by decide +kernel)).mp
      (float_assignment_correctly_rounded _ (fun _ _ h => by cases h; decide +kernel))⟩

/-- a correctly rounded result is exact iff the operand is itself a number of the format (which is how
    `RangeError` expresses "inexact") -/
theorem rounding_exact_iff (f : Format) (x d : Rat) (h : IsNearestEven f x d) : d = x ↔ f.Finite x :=
  isNearestEven_exact_iff h

example : IsNearestEven binary32 0 0 := isNearestEven_zero binary32 binary32_valid

/-- Success with `v` exactly when the string is a floating numeral, its correctly rounded `double` value
    `d` is delivered without range error, `d` is neither below `min` nor above `max`, and `v` is `d`
    stored into the target (rounded correctly once more for `float`). -/
theorem parsenum_float_ok_iff (t : FTy) (bs : List UInt8) (min max : Fl) (trailing : Bool) (v : Fl) :
    Model.ParsenumFloat.parsenum t bs min max 0 trailing = .ok v ↔
      ∃ neg sub d, FAccepts trailing (cstr bs) neg sub ∧ Converts neg sub d ∧ ¬ ConvRangeError neg sub ∧
        Fl.lt d min = false ∧ Fl.lt max d = false ∧
        (t = .f64 → v = d) ∧ (t = .f32 → Narrows d v) := by
  refine (((float_governed t (cstr bs) min max trailing).iffs fanswers).1 v).trans ⟨?_, ?_⟩
  · rintro ⟨⟨neg, sub, d⟩, ⟨ha, hc⟩, ⟨h1, h2, h3⟩, hv⟩
    exact ⟨neg, sub, d, ha, hc, h1, h2, h3, (fstore_iff hc t v).mp hv⟩
  · rintro ⟨neg, sub, d, ha, hc, h1, h2, h3, hv⟩
    exact ⟨(neg, sub, d), ⟨ha, hc⟩, ⟨h1, h2, h3⟩, (fstore_iff hc t v).mpr hv⟩

-- "0x1.8p1" into a double within [0, 2^10]: 3
example : (Model.ParsenumFloat.parsenum .f64 [0x30, 0x78, 0x31, 0x2e, 0x38, 0x70, 0x31] (.fin false 0) (.fin false 1024) 0 false
    matches .ok (.fin false 3)) = true := by decide +kernel
-- "0.1" into a float: 13421773 · 2^-27 (rounded twice)
example : (match Model.ParsenumFloat.parsenum .f32 [0x30, 0x2e, 0x31] (.inf true) (.inf false) 0 false with
    | .ok v => decide (v = .fin false (13421773 / 134217728)) | _ => false) = true := by decide +kernel
example : FAccepts false [0x2d, 0x2e, 0x35] true (.num ((5 : Rat) * ratPow 10 (0 - 1))) :=       -- "-.5"
  ⟨⟨[], .minus, .dec ⟨[], true, [0x35], none⟩⟩, rfl, by simp, rfl, 5, 1, 0, ⟨by simp, by simp, by decide, rfl, rfl⟩, rfl⟩

/-- EINVAL exactly when the string is not (does not start with) a floating numeral. -/
theorem parsenum_float_einval_iff (t : FTy) (bs : List UInt8) (min max : Fl) (trailing : Bool) :
    Model.ParsenumFloat.parsenum t bs min max 0 trailing = .einval ↔
      ¬ ∃ neg sub, FAccepts trailing (cstr bs) neg sub := by
  refine ((float_governed t (cstr bs) min max trailing).iffs fanswers).2.1.trans (not_congr ⟨?_, ?_⟩)
  · rintro ⟨⟨neg, sub, d⟩, ha, -⟩; exact ⟨neg, sub, ha⟩
  · rintro ⟨neg, sub, ha⟩; exact ⟨(neg, sub, _), ha, toDouble_converts neg sub (faccepts_nonneg ha)⟩

-- "1e" : only "1" is a numeral
example : (Model.ParsenumFloat.parsenum .f64 [0x31, 0x65] (.inf true) (.inf false) 0 false matches .einval) = true := by
  decide +kernel

/-- ERANGE exactly when the string is a floating numeral whose correctly rounded `double` value is below
    `min` or above `max`, or whose conversion has a range error (overflow; tiny and inexact). -/
theorem parsenum_float_erange_iff (t : FTy) (bs : List UInt8) (min max : Fl) (trailing : Bool) :
    Model.ParsenumFloat.parsenum t bs min max 0 trailing = .erange ↔
      ∃ neg sub d, FAccepts trailing (cstr bs) neg sub ∧ Converts neg sub d ∧
        (Fl.lt d min = true ∨ Fl.lt max d = true ∨ ConvRangeError neg sub) := by
  refine ((float_governed t (cstr bs) min max trailing).iffs fanswers).2.2.trans ⟨?_, ?_⟩
  · rintro ⟨⟨neg, sub, d⟩, ⟨ha, hc⟩, hp⟩
    exact ⟨neg, sub, d, ha, hc, by grind⟩
  · rintro ⟨neg, sub, d, ha, hc, h⟩
    exact ⟨(neg, sub, d), ⟨ha, hc⟩, by grind⟩

-- "1e400" overflows (strtod's own ERANGE survives); "5" is above max = 4
example : (Model.ParsenumFloat.parsenum .f64 [0x31, 0x65, 0x34, 0x30, 0x30] (.inf true) (.inf false) 0 false matches .erange) = true := by
  decide +kernel
example : (Model.ParsenumFloat.parsenum .f32 [0x35] (.fin false 0) (.fin false 4) 0 true matches .erange) = true := by
  decide +kernel

/-- what an accepted string denotes is unique, so the three cases are exclusive -/
theorem faccepts_value_unique (trailing : Bool) (s : List UInt8) (neg neg' : Bool) (sub sub' : Subject)
    (h1 : FAccepts trailing s neg sub) (h2 : FAccepts trailing s neg' sub') : neg = neg' ∧ sub = sub' :=
  faccepts_unique h1 h2

example : FAccepts true [0x69, 0x4e, 0x66, 0x69] false .inf := by            -- "iNfi": "iNf" + "i"
  rw [Percival.Proofs.FloatNumeral.faccepts_iff_scan]; exact ⟨3, by decide +kernel, Or.inl rfl⟩

/-- NaN passes any bounds (as the repository's own test suite expects: `"nAn"` within `[0, 0]`). -/
theorem parsenum_float_nan_passes_bounds (t : FTy) (bs : List UInt8) (min max : Fl) (trailing neg : Bool)
    (h : FAccepts trailing (cstr bs) neg .nan) :
    Model.ParsenumFloat.parsenum t bs min max 0 trailing = .ok (fstore t .nan) :=
  (((float_governed t (cstr bs) min max trailing).iffs fanswers).1 _).mpr
    ⟨(neg, .nan, .nan), ⟨h, rfl⟩, ⟨id, (nan_not_lt min).1, (nan_not_lt max).2⟩, rfl⟩

example : (Model.ParsenumFloat.parsenum .f64 [0x6e, 0x41, 0x6e] (.fin false 0) (.fin false 0) 0 false matches .ok .nan) = true := by
  decide +kernel
example : FAccepts false [0x6e, 0x41, 0x6e] false .nan :=
  ⟨⟨[], .none, .nan [0x6e, 0x41, 0x6e] none⟩, rfl, by simp, rfl, by decide, by simp, rfl⟩

/-- documented misuse: a floating-point target with `base != 0` ends in `ASSERT_FAIL` -/
theorem parsenum_float_base_nonzero_aborts (t : FTy) (bs : List UInt8) (min max : Fl) (base : Nat)
    (trailing : Bool) (hb : base ≠ 0) :
    (match Model.ParsenumFloat.parsenum t bs min max base trailing with | .abort => True | _ => False) := by
  unfold Model.ParsenumFloat.parsenum; rw [ex6_float_abort _ _ _ _ _ _ hb]; trivial

example : (16 : Nat) ≠ 0 := by decide +kernel

end floats

section humansize
open Percival.Spec.Humansize Percival.Model.Humansize

/-- `humansize_parse` succeeds with `v` exactly when the string matches `[0-9]+ ?[kMGTPE]?B?`, denotes
    `v = digits · 1000^k`, and `v ≤ 2^64 - 1`. -/
theorem humansize_parse_ok_iff (bs : List UInt8) (v : Nat) :
    parse (cstr bs) = .ok v ↔ Parses (cstr bs) v ∧ v ≤ U64MAX :=
  Percival.Proofs.Humansize.parse_ok_iff _ _

example : parse (cstr [0x31, 0x30, 0x20, 0x45, 0x42, 0x00, 0x37]) = .ok 10000000000000000000 := by decide +kernel
example : Parses [0x32, 0x6b] 2000 :=
  ⟨[0x32], [0x6b], 2, 1, rfl, by simp, by decide, ⟨[], [0x6b], [], rfl, Or.inl rfl, Or.inr ⟨by omega, 0x6b, rfl, rfl⟩, Or.inl rfl⟩, rfl⟩

/-- … and fails otherwise: malformed, or the value overflows 64 bits. -/
theorem humansize_parse_fail_iff (bs : List UInt8) :
    parse (cstr bs) = .fail ↔ ¬ ∃ v, Parses (cstr bs) v ∧ v ≤ U64MAX :=
  Percival.Proofs.Humansize.parse_fail_iff _

example : parse [0x31, 0x30, 0x30, 0x20, 0x45, 0x42] = .fail := by decide     -- "100 EB"
example : parse [0x31, 0x20, 0x20, 0x42] = .fail := by decide                 -- "1  B"

/-- the division `UINT64_MAX / multiplier` never divides by zero -/
theorem humansize_parse_no_divzero (bs : List UInt8) : parse (cstr bs) ≠ .divzero :=
  Percival.Proofs.Humansize.parse_ne_divzero _

example : parse [] = .fail := by decide +kernel

/-- `humansize n` prints the largest documented form (`N B`, `X pB` with 10 ≤ X ≤ 999, `a.b pB` with
    1.0 ≤ a.b ≤ 9.9) whose value does not exceed `n`; the prefix lookup stays inside `" kMGTPE"`.
    Stated for every `uint64_t`; `Proofs.Humansize.format_spec`, which it instantiates, holds for every `n < 10^21`. -/
theorem humansize_largest_below (n : Nat) (hn : n < 2 ^ 64) :
    ∃ f str, IsLargestBelow f n ∧ f.render = some str ∧ format n = .str str :=
  Percival.Proofs.Humansize.format_spec n (by omega)

example : ∃ f str, IsLargestBelow f 18446744073709551615 ∧ f.render = some str ∧
    format 18446744073709551615 = .str str := humansize_largest_below _ (by decide)
example : IsLargestBelow (.int 18 6) 18446744073709551615 := by        -- "18 EB"
  simpa using Percival.Proofs.Humansize.form_largest (n := 18446744073709551615) (k := 6) (q := 184)
    (by omega) (by omega) (by decide) (by omega) (by omega)

/-- the constants the model takes from the current source (`Gen/HumansizeC.lean`) are the documented ones -/
theorem humansize_constants :
    Percival.Gen.HumansizeC.prefixes = siPrefixes ∧
    Percival.Gen.HumansizeC.siCases = [(0x45, 1000), (0x50, 1000), (0x54, 1000), (0x47, 1000), (0x4d, 1000), (0x6b, 1000)] ∧
    Percival.Gen.HumansizeC.smallLimit = 1000 ∧ Percival.Gen.HumansizeC.firstDiv = 100 ∧
    Percival.Gen.HumansizeC.firstShift = 1 ∧ Percival.Gen.HumansizeC.loopLimit = 10000 ∧
    Percival.Gen.HumansizeC.loopDiv = 1000 ∧ Percival.Gen.HumansizeC.decimalLimit = 100 := by
  decide

end humansize

/-! ## The function the executable runs

`pmodel parsenum` (components `pn`, `pf`, `hs`) is `parse` / `Model.ParsenumStep.stepOp` / `render`
(`Driver/Parsenum.lean`).  The theorems below are about `stepOp`'s typed output: `Out.hsParse l1 l2` and
`Out.hsFmt l1 l2` are printed `<l1> | <l2>`; `Out.int o ooc` is printed `<o.answer> | x=<*x>` (with `ooc`:
`ooc | <o.answer> x=<*x>`); `Out.float o` is printed `<answer> | x=<token of *x>`. -/

section exec
open Percival.Model.ParsenumStep Percival.Spec.HumansizeExec Percival.Spec.Humansize
open Percival.Proofs.HumansizeExec Percival.Proofs.ParsenumStep

/-- `hs_parse`: the L1 part is the specification's answer — `ok v` exactly when the C string matches
    `[0-9]+ ?[kMGTPE]?B?`, denotes `v` and `v ≤ 2^64 − 1`; `fail` exactly when there is no such `v`
    (malformed, or out of range). -/
theorem exec_hs_parse_spec (bs : List UInt8) :
    ∃ l1 l2, stepOp (.hsParse bs) = .hsParse l1 l2 ∧
      (∀ v, l1 = some v ↔ Parses (cstr bs) v ∧ v ≤ U64MAX) ∧
      (l1 = none ↔ ¬ ∃ v, Parses (cstr bs) v ∧ v ≤ U64MAX) :=
  ⟨_, _, rfl, specParse_some_iff _, specParse_none_iff _⟩

example : stepOp (.hsParse [0x31, 0x38, 0x20, 0x45, 0x42, 0x00, 0x37]) =
    .hsParse (some 18000000000000000000) (.ok 18000000000000000000) := by decide +kernel     -- "18 EB"
example : stepOp (.hsParse [0x31, 0x39, 0x20, 0x45, 0x42]) = .hsParse none .fail := by decide +kernel   -- "19 EB"

/-- `hs_parse`: the L2 part (the model of `humansize_parse`) is the L1 part, on every line. -/
theorem exec_hs_parse_model_eq_spec (bs : List UInt8) :
    ∃ l1, stepOp (.hsParse bs) = .hsParse l1 (match l1 with | some v => .ok v | none => .fail) :=
  ⟨specParse (cstr bs), congrArg (Out.hsParse (specParse (cstr bs))) (parse_eq_spec (cstr bs))⟩

example : stepOp (.hsParse [0x31, 0x20, 0x20, 0x42]) = .hsParse none .fail := by decide +kernel         -- "1  B"

/-- `hs_fmt`: for every `uint64_t` the L1 part is the text of *the* largest documented form not exceeding `n`
    (there is exactly one such form; it always has a text). -/
theorem exec_hs_fmt_spec (n : Nat) (hn : n < 2 ^ 64) :
    ∃ l1 l2, stepOp (.hsFmt n) = .hsFmt l1 l2 ∧
      (∀ str, l1 = some str ↔ ∃ f, IsLargestBelow f n ∧ f.render = some str) ∧
      (∃ str, l1 = some str) ∧
      (∀ f g, IsLargestBelow f n → IsLargestBelow g n → f = g) := by
  refine ⟨specFormat n, Model.Humansize.format n, by simp only [stepOp, if_pos hn], specFormat_some_iff n,
    specFormat_isSome n, ?_⟩
  exact fun f g hf hg => isLargestBelow_unique hf hg

example : IsLargestBelow (.dec 9 9 1) 9999 ∧ Form.render (.dec 9 9 1) = some [0x39, 0x2e, 0x39, 0x20, 0x6b, 0x42] := by   -- "9.9 kB"
  refine ⟨?_, by decide⟩
  simpa using Percival.Proofs.Humansize.form_largest (n := 9999) (k := 1) (q := 99)
    (by omega) (by omega) (by decide) (by omega) (by omega)

/-- `hs_fmt`: the L2 part (the model of `humansize`) is the L1 part, for every `uint64_t`; a larger argument
    (not a `uint64_t`) is answered `skip`. -/
theorem exec_hs_fmt_model_eq_spec (n : Nat) :
    (n < 2 ^ 64 → ∃ str, stepOp (.hsFmt n) = .hsFmt (some str) (.str str)) ∧
    (2 ^ 64 ≤ n → stepOp (.hsFmt n) = .skip) := by
  constructor
  · intro hn
    obtain ⟨str, h1, h2⟩ := format_eq_spec n (by omega)
    exact ⟨str, by simp only [stepOp, if_pos hn, h1, h2]⟩
  · intro hn
    simp only [stepOp, if_neg (show ¬ n < 2 ^ 64 by omega)]

-- 2^64 − 1 is printed "18 EB" in both parts (L1 through the theorem: the enumeration of 7480 forms is too deep for
-- the kernel's evaluator)
example : stepOp (.hsFmt 18446744073709551615) =
    .hsFmt (some [0x31, 0x38, 0x20, 0x45, 0x42]) (.str [0x31, 0x38, 0x20, 0x45, 0x42]) :=
  hsFmt_of_model (by decide) (by decide +kernel)
example : stepOp (.hsFmt 18446744073709551616) = .skip := by decide +kernel

/-- `pn`, integer target with bounds, within the contract (`BoundsOk`: the bounds are values of their C types
    and, for a signed target, lie within the target type): the line is not marked `ooc`, and its L1 part — the
    caller's view `o.answer` of the outcome — is `ok v` exactly when the string is a numeral of value `v` within
    the bounds and the type, `EINVAL` exactly when it is not a numeral, `ERANGE` exactly when it is a numeral out
    of range, and never `abort`; on `ok v` the L2 part (`*x`) is `v`. -/
theorem exec_pn_int_bounds (t : IntTy) (bs : List UInt8) (min max : CVal) (base : Nat) (trailing : Bool)
    (hbase : ValidBase base) (hb : BoundsOk t min max) :
    ∃ o, stepOp (.pnInt t base trailing (some (min, max)) bs) = .int o false ∧
      (∀ v, o.answer = .ok v ↔ Accepts base trailing (cstr bs) v ∧ InRange t min max v) ∧
      (o.answer = .einval ↔ ¬ ∃ v, Accepts base trailing (cstr bs) v) ∧
      (o.answer = .erange ↔ ∃ v, Accepts base trailing (cstr bs) v ∧ ¬ InRange t min max v) ∧
      o.answer ≠ .abort ∧
      (∀ v, o.answer = .ok v → o = .done v .ok) :=
  ⟨parsenumEx6 t (cstr bs) min max base trailing, by simp only [stepOp, isOoc_of_boundsOk hb],
    fun v => parsenum_ok_iff t bs min max base trailing v hbase hb,
    parsenum_einval_iff t bs min max base trailing hbase hb,
    parsenum_erange_iff t bs min max base trailing hbase hb,
    parsenum_never_aborts t bs min max base trailing hb, fun _ => done_of_answer_ok⟩

-- " 0x10" into a uint64_t within [-5, 16], base 0; "-129" into an int8_t
example : stepOp (.pnInt .u64 0 false (some (.s (-5), .u 16)) [0x20, 0x30, 0x78, 0x31, 0x30]) = .int (.done 16 .ok) false := by
  decide +kernel
example : stepOp (.pnInt .i8 10 false (some (.s (-128), .s 127)) [0x2d, 0x31, 0x32, 0x39]) = .int (.done 0 .erange) false := by
  decide +kernel
example : ValidBase 10 ∧ BoundsOk .i8 (.s (-128)) (.s 127) := by
  refine ⟨Or.inr (by omega), ?_, ?_, ?_⟩ <;>
    simp [CVal.Valid, CVal.toInt, InType, IntTy.lo, IntTy.hi, IMIN, IMAX, IntTy.signed, IntTy.bits]

/-- `pn`, integer target with bounds: the line is marked `ooc` (answer compared at L2 only) exactly when the
    target is signed and a bound lies outside the target type — which `BoundsOk` excludes. -/
theorem exec_pn_int_ooc (t : IntTy) (bs : List UInt8) (min max : CVal) (base : Nat) (trailing : Bool) :
    ∃ o ooc, stepOp (.pnInt t base trailing (some (min, max)) bs) = .int o ooc ∧
      (ooc = true ↔ t.signed = true ∧ ¬ (InType t min.toInt ∧ InType t max.toInt)) ∧
      (BoundsOk t min max → ooc = false) :=
  ⟨_, _, rfl, isOoc_iff t min max, isOoc_of_boundsOk⟩

example : stepOp (.pnInt .i8 0 false (some (.s (-500), .s 5)) [0x31]) = .int (.done 1 .ok) true := by decide +kernel
example : stepOp (.pnInt .u8 0 false (some (.s (-500), .s 5)) [0x31]) = .int (.done 1 .ok) false := by decide +kernel

/-- `pn`, integer target, bound-less form: never marked `ooc`; for an unsigned target the L1 part is `ok v`
    exactly when the string is a numeral of value `v` within the type, `EINVAL` / `ERANGE` as above; for a signed
    target (documented misuse) it is `abort`. -/
theorem exec_pn_int_nobounds (t : IntTy) (bs : List UInt8) (base : Nat) (trailing : Bool) (hbase : ValidBase base) :
    ∃ o, stepOp (.pnInt t base trailing none bs) = .int o false ∧
      (t.signed = false →
        (∀ v, o.answer = .ok v ↔ Accepts base trailing (cstr bs) v ∧ InType t v) ∧
        (o.answer = .einval ↔ ¬ ∃ v, Accepts base trailing (cstr bs) v) ∧
        (o.answer = .erange ↔ ∃ v, Accepts base trailing (cstr bs) v ∧ ¬ InType t v)) ∧
      (t.signed = true → o = .abort) := by
  refine ⟨parsenumEx4 t (cstr bs) base trailing, rfl, fun ht => ⟨fun v => parsenumNoBounds_ok_iff t bs base trailing v hbase ht,
    parsenumNoBounds_einval_iff t bs base trailing hbase ht, parsenumNoBounds_erange_iff t bs base trailing hbase ht⟩, ?_⟩
  intro ht
  exact ex4_signed_abort t (cstr bs) base trailing ht

example : stepOp (.pnInt .u32 16 false none [0x66, 0x66]) = .int (.done 255 .ok) false := by decide +kernel
example : stepOp (.pnInt .i32 16 false none [0x66, 0x66]) = .int .abort false := by decide +kernel

end exec

section execFloat
open Percival.Spec.FloatNumeral Percival.Model.Strtod Percival.Model.ParsenumFloat Percival.Proofs.ParsenumFloat
open Percival.Spec.Ieee Percival.Proofs.Ieee
open Percival.Model.ParsenumStep Percival.Proofs.ParsenumStep

/-- `pn`, `float` / `double` target with bounds, `base = 0`: the printed outcome is `FOut.of fo` for an outcome
    `fo` of the macro whose caller's view `fo.answer` (the L1 part) is `ok v` exactly when the string is a floating
    numeral whose correctly rounded `double` value `d` (IEEE nearest-even, `Spec/Ieee.lean`) has no range error and
    lies within the bounds, `v` being `d` stored into the target (rounded once more for `float`); `EINVAL` exactly
    when it is not a floating numeral; `ERANGE` exactly when the rounded value is out of bounds or the conversion
    has a range error; and the token printed for the datum left in `*x` (both parts) denotes that datum exactly. -/
theorem exec_pn_float_bounds (t : FTy) (bs : List UInt8) (min max : FlLit) (trailing : Bool) :
    ∃ fo : FOutcome, stepOp (.pnFloat t 0 trailing (some (min, max)) bs) = .float (.of fo) ∧
      (∀ v, fo.answer = .ok v ↔
        ∃ neg sub d, FAccepts trailing (cstr bs) neg sub ∧ Converts neg sub d ∧ ¬ ConvRangeError neg sub ∧
          Fl.lt d min.toFl = false ∧ Fl.lt max.toFl d = false ∧ (t = .f64 → v = d) ∧ (t = .f32 → Narrows d v)) ∧
      (fo.answer = .einval ↔ ¬ ∃ neg sub, FAccepts trailing (cstr bs) neg sub) ∧
      (fo.answer = .erange ↔
        ∃ neg sub d, FAccepts trailing (cstr bs) neg sub ∧ Converts neg sub d ∧
          (Fl.lt d min.toFl = true ∨ Fl.lt max.toFl d = true ∨ ConvRangeError neg sub)) ∧
      (∀ x e, fo = .done x e → FOut.of fo = .done (flTok x) e ∧ (flTok x).toFl = x) := by
  refine ⟨parsenumEx6 t (cstr bs) min.toFl max.toFl 0 trailing, rfl,
    parsenum_float_ok_iff t bs min.toFl max.toFl trailing,
    parsenum_float_einval_iff t bs min.toFl max.toFl trailing,
    parsenum_float_erange_iff t bs min.toFl max.toFl trailing, ?_⟩
  intro x e h
  have := @fout_of_ex6 t (cstr bs) min.toFl max.toFl 0 trailing
  rw [h] at this ⊢
  exact this

-- "0.1" into a double within [0, 1·2^10]: 3602879701896397·2^-55; into a float: 13421773·2^-27; "5" above max = 4
example : stepOp (.pnFloat .f64 0 false (some (.bin false 0 0, .bin false 1 10)) [0x30, 0x2e, 0x31]) =
    .float (.done (.down false 3602879701896397 55) .ok) := by decide +kernel
example : stepOp (.pnFloat .f32 0 false (some (.inf true, .inf false)) [0x30, 0x2e, 0x31]) =
    .float (.done (.down false 13421773 27) .ok) := by decide +kernel
example : stepOp (.pnFloat .f32 0 true (some (.bin false 0 0, .bin false 1 2)) [0x35]) =
    .float (.done (.up false 5 0) .erange) := by decide +kernel

/-- `pn`, `float` / `double` target, bound-less form, `base = 0`: as above with the bounds `−∞`, `+∞`. -/
theorem exec_pn_float_nobounds (t : FTy) (bs : List UInt8) (trailing : Bool) :
    ∃ fo : FOutcome, stepOp (.pnFloat t 0 trailing none bs) = .float (.of fo) ∧
      (∀ v, fo.answer = .ok v ↔
        ∃ neg sub d, FAccepts trailing (cstr bs) neg sub ∧ Converts neg sub d ∧ ¬ ConvRangeError neg sub ∧
          Fl.lt d (.inf true) = false ∧ Fl.lt (.inf false) d = false ∧ (t = .f64 → v = d) ∧ (t = .f32 → Narrows d v)) ∧
      (fo.answer = .einval ↔ ¬ ∃ neg sub, FAccepts trailing (cstr bs) neg sub) ∧
      (fo.answer = .erange ↔
        ∃ neg sub d, FAccepts trailing (cstr bs) neg sub ∧ Converts neg sub d ∧
          (Fl.lt d (.inf true) = true ∨ Fl.lt (.inf false) d = true ∨ ConvRangeError neg sub)) ∧
      (∀ x e, fo = .done x e → FOut.of fo = .done (flTok x) e ∧ (flTok x).toFl = x) :=
  exec_pn_float_bounds t bs (.inf true) (.inf false) trailing

-- "1e400" overflows: ERANGE, +inf left in *x; "-0x1.8p1" = −3
example : stepOp (.pnFloat .f64 0 false none [0x31, 0x65, 0x34, 0x30, 0x30]) = .float (.done (.inf false) .erange) := by
  decide +kernel
example : stepOp (.pnFloat .f64 0 false none [0x2d, 0x30, 0x78, 0x31, 0x2e, 0x38, 0x70, 0x31]) =
    .float (.done (.up true 3 0) .ok) := by decide +kernel

/-- `pn`, `float` / `double` target with `base ≠ 0` (documented misuse): `abort`. -/
theorem exec_pn_float_base_nonzero (t : FTy) (bs : List UInt8) (bounds : Option (FlLit × FlLit)) (base : Nat)
    (trailing : Bool) (hb : base ≠ 0) : stepOp (.pnFloat t base trailing bounds bs) = .float .abort := by
  cases bounds with
  | none => simp only [stepOp, Model.ParsenumFloat.parsenumEx4, ex6_float_abort _ _ _ _ _ _ hb, FOut.of]
  | some b => obtain ⟨mn, mx⟩ := b; simp only [stepOp, ex6_float_abort _ _ _ _ _ _ hb, FOut.of]

example : stepOp (.pnFloat .f64 10 false none [0x31]) = .float .abort := by decide +kernel

end execFloat

end Percival.C16
