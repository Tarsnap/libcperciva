import Percival.Proofs.EArrayStep
import Percival.Proofs.EQueue
import Percival.Proofs.SeqMap
import Percival.Proofs.MPool
import Percival.Proofs.DsStep
import Percival.Proofs.DsRun
import Percival.Proofs.DsAns
import Percival.Proofs.MPools
/-!
# C12 — elastic array/queue, sequential pointer map and object pool refine their abstract models

Models: `Model/EArray.lean`, `EQueue.lean`, `SeqMap.lean`, `MPool.lean` (the C, statement by statement,
`size_t` arithmetic modulo 2^64, every allocation through the oracle `Mem`).  Abstract objects and their
monitors (`*Admit`): `Spec/DS.lean`.  Every theorem holds for **every** allocation oracle `m` (any pattern
of refused requests) and every operation sequence; no bound on sizes or lengths.

Reading guide: `Inv` / `QInv` / `MInv` are the representation invariants (`size ≤ alloc`, the heap block is
`alloc` bytes long, …), `abs` maps a concrete state to the ideal object, `step`/`run` execute one operation /
a list of operations and return what the caller observes, `eaAdmit …` is the ideal object's verdict on an
observed answer (`none` = not allowed) and its next state.  An answer with `st = .oob` — an access outside
storage — is never admitted, so "admitted" includes "in bounds".
-/
namespace Percival.C12
open Percival.Model Percival.Spec.DS
open Percival.Proofs

/-- `elasticarray_init(nrec, reclen)` under any oracle: either an array of exactly `nrec * reclen` bytes
satisfying the invariant and the factor-4 bound, or `NULL` — and then a request was refused or the
product does not fit `size_t` — with nothing left allocated. -/
theorem ea_init_sound (nrec : Nat) (r : RecLen) (m : Mem) :
    match EArray.init nrec r m with
    | (some a, m') => EArray.Inv a ∧ EArray.Tight a ∧ a.size = nrec * r.val ∧ nrec * r.val ≤ EArray.SIZE_MAX ∧
        m'.live = m.live + 1 + EArray.bufBlocks a ∧ m'.refusals = m.refusals
    | (none, m') => m'.live = m.live ∧ (m'.refusals > m.refusals ∨ nrec * r.val > EArray.SIZE_MAX) :=
  EArray.init_spec nrec r m

example : (EArray.init 3 ⟨4, by decide⟩ Mem.grantAll).1 = some ⟨12, 12, List.replicate 12 0⟩ := by decide
example : (EArray.init (2^62) ⟨4, by decide⟩ Mem.grantAll).1 = none := by decide
example : (EArray.init 3 ⟨4, by decide⟩ Mem.refuseAll).1 = none := by decide

/-- **One step refines the ideal array.**  For every operation (resize / append / shrink / truncate / get / set /
getsize / exportdup, any record length and count — including products that overflow `size_t`), every
oracle: the invariant is kept, the answer (status, size, allocation, refused flag, data) is one the ideal
byte array admits, and the abstraction commutes.  In particular nothing is read or written outside the
block (`oob` is never admitted), failure happens only with a refused request or an over-large size and
changes nothing, and the data handed out are the ideal array's bytes. -/
theorem ea_step_refines (a : EArray.EA) (op : EaOp) (m : Mem) (h : EArray.Inv a) (hc : eaContract (EArray.abs a) op) :
    EArray.Inv (EArray.step a op m).2.1 ∧
    eaAdmit (EArray.abs a) op (EArray.step a op m).1 = some (EArray.abs (EArray.step a op m).2.1) :=
  EArray.step_ok a op m h hc

example : EArray.Inv ⟨12, 16, List.replicate 16 7⟩ := ⟨by decide, by decide, by decide⟩
example : eaContract (EArray.abs ⟨12, 16, List.replicate 16 7⟩) (.append [1, 2, 3, 4, 5, 6] 2 ⟨3, by decide⟩) := by
  intro _; rfl
example : (EArray.step ⟨12, 16, List.replicate 16 7⟩ (.append [1, 2, 3, 4, 5, 6] 2 ⟨3, by decide⟩) Mem.grantAll).1
    = { st := .ok, size := 18, alloc := 32, refused := false, out := none } := by decide

/-- **Every finite sequence of operations refines the ideal array** (for every oracle): the whole observed
trace is admitted by the ideal byte array started at `abs a`, ending in `abs` of the final state. -/
theorem ea_run_refines (ops : List EaOp) (a : EArray.EA) (m : Mem) (h : EArray.Inv a)
    (hc : EArray.Contracts a ops m) :
    EArray.Inv (EArray.run a ops m).2.1 ∧
    eaAdmitAll (EArray.abs a) (EArray.run a ops m).1 = some (EArray.abs (EArray.run a ops m).2.1) :=
  EArray.run_ok ops a m h hc

example : EArray.Contracts ⟨0, 0, []⟩
    [.append [1, 2, 3, 4] 2 ⟨2, by decide⟩, .shrink 1 ⟨3, by decide⟩, .truncate, .exportdup ⟨1, by decide⟩] Mem.grantAll := by
  refine ⟨fun _ => rfl, trivial, trivial, trivial, trivial⟩

/-- **Sizes and the factor 4.**  After any admitted step the reported size is the ideal array's length and
`size ≤ alloc`; after a successful resize / append / truncate, and after a shrink during which no request
was refused, `alloc / 4 ≤ size` (so `alloc = 7, size = 1` is legal, `alloc = 8, size = 1` is not). -/
theorem ea_factor4 (a : EArray.EA) (op : EaOp) (m : Mem) (h : EArray.Inv a) (hc : eaContract (EArray.abs a) op) :
    (EArray.step a op m).2.1.size ≤ (EArray.step a op m).2.1.alloc ∧
    (match op with
     | .resize _ _ _ | .append _ _ _ | .truncate =>
         (EArray.step a op m).1.st = .ok → (EArray.step a op m).2.1.alloc / 4 ≤ (EArray.step a op m).2.1.size
     | .shrink _ _ =>
         (EArray.step a op m).1.refused = false → (EArray.step a op m).2.1.alloc / 4 ≤ (EArray.step a op m).2.1.size
     | _ => True) := by
  have hs := EArray.step_ok a op m h hc
  have hl := EArray.eaAdmit_loose hs.2
  have tight_of : (EArray.abs (EArray.step a op m).2.1).loose = false →
      (EArray.step a op m).2.1.alloc / 4 ≤ (EArray.step a op m).2.1.size := by
    intro hf; simp only [EArray.abs, decide_eq_false_iff_not] at hf; omega
  refine ⟨hs.1.le, ?_⟩
  cases op <;> first | trivial | exact fun hh => tight_of (hl hh)

example : tight 1 7 = true ∧ tight 1 8 = false := by decide

/-- **Export hands over exactly the contents** and their record count; if it fails the array is unchanged
and a request was refused. -/
theorem ea_export_exact (a : EArray.EA) (r : RecLen) (m : Mem) (h : EArray.Inv a) :
    match EArray.exportBuf a r m with
    | (some (b, n), _, m') => b = (EArray.abs a).bytes ∧ n = (EArray.abs a).bytes.length / r.val ∧
        m'.live + EArray.bufBlocks a + 1 = m.live + (if a.size = 0 then 0 else 1)
    | (none, a', m') => a' = a ∧ m'.refusals = m.refusals + 1 ∧ m'.live = m.live := by
  have := EArray.export_spec a r m h
  rw [EArray.abs_length h]
  exact this

example : (EArray.exportBuf ⟨3, 8, [1, 2, 3, 9, 9, 9, 9, 9]⟩ ⟨2, by decide⟩ Mem.grantAll).1 = some ([1, 2, 3], 1) := by decide

/-- `elasticqueue_init` under any oracle: an empty queue, or `NULL` with a refused request and nothing allocated. -/
theorem eq_init_sound (r : RecLen) (m : Mem) :
    match EQueue.init r m with
    | (some q, m') => EQueue.QInv q ∧ q.reclen = r ∧ EQueue.abs q = [] ∧ q.offset = 0 ∧ q.len = 0 ∧
        m'.live = m.live + 2 + EArray.bufBlocks q.ea ∧ m'.refusals = m.refusals
    | (none, m') => m'.live = m.live ∧ m'.refusals > m.refusals :=
  EQueue.init_spec r m

example : ((EQueue.init ⟨3, by decide⟩ Mem.grantAll).1.map (·.len)) = some 0 := by decide

/-- **Every finite sequence of add/delete/getlen/get/set refines the ideal FIFO of records** (for every oracle;
the array stays below 2^64 bytes): same records, same order, `get` beyond the end is NULL, the move-to-front
copy loop stays inside the contents, `add` fails only with a refused request and then changes nothing,
`delete` never fails. -/
theorem eq_run_refines (ops : List EqOp) (q : EQueue.EQ) (m : Mem) (h : EQueue.QInv q)
    (hc : EQueue.Contracts q ops m)
    (hsmall : (q.offset + q.len + ops.length) * q.reclen.val ≤ EArray.SIZE_MAX) :
    EQueue.QInv (EQueue.run q ops m).2.1 ∧
    eqAdmitAll (EQueue.abs q) (EQueue.run q ops m).1 = some (EQueue.abs (EQueue.run q ops m).2.1) :=
  EQueue.run_ok ops q m h hc hsmall

example : EQueue.QInv ⟨⟨4, 4, [1, 2, 3, 4]⟩, 1, 1, ⟨2, by decide⟩⟩ := ⟨⟨by decide, by decide, by decide⟩, by decide⟩
example : (EQueue.run ⟨⟨4, 4, [1, 2, 3, 4]⟩, 1, 1, ⟨2, by decide⟩⟩ [.add [5, 6], .delete, .get 0] Mem.grantAll).1.map (·.2.got)
    = [none, none, some [5, 6]] := by decide

/-- one step of the queue (the statement `eq_run_refines` is built from) -/
theorem eq_step_refines (q : EQueue.EQ) (op : EqOp) (m : Mem) (h : EQueue.QInv q)
    (hc : eqContract q.reclen.val (EQueue.abs q) op)
    (hsmall : (q.offset + q.len + 1) * q.reclen.val ≤ EArray.SIZE_MAX) :
    EQueue.QInv (EQueue.step q op m).2.1 ∧
    eqAdmit (EQueue.abs q) op (EQueue.step q op m).1 = some (EQueue.abs (EQueue.step q op m).2.1) := by
  have := EQueue.qstep_ok q op m h hc hsmall
  exact ⟨this.1, this.2.2.1⟩

example : eqContract 2 (EQueue.abs ⟨⟨4, 4, [1, 2, 3, 4]⟩, 1, 1, ⟨2, by decide⟩⟩) (.set 0 [8, 9]) :=
  ⟨by decide, rfl⟩

/-- `seqptrmap_init` under any oracle: the empty map (next number 0), or `NULL` with nothing allocated. -/
theorem sm_init_sound (m : Mem) :
    match SeqMap.init m with
    | (some s, m') => SeqMap.MInv s ∧ SeqMap.abs s = smEmpty ∧ s.offset = 0 ∧ s.len = 0 ∧ s.q.offset = 0 ∧ s.q.len = 0 ∧
        m'.live = m.live + 3 + EArray.bufBlocks s.q.ea ∧ m'.refusals = m.refusals
    | (none, m') => m'.live = m.live ∧ m'.refusals > m.refusals :=
  SeqMap.init_spec m

example : ((SeqMap.init Mem.grantAll).1.map (fun s => (s.len, s.offset))) = some (0, 0) := by decide
example : (SeqMap.init Mem.refuseAll).1.isNone = true := by decide

/-- **Every finite sequence of add/get/delete/getmin refines the ideal map** (for every oracle; non-NULL
pointers; fewer than 2^63 numbers): `add` returns the next number (`smAdmit` demands `num = next`, so
numbers are issued consecutively from 0) or fails with -1 changing nothing; `get` returns the pointer
stored under a live number and NULL for every other number (deleted, never issued, negative); `delete`
in any order — front, middle, repeated, unknown — never fails; `getmin` is the least live number, -1
when empty.  No access leaves the queue's storage and the NULL-trimming loop terminates. -/
theorem sm_run_refines (ops : List SmOp) (s : SeqMap.SM) (m : Mem) (h : SeqMap.MInv s)
    (hc : ∀ op ∈ ops, smContract op)
    (hq : (s.q.offset + s.q.len + ops.length) * 8 ≤ EArray.SIZE_MAX)
    (hn : s.offset + s.len + ops.length ≤ SeqMap.INT64_MAX) :
    SeqMap.MInv (SeqMap.run s ops m).2.1 ∧
    smAdmitAll (SeqMap.abs s) (SeqMap.run s ops m).1 = some (SeqMap.abs (SeqMap.run s ops m).2.1) :=
  SeqMap.run_ok ops s m h hc hq hn

example : ∀ op ∈ [SmOp.add 5, .add 6, .delete 0, .getmin, .get 0, .get 1, .get 7], smContract op := by
  simp [smContract]

/-- a concrete run from `seqptrmap_init`: numbers 0, 1, 2 issued; 0 deleted; minimum 1; 0 and 7 unknown -/
example : (match (SeqMap.init Mem.grantAll) with
    | (some s, m) => (SeqMap.run s [.add 5, .add 6, .add 7, .delete 0, .getmin, .get 0, .get 1, .get 7] m).1.map
        (fun x => (x.2.num, x.2.ptr))
    | (none, _) => []) = [(0, 0), (1, 0), (2, 0), (0, 0), (1, 0), (0, 0), (0, 6), (0, 0)] := by decide +kernel

/-- one step of the map -/
theorem sm_step_refines (s : SeqMap.SM) (op : SmOp) (m : Mem) (h : SeqMap.MInv s) (hc : smContract op)
    (hq : (s.q.offset + s.q.len + 1) * 8 ≤ EArray.SIZE_MAX) (hn : s.offset + s.len + 1 ≤ SeqMap.INT64_MAX) :
    SeqMap.MInv (SeqMap.step s op m).2.1 ∧
    smAdmit (SeqMap.abs s) op (SeqMap.step s op m).1 = some (SeqMap.abs (SeqMap.step s op m).2.1) := by
  have := SeqMap.mstep_ok s op m h hc hq hn
  exact ⟨this.1, this.2.1⟩

/-- **Every finite sequence of malloc/free on a pool refines "the set of objects in use"** (for every oracle,
any cache size, crossing it and doubling the stack included): `malloc` never returns an object that is
still in use (`mpAdmit` rejects that), returns NULL only when a request was refused; the simulation
relation `R` (cache ∩ in-use = ∅, no duplicates, live-block accounting) is kept. -/
theorem mp_run_refines (sz : Nat) (ops : List MpOp) (p : MPool.MP) (m : Mem) (u : List Nat) (base : Int)
    (h : MPool.R p m u base) (hc : MPool.Contracts sz p u ops m) :
    ∃ u', mpAdmitAll u (MPool.run sz p ops m).1 = some u' ∧
      MPool.R (MPool.run sz p ops m).2.1 (MPool.run sz p ops m).2.2 u' base :=
  MPool.run_ok sz ops p m u base h hc

example (m : Mem) : MPool.R (MPool.init 4) m [] m.live := MPool.init_R 4 m
/-- cache size 2: the third `free` doubles the stack; the next `malloc` is served from the cache -/
example : (MPool.run 40 (MPool.init 2) [.malloc, .malloc, .malloc, .free 0, .free 1, .free 2, .malloc] Mem.grantAll).1.map
    (·.2.obj) = [some 0, some 1, some 2, none, none, none, some 2] := by decide
example : (MPool.run 40 (MPool.init 2) [.malloc, .malloc, .malloc, .free 0, .free 1, .free 2, .malloc] Mem.grantAll).2.1.allocsize = 4 := by
  decide

/-- **At exit the pool returns every cached object** (and its stack, if it allocated one): afterwards the
cache is empty and exactly the objects still in use remain allocated. -/
theorem mp_exit_frees_cached (p : MPool.MP) (m : Mem) (u : List Nat) (base : Int) (h : MPool.R p m u base) :
    (MPool.atexit p m).1.stack = [] ∧ (MPool.atexit p m).1.stacklen = 0 ∧ (MPool.atexit p m).2.live = base + u.length :=
  MPool.atexit_spec p m u base h

example : (MPool.atexit ⟨[3, 1], 2, 4, 5, 2, true, true⟩ { Mem.grantAll with live := 3 }).2.live = 0 := by decide

/-- **The two theorems above hold for every cache size** — the size is not a constant of the model: it is the
field `allocsize` of the pool state `p`, on which `MPool.R` puts no condition, and the pool `MPOOL(name, type, size)`
starts from is `MPool.init size`, which satisfies `R` for every `size` (`CTASSERT(size > 0)`: 1 is allowed).  Spelled
out: from the initial pool of any size ≥ 1, under every oracle, every malloc/free sequence (crossing the cache size
and doubling the stack 1 → 2 → 4 … included) refines "the set of objects in use", and the exit handler then leaves
exactly the objects in use allocated — in particular nothing that was cached is released twice or kept. -/
theorem mp_every_size_refines (size : Nat) (_hsize : 1 ≤ size) (sz : Nat) (ops : List MpOp) (m : Mem)
    (hc : MPool.Contracts sz (MPool.init size) [] ops m) :
    ∃ u', mpAdmitAll [] (MPool.run sz (MPool.init size) ops m).1 = some u' ∧
      MPool.R (MPool.run sz (MPool.init size) ops m).2.1 (MPool.run sz (MPool.init size) ops m).2.2 u' m.live ∧
      (MPool.atexit (MPool.run sz (MPool.init size) ops m).2.1 (MPool.run sz (MPool.init size) ops m).2.2).1.stack = [] ∧
      (MPool.atexit (MPool.run sz (MPool.init size) ops m).2.1 (MPool.run sz (MPool.init size) ops m).2.2).2.live =
        m.live + u'.length := by
  obtain ⟨u', ha, hr⟩ := MPool.run_ok sz ops (MPool.init size) m [] m.live (MPool.init_R size m) hc
  have he := MPool.atexit_spec _ _ u' m.live hr
  exact ⟨u', ha, hr, he.1, he.2.2⟩

/-- cache size 1: the second `free` doubles the stack (1 → 2) and caches the object, the third (statistics just reset)
releases its object; the two cached objects are handed out again, most recently freed first, then a new one is
allocated -/
example : (MPool.run 40 (MPool.init 1) [.malloc, .malloc, .malloc, .free 0, .free 1, .free 2, .malloc, .malloc, .malloc]
    Mem.grantAll).1.map (·.2.obj) = [some 0, some 1, some 2, none, none, none, some 1, some 0, some 4] := by decide
example : (MPool.run 40 (MPool.init 1) [.malloc, .malloc, .free 0, .free 1] Mem.grantAll).2.1.allocsize = 2 ∧
    (MPool.run 40 (MPool.init 1) [.malloc, .malloc, .free 0, .free 1] Mem.grantAll).2.1.stack = [1, 0] ∧
    (MPool.run 40 (MPool.init 1) [.malloc, .malloc, .free 0, .free 1] Mem.grantAll).2.2.live = 3 := by decide
/-- … and with the doubling's request refused the object is released instead (cache stays at 1 slot) -/
example : (MPool.run 40 (MPool.init 1) [.malloc, .malloc, .free 0, .free 1] { f := fun n _ => n != 2 }).2.1.stack = [0] ∧
    (MPool.run 40 (MPool.init 1) [.malloc, .malloc, .free 0, .free 1] { f := fun n _ => n != 2 }).2.2.live = 1 := by decide
example : MPool.Contracts 40 (MPool.init 1) [] [.malloc, .free 0] Mem.grantAll := by
  refine ⟨trivial, fun u1 h1 => ⟨?_, fun _ _ => trivial⟩⟩
  have e1 : u1 = [0] := by
    have : mpAdmit [] .malloc (MPool.step 40 (MPool.init 1) .malloc Mem.grantAll).1 = some [0] := by decide
    rw [this] at h1
    exact (Option.some.inj h1).symm
  subst e1
  exact List.mem_cons_self

/-! ### Several pools in one process

A source file may instantiate `MPOOL` more than once (the harness has four: cache sizes 1..4, all alive at once after
`mp_use`); the pools share only the allocator.  `MPools.run` is the interleaved run — `(k, op)` is `op` on pool `k` —,
`MPools.proj k` the operations of pool `k` with the answers they got, `MPools.RunI` the single-pool run (every step is
`MPool.step`) in an environment that may use the allocator between the steps (`Ext`: same oracle, counters not
decreased; with an idle environment `RunI` is `MPool.run`: `MPools.runI_of_run`). -/

/-- **Projection**: in every interleaved run, each pool makes exactly the single-pool run of its own operations (the
other pools are visible to it only as requests made to the shared allocator); a pool that is not named is not
touched. -/
theorem mp_pools_projection (sz k : Nat) (ops : List (Nat × MpOp)) (ps : MPools.Pools) (m : Mem) :
    MPools.RunI sz (ps k) m (MPools.proj k (MPools.run sz ps ops m).1) ((MPools.run sz ps ops m).2.1 k)
      (MPools.run sz ps ops m).2.2 ∧
    ((∀ x ∈ ops, x.1 ≠ k) → (MPools.run sz ps ops m).2.1 k = ps k) :=
  ⟨MPools.run_proj sz k ops ps m, MPools.run_frame sz k ops ps m⟩

/-- **Hence, for every interleaving of any number of pools of any cache sizes, under every oracle**: each pool's
answers are admitted by its own set of objects in use (`malloc` never hands out an object that is still in use, NULL
only with a refused request), and **at exit nothing cached remains in any pool**: the handler of pool `k` leaves its
cache empty and, of what the pool accounted for, exactly its objects in use allocated. -/
theorem mp_pools_refine_and_exit (sz : Nat) (sizes : Nat → Nat) (k : Nat) (ops : List (Nat × MpOp)) (m : Mem)
    (hc : MPools.Held [] (MPools.proj k (MPools.run sz (fun j => MPool.init (sizes j)) ops m).1)) :
    ∃ u' base', mpAdmitAll [] (MPools.proj k (MPools.run sz (fun j => MPool.init (sizes j)) ops m).1) = some u' ∧
      MPool.R ((MPools.run sz (fun j => MPool.init (sizes j)) ops m).2.1 k)
        (MPools.run sz (fun j => MPool.init (sizes j)) ops m).2.2 u' base' ∧
      (MPool.atexit ((MPools.run sz (fun j => MPool.init (sizes j)) ops m).2.1 k)
        (MPools.run sz (fun j => MPool.init (sizes j)) ops m).2.2).1.stack = [] ∧
      (MPool.atexit ((MPools.run sz (fun j => MPool.init (sizes j)) ops m).2.1 k)
        (MPools.run sz (fun j => MPool.init (sizes j)) ops m).2.2).2.live = base' + u'.length := by
  obtain ⟨u', b', ha, hR⟩ := MPools.run_refines sz sizes k ops m hc
  have he := MPool.atexit_spec _ _ u' b' hR
  exact ⟨u', b', ha, hR, he.1, he.2.2⟩

/-- two pools (sizes 1 and 2) interleaved: each crosses its cache size and doubles its stack; object numbers are the
process-wide request numbers -/
example : (MPools.run 40 (fun j => MPool.init j)
    [(2, .malloc), (1, .malloc), (2, .malloc), (1, .malloc), (2, .malloc), (1, .free 1), (2, .free 0), (1, .free 3),
     (2, .free 2), (2, .free 4), (1, .malloc), (2, .malloc)] Mem.grantAll).1.map (·.2.2.obj) =
    [some 0, some 1, some 2, some 3, some 4, none, none, none, none, none, some 3, some 4] := by decide

/-! ## The executable: `Model.DsStep.stepOp` (what `pmodel ds` runs) is the step functions above

`Driver/Ds.lean` only parses a line into a `Spec.DSMon.Op` and prints the typed `Out` of `Model.DsStep.stepOp`.
The next theorems say that on an existing array / queue / map, and on the pool, `stepOp` *is* `EArray.step` /
`EQueue.step` / `SeqMap.step` / `MPool.step` applied to that component — so `ea_step_refines` … `mp_run_refines`
(and C14's container theorems, which are about the same functions) speak about what the executable computes.
What `stepOp` adds is spelled out by the definitions in `Proofs/DsLines.lean`: `eaOpOf` … `mpOpOf` (the container
operation a protocol line stands for: the caller's data are `patBytes seed n`), `eaOutOf` … (the printed line, built
from the step's observable answer and the oracle before/after), `eaHarnessFree` (the harness frees the copy of a
successful `ea_dup`), `mpInUse` (the harness' list of objects in use). -/

open Percival.Model.DsStep Percival.Spec.DSMon Percival.Proofs.DsStep

/-- **`ea_resize`, `ea_append`, `ea_shrink`, `ea_trunc`, `ea_get`, `ea_set`, `ea_getsize`, `ea_dup` are
`EArray.step`** on the array component, whenever the step does not report an access outside storage (which
`ea_step_refines` excludes under `Inv` and the caller's contract). -/
theorem exec_ea_step (s : DsStep.S) (a : EArray.EA) (hs : s.ea = some a) (op : Op) (e : EaOp)
    (he : eaOpOf a.size op = some e) (hno : (EArray.step a e s.m).1.st ≠ .oob) :
    stepOp s op =
      ({ s with m := eaHarnessFree e (EArray.step a e s.m).1 (EArray.step a e s.m).2.2,
                ea := some (EArray.step a e s.m).2.1 },
       eaOutOf (EArray.step a e s.m).1 s.m (EArray.step a e s.m).2.2
         (eaHarnessFree e (EArray.step a e s.m).1 (EArray.step a e s.m).2.2)) :=
  ea_stepOp s a hs op e he hno

example : eaOpOf 12 (.eaAppend 2 3 5) = some (.append (patBytes 5 6) 2 ⟨3, by decide⟩) := rfl
example : (EArray.step ⟨12, 16, List.replicate 16 7⟩ (.append (patBytes 5 6) 2 ⟨3, by decide⟩)
    ({ ea := some ⟨12, 16, List.replicate 16 7⟩ } : DsStep.S).m).1.st ≠ .oob := by decide

/-- `ea_get` / `ea_set` of a record that is not inside the contents (`EArray.step` says `oob`: the caller broke the
contract) are answered `skip` and change nothing. -/
theorem exec_ea_skip (s : DsStep.S) (a : EArray.EA) (hs : s.ea = some a) (pos reclen seed : Nat) (r : RecLen)
    (hr : mkRecLen reclen = some r) :
    ((EArray.step a (.get pos r) s.m).1.st = .oob → stepOp s (.eaGet pos reclen) = (s, .word .skip)) ∧
    ((EArray.step a (.set pos r (patBytes seed r.val)) s.m).1.st = .oob →
      stepOp s (.eaSet pos reclen seed) = (s, .word .skip)) :=
  ea_stepOp_skip s a hs pos reclen seed r hr

example : (EArray.step ⟨4, 4, [1, 2, 3, 4]⟩ (.get 2 ⟨2, by decide⟩) Mem.grantAll).1.st = .oob := by decide

/-- **`eq_add`, `eq_del`, `eq_len`, `eq_get`, `eq_set` are `EQueue.step`** on the queue component. -/
theorem exec_eq_step (s : DsStep.S) (q : EQueue.EQ) (hs : s.eq = some q) (op : Op) (e : EqOp)
    (he : eqOpOf q.reclen.val op = some e) (hno : (EQueue.step q e s.m).1.st ≠ .oob) :
    stepOp s op =
      ({ s with m := (EQueue.step q e s.m).2.2, eq := some (EQueue.step q e s.m).2.1 },
       eqOutOf e (EQueue.step q e s.m).1 (EQueue.step q e s.m).2.1 s.m (EQueue.step q e s.m).2.2) :=
  eq_stepOp s q hs op e he hno

example : eqOpOf 2 (.eqSet 0 9) = some (.set 0 (patBytes 9 2)) := rfl
example : (EQueue.step ⟨⟨4, 4, [1, 2, 3, 4]⟩, 1, 1, ⟨2, by decide⟩⟩ (.set 0 (patBytes 9 2)) Mem.grantAll).1.st ≠ .oob := by
  decide

/-- where `EQueue.step` says `oob`: `eq_set` beyond the end is answered `skip`, any other such access `oob` (never
reached under `QInv`: `eq_step_refines`); nothing changes. -/
theorem exec_eq_oob (s : DsStep.S) (q : EQueue.EQ) (hs : s.eq = some q) (pos seed : Nat) :
    ((EQueue.step q (.get pos) s.m).1.st = .oob → stepOp s (.eqGet pos) = (s, .word .oob)) ∧
    ((EQueue.step q (.set pos (patBytes seed q.reclen.val)) s.m).1.st = .oob →
      stepOp s (.eqSet pos seed) = (s, .word (if pos ≥ q.len then .skip else .oob))) :=
  eq_stepOp_oob s q hs pos seed

example : (EQueue.step ⟨⟨4, 4, [1, 2, 3, 4]⟩, 1, 1, ⟨2, by decide⟩⟩ (.set 5 (patBytes 9 2)) Mem.grantAll).1.st = .oob := by
  decide

/-- **`sm_add`, `sm_get`, `sm_del`, `sm_min` are `SeqMap.step`** on the map component. -/
theorem exec_sm_step (s : DsStep.S) (x : SeqMap.SM) (hs : s.sm = some x) (op : Op) (e : SmOp)
    (he : smOpOf op = some e) (hno : (SeqMap.step x e s.m).1.st ≠ .oob) :
    stepOp s op =
      ({ s with m := (SeqMap.step x e s.m).2.2, sm := some (SeqMap.step x e s.m).2.1 },
       smOutOf e (SeqMap.step x e s.m).1 (SeqMap.step x e s.m).2.1 s.m (SeqMap.step x e s.m).2.2) :=
  sm_stepOp s x hs op e he hno

example : smOpOf (.smDel (-3)) = some (.delete (-3)) := rfl
example : (match SeqMap.init Mem.grantAll with
    | (some x, m) => decide ((SeqMap.step x (.add 5) m).1.st ≠ .oob)
    | (none, _) => false) = true := by decide +kernel

/-- where `SeqMap.step` says `oob` on `add` / `get` — an `assert` of `seqptrmap_add` fired (2^63 - 1 numbers issued) or an
access left storage (never under `MInv`: `sm_step_refines`) — the protocol answer is the word `assert` / `oob` and
the protocol state is left alone. -/
theorem exec_sm_oob (s : DsStep.S) (x : SeqMap.SM) (hs : s.sm = some x) (p : Nat) (i : Int) :
    ((SeqMap.step x (.add p) s.m).1.st = .oob →
      stepOp s (.smAdd p) = (s, .word (if (SeqMap.add x p s.m).1 = .assertFail then .assert else .oob))) ∧
    ((SeqMap.step x (.get i) s.m).1.st = .oob → stepOp s (.smGet i) = (s, .word .oob)) :=
  sm_stepOp_oob s x hs p i

/-- the `assert` of `seqptrmap_add`: the map has issued the numbers up to `INT64_MAX - 1` -/
example : (match SeqMap.init Mem.grantAll with
    | (some x, m) => (SeqMap.step { x with offset := SeqMap.INT64_MAX } (.add 5) m).1.st
    | (none, _) => .ok) = .oob := by decide +kernel

/-- **`mp_malloc`, `mp_free`, `mp_freenth` are `MPool.step`** (objects of `objSize` bytes) on the pool component;
`mp_freenth j` frees the in-use object with the `(j mod count)`-th smallest id (`mpOpOf`). -/
theorem exec_mp_step (s : DsStep.S) (op : Op) (e : MpOp) (he : mpOpOf s.inUse op = some e) :
    stepOp s op =
      ({ s with m := (MPool.step objSize s.mp e s.m).2.2, mp := (MPool.step objSize s.mp e s.m).2.1,
                inUse := mpInUse s.inUse e (MPool.step objSize s.mp e s.m).1 },
       .mp (rf s.m (MPool.step objSize s.mp e s.m).2.2) (mpObjOf op e (MPool.step objSize s.mp e s.m).1)
          (mpL2 (MPool.step objSize s.mp e s.m).2.1 s.m (MPool.step objSize s.mp e s.m).2.2)) :=
  mp_stepOp s op e he

/-- **`mp_malloc` / `mp_free` / `mp_freenth` go to the pool in use only**: every other pool of the process (`S.pool`)
is what it was. -/
theorem exec_mp_frame (s : DsStep.S) (op : Op) (e : MpOp) (he : mpOpOf s.inUse op = some e) (k : Nat) (hk : k ≠ s.mpSize) :
    (stepOp s op).1.pool k = s.pool k ∧ (stepOp s op).1.mpSize = s.mpSize := by
  rw [mp_stepOp s op e he]
  simp only [DsStep.S.pool, hk, if_false, and_self]

/-- **`mp_use size` only changes which pool is in use**: no pool changes state (none ends, nothing is registered,
allocated or released), the allocator is untouched; the pool in use afterwards is the one of that size. -/
theorem exec_mp_use (s : DsStep.S) (size : Nat) (hok : poolSizes.contains size = true) :
    (∀ k, (stepOp s (.mpUse size)).1.pool k = s.pool k) ∧ (stepOp s (.mpUse size)).1.mpSize = size ∧
    ((stepOp s (.mpUse size)).1.mp, (stepOp s (.mpUse size)).1.inUse) = s.pool size ∧
    (stepOp s (.mpUse size)).1.m = s.m ∧ (stepOp s (.mpUse size)).1.ea = s.ea ∧
    (stepOp s (.mpUse size)).1.eq = s.eq ∧ (stepOp s (.mpUse size)).1.sm = s.sm := by
  simp only [stepOp, hok, Bool.not_true, Bool.false_eq_true, if_false, DsStep.S.pool, and_true]
  intro k
  by_cases h1 : k = size
  · subst h1; simp only [if_true]
  · simp only [h1, if_false]

/-- **process exit with several pools alive** (`mp_exit`, from every state a run reaches: `Rel`): the handler of every
pool has run — every pool is in its load-time state again — and exactly the blocks of the containers stay allocated:
no cached object of any pool, no stack array, (and the harness released the objects in use). -/
theorem exec_pools_exit {n : Nat} {s : DsStep.S} {ms : Spec.DSMon.S} (h : Rel n s ms) :
    (∀ k, (stepOp s .mpExit).1.pool k = (MPool.init k, [])) ∧
    (stepOp s .mpExit).1.m.live = eaBlk s.ea + eqBlk s.eq + smBlk s.sm := by
  obtain ⟨_, hlive, _, _, _, _⟩ := poolExit_spec h.mp
  refine ⟨fun k => ?_, hlive⟩
  by_cases hk : k = s.mpSize
  · simp only [stepOp, poolExit, DsStep.S.pool, hk, if_true]
  · simp only [stepOp, poolExit, DsStep.S.pool, hk, if_false]

/-- the pool of size 2 is parked with one object cached and one in use while the pool of size 1 works; at `mp_exit`
both handlers run -/
example : ((runOps {} [.mpUse 2, .mpMalloc, .mpMalloc, .mpFree 0, .mpUse 1, .mpMalloc]).1.pool 2).1.stack = [0] ∧
    ((runOps {} [.mpUse 2, .mpMalloc, .mpMalloc, .mpFree 0, .mpUse 1, .mpMalloc]).1.pool 2).2 = [1] ∧
    ((runOps {} [.mpUse 2, .mpMalloc, .mpMalloc, .mpFree 0, .mpUse 1, .mpMalloc]).1.pool 1).2 = [2] ∧
    (runOps {} [.mpUse 2, .mpMalloc, .mpMalloc, .mpFree 0, .mpUse 1, .mpMalloc]).1.m.live = 3 ∧
    (runOps {} [.mpUse 2, .mpMalloc, .mpMalloc, .mpFree 0, .mpUse 1, .mpMalloc, .mpExit]).1.m.live = 0 := by
  decide +kernel

example : mpOpOf [7, 3] (.mpFree 3) = some (.free 3) := rfl
example : mpOpOf [] .mpMalloc = some .malloc := rfl

/-- `mp_free` of an object the harness does not hold, `mp_freenth` with nothing held: `skip`, nothing changes. -/
theorem exec_mp_skip (s : DsStep.S) (op : Op) (hop : ∃ x, op = .mpFree x ∨ op = .mpFreenth x)
    (he : mpOpOf s.inUse op = none) : stepOp s op = (s, .word .skip) :=
  mp_stepOp_skip s op hop he

example : mpOpOf [7, 3] (.mpFree 4) = none := rfl


/-- **Run level.**  Along a sequence of `eq_add` / `eq_del` / `eq_len` / `eq_get` / `eq_set` lines on an existing queue,
the queue and the oracle in the executable's state are exactly those of `EQueue.run` — the function
`eq_run_refines` is about — over the projected operations (`eqOpOf`: `eq_add seed` is `add (patBytes seed reclen)` …),
as long as no step reports an access outside storage (excluded by `eq_run_refines` under `QInv` and the contract).
(The other families: `exec_ea_run`, `exec_sm_run`, `exec_mp_run` below — for the array the projected operation of
`ea_resize` depends on the current size and the harness frees the copy of `ea_dup`, so there the projection is
computed along the run.) -/
theorem exec_eq_run (ops : List Op) (s : DsStep.S) (q : EQueue.EQ) (hs : s.eq = some q)
    (hfam : ∀ op ∈ ops, (eqOpOf q.reclen.val op).isSome)
    (hno : ∀ x ∈ (EQueue.run q (ops.filterMap (eqOpOf q.reclen.val)) s.m).1, x.2.st ≠ .oob) :
    (runOps s ops).1.eq = some (EQueue.run q (ops.filterMap (eqOpOf q.reclen.val)) s.m).2.1 ∧
    (runOps s ops).1.m = (EQueue.run q (ops.filterMap (eqOpOf q.reclen.val)) s.m).2.2 :=
  eq_runOps ops s q hs hfam hno

example : ([Op.eqAdd 1, .eqAdd 2, .eqDel, .eqGet 0, .eqSet 0 7, .eqLen].filterMap (eqOpOf 2)) =
    [.add (patBytes 1 2), .add (patBytes 2 2), .delete, .get 0, .set 0 (patBytes 7 2), .getlen] := rfl
example : ((EQueue.run ⟨⟨0, 0, []⟩, 0, 0, ⟨2, by decide⟩⟩
    [.add (patBytes 1 2), .add (patBytes 2 2), .delete, .get 0, .set 0 (patBytes 7 2), .getlen] Mem.grantAll).1.map
      (·.2.st)) = [.ok, .ok, .ok, .ok, .ok, .ok] := by decide +kernel

/-! ## The monitor (`Spec.DSMon.monStep`, what `pmodel dsmon` runs) accepts the model

`Out.ans` is what the monitor sees of a line of the model (print with `Driver/Ds.render`, cut at ` | `, read with
`Driver/Dsmon.parseAns`; checked on an output of every shape in `KAT/DsAns.lean`).  `Rel n s ms` relates a model state
and a monitor state after `n` operations: the oracle grants nothing above 2^22 bytes; each existing container
satisfies `Inv` / `QInv` / `MInv` with at most 2^22 bytes allocated and the monitor holds exactly `abs` of it; both
sides hold the same list of pool objects in use; the live blocks are accounted for (`MPool.R` with
`base` = structure + buffer blocks of the existing containers).  `OpOk`: record lengths positive (the C `assert`s
it), the queue's record length plus 2^22 fits `size_t`, stored pointers non-NULL and < 2^64, `mp_init` with one of the
harness' pool sizes 1..4 (`poolSizes`; any other size is answered `bad-op`). -/

/-- **One line.**  From related states, for an operation within `OpOk`, after fewer than 2^63 - 1 operations: the
monitor *accepts* the answer the model's `stepOp` gives, and the next states are related.  Admission of the container
operations is `ea_step_refines` / `eq_step_refines` / `sm_step_refines` / `mp_run_refines`'s step; the outcomes
`oob` and `assert`, which the monitor would reject, are unreachable here (invariants, resp. fewer than 2^63
numbers). -/
theorem monitor_accepts_model (n : Nat) (s : DsStep.S) (ms : Spec.DSMon.S) (h : Rel n s ms) (op : Op) (hok : OpOk op)
    (hn : (n : Int) < SeqMap.INT64_MAX) :
    (monStep ms op (stepOp s op).2.ans).2 = none ∧
    Rel (n + 1) (stepOp s op).1 (monStep ms op (stepOp s op).2.ans).1 :=
  mon_step h op hok hn

example : Rel 0 {} {} := rel_init
example : OpOk (.eaInit 3 4 9) := by decide
example : OpOk (.mpInit 2) ∧ ¬ OpOk (.mpInit 5) := by decide
example : OpOk (.mpUse 1) ∧ ¬ OpOk (.mpUse 0) := by decide
/-- `mp_init 2` after two objects were taken: the answer is `ok`, the monitor accepts it and forgets the objects -/
example : (stepOp (runOps {} [.mpMalloc, .mpMalloc]).1 (.mpInit 2)).2.ans.head = .ok ∧
    (stepOp (runOps {} [.mpMalloc, .mpMalloc]).1 (.mpInit 2)).1.mpSize = 2 ∧
    (stepOp (runOps {} [.mpMalloc, .mpMalloc]).1 (.mpInit 2)).1.inUse = [] := by decide +kernel
/-- the accepted answer is a real one (`ok sz=12 al=12 rf=0`), and a wrong size is rejected -/
example : (stepOp {} (.eaInit 3 4 9)).2.ans.sz = some 12 ∧ (stepOp {} (.eaInit 3 4 9)).2.ans.head = .ok ∧
    (monStep {} (.eaInit 3 4 9) { (stepOp {} (.eaInit 3 4 9)).2.ans with sz := some 11 }).2 ≠ none := by
  decide +kernel

/-- **Every case.**  For every sequence of operations within `OpOk`, shorter than 2^63: running the model from its
initial state and feeding every answer to the monitor (from its initial state) gives the verdict "accepted" on every
line — the monitor never raises a false alarm on an implementation that behaves like the proved model. -/
theorem monitor_accepts_model_run (ops : List Op) (hok : ∀ op ∈ ops, OpOk op)
    (hlen : (ops.length : Int) ≤ SeqMap.INT64_MAX) :
    monRun {} (ops.zip ((runOps {} ops).2.map Out.ans)) = List.replicate ops.length none := by
  have := mon_run ops 0 {} {} rel_init hok (by simpa using hlen)
  exact this.1

example : ∀ op ∈ demoOps, OpOk op := by decide
/-- the run is not trivially accepted: the answers are real lines (`ok sz=…`, `skip`, `fail rf=1`, `end live=0 …`),
all 45 are judged, and the evaluation agrees with the theorem -/
example : (monRun {} (demoOps.zip ((runOps {} demoOps).2.map Out.ans))).length = 45 ∧
    monRun {} (demoOps.zip ((runOps {} demoOps).2.map Out.ans)) = List.replicate 45 none ∧
    ((runOps {} demoOps).2.map fun o => o.ans.head).count .ok = 37 ∧
    ((runOps {} demoOps).2.map fun o => o.ans.head).count .skip = 5 ∧
    ((runOps {} demoOps).2.map fun o => o.ans.head).count .fail = 2 ∧
    ((runOps {} demoOps).2.map fun o => o.ans.live)[44]? = some (some 0) := by
  decide +kernel

/-! ## Run level for the array, the map and the pool; the executable's runs refine the ideal objects

`Proofs/DsRun.lean`.  `exec_eq_run` above, for the other three families, and — instantiating `ea_run_refines` …
`mp_run_refines` at the run of the executable — "the ideal object admits everything the executable's component answers
along the lines of a case, and ends as `abs` of the executable's component". -/

/-- **Run level, array.**  Along a sequence of `ea_resize` / `ea_append` / `ea_shrink` / `ea_trunc` / `ea_get` / `ea_set` /
`ea_getsize` / `ea_dup` lines on an existing array, the array in the executable's state is exactly that of `EArray.run`
— the function `ea_run_refines` is about — over the projected operations `eaProject a m ops`: the projection `eaOpOf` of
each line at the size the array has when the line is reached (`ea_resize n reclen seed` writes
`patBytes seed (n * reclen - size)` into the grown part, so the projection is computed along the run).  The oracle is
`EArray.run`'s with `live` lowered by one for every copy a successful `ea_dup` made (`eaDupFrees`: the harness frees it;
`live` is a ghost counter that no decision of the model reads, `Proofs/DsRun.lean: ea_step_shift`).  Hypothesis: no
step reports an access outside storage (excluded under `Inv` and the contract: `exec_ea_run_refines`). -/
theorem exec_ea_run (ops : List Op) (s : DsStep.S) (a : EArray.EA) (hs : s.ea = some a)
    (hfam : ∀ op ∈ ops, (eaOpOf a.size op).isSome)
    (hno : ∀ x ∈ (EArray.run a (eaProject a s.m ops) s.m).1, x.2.st ≠ .oob) :
    (runOps s ops).1.ea = some (EArray.run a (eaProject a s.m ops) s.m).2.1 ∧
    (runOps s ops).1.m =
      { (EArray.run a (eaProject a s.m ops) s.m).2.2 with
        live := (EArray.run a (eaProject a s.m ops) s.m).2.2.live -
                  eaDupFrees (EArray.run a (eaProject a s.m ops) s.m).1 } := by
  have := ea_runOps ops s a 0 s.m hs (shift_zero _).symm hfam hno
  refine ⟨this.1, ?_⟩
  rw [this.2]
  simp only [shift]
  congr 1
  omega

/-- the projection on a concrete line sequence (`demoEaLines` on `demoA`): the array holds 12 bytes, `ea_resize 5 4`
grows it to 20 (8 bytes of pattern), `ea_shrink 1 4` cuts it to 16, so `ea_resize 7 4` writes 12 bytes -/
example : eaProject demoA demoS.m demoEaLines =
    [.resize 5 ⟨4, by decide⟩ (patBytes 1 8), .exportdup ⟨1, by decide⟩, .shrink 1 ⟨4, by decide⟩,
     .resize 7 ⟨4, by decide⟩ (patBytes 2 12), .get 0 ⟨4, by decide⟩, .append (patBytes 5 6) 2 ⟨3, by decide⟩, .truncate,
     .set 1 ⟨4, by decide⟩ (patBytes 9 4), .getsize ⟨2, by decide⟩] := rfl
/-- under an oracle that refuses everything the first resize fails, the array keeps its 12 bytes and the second
`ea_resize` stands for a different operation (16 bytes of pattern) -/
example : eaProject demoA Mem.refuseAll [.eaResize 5 4 1, .eaResize 7 4 2] =
    [.resize 5 ⟨4, by decide⟩ (patBytes 1 8), .resize 7 ⟨4, by decide⟩ (patBytes 2 16)] := rfl
example : ∀ op ∈ demoEaLines, (eaOpOf demoA.size op).isSome := by decide
/-- the hypotheses hold on it; one copy is freed by the harness; the array ends with 34 bytes, also in the executable -/
example : ((EArray.run demoA (eaProject demoA demoS.m demoEaLines) demoS.m).1.map (·.2.st)) = List.replicate 9 .ok ∧
    eaDupFrees (EArray.run demoA (eaProject demoA demoS.m demoEaLines) demoS.m).1 = 1 ∧
    (EArray.run demoA (eaProject demoA demoS.m demoEaLines) demoS.m).2.1.size = 34 ∧
    ((runOps demoS demoEaLines).1.ea.map (·.size)) = some 34 := by
  decide +kernel

/-- **The executable's array refines the ideal byte array over whole runs**: `ea_run_refines` at the run of the
executable.  From an array satisfying `Inv`, along array lines for which the caller keeps the contract (`ea_get` /
`ea_set` inside the contents, `ea_append` of at most `dataMax` bytes — beyond that the harness passes a dummy
buffer), the array in the executable's state is `EArray.run`'s final array, it satisfies `Inv`, and the ideal array
started at `abs a` admits the whole observed trace and ends as `abs` of the executable's array.  (No `oob` hypothesis:
an admitted trace has none.) -/
theorem exec_ea_run_refines (ops : List Op) (s : DsStep.S) (a : EArray.EA) (hs : s.ea = some a)
    (hfam : ∀ op ∈ ops, (eaOpOf a.size op).isSome) (h : EArray.Inv a)
    (hc : EArray.Contracts a (eaProject a s.m ops) s.m) :
    ∃ a', (runOps s ops).1.ea = some a' ∧ a' = (EArray.run a (eaProject a s.m ops) s.m).2.1 ∧ EArray.Inv a' ∧
      eaAdmitAll (EArray.abs a) (EArray.run a (eaProject a s.m ops) s.m).1 = some (EArray.abs a') :=
  ea_runOps_refines ops s a hs hfam h hc

example : EArray.Inv demoA := ⟨by decide, by decide, by decide⟩
example : EArray.Contracts demoA (eaProject demoA demoS.m demoEaLines) demoS.m := by decide +kernel
/-- an `ea_get` beyond the contents breaks the contract (and is answered `skip`: `exec_ea_skip`) -/
example : ¬ EArray.Contracts demoA (eaProject demoA demoS.m [.eaGet 3 4]) demoS.m := by decide +kernel

/-- **The executable's queue refines the ideal FIFO over whole runs**: `eq_run_refines` at the run of `exec_eq_run`. -/
theorem exec_eq_run_refines (ops : List Op) (s : DsStep.S) (q : EQueue.EQ) (hs : s.eq = some q)
    (hfam : ∀ op ∈ ops, (eqOpOf q.reclen.val op).isSome) (h : EQueue.QInv q)
    (hc : EQueue.Contracts q (ops.filterMap (eqOpOf q.reclen.val)) s.m)
    (hsmall : (q.offset + q.len + ops.length) * q.reclen.val ≤ EArray.SIZE_MAX) :
    ∃ q', (runOps s ops).1.eq = some q' ∧ q' = (EQueue.run q (ops.filterMap (eqOpOf q.reclen.val)) s.m).2.1 ∧
      EQueue.QInv q' ∧
      eqAdmitAll (EQueue.abs q) (EQueue.run q (ops.filterMap (eqOpOf q.reclen.val)) s.m).1 = some (EQueue.abs q') :=
  eq_runOps_refines ops s q hs hfam h hc hsmall

example : EQueue.QInv demoQ := ⟨⟨by decide, by decide, by decide⟩, by decide⟩
example : (∀ op ∈ demoEqLines, (eqOpOf demoQ.reclen.val op).isSome) ∧
    EQueue.Contracts demoQ (demoEqLines.filterMap (eqOpOf demoQ.reclen.val)) demoQS.m ∧
    (demoQ.offset + demoQ.len + demoEqLines.length) * demoQ.reclen.val ≤ EArray.SIZE_MAX ∧
    ((runOps demoQS demoEqLines).1.eq.map (·.len)) = some 2 := by
  decide +kernel

/-- **Run level, map.**  Along a sequence of `sm_add` / `sm_get` / `sm_del` / `sm_min` lines on an existing map, the map
and the oracle in the executable's state are exactly those of `SeqMap.run` — the function `sm_run_refines` is about —
over the projected operations (`smOpOf`), as long as no step reports `oob` (an `assert` of `seqptrmap_add` after 2^63 - 1
numbers, or an access outside storage; excluded under `MInv`: `exec_sm_run_refines`). -/
theorem exec_sm_run (ops : List Op) (s : DsStep.S) (x : SeqMap.SM) (hs : s.sm = some x)
    (hfam : ∀ op ∈ ops, (smOpOf op).isSome)
    (hno : ∀ y ∈ (SeqMap.run x (ops.filterMap smOpOf) s.m).1, y.2.st ≠ .oob) :
    (runOps s ops).1.sm = some (SeqMap.run x (ops.filterMap smOpOf) s.m).2.1 ∧
    (runOps s ops).1.m = (SeqMap.run x (ops.filterMap smOpOf) s.m).2.2 :=
  sm_runOps ops s x hs hfam hno

example : demoSmLines.filterMap smOpOf = [.add 5, .add 6, .delete 0, .getmin, .get 1, .get 0] := rfl
example : ∀ op ∈ demoSmLines, (smOpOf op).isSome := by decide
/-- on the state after `sm_init`: numbers 0 and 1 issued, 0 deleted, minimum 1, pointer 6 under 1, NULL under 0 -/
example : (demoMS.sm.map fun x => (SeqMap.run x (demoSmLines.filterMap smOpOf) demoMS.m).1.map
      fun y => (y.2.st, y.2.num, y.2.ptr)) =
    some [(.ok, 0, 0), (.ok, 1, 0), (.ok, 0, 0), (.ok, 1, 0), (.ok, 0, 6), (.ok, 0, 0)] := by
  decide +kernel

/-- **The executable's map refines the ideal map over whole runs**: `sm_run_refines` at the run of the executable, for
lines within `OpOk` (stored pointers non-NULL and below 2^64) and fewer than 2^63 numbers. -/
theorem exec_sm_run_refines (ops : List Op) (s : DsStep.S) (x : SeqMap.SM) (hs : s.sm = some x)
    (hfam : ∀ op ∈ ops, (smOpOf op).isSome) (h : SeqMap.MInv x) (hok : ∀ op ∈ ops, OpOk op)
    (hq : (x.q.offset + x.q.len + ops.length) * 8 ≤ EArray.SIZE_MAX)
    (hn : x.offset + x.len + ops.length ≤ SeqMap.INT64_MAX) :
    ∃ x', (runOps s ops).1.sm = some x' ∧ x' = (SeqMap.run x (ops.filterMap smOpOf) s.m).2.1 ∧ SeqMap.MInv x' ∧
      smAdmitAll (SeqMap.abs x) (SeqMap.run x (ops.filterMap smOpOf) s.m).1 = some (SeqMap.abs x') :=
  sm_runOps_refines ops s x hs hfam h hok hq hn

/-- the map of the state after `sm_init` exists, satisfies `MInv`, and the side conditions hold for `demoSmLines` -/
example : ∃ x, demoMS.sm = some x ∧ SeqMap.MInv x ∧ (∀ op ∈ demoSmLines, OpOk op) ∧
    (x.q.offset + x.q.len + demoSmLines.length) * 8 ≤ EArray.SIZE_MAX ∧
    x.offset + x.len + demoSmLines.length ≤ SeqMap.INT64_MAX := by
  obtain ⟨x, hx⟩ := Option.isSome_iff_exists.1 (by decide +kernel : demoMS.sm.isSome = true)
  obtain ⟨hinv, ho, hl, hqo, hql⟩ := smInit_map {} x hx
  exact ⟨x, hx, hinv, by decide, by rw [hqo, hql]; decide, by rw [ho, hl]; decide⟩

/-- **Run level, pool.**  Along a sequence of `mp_malloc` / `mp_free` / `mp_freenth` lines, the pool, the oracle and the
harness' list of objects in use in the executable's state are exactly those of `MPool.run objSize` — the function
`mp_run_refines` is about — over the projected operations `mpProject p u m ops`: the projection `mpOpOf` of each line
with the objects held when the line is reached (`mp_freenth j` frees the held object with the `(j mod count)`-th
smallest id; `mp_free` of an object not held and `mp_freenth` with nothing held are answered `skip`, change nothing
and drop out of the projection). -/
theorem exec_mp_run (ops : List Op) (s : DsStep.S) (hfam : ∀ op ∈ ops, isMpLine op = true) :
    (runOps s ops).1.mp = (MPool.run objSize s.mp (mpProject s.mp s.inUse s.m ops) s.m).2.1 ∧
    (runOps s ops).1.m = (MPool.run objSize s.mp (mpProject s.mp s.inUse s.m ops) s.m).2.2 ∧
    (runOps s ops).1.inUse = mpInUseAll s.inUse (MPool.run objSize s.mp (mpProject s.mp s.inUse s.m ops) s.m).1 :=
  mp_runOps ops s hfam

example : mpProject (MPool.init 4) [] ({} : DsStep.S).m demoMpLines = [.malloc, .malloc, .free 1, .malloc, .free 0] := rfl
/-- `mp_freenth` on a harness holding the objects 1 and 0 (any pool, any oracle): `3 mod 2 = 1`, the second smallest -/
example (p : MPool.MP) (m : Mem) :
    mpProject p [1, 0] m [.mpFreenth 3, .mpFree 7, .mpFreenth 0] = [.free 1, .free 0] := by
  simp [mpProject, mpOpOf, mpInUse, List.mergeSort, List.MergeSort.Internal.splitInTwo]
example : ∀ op ∈ demoMpLines, isMpLine op = true := by decide
/-- the objects handed out along it (the third `malloc` is served from the cache); object 1 is held at the end -/
example : ((MPool.run objSize (MPool.init 4) (mpProject (MPool.init 4) [] ({} : DsStep.S).m demoMpLines) ({} : DsStep.S).m).1.map
      (·.2.obj)) = [some 0, some 1, none, some 1, none] ∧
    (runOps {} demoMpLines).1.inUse = [1] ∧ (runOps {} demoMpLines).1.mp.stack = [0] := by
  decide +kernel

/-- **The executable's pool refines "the set of objects in use" over whole runs**: `mp_run_refines` at the run of the
executable.  From a state in the simulation relation `R` (in particular the initial state), along any pool lines: the
ideal set admits the whole trace of the executable's pool — no object handed out twice, NULL only with a refused
request — it ends as the harness' own list of objects in use, and `R` holds again.  The caller's side of the contract
(only objects in use are freed) needs no hypothesis: `mpOpOf` only projects to frees of objects the harness holds. -/
theorem exec_mp_run_refines (ops : List Op) (s : DsStep.S) (base : Int) (hfam : ∀ op ∈ ops, isMpLine op = true)
    (h : MPool.R s.mp s.m s.inUse base) :
    mpAdmitAll s.inUse (MPool.run objSize s.mp (mpProject s.mp s.inUse s.m ops) s.m).1 = some (runOps s ops).1.inUse ∧
    MPool.R (runOps s ops).1.mp (runOps s ops).1.m (runOps s ops).1.inUse base :=
  mp_runOps_refines ops s base hfam h

example : MPool.R ({} : DsStep.S).mp ({} : DsStep.S).m ({} : DsStep.S).inUse 0 := MPool.init_R 4 _

/-! ## The monitor reads what the model prints: `Out.ans` is read ∘ print

`Driver/Ds.render o` is the tokens `Ds.l1Toks o` joined by single spaces, then ` | ` and the L2 part (by definition);
`Driver/Dsmon.parseAns` is the reader `pmodel dsmon` applies to the tokens of the part before ` | `.
`Proofs/DsAns.lean`: number printing and reading (`Nat.repr` / `Int.repr` / `String.toNat?` / `String.toInt?`), hex
printing and reading, the `key=value` and `;` splitting — everything between the typed output and the token list. -/

/-- **For every typed output `o` of the model, reading the L1 tokens it prints gives `o.ans`** — the `Ans` that
`monitor_accepts_model` / `monitor_accepts_model_run` feed to the monitor — and cutting the L1 part of the printed line
at the spaces gives back exactly these tokens (no token contains a space).  Not covered: that `Driver/Loop.loopMon`
cuts the line with `String.splitOn " "` (a different splitting function than the `String.split ' '` of the statement)
and that `tools/vlib.py` cuts at ` | `; `KAT/DsAns.lean` tests these on an output of every shape. -/
theorem monitor_reads_printed_answer (o : Out) :
    Driver.Dsmon.parseAns (Driver.Ds.l1Toks o) = o.ans ∧
    Driver.Dsmon.splitCh ' ' (" ".intercalate (Driver.Ds.l1Toks o)) = Driver.Ds.l1Toks o ∧
    Driver.Ds.render o =
      " ".intercalate (Driver.Ds.l1Toks o) ++ (match Driver.Ds.l2Str o with | some s => " | " ++ s | none => "") :=
  ⟨DsAns.parseAns_l1Toks o, DsAns.split_l1 o, rfl⟩

/-- the tokens of a real line: `ok sz=3 al=4 rf=0 n=1 out=0102ff`, and a queue dump with an unreadable record -/
example : Driver.Ds.l1Toks (.ea .ok 3 4 0 (some (1, [1, 2, 255])) { live := 3, req := [24, 12] }) =
    ["ok", "sz=3", "al=4", "rf=0", "n=1", "out=0102ff"] := by decide +kernel
example : Driver.Ds.l1Toks (.eq .ok 2 0 (.recs [some [1, 2], none]) { off := 1, sz := 6, al := 8, c := { live := 3, req := [] } }) =
    ["ok", "len=2", "rf=0", "recs=0102;?"] := by decide +kernel

/-- **Every case, at the level of printed tokens**: `monitor_accepts_model_run` with the answers read back from the
tokens the model prints. -/
theorem monitor_accepts_printed_run (ops : List Op) (hok : ∀ op ∈ ops, OpOk op)
    (hlen : (ops.length : Int) ≤ SeqMap.INT64_MAX) :
    monRun {} (ops.zip ((runOps {} ops).2.map fun o => Driver.Dsmon.parseAns (Driver.Ds.l1Toks o))) =
      List.replicate ops.length none := by
  have h : (fun o => Driver.Dsmon.parseAns (Driver.Ds.l1Toks o)) = Out.ans := funext DsAns.parseAns_l1Toks
  rw [h]
  exact monitor_accepts_model_run ops hok hlen

example : ∀ op ∈ demoOps, OpOk op := by decide

end Percival.C12
