import Percival.Proofs.KatLiterals
import Percival.Proofs.Sha1Eval
/-! LABELLED TESTS on the published vectors named below, not part of any property theorem: each
`example` is evaluated by the kernel (`decide +kernel`) and guards against a tidy-but-wrong `Spec`.
tools/kat/gen_c01_kat.py prints the `example` statements; the proofs under them are written by hand
(running the script again replaces them). -/
namespace Percival.KAT.Sha1
open Percival.Spec Percival.KAT Percival.Proofs

/-- FIPS 180-4 / NIST example, 3 bytes -/
example : Sha1.hash (ascii "abc") = unhex "a9993e364706816aba3e25717850c26c9cd0d89d" := by
  rw [Sha1Eval.hash_eq, ascii_ofList, unhex_ofList]
  decide +kernel

/-- FIPS 180-4 / NIST example, 56 bytes -/
example : Sha1.hash (ascii "abcdbcdecdefdefgefghfghighijhijkijkljklmklmnlmnomnopnopq") = unhex "84983e441c3bd26ebaae4aa1f95129e5e54670f1" := by
  rw [Sha1Eval.hash_eq, ascii_ofList, unhex_ofList]
  decide +kernel

/-- FIPS 180-4 / NIST example, 0 bytes -/
example : Sha1.hash (ascii "") = unhex "da39a3ee5e6b4b0d3255bfef95601890afd80709" := by
  rw [Sha1Eval.hash_eq, ascii_ofList, unhex_ofList]
  decide +kernel

end Percival.KAT.Sha1
