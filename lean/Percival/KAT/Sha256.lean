import Percival.Proofs.Sha256Eval
import Percival.Proofs.KatLiterals
/-! LABELLED TESTS on the published vectors named below, not part of any property theorem: each
`example` is evaluated by the kernel (`decide +kernel`) and guards against a tidy-but-wrong `Spec`.
tools/kat/gen_c01_kat.py prints the `example` statements; the proofs under them are written by hand
(running the script again replaces them). -/
namespace Percival.KAT.Sha256
open Percival.Spec Percival.KAT Percival.Proofs

/-- FIPS 180-4 / NIST example, 3 bytes -/
example : Sha256.hash (ascii "abc") = unhex "ba7816bf8f01cfea414140de5dae2223b00361a396177a9cb410ff61f20015ad" := by
  rw [Sha256Eval.hash_eq, ascii_ofList, unhex_ofList]
  decide +kernel

/-- FIPS 180-4 / NIST example, 56 bytes -/
example : Sha256.hash (ascii "abcdbcdecdefdefgefghfghighijhijkijkljklmklmnlmnomnopnopq") = unhex "248d6a61d20638b8e5c026930c3e6039a33ce45964ff2167f6ecedd419db06c1" := by
  rw [Sha256Eval.hash_eq, ascii_ofList, unhex_ofList]
  decide +kernel

/-- FIPS 180-4 / NIST example, 0 bytes -/
example : Sha256.hash (ascii "") = unhex "e3b0c44298fc1c149afbf4c8996fb92427ae41e4649b934ca495991b7852b855" := by
  rw [Sha256Eval.hash_eq, ascii_ofList, unhex_ofList]
  decide +kernel

end Percival.KAT.Sha256
