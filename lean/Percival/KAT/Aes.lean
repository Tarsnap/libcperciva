import Percival.Spec.Aes
import Percival.Proofs.AesEval
/-!
# FIPS-197 vectors, proved by kernel evaluation (`decide +kernel`) — labelled tests of `Spec.Aes`

(The S-box is read from the numeral of `Proofs.AesEval`, proved equal to Figure 7's table on all bytes; the rest of what
is evaluated is the Spec's own text.)

Appendix C.1 (AES-128) and C.3 (AES-256) example vectors; last round key of the key expansions of Appendix A.1
and A.3.  (SP 800-38A F.5 is in `KAT/AesCtr.lean`, the S-box against its definition in `KAT/AesSbox.lean`.)
These protect against a tidy-but-wrong spec.  C.1 and C.3 are also the self-test vectors compiled into
`crypto_aes.c`: `C02.gen_selftest_vectors_are_fips` is these two theorems.
-/
namespace Percival.KAT.Aes
open Percival.Spec

def key128 : List UInt8 := [0x00, 0x01, 0x02, 0x03, 0x04, 0x05, 0x06, 0x07, 0x08, 0x09, 0x0a, 0x0b, 0x0c, 0x0d, 0x0e, 0x0f]
def key256 : List UInt8 := [0x00, 0x01, 0x02, 0x03, 0x04, 0x05, 0x06, 0x07, 0x08, 0x09, 0x0a, 0x0b, 0x0c, 0x0d, 0x0e, 0x0f, 0x10, 0x11, 0x12, 0x13, 0x14, 0x15, 0x16, 0x17, 0x18, 0x19, 0x1a, 0x1b, 0x1c, 0x1d, 0x1e, 0x1f]
def ptC : List UInt8 := [0x00, 0x11, 0x22, 0x33, 0x44, 0x55, 0x66, 0x77, 0x88, 0x99, 0xaa, 0xbb, 0xcc, 0xdd, 0xee, 0xff]

/-- FIPS-197 C.1 -/
theorem fips197_C1 : Aes.encryptBlock key128 ptC = [0x69, 0xc4, 0xe0, 0xd8, 0x6a, 0x7b, 0x04, 0x30, 0xd8, 0xcd, 0xb7, 0x80, 0x70, 0xb4, 0xc5, 0x5a] := by
  rw [Proofs.AesEval.encryptBlock_eq]; decide +kernel

/-- FIPS-197 C.3 -/
theorem fips197_C3 : Aes.encryptBlock key256 ptC = [0x8e, 0xa2, 0xb7, 0xca, 0x51, 0x67, 0x45, 0xbf, 0xea, 0xfc, 0x49, 0x90, 0x4b, 0x49, 0x60, 0x89] := by
  rw [Proofs.AesEval.encryptBlock_eq]; decide +kernel

/-- FIPS-197 A.1: last round key (w40..w43) of the key 2b7e1516… -/
theorem fips197_A1_last :
    (Aes.keyExpansion [0x2b, 0x7e, 0x15, 0x16, 0x28, 0xae, 0xd2, 0xa6, 0xab, 0xf7, 0x15, 0x88, 0x09, 0xcf, 0x4f, 0x3c]).getLast? =
      some [0xd0, 0x14, 0xf9, 0xa8, 0xc9, 0xee, 0x25, 0x89, 0xe1, 0x3f, 0x0c, 0xc8, 0xb6, 0x63, 0x0c, 0xa6] := by
  rw [Proofs.AesEval.keyExpansion_eq]; decide +kernel

/-- FIPS-197 A.3: last round key (w56..w59) of the key 603deb10… -/
theorem fips197_A3_last :
    (Aes.keyExpansion [0x60, 0x3d, 0xeb, 0x10, 0x15, 0xca, 0x71, 0xbe, 0x2b, 0x73, 0xae, 0xf0, 0x85, 0x7d, 0x77, 0x81, 0x1f, 0x35, 0x2c, 0x07, 0x3b, 0x61, 0x08, 0xd7, 0x2d, 0x98, 0x10, 0xa3, 0x09, 0x14, 0xdf, 0xf4]).getLast? =
      some [0xfe, 0x48, 0x90, 0xd1, 0xe6, 0x18, 0x8d, 0x0b, 0x04, 0x6d, 0xf3, 0x44, 0x70, 0x6c, 0x63, 0x1e] := by
  rw [Proofs.AesEval.keyExpansion_eq]; decide +kernel

end Percival.KAT.Aes
