import Percival.Proofs.KatLiterals
import Percival.Proofs.CrcMain
/-! LABELLED TESTS on the published vectors named below, not part of any property theorem: each
`example` is evaluated by the kernel (`decide +kernel`) and guards against a tidy-but-wrong `Spec`.
tools/kat/gen_c01_kat.py prints the `example` statements; the proofs under them are written by hand
(running the script again replaces them). -/
namespace Percival.KAT.Crc32c
open Percival.Spec Percival.KAT Percival.Proofs

/-- RFC 3720 B.4: 32 bytes of zeroes -/
example : Crc32c.iscsi (List.replicate 32 0x00) = unhex "aa36918a" := by
  rw [CrcMain.iscsi_eq_crcN, unhex_ofList]
  decide +kernel

/-- RFC 3720 B.4: 32 bytes of ones -/
example : Crc32c.iscsi (List.replicate 32 0xff) = unhex "43aba862" := by
  rw [CrcMain.iscsi_eq_crcN, unhex_ofList]
  decide +kernel

/-- RFC 3720 B.4: 32 bytes of incrementing 00..1f -/
example : Crc32c.iscsi (unhex "000102030405060708090a0b0c0d0e0f101112131415161718191a1b1c1d1e1f") = unhex "4e79dd46" := by
  rw [CrcMain.iscsi_eq_crcN, unhex_ofList, unhex_ofList]
  decide +kernel

/-- RFC 3720 B.4: 32 bytes of decrementing 1f..00 -/
example : Crc32c.iscsi (unhex "1f1e1d1c1b1a191817161514131211100f0e0d0c0b0a09080706050403020100") = unhex "5cdb3f11" := by
  rw [CrcMain.iscsi_eq_crcN, unhex_ofList, unhex_ofList]
  decide +kernel

/-- RFC 3720 B.4: an iSCSI - SCSI Read (10) Command PDU -/
example : Crc32c.iscsi (unhex "01c000000000000000000000000000001400000000000400000000140000001828000000000000000200000000000000") = unhex "563a96d9" := by
  rw [CrcMain.iscsi_eq_crcN, unhex_ofList, unhex_ofList]
  decide +kernel

/-! libcperciva's own published examples (tests/crc32/main.c): the documented sentence holds for them,
    and the Spec function reproduces them. -/

example : Crc32c.Valid (ascii "") (unhex "783bf682") := by
  rw [CrcMain.valid_iff, CrcMain.crc32c_eq_crcN, ascii_ofList, unhex_ofList]
  decide +kernel
example : Crc32c.crc32c (ascii "") = unhex "783bf682" := by
  rw [CrcMain.crc32c_eq_crcN, ascii_ofList, unhex_ofList]
  decide +kernel

example : Crc32c.Valid (ascii " ") (unhex "27747edb") := by
  rw [CrcMain.valid_iff, CrcMain.crc32c_eq_crcN, ascii_ofList, unhex_ofList]
  decide +kernel
example : Crc32c.crc32c (ascii " ") = unhex "27747edb" := by
  rw [CrcMain.crc32c_eq_crcN, ascii_ofList, unhex_ofList]
  decide +kernel

example : Crc32c.Valid (ascii "A") (unhex "4664d348") := by
  rw [CrcMain.valid_iff, CrcMain.crc32c_eq_crcN, ascii_ofList, unhex_ofList]
  decide +kernel
example : Crc32c.crc32c (ascii "A") = unhex "4664d348" := by
  rw [CrcMain.crc32c_eq_crcN, ascii_ofList, unhex_ofList]
  decide +kernel

example : Crc32c.Valid (ascii "AAAA") (unhex "68f2c025") := by
  rw [CrcMain.valid_iff, CrcMain.crc32c_eq_crcN, ascii_ofList, unhex_ofList]
  decide +kernel
example : Crc32c.crc32c (ascii "AAAA") = unhex "68f2c025" := by
  rw [CrcMain.crc32c_eq_crcN, ascii_ofList, unhex_ofList]
  decide +kernel

example : Crc32c.Valid (ascii "AB") (unhex "7b44d2c7") := by
  rw [CrcMain.valid_iff, CrcMain.crc32c_eq_crcN, ascii_ofList, unhex_ofList]
  decide +kernel
example : Crc32c.crc32c (ascii "AB") = unhex "7b44d2c7" := by
  rw [CrcMain.crc32c_eq_crcN, ascii_ofList, unhex_ofList]
  decide +kernel

example : Crc32c.Valid (ascii "hello") (unhex "af7a0bc3") := by
  rw [CrcMain.valid_iff, CrcMain.crc32c_eq_crcN, ascii_ofList, unhex_ofList]
  decide +kernel
example : Crc32c.crc32c (ascii "hello") = unhex "af7a0bc3" := by
  rw [CrcMain.crc32c_eq_crcN, ascii_ofList, unhex_ofList]
  decide +kernel

example : Crc32c.Valid (ascii "hello world") (unhex "ca130baa") := by
  rw [CrcMain.valid_iff, CrcMain.crc32c_eq_crcN, ascii_ofList, unhex_ofList]
  decide +kernel
example : Crc32c.crc32c (ascii "hello world") = unhex "ca130baa" := by
  rw [CrcMain.crc32c_eq_crcN, ascii_ofList, unhex_ofList]
  decide +kernel

example : Crc32c.Valid (ascii "This is a CRC32 hash using the Catagnoli polynomial") (unhex "1bc4b428") := by
  rw [CrcMain.valid_iff, CrcMain.crc32c_eq_crcN, ascii_ofList, unhex_ofList]
  decide +kernel
example : Crc32c.crc32c (ascii "This is a CRC32 hash using the Catagnoli polynomial") = unhex "1bc4b428" := by
  rw [CrcMain.crc32c_eq_crcN, ascii_ofList, unhex_ofList]
  decide +kernel

/-- a wrong value is rejected (the definition is not vacuous) -/
example : ¬ Crc32c.Valid (ascii "hello world") (unhex "ca130bab") := by
  rw [CrcMain.valid_iff, CrcMain.crc32c_eq_crcN, ascii_ofList, unhex_ofList]
  decide +kernel

end Percival.KAT.Crc32c
