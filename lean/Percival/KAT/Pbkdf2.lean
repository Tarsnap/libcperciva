import Percival.Proofs.Sha256Eval
import Percival.Proofs.KatLiterals
/-! LABELLED TESTS on the published vectors named below, not part of any property theorem: each
`example` is evaluated by the kernel (`decide +kernel`) and guards against a tidy-but-wrong `Spec`.
tools/kat/gen_c01_kat.py prints the `example` statements; the proofs under them are written by hand
(running the script again replaces them). -/
namespace Percival.KAT.Pbkdf2
open Percival.Spec Percival.KAT Percival.Proofs

/-- RFC 7914 §11, first vector -/
example : Pbkdf2.pbkdf2Sha256 (ascii "passwd") (ascii "salt") 1 64 = unhex "55ac046e56e3089fec1691c22544b605f94185216dde0465e68b9d57c20dacbc49ca9cccf179b645991664b39d77ef317c71b845b1e30bd509112041d3a19783" := by
  rw [Sha256Eval.pbkdf2Sha256_eq, ascii_ofList, ascii_ofList, unhex_ofList]
  decide +kernel

/-- widely published PBKDF2-HMAC-SHA256 vector (RFC 6070 inputs), c = 1 -/
example : Pbkdf2.pbkdf2Sha256 (ascii "password") (ascii "salt") 1 32 = unhex "120fb6cffcf8b32c43e7225256c4f837a86548c92ccc35480805987cb70be17b" := by
  rw [Sha256Eval.pbkdf2Sha256_eq, ascii_ofList, ascii_ofList, unhex_ofList]
  decide +kernel

/-- same, c = 2 -/
example : Pbkdf2.pbkdf2Sha256 (ascii "password") (ascii "salt") 2 32 = unhex "ae4d0c95af6b46d32d0adff928f06dd02a303f8ef3c251dfd6e2d85a95474c43" := by
  rw [Sha256Eval.pbkdf2Sha256_eq, ascii_ofList, ascii_ofList, unhex_ofList]
  decide +kernel

/-- same, dkLen = 20 (not a multiple of 32) -/
example : Pbkdf2.pbkdf2Sha256 (ascii "password") (ascii "salt") 2 20 = unhex "ae4d0c95af6b46d32d0adff928f06dd02a303f8e" := by
  rw [Sha256Eval.pbkdf2Sha256_eq, ascii_ofList, ascii_ofList, unhex_ofList]
  decide +kernel

/- RFC 7914 §11 second vector (P = "Password", S = "NaCl", c = 80000, dkLen = 64) needs 640 000 compressions:
   too slow for the kernel; it is run through the compiled Spec by `big_kat` in tools/props/c01.py. -/

end Percival.KAT.Pbkdf2
