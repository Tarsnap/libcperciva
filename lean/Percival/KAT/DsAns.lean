import Percival.Proofs.DsStep
import Percival.Driver.Ds
import Percival.Driver.Dsmon
/-!
# `Out.ans` is print ∘ cut ∘ parse (labelled tests, C12)

`Model.DsStep.Out.ans` (`Proofs/DsOut.lean`) is the typed form of: print the model's output with
`Driver/Ds.render`, keep the part before ` | `, cut it into tokens as `Driver/Loop.loopMon` does, read them with
`Driver/Dsmon.parseAns`.  The token level is a theorem (`Proofs/DsAns.lean`, `C12.monitor_reads_printed_answer`:
`parseAns (l1Toks o) = o.ans` for every `o`, and the L1 part splits back into `l1Toks o` at the spaces); the tests
below additionally go through the whole printed line — the cut at ` | ` and `String.splitOn " "` of `Driver/Loop`, which
are not part of the theorem — by evaluation (`#guard`, at every build) on an output of every shape.
-/
namespace Percival.KAT.DsAns
open Percival.Model Percival.Model.DsStep Percival.Spec.DS Percival.Spec.DSMon Percival.Driver

deriving instance DecidableEq for Ans

/-- the tokens of the part of a printed line before ` | ` -/
def l1toks (o : Out) : List String :=
  ((((Ds.render o).splitOn " | ").headD "").splitOn " ").filter (· ≠ "")

def agrees (o : Out) : Bool := Dsmon.parseAns (l1toks o) == o.ans

def c : L2c := { live := 3, req := [24, 12] }
def e : EqL2 := { off := 1, sz := 6, al := 8, c := c }
def m : SmL2 := { moff := 2, mlen := 1, qoff := 0, qlen := 1, sz := 8, al := 8, c := c }
def p : MpL2 := { stack := [3, 1], asz := 4, na := 5, ne := 2, st := true, dyn := false, c := c }

#guard [Out.word .ok, .word .skip, .word .badOp, .word .oob, .word .assert].all agrees
#guard [Out.ended 0 17, .ended 3 17, .ended (-2) 17, .initFail 1 c, .initFail 0 c, .freed c, .mpExit c].all agrees
#guard [Out.ea .ok 12 16 0 none c, .ea .fail 12 16 1 none c, .ea .oob 12 16 0 none c,
        .ea .ok 3 4 0 (some (1, [1, 2, 255])) c, .ea .ok 0 0 0 (some (0, [])) c, .ea .fail 3 4 2 (some (7, [0])) c,
        .eaExport 0 3 [9, 8, 7] c, .eaExport 1 0 [] c].all agrees
#guard [Out.eq .ok 2 0 .none e, .eq .fail 2 1 .none e, .eq .oob 2 0 .none e, .eq .ok 2 0 .null e,
        .eq .ok 2 0 (.record [1, 2, 3]) e, .eq .ok 2 0 (.record []) e,
        .eq .ok 0 0 (.recs []) e, .eq .ok 2 0 (.recs [some [1, 2], some [3, 4]]) e,
        .eq .ok 2 0 (.recs [some [1, 2], none]) e, .eq .ok 1 0 (.recs [none]) e,
        .eq .ok 1 0 (.recs [some []]) e, .eq .ok 2 0 (.recs [some [], some []]) e].all agrees
#guard [Out.smInit 0 m, .smInit 2 m, .sm .ok 0 (some 5) none m, .sm .fail 1 (some (-1)) none m,
        .sm .ok 0 none (some 77) m, .sm .ok 0 none none m, .sm .ok 0 (some 3) (some 4) m, .sm .oob 0 none none m].all agrees
#guard [Out.mp 0 .none p, .mp 1 .null p, .mp 0 (.obj 12) p].all agrees
-- every line of the demonstration case of `C12.monitor_accepts_model_run`
#guard ((runOps {} Percival.Proofs.DsStep.demoOps).2).all agrees
-- and a case with `mp_freenth` (whose `mergeSort` does not reduce in the kernel): accepted on every line
#guard Percival.Proofs.DsStep.monRun {} (([Op.mpMalloc, .mpMalloc, .mpMalloc, .mpFreenth 4, .mpFreenth 0, .mpFreenth 9,
    .mpFreenth 2, .end_] : List Op).zip ((runOps {} [Op.mpMalloc, .mpMalloc, .mpMalloc, .mpFreenth 4, .mpFreenth 0,
    .mpFreenth 9, .mpFreenth 2, .end_]).2.map Out.ans)) == List.replicate 8 none

end Percival.KAT.DsAns
