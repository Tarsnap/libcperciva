import Percival.Proofs.CpuAesSpec
import Percival.Proofs.CpuAesni
import Percival.KAT.Aes
/-!
# Known-answer tests (labelled tests, not property theorems) for `Model.CpuAesni`

FIPS-197 Appendix C.1 (AES-128) and C.3 (AES-256) — the same two vectors `crypto_aes.c` uses for its
run-time self-test — stated for the FIPS-197 transcription `Model.CpuAesni.Fips` (C.1) and for the AES-NI
model (`AESKEYGENASSIST`/`AESENC`/`AESENCLAST`, C.3).  Both are carried to `Spec.Aes.encryptBlock` by the
equations of `Proofs.CpuAesSpec` and `Proofs.CpuAesni`, where `KAT.Aes` has evaluated the vectors; evaluating
the S-box by inversion in GF(2⁸) some two hundred times per block is what that avoids.
They guard against a tidy-but-wrong transcription of the standard.
-/
namespace Percival.KAT.CpuAesni
open Percival.Model.CpuAesni

theorem fips197_c1_via_fips :
    (Fips.encrypt (Fips.keyWords [0, 1, 2, 3, 4, 5, 6, 7, 8, 9, 10, 11, 12, 13, 14, 15])
        ⟨⟨0x00, 0x11, 0x22, 0x33⟩, ⟨0x44, 0x55, 0x66, 0x77⟩, ⟨0x88, 0x99, 0xaa, 0xbb⟩, ⟨0xcc, 0xdd, 0xee, 0xff⟩⟩).map R.bytes =
      some [0x69, 0xc4, 0xe0, 0xd8, 0x6a, 0x7b, 0x04, 0x30, 0xd8, 0xcd, 0xb7, 0x80, 0x70, 0xb4, 0xc5, 0x5a] := by
  rw [Proofs.CpuAesSpec.encrypt_eq_spec _ (.inl rfl)]
  exact congrArg some Aes.fips197_C1

theorem fips197_c3_via_aesni :
    (aesniEncrypt [0, 1, 2, 3, 4, 5, 6, 7, 8, 9, 10, 11, 12, 13, 14, 15, 16, 17, 18, 19, 20, 21, 22, 23, 24, 25, 26,
          27, 28, 29, 30, 31]
        ⟨⟨0x00, 0x11, 0x22, 0x33⟩, ⟨0x44, 0x55, 0x66, 0x77⟩, ⟨0x88, 0x99, 0xaa, 0xbb⟩, ⟨0xcc, 0xdd, 0xee, 0xff⟩⟩).map R.bytes =
      some [0x8e, 0xa2, 0xb7, 0xca, 0x51, 0x67, 0x45, 0xbf, 0xea, 0xfc, 0x49, 0x90, 0x4b, 0x49, 0x60, 0x89] := by
  rw [Proofs.CpuAesni.aesniEncrypt_eq _ _ (.inr rfl), Proofs.CpuAesSpec.encrypt_eq_spec _ (.inr rfl)]
  exact congrArg some Aes.fips197_C3

/-- S-box spot checks (FIPS-197 Fig. 7: `{00} ↦ {63}`, `{53} ↦ {ed}`, `{ff} ↦ {16}`) -/
theorem sbox_spot : Fips.sbox 0x00 = 0x63 ∧ Fips.sbox 0x53 = 0xed ∧ Fips.sbox 0xff = 0x16 := by decide +kernel

end Percival.KAT.CpuAesni
