import Percival.Proofs.KatLiterals
import Percival.Proofs.Md5Eval
/-! LABELLED TESTS on the published vectors named below, not part of any property theorem: each
`example` is evaluated by the kernel (`decide +kernel`) and guards against a tidy-but-wrong `Spec`.
tools/kat/gen_c01_kat.py prints the `example` statements; the proofs under them are written by hand
(running the script again replaces them). -/
namespace Percival.KAT.Md5
open Percival.Spec Percival.KAT Percival.Proofs

/-- RFC 1321 A.5 test suite -/
example : Md5.hash (ascii "") = unhex "d41d8cd98f00b204e9800998ecf8427e" := by
  rw [Md5Eval.hash_eq, ascii_ofList, unhex_ofList]
  decide +kernel

/-- RFC 1321 A.5 test suite -/
example : Md5.hash (ascii "a") = unhex "0cc175b9c0f1b6a831c399e269772661" := by
  rw [Md5Eval.hash_eq, ascii_ofList, unhex_ofList]
  decide +kernel

/-- RFC 1321 A.5 test suite -/
example : Md5.hash (ascii "abc") = unhex "900150983cd24fb0d6963f7d28e17f72" := by
  rw [Md5Eval.hash_eq, ascii_ofList, unhex_ofList]
  decide +kernel

/-- RFC 1321 A.5 test suite -/
example : Md5.hash (ascii "message digest") = unhex "f96b697d7cb7938d525a2f31aaf161d0" := by
  rw [Md5Eval.hash_eq, ascii_ofList, unhex_ofList]
  decide +kernel

/-- RFC 1321 A.5 test suite -/
example : Md5.hash (ascii "abcdefghijklmnopqrstuvwxyz") = unhex "c3fcd3d76192e4007dfb496cca67e13b" := by
  rw [Md5Eval.hash_eq, ascii_ofList, unhex_ofList]
  decide +kernel

/-- RFC 1321 A.5 test suite -/
example : Md5.hash (ascii "ABCDEFGHIJKLMNOPQRSTUVWXYZabcdefghijklmnopqrstuvwxyz0123456789") = unhex "d174ab98d277d9f5a5611c2c9f419d9f" := by
  rw [Md5Eval.hash_eq, ascii_ofList, unhex_ofList]
  decide +kernel

/-- RFC 1321 A.5 test suite -/
example : Md5.hash (ascii "12345678901234567890123456789012345678901234567890123456789012345678901234567890") = unhex "57edf4a22be3c955ac49da2e2107b67a" := by
  rw [Md5Eval.hash_eq, ascii_ofList, unhex_ofList]
  decide +kernel

end Percival.KAT.Md5
