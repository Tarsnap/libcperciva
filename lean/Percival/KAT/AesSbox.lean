import Percival.Spec.Aes
import Percival.Proofs.AesEval
/-!
# The S-box literal of `Spec.Aes` equals its definition in FIPS-197 §5.1.1 — kernel-evaluated, labelled test

Bytes are handled as `Nat < 256` here (independent re-statement of §4.2 arithmetic; Nat arithmetic is what
the kernel evaluates fastest).  `xtime_agrees` ties this file's `xtime` to the Spec's.  The two sweeps that multiply
(`ginv_is_inverse`, `sbox_eq_definition`) are carried over to `AesEval.gmulN`, the same shift-and-add product without
branches (`AesEval.ShiftAdd`), before they are evaluated.
-/
namespace Percival.KAT.AesSbox
open Percival.Spec
open Percival.Proofs.AesEval (gmulN ginvN)

/-- §4.2.1 multiplication by x modulo x⁸+x⁴+x³+x+1 -/
def xtime (a : Nat) : Nat := if a < 128 then 2 * a else (2 * a - 256) ^^^ 0x1b

/-- GF(2⁸) product (§4.2), shift-and-add: `acc + a·b` over `n` remaining bits of `b` -/
def gmulAux : Nat → Nat → Nat → Nat → Nat
  | 0, _, _, acc => acc
  | n+1, a, b, acc => gmulAux n (xtime a) (b / 2) (if b % 2 = 1 then acc ^^^ a else acc)

def gmul (a b : Nat) : Nat := gmulAux 8 a b 0

/-- multiplicative inverse for `b ≠ 0` (and `0 ↦ 0`): `b²⁵⁴ = b²·b⁴·b⁸·b¹⁶·b³²·b⁶⁴·b¹²⁸` -/
def ginv (b : Nat) : Nat :=
  let b2 := gmul b b; let b4 := gmul b2 b2; let b8 := gmul b4 b4; let b16 := gmul b8 b8
  let b32 := gmul b16 b16; let b64 := gmul b32 b32; let b128 := gmul b64 b64
  gmul b2 (gmul b4 (gmul b8 (gmul b16 (gmul b32 (gmul b64 b128)))))

/-- rotate an 8-bit value left -/
def rotl8 (b n : Nat) : Nat := (b * 2^n) % 256 + b / 2^(8 - n)

/-- §5.1.1: inverse, then the affine transformation (5.1) with constant {63} -/
def sboxDef (b : Nat) : Nat :=
  let i := ginv b
  i ^^^ rotl8 i 1 ^^^ rotl8 i 2 ^^^ rotl8 i 3 ^^^ rotl8 i 4 ^^^ 0x63

theorem xtime_agrees : (List.range 256).all (fun n => (Aes.xtime n.toUInt8).toNat == xtime n) = true := by
  decide +kernel

/-- FIPS-197 §4.2 example: {57}·{83} = {c1} -/
theorem gmul_example : gmul 0x57 0x83 = 0xc1 := by decide +kernel

/-- `ginv` really is the inverse: `b · ginv b = 1` for every `b ≠ 0` -/
theorem ginv_is_inverse : (List.range 255).all (fun n => gmul (n + 1) (ginv (n + 1)) == 1) = true := by
  have hg : Proofs.AesEval.ShiftAdd xtime gmulAux := ⟨by decide +kernel, fun _ _ _ => rfl, fun _ _ _ _ => rfl⟩
  refine Proofs.AesEval.all_range_of 255 _ (fun n => gmulN (n + 1) (ginvN (n + 1)) == 1) (by decide +kernel) fun n hn => ?_
  rw [show ginv (n + 1) = ginvN (n + 1) from hg.ginv _ (by omega),
    show gmul (n + 1) (ginvN (n + 1)) = gmulN (n + 1) (ginvN (n + 1)) from (hg.gmul _ _ (by omega)).1]

theorem sbox_eq_definition : (List.range 256).all (fun n => (Aes.sbox n.toUInt8).toNat == sboxDef n) = true := by
  have hg : Proofs.AesEval.ShiftAdd xtime gmulAux := ⟨by decide +kernel, fun _ _ _ => rfl, fun _ _ _ _ => rfl⟩
  refine Proofs.AesEval.all_range_of 256 _
    (fun n => (Proofs.AesEval.sb n.toUInt8).toNat ==
      (fun i => i ^^^ rotl8 i 1 ^^^ rotl8 i 2 ^^^ rotl8 i 3 ^^^ rotl8 i 4 ^^^ 0x63) (ginvN n)) (by decide +kernel) fun n hn => ?_
  rw [Proofs.AesEval.sbox_eq, sboxDef, show ginv n = ginvN n from hg.ginv n hn]

end Percival.KAT.AesSbox
