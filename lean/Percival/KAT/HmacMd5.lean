import Percival.Proofs.KatLiterals
import Percival.Proofs.Md5Eval
/-! LABELLED TESTS on the published vectors named below, not part of any property theorem: each
`example` is evaluated by the kernel (`decide +kernel`) and guards against a tidy-but-wrong `Spec`.
tools/kat/gen_c01_kat.py prints the `example` statements; the proofs under them are written by hand
(running the script again replaces them). -/
namespace Percival.KAT.HmacMd5
open Percival.Spec Percival.KAT Percival.Proofs

/-- RFC 2202 HMAC-MD5 test case 1 -/
example : Hmac.hmacMd5 (List.replicate 16 0x0b) (ascii "Hi There") = unhex "9294727a3638bb1c13f48ef8158bfc9d" := by
  rw [Md5Eval.hmacMd5_eq, ascii_ofList, unhex_ofList]
  decide +kernel

/-- RFC 2202 HMAC-MD5 test case 2 -/
example : Hmac.hmacMd5 (ascii "Jefe") (ascii "what do ya want for nothing?") = unhex "750c783e6ab0b503eaa86e310a5db738" := by
  rw [Md5Eval.hmacMd5_eq, ascii_ofList, ascii_ofList, unhex_ofList]
  decide +kernel

/-- RFC 2202 HMAC-MD5 test case 3 -/
example : Hmac.hmacMd5 (List.replicate 16 0xaa) (List.replicate 50 0xdd) = unhex "56be34521d144c88dbb8c733f0e8b3f6" := by
  rw [Md5Eval.hmacMd5_eq, unhex_ofList]
  decide +kernel

/-- RFC 2202 HMAC-MD5 test case 4 -/
example : Hmac.hmacMd5 (unhex "0102030405060708090a0b0c0d0e0f10111213141516171819") (List.replicate 50 0xcd) = unhex "697eaf0aca3a3aea3a75164746ffaa79" := by
  rw [Md5Eval.hmacMd5_eq, unhex_ofList, unhex_ofList]
  decide +kernel

/-- RFC 2202 HMAC-MD5 test case 5 -/
example : Hmac.hmacMd5 (List.replicate 16 0x0c) (ascii "Test With Truncation") = unhex "56461ef2342edc00f9bab995690efd4c" := by
  rw [Md5Eval.hmacMd5_eq, ascii_ofList, unhex_ofList]
  decide +kernel

/-- RFC 2202 HMAC-MD5 test case 6 -/
example : Hmac.hmacMd5 (List.replicate 80 0xaa) (ascii "Test Using Larger Than Block-Size Key - Hash Key First") = unhex "6b1ab7fe4bd7bf8f0b62e6ce61b9d0cd" := by
  rw [Md5Eval.hmacMd5_eq, ascii_ofList, unhex_ofList]
  decide +kernel

/-- RFC 2202 HMAC-MD5 test case 7 -/
example : Hmac.hmacMd5 (List.replicate 80 0xaa) (ascii "Test Using Larger Than Block-Size Key and Larger Than One Block-Size Data") = unhex "6f630fad67cda0ee1fb1f562db3aa53e" := by
  rw [Md5Eval.hmacMd5_eq, ascii_ofList, unhex_ofList]
  decide +kernel

end Percival.KAT.HmacMd5
