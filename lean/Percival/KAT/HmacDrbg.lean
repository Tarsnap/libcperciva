import Percival.Proofs.Sha256Eval
import Percival.Proofs.Entropy
/-!
# Known-answer test for `Spec.HmacDrbg` (labelled test, not part of the C11 verdict)

NIST CAVP DRBG test vectors (drbgtestvectors, `no_reseed/HMAC_DRBG.rsp`), section
`[SHA-256] PredictionResistance = False, EntropyInputLen = 256, NonceLen = 128,
PersonalizationStringLen = 0, AdditionalInputLen = 0, ReturnedBitsLen = 1024`, `COUNT = 0`.
The CAVP procedure is Instantiate, Generate (output discarded), Generate (output = `ReturnedBits`).
Proved by kernel evaluation in two steps (the intermediate working state `(Key, V)` is not part of
the published vector; it only splits the evaluation).
-/
namespace Percival.KAT.HmacDrbg
open Percival.Spec Percival.Spec.HmacDrbg Percival.Proofs

def hexNib (c : Char) : Nat := if c.toNat ≥ 97 then c.toNat - 87 else c.toNat - 48
def unhex : List Char → Bytes
  | a :: b :: r => UInt8.ofNat (hexNib a * 16 + hexNib b) :: unhex r
  | _ => []

def entropyInput : Bytes := unhex "ca851911349384bffe89de1cbdc46e6831e44d34a4fb935ee285dd14b71a7488".toList
def nonce : Bytes := unhex "659ba96c601dc69fc902940805ec0ca8".toList
def returnedBits : Bytes := unhex ("e528e9abf2dece54d47c7e75e5fe302149f817ea9fb4bee6f4199697d04d5b89" ++
  "d54fbb978a15b5c443c9ec21036d2460b6f73ebad0dc2aba6e624abf07745bc1" ++
  "07694bb7547bb0995f70de25d6b29e2d3011bb19d27676c07162c8b5ccde0668" ++
  "961df86803482cb37ed6d5c0bb8d50cf1f50d476aa0458bdaba806f48be9dcb8").toList

/-- working state after Instantiate and the first Generate of 1024 bits -/
def mid : State :=
  { K := unhex "911bf7cbda4387a172a1a3daf6c9fa8e17c4bfef69cc7eff1341e7eef88d2811".toList,
    V := unhex "bfbdcf455d5c82acafc59f339ce57126ff70b67aef910fa25db7617818faeafe".toList,
    reseedCounter := 2 }

theorem cavp_step1 : (generateBits (instantiate entropyInput nonce) 128).2 = mid := by
  rw [entropyInput, nonce, mid]
  repeat rw [String.toList_ofList]
  simp only [generateBits, instantiate, blocks, update, outlen, Sha256Eval.drbg_hmac_eq]
  decide +kernel

theorem cavp_step2 : (generateBits mid 128).1 = returnedBits := by
  rw [mid, returnedBits]
  simp only [String.toList_append]
  repeat rw [String.toList_ofList]
  simp only [generateBits, blocks, update, outlen, Sha256Eval.drbg_hmac_eq]
  decide +kernel

/-- the published vector -/
theorem cavp_sha256_no_reseed_count0 :
    (generateBits (generateBits (instantiate entropyInput nonce) 128).2 128).1 = returnedBits := by
  rw [cavp_step1]; exact cavp_step2

/-- the same through the checked interface: both Generate calls succeed for any interval ≥ 2 -/
theorem cavp_via_generate :
    generate 256 (instantiate entropyInput nonce) 128 =
      .success (generateBits (instantiate entropyInput nonce) 128).1 mid ∧
    generate 256 mid 128 = .success returnedBits (generateBits mid 128).2 := by
  constructor
  · rw [← cavp_step1]
    exact Entropy.spec_generate_ok (by decide) (by rw [(Entropy.instantiate_inv 256 _ _).2]; decide)
  · rw [← cavp_step2]
    exact Entropy.spec_generate_ok (by decide) (by decide)

end Percival.KAT.HmacDrbg
