import Percival.Proofs.KatLiterals
import Percival.Proofs.Sha1Eval
/-! LABELLED TESTS on the published vectors named below, not part of any property theorem: each
`example` is evaluated by the kernel (`decide +kernel`) and guards against a tidy-but-wrong `Spec`.
tools/kat/gen_c01_kat.py prints the `example` statements; the proofs under them are written by hand
(running the script again replaces them). -/
namespace Percival.KAT.HmacSha1
open Percival.Spec Percival.KAT Percival.Proofs

/-- RFC 2202 HMAC-SHA-1 test case 1 -/
example : Hmac.hmacSha1 (List.replicate 20 0x0b) (ascii "Hi There") = unhex "b617318655057264e28bc0b6fb378c8ef146be00" := by
  rw [Sha1Eval.hmacSha1_eq, ascii_ofList, unhex_ofList]
  decide +kernel

/-- RFC 2202 HMAC-SHA-1 test case 2 -/
example : Hmac.hmacSha1 (ascii "Jefe") (ascii "what do ya want for nothing?") = unhex "effcdf6ae5eb2fa2d27416d5f184df9c259a7c79" := by
  rw [Sha1Eval.hmacSha1_eq, ascii_ofList, ascii_ofList, unhex_ofList]
  decide +kernel

/-- RFC 2202 HMAC-SHA-1 test case 3 -/
example : Hmac.hmacSha1 (List.replicate 20 0xaa) (List.replicate 50 0xdd) = unhex "125d7342b9ac11cd91a39af48aa17b4f63f175d3" := by
  rw [Sha1Eval.hmacSha1_eq, unhex_ofList]
  decide +kernel

/-- RFC 2202 HMAC-SHA-1 test case 4 -/
example : Hmac.hmacSha1 (unhex "0102030405060708090a0b0c0d0e0f10111213141516171819") (List.replicate 50 0xcd) = unhex "4c9007f4026250c6bc8414f9bf50c86c2d7235da" := by
  rw [Sha1Eval.hmacSha1_eq, unhex_ofList, unhex_ofList]
  decide +kernel

/-- RFC 2202 HMAC-SHA-1 test case 5 -/
example : Hmac.hmacSha1 (List.replicate 20 0x0c) (ascii "Test With Truncation") = unhex "4c1a03424b55e07fe7f27be1d58bb9324a9a5a04" := by
  rw [Sha1Eval.hmacSha1_eq, ascii_ofList, unhex_ofList]
  decide +kernel

/-- RFC 2202 HMAC-SHA-1 test case 6 -/
example : Hmac.hmacSha1 (List.replicate 80 0xaa) (ascii "Test Using Larger Than Block-Size Key - Hash Key First") = unhex "aa4ae5e15272d00e95705637ce8a3b55ed402112" := by
  rw [Sha1Eval.hmacSha1_eq, ascii_ofList, unhex_ofList]
  decide +kernel

/-- RFC 2202 HMAC-SHA-1 test case 7 -/
example : Hmac.hmacSha1 (List.replicate 80 0xaa) (ascii "Test Using Larger Than Block-Size Key and Larger Than One Block-Size Data") = unhex "e8e99d0f45237d786d6bbaa7965c7808bbff1a91" := by
  rw [Sha1Eval.hmacSha1_eq, ascii_ofList, unhex_ofList]
  decide +kernel

end Percival.KAT.HmacSha1
