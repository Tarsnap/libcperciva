import Percival.Proofs.Sha256Eval
import Percival.Proofs.KatLiterals
/-! LABELLED TESTS on the published vectors named below, not part of any property theorem: each
`example` is evaluated by the kernel (`decide +kernel`) and guards against a tidy-but-wrong `Spec`.
tools/kat/gen_c01_kat.py prints the `example` statements; the proofs under them are written by hand
(running the script again replaces them). -/
namespace Percival.KAT.HmacSha256
open Percival.Spec Percival.KAT Percival.Proofs

/-- RFC 4231 test case 1 (key 20 bytes) -/
example : Hmac.hmacSha256 (List.replicate 20 0x0b) (ascii "Hi There") = unhex "b0344c61d8db38535ca8afceaf0bf12b881dc200c9833da726e9376c2e32cff7" := by
  rw [Sha256Eval.hmacSha256_eq, ascii_ofList, unhex_ofList]
  decide +kernel

/-- RFC 4231 test case 2 (key 4 bytes) -/
example : Hmac.hmacSha256 (ascii "Jefe") (ascii "what do ya want for nothing?") = unhex "5bdcc146bf60754e6a042426089575c75a003f089d2739839dec58b964ec3843" := by
  rw [Sha256Eval.hmacSha256_eq, ascii_ofList, ascii_ofList, unhex_ofList]
  decide +kernel

/-- RFC 4231 test case 3 (key 20 bytes) -/
example : Hmac.hmacSha256 (List.replicate 20 0xaa) (List.replicate 50 0xdd) = unhex "773ea91e36800e46854db8ebd09181a72959098b3ef8c122d9635514ced565fe" := by
  rw [Sha256Eval.hmacSha256_eq, unhex_ofList]
  decide +kernel

/-- RFC 4231 test case 4 (key 25 bytes) -/
example : Hmac.hmacSha256 (unhex "0102030405060708090a0b0c0d0e0f10111213141516171819") (List.replicate 50 0xcd) = unhex "82558a389a443c0ea4cc819899f2083a85f0faa3e578f8077a2e3ff46729665b" := by
  rw [Sha256Eval.hmacSha256_eq, unhex_ofList, unhex_ofList]
  decide +kernel

/-- RFC 4231 test case 6 (key 131 bytes) -/
example : Hmac.hmacSha256 (List.replicate 131 0xaa) (ascii "Test Using Larger Than Block-Size Key - Hash Key First") = unhex "60e431591ee0b67f0d8a26aacbf5b77f8e0bc6213728c5140546040f0ee37f54" := by
  rw [Sha256Eval.hmacSha256_eq, ascii_ofList, unhex_ofList]
  decide +kernel

/-- RFC 4231 test case 7 (key 131 bytes) -/
example : Hmac.hmacSha256 (List.replicate 131 0xaa) (ascii "This is a test using a larger than block-size key and a larger than block-size data. The key needs to be hashed before being used by the HMAC algorithm.") = unhex "9b09ffa71b942fcb27635fbcd5b0e944bfdc63644f0713938a7f51535c3a35e2" := by
  rw [Sha256Eval.hmacSha256_eq, ascii_ofList, unhex_ofList]
  decide +kernel

/-- RFC 4231 test case 5 (truncated to 128 bits) -/
example : (Hmac.hmacSha256 (List.replicate 20 0x0c) (ascii "Test With Truncation")).take 16 = unhex "a3b6167473100ee06e0c796c2955552b" := by
  rw [Sha256Eval.hmacSha256_eq, ascii_ofList, unhex_ofList]
  decide +kernel

end Percival.KAT.HmacSha256
