-- GENERATED by tools/gen_main.py
import Percival.Spec.Aes
import Percival.Spec.AesFailMon
import Percival.Spec.AfMon
import Percival.Spec.AwsRequests
import Percival.Spec.ByteStream
import Percival.Spec.Crc32c
import Percival.Spec.Ctr
import Percival.Spec.DH
import Percival.Spec.DS
import Percival.Spec.DSMon
import Percival.Spec.Endian
import Percival.Spec.EventsMonitor
import Percival.Spec.FloatNumeral
import Percival.Spec.Getopt
import Percival.Spec.Hex
import Percival.Spec.Hmac
import Percival.Spec.HmacDrbg
import Percival.Spec.HttpResp
import Percival.Spec.Humansize
import Percival.Spec.HumansizeExec
import Percival.Spec.Ieee
import Percival.Spec.Inet
import Percival.Spec.JVal
import Percival.Spec.MD
import Percival.Spec.Md5
import Percival.Spec.NetbufMon
import Percival.Spec.Numeral
import Percival.Spec.PQ
import Percival.Spec.PQMon
import Percival.Spec.PQMonStep
import Percival.Spec.Parsenum
import Percival.Spec.Pbkdf2
import Percival.Spec.Reg
import Percival.Spec.Rfc4648
import Percival.Spec.Sha1
import Percival.Spec.Sha256
import Percival.Spec.SigV4
import Percival.Spec.UpMon
import Percival.Gen.AesConst
import Percival.Gen.CodecTables
import Percival.Gen.CpuPaths
import Percival.Gen.Crc32cConsts
import Percival.Gen.DH
import Percival.Gen.Entropy
import Percival.Gen.Http
import Percival.Gen.HumansizeC
import Percival.Gen.Md5Consts
import Percival.Gen.Netbuf
import Percival.Gen.Sha1Consts
import Percival.Gen.Sha256Consts
import Percival.Gen.Wipe
import Percival.Model.AesCtr
import Percival.Model.AesNi
import Percival.Model.AesStep
import Percival.Model.AfStep
import Percival.Model.AllocFail
import Percival.Model.AwsSign
import Percival.Model.AwsStep
import Percival.Model.B64
import Percival.Model.Bounded
import Percival.Model.CStr
import Percival.Model.Connect
import Percival.Model.CpuAesni
import Percival.Model.CpuPaths
import Percival.Model.CpuStep
import Percival.Model.Crc32c
import Percival.Model.DH
import Percival.Model.DHStep
import Percival.Model.DsStep
import Percival.Model.EArray
import Percival.Model.EQueue
import Percival.Model.Endian
import Percival.Model.Entropy
import Percival.Model.EntropyStep
import Percival.Model.EvReg
import Percival.Model.Events
import Percival.Model.Getopt
import Percival.Model.GetoptStep
import Percival.Model.Hash
import Percival.Model.HashStep
import Percival.Model.Heap
import Percival.Model.HeapAlloc
import Percival.Model.HeapRun
import Percival.Model.HeapStep
import Percival.Model.Hex
import Percival.Model.Hmac
import Percival.Model.Http
import Percival.Model.HttpRequest
import Percival.Model.HttpRes
import Percival.Model.HttpStep
import Percival.Model.Humansize
import Percival.Model.Json
import Percival.Model.Lines
import Percival.Model.MPool
import Percival.Model.Md5
import Percival.Model.Mem
import Percival.Model.NetIO
import Percival.Model.NetIOStep
import Percival.Model.NetbufBase
import Percival.Model.NetbufRead
import Percival.Model.NetbufStep
import Percival.Model.NetbufWrite
import Percival.Model.OsEntropy
import Percival.Model.Parsenum
import Percival.Model.ParsenumFloat
import Percival.Model.ParsenumStep
import Percival.Model.ParsersStep
import Percival.Model.Pbkdf2
import Percival.Model.SeqMap
import Percival.Model.Sha1
import Percival.Model.Sha256
import Percival.Model.SockAddr
import Percival.Model.Strto
import Percival.Model.Strtod
import Percival.Model.TimerQueue
import Percival.Model.UpStep
import Percival.Model.Wipe
import Percival.Model.WipeLang
import Percival.Proofs.AFUAcct
import Percival.Proofs.AFUCache
import Percival.Proofs.AFUCalc
import Percival.Proofs.AFUConn
import Percival.Proofs.AFUDefs
import Percival.Proofs.AFUFoot
import Percival.Proofs.AFUFrames
import Percival.Proofs.AFUHtp
import Percival.Proofs.AFUNbr
import Percival.Proofs.AFUNbw
import Percival.Proofs.AFUNet
import Percival.Proofs.AFUOp
import Percival.Proofs.AFUOps
import Percival.Proofs.AFURefs
import Percival.Proofs.AFURun
import Percival.Proofs.AFUTop
import Percival.Proofs.Aes
import Percival.Proofs.AesCtr
import Percival.Proofs.AesEval
import Percival.Proofs.AesNi
import Percival.Proofs.AesStep
import Percival.Proofs.AfAns
import Percival.Proofs.AfMonAbs
import Percival.Proofs.AfMonEnd
import Percival.Proofs.AfMonHeap
import Percival.Proofs.AfMonReg
import Percival.Proofs.AfMonRel
import Percival.Proofs.AfMonRun
import Percival.Proofs.AfMonSound
import Percival.Proofs.AfStep
import Percival.Proofs.AllocCalls
import Percival.Proofs.AllocFail
import Percival.Proofs.AllocFailUpper
import Percival.Proofs.Ascii
import Percival.Proofs.AwsSign
import Percival.Proofs.AwsStep
import Percival.Proofs.B64
import Percival.Proofs.Bits
import Percival.Proofs.ByteDecide
import Percival.Proofs.CStr
import Percival.Proofs.Connect
import Percival.Proofs.Counters
import Percival.Proofs.CpuAesSpec
import Percival.Proofs.CpuAesni
import Percival.Proofs.CpuPaths
import Percival.Proofs.CpuStep
import Percival.Proofs.CrcMain
import Percival.Proofs.CrcPoly
import Percival.Proofs.CrcWord
import Percival.Proofs.DH
import Percival.Proofs.DhAns
import Percival.Proofs.Digits
import Percival.Proofs.DrbgService
import Percival.Proofs.DsAns
import Percival.Proofs.DsFrame
import Percival.Proofs.DsLines
import Percival.Proofs.DsOut
import Percival.Proofs.DsRun
import Percival.Proofs.DsStep
import Percival.Proofs.EArray
import Percival.Proofs.EArrayStep
import Percival.Proofs.EQueue
import Percival.Proofs.Endian
import Percival.Proofs.EndianRT
import Percival.Proofs.Entropy
import Percival.Proofs.EntropyStep
import Percival.Proofs.EvRegAcct
import Percival.Proofs.EvRegNet
import Percival.Proofs.EvRegQuiet
import Percival.Proofs.EvRegSocks
import Percival.Proofs.EvRegTimer
import Percival.Proofs.EventsAns
import Percival.Proofs.EventsC04Rel
import Percival.Proofs.EventsC04Run
import Percival.Proofs.EventsC05Loop
import Percival.Proofs.EventsC05Ops
import Percival.Proofs.EventsC05Rel
import Percival.Proofs.EventsC05Run
import Percival.Proofs.EventsC05Wait
import Percival.Proofs.EventsImm
import Percival.Proofs.EventsLines
import Percival.Proofs.EventsLive
import Percival.Proofs.EventsNet
import Percival.Proofs.EventsNetAbs
import Percival.Proofs.EventsNetGet
import Percival.Proofs.EventsNetReg
import Percival.Proofs.EventsStep
import Percival.Proofs.EventsTQ
import Percival.Proofs.EventsTmAbs
import Percival.Proofs.FloatNumeral
import Percival.Proofs.FoldFin
import Percival.Proofs.Getopt
import Percival.Proofs.GetoptExamples
import Percival.Proofs.GetoptLoop
import Percival.Proofs.GetoptMain
import Percival.Proofs.GetoptProgress
import Percival.Proofs.GetoptStep
import Percival.Proofs.GetoptTables
import Percival.Proofs.GetoptUnique
import Percival.Proofs.Governed
import Percival.Proofs.HashStep
import Percival.Proofs.Heap
import Percival.Proofs.HeapAns
import Percival.Proofs.HeapCreate
import Percival.Proofs.HeapCreateAlloc
import Percival.Proofs.HeapDelete
import Percival.Proofs.HeapDown
import Percival.Proofs.HeapEx
import Percival.Proofs.HeapOps
import Percival.Proofs.HeapRun
import Percival.Proofs.HeapStep
import Percival.Proofs.HeapStepModel
import Percival.Proofs.HeapUnder
import Percival.Proofs.HexEndian
import Percival.Proofs.HmacStream
import Percival.Proofs.Http
import Percival.Proofs.HttpDecode
import Percival.Proofs.HttpNum
import Percival.Proofs.HttpReader
import Percival.Proofs.HttpReaderRun
import Percival.Proofs.HttpRequest
import Percival.Proofs.HttpRes
import Percival.Proofs.HttpRun
import Percival.Proofs.HttpSamples
import Percival.Proofs.HttpScan
import Percival.Proofs.HttpSeg
import Percival.Proofs.HttpStep
import Percival.Proofs.Humansize
import Percival.Proofs.HumansizeExec
import Percival.Proofs.Ieee
import Percival.Proofs.IeeeArith
import Percival.Proofs.IeeeNearest
import Percival.Proofs.IeeeRound
import Percival.Proofs.IeeeStrtod
import Percival.Proofs.Inet4
import Percival.Proofs.Inet6
import Percival.Proofs.IteInd
import Percival.Proofs.JsonSafe
import Percival.Proofs.JsonSpec
import Percival.Proofs.KatLiterals
import Percival.Proofs.Keys
import Percival.Proofs.ListLen
import Percival.Proofs.Literals
import Percival.Proofs.MDAbsorb
import Percival.Proofs.MDEval
import Percival.Proofs.MDFinal
import Percival.Proofs.MDStream
import Percival.Proofs.MPool
import Percival.Proofs.MPools
import Percival.Proofs.Md5Eval
import Percival.Proofs.Md5Refines
import Percival.Proofs.Md5Transform
import Percival.Proofs.MemCalls
import Percival.Proofs.NetIO
import Percival.Proofs.NetIOStep
import Percival.Proofs.NetbufAns
import Percival.Proofs.NetbufMonReader
import Percival.Proofs.NetbufMonSound
import Percival.Proofs.NetbufMonTok
import Percival.Proofs.NetbufMonWriter
import Percival.Proofs.NetbufRead
import Percival.Proofs.NetbufStep
import Percival.Proofs.NetbufWrite
import Percival.Proofs.Numeral
import Percival.Proofs.OsEntropy
import Percival.Proofs.PairedArrays
import Percival.Proofs.Parsenum
import Percival.Proofs.ParsenumFloat
import Percival.Proofs.ParsenumStep
import Percival.Proofs.ParsersStep
import Percival.Proofs.Pbkdf2Stream
import Percival.Proofs.Schedule
import Percival.Proofs.SeqMap
import Percival.Proofs.Sha1Eval
import Percival.Proofs.Sha1Refines
import Percival.Proofs.Sha1Transform
import Percival.Proofs.Sha256Eval
import Percival.Proofs.Sha256Extend
import Percival.Proofs.Sha256Refines
import Percival.Proofs.Sha256Transform
import Percival.Proofs.SockLines
import Percival.Proofs.TimerQueue
import Percival.Proofs.TimerQueueRun
import Percival.Proofs.TokText
import Percival.Proofs.UpInv
import Percival.Proofs.UpMonSound
import Percival.Proofs.UpRelease
import Percival.Proofs.UpStep
import Percival.Proofs.UpVis
import Percival.Proofs.WipeVerdicts
import Percival.Proofs.Words
import Percival.Properties.C01
import Percival.Properties.C02
import Percival.Properties.C03
import Percival.Properties.C04
import Percival.Properties.C05
import Percival.Properties.C06
import Percival.Properties.C07
import Percival.Properties.C08
import Percival.Properties.C09
import Percival.Properties.C10
import Percival.Properties.C11
import Percival.Properties.C12
import Percival.Properties.C13
import Percival.Properties.C14
import Percival.Properties.C15
import Percival.Properties.C16
import Percival.Properties.C17
import Percival.Properties.C18
import Percival.Properties.C19
import Percival.Properties.C20
import Percival.KAT.Aes
import Percival.KAT.AesCtr
import Percival.KAT.AesSbox
import Percival.KAT.AfAns
import Percival.KAT.AwsSign
import Percival.KAT.Common
import Percival.KAT.CpuAesni
import Percival.KAT.Crc32c
import Percival.KAT.DhAns
import Percival.KAT.DsAns
import Percival.KAT.EventsAns
import Percival.KAT.HeapAns
import Percival.KAT.HmacDrbg
import Percival.KAT.HmacMd5
import Percival.KAT.HmacSha1
import Percival.KAT.HmacSha256
import Percival.KAT.Md5
import Percival.KAT.NetbufAns
import Percival.KAT.Pbkdf2
import Percival.KAT.Sha1
import Percival.KAT.Sha256
import Percival.KAT.SigV4
import Percival.Driver.Aes
import Percival.Driver.Aesfailmon
import Percival.Driver.Af
import Percival.Driver.Afmon
import Percival.Driver.Aws
import Percival.Driver.Cpu
import Percival.Driver.Dh
import Percival.Driver.Dhmon
import Percival.Driver.Drbg
import Percival.Driver.Ds
import Percival.Driver.Dsmon
import Percival.Driver.Events
import Percival.Driver.Eventsmon
import Percival.Driver.Getopt
import Percival.Driver.Hash
import Percival.Driver.Heap
import Percival.Driver.Heapmon
import Percival.Driver.Http
import Percival.Driver.Loop
import Percival.Driver.Netbuf
import Percival.Driver.Netbufmon
import Percival.Driver.Netio
import Percival.Driver.Osent
import Percival.Driver.Parsenum
import Percival.Driver.Parsers
import Percival.Driver.Upecho
import Percival.Driver.Upmodel
import Percival.Driver.Upmon
import Percival.Driver.Wipe
